import OV.Model.C08View
import OV.Model.C08Slice
import OV.Model.C08Repl
import OV.Model.C08Reduce
import OV.Model.C08IntArith
import OV.Model.C08Creation
import OV.Model.C08Attr
import OV.Model.C08Misc
import OV.Model.C08Scalar
import OV.Model.C08Linalg
import OV.Lemmas.C08Rows
/-! GENERATED by harness/extract_torchlib.py from /repo's working tree — do not edit. -/
namespace OV.Gen.C08Trace

/-- (model term, term emitted by the real torch_lib function) — chunk 3. -/
def table3 : List (String × String) := [
  (OV.C08.all_dim.term "ReduceMax" (-1) true,
   "Greater(ReduceMax(Cast(Cast(x0;to=9);to=7),Reshape(-1,[-1];allowzero=0);keepdims=1,noop_with_empty_axes=0),0)"),
  (OV.C08.all_dim.term "ReduceMax" 1 false,
   "Greater(ReduceMax(Cast(Cast(x0;to=9);to=7),Reshape(1,[-1];allowzero=0);keepdims=0,noop_with_empty_axes=0),0)"),
  (OV.C08.all_dim.term "ReduceMax" 5 false,
   "Greater(ReduceMax(Cast(Cast(x0;to=9);to=7),Reshape(5,[-1];allowzero=0);keepdims=0,noop_with_empty_axes=0),0)"),
  (OV.C08.all_dim.term "ReduceMax" 2 false,
   "Greater(ReduceMax(Cast(Cast(x0;to=9);to=7),Reshape(2,[-1];allowzero=0);keepdims=0,noop_with_empty_axes=0),0)"),
  (OV.C08.all_dims.term "ReduceMax" 2 (some ([1] : List Int)) true,
   "Greater(ReduceMax(Cast(Cast(x0;to=9);to=7),Reshape(1,[-1];allowzero=0);keepdims=1,noop_with_empty_axes=0),0)"),
  (OV.C08.all_dims.term "ReduceMax" 2 (some ([(-2)] : List Int)) false,
   "Squeeze(Greater(ReduceMax(Cast(Cast(x0;to=9);to=7),Reshape(-2,[-1];allowzero=0);keepdims=1,noop_with_empty_axes=0),0),[-2])"),
  (OV.C08.all_dims.term "ReduceMax" 2 (some ([] : List Int)) true,
   "Cast(x0;to=9)"),
  (OV.C08.all_dims.term "ReduceMax" 0 (some ([] : List Int)) true,
   "Cast(x0;to=9)"),
  (OV.C08.all_dims.term "ReduceMax" 3 (some ([2, 0] : List Int)) true,
   "Greater(ReduceMax(Cast(Cast(Greater(ReduceMax(Cast(Cast(x0;to=9);to=7),Reshape(2,[-1];allowzero=0);keepdims=1,noop_with_empty_axes=0),0);to=9);to=7),Reshape(0,[-1];allowzero=0);keepdims=1,noop_with_empty_axes=0),0)"),
  (OV.C08.all_dims.term "ReduceMax" 0 (some ([] : List Int)) false,
   "Cast(x0;to=9)"),
  (OV.C08.all_dims.term "ReduceMax" 2 (some ([1, (-2)] : List Int)) true,
   "Greater(ReduceMax(Cast(Cast(Greater(ReduceMax(Cast(Cast(x0;to=9);to=7),Reshape(1,[-1];allowzero=0);keepdims=1,noop_with_empty_axes=0),0);to=9);to=7),Reshape(-2,[-1];allowzero=0);keepdims=1,noop_with_empty_axes=0),0)"),
  (OV.C08.all_dims.term "ReduceMax" 0 none false,
   "Cast(x0;to=9)"),
  (OV.C08.all_dims.term "ReduceMax" 1 none false,
   "Greater(ReduceMax(Cast(Cast(x0;to=9);to=7);keepdims=0,noop_with_empty_axes=0),0)"),
  (OV.C08.all_dims.term "ReduceMax" 4 (some ([1, 2] : List Int)) false,
   "Squeeze(Greater(ReduceMax(Cast(Cast(Greater(ReduceMax(Cast(Cast(x0;to=9);to=7),Reshape(1,[-1];allowzero=0);keepdims=1,noop_with_empty_axes=0),0);to=9);to=7),Reshape(2,[-1];allowzero=0);keepdims=1,noop_with_empty_axes=0),0),[1,2])"),
  (OV.C08.argmax.term "ArgMax" 3 (some (-1)) false,
   "ArgMax(x0;axis=-1,keepdims=0,select_last_index=0)"),
  (OV.C08.argmax.term "ArgMax" 0 none true,
   "Squeeze(ArgMax(Reshape(x0,[-1];allowzero=0);axis=0,keepdims=1,select_last_index=0))"),
  (OV.C08.argmax.term "ArgMax" 1 (some 0) false,
   "ArgMax(x0;axis=0,keepdims=0,select_last_index=0)"),
  (OV.C08.argmax.term "ArgMax" 3 none false,
   "ArgMax(Reshape(x0,[-1];allowzero=0);axis=0,keepdims=0,select_last_index=0)"),
  (OV.C08.argmax.term "ArgMax" 4 (some 0) true,
   "ArgMax(x0;axis=0,keepdims=1,select_last_index=0)"),
  (OV.C08.argmax.term "ArgMax" 3 (some (-1)) true,
   "ArgMax(x0;axis=-1,keepdims=1,select_last_index=0)"),
  (OV.C08.argmax.term "ArgMax" 3 (some (-2)) true,
   "ArgMax(x0;axis=-2,keepdims=1,select_last_index=0)"),
  (OV.C08.argmax.term "ArgMax" 2 (some 0) false,
   "ArgMax(x0;axis=0,keepdims=0,select_last_index=0)"),
  (OV.C08.argmax.term "ArgMax" 0 (some 0) false,
   "Squeeze(ArgMax(Reshape(x0,[-1];allowzero=0);axis=0,keepdims=0,select_last_index=0))"),
  (OV.C08.argmax.term "ArgMax" 4 (some (-2)) false,
   "ArgMax(x0;axis=-2,keepdims=0,select_last_index=0)"),
  (OV.C08.argmax.term "ArgMin" 2 (some (-3)) false,
   "ArgMin(x0;axis=-3,keepdims=0,select_last_index=0)"),
  (OV.C08.argmax.term "ArgMin" 4 (some (-5)) true,
   "ArgMin(x0;axis=-5,keepdims=1,select_last_index=0)"),
  (OV.C08.argmax.term "ArgMin" 2 (some 1) false,
   "ArgMin(x0;axis=1,keepdims=0,select_last_index=0)"),
  (OV.C08.argmax.term "ArgMin" 3 none true,
   "Reshape(ArgMin(Reshape(x0,[-1];allowzero=0);axis=0,keepdims=1,select_last_index=0),[1,1,1];allowzero=0)"),
  (OV.C08.argmax.term "ArgMin" 4 (some (-1)) false,
   "ArgMin(x0;axis=-1,keepdims=0,select_last_index=0)"),
  (OV.C08.argmax.term "ArgMin" 1 (some 0) true,
   "ArgMin(x0;axis=0,keepdims=1,select_last_index=0)"),
  (OV.C08.argmax.term "ArgMin" 1 none true,
   "Reshape(ArgMin(Reshape(x0,[-1];allowzero=0);axis=0,keepdims=1,select_last_index=0),[1];allowzero=0)"),
  (OV.C08.argmax.term "ArgMin" 3 (some (-3)) false,
   "ArgMin(x0;axis=-3,keepdims=0,select_last_index=0)")
]

/-- kernel-checked: every row's model term is the emitted term (chunks build in parallel). -/
theorem ok3 : ∀ e ∈ table3, e.1 = e.2 := by
  unfold table3
  apply OV.C08.rows_of_reads
  · repeat (apply OV.C08.Reads.cons; with_reducible rfl)
    exact .nil
  · decide +kernel

end OV.Gen.C08Trace
