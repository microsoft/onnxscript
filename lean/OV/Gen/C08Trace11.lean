import OV.Model.C08View
import OV.Model.C08Slice
import OV.Model.C08Repl
import OV.Model.C08Reduce
import OV.Model.C08IntArith
import OV.Model.C08Creation
import OV.Model.C08Attr
import OV.Model.C08Misc
import OV.Model.C08Scalar
import OV.Model.C08Linalg
import OV.Lemmas.C08Rows
/-! GENERATED by harness/extract_torchlib.py from /repo's working tree — do not edit. -/
namespace OV.Gen.C08Trace

/-- (model term, term emitted by the real torch_lib function) — chunk 11. -/
def table11 : List (String × String) := [
  (OV.C08.flatten.term ([1, 1, 3, 3] : List Nat) 0 (-2),
   "Flatten(x0;axis=-1)"),
  (OV.C08.flatten.term ([2, 5, 5, 5] : List Nat) 1 3,
   "Flatten(x0;axis=1)"),
  (OV.C08.flatten.term ([3, 0] : List Nat) (-1) 0,
   "Reshape(x0,[3,1,0];allowzero=1)"),
  (OV.C08.flatten.term ([2] : List Nat) (-1) (-1),
   "Identity(x0)"),
  (OV.C08.flatten.term ([3] : List Nat) (-1) 0,
   "Identity(x0)"),
  (OV.C08.flatten.term ([3, 5, 3] : List Nat) 0 1,
   "Flatten(x0;axis=2)"),
  (OV.C08.flatten.term ([2, 2] : List Nat) (-2) 0,
   "Reshape(x0,[2,2];allowzero=1)"),
  (OV.C08.flatten.term ([] : List Nat) 0 0,
   "Reshape(x0,[1];allowzero=1)"),
  (OV.C08.flatten.term ([2, 2] : List Nat) 1 (-1),
   "Flatten(x0;axis=1)"),
  (OV.C08.flip.term ([1, 3] : List Int),
   "Slice(x0,[-1,-1],[-9223372036854775808,-9223372036854775808],[1,3],[-1,-1])"),
  (OV.C08.flip.term ([0] : List Int),
   "Slice(x0,[-1],[-9223372036854775808],[0],[-1])"),
  (OV.C08.flip.term ([1, 0] : List Int),
   "Slice(x0,[-1,-1],[-9223372036854775808,-9223372036854775808],[1,0],[-1,-1])"),
  (OV.C08.flip.term ([] : List Int),
   "Identity(x0)"),
  (OV.C08.flip.term ([0, 1] : List Int),
   "Slice(x0,[-1,-1],[-9223372036854775808,-9223372036854775808],[0,1],[-1,-1])"),
  (OV.C08.flip.term ([(-4), (-3)] : List Int),
   "Slice(x0,[-1,-1],[-9223372036854775808,-9223372036854775808],[-4,-3],[-1,-1])"),
  (OV.C08.flip.term ([3, (-3), 2, 0] : List Int),
   "Slice(x0,[-1,-1,-1,-1],[-9223372036854775808,-9223372036854775808,-9223372036854775808,-9223372036854775808],[3,-3,2,0],[-1,-1,-1,-1])"),
  (OV.C08.flip.term ([(-2), 0, 1] : List Int),
   "Slice(x0,[-1,-1,-1],[-9223372036854775808,-9223372036854775808,-9223372036854775808],[-2,0,1],[-1,-1,-1])"),
  (OV.C08.flip.term ([2] : List Int),
   "Slice(x0,[-1],[-9223372036854775808],[2],[-1])"),
  (OV.C08.flip.term ([(-2)] : List Int),
   "Slice(x0,[-1],[-9223372036854775808],[-2],[-1])"),
  (OV.C08.gather.term 2 2 0,
   "GatherElements(x0,Cast(x1;to=7);axis=0)"),
  (OV.C08.gather.term 3 3 2,
   "GatherElements(x0,Cast(x1;to=7);axis=2)"),
  (OV.C08.gather.term 2 2 (-1),
   "GatherElements(x0,Cast(x1;to=7);axis=-1)"),
  (OV.C08.gather.term 2 2 (-2),
   "GatherElements(x0,Cast(x1;to=7);axis=-2)"),
  (OV.C08.gather.term 0 0 0,
   "Identity(x0)"),
  (OV.C08.gather.term 1 0 (-1),
   "Squeeze(GatherElements(x0,Cast(Unsqueeze(x1,[0]);to=7);axis=-1),[0])"),
  (OV.C08.gather.term 2 2 1,
   "GatherElements(x0,Cast(x1;to=7);axis=1)"),
  (OV.C08.gather.term 3 3 (-2),
   "GatherElements(x0,Cast(x1;to=7);axis=-2)"),
  (OV.C08.gather.term 0 0 (-1),
   "Identity(x0)"),
  (OV.C08.gather.term 1 1 (-1),
   "GatherElements(x0,Cast(x1;to=7);axis=-1)"),
  (OV.C08.im2col.term ([1, 2] : List Int) ([2, 2] : List Int) ([1, 1] : List Int) ([2, 1] : List Int),
   "Reshape(Transpose(Gather(Gather(Pad(x0,Concat([0,0],Unsqueeze(1,[0]),Unsqueeze(1,[0]),[0,0],Unsqueeze(1,[0]),Unsqueeze(1,[0]);axis=0);mode=constant),Add(Unsqueeze(Range(0,Add(Gather(Shape(x0;start=0),2;axis=0),2),2),[0]),Unsqueeze(Range(0,2,2),[1]));axis=2),Add(Unsqueeze(Range(0,Add(Gather(Shape(x0;start=0),3;axis=0),0),1),[0]),Unsqueeze(Range(0,4,2),[1]));axis=4);perm=[0,1,2,4,3,5]),Concat(Unsqueeze(Gather(Shape(x0;start=0),0;axis=0),[0]),Unsqueeze(Mul(Gather(Shape(x0;start=0),1;axis=0),2),[0]),[-1];axis=0);allowzero=0)"),
  (OV.C08.im2col.term ([3, 3] : List Int) ([2, 1] : List Int) ([2, 1] : List Int) ([2, 2] : List Int),
   "Reshape(Transpose(Gather(Gather(Pad(x0,Concat([0,0],Unsqueeze(2,[0]),Unsqueeze(1,[0]),[0,0],Unsqueeze(2,[0]),Unsqueeze(1,[0]);axis=0);mode=constant),Add(Unsqueeze(Range(0,Add(Gather(Shape(x0;start=0),2;axis=0),0),2),[0]),Unsqueeze(Range(0,6,2),[1]));axis=2),Add(Unsqueeze(Range(0,Add(Gather(Shape(x0;start=0),3;axis=0),0),2),[0]),Unsqueeze(Range(0,3,1),[1]));axis=4);perm=[0,1,2,4,3,5]),Concat(Unsqueeze(Gather(Shape(x0;start=0),0;axis=0),[0]),Unsqueeze(Mul(Gather(Shape(x0;start=0),1;axis=0),9),[0]),[-1];axis=0);allowzero=0)"),
  (OV.C08.im2col.term ([1, 1] : List Int) ([1, 1] : List Int) ([2, 0] : List Int) ([3, 3] : List Int),
   "Reshape(Transpose(Gather(Gather(Pad(x0,Concat([0,0],Unsqueeze(2,[0]),Unsqueeze(0,[0]),[0,0],Unsqueeze(2,[0]),Unsqueeze(0,[0]);axis=0);mode=constant),Add(Unsqueeze(Range(0,Add(Gather(Shape(x0;start=0),2;axis=0),4),3),[0]),Unsqueeze(Range(0,1,1),[1]));axis=2),Add(Unsqueeze(Range(0,Add(Gather(Shape(x0;start=0),3;axis=0),0),3),[0]),Unsqueeze(Range(0,1,1),[1]));axis=4);perm=[0,1,2,4,3,5]),Concat(Unsqueeze(Gather(Shape(x0;start=0),0;axis=0),[0]),Unsqueeze(Mul(Gather(Shape(x0;start=0),1;axis=0),1),[0]),[-1];axis=0);allowzero=0)")
]

/-- kernel-checked: every row's model term is the emitted term (chunks build in parallel). -/
theorem ok11 : ∀ e ∈ table11, e.1 = e.2 := by
  unfold table11
  apply OV.C08.rows_of_reads
  · repeat (apply OV.C08.Reads.cons; with_reducible rfl)
    exact .nil
  · decide +kernel

end OV.Gen.C08Trace
