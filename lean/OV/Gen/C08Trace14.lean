import OV.Model.C08View
import OV.Model.C08Slice
import OV.Model.C08Repl
import OV.Model.C08Reduce
import OV.Model.C08IntArith
import OV.Model.C08Creation
import OV.Model.C08Attr
import OV.Model.C08Misc
import OV.Model.C08Scalar
import OV.Model.C08Linalg
import OV.Lemmas.C08Rows
/-! GENERATED by harness/extract_torchlib.py from /repo's working tree — do not edit. -/
namespace OV.Gen.C08Trace

/-- (model term, term emitted by the real torch_lib function) — chunk 14. -/
def table14 : List (String × String) := [
  (OV.C08.max_pool.term 1 2 (OV.C08.IntOrList.list ([3] : List Int)) (OV.C08.IntOrList.int 3) (OV.C08.IntOrList.list ([1] : List Int)) (OV.C08.IntOrList.list ([2] : List Int)) true,
   "Squeeze(MaxPool(Unsqueeze(x0,[0]);auto_pad=NOTSET,ceil_mode=1,dilations=[2],kernel_shape=[3],pads=[1,1],storage_order=0,strides=[3])#0,[0])"),
  (OV.C08.max_pool.term 1 3 (OV.C08.IntOrList.list ([2] : List Int)) (OV.C08.IntOrList.list ([2] : List Int)) (OV.C08.IntOrList.list ([0] : List Int)) (OV.C08.IntOrList.list ([2] : List Int)) true,
   "MaxPool(x0;auto_pad=NOTSET,ceil_mode=1,dilations=[2],kernel_shape=[2],pads=[0,0],storage_order=0,strides=[2])#0"),
  (OV.C08.max_pool.term 1 2 (OV.C08.IntOrList.list ([3] : List Int)) (OV.C08.IntOrList.list ([] : List Int)) (OV.C08.IntOrList.int 1) (OV.C08.IntOrList.int 2) false,
   "Squeeze(MaxPool(Unsqueeze(x0,[0]);auto_pad=NOTSET,ceil_mode=0,dilations=[2],kernel_shape=[3],pads=[1,1],storage_order=0,strides=[3])#0,[0])"),
  (OV.C08.max_pool.term 1 3 (OV.C08.IntOrList.list ([3] : List Int)) (OV.C08.IntOrList.list ([] : List Int)) (OV.C08.IntOrList.int 0) (OV.C08.IntOrList.list ([1] : List Int)) false,
   "MaxPool(x0;auto_pad=NOTSET,ceil_mode=0,dilations=[1],kernel_shape=[3],pads=[0,0],storage_order=0,strides=[3])#0"),
  (OV.C08.max_pool.term 2 4 (OV.C08.IntOrList.list ([3, 2] : List Int)) (OV.C08.IntOrList.list ([1, 3] : List Int)) (OV.C08.IntOrList.list ([0, 0] : List Int)) (OV.C08.IntOrList.list ([2, 1] : List Int)) false,
   "MaxPool(x0;auto_pad=NOTSET,ceil_mode=0,dilations=[2,1],kernel_shape=[3,2],pads=[0,0,0,0],storage_order=0,strides=[1,3])#0"),
  (OV.C08.max_pool.term 2 4 (OV.C08.IntOrList.list ([2, 2] : List Int)) (OV.C08.IntOrList.int 1) (OV.C08.IntOrList.list ([0, 1] : List Int)) (OV.C08.IntOrList.list ([1, 2] : List Int)) true,
   "MaxPool(x0;auto_pad=NOTSET,ceil_mode=1,dilations=[1,2],kernel_shape=[2,2],pads=[0,1,0,1],storage_order=0,strides=[1,1])#0"),
  (OV.C08.max_pool.term 2 4 (OV.C08.IntOrList.list ([1, 3] : List Int)) (OV.C08.IntOrList.list ([2, 1] : List Int)) (OV.C08.IntOrList.list ([0, 1] : List Int)) (OV.C08.IntOrList.list ([2, 2] : List Int)) false,
   "MaxPool(x0;auto_pad=NOTSET,ceil_mode=0,dilations=[2,2],kernel_shape=[1,3],pads=[0,1,0,1],storage_order=0,strides=[2,1])#0"),
  (OV.C08.max_pool.term 2 4 (OV.C08.IntOrList.list ([3, 1] : List Int)) (OV.C08.IntOrList.list ([] : List Int)) (OV.C08.IntOrList.int 0) (OV.C08.IntOrList.list ([1, 1] : List Int)) true,
   "MaxPool(x0;auto_pad=NOTSET,ceil_mode=1,dilations=[1,1],kernel_shape=[3,1],pads=[0,0,0,0],storage_order=0,strides=[3,1])#0"),
  (OV.C08.max_pool.term 2 4 (OV.C08.IntOrList.list ([1, 2] : List Int)) (OV.C08.IntOrList.list ([2, 3] : List Int)) (OV.C08.IntOrList.list ([0] : List Int)) (OV.C08.IntOrList.list ([1, 1] : List Int)) true,
   "MaxPool(x0;auto_pad=NOTSET,ceil_mode=1,dilations=[1,1],kernel_shape=[1,2],pads=[0,0,0,0],storage_order=0,strides=[2,3])#0"),
  (OV.C08.max_pool.term 2 4 (OV.C08.IntOrList.list ([4, 2] : List Int)) (OV.C08.IntOrList.list ([1, 1] : List Int)) (OV.C08.IntOrList.list ([0, 1] : List Int)) (OV.C08.IntOrList.list ([2, 1] : List Int)) false,
   "MaxPool(x0;auto_pad=NOTSET,ceil_mode=0,dilations=[2,1],kernel_shape=[4,2],pads=[0,1,0,1],storage_order=0,strides=[1,1])#0"),
  (OV.C08.max_pool.term 2 4 (OV.C08.IntOrList.list ([4, 3] : List Int)) (OV.C08.IntOrList.list ([] : List Int)) (OV.C08.IntOrList.int 2) (OV.C08.IntOrList.list ([1, 2] : List Int)) false,
   "MaxPool(x0;auto_pad=NOTSET,ceil_mode=0,dilations=[1,2],kernel_shape=[4,3],pads=[2,2,2,2],storage_order=0,strides=[4,3])#0"),
  (OV.C08.max_pool.term 2 3 (OV.C08.IntOrList.list ([4, 1] : List Int)) (OV.C08.IntOrList.list ([2, 2] : List Int)) (OV.C08.IntOrList.list ([2, 0] : List Int)) (OV.C08.IntOrList.list ([1, 2] : List Int)) false,
   "Squeeze(MaxPool(Unsqueeze(x0,[0]);auto_pad=NOTSET,ceil_mode=0,dilations=[1,2],kernel_shape=[4,1],pads=[2,0,2,0],storage_order=0,strides=[2,2])#0,[0])"),
  (OV.C08.max_pool.term 2 4 (OV.C08.IntOrList.list ([3, 2] : List Int)) (OV.C08.IntOrList.list ([3, 1] : List Int)) (OV.C08.IntOrList.list ([1, 0] : List Int)) (OV.C08.IntOrList.list ([1] : List Int)) false,
   "MaxPool(x0;auto_pad=NOTSET,ceil_mode=0,dilations=[1,1],kernel_shape=[3,2],pads=[1,0,1,0],storage_order=0,strides=[3,1])#0"),
  (OV.C08.max_pool.term 2 4 (OV.C08.IntOrList.list ([2, 3] : List Int)) (OV.C08.IntOrList.int 2) (OV.C08.IntOrList.int 1) (OV.C08.IntOrList.list ([2, 2] : List Int)) false,
   "MaxPool(x0;auto_pad=NOTSET,ceil_mode=0,dilations=[2,2],kernel_shape=[2,3],pads=[1,1,1,1],storage_order=0,strides=[2,2])#0"),
  (OV.C08.max_pool.termWithIndices 2 (OV.C08.IntOrList.list ([1] : List Int)) (OV.C08.IntOrList.list ([1, 2] : List Int)) (OV.C08.IntOrList.list ([0, 0] : List Int)) (OV.C08.IntOrList.list ([2, 1] : List Int)) true,
   "MaxPool(x0;auto_pad=NOTSET,ceil_mode=1,dilations=[2,1],kernel_shape=[1,1],pads=[0,0,0,0],storage_order=0,strides=[1,2])#0 || Sub(MaxPool(x0;auto_pad=NOTSET,ceil_mode=1,dilations=[2,1],kernel_shape=[1,1],pads=[0,0,0,0],storage_order=0,strides=[1,2])#1,Slice(MaxPool(x0;auto_pad=NOTSET,ceil_mode=0,dilations=[2,1],kernel_shape=[1,1],storage_order=0,strides=[1,1])#1,[0,0],[1,1],[2,3]))"),
  (OV.C08.max_pool.termWithIndices 2 (OV.C08.IntOrList.int 2) (OV.C08.IntOrList.list ([3, 1] : List Int)) (OV.C08.IntOrList.list ([1, 0] : List Int)) (OV.C08.IntOrList.list ([1, 2] : List Int)) false,
   "MaxPool(x0;auto_pad=NOTSET,ceil_mode=0,dilations=[1,2],kernel_shape=[2,2],pads=[1,0,1,0],storage_order=0,strides=[3,1])#0 || Sub(MaxPool(x0;auto_pad=NOTSET,ceil_mode=0,dilations=[1,2],kernel_shape=[2,2],pads=[1,0,1,0],storage_order=0,strides=[3,1])#1,Slice(MaxPool(x0;auto_pad=NOTSET,ceil_mode=0,dilations=[1,2],kernel_shape=[1,1],storage_order=0,strides=[1,1])#1,[0,0],[1,1],[2,3]))"),
  (OV.C08.max_pool.termWithIndices 2 (OV.C08.IntOrList.int 3) (OV.C08.IntOrList.list ([] : List Int)) (OV.C08.IntOrList.list ([1, 0] : List Int)) (OV.C08.IntOrList.int 1) false,
   "MaxPool(x0;auto_pad=NOTSET,ceil_mode=0,dilations=[1,1],kernel_shape=[3,3],pads=[1,0,1,0],storage_order=0,strides=[3,3])#0 || Sub(MaxPool(x0;auto_pad=NOTSET,ceil_mode=0,dilations=[1,1],kernel_shape=[3,3],pads=[1,0,1,0],storage_order=0,strides=[3,3])#1,Slice(MaxPool(x0;auto_pad=NOTSET,ceil_mode=0,dilations=[1,1],kernel_shape=[1,1],storage_order=0,strides=[1,1])#1,[0,0],[1,1],[2,3]))"),
  (OV.C08.max_pool.termWithIndices 2 (OV.C08.IntOrList.int 1) (OV.C08.IntOrList.list ([] : List Int)) (OV.C08.IntOrList.int 0) (OV.C08.IntOrList.list ([2, 2] : List Int)) true,
   "MaxPool(x0;auto_pad=NOTSET,ceil_mode=1,dilations=[2,2],kernel_shape=[1,1],pads=[0,0,0,0],storage_order=0,strides=[1,1])#0 || Sub(MaxPool(x0;auto_pad=NOTSET,ceil_mode=1,dilations=[2,2],kernel_shape=[1,1],pads=[0,0,0,0],storage_order=0,strides=[1,1])#1,Slice(MaxPool(x0;auto_pad=NOTSET,ceil_mode=0,dilations=[2,2],kernel_shape=[1,1],storage_order=0,strides=[1,1])#1,[0,0],[1,1],[2,3]))"),
  (OV.C08.max_pool.termWithIndices 2 (OV.C08.IntOrList.list ([1, 4] : List Int)) (OV.C08.IntOrList.list ([] : List Int)) (OV.C08.IntOrList.list ([0, 1] : List Int)) (OV.C08.IntOrList.list ([2, 1] : List Int)) true,
   "MaxPool(x0;auto_pad=NOTSET,ceil_mode=1,dilations=[2,1],kernel_shape=[1,4],pads=[0,1,0,1],storage_order=0,strides=[1,4])#0 || Sub(MaxPool(x0;auto_pad=NOTSET,ceil_mode=1,dilations=[2,1],kernel_shape=[1,4],pads=[0,1,0,1],storage_order=0,strides=[1,4])#1,Slice(MaxPool(x0;auto_pad=NOTSET,ceil_mode=0,dilations=[2,1],kernel_shape=[1,1],storage_order=0,strides=[1,1])#1,[0,0],[1,1],[2,3]))"),
  (OV.C08.max_pool.termWithIndices 2 (OV.C08.IntOrList.list ([1, 3] : List Int)) (OV.C08.IntOrList.list ([] : List Int)) (OV.C08.IntOrList.list ([0] : List Int)) (OV.C08.IntOrList.list ([1, 2] : List Int)) true,
   "MaxPool(x0;auto_pad=NOTSET,ceil_mode=1,dilations=[1,2],kernel_shape=[1,3],pads=[0,0,0,0],storage_order=0,strides=[1,3])#0 || Sub(MaxPool(x0;auto_pad=NOTSET,ceil_mode=1,dilations=[1,2],kernel_shape=[1,3],pads=[0,0,0,0],storage_order=0,strides=[1,3])#1,Slice(MaxPool(x0;auto_pad=NOTSET,ceil_mode=0,dilations=[1,2],kernel_shape=[1,1],storage_order=0,strides=[1,1])#1,[0,0],[1,1],[2,3]))"),
  (OV.C08.max_pool.termWithIndices 2 (OV.C08.IntOrList.list ([3, 4] : List Int)) (OV.C08.IntOrList.int 3) (OV.C08.IntOrList.list ([0, 2] : List Int)) (OV.C08.IntOrList.list ([2, 1] : List Int)) true,
   "MaxPool(x0;auto_pad=NOTSET,ceil_mode=1,dilations=[2,1],kernel_shape=[3,4],pads=[0,2,0,2],storage_order=0,strides=[3,3])#0 || Sub(MaxPool(x0;auto_pad=NOTSET,ceil_mode=1,dilations=[2,1],kernel_shape=[3,4],pads=[0,2,0,2],storage_order=0,strides=[3,3])#1,Slice(MaxPool(x0;auto_pad=NOTSET,ceil_mode=0,dilations=[2,1],kernel_shape=[1,1],storage_order=0,strides=[1,1])#1,[0,0],[1,1],[2,3]))"),
  (OV.C08.max_pool.termWithIndices 2 (OV.C08.IntOrList.list ([3, 1] : List Int)) (OV.C08.IntOrList.list ([3, 3] : List Int)) (OV.C08.IntOrList.list ([0] : List Int)) (OV.C08.IntOrList.list ([1] : List Int)) false,
   "MaxPool(x0;auto_pad=NOTSET,ceil_mode=0,dilations=[1,1],kernel_shape=[3,1],pads=[0,0,0,0],storage_order=0,strides=[3,3])#0 || Sub(MaxPool(x0;auto_pad=NOTSET,ceil_mode=0,dilations=[1,1],kernel_shape=[3,1],pads=[0,0,0,0],storage_order=0,strides=[3,3])#1,Slice(MaxPool(x0;auto_pad=NOTSET,ceil_mode=0,dilations=[1,1],kernel_shape=[1,1],storage_order=0,strides=[1,1])#1,[0,0],[1,1],[2,3]))"),
  (OV.C08.max_pool.termWithIndices 2 (OV.C08.IntOrList.int 2) (OV.C08.IntOrList.list ([2, 2] : List Int)) (OV.C08.IntOrList.list ([1, 1] : List Int)) (OV.C08.IntOrList.list ([1, 1] : List Int)) false,
   "MaxPool(x0;auto_pad=NOTSET,ceil_mode=0,dilations=[1,1],kernel_shape=[2,2],pads=[1,1,1,1],storage_order=0,strides=[2,2])#0 || Sub(MaxPool(x0;auto_pad=NOTSET,ceil_mode=0,dilations=[1,1],kernel_shape=[2,2],pads=[1,1,1,1],storage_order=0,strides=[2,2])#1,Slice(MaxPool(x0;auto_pad=NOTSET,ceil_mode=0,dilations=[1,1],kernel_shape=[1,1],storage_order=0,strides=[1,1])#1,[0,0],[1,1],[2,3]))"),
  (OV.C08.max_pool.termWithIndices 2 (OV.C08.IntOrList.list ([3, 4] : List Int)) (OV.C08.IntOrList.list ([3, 2] : List Int)) (OV.C08.IntOrList.list ([1, 1] : List Int)) (OV.C08.IntOrList.int 1) false,
   "MaxPool(x0;auto_pad=NOTSET,ceil_mode=0,dilations=[1,1],kernel_shape=[3,4],pads=[1,1,1,1],storage_order=0,strides=[3,2])#0 || Sub(MaxPool(x0;auto_pad=NOTSET,ceil_mode=0,dilations=[1,1],kernel_shape=[3,4],pads=[1,1,1,1],storage_order=0,strides=[3,2])#1,Slice(MaxPool(x0;auto_pad=NOTSET,ceil_mode=0,dilations=[1,1],kernel_shape=[1,1],storage_order=0,strides=[1,1])#1,[0,0],[1,1],[2,3]))"),
  (OV.C08.max_pool.term 3 5 (OV.C08.IntOrList.list ([2, 2, 4] : List Int)) (OV.C08.IntOrList.list ([2, 1, 2] : List Int)) (OV.C08.IntOrList.list ([0, 1, 2] : List Int)) (OV.C08.IntOrList.list ([1, 1, 2] : List Int)) true,
   "MaxPool(x0;auto_pad=NOTSET,ceil_mode=1,dilations=[1,1,2],kernel_shape=[2,2,4],pads=[0,1,2,0,1,2],storage_order=0,strides=[2,1,2])#0"),
  (OV.C08.max_pool.term 3 5 (OV.C08.IntOrList.list ([3, 1, 3] : List Int)) (OV.C08.IntOrList.list ([] : List Int)) (OV.C08.IntOrList.int 0) (OV.C08.IntOrList.list ([1, 1, 1] : List Int)) false,
   "MaxPool(x0;auto_pad=NOTSET,ceil_mode=0,dilations=[1,1,1],kernel_shape=[3,1,3],pads=[0,0,0,0,0,0],storage_order=0,strides=[3,1,3])#0"),
  (OV.C08.max_pool.term 3 5 (OV.C08.IntOrList.list ([3, 2, 3] : List Int)) (OV.C08.IntOrList.list ([1, 3, 3] : List Int)) (OV.C08.IntOrList.int 1) (OV.C08.IntOrList.list ([1, 1, 1] : List Int)) false,
   "MaxPool(x0;auto_pad=NOTSET,ceil_mode=0,dilations=[1,1,1],kernel_shape=[3,2,3],pads=[1,1,1,1,1,1],storage_order=0,strides=[1,3,3])#0"),
  (OV.C08.max_pool.term 3 5 (OV.C08.IntOrList.list ([2, 1, 1] : List Int)) (OV.C08.IntOrList.list ([3, 2, 2] : List Int)) (OV.C08.IntOrList.list ([1, 0, 0] : List Int)) (OV.C08.IntOrList.list ([2, 1, 1] : List Int)) true,
   "MaxPool(x0;auto_pad=NOTSET,ceil_mode=1,dilations=[2,1,1],kernel_shape=[2,1,1],pads=[1,0,0,1,0,0],storage_order=0,strides=[3,2,2])#0"),
  (OV.C08.max_pool.term 3 4 (OV.C08.IntOrList.list ([3, 2, 1] : List Int)) (OV.C08.IntOrList.list ([1, 3, 3] : List Int)) (OV.C08.IntOrList.int 0) (OV.C08.IntOrList.list ([2, 2, 1] : List Int)) false,
   "Squeeze(MaxPool(Unsqueeze(x0,[0]);auto_pad=NOTSET,ceil_mode=0,dilations=[2,2,1],kernel_shape=[3,2,1],pads=[0,0,0,0,0,0],storage_order=0,strides=[1,3,3])#0,[0])"),
  (OV.C08.max_pool.term 3 5 (OV.C08.IntOrList.list ([1, 3, 3] : List Int)) (OV.C08.IntOrList.list ([2] : List Int)) (OV.C08.IntOrList.list ([0, 0, 1] : List Int)) (OV.C08.IntOrList.list ([1, 1, 1] : List Int)) false,
   "MaxPool(x0;auto_pad=NOTSET,ceil_mode=0,dilations=[1,1,1],kernel_shape=[1,3,3],pads=[0,0,1,0,0,1],storage_order=0,strides=[2,2,2])#0"),
  (OV.C08.max_pool.term 3 5 (OV.C08.IntOrList.list ([3, 1, 4] : List Int)) (OV.C08.IntOrList.list ([1, 3, 2] : List Int)) (OV.C08.IntOrList.list ([1, 1, 1] : List Int)) (OV.C08.IntOrList.list ([1, 1, 2] : List Int)) false,
   "MaxPool(x0;auto_pad=NOTSET,ceil_mode=0,dilations=[1,1,2],kernel_shape=[3,1,4],pads=[1,1,1,1,1,1],storage_order=0,strides=[1,3,2])#0"),
  (OV.C08.max_pool.term 3 4 (OV.C08.IntOrList.list ([3, 1, 3] : List Int)) (OV.C08.IntOrList.list ([3, 3, 2] : List Int)) (OV.C08.IntOrList.int 0) (OV.C08.IntOrList.list ([1, 1, 2] : List Int)) true,
   "Squeeze(MaxPool(Unsqueeze(x0,[0]);auto_pad=NOTSET,ceil_mode=1,dilations=[1,1,2],kernel_shape=[3,1,3],pads=[0,0,0,0,0,0],storage_order=0,strides=[3,3,2])#0,[0])")
]

/-- kernel-checked: every row's model term is the emitted term (chunks build in parallel). -/
theorem ok14 : ∀ e ∈ table14, e.1 = e.2 := by
  unfold table14
  apply OV.C08.rows_of_reads
  · repeat (apply OV.C08.Reads.cons; with_reducible rfl)
    exact .nil
  · decide +kernel

end OV.Gen.C08Trace
