import OV.Model.C08View
import OV.Model.C08Slice
import OV.Model.C08Repl
import OV.Model.C08Reduce
import OV.Model.C08IntArith
import OV.Model.C08Creation
import OV.Model.C08Attr
import OV.Model.C08Misc
import OV.Model.C08Scalar
import OV.Model.C08Linalg
import OV.Lemmas.C08Rows
/-! GENERATED by harness/extract_torchlib.py from /repo's working tree — do not edit. -/
namespace OV.Gen.C08Trace

/-- (model term, term emitted by the real torch_lib function) — chunk 21. -/
def table21 : List (String × String) := [
  (OV.C08.select_scatter.term 1 1,
   "ScatterElements(x0,Expand(1,Shape(Unsqueeze(x1,[1]);start=0)),Unsqueeze(x1,[1]);axis=1,reduction=none)"),
  (OV.C08.select_scatter.term 2 (-2),
   "ScatterElements(x0,Expand(-2,Shape(Unsqueeze(x1,[2]);start=0)),Unsqueeze(x1,[2]);axis=2,reduction=none)"),
  (OV.C08.select_scatter.term (-1) 2,
   "ScatterElements(x0,Expand(2,Shape(Unsqueeze(x1,[-1]);start=0)),Unsqueeze(x1,[-1]);axis=-1,reduction=none)"),
  (OV.C08.select_scatter.term 0 (-4),
   "ScatterElements(x0,Expand(-4,Shape(Unsqueeze(x1,[0]);start=0)),Unsqueeze(x1,[0]);axis=0,reduction=none)"),
  (OV.C08.select_scatter.term (-3) (-1),
   "ScatterElements(x0,Expand(-1,Shape(Unsqueeze(x1,[-3]);start=0)),Unsqueeze(x1,[-3]);axis=-3,reduction=none)"),
  (OV.C08.select_scatter.term 0 (-2),
   "ScatterElements(x0,Expand(-2,Shape(Unsqueeze(x1,[0]);start=0)),Unsqueeze(x1,[0]);axis=0,reduction=none)"),
  (OV.C08.select_scatter.term (-2) 1,
   "ScatterElements(x0,Expand(1,Shape(Unsqueeze(x1,[-2]);start=0)),Unsqueeze(x1,[-2]);axis=-2,reduction=none)"),
  (OV.C08.select_scatter.term 0 (-1),
   "ScatterElements(x0,Expand(-1,Shape(Unsqueeze(x1,[0]);start=0)),Unsqueeze(x1,[0]);axis=0,reduction=none)"),
  (OV.C08.select_scatter.term (-1) 0,
   "ScatterElements(x0,Expand(0,Shape(Unsqueeze(x1,[-1]);start=0)),Unsqueeze(x1,[-1]);axis=-1,reduction=none)"),
  (OV.C08.select_scatter.term 0 4,
   "ScatterElements(x0,Expand(4,Shape(Unsqueeze(x1,[0]);start=0)),Unsqueeze(x1,[0]);axis=0,reduction=none)"),
  (OV.C08.slice.term (-1) (some (-1)) (some (-3)) none,
   "Slice(x0,Reshape(Cast(-1;to=7),[-1];allowzero=0),Reshape(Cast(-3;to=7),[-1];allowzero=0),Reshape(Cast(-1;to=7),[-1];allowzero=0),[1])"),
  (OV.C08.slice.term (-1) (some (-3)) (some 9223372036854775807) (some 1),
   "Slice(x0,Reshape(Cast(-3;to=7),[-1];allowzero=0),Reshape(Cast(9223372036854775807;to=7),[-1];allowzero=0),Reshape(Cast(-1;to=7),[-1];allowzero=0),Reshape(Cast(1;to=7),[-1];allowzero=0))"),
  (OV.C08.slice.term (-4) none none (some 7),
   "Slice(x0,[0],[9223372036854775807],Reshape(Cast(-4;to=7),[-1];allowzero=0),Reshape(Cast(7;to=7),[-1];allowzero=0))"),
  (OV.C08.slice.term 0 (some (-1)) none (some 7),
   "Slice(x0,Reshape(Cast(-1;to=7),[-1];allowzero=0),[9223372036854775807],Reshape(Cast(0;to=7),[-1];allowzero=0),Reshape(Cast(7;to=7),[-1];allowzero=0))"),
  (OV.C08.slice.term (-1) none (some (-3)) (some 7),
   "Slice(x0,[0],Reshape(Cast(-3;to=7),[-1];allowzero=0),Reshape(Cast(-1;to=7),[-1];allowzero=0),Reshape(Cast(7;to=7),[-1];allowzero=0))"),
  (OV.C08.slice.term 0 (some (-3)) (some (-1)) (some 1),
   "Slice(x0,Reshape(Cast(-3;to=7),[-1];allowzero=0),Reshape(Cast(-1;to=7),[-1];allowzero=0),Reshape(Cast(0;to=7),[-1];allowzero=0),Reshape(Cast(1;to=7),[-1];allowzero=0))"),
  (OV.C08.slice.term (-4) (some (-1)) none (some 2),
   "Slice(x0,Reshape(Cast(-1;to=7),[-1];allowzero=0),[9223372036854775807],Reshape(Cast(-4;to=7),[-1];allowzero=0),Reshape(Cast(2;to=7),[-1];allowzero=0))"),
  (OV.C08.slice.term (-3) (some 1) (some (-2)) (some 1),
   "Slice(x0,Reshape(Cast(1;to=7),[-1];allowzero=0),Reshape(Cast(-2;to=7),[-1];allowzero=0),Reshape(Cast(-3;to=7),[-1];allowzero=0),Reshape(Cast(1;to=7),[-1];allowzero=0))"),
  (OV.C08.slice.term 1 none (some 5) (some 1),
   "Slice(x0,[0],Reshape(Cast(5;to=7),[-1];allowzero=0),Reshape(Cast(1;to=7),[-1];allowzero=0),Reshape(Cast(1;to=7),[-1];allowzero=0))"),
  (OV.C08.slice.term (-3) (some (-3)) (some (-1)) (some 1),
   "Slice(x0,Reshape(Cast(-3;to=7),[-1];allowzero=0),Reshape(Cast(-1;to=7),[-1];allowzero=0),Reshape(Cast(-3;to=7),[-1];allowzero=0),Reshape(Cast(1;to=7),[-1];allowzero=0))"),
  (OV.C08.slice_scatter.term 1 0 none (some 1) 1,
   "ScatterND(x0,Unsqueeze(Slice(Range(0,Gather(Shape(x0;start=0),0;axis=0),1),[0],Unsqueeze(1,[0]),[0],Unsqueeze(1,[0])),[-1]),x1;reduction=none)"),
  (OV.C08.slice_scatter.term 1 0 none (some (-2)) 1,
   "ScatterND(x0,Unsqueeze(Slice(Range(0,Gather(Shape(x0;start=0),0;axis=0),1),[0],Unsqueeze(-2,[0]),[0],Unsqueeze(1,[0])),[-1]),x1;reduction=none)"),
  (OV.C08.slice_scatter.term 1 (-1) none (some 0) 3,
   "Transpose(ScatterND(Transpose(x0;perm=[0]),Unsqueeze(Slice(Range(0,Gather(Shape(x0;start=0),-1;axis=0),1),[0],Unsqueeze(0,[0]),[0],Unsqueeze(3,[0])),[-1]),Transpose(x1;perm=[0]);reduction=none);perm=[0])"),
  (OV.C08.slice_scatter.term 3 (-3) none (some (-3)) 3,
   "Transpose(ScatterND(Transpose(x0;perm=[0,1,2]),Unsqueeze(Slice(Range(0,Gather(Shape(x0;start=0),-3;axis=0),1),[0],Unsqueeze(-3,[0]),[0],Unsqueeze(3,[0])),[-1]),Transpose(x1;perm=[0,1,2]);reduction=none);perm=[0,1,2])"),
  (OV.C08.slice_scatter.term 2 (-2) none (some 0) 2,
   "Transpose(ScatterND(Transpose(x0;perm=[0,1]),Unsqueeze(Slice(Range(0,Gather(Shape(x0;start=0),-2;axis=0),1),[0],Unsqueeze(0,[0]),[0],Unsqueeze(2,[0])),[-1]),Transpose(x1;perm=[0,1]);reduction=none);perm=[0,1])"),
  (OV.C08.slice_scatter.term 3 0 (some 0) (some (-3)) 1,
   "ScatterND(x0,Unsqueeze(Slice(Range(0,Gather(Shape(x0;start=0),0;axis=0),1),Unsqueeze(0,[0]),Unsqueeze(-3,[0]),[0],Unsqueeze(1,[0])),[-1]),x1;reduction=none)"),
  (OV.C08.slice_scatter.term 1 0 (some (-1)) (some (-3)) 1,
   "ScatterND(x0,Unsqueeze(Slice(Range(0,Gather(Shape(x0;start=0),0;axis=0),1),Unsqueeze(-1,[0]),Unsqueeze(-3,[0]),[0],Unsqueeze(1,[0])),[-1]),x1;reduction=none)"),
  (OV.C08.slice_scatter.term 2 (-2) (some 3) (some (-2)) 3,
   "Transpose(ScatterND(Transpose(x0;perm=[0,1]),Unsqueeze(Slice(Range(0,Gather(Shape(x0;start=0),-2;axis=0),1),Unsqueeze(3,[0]),Unsqueeze(-2,[0]),[0],Unsqueeze(3,[0])),[-1]),Transpose(x1;perm=[0,1]);reduction=none);perm=[0,1])"),
  (OV.C08.slice_scatter.term 3 2 none none 2,
   "Transpose(ScatterND(Transpose(x0;perm=[2,1,0]),Unsqueeze(Slice(Range(0,Gather(Shape(x0;start=0),2;axis=0),1),[0],[9223372036854775807],[0],Unsqueeze(2,[0])),[-1]),Transpose(x1;perm=[2,1,0]);reduction=none);perm=[2,1,0])"),
  (OV.C08.slice_scatter.term 1 (-1) (some 0) (some 1) 2,
   "Transpose(ScatterND(Transpose(x0;perm=[0]),Unsqueeze(Slice(Range(0,Gather(Shape(x0;start=0),-1;axis=0),1),Unsqueeze(0,[0]),Unsqueeze(1,[0]),[0],Unsqueeze(2,[0])),[-1]),Transpose(x1;perm=[0]);reduction=none);perm=[0])"),
  (OV.C08.softmax.term 0 0 0 false none,
   "Squeeze(Softmax(Unsqueeze(x0,[0]);axis=0))"),
  (OV.C08.softmax.term 0 2 (-3) false none,
   "Softmax(x0;axis=-3)")
]

/-- kernel-checked: every row's model term is the emitted term (chunks build in parallel). -/
theorem ok21 : ∀ e ∈ table21, e.1 = e.2 := by
  unfold table21
  apply OV.C08.rows_of_reads
  · repeat (apply OV.C08.Reads.cons; with_reducible rfl)
    exact .nil
  · decide +kernel

end OV.Gen.C08Trace
