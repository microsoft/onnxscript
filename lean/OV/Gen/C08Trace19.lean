import OV.Model.C08View
import OV.Model.C08Slice
import OV.Model.C08Repl
import OV.Model.C08Reduce
import OV.Model.C08IntArith
import OV.Model.C08Creation
import OV.Model.C08Attr
import OV.Model.C08Misc
import OV.Model.C08Scalar
import OV.Model.C08Linalg
import OV.Lemmas.C08Rows
/-! GENERATED by harness/extract_torchlib.py from /repo's working tree — do not edit. -/
namespace OV.Gen.C08Trace

/-- (model term, term emitted by the real torch_lib function) — chunk 19. -/
def table19 : List (String × String) := [
  (OV.C08.repeat_interleave.term ([2, 3] : List Nat) 1 (some (-1)),
   "Reshape(Expand(Unsqueeze(x0,[2]),[1,1,1]),[2,3];allowzero=1)"),
  (OV.C08.repeat_interleave.term ([1, 1, 3] : List Nat) 1 none,
   "Reshape(Expand(Unsqueeze(Reshape(x0,[-1];allowzero=0),[1]),[1,1]),[3];allowzero=1)"),
  (OV.C08.repeat_interleave.term ([5, 2, 5] : List Nat) 0 (some (-1)),
   "Reshape(Expand(Unsqueeze(x0,[3]),[1,1,1,0]),[5,2,0];allowzero=1)"),
  (OV.C08.repeat_interleave.term ([1] : List Nat) 3 none,
   "Reshape(Expand(Unsqueeze(Reshape(x0,[-1];allowzero=0),[1]),[1,3]),[3];allowzero=1)"),
  (OV.C08.pad.termMode 4 ([2, 2, 2, 0] : List Int) "edge",
   "Pad(x0,[0,0,2,2,0,0,0,2];mode=edge)"),
  (OV.C08.pad.termMode 4 ([2, 1, 1, 0] : List Int) "edge",
   "Pad(x0,[0,0,1,2,0,0,0,1];mode=edge)"),
  (OV.C08.pad.termMode 4 ([2, 1, 1, 1] : List Int) "edge",
   "Pad(x0,[0,0,1,2,0,0,1,1];mode=edge)"),
  (OV.C08.pad.termMode 4 ([0, 1, 2, 1] : List Int) "edge",
   "Pad(x0,[0,0,2,0,0,0,1,1];mode=edge)"),
  (OV.C08.pad.termMode 3 ([2, 2, 1, 2] : List Int) "edge",
   "Pad(x0,[0,1,2,0,2,2];mode=edge)"),
  (OV.C08.pad.termMode 4 ([1, 0, 0, 0] : List Int) "edge",
   "Pad(x0,[0,0,0,1,0,0,0,0];mode=edge)"),
  (OV.C08.pad.termMode 3 ([2, 1, 1, 2] : List Int) "edge",
   "Pad(x0,[0,1,2,0,2,1];mode=edge)"),
  (OV.C08.pad.termMode 3 ([0, 2, 1, 2] : List Int) "edge",
   "Pad(x0,[0,1,0,0,2,2];mode=edge)"),
  (OV.C08.pad.termMode 3 ([2, 2, 2, 0] : List Int) "edge",
   "Pad(x0,[0,2,2,0,0,2];mode=edge)"),
  (OV.C08.pad.termMode 4 ([1, 0, 0, 2] : List Int) "edge",
   "Pad(x0,[0,0,0,1,0,0,2,0];mode=edge)"),
  (OV.C08.reshape_.term ([0] : List Int),
   "Reshape(x0,Concat([0];axis=0);allowzero=1)"),
  (OV.C08.reshape_.term ([0, 3, 1] : List Int),
   "Reshape(x0,Concat([0],[3],[1];axis=0);allowzero=1)"),
  (OV.C08.reshape_.term ([9, 1, 1] : List Int),
   "Reshape(x0,Concat([9],[1],[1];axis=0);allowzero=1)"),
  (OV.C08.reshape_.term ([(-1)] : List Int),
   "Reshape(x0,Concat([-1];axis=0);allowzero=1)"),
  (OV.C08.reshape_.term ([1, (-1), 1, 1] : List Int),
   "Reshape(x0,Concat([1],[-1],[1],[1];axis=0);allowzero=1)"),
  (OV.C08.reshape_.term ([1] : List Int),
   "Reshape(x0,Concat([1];axis=0);allowzero=1)"),
  (OV.C08.reshape_.term ([1, (-1)] : List Int),
   "Reshape(x0,Concat([1],[-1];axis=0);allowzero=1)"),
  (OV.C08.reshape_.term ([1, 1, 3, 1] : List Int),
   "Reshape(x0,Concat([1],[1],[3],[1];axis=0);allowzero=1)"),
  (OV.C08.reshape_.term ([1, 1, 2, 1] : List Int),
   "Reshape(x0,Concat([1],[1],[2],[1];axis=0);allowzero=1)"),
  (OV.C08.reshape_.term ([2, 2] : List Int),
   "Reshape(x0,Concat([2],[2];axis=0);allowzero=1)"),
  (OV.C08.roll.term ([] : List Nat) ([(-2)] : List Int) ([] : List Int),
   "Identity(x0)"),
  (OV.C08.roll.term ([1, 5, 2] : List Nat) ([2, 7] : List Int) ([(-3), (-1)] : List Int),
   "Concat(Slice(Concat(Slice(x0,Sub(Shape(x0;end=1,start=0),[0]),[9223372036854775807],[0]),Slice(x0,[0],Sub(Shape(x0;end=1,start=0),[0]),[0]);axis=0),Sub(Shape(Concat(Slice(x0,Sub(Shape(x0;end=1,start=0),[0]),[9223372036854775807],[0]),Slice(x0,[0],Sub(Shape(x0;end=1,start=0),[0]),[0]);axis=0);end=3,start=2),[1]),[9223372036854775807],[2]),Slice(Concat(Slice(x0,Sub(Shape(x0;end=1,start=0),[0]),[9223372036854775807],[0]),Slice(x0,[0],Sub(Shape(x0;end=1,start=0),[0]),[0]);axis=0),[0],Sub(Shape(Concat(Slice(x0,Sub(Shape(x0;end=1,start=0),[0]),[9223372036854775807],[0]),Slice(x0,[0],Sub(Shape(x0;end=1,start=0),[0]),[0]);axis=0);end=3,start=2),[1]),[2]);axis=2)"),
  (OV.C08.roll.term ([2] : List Nat) ([1] : List Int) ([0] : List Int),
   "Concat(Slice(x0,Sub(Shape(x0;end=1,start=0),[1]),[9223372036854775807],[0]),Slice(x0,[0],Sub(Shape(x0;end=1,start=0),[1]),[0]);axis=0)"),
  (OV.C08.roll.term ([] : List Nat) ([(-1)] : List Int) ([] : List Int),
   "Identity(x0)"),
  (OV.C08.roll.term ([3, 3, 2] : List Nat) ([10, 5] : List Int) ([(-3), 2] : List Int),
   "Concat(Slice(Concat(Slice(x0,Sub(Shape(x0;end=1,start=0),[1]),[9223372036854775807],[0]),Slice(x0,[0],Sub(Shape(x0;end=1,start=0),[1]),[0]);axis=0),Sub(Shape(Concat(Slice(x0,Sub(Shape(x0;end=1,start=0),[1]),[9223372036854775807],[0]),Slice(x0,[0],Sub(Shape(x0;end=1,start=0),[1]),[0]);axis=0);end=3,start=2),[1]),[9223372036854775807],[2]),Slice(Concat(Slice(x0,Sub(Shape(x0;end=1,start=0),[1]),[9223372036854775807],[0]),Slice(x0,[0],Sub(Shape(x0;end=1,start=0),[1]),[0]);axis=0),[0],Sub(Shape(Concat(Slice(x0,Sub(Shape(x0;end=1,start=0),[1]),[9223372036854775807],[0]),Slice(x0,[0],Sub(Shape(x0;end=1,start=0),[1]),[0]);axis=0);end=3,start=2),[1]),[2]);axis=2)"),
  (OV.C08.roll.term ([] : List Nat) ([0] : List Int) ([] : List Int),
   "Identity(x0)"),
  (OV.C08.roll.term ([] : List Nat) ([3] : List Int) ([] : List Int),
   "Identity(x0)"),
  (OV.C08.roll.term ([5] : List Nat) ([10] : List Int) ([] : List Int),
   "Reshape(Concat(Slice(Reshape(x0,[-1];allowzero=0),Sub(Size(Reshape(x0,[-1];allowzero=0)),[0]),Reshape(Size(Reshape(x0,[-1];allowzero=0)),[-1];allowzero=0)),Slice(Reshape(x0,[-1];allowzero=0),[0],Sub(Size(Reshape(x0,[-1];allowzero=0)),[0]));axis=0),Shape(x0;start=0);allowzero=1)")
]

/-- kernel-checked: every row's model term is the emitted term (chunks build in parallel). -/
theorem ok19 : ∀ e ∈ table19, e.1 = e.2 := by
  unfold table19
  apply OV.C08.rows_of_reads
  · repeat (apply OV.C08.Reads.cons; with_reducible rfl)
    exact .nil
  · decide +kernel

end OV.Gen.C08Trace
