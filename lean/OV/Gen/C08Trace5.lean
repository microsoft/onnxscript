import OV.Model.C08View
import OV.Model.C08Slice
import OV.Model.C08Repl
import OV.Model.C08Reduce
import OV.Model.C08IntArith
import OV.Model.C08Creation
import OV.Model.C08Attr
import OV.Model.C08Misc
import OV.Model.C08Scalar
import OV.Model.C08Linalg
import OV.Lemmas.C08Rows
/-! GENERATED by harness/extract_torchlib.py from /repo's working tree — do not edit. -/
namespace OV.Gen.C08Trace

/-- (model term, term emitted by the real torch_lib function) — chunk 5. -/
def table5 : List (String × String) := [
  (OV.C08.avg_pool.term 2 4 (OV.C08.IntOrList.list ([4, 3] : List Int)) (OV.C08.IntOrList.list ([3, 2] : List Int)) (OV.C08.IntOrList.list ([1, 1] : List Int)) true false,
   "AveragePool(x0;auto_pad=NOTSET,ceil_mode=1,count_include_pad=0,kernel_shape=[4,3],pads=[1,1,1,1],strides=[3,2])"),
  (OV.C08.avg_pool.term 2 4 (OV.C08.IntOrList.list ([4, 2] : List Int)) (OV.C08.IntOrList.list ([2, 3] : List Int)) (OV.C08.IntOrList.list ([1, 1] : List Int)) false true,
   "AveragePool(x0;auto_pad=NOTSET,ceil_mode=0,count_include_pad=1,kernel_shape=[4,2],pads=[1,1,1,1],strides=[2,3])"),
  (OV.C08.avg_pool.term 2 3 (OV.C08.IntOrList.list ([2, 3] : List Int)) (OV.C08.IntOrList.list ([1, 1] : List Int)) (OV.C08.IntOrList.list ([3, 1] : List Int)) false true,
   "Squeeze(AveragePool(Unsqueeze(x0,[0]);auto_pad=NOTSET,ceil_mode=0,count_include_pad=1,kernel_shape=[2,3],pads=[3,1,3,1],strides=[1,1]),[0])"),
  (OV.C08.avg_pool.term 2 3 (OV.C08.IntOrList.list ([1, 3] : List Int)) (OV.C08.IntOrList.list ([3, 1] : List Int)) (OV.C08.IntOrList.list ([0] : List Int)) false true,
   "Squeeze(AveragePool(Unsqueeze(x0,[0]);auto_pad=NOTSET,ceil_mode=0,count_include_pad=1,kernel_shape=[1,3],pads=[0,0,0,0],strides=[3,1]),[0])"),
  (OV.C08.avg_pool.term 2 4 (OV.C08.IntOrList.list ([4, 3] : List Int)) (OV.C08.IntOrList.list ([3] : List Int)) (OV.C08.IntOrList.list ([0, 1] : List Int)) false true,
   "AveragePool(x0;auto_pad=NOTSET,ceil_mode=0,count_include_pad=1,kernel_shape=[4,3],pads=[0,1,0,1],strides=[3,3])"),
  (OV.C08.avg_pool.term 3 5 (OV.C08.IntOrList.list ([1, 2, 4] : List Int)) (OV.C08.IntOrList.list ([] : List Int)) (OV.C08.IntOrList.list ([0, 0, 0] : List Int)) false false,
   "AveragePool(x0;auto_pad=NOTSET,ceil_mode=0,count_include_pad=0,kernel_shape=[1,2,4],pads=[0,0,0,0,0,0],strides=[1,2,4])"),
  (OV.C08.avg_pool.term 3 5 (OV.C08.IntOrList.list ([2, 4, 2] : List Int)) (OV.C08.IntOrList.list ([3, 2, 1] : List Int)) (OV.C08.IntOrList.list ([0, 1, 0] : List Int)) true true,
   "AveragePool(x0;auto_pad=NOTSET,ceil_mode=1,count_include_pad=1,kernel_shape=[2,4,2],pads=[0,1,0,0,1,0],strides=[3,2,1])"),
  (OV.C08.avg_pool.term 3 4 (OV.C08.IntOrList.list ([2, 3, 3] : List Int)) (OV.C08.IntOrList.list ([3, 3, 3] : List Int)) (OV.C08.IntOrList.list ([1, 1, 1] : List Int)) false false,
   "Squeeze(AveragePool(Unsqueeze(x0,[0]);auto_pad=NOTSET,ceil_mode=0,count_include_pad=0,kernel_shape=[2,3,3],pads=[1,1,1,1,1,1],strides=[3,3,3]),[0])"),
  (OV.C08.avg_pool.term 3 5 (OV.C08.IntOrList.list ([2, 1, 3] : List Int)) (OV.C08.IntOrList.list ([] : List Int)) (OV.C08.IntOrList.list ([1, 0, 1] : List Int)) true true,
   "AveragePool(x0;auto_pad=NOTSET,ceil_mode=1,count_include_pad=1,kernel_shape=[2,1,3],pads=[1,0,1,1,0,1],strides=[2,1,3])"),
  (OV.C08.avg_pool.term 3 4 (OV.C08.IntOrList.list ([1, 4, 1] : List Int)) (OV.C08.IntOrList.list ([1, 3, 1] : List Int)) (OV.C08.IntOrList.list ([0, 1, 0] : List Int)) true true,
   "Squeeze(AveragePool(Unsqueeze(x0,[0]);auto_pad=NOTSET,ceil_mode=1,count_include_pad=1,kernel_shape=[1,4,1],pads=[0,1,0,0,1,0],strides=[1,3,1]),[0])"),
  (OV.C08.avg_pool.term 3 5 (OV.C08.IntOrList.list ([1, 2, 3] : List Int)) (OV.C08.IntOrList.list ([1, 3, 3] : List Int)) (OV.C08.IntOrList.list ([0, 0, 0] : List Int)) false false,
   "AveragePool(x0;auto_pad=NOTSET,ceil_mode=0,count_include_pad=0,kernel_shape=[1,2,3],pads=[0,0,0,0,0,0],strides=[1,3,3])"),
  (OV.C08.avg_pool.term 3 5 (OV.C08.IntOrList.list ([3] : List Int)) (OV.C08.IntOrList.list ([1, 3, 3] : List Int)) (OV.C08.IntOrList.list ([0, 0, 0] : List Int)) false true,
   "AveragePool(x0;auto_pad=NOTSET,ceil_mode=0,count_include_pad=1,kernel_shape=[3,3,3],pads=[0,0,0,0,0,0],strides=[1,3,3])"),
  (OV.C08.avg_pool.term 3 5 (OV.C08.IntOrList.list ([4, 1, 1] : List Int)) (OV.C08.IntOrList.list ([3, 3, 3] : List Int)) (OV.C08.IntOrList.list ([1, 0, 0] : List Int)) false false,
   "AveragePool(x0;auto_pad=NOTSET,ceil_mode=0,count_include_pad=0,kernel_shape=[4,1,1],pads=[1,0,0,1,0,0],strides=[3,3,3])"),
  (OV.C08.avg_pool.term 3 4 (OV.C08.IntOrList.list ([2, 3, 3] : List Int)) (OV.C08.IntOrList.list ([3, 3, 1] : List Int)) (OV.C08.IntOrList.list ([1, 1, 1] : List Int)) false false,
   "Squeeze(AveragePool(Unsqueeze(x0,[0]);auto_pad=NOTSET,ceil_mode=0,count_include_pad=0,kernel_shape=[2,3,3],pads=[1,1,1,1,1,1],strides=[3,3,1]),[0])"),
  (OV.C08.avg_pool.term 3 5 (OV.C08.IntOrList.list ([3, 2, 3] : List Int)) (OV.C08.IntOrList.list ([1, 1, 3] : List Int)) (OV.C08.IntOrList.list ([0, 1, 1] : List Int)) true true,
   "AveragePool(x0;auto_pad=NOTSET,ceil_mode=1,count_include_pad=1,kernel_shape=[3,2,3],pads=[0,1,1,0,1,1],strides=[1,1,3])"),
  (OV.C08.matmul.term,
   "MatMul(x0,x1)"),
  (OV.C08.broadcast_to.term ([3, 3] : List Int),
   "Expand(x0,Concat([3],[3];axis=0))"),
  (OV.C08.broadcast_to.term ([0, 2, 1] : List Int),
   "Expand(x0,Concat([0],[2],[1];axis=0))"),
  (OV.C08.broadcast_to.term ([3] : List Int),
   "Expand(x0,Concat([3];axis=0))"),
  (OV.C08.broadcast_to.term ([2, 3, 2, 0] : List Int),
   "Expand(x0,Concat([2],[3],[2],[0];axis=0))"),
  (OV.C08.broadcast_to.term ([1, 1] : List Int),
   "Expand(x0,Concat([1],[1];axis=0))"),
  (OV.C08.broadcast_to.term ([1, 1, 3, 0, 2] : List Int),
   "Expand(x0,Concat([1],[1],[3],[0],[2];axis=0))"),
  (OV.C08.broadcast_to.term ([3, 3, (-1)] : List Int),
   "Expand(x0,Concat([3],[3],[1];axis=0))"),
  (OV.C08.broadcast_to.term ([(-1)] : List Int),
   "Expand(x0,Concat([1];axis=0))"),
  (OV.C08.broadcast_to.term ([0, 2, 4, 0] : List Int),
   "Expand(x0,Concat([0],[2],[4],[0];axis=0))"),
  (OV.C08.broadcast_to.term ([] : List Int),
   "Expand(x0,[])"),
  (OV.C08.cat.term ([([3, 4] : List Nat), ([0] : List Nat), ([0, 4] : List Nat)] : List (List Nat)) 0,
   "Concat(x0,x2;axis=0)"),
  (OV.C08.cat.term ([([1, 0] : List Nat), ([2, 0] : List Nat)] : List (List Nat)) 0,
   "Concat(x0,x1;axis=0)"),
  (OV.C08.cat.term ([([0] : List Nat), ([2, 0] : List Nat), ([2, 0] : List Nat), ([3, 0] : List Nat)] : List (List Nat)) 0,
   "Concat(x1,x2,x3;axis=0)"),
  (OV.C08.cat.term ([([0, 3, 3] : List Nat)] : List (List Nat)) 2,
   "Identity(x0)"),
  (OV.C08.cat.term ([([1, 1, 2] : List Nat), ([1, 1, 2] : List Nat), ([1, 1, 2] : List Nat)] : List (List Nat)) 0,
   "Concat(x0,x1,x2;axis=0)"),
  (OV.C08.cat.term ([([3, 5, 1] : List Nat), ([3, 5, 2] : List Nat), ([3, 5, 3] : List Nat)] : List (List Nat)) (-1),
   "Concat(x0,x1,x2;axis=-1)")
]

/-- kernel-checked: every row's model term is the emitted term (chunks build in parallel). -/
theorem ok5 : ∀ e ∈ table5, e.1 = e.2 := by
  unfold table5
  apply OV.C08.rows_of_reads
  · repeat (apply OV.C08.Reads.cons; with_reducible rfl)
    exact .nil
  · decide +kernel

end OV.Gen.C08Trace
