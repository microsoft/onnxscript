-- GENERATED by harness/extract_opsets.py from /repo's working tree and the installed onnx.defs. Do not edit.
import OV.Lemmas.C17
namespace OV.Gen.C17
open OV.C17

/-- texts 0… of the name set (sorted by code) with the code the translator wrote for each -/
def names0 : List (String × Nat) := [
    ("", 1),
    ("A", 321),
    ("B", 322),
    ("C", 323),
    ("I", 329),
    ("K", 331),
    ("M", 333),
    ("P", 336),
    ("Q", 337),
    ("R", 338),
    ("T", 340),
    ("V", 342),
    ("W", 343),
    ("X", 344),
    ("Y", 345),
    ("a", 353),
    ("b", 354),
    ("k", 363),
    ("p", 368),
    ("w", 375),
    ("x", 376),
    ("y", 377),
    ("If", 84326),
    ("Or", 85874),
    ("to", 95343),
    ("up", 95600),
    ("xs", 96371),
    ("zs", 96883),
    ("Abs", 21062259),
    ("Add", 21062756),
    ("And", 21065316),
    ("Cos", 21196659),
    ("DCR", 21250898),
    ("DFT", 21251668),
    ("Det", 21259636),
    ("Div", 21260662),
    ("Elu", 21326965),
    ("Erf", 21328486),
    ("Exp", 21330032),
    ("GRU", 21451349),
    ("LRN", 21779022),
    ("Log", 21786471),
    ("MAX", 21840216),
    ("Max", 21848440),
    ("Min", 21850478),
    ("Mod", 21852004),
    ("Mul", 21853548),
    ("Neg", 21914983),
    ("Not", 21917556),
    ("Pad", 22045028),
    ("Pow", 22048631),
    ("RGB", 22169410),
    ("RNN", 22171214),
    ("SUM", 22238541),
    ("Sin", 22243694),
    ("Sub", 22246754),
    ("Sum", 22246765),
    ("Tan", 22307182),
    ("Xor", 22572914),
    ("avg", 23164519),
    ("end", 23424612),
    ("key", 23815545),
    ("low", 23883639),
    ("max", 23945592),
    ("min", 23947630),
    ("rho", 24275055),
    ("roi", 24276841),
    ("var", 24535410),
    ("Acos", 5392002931),
    ("Adam", 5392064877),
    ("Asin", 5393049966),
    ("Atan", 5393113454),
    ("Cast", 5425427316),
    ("Ceil", 5425686892),
    ("Celu", 5425687669),
    ("Clip", 5426145648),
    ("Conv", 5426343542),
    ("Cosh", 5426344808),
    ("Gelu", 5492796533),
    ("Gemm", 5492796781),
    ("LSTM", 5575496781),
    ("Less", 5576684403),
    ("Loop", 5577338736),
    ("Mean", 5593457006),
    ("Mish", 5593723752),
    ("NONE", 5608787525),
    ("Relu", 5677345909),
    ("STFT", 5692999252),
    ("Scan", 5693989230),
    ("Selu", 5694123125),
    ("Sign", 5694383982),
    ("Sinh", 5694385768),
    ("Size", 5694388837),
    ("Sqrt", 5694911092),
    ("Tanh", 5710638696),
    ("Tile", 5711162469),
    ("TopK", 5711556683),
    ("axes", 5930247539),
    ("axis", 5930248563),
    ("beta", 5945783393),
    ("bias", 5946040691),
    ("body", 5946434681),
    ("clip", 5963016560),
    ("cond", 5963214436),
    ("data", 5979075681),
    ("ends", 5996700787),
    ("fmod", 6013415268),
    ("grid", 6030518628),
    ("high", 6046705512),
    ("mask", 6130070379),
    ("mean", 6130327918),
    ("mode", 6130984037),
    ("none", 6147763813),
    ("norm", 6147764845),
    ("pads", 6180398195),
    ("perm", 6180663917),
    ("rois", 6214871411),
    ("seed", 6230992228),
    ("size", 6231259749),
    ("type", 6249082981),
    ("Acosh", 1380352750440),
    ("Asinh", 1380620791400),
    ("Atanh", 1380637044328),
    ("DENSE", 1392732164933),
    ("Equal", 1397767889260),
    ("Floor", 1401978580850),
    ("IsInf", 1414978432614),
    ("IsNaN", 1414978756942),
    ("Opset", 1440700654964),
    ("PRelu", 1444491390069),
    ("Range", 1453333571429),
    ("Round", 1453568912996),
    ("Scale", 1457661242469),
    ("Shape", 1457745129573),
    ("Slice", 1457812759397),
    ("Split", 1457880066420),
    ("Swish", 1457997312872),
    ("Trilu", 1462208392309),
    ("Where", 1474925261413),
    ("alpha", 1517942761569),
    ("boxes", 1522288584051),
    ("decay", 1530709369209),
    ("delta", 1530709963873),
    ("depth", 1530710226024),
    ("dtype", 1530962473061),
    ("gamma", 1543527820641),
    ("group", 1543813166448),
    ("input", 1552336057716),
    ("lambd", 1565002654308),
    ("limit", 1565136873844),
    ("query", 1586812514937),
    ("ratio", 1590772918639),
    ("scale", 1595100195941),
    ("shape", 1595184083045),
    ("sizes", 1595202495859),
    ("slope", 1595252109413),
    ("split", 1595319019892),
    ("start", 1595385410164),
    ("steps", 1595385671795),
    ("theta", 1599479313505),
    ("tiles", 1599496545651),
    ("upper", 1603909215602),
    ("value", 1607952266597),
    ("zeros", 1625199636339),
    ("ArgMax", 353434591912312),
    ("ArgMin", 353434591914350),
    ("Col2Im", 355620812376429),
    ("Concat", 355620849148276),
    ("CumSum", 355646601131373),
    ("Einsum", 357794103653741),
    ("Expand", 357858560536164),
    ("Gather", 359958867109234),
    ("Inputs", 362213658686579),
    ("LINEAR", 365352706195794),
    ("LpPool", 365520246239084),
    ("MatMul", 366555935110508),
    ("NOTSET", 367577600836948),
    ("OneHot", 368810540953460),
    ("Opset1", 368819367670833),
    ("Opset2", 368819367670834),
    ("Opset3", 368819367670835),
    ("Opset4", 368819367670836),
    ("Opset5", 368819367670837),
    ("Opset6", 368819367670838),
    ("Opset7", 368819367670839),
    ("Opset8", 368819367670840),
    ("Opset9", 368819367670841),
    ("Resize", 372070658177637),
    ("Scaler", 373161278072178),
    ("Shrink", 373183037927019),
    ("Unique", 375407680517477),
    ("ZipMap", 380883878895984),
    ("data_0", 391844703854384),
    ("foward", 394103906988644),
    ("inputs", 397398030775411),
    ("labels", 400640495152243),
    ("layout", 400640881685876),
    ("linear", 400675056214386),
    ("locale", 400700641209445),
    ("offset", 403960572896628),
    ("opset1", 404003739759665),
    ("opset2", 404003739759666),
    ("opset3", 404003739759667),
    ("opset4", 404003739759668),
    ("opset5", 404003739759669),
    ("opset6", 404003739759670),
    ("opset7", 404003739759671),
    ("opset8", 404003739759672),
    ("opset9", 404003739759673),
    ("prob_a", 405111774011233),
    ("prob_b", 405111774011234),
    ("scales", 408345650161011),
    ("scores", 408345885435251),
    ("signal", 408371520758124),
    ("sorted", 408397475505508),
    ("split_", 408401669092447),
    ("starts", 408418665002099),
    ("target", 409436856739188),
    ("tensor", 409453970288498),
    ("transA", 409509586432833),
    ("transB", 409509586432834),
    ("update", 410600557605989),
    ("values", 411635780248947),
    ("weight", 412752420497524),
    ("window", 412769684057975),
    ("Adagrad", 90463837034275172),
    ("BitCast", 90750890568414068),
    ("CastMap", 91023565977903472),
    ("CumProd", 91045529839103844),
    ("Dropout", 91323715407541620),
    ("EyeLike", 91612843411598181),
    ("Flatten", 91880008229086574),
    ("Greater", 92168097136665970),
    ("Hardmax", 92430936300151160),
    ("Imputer", 92725597112132978),
    ("MaxPool", 93838336618098540),
    ("NonZero", 94135161975042671),
    ("Opset10", 94417758123733296),
    ("Opset11", 94417758123733297),
    ("Opset12", 94417758123733298),
    ("Opset13", 94417758123733299),
    ("Opset14", 94417758123733300),
    ("Opset15", 94417758123733301),
    ("Opset16", 94417758123733302),
    ("Opset17", 94417758123733303),
    ("Opset18", 94417758123733304),
    ("Opset19", 94417758123733305),
    ("Opset20", 94417758123733552),
    ("Opset21", 94417758123733553),
    ("Opset22", 94417758123733554),
    ("Opset23", 94417758123733555),
    ("Opset24", 94417758123733556),
    ("Opset25", 94417758123733557),
    ("Opset26", 94417758123733558),
    ("Opset27", 94417758123733559),
    ("Reshape", 95250088475062373),
    ("Scatter", 95529287321675122),
    ("Sigmoid", 95535910043478372),
    ("Softmax", 95542502935585144),
    ("Squeeze", 95544766131173989),
    ("_Unused", 98891649730700644),
    ("a_scale", 99465615972068453),
    ("ai.onnx", 99476314937781880),
    ("b_scale", 99747090948779109),
    ("cast_to", 100030765233828975),
    ("epsilon", 100610207677968238),
    ("forward", 100890579082244708),
    ("indices", 101733844136453491),
    ("inverse", 101733921379742565),
    ("is_test", 101739320404439924),
    ("largest", 102564035511546740),
    ("max_map", 102845536124363120),
    ("nearest", 103131310681584500),
    ("opset10", 103424957378474288),
    ("opset11", 103424957378474289),
    ("opset12", 103424957378474290),
    ("opset13", 103424957378474291),
    ("opset14", 103424957378474292),
    ("opset15", 103424957378474293),
    ("opset16", 103424957378474294),
    ("opset17", 103424957378474295),
    ("opset18", 103424957378474296),
    ("opset19", 103424957378474297),
    ("opset20", 103424957378474544),
    ("opset21", 103424957378474545),
    ("opset22", 103424957378474546),
    ("opset23", 103424957378474547),
    ("opset24", 103424957378474548),
    ("opset25", 103424957378474549),
    ("opset26", 103424957378474550),
    ("opset27", 103424957378474551),
    ("pattern", 103689944226427502),
    ("repeats", 104257274794570867),
    ("reverse", 104257300565488485),
    ("softcap", 104549702189670768),
    ("spatial", 104550780226855276),
    ("stretch", 104555251036873576),
    ("strides", 104555251102934387),
    ("targets", 104815835325232243),
    ("updates", 105113742747133299),
    ("w_scale", 105658065459702885),
    ("weights", 105664619647366259),
    ("x_scale", 105939540436413541),
    ("y_scale", 106221015413124197),
    ("BitShift", 23232228054350259828),
    ("CastLike", 23302032890327034725),
    ("Compress", 23305966926388622195),
    ("Constant", 23305968038818442868),
    ("GatherND", 23590264314870779460),
    ("Gradient", 23595028481640328820),
    ("Identity", 23735207461223232633),
    ("Momentum", 24026542819457135981),
    ("Optional", 24170947196287345004),
    ("ReduceL1", 24384006212808952881),
    ("ReduceL2", 24384006212808952882),
    ("RoiAlign", 24386826236947162990),
    ("Softplus", 24458880751560848755),
    ("Softsign", 24458880751610980206),
    ("TO_FLOAT", 24521923251588251988),
    ("Upsample", 24603291626610125925),
    ("auto_pad", 25469391289355100516),
    ("bilinear", 25538062362060611954),
    ("constant", 25611811048032136820),
    ("equation", 25756496805333921646),
    ("keepdims", 26185447141810990451),
    ("map_form", 26328448451627414125),
    ("maxsplit", 26328457333787355508),
    ("momentum", 26332385828670829933),
    ("new_axis", 26401639642070280563),
    ("onesided", 26476210805721556324),
    ("paddings", 26544608061126764403),
    ("past_key", 26544624622352688505),
    ("periodic", 26545749375771240803),
    ("position", 26548565225134190446),
    ("prob_mod", 26549405221600980836),
    ("saturate", 26760798508591182949),
    ("Attention", 5929796291191538020206),
    ("Bernoulli", 5947161618304641821801),
    ("Binarizer", 5947448708499920020850),
    ("BitwiseOr", 5947450421500547780466),
    ("HardSwish", 6057553841255405417320),
    ("LeakyRelu", 6131624270710960385141),
    ("MaxUnpool", 6149789234096986091372),
    ("ReduceMax", 6242305590479092015480),
    ("ReduceMin", 6242305590479092017518),
    ("ReduceSum", 6242305590479092413805),
    ("ScatterND", 6260607373913300815428),
    ("Transpose", 6280134975296398914405),
    ("Unsqueeze", 6298298558850477161061),
    ("allowzero", 6519513400031997948527),
    ("antialias", 6519659760328093819251),
    ("attn_mask", 6520092111381305848683),
    ("blocksize", 6537960975284841314917),
    ("broadcast", 6538393318619711894388),
    ("ceil_mode", 6555901637194389873765),
    ("class_ids", 6556403796335087150195),
    ("condition", 6556623611756626407278),
    ("cos_cache", 6556625013607862855781),
    ("delimiter", 6574349222454557435250),
    ("dilations", 6574637444064680570483),
    ("direction", 6574639137239757057902),
    ("exclusive", 6594162530873258899045),
    ("initial_c", 6667230628821829705571),
    ("initial_h", 6667230628821829705576),
    ("input_var", 6667232600293390049650),
    ("is_causal", 6667588083316530831724),
    ("n_targets", 6758386560652586349683),
    ("num_heads", 6759969855154577040499),
    ("one_class", 6777909944248850019187),
    ("precision", 6796644923122645561198),
    ("reduction", 6832601400838051164014),
    ("score_mod", 6850907122658131668836),
    ("sin_cache", 6851339165848104560741),
    ("stopwords", 6852132099635331359859),
    ("threshold", 6869714984893590498404),
    ("time_axis", 6869785635026728675699),
    ("v_initial", 6905957431272733761900),
    ("value_int", 6906102398564788956788),
    ("AffineGrid", 1517768588447520180562276),
    ("BitwiseAnd", 1522547307904140230880868),
    ("BitwiseNot", 1522547307904140231733108),
    ("BitwiseXor", 1522547307904140232388466),
    ("DeformConv", 1531917242845337605860982),
    ("GridSample", 1546324363009326440279141),
    ("HannWindow", 1550733497950095402102647),
    ("LogSoftmax", 1569880706321998775411064),
    ("MaxRoiPool", 1574346043085472436023148),
    ("Normalizer", 1579326239224254300841330),
    ("Reciprocal", 1598030155741703853793644),
    ("ReduceMean", 1598030231162647556219246),
    ("ReduceProd", 1598030231162647607406436),
    ("SequenceAt", 1602753534396477741547892),
    ("activation", 1668829984482223897276270),
    ("ai.onnx.ml", 1668935622595193164688748),
    ("batch_axis", 1673515455772694192613747),
    ("batch_dims", 1673515455772694241963379),
    ("block_size", 1673718009672833643936357),
    ("chunk_size", 1678367024621197422328421),
    ("dft_length", 1683052421337326157263976),
    ("directions", 1683107619133377806823027)]

/-- the translator's code of every text is the model's `enc` of it (the kernel evaluates `enc` on the strings) -/
theorem names0_enc : names0.all (fun p => enc p.1 == p.2) = true := by simp only [enc_eq]; decide +kernel

end OV.Gen.C17
