import OV.Model.C08View
import OV.Model.C08Slice
import OV.Model.C08Repl
import OV.Model.C08Reduce
import OV.Model.C08IntArith
import OV.Model.C08Creation
import OV.Model.C08Attr
import OV.Model.C08Misc
import OV.Model.C08Scalar
import OV.Model.C08Linalg
import OV.Lemmas.C08Rows
/-! GENERATED by harness/extract_torchlib.py from /repo's working tree — do not edit. -/
namespace OV.Gen.C08Trace

/-- (model term, term emitted by the real torch_lib function) — chunk 22. -/
def table22 : List (String × String) := [
  (OV.C08.softmax.term 0 1 (-1) false none,
   "Softmax(x0;axis=-1)"),
  (OV.C08.softmax.term 0 2 0 false none,
   "Softmax(x0;axis=0)"),
  (OV.C08.softmax.term 0 3 (-2) false (some 11),
   "Cast(Softmax(x0;axis=-2);to=11)"),
  (OV.C08.softmax.term 0 1 (-2) false (some 11),
   "Cast(Softmax(x0;axis=-2);to=11)"),
  (OV.C08.softmax.term 0 3 (-1) false (some 11),
   "Cast(Softmax(x0;axis=-1);to=11)"),
  (OV.C08.softmax.term 0 2 (-1) false none,
   "Softmax(x0;axis=-1)"),
  (OV.C08.softmax.term 0 2 (-1) false (some 11),
   "Cast(Softmax(x0;axis=-1);to=11)"),
  (OV.C08.softmax.term 0 3 (-2) false none,
   "Softmax(x0;axis=-2)"),
  (OV.C08.split.term 2 1 (-1),
   "SplitToSequence(x0,1;axis=-1,keepdims=1)"),
  (OV.C08.split.term 5 1 0,
   "SplitToSequence(x0,1;axis=0,keepdims=1)"),
  (OV.C08.split.term 3 4 1,
   "SplitToSequence(x0,4;axis=1,keepdims=1)"),
  (OV.C08.split.term 3 2 (-2),
   "SplitToSequence(x0,2;axis=-2,keepdims=1)"),
  (OV.C08.split.term 1 6 0,
   "SplitToSequence(x0,6;axis=0,keepdims=1)"),
  (OV.C08.split.term 0 6 1,
   "SequenceConstruct(x0)"),
  (OV.C08.split.term 2 2 (-2),
   "SplitToSequence(x0,2;axis=-2,keepdims=1)"),
  (OV.C08.split.term 4 2 (-2),
   "SplitToSequence(x0,2;axis=-2,keepdims=1)"),
  (OV.C08.split.term 2 2 0,
   "SplitToSequence(x0,2;axis=0,keepdims=1)"),
  (OV.C08.split.term 5 3 1,
   "SplitToSequence(x0,3;axis=1,keepdims=1)"),
  (OV.C08.split_with_sizes.term ([0, 0, 0] : List Int) (-2),
   "SplitToSequence(x0,[0,0,0];axis=-2,keepdims=1)"),
  (OV.C08.split_with_sizes.term ([0, 0, 4] : List Int) (-1),
   "SplitToSequence(x0,[0,0,4];axis=-1,keepdims=1)"),
  (OV.C08.split_with_sizes.term ([0, 1] : List Int) (-1),
   "SplitToSequence(x0,[0,1];axis=-1,keepdims=1)"),
  (OV.C08.split_with_sizes.term ([5] : List Int) (-1),
   "SplitToSequence(x0,[5];axis=-1,keepdims=1)"),
  (OV.C08.split_with_sizes.term ([5] : List Int) (-3),
   "SplitToSequence(x0,[5];axis=-3,keepdims=1)"),
  (OV.C08.split_with_sizes.term ([0, 0] : List Int) 0,
   "SplitToSequence(x0,[0,0];axis=0,keepdims=1)"),
  (OV.C08.split_with_sizes.term ([1, 0] : List Int) 1,
   "SplitToSequence(x0,[1,0];axis=1,keepdims=1)"),
  (OV.C08.split_with_sizes.term ([0, 1, 0] : List Int) 1,
   "SplitToSequence(x0,[0,1,0];axis=1,keepdims=1)"),
  (OV.C08.split_with_sizes.term ([3, 0, 0] : List Int) 1,
   "SplitToSequence(x0,[3,0,0];axis=1,keepdims=1)"),
  (OV.C08.split_with_sizes.term ([0, 2] : List Int) (-1),
   "SplitToSequence(x0,[0,2];axis=-1,keepdims=1)"),
  (OV.C08.squeeze.term,
   "Squeeze(x0)"),
  (OV.C08.squeeze_dim.term ([0, 2, 3, 0] : List Nat) 3,
   "Identity(x0)"),
  (OV.C08.squeeze_dim.term ([1, 0] : List Nat) 0,
   "Squeeze(x0,[0])"),
  (OV.C08.squeeze_dim.term ([] : List Nat) (-1),
   "Identity(x0)")
]

/-- kernel-checked: every row's model term is the emitted term (chunks build in parallel). -/
theorem ok22 : ∀ e ∈ table22, e.1 = e.2 := by
  unfold table22
  apply OV.C08.rows_of_reads
  · repeat (apply OV.C08.Reads.cons; with_reducible rfl)
    exact .nil
  · decide +kernel

end OV.Gen.C08Trace
