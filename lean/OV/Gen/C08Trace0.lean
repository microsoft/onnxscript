import OV.Model.C08View
import OV.Model.C08Slice
import OV.Model.C08Repl
import OV.Model.C08Reduce
import OV.Model.C08IntArith
import OV.Model.C08Creation
import OV.Model.C08Attr
import OV.Model.C08Misc
import OV.Model.C08Scalar
import OV.Model.C08Linalg
import OV.Lemmas.C08Rows
/-! GENERATED by harness/extract_torchlib.py from /repo's working tree — do not edit. -/
namespace OV.Gen.C08Trace

/-- (model term, term emitted by the real torch_lib function) — chunk 0. -/
def table0 : List (String × String) := [
  (OV.C08.softmax.term 2 0 (-1) true none,
   "Squeeze(LogSoftmax(Unsqueeze(Cast(x0;to=1),[0]);axis=-1),[0])"),
  (OV.C08.softmax.term 2 3 4 false none,
   "LogSoftmax(x0;axis=4)"),
  (OV.C08.softmax.term 2 2 1 false none,
   "LogSoftmax(x0;axis=1)"),
  (OV.C08.softmax.term 2 3 (-1) false none,
   "LogSoftmax(x0;axis=-1)"),
  (OV.C08.softmax.term 2 1 (-1) false none,
   "LogSoftmax(x0;axis=-1)"),
  (OV.C08.softmax.term 2 0 0 false none,
   "Squeeze(LogSoftmax(Unsqueeze(x0,[0]);axis=0),[0])"),
  (OV.C08.softmax.term 2 3 2 false none,
   "LogSoftmax(x0;axis=2)"),
  (OV.C08.softmax.term 2 2 (-1) true none,
   "LogSoftmax(Cast(x0;to=1);axis=-1)"),
  (OV.C08.softmax.term 2 3 0 false none,
   "LogSoftmax(x0;axis=0)"),
  (OV.C08.softmax.term 2 2 0 false none,
   "LogSoftmax(x0;axis=0)"),
  (OV.C08.softmax.term 1 3 0 true none,
   "Softmax(Cast(x0;to=1);axis=0)"),
  (OV.C08.softmax.term 1 1 0 false none,
   "Softmax(x0;axis=0)"),
  (OV.C08.softmax.term 1 2 (-2) false none,
   "Softmax(x0;axis=-2)"),
  (OV.C08.softmax.term 1 3 (-1) true none,
   "Softmax(Cast(x0;to=1);axis=-1)"),
  (OV.C08.softmax.term 1 0 (-1) false none,
   "Squeeze(Softmax(Unsqueeze(x0,[0]);axis=-1))"),
  (OV.C08.softmax.term 1 1 (-1) true none,
   "Softmax(Cast(x0;to=1);axis=-1)"),
  (OV.C08.softmax.term 1 3 2 false none,
   "Softmax(x0;axis=2)"),
  (OV.C08.softmax.term 1 1 0 true none,
   "Softmax(Cast(x0;to=1);axis=0)"),
  (OV.C08.softmax.term 1 3 (-3) false none,
   "Softmax(x0;axis=-3)"),
  (OV.C08.softmax.term 1 1 (-1) false none,
   "Softmax(x0;axis=-1)"),
  (OV.C08.addsub.term true OV.C08.DC.f32 "x1" (-3),
   "Add(x0,Mul(x1,CastLike(-1.5:FLOAT,x1)))"),
  (OV.C08.addsub.term true OV.C08.DC.i64 "x1" 2,
   "Add(x0,x1)"),
  (OV.C08.addsub.term true OV.C08.DC.bool "x1" 2,
   "Or(x0,x1)"),
  (OV.C08.addsub.term true OV.C08.DC.f32 "x1" 2,
   "Add(x0,x1)"),
  (OV.C08.addsub.term true OV.C08.DC.i64 "x1" 4,
   "Add(x0,Mul(x1,CastLike(2,x1)))"),
  (OV.C08.addsub.term true OV.C08.DC.i64 "x1" (-4),
   "Add(x0,Mul(x1,CastLike(-2,x1)))"),
  (OV.C08.addsub.term true OV.C08.DC.f32 "x1" 5,
   "Add(x0,Mul(x1,CastLike(2.5:FLOAT,x1)))"),
  (OV.C08.addsub.term true OV.C08.DC.i64 "x1" 0,
   "Add(x0,Mul(x1,CastLike(0,x1)))"),
  (OV.C08.addsub.term true OV.C08.DC.bool "x1" 0,
   "Or(x0,And(x1,0:BOOL))"),
  (OV.C08.addsub.term true OV.C08.DC.f32 "x1" 1,
   "Add(x0,Mul(x1,CastLike(0.5:FLOAT,x1)))"),
  (OV.C08.addsub.term true OV.C08.DC.i64 (OV.C08.halfStr OV.C08.DC.i64 6) 6,
   "Add(x0,Mul(3,CastLike(3,3)))"),
  (OV.C08.addsub.term true OV.C08.DC.f32 (OV.C08.halfStr OV.C08.DC.f32 6) 5,
   "Add(x0,Mul(3.0:FLOAT,CastLike(2.5:FLOAT,3.0:FLOAT)))")
]

/-- kernel-checked: every row's model term is the emitted term (chunks build in parallel). -/
theorem ok0 : ∀ e ∈ table0, e.1 = e.2 := by
  unfold table0
  apply OV.C08.rows_of_reads
  · repeat (apply OV.C08.Reads.cons; with_reducible rfl)
    exact .nil
  · decide +kernel

end OV.Gen.C08Trace
