-- GENERATED by harness/extract_opsets.py from /repo's working tree and the installed onnx.defs. Do not edit.
import OV.Gen.C17Tables
import OV.Lemmas.C17
namespace OV.Gen.C17
open OV.C17

/-- `Opset` (the base of every version-1 class) -/
def opsetBase : Nat := 1440700654964

theorem chain_ok : chainOk opsetBase classes = true := by decide +kernel

theorem exports_ok : exportsOk classes exports = true := by decide +kernel

theorem classes_generated : classes.all (fun c => !ungeneratedDomains.contains c.domain) = true := by decide +kernel

theorem schemas_have_class_beq : schemas.all (fun s => ungeneratedDomains.contains s.domain ||
    classes.any (fun c => Nat.beq c.version s.since && Nat.beq c.domain s.domain)) = true := by decide +kernel

theorem schemas_have_class : schemas.all (fun s => ungeneratedDomains.contains s.domain ||
    classes.any (fun c => c.domain == s.domain && c.version == s.since)) = true := by
  simp only [classAt_beq]; exact schemas_have_class_beq

/-- every class defines, method by method, the schemas registered at its (domain, version) -/
theorem classes_ok : classes.all (classOk schemas classes) = true := by decide +kernel

/-- every generated method forwards each positional parameter (then `*vararg`) through `_prepare_inputs` in order and
each keyword-only parameter as `kw=kw` (stubs forward nothing) -/
theorem forwarding_ok : classes.all (fun c => c.methods.all forwardsOwnParams) = true :=
  forwards_of_classOk classes_ok

/-- the registry is listed by strictly increasing (domain, name, since_version) -/
theorem keys_ascending : increasing (schemas.map Schema.rank) = true := by decide +kernel

/-- the parameter names of every generated `def` are pairwise distinct -/
theorem params_distinct : classes.all (fun c => c.methods.all paramsDistinct) = true := by decide +kernel

end OV.Gen.C17
