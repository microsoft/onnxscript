import OV.Model.C08View
import OV.Model.C08Slice
import OV.Model.C08Repl
import OV.Model.C08Reduce
import OV.Model.C08IntArith
import OV.Model.C08Creation
import OV.Model.C08Attr
import OV.Model.C08Misc
import OV.Model.C08Scalar
import OV.Model.C08Linalg
import OV.Lemmas.C08Rows
/-! GENERATED by harness/extract_torchlib.py from /repo's working tree — do not edit. -/
namespace OV.Gen.C08Trace

/-- (model term, term emitted by the real torch_lib function) — chunk 17. -/
def table17 : List (String × String) := [
  (OV.C08.pixel_shuffle.term ([3, 1, 18, 3, 2] : List Nat) 3,
   "Reshape(DepthToSpace(Reshape(x0,[3,18,3,2];allowzero=1);blocksize=3,mode=CRD),[3,1,2,9,6];allowzero=1)"),
  (OV.C08.pixel_shuffle.term ([12, 1, 1] : List Nat) 2,
   "Reshape(DepthToSpace(Reshape(x0,[1,12,1,1];allowzero=1);blocksize=2,mode=CRD),[3,2,2];allowzero=1)"),
  (OV.C08.pixel_shuffle.term ([2, 1, 27, 1, 1] : List Nat) 3,
   "Reshape(DepthToSpace(Reshape(x0,[2,27,1,1];allowzero=1);blocksize=3,mode=CRD),[2,1,3,3,3];allowzero=1)"),
  (OV.C08.pixel_shuffle.term ([3, 4, 3, 1] : List Nat) 2,
   "DepthToSpace(x0;blocksize=2,mode=CRD)"),
  (OV.C08.pixel_shuffle.term ([2, 1] : List Nat) 2,
   "Reshape(DepthToSpace(Reshape(x0,Concat([-1],Shape(x0;start=-3);axis=0);allowzero=0);blocksize=2,mode=CRD),Concat(Shape(x0;end=-3,start=0),Shape(DepthToSpace(Reshape(x0,Concat([-1],Shape(x0;start=-3);axis=0);allowzero=0);blocksize=2,mode=CRD);start=1);axis=0);allowzero=1)"),
  (OV.C08.pixel_shuffle.term ([2, 3, 3, 4, 1, 1] : List Nat) 2,
   "Reshape(DepthToSpace(Reshape(x0,[18,4,1,1];allowzero=1);blocksize=2,mode=CRD),[2,3,3,1,2,2];allowzero=1)"),
  (OV.C08.pixel_shuffle.term ([3, 27, 1, 2] : List Nat) 3,
   "DepthToSpace(x0;blocksize=3,mode=CRD)"),
  (OV.C08.pixel_shuffle.term ([3, 3, 3, 12, 3, 1] : List Nat) 2,
   "Reshape(DepthToSpace(Reshape(x0,[27,12,3,1];allowzero=1);blocksize=2,mode=CRD),[3,3,3,3,6,2];allowzero=1)"),
  (OV.C08.pixel_shuffle.term ([2, 2, 8, 2, 1] : List Nat) 2,
   "Reshape(DepthToSpace(Reshape(x0,[4,8,2,1];allowzero=1);blocksize=2,mode=CRD),[2,2,2,4,2];allowzero=1)"),
  (OV.C08.pixel_shuffle.term ([1, 1, 1, 9, 1, 1] : List Nat) 3,
   "Reshape(DepthToSpace(Reshape(x0,[1,9,1,1];allowzero=1);blocksize=3,mode=CRD),[1,1,1,1,3,3];allowzero=1)"),
  (OV.C08.pixel_unshuffle.term 1,
   "Reshape(Reshape(Transpose(Reshape(Reshape(x0,Concat([-1],Shape(x0;start=-3);axis=0);allowzero=0),Concat([-1],Shape(Reshape(x0,Concat([-1],Shape(x0;start=-3);axis=0);allowzero=0);end=2,start=1),Div(Shape(Reshape(x0,Concat([-1],Shape(x0;start=-3);axis=0);allowzero=0);end=3,start=2),[1]),[1],Div(Shape(Reshape(x0,Concat([-1],Shape(x0;start=-3);axis=0);allowzero=0);end=4,start=3),[1]),[1];axis=0);allowzero=0);perm=[0,1,3,5,2,4]),Concat([-1],Mul(Shape(Reshape(x0,Concat([-1],Shape(x0;start=-3);axis=0);allowzero=0);end=2,start=1),Mul([1],[1])),Div(Shape(Reshape(x0,Concat([-1],Shape(x0;start=-3);axis=0);allowzero=0);end=3,start=2),[1]),Div(Shape(Reshape(x0,Concat([-1],Shape(x0;start=-3);axis=0);allowzero=0);end=4,start=3),[1]);axis=0);allowzero=0),Concat(Shape(x0;end=-3,start=0),Shape(Reshape(Transpose(Reshape(Reshape(x0,Concat([-1],Shape(x0;start=-3);axis=0);allowzero=0),Concat([-1],Shape(Reshape(x0,Concat([-1],Shape(x0;start=-3);axis=0);allowzero=0);end=2,start=1),Div(Shape(Reshape(x0,Concat([-1],Shape(x0;start=-3);axis=0);allowzero=0);end=3,start=2),[1]),[1],Div(Shape(Reshape(x0,Concat([-1],Shape(x0;start=-3);axis=0);allowzero=0);end=4,start=3),[1]),[1];axis=0);allowzero=0);perm=[0,1,3,5,2,4]),Concat([-1],Mul(Shape(Reshape(x0,Concat([-1],Shape(x0;start=-3);axis=0);allowzero=0);end=2,start=1),Mul([1],[1])),Div(Shape(Reshape(x0,Concat([-1],Shape(x0;start=-3);axis=0);allowzero=0);end=3,start=2),[1]),Div(Shape(Reshape(x0,Concat([-1],Shape(x0;start=-3);axis=0);allowzero=0);end=4,start=3),[1]);axis=0);allowzero=0);start=1);axis=0);allowzero=1)"),
  (OV.C08.pixel_unshuffle.term 3,
   "Reshape(Reshape(Transpose(Reshape(Reshape(x0,Concat([-1],Shape(x0;start=-3);axis=0);allowzero=0),Concat([-1],Shape(Reshape(x0,Concat([-1],Shape(x0;start=-3);axis=0);allowzero=0);end=2,start=1),Div(Shape(Reshape(x0,Concat([-1],Shape(x0;start=-3);axis=0);allowzero=0);end=3,start=2),[3]),[3],Div(Shape(Reshape(x0,Concat([-1],Shape(x0;start=-3);axis=0);allowzero=0);end=4,start=3),[3]),[3];axis=0);allowzero=0);perm=[0,1,3,5,2,4]),Concat([-1],Mul(Shape(Reshape(x0,Concat([-1],Shape(x0;start=-3);axis=0);allowzero=0);end=2,start=1),Mul([3],[3])),Div(Shape(Reshape(x0,Concat([-1],Shape(x0;start=-3);axis=0);allowzero=0);end=3,start=2),[3]),Div(Shape(Reshape(x0,Concat([-1],Shape(x0;start=-3);axis=0);allowzero=0);end=4,start=3),[3]);axis=0);allowzero=0),Concat(Shape(x0;end=-3,start=0),Shape(Reshape(Transpose(Reshape(Reshape(x0,Concat([-1],Shape(x0;start=-3);axis=0);allowzero=0),Concat([-1],Shape(Reshape(x0,Concat([-1],Shape(x0;start=-3);axis=0);allowzero=0);end=2,start=1),Div(Shape(Reshape(x0,Concat([-1],Shape(x0;start=-3);axis=0);allowzero=0);end=3,start=2),[3]),[3],Div(Shape(Reshape(x0,Concat([-1],Shape(x0;start=-3);axis=0);allowzero=0);end=4,start=3),[3]),[3];axis=0);allowzero=0);perm=[0,1,3,5,2,4]),Concat([-1],Mul(Shape(Reshape(x0,Concat([-1],Shape(x0;start=-3);axis=0);allowzero=0);end=2,start=1),Mul([3],[3])),Div(Shape(Reshape(x0,Concat([-1],Shape(x0;start=-3);axis=0);allowzero=0);end=3,start=2),[3]),Div(Shape(Reshape(x0,Concat([-1],Shape(x0;start=-3);axis=0);allowzero=0);end=4,start=3),[3]);axis=0);allowzero=0);start=1);axis=0);allowzero=1)"),
  (OV.C08.pixel_unshuffle.term 2,
   "Reshape(Reshape(Transpose(Reshape(Reshape(x0,Concat([-1],Shape(x0;start=-3);axis=0);allowzero=0),Concat([-1],Shape(Reshape(x0,Concat([-1],Shape(x0;start=-3);axis=0);allowzero=0);end=2,start=1),Div(Shape(Reshape(x0,Concat([-1],Shape(x0;start=-3);axis=0);allowzero=0);end=3,start=2),[2]),[2],Div(Shape(Reshape(x0,Concat([-1],Shape(x0;start=-3);axis=0);allowzero=0);end=4,start=3),[2]),[2];axis=0);allowzero=0);perm=[0,1,3,5,2,4]),Concat([-1],Mul(Shape(Reshape(x0,Concat([-1],Shape(x0;start=-3);axis=0);allowzero=0);end=2,start=1),Mul([2],[2])),Div(Shape(Reshape(x0,Concat([-1],Shape(x0;start=-3);axis=0);allowzero=0);end=3,start=2),[2]),Div(Shape(Reshape(x0,Concat([-1],Shape(x0;start=-3);axis=0);allowzero=0);end=4,start=3),[2]);axis=0);allowzero=0),Concat(Shape(x0;end=-3,start=0),Shape(Reshape(Transpose(Reshape(Reshape(x0,Concat([-1],Shape(x0;start=-3);axis=0);allowzero=0),Concat([-1],Shape(Reshape(x0,Concat([-1],Shape(x0;start=-3);axis=0);allowzero=0);end=2,start=1),Div(Shape(Reshape(x0,Concat([-1],Shape(x0;start=-3);axis=0);allowzero=0);end=3,start=2),[2]),[2],Div(Shape(Reshape(x0,Concat([-1],Shape(x0;start=-3);axis=0);allowzero=0);end=4,start=3),[2]),[2];axis=0);allowzero=0);perm=[0,1,3,5,2,4]),Concat([-1],Mul(Shape(Reshape(x0,Concat([-1],Shape(x0;start=-3);axis=0);allowzero=0);end=2,start=1),Mul([2],[2])),Div(Shape(Reshape(x0,Concat([-1],Shape(x0;start=-3);axis=0);allowzero=0);end=3,start=2),[2]),Div(Shape(Reshape(x0,Concat([-1],Shape(x0;start=-3);axis=0);allowzero=0);end=4,start=3),[2]);axis=0);allowzero=0);start=1);axis=0);allowzero=1)"),
  (OV.C08.prod.term false none,
   "ReduceProd(x0;keepdims=0,noop_with_empty_axes=0)"),
  (OV.C08.prod.term true none,
   "ReduceProd(Cast(x0;to=7);keepdims=0,noop_with_empty_axes=0)"),
  (OV.C08.prod.term false (some 7),
   "ReduceProd(Cast(x0;to=7);keepdims=0,noop_with_empty_axes=0)"),
  (OV.C08.prod.term true (some 11),
   "ReduceProd(Cast(x0;to=11);keepdims=0,noop_with_empty_axes=0)"),
  (OV.C08.prod.term false (some 11),
   "ReduceProd(Cast(x0;to=11);keepdims=0,noop_with_empty_axes=0)"),
  (OV.C08.prod_dim.term 0 (-1) false (some 7),
   "Identity(Cast(x0;to=7))"),
  (OV.C08.prod_dim.term 4 (-1) false none,
   "ReduceProd(x0,[-1];keepdims=0,noop_with_empty_axes=0)"),
  (OV.C08.prod_dim.term 4 (-3) false none,
   "ReduceProd(x0,[-3];keepdims=0,noop_with_empty_axes=0)"),
  (OV.C08.prod_dim.term 4 0 true (some 7),
   "ReduceProd(Cast(x0;to=7),[0];keepdims=1,noop_with_empty_axes=0)"),
  (OV.C08.prod_dim.term 0 1 true none,
   "Identity(x0)"),
  (OV.C08.prod_dim.term 3 (-3) true none,
   "ReduceProd(x0,[-3];keepdims=1,noop_with_empty_axes=0)"),
  (OV.C08.prod_dim.term 2 1 false none,
   "ReduceProd(x0,[1];keepdims=0,noop_with_empty_axes=0)"),
  (OV.C08.prod_dim.term 4 (-2) true (some 11),
   "ReduceProd(Cast(x0;to=11),[-2];keepdims=1,noop_with_empty_axes=0)"),
  (OV.C08.prod_dim.term 4 2 true none,
   "ReduceProd(x0,[2];keepdims=1,noop_with_empty_axes=0)"),
  (OV.C08.prod_dim.term 4 (-2) false none,
   "ReduceProd(x0,[-2];keepdims=0,noop_with_empty_axes=0)"),
  (OV.C08.pad.termMode 2 ([2, 1] : List Int) "reflect",
   "Pad(x0,[0,2,0,1];mode=reflect)"),
  (OV.C08.pad.termMode 2 ([1, 1] : List Int) "reflect",
   "Pad(x0,[0,1,0,1];mode=reflect)"),
  (OV.C08.pad.termMode 3 ([0, 1] : List Int) "reflect",
   "Pad(x0,[0,0,0,0,0,1];mode=reflect)"),
  (OV.C08.pad.termMode 3 ([1, 2] : List Int) "reflect",
   "Pad(x0,[0,0,1,0,0,2];mode=reflect)")
]

/-- kernel-checked: every row's model term is the emitted term (chunks build in parallel). -/
theorem ok17 : ∀ e ∈ table17, e.1 = e.2 := by
  unfold table17
  apply OV.C08.rows_of_reads
  · repeat (apply OV.C08.Reads.cons; with_reducible rfl)
    exact .nil
  · decide +kernel

end OV.Gen.C08Trace
