import OV.Model.C08View
import OV.Model.C08Slice
import OV.Model.C08Repl
import OV.Model.C08Reduce
import OV.Model.C08IntArith
import OV.Model.C08Creation
import OV.Model.C08Attr
import OV.Model.C08Misc
import OV.Model.C08Scalar
import OV.Model.C08Linalg
import OV.Lemmas.C08Rows
/-! GENERATED by harness/extract_torchlib.py from /repo's working tree — do not edit. -/
namespace OV.Gen.C08Trace

/-- (model term, term emitted by the real torch_lib function) — chunk 27. -/
def table27 : List (String × String) := [
  (OV.C08.unflatten.term ([0, 4, 2, 2] : List Nat) 3 ([2, 1] : List Int),
   "Reshape(x0,Concat(Slice(Shape(x0;start=0),[0],Reshape(3,[1];allowzero=0)),Reshape(2,[1];allowzero=0),Reshape(1,[1];allowzero=0);axis=0);allowzero=1)"),
  (OV.C08.unflatten.term ([1, 1, 5] : List Nat) 2 ([5] : List Int),
   "Reshape(x0,Concat(Slice(Shape(x0;start=0),[0],Reshape(2,[1];allowzero=0)),Reshape(5,[1];allowzero=0);axis=0);allowzero=1)"),
  (OV.C08.unfold_.term 1 (-1) 4 1,
   "Transpose(Gather(x0,Add(Unsqueeze(Range(0,Sub(Gather(Shape(x0;start=0),[0];axis=0),3),1),[1]),Unsqueeze([0,1,2,3],[0]));axis=0);perm=[0,1])"),
  (OV.C08.unfold_.term 1 0 6 1,
   "Transpose(Gather(x0,Add(Unsqueeze(Range(0,Sub(Gather(Shape(x0;start=0),[0];axis=0),5),1),[1]),Unsqueeze([0,1,2,3,4,5],[0]));axis=0);perm=[0,1])"),
  (OV.C08.unfold_.term 1 (-1) 0 2,
   "Transpose(Gather(x0,Add(Unsqueeze(Range(0,Sub(Gather(Shape(x0;start=0),[0];axis=0),-1),2),[1]),Unsqueeze([],[0]));axis=0);perm=[0,1])"),
  (OV.C08.unfold_.term 1 0 3 1,
   "Transpose(Gather(x0,Add(Unsqueeze(Range(0,Sub(Gather(Shape(x0;start=0),[0];axis=0),2),1),[1]),Unsqueeze([0,1,2],[0]));axis=0);perm=[0,1])"),
  (OV.C08.unfold_.term 2 (-1) 1 5,
   "Transpose(Gather(x0,Add(Unsqueeze(Range(0,Sub(Gather(Shape(x0;start=0),[1];axis=0),0),5),[1]),Unsqueeze([0],[0]));axis=1);perm=[0,1,2])"),
  (OV.C08.unfold_.term 1 (-1) 3 5,
   "Transpose(Gather(x0,Add(Unsqueeze(Range(0,Sub(Gather(Shape(x0;start=0),[0];axis=0),2),5),[1]),Unsqueeze([0,1,2],[0]));axis=0);perm=[0,1])"),
  (OV.C08.unfold_.term 2 1 1 1,
   "Transpose(Gather(x0,Add(Unsqueeze(Range(0,Sub(Gather(Shape(x0;start=0),[1];axis=0),0),1),[1]),Unsqueeze([0],[0]));axis=1);perm=[0,1,2])"),
  (OV.C08.unfold_.term 3 (-1) 4 1,
   "Transpose(Gather(x0,Add(Unsqueeze(Range(0,Sub(Gather(Shape(x0;start=0),[2];axis=0),3),1),[1]),Unsqueeze([0,1,2,3],[0]));axis=2);perm=[0,1,2,3])"),
  (OV.C08.unfold_.term 3 (-2) 1 2,
   "Transpose(Gather(x0,Add(Unsqueeze(Range(0,Sub(Gather(Shape(x0;start=0),[1];axis=0),0),2),[1]),Unsqueeze([0],[0]));axis=1);perm=[0,1,3,2])"),
  (OV.C08.unfold_.term 0 (-1) 0 1,
   "Unsqueeze(x0,[0])"),
  (OV.C08.unsqueeze.term (-1),
   "Unsqueeze(x0,[-1])"),
  (OV.C08.unsqueeze.term 4,
   "Unsqueeze(x0,[4])"),
  (OV.C08.unsqueeze.term 3,
   "Unsqueeze(x0,[3])"),
  (OV.C08.unsqueeze.term 1,
   "Unsqueeze(x0,[1])"),
  (OV.C08.unsqueeze.term 0,
   "Unsqueeze(x0,[0])"),
  (OV.C08.unsqueeze.term (-3),
   "Unsqueeze(x0,[-3])"),
  (OV.C08.unsqueeze.term (-2),
   "Unsqueeze(x0,[-2])"),
  (OV.C08.unsqueeze.term 2,
   "Unsqueeze(x0,[2])"),
  (OV.C08.unsqueeze.term (-4),
   "Unsqueeze(x0,[-4])"),
  (OV.C08.upsample.term ([3, 9] : List Int) none "linear" "align_corners",
   "Resize(x0,_,_,Concat(Shape(x0;end=2,start=0),Cast([3,9];to=7);axis=0);antialias=0,coordinate_transformation_mode=align_corners,cubic_coeff_a=-0.75,exclude_outside=0,extrapolation_value=0.0,keep_aspect_ratio_policy=stretch,mode=linear,nearest_mode=floor)"),
  (OV.C08.upsample.term ([1, 5] : List Int) none "linear" "half_pixel",
   "Resize(x0,_,_,Concat(Shape(x0;end=2,start=0),Cast([1,5];to=7);axis=0);antialias=0,coordinate_transformation_mode=half_pixel,cubic_coeff_a=-0.75,exclude_outside=0,extrapolation_value=0.0,keep_aspect_ratio_policy=stretch,mode=linear,nearest_mode=floor)"),
  (OV.C08.upsample.term ([4, 3] : List Int) none "linear" "align_corners",
   "Resize(x0,_,_,Concat(Shape(x0;end=2,start=0),Cast([4,3];to=7);axis=0);antialias=0,coordinate_transformation_mode=align_corners,cubic_coeff_a=-0.75,exclude_outside=0,extrapolation_value=0.0,keep_aspect_ratio_policy=stretch,mode=linear,nearest_mode=floor)"),
  (OV.C08.upsample.term ([6, 6] : List Int) none "linear" "half_pixel",
   "Resize(x0,_,_,Concat(Shape(x0;end=2,start=0),Cast([6,6];to=7);axis=0);antialias=0,coordinate_transformation_mode=half_pixel,cubic_coeff_a=-0.75,exclude_outside=0,extrapolation_value=0.0,keep_aspect_ratio_policy=stretch,mode=linear,nearest_mode=floor)"),
  (OV.C08.upsample.term ([7, 1] : List Int) none "linear" "half_pixel",
   "Resize(x0,_,_,Concat(Shape(x0;end=2,start=0),Cast([7,1];to=7);axis=0);antialias=0,coordinate_transformation_mode=half_pixel,cubic_coeff_a=-0.75,exclude_outside=0,extrapolation_value=0.0,keep_aspect_ratio_policy=stretch,mode=linear,nearest_mode=floor)"),
  (OV.C08.upsample.term ([2, 4] : List Int) none "linear" "align_corners",
   "Resize(x0,_,_,Concat(Shape(x0;end=2,start=0),Cast([2,4];to=7);axis=0);antialias=0,coordinate_transformation_mode=align_corners,cubic_coeff_a=-0.75,exclude_outside=0,extrapolation_value=0.0,keep_aspect_ratio_policy=stretch,mode=linear,nearest_mode=floor)"),
  (OV.C08.upsample.term ([5, 3] : List Int) none "linear" "align_corners",
   "Resize(x0,_,_,Concat(Shape(x0;end=2,start=0),Cast([5,3];to=7);axis=0);antialias=0,coordinate_transformation_mode=align_corners,cubic_coeff_a=-0.75,exclude_outside=0,extrapolation_value=0.0,keep_aspect_ratio_policy=stretch,mode=linear,nearest_mode=floor)"),
  (OV.C08.upsample.term ([12, 12] : List Int) none "linear" "half_pixel",
   "Resize(x0,_,_,Concat(Shape(x0;end=2,start=0),Cast([12,12];to=7);axis=0);antialias=0,coordinate_transformation_mode=half_pixel,cubic_coeff_a=-0.75,exclude_outside=0,extrapolation_value=0.0,keep_aspect_ratio_policy=stretch,mode=linear,nearest_mode=floor)"),
  (OV.C08.upsample.term ([1, 8] : List Int) none "linear" "half_pixel",
   "Resize(x0,_,_,Concat(Shape(x0;end=2,start=0),Cast([1,8];to=7);axis=0);antialias=0,coordinate_transformation_mode=half_pixel,cubic_coeff_a=-0.75,exclude_outside=0,extrapolation_value=0.0,keep_aspect_ratio_policy=stretch,mode=linear,nearest_mode=floor)"),
  (OV.C08.upsample.term ([7, 2] : List Int) none "linear" "align_corners",
   "Resize(x0,_,_,Concat(Shape(x0;end=2,start=0),Cast([7,2];to=7);axis=0);antialias=0,coordinate_transformation_mode=align_corners,cubic_coeff_a=-0.75,exclude_outside=0,extrapolation_value=0.0,keep_aspect_ratio_policy=stretch,mode=linear,nearest_mode=floor)"),
  (OV.C08.upsample.term ([4] : List Int) (some ([3] : List Int)) "nearest" "asymmetric",
   "Resize(x0,_,[1.0:FLOAT,1.0:FLOAT,1.5:FLOAT];antialias=0,coordinate_transformation_mode=asymmetric,cubic_coeff_a=-0.75,exclude_outside=0,extrapolation_value=0.0,keep_aspect_ratio_policy=stretch,mode=nearest,nearest_mode=floor)")
]

/-- kernel-checked: every row's model term is the emitted term (chunks build in parallel). -/
theorem ok27 : ∀ e ∈ table27, e.1 = e.2 := by
  unfold table27
  apply OV.C08.rows_of_reads
  · repeat (apply OV.C08.Reads.cons; with_reducible rfl)
    exact .nil
  · decide +kernel

end OV.Gen.C08Trace
