import OV.Model.C08View
import OV.Model.C08Slice
import OV.Model.C08Repl
import OV.Model.C08Reduce
import OV.Model.C08IntArith
import OV.Model.C08Creation
import OV.Model.C08Attr
import OV.Model.C08Misc
import OV.Model.C08Scalar
import OV.Model.C08Linalg
import OV.Lemmas.C08Rows
/-! GENERATED by harness/extract_torchlib.py from /repo's working tree — do not edit. -/
namespace OV.Gen.C08Trace

/-- (model term, term emitted by the real torch_lib function) — chunk 18. -/
def table18 : List (String × String) := [
  (OV.C08.pad.termMode 2 ([0, 0] : List Int) "reflect",
   "Pad(x0,[0,0,0,0];mode=reflect)"),
  (OV.C08.pad.termMode 2 ([2, 0] : List Int) "reflect",
   "Pad(x0,[0,2,0,0];mode=reflect)"),
  (OV.C08.pad.termMode 3 ([2, 0] : List Int) "reflect",
   "Pad(x0,[0,0,2,0,0,0];mode=reflect)"),
  (OV.C08.pad.termMode 2 ([2, 2] : List Int) "reflect",
   "Pad(x0,[0,2,0,2];mode=reflect)"),
  (OV.C08.pad.termMode 3 ([1, 1] : List Int) "reflect",
   "Pad(x0,[0,0,1,0,0,1];mode=reflect)"),
  (OV.C08.pad.termMode 3 ([0, 0] : List Int) "reflect",
   "Pad(x0,[0,0,0,0,0,0];mode=reflect)"),
  (OV.C08.pad.termMode 4 ([2, 2, 2, 0] : List Int) "reflect",
   "Pad(x0,[0,0,2,2,0,0,0,2];mode=reflect)"),
  (OV.C08.pad.termMode 4 ([0, 0, 0, 1] : List Int) "reflect",
   "Pad(x0,[0,0,0,0,0,0,1,0];mode=reflect)"),
  (OV.C08.pad.termMode 4 ([0, 1, 0, 2] : List Int) "reflect",
   "Pad(x0,[0,0,0,0,0,0,2,1];mode=reflect)"),
  (OV.C08.pad.termMode 3 ([2, 0, 0, 0] : List Int) "reflect",
   "Pad(x0,[0,0,2,0,0,0];mode=reflect)"),
  (OV.C08.pad.termMode 4 ([2, 0, 0, 2] : List Int) "reflect",
   "Pad(x0,[0,0,0,2,0,0,2,0];mode=reflect)"),
  (OV.C08.pad.termMode 4 ([1, 2, 0, 0] : List Int) "reflect",
   "Pad(x0,[0,0,0,1,0,0,0,2];mode=reflect)"),
  (OV.C08.pad.termMode 3 ([2, 0, 0, 1] : List Int) "reflect",
   "Pad(x0,[0,0,2,0,1,0];mode=reflect)"),
  (OV.C08.pad.termMode 3 ([2, 1, 0, 0] : List Int) "reflect",
   "Pad(x0,[0,0,2,0,0,1];mode=reflect)"),
  (OV.C08.pad.termMode 3 ([0, 1, 0, 0] : List Int) "reflect",
   "Pad(x0,[0,0,0,0,0,1];mode=reflect)"),
  (OV.C08.pad.termMode 4 ([0, 0, 0, 2] : List Int) "reflect",
   "Pad(x0,[0,0,0,0,0,0,2,0];mode=reflect)"),
  (OV.C08.repeat_.term ([1, 2, 3, 3] : List Int),
   "Tile(Expand(x0,[1,1,1,1]),[1,2,3,3])"),
  (OV.C08.repeat_.term ([1, 0, 2, 1, 2] : List Int),
   "Tile(Expand(x0,[1,1,1,1,1]),[1,0,2,1,2])"),
  (OV.C08.repeat_.term ([1, 1] : List Int),
   "Tile(Expand(x0,[1,1]),[1,1])"),
  (OV.C08.repeat_.term ([2] : List Int),
   "Tile(Expand(x0,[1]),[2])"),
  (OV.C08.repeat_.term ([] : List Int),
   "x0"),
  (OV.C08.repeat_.term ([3, 1, 2, 3] : List Int),
   "Tile(Expand(x0,[1,1,1,1]),[3,1,2,3])"),
  (OV.C08.repeat_.term ([1, 1, 1] : List Int),
   "Tile(Expand(x0,[1,1,1]),[1,1,1])"),
  (OV.C08.repeat_.term ([2, 0, 0] : List Int),
   "Tile(Expand(x0,[1,1,1]),[2,0,0])"),
  (OV.C08.repeat_.term ([1, 0, 0] : List Int),
   "Tile(Expand(x0,[1,1,1]),[1,0,0])"),
  (OV.C08.repeat_.term ([3, 2, 0] : List Int),
   "Tile(Expand(x0,[1,1,1]),[3,2,0])"),
  (OV.C08.repeat_interleave.term ([5, 1] : List Nat) 1 (some 1),
   "Reshape(Expand(Unsqueeze(x0,[2]),[1,1,1]),[5,1];allowzero=1)"),
  (OV.C08.repeat_interleave.term ([2, 3, 3] : List Nat) 0 none,
   "Reshape(Expand(Unsqueeze(Reshape(x0,[-1];allowzero=0),[1]),[1,0]),[0];allowzero=1)"),
  (OV.C08.repeat_interleave.term ([2] : List Nat) 1 (some 0),
   "Reshape(Expand(Unsqueeze(x0,[1]),[1,1]),[2];allowzero=1)"),
  (OV.C08.repeat_interleave.term ([4, 4] : List Nat) 0 (some (-2)),
   "Reshape(Expand(Unsqueeze(x0,[1]),[1,0,1]),[0,4];allowzero=1)"),
  (OV.C08.repeat_interleave.term ([4, 1] : List Nat) 2 (some 0),
   "Reshape(Expand(Unsqueeze(x0,[1]),[1,2,1]),[8,1];allowzero=1)"),
  (OV.C08.repeat_interleave.term ([3] : List Nat) 2 (some (-1)),
   "Reshape(Expand(Unsqueeze(x0,[1]),[1,2]),[6];allowzero=1)")
]

/-- kernel-checked: every row's model term is the emitted term (chunks build in parallel). -/
theorem ok18 : ∀ e ∈ table18, e.1 = e.2 := by
  unfold table18
  apply OV.C08.rows_of_reads
  · repeat (apply OV.C08.Reads.cons; with_reducible rfl)
    exact .nil
  · decide +kernel

end OV.Gen.C08Trace
