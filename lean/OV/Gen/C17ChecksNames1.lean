-- GENERATED by harness/extract_opsets.py from /repo's working tree and the installed onnx.defs. Do not edit.
import OV.Lemmas.C17
namespace OV.Gen.C17
open OV.C17

/-- texts 400… of the name set (sorted by code) with the code the translator wrote for each -/
def names1 : List (String × Nat) := [
    ("frame_step", 1692717150070590649165168),
    ("half_pixel", 1701849079043762234615148),
    ("input_data", 1706811545675107550721121),
    ("input_mean", 1706811545675107701973358),
    ("intercepts", 1706811829399702249436275),
    ("n_supports", 1730146893096807400895603),
    ("num_groups", 1730552282918528281309299),
    ("past_cache", 1739628519250471365601381),
    ("past_state", 1739628519250540403717221),
    ("past_value", 1739628519250552970573157),
    ("round_mode", 1749331649065061385725029),
    ("stash_type", 1754144809528191868301413),
    ("target_ids", 1758517909471851262338163),
    ("tree_roots", 1758830566802826487362675),
    ("value_ints", 1767962214032585972937843),
    ("AveragePool", 388624298704408505784168300),
    ("ConvInteger", 391009260080437078071403890),
    ("HardSigmoid", 396987848540498847576582500),
    ("LessOrEqual", 401842460811380676871151980),
    ("Multinomial", 403126815446884430109041004),
    ("QLinearConv", 407768845925827324620533366),
    ("SequenceMap", 410304904805498301837042032),
    ("StringSplit", 410375757887319801445771636),
    ("activations", 427220476027449317702725235),
    ("approximate", 427281793651323591345665125),
    ("base_values", 428419938372672841451922803),
    ("block_shape", 428471810476245412829294693),
    ("cats_int64s", 429628883647823623180661875),
    ("else_branch", 432098661862806377670271848),
    ("gated_delta", 434464585918872159917995105),
    ("hidden_size", 435710995450684919274633829),
    ("image_shape", 436938755612155181055176805),
    ("interleaved", 436943828326333671208805732),
    ("kernel_type", 439319142418588101525467237),
    ("keys_floats", 439319271904389196501054579),
    ("keys_int64s", 439319271904392503706924147),
    ("keys_tensor", 439319271904404559583473522),
    ("multi_class", 441812441674536019468317555),
    ("nodes_modes", 442992884643251723293713779),
    ("num_outputs", 443021384429398359755027571),
    ("pool_int64s", 445410939695450450671580275),
    ("q_num_heads", 446544289857043066693706867),
    ("sample_rate", 448971567421931104090813541),
    ("sample_size", 448971567421931104108116581),
    ("target_type", 450180584824793923344494693),
    ("then_branch", 450213402085195651117638504),
    ("update_rule", 451460087459094632978541669),
    ("value_float", 452598326792341996153299316),
    ("width_scale", 453844883898653879388171365),
    ("DepthToSpace", 100395775742283029846192907109),
    ("GlobalLpPool", 101332688197578805142459740012),
    ("ImageDecoder", 101952801122421068912157549938),
    ("LabelEncoder", 102866753728027417819308385650),
    ("RandomNormal", 104723720437133935242090733932),
    ("ReduceLogSum", 104728509229475269187921474925),
    ("SVMRegressor", 105019751092081966114076323698),
    ("SpaceToDepth", 105051277924310901653523952744),
    ("StringConcat", 105056194019153851573669683572),
    ("TreeEnsemble", 105363199709832375486692617317),
    ("a_zero_point", 109363634419876174952074407540),
    ("b_zero_point", 109673119429697520020799188596),
    ("cats_strings", 109984994213845668873355814771),
    ("coefficients", 110001848100516927356978230387),
    ("decay_factor", 110299234316541722827213270898),
    ("frame_length", 110933911147026221022832981096),
    ("height_scale", 111537202799487389018833906789),
    ("ignore_index", 111849129421070684056774272376),
    ("input_forget", 111857601457363850703179048308),
    ("kernel_shape", 112465700459158553985938452581),
    ("keys_strings", 112465733607527302288078956403),
    ("kv_num_heads", 112486162474282031090937980019),
    ("leaf_weights", 112775105040746494895638213747),
    ("nearest_mode", 113394075282181350031748981861),
    ("ngram_counts", 113396573101026951450929820787),
    ("nodes_splits", 113406178468672447764689941619),
    ("nodes_values", 113406178468672450998801098099),
    ("num_mel_bins", 113413474413777352440156876403),
    ("offset_group", 113704792848101726571260245360),
    ("output_dtype", 113722992794339395454541328485),
    ("output_shape", 113722992794339395518762938469),
    ("output_width", 113722992794339395535959782504),
    ("padding_mode", 114008223507677421937118635109),
    ("pixel_format", 114017989380222690063884837236),
    ("pool_strings", 114025200562038136711030925171),
    ("pooled_shape", 114025200562466237065140990053),
    ("position_ids", 114025219397674225178606396531),
    ("sparse_value", 114954798516308678971990242661),
    ("value_floats", 115865171658839551015244625011),
    ("value_string", 115865171658839565343306378855),
    ("w_zero_point", 116172304635945766464019590772),
    ("x_zero_point", 116481789645767111532744371828),
    ("y_zero_point", 116791274655588456601469152884),
    ("CenterCropPad", 25622088009605361218555340677476),
    ("ConvTranspose", 25625182868834721425597253251941),
    ("FlexAttention", 25861928030110068153143567937390),
    ("GlobalMaxPool", 25941168178580174381623274336108),
    ("HammingWindow", 26016989640228521380836702187383),
    ("MatMulInteger", 26413138764386061314162996766066),
    ("OneHotEncoder", 26575600236933035711794952562034),
    ("QLinearMatMul", 26723539086595019557266359416172),
    ("RandomUniform", 26809272431906289391161782006381),
    ("SVMClassifier", 26885056208866181241935571281266),
    ("SequenceEmpty", 26889742241333136709158228227193),
    ("SequenceErase", 26889742241333136709158311129957),
    ("TensorScatter", 26968966767809960402559931016562),
    ("align_corners", 28001093174246839017681709265523),
    ("batch_indices", 28076930280836939612209499301235),
    ("class_nodeids", 28159539884629445386804153377907),
    ("class_treeids", 28159539884629447078956843492467),
    ("class_weights", 28159539884629447909105335825523),
    ("cubic_coeff_a", 28162326411124841276955613880161),
    ("default_float", 28236607611739293598545177698676),
    ("default_int64", 28236607611739293598558096471604),
    ("iou_threshold", 28635861398832654460151497976932),
    ("kernel_params", 28791219317544589817071928438131),
    ("ngram_indexes", 29029522713862901259115217577331),
    ("nodes_nodeids", 29031981687980145219251802301555),
    ("nodes_treeids", 29031981687980146911404492416115),
    ("output_height", 29113086155350885240695933069428),
    ("sequence_lens", 29425043441789595512263286287987),
    ("spatial_scale", 29428428429435002745418632227941),
    ("storage_order", 29429683284843886187395472975218),
    ("training_mode", 29508275510115689214364695356517),
    ("value_strings", 29661483944662928727886432986995),
    ("values_floats", 29661483944664364234848824554611),
    ("values_int64s", 29661483944664364238156030424179),
    ("values_tensor", 29661483944664364250211906973554),
    ("write_indices", 29745969720844327783484161746291),
    ("BlackmanWindow", 6539522674164298166707138091839351),
    ("CategoryMapper", 6558939456594479829824083265086834),
    ("DictVectorizer", 6579850448306500166418697943672178),
    ("GatherElements", 6640069098626471331405774862578803),
    ("GreaterOrEqual", 6641411326722184691679595905507692),
    ("QuantizeLinear", 6844471885022314928129623177126258),
    ("RegexFullMatch", 6863488490073708392297140791305064),
    ("SequenceInsert", 6883774013781282997548908816986740),
    ("SequenceLength", 6883774013781282997552168613409896),
    ("constant_value", 7209083918262567750893504589231461),
    ("default_string", 7228571548605259161241893552615015),
    ("default_tensor", 7228571548605259161242928573280114),
    ("encoded_stream", 7249566100061060710934980428390765),
    ("input_sequence", 7330699769109798253616475453416293),
    ("leaf_targetids", 7390829283950306663551210600621171),
    ("max_skip_count", 7410801890690928315108687225384564),
    ("nodes_hitrates", 7432187312122916742111695188813171),
    ("output_padding", 7452950055769826623865539107843687),
    ("post_transform", 7472756791645195467640761054360173),
    ("sampling_ratio", 7532492964496376135191835383720303),
    ("target_nodeids", 7552776910611889805738133366072435),
    ("target_treeids", 7552776910611889807430286056186995),
    ("target_weights", 7552776910611889808260434548520051),
    ("values_strings", 7593339889834077247789282894964595),
    ("ConstantOfShape", 1679371983602102860111240040296837221),
    ("LinearAttention", 1725980956515614120811100965117194094),
    ("LinearRegressor", 1725980956515614433321241387893747570),
    ("LpNormalization", 1726120401197018041076027053029551982),
    ("MelWeightMatrix", 1731091960951413077822099441493109112),
    ("ReduceLogSumExp", 1757052820700900157823903175859861616),
    ("ReduceSumSquare", 1757052820700900287385146088870736485),
    ("ReverseSequence", 1757054241874265717015897617648739173),
    ("RotaryEmbedding", 1757256906276064911681808240225119847),
    ("ScatterElements", 1762204314766807566381959607271453811),
    ("SplitToSequence", 1762468854197027252406796909645030245),
    ("TfIdfVectorizer", 1767455552409496814920608426965493106),
    ("ThresholdedRelu", 1767499365908653436283768986556263541),
    ("activation_beta", 1834897972719446817830718650150384737),
    ("ai.onnx.preview", 1835014123052992842020925615649678711),
    ("classes_strings", 1845463605879103758153531733650073459),
    ("consumed_inputs", 1845525483076482771272513834018239603),
    ("detect_negative", 1850515426853438312138114312513877605),
    ("detect_positive", 1850515426853438312285057478856111717),
    ("exclude_outside", 1856091744803760064252144364471018597),
    ("inputdimensions", 1876659140892131780863866743253069427),
    ("max_gram_length", 1897165284002403447607712947865351272),
    ("min_gram_length", 1897326750997607518327728590436136040),
    ("nodes_trueleafs", 1902639951903466907990308427510408819),
    ("num_scan_inputs", 1902762357557659926147195699847328883),
    ("output_datatype", 1907955214277075614844904462639263845),
    ("output_sequence", 1907955214277075615926891060227105637),
    ("scan_input_axes", 1928357812357643368134939299431343475),
    ("score_threshold", 1928358922797065048477047820907408484),
    ("support_vectors", 1928724084791302255678254627578409587),
    ("DequantizeLinear", 431196593829158564752068233098971930994),
    ("LinearClassifier", 441851124867997224223435712032831792498),
    ("RMSNormalization", 449680559087693696138845242393547599726),
    ("RandomNormalLike", 449784954392937075836561544903859465061),
    ("StringNormalizer", 451212917554496642047671782307834520946),
    ("activation_alpha", 469733881016178385364663974434320705633),
    ("ai.onnx.training", 469763615501566167557645183528672521831),
    ("center_point_box", 472402600773276660044014079373257895800),
    ("classlabels_ints", 472438683105058939619773909726290408563),
    ("int64_vocabulary", 480424816186836888279024128574087066233),
    ("lower_edge_hertz", 484417757061190609976867572577312339066),
    ("nodes_falseleafs", 487075827687287462018148962651452040819),
    ("nodes_featureids", 487075827687287462091143604504806122611),
    ("nonpad_kv_seqlen", 487076031377328567772691800015499978094),
    ("norm_coefficient", 487076112268662391337150477545704353396),
    ("scan_output_axes", 493659599963563988927454521397383554419),
    ("upper_edge_hertz", 496385859343246162098937398985405658234),
    ("FeatureVectorizer", 111066809658660106308887290239374140794226),
    ("GlobalAveragePool", 111416468947037722274760805302054750744428),
    ("NonMaxSuppression", 113802427581247921631373449115708586291054),
    ("Opset_ai_onnx_ml1", 114144065625924383002992858132517967719473),
    ("Opset_ai_onnx_ml2", 114144065625924383002992858132517967719474),
    ("Opset_ai_onnx_ml3", 114144065625924383002992858132517967719475),
    ("Opset_ai_onnx_ml4", 114144065625924383002992858132517967719476),
    ("Opset_ai_onnx_ml5", 114144065625924383002992858132517967719477),
    ("RandomUniformLike", 115144948324591899871751605162488940292965),
    ("SequenceConstruct", 115490563524395561606894903988069630042996),
    ("additional_inputs", 120253119691231728545759202677454850585715),
    ("count_include_pad", 120948394303482780553999699444753436270948),
    ("is_case_sensitive", 122995290961855007298076630316988399973989),
    ("membership_values", 124337883909788002345970934380750322361715),
    ("nodes_truenodeids", 124691411887945607282052853679280089556083),
    ("opset_ai_onnx_ml1", 125033101367394413833820845570334550486065),
    ("opset_ai_onnx_ml2", 125033101367394413833820845570334550486066),
    ("opset_ai_onnx_ml3", 125033101367394413833820845570334550486067),
    ("opset_ai_onnx_ml4", 125033101367394413833820845570334550486068),
    ("opset_ai_onnx_ml5", 125033101367394413833820845570334550486069),
    ("select_last_index", 126379572979706141888095400526444377695608),
    ("softmax_precision", 126392834410905415464621112567116709064558),
    ("string_vocabulary", 126399542635421191779771401718300386882169),
    ("vectors_per_class", 127400373654983517617364773101558028137331),
    ("BatchNormalization", 28083318166218615382984090083385221554204526),
    ("ConcatFromSequence", 28175186429780315172698205772581606477685605),
    ("GroupNormalization", 28524657843598696375972833107129435458989934),
    ("LayerNormalization", 28954447682263614587135865558746314748555118),
    ("OptionalGetElement", 29220882150133601645754067329404012991966836),
    ("OptionalHasElement", 29220882150133601645758715836852993761046132),
    ("aggregate_function", 30785823522166345478768077377308124393336686),
    ("case_change_action", 30958022282942421372514420494334418569752430),
    ("classlabels_int64s", 30961741535973142666921502947822168211600499),
    ("nodes_falsenodeids", 31921001443314071110821410416899518884308083),
    ("round_prefer_floor", 32269473230343479139104959754999586398105458),
    ("CausalConvWithState", 7211630557264769921994648017205349145756398693),
    ("classlabels_strings", 7926205833209124522731904754645296401276102515),
    ("extrapolation_value", 7971859134979731292489740508818136271883629925),
    ("linear_before_reset", 8126655608106343074024630728176798422925534580),
    ("imputed_value_floats", 2063386246037824098366052052282415880171153355891),
    ("imputed_value_int64s", 2063386246037824098366052052282415883478359225459),
    ("noop_with_empty_axes", 2091975712540822367372036462598936522244927022451),
    ("replaced_value_float", 2114588753925843410968399015354031333114538582388),
    ("replaced_value_int64", 2114588753925843410968399015354031333127457355316),
    ("rotary_embedding_dim", 2114812106106577392958788367948444010530411407725),
    ("ArrayFeatureExtractor", 469795401307205861076669226153958975847783386607474),
    ("DynamicQuantizeLinear", 474219779947576666453219319980402753149620889936242),
    ("InstanceNormalization", 481464602390534802305521867871190597637673121836910),
    ("TreeEnsembleRegressor", 497563642837613138164147154428637621933652684533618),
    ("base_values_as_tensor", 517927925136432435220989615306062010143990023942002),
    ("norm_coefficient_post", 535545849051322710133303042787733131039295421772660),
    ("qk_matmul_output_mode", 539907094286776502998145742536039251292443007476837),
    ("scan_input_directions", 542784470323179219961174609508088972254990176317043),
    ("Opset_ai_onnx_preview1", 125502727397330686660309144524987470422724495915972401),
    ("TreeEnsembleClassifier", 127376292566428963370021671533660524412931819273020786),
    ("nodes_values_as_tensor", 137099657254602754545244440458125171215949886741770098),
    ("opset_ai_onnx_preview1", 137475348810345443366233730674599260919745895308031793),
    ("scan_output_directions", 138952824402735931329526057266663034132266653940936307),
    ("SoftmaxCrossEntropyLoss", 32511429040471624333365902365660741955978519861145858931),
    ("class_weights_as_tensor", 34042794834996495584428449772158408944894718422191140722),
    ("ai.onnx.preview.training", 8665609190297888156123138269990903625277691010053172719207),
    ("keep_aspect_ratio_policy", 8910445932269843973322444410690827964537310039773641532281),
    ("nodes_hitrates_as_tensor", 8984963137837644905038013706614917922501994332888348454770),
    ("target_weights_as_tensor", 9130747017027925716898246256923889504195295035485834145650),
    ("MeanVarianceNormalization", 2092760722714152041821979280306870372244909050482929663831918),
    ("NegativeLogLikelihoodLoss", 2099038394315379908150372790773027264394449648791958638785395),
    ("max_output_boxes_per_class", 587144216555196385973538647569817793755951309090653357731836787),
    ("initial_state_and_scan_inputs", 9744168480485849567465425069150492324485991119560015897195584641397875),
    ("coordinate_transformation_mode", 2453124243913314565693211718837461226887299492651091372322537084596216933),
    ("nodes_missing_value_tracks_true", 647434826232052192723076402351021610364449607583674457194100220425632118117)]

/-- the translator's code of every text is the model's `enc` of it (the kernel evaluates `enc` on the strings) -/
theorem names1_enc : names1.all (fun p => enc p.1 == p.2) = true := by simp only [enc_eq]; decide +kernel

end OV.Gen.C17
