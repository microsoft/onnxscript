import OV.Model.C08View
import OV.Model.C08Slice
import OV.Model.C08Repl
import OV.Model.C08Reduce
import OV.Model.C08IntArith
import OV.Model.C08Creation
import OV.Model.C08Attr
import OV.Model.C08Misc
import OV.Model.C08Scalar
import OV.Model.C08Linalg
import OV.Lemmas.C08Rows
/-! GENERATED by harness/extract_torchlib.py from /repo's working tree — do not edit. -/
namespace OV.Gen.C08Trace

/-- (model term, term emitted by the real torch_lib function) — chunk 12. -/
def table12 : List (String × String) := [
  (OV.C08.im2col.term ([2, 2] : List Int) ([1, 1] : List Int) ([1, 1] : List Int) ([2, 2] : List Int),
   "Reshape(Transpose(Gather(Gather(Pad(x0,Concat([0,0],Unsqueeze(1,[0]),Unsqueeze(1,[0]),[0,0],Unsqueeze(1,[0]),Unsqueeze(1,[0]);axis=0);mode=constant),Add(Unsqueeze(Range(0,Add(Gather(Shape(x0;start=0),2;axis=0),1),2),[0]),Unsqueeze(Range(0,2,1),[1]));axis=2),Add(Unsqueeze(Range(0,Add(Gather(Shape(x0;start=0),3;axis=0),1),2),[0]),Unsqueeze(Range(0,2,1),[1]));axis=4);perm=[0,1,2,4,3,5]),Concat(Unsqueeze(Gather(Shape(x0;start=0),0;axis=0),[0]),Unsqueeze(Mul(Gather(Shape(x0;start=0),1;axis=0),4),[0]),[-1];axis=0);allowzero=0)"),
  (OV.C08.im2col.term ([1, 3] : List Int) ([2, 1] : List Int) ([1, 2] : List Int) ([3, 2] : List Int),
   "Reshape(Transpose(Gather(Gather(Pad(x0,Concat([0,0],Unsqueeze(1,[0]),Unsqueeze(2,[0]),[0,0],Unsqueeze(1,[0]),Unsqueeze(2,[0]);axis=0);mode=constant),Add(Unsqueeze(Range(0,Add(Gather(Shape(x0;start=0),2;axis=0),2),3),[0]),Unsqueeze(Range(0,2,2),[1]));axis=2),Add(Unsqueeze(Range(0,Add(Gather(Shape(x0;start=0),3;axis=0),2),2),[0]),Unsqueeze(Range(0,3,1),[1]));axis=4);perm=[0,1,2,4,3,5]),Concat(Unsqueeze(Gather(Shape(x0;start=0),0;axis=0),[0]),Unsqueeze(Mul(Gather(Shape(x0;start=0),1;axis=0),3),[0]),[-1];axis=0);allowzero=0)"),
  (OV.C08.im2col.term ([3, 3] : List Int) ([1, 1] : List Int) ([2, 0] : List Int) ([2, 3] : List Int),
   "Reshape(Transpose(Gather(Gather(Pad(x0,Concat([0,0],Unsqueeze(2,[0]),Unsqueeze(0,[0]),[0,0],Unsqueeze(2,[0]),Unsqueeze(0,[0]);axis=0);mode=constant),Add(Unsqueeze(Range(0,Add(Gather(Shape(x0;start=0),2;axis=0),2),2),[0]),Unsqueeze(Range(0,3,1),[1]));axis=2),Add(Unsqueeze(Range(0,Add(Gather(Shape(x0;start=0),3;axis=0),-2),3),[0]),Unsqueeze(Range(0,3,1),[1]));axis=4);perm=[0,1,2,4,3,5]),Concat(Unsqueeze(Gather(Shape(x0;start=0),0;axis=0),[0]),Unsqueeze(Mul(Gather(Shape(x0;start=0),1;axis=0),9),[0]),[-1];axis=0);allowzero=0)"),
  (OV.C08.im2col.term ([3, 3] : List Int) ([1, 1] : List Int) ([0, 2] : List Int) ([3, 3] : List Int),
   "Reshape(Transpose(Gather(Gather(Pad(x0,Concat([0,0],Unsqueeze(0,[0]),Unsqueeze(2,[0]),[0,0],Unsqueeze(0,[0]),Unsqueeze(2,[0]);axis=0);mode=constant),Add(Unsqueeze(Range(0,Add(Gather(Shape(x0;start=0),2;axis=0),-2),3),[0]),Unsqueeze(Range(0,3,1),[1]));axis=2),Add(Unsqueeze(Range(0,Add(Gather(Shape(x0;start=0),3;axis=0),2),3),[0]),Unsqueeze(Range(0,3,1),[1]));axis=4);perm=[0,1,2,4,3,5]),Concat(Unsqueeze(Gather(Shape(x0;start=0),0;axis=0),[0]),Unsqueeze(Mul(Gather(Shape(x0;start=0),1;axis=0),9),[0]),[-1];axis=0);allowzero=0)"),
  (OV.C08.im2col.term ([3, 2] : List Int) ([2, 1] : List Int) ([0, 0] : List Int) ([3, 1] : List Int),
   "Reshape(Transpose(Gather(Gather(Pad(x0,Concat([0,0],Unsqueeze(0,[0]),Unsqueeze(0,[0]),[0,0],Unsqueeze(0,[0]),Unsqueeze(0,[0]);axis=0);mode=constant),Add(Unsqueeze(Range(0,Add(Gather(Shape(x0;start=0),2;axis=0),-4),3),[0]),Unsqueeze(Range(0,6,2),[1]));axis=2),Add(Unsqueeze(Range(0,Add(Gather(Shape(x0;start=0),3;axis=0),-1),1),[0]),Unsqueeze(Range(0,2,1),[1]));axis=4);perm=[0,1,2,4,3,5]),Concat(Unsqueeze(Gather(Shape(x0;start=0),0;axis=0),[0]),Unsqueeze(Mul(Gather(Shape(x0;start=0),1;axis=0),6),[0]),[-1];axis=0);allowzero=0)"),
  (OV.C08.im2col.term ([2, 3] : List Int) ([1, 1] : List Int) ([2, 0] : List Int) ([3, 3] : List Int),
   "Reshape(Transpose(Gather(Gather(Pad(x0,Concat([0,0],Unsqueeze(2,[0]),Unsqueeze(0,[0]),[0,0],Unsqueeze(2,[0]),Unsqueeze(0,[0]);axis=0);mode=constant),Add(Unsqueeze(Range(0,Add(Gather(Shape(x0;start=0),2;axis=0),3),3),[0]),Unsqueeze(Range(0,2,1),[1]));axis=2),Add(Unsqueeze(Range(0,Add(Gather(Shape(x0;start=0),3;axis=0),-2),3),[0]),Unsqueeze(Range(0,3,1),[1]));axis=4);perm=[0,1,2,4,3,5]),Concat(Unsqueeze(Gather(Shape(x0;start=0),0;axis=0),[0]),Unsqueeze(Mul(Gather(Shape(x0;start=0),1;axis=0),6),[0]),[-1];axis=0);allowzero=0)"),
  (OV.C08.im2col.term ([1, 3] : List Int) ([1, 1] : List Int) ([2, 2] : List Int) ([1, 1] : List Int),
   "Reshape(Transpose(Gather(Gather(Pad(x0,Concat([0,0],Unsqueeze(2,[0]),Unsqueeze(2,[0]),[0,0],Unsqueeze(2,[0]),Unsqueeze(2,[0]);axis=0);mode=constant),Add(Unsqueeze(Range(0,Add(Gather(Shape(x0;start=0),2;axis=0),4),1),[0]),Unsqueeze(Range(0,1,1),[1]));axis=2),Add(Unsqueeze(Range(0,Add(Gather(Shape(x0;start=0),3;axis=0),2),1),[0]),Unsqueeze(Range(0,3,1),[1]));axis=4);perm=[0,1,2,4,3,5]),Concat(Unsqueeze(Gather(Shape(x0;start=0),0;axis=0),[0]),Unsqueeze(Mul(Gather(Shape(x0;start=0),1;axis=0),3),[0]),[-1];axis=0);allowzero=0)"),
  (OV.C08.index_select.term 2 1,
   "Gather(x0,Cast(Reshape(x1,[-1];allowzero=0);to=7);axis=1)"),
  (OV.C08.index_select.term 3 (-1),
   "Gather(x0,Cast(Reshape(x1,[-1];allowzero=0);to=7);axis=-1)"),
  (OV.C08.index_select.term 0 0,
   "Squeeze(Gather(Reshape(x0,[-1];allowzero=0),Cast(Reshape(x1,[-1];allowzero=0);to=7);axis=0))"),
  (OV.C08.index_select.term 3 1,
   "Gather(x0,Cast(Reshape(x1,[-1];allowzero=0);to=7);axis=1)"),
  (OV.C08.index_select.term 1 0,
   "Gather(x0,Cast(Reshape(x1,[-1];allowzero=0);to=7);axis=0)"),
  (OV.C08.index_select.term 3 2,
   "Gather(x0,Cast(Reshape(x1,[-1];allowzero=0);to=7);axis=2)"),
  (OV.C08.index_select.term 1 (-1),
   "Gather(x0,Cast(Reshape(x1,[-1];allowzero=0);to=7);axis=-1)"),
  (OV.C08.index_select.term 0 (-1),
   "Squeeze(Gather(Reshape(x0,[-1];allowzero=0),Cast(Reshape(x1,[-1];allowzero=0);to=7);axis=-1))"),
  (OV.C08.index_select.term 2 (-2),
   "Gather(x0,Cast(Reshape(x1,[-1];allowzero=0);to=7);axis=-2)"),
  (OV.C08.index_select.term 2 0,
   "Gather(x0,Cast(Reshape(x1,[-1];allowzero=0);to=7);axis=0)"),
  (OV.C08.linear.term 2 2 false,
   "Gemm(x0,x1;alpha=1.0,beta=1.0,transA=0,transB=1)"),
  (OV.C08.linear.term 2 2 true,
   "Gemm(x0,x1,x2;alpha=1.0,beta=1.0,transA=0,transB=1)"),
  (OV.C08.linear.term 3 2 true,
   "Add(MatMul(x0,Transpose(x1;perm=[1,0])),x2)"),
  (OV.C08.linear.term 2 1 false,
   "Squeeze(MatMul(x0,Unsqueeze(x1,[1])),[-1])"),
  (OV.C08.linear.term 4 1 false,
   "Squeeze(MatMul(x0,Unsqueeze(x1,[1])),[-1])"),
  (OV.C08.linear.term 4 2 false,
   "MatMul(x0,Transpose(x1;perm=[1,0]))"),
  (OV.C08.linear.term 1 2 false,
   "MatMul(x0,Transpose(x1;perm=[1,0]))"),
  (OV.C08.linear.term 1 2 true,
   "Add(MatMul(x0,Transpose(x1;perm=[1,0])),x2)"),
  (OV.C08.linear.term 4 2 true,
   "Add(MatMul(x0,Transpose(x1;perm=[1,0])),x2)"),
  (OV.C08.linear.term 3 2 false,
   "MatMul(x0,Transpose(x1;perm=[1,0]))"),
  (OV.C08.logcumsumexp.term 1 (-1),
   "Add(Log(CumSum(Exp(Sub(x0,ReduceMax(x0,Unsqueeze(-1,[0]);keepdims=1,noop_with_empty_axes=0))),Unsqueeze(-1,[0]);exclusive=0,reverse=0)),ReduceMax(x0,Unsqueeze(-1,[0]);keepdims=1,noop_with_empty_axes=0))"),
  (OV.C08.logcumsumexp.term 2 (-1),
   "Add(Log(CumSum(Exp(Sub(x0,ReduceMax(x0,Unsqueeze(-1,[0]);keepdims=1,noop_with_empty_axes=0))),Unsqueeze(-1,[0]);exclusive=0,reverse=0)),ReduceMax(x0,Unsqueeze(-1,[0]);keepdims=1,noop_with_empty_axes=0))"),
  (OV.C08.logcumsumexp.term 2 (-2),
   "Add(Log(CumSum(Exp(Sub(x0,ReduceMax(x0,Unsqueeze(-2,[0]);keepdims=1,noop_with_empty_axes=0))),Unsqueeze(-2,[0]);exclusive=0,reverse=0)),ReduceMax(x0,Unsqueeze(-2,[0]);keepdims=1,noop_with_empty_axes=0))"),
  (OV.C08.logcumsumexp.term 3 2,
   "Add(Log(CumSum(Exp(Sub(x0,ReduceMax(x0,Unsqueeze(2,[0]);keepdims=1,noop_with_empty_axes=0))),Unsqueeze(2,[0]);exclusive=0,reverse=0)),ReduceMax(x0,Unsqueeze(2,[0]);keepdims=1,noop_with_empty_axes=0))"),
  (OV.C08.logcumsumexp.term 2 0,
   "Add(Log(CumSum(Exp(Sub(x0,ReduceMax(x0,Unsqueeze(0,[0]);keepdims=1,noop_with_empty_axes=0))),Unsqueeze(0,[0]);exclusive=0,reverse=0)),ReduceMax(x0,Unsqueeze(0,[0]);keepdims=1,noop_with_empty_axes=0))")
]

/-- kernel-checked: every row's model term is the emitted term (chunks build in parallel). -/
theorem ok12 : ∀ e ∈ table12, e.1 = e.2 := by
  unfold table12
  apply OV.C08.rows_of_reads
  · repeat (apply OV.C08.Reads.cons; with_reducible rfl)
    exact .nil
  · decide +kernel

end OV.Gen.C08Trace
