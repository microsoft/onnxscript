import OV.Model.C08View
import OV.Model.C08Slice
import OV.Model.C08Repl
import OV.Model.C08Reduce
import OV.Model.C08IntArith
import OV.Model.C08Creation
import OV.Model.C08Attr
import OV.Model.C08Misc
import OV.Model.C08Scalar
import OV.Model.C08Linalg
import OV.Lemmas.C08Rows
/-! GENERATED by harness/extract_torchlib.py from /repo's working tree — do not edit. -/
namespace OV.Gen.C08Trace

/-- (model term, term emitted by the real torch_lib function) — chunk 23. -/
def table23 : List (String × String) := [
  (OV.C08.squeeze_dim.term ([1, 5, 5] : List Nat) 1,
   "Identity(x0)"),
  (OV.C08.squeeze_dim.term ([4, 1] : List Nat) 0,
   "Identity(x0)"),
  (OV.C08.squeeze_dim.term ([5, 5] : List Nat) (-1),
   "Identity(x0)"),
  (OV.C08.squeeze_dim.term ([3] : List Nat) (-1),
   "Identity(x0)"),
  (OV.C08.squeeze_dim.term ([2] : List Nat) (-1),
   "Identity(x0)"),
  (OV.C08.squeeze_dim.term ([2, 5, 2] : List Nat) 1,
   "Identity(x0)"),
  (OV.C08.squeeze_dim.term ([3, 2] : List Nat) (-1),
   "Identity(x0)"),
  (OV.C08.stack.term 3 0,
   "Concat(Unsqueeze(x0,[0]),Unsqueeze(x1,[0]),Unsqueeze(x2,[0]);axis=0)"),
  (OV.C08.stack.term 3 (-1),
   "Concat(Unsqueeze(x0,[-1]),Unsqueeze(x1,[-1]),Unsqueeze(x2,[-1]);axis=-1)"),
  (OV.C08.stack.term 1 (-1),
   "Concat(Unsqueeze(x0,[-1]);axis=-1)"),
  (OV.C08.stack.term 1 0,
   "Concat(Unsqueeze(x0,[0]);axis=0)"),
  (OV.C08.stack.term 2 (-3),
   "Concat(Unsqueeze(x0,[-3]),Unsqueeze(x1,[-3]);axis=-3)"),
  (OV.C08.stack.term 2 0,
   "Concat(Unsqueeze(x0,[0]),Unsqueeze(x1,[0]);axis=0)"),
  (OV.C08.stack.term 2 2,
   "Concat(Unsqueeze(x0,[2]),Unsqueeze(x1,[2]);axis=2)"),
  (OV.C08.stack.term 3 3,
   "Concat(Unsqueeze(x0,[3]),Unsqueeze(x1,[3]),Unsqueeze(x2,[3]);axis=3)"),
  (OV.C08.stack.term 3 (-3),
   "Concat(Unsqueeze(x0,[-3]),Unsqueeze(x1,[-3]),Unsqueeze(x2,[-3]);axis=-3)"),
  (OV.C08.stack.term 2 (-1),
   "Concat(Unsqueeze(x0,[-1]),Unsqueeze(x1,[-1]);axis=-1)"),
  (OV.C08.addsub.term false OV.C08.DC.f32 "x1" 2,
   "Sub(x0,x1)"),
  (OV.C08.addsub.term false OV.C08.DC.f32 "x1" 1,
   "Sub(x0,Mul(x1,CastLike(0.5:FLOAT,x1)))"),
  (OV.C08.addsub.term false OV.C08.DC.i64 "x1" (-4),
   "Sub(x0,Mul(x1,CastLike(-2,x1)))"),
  (OV.C08.addsub.term false OV.C08.DC.i64 "x1" 4,
   "Sub(x0,Mul(x1,CastLike(2,x1)))"),
  (OV.C08.addsub.term false OV.C08.DC.f32 "x1" (-3),
   "Sub(x0,Mul(x1,CastLike(-1.5:FLOAT,x1)))"),
  (OV.C08.addsub.term false OV.C08.DC.i64 "x1" 2,
   "Sub(x0,x1)"),
  (OV.C08.addsub.term false OV.C08.DC.f32 "x1" 5,
   "Sub(x0,Mul(x1,CastLike(2.5:FLOAT,x1)))"),
  (OV.C08.addsub.term false OV.C08.DC.i64 "x1" 6,
   "Sub(x0,Mul(x1,CastLike(3,x1)))"),
  (OV.C08.addsub.term false OV.C08.DC.i64 "x1" 0,
   "Sub(x0,Mul(x1,CastLike(0,x1)))"),
  (OV.C08.addsub.term false OV.C08.DC.f32 "x1" 4,
   "Sub(x0,Mul(x1,CastLike(2.0:FLOAT,x1)))"),
  (OV.C08.addsub.term false OV.C08.DC.i64 (OV.C08.halfStr OV.C08.DC.i64 (-4)) 2,
   "Sub(x0,-2)"),
  (OV.C08.addsub.term false OV.C08.DC.i64 (OV.C08.halfStr OV.C08.DC.i64 2) (-4),
   "Sub(x0,Mul(1,CastLike(-2,1)))"),
  (OV.C08.addsub.term false OV.C08.DC.f32 (OV.C08.halfStr OV.C08.DC.f32 6) 2,
   "Sub(x0,3.0:FLOAT)"),
  (OV.C08.addsub.term false OV.C08.DC.f32 (OV.C08.halfStr OV.C08.DC.f32 3) 2,
   "Sub(x0,1.5:FLOAT)"),
  (OV.C08.addsub.term false OV.C08.DC.i64 (OV.C08.halfStr OV.C08.DC.i64 2) 6,
   "Sub(x0,Mul(1,CastLike(3,1)))")
]

/-- kernel-checked: every row's model term is the emitted term (chunks build in parallel). -/
theorem ok23 : ∀ e ∈ table23, e.1 = e.2 := by
  unfold table23
  apply OV.C08.rows_of_reads
  · repeat (apply OV.C08.Reads.cons; with_reducible rfl)
    exact .nil
  · decide +kernel

end OV.Gen.C08Trace
