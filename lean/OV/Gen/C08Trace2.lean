import OV.Model.C08View
import OV.Model.C08Slice
import OV.Model.C08Repl
import OV.Model.C08Reduce
import OV.Model.C08IntArith
import OV.Model.C08Creation
import OV.Model.C08Attr
import OV.Model.C08Misc
import OV.Model.C08Scalar
import OV.Model.C08Linalg
import OV.Lemmas.C08Rows
/-! GENERATED by harness/extract_torchlib.py from /repo's working tree — do not edit. -/
namespace OV.Gen.C08Trace

/-- (model term, term emitted by the real torch_lib function) — chunk 2. -/
def table2 : List (String × String) := [
  (OV.C08.all_dims.term "ReduceMin" 2 (some ([(-2)] : List Int)) false,
   "Squeeze(Cast(ReduceMin(Cast(Cast(x0;to=9);to=7),Reshape(-2,[-1];allowzero=0);keepdims=1,noop_with_empty_axes=0);to=9),[-2])"),
  (OV.C08.amax.term "aten_amax" ([1] : List Int) false,
   "pkg.onnxscript.torch_lib::aten_amax(x0,[1];keepdim=0)"),
  (OV.C08.amax.term "aten_amax" ([2, (-3), 3] : List Int) false,
   "pkg.onnxscript.torch_lib::aten_amax(x0,[2,-3,3];keepdim=0)"),
  (OV.C08.amax.term "aten_amax" ([(-1), 0] : List Int) true,
   "pkg.onnxscript.torch_lib::aten_amax(x0,[-1,0];keepdim=1)"),
  (OV.C08.amax.term "aten_amax" ([2, (-4), (-1), (-3)] : List Int) true,
   "pkg.onnxscript.torch_lib::aten_amax(x0,[2,-4,-1,-3];keepdim=1)"),
  (OV.C08.amax.term "aten_amax" ([(-1), (-3), (-2)] : List Int) true,
   "pkg.onnxscript.torch_lib::aten_amax(x0,[-1,-3,-2];keepdim=1)"),
  (OV.C08.amax.term "aten_amax" ([(-1)] : List Int) true,
   "pkg.onnxscript.torch_lib::aten_amax(x0,[-1];keepdim=1)"),
  (OV.C08.amax.term "aten_amax" ([(-3), 2, 0, 3] : List Int) false,
   "pkg.onnxscript.torch_lib::aten_amax(x0,[-3,2,0,3];keepdim=0)"),
  (OV.C08.amax.term "aten_amax" ([1, 2, (-4), 4] : List Int) true,
   "pkg.onnxscript.torch_lib::aten_amax(x0,[1,2,-4,4];keepdim=1)"),
  (OV.C08.amax.term "aten_amax" ([] : List Int) false,
   "pkg.onnxscript.torch_lib::aten_amax(x0,[];keepdim=0)"),
  (OV.C08.amax.term "aten_amax" ([0] : List Int) true,
   "pkg.onnxscript.torch_lib::aten_amax(x0,[0];keepdim=1)"),
  (OV.C08.amax.term "aten_amin" ([(-1)] : List Int) true,
   "pkg.onnxscript.torch_lib::aten_amin(x0,[-1];keepdim=1)"),
  (OV.C08.amax.term "aten_amin" ([0] : List Int) false,
   "pkg.onnxscript.torch_lib::aten_amin(x0,[0];keepdim=0)"),
  (OV.C08.amax.term "aten_amin" ([(-1)] : List Int) false,
   "pkg.onnxscript.torch_lib::aten_amin(x0,[-1];keepdim=0)"),
  (OV.C08.amax.term "aten_amin" ([2, (-3)] : List Int) true,
   "pkg.onnxscript.torch_lib::aten_amin(x0,[2,-3];keepdim=1)"),
  (OV.C08.amax.term "aten_amin" ([0] : List Int) true,
   "pkg.onnxscript.torch_lib::aten_amin(x0,[0];keepdim=1)"),
  (OV.C08.amax.term "aten_amin" ([] : List Int) false,
   "pkg.onnxscript.torch_lib::aten_amin(x0,[];keepdim=0)"),
  (OV.C08.amax.term "aten_amin" ([(-4), 3, 1] : List Int) true,
   "pkg.onnxscript.torch_lib::aten_amin(x0,[-4,3,1];keepdim=1)"),
  (OV.C08.amax.term "aten_amin" ([1] : List Int) true,
   "pkg.onnxscript.torch_lib::aten_amin(x0,[1];keepdim=1)"),
  (OV.C08.amax.term "aten_amin" ([2, 1, 3, 0] : List Int) false,
   "pkg.onnxscript.torch_lib::aten_amin(x0,[2,1,3,0];keepdim=0)"),
  (OV.C08.amax.term "aten_amin" ([(-3), 2] : List Int) true,
   "pkg.onnxscript.torch_lib::aten_amin(x0,[-3,2];keepdim=1)"),
  (OV.C08.all_.term "ReduceMax" 0,
   "Cast(x0;to=9)"),
  (OV.C08.all_.term "ReduceMax" 1,
   "Greater(ReduceMax(Cast(Cast(x0;to=9);to=7);keepdims=0,noop_with_empty_axes=0),0)"),
  (OV.C08.all_.term "ReduceMax" 3,
   "Greater(ReduceMax(Cast(Cast(x0;to=9);to=7);keepdims=0,noop_with_empty_axes=0),0)"),
  (OV.C08.all_.term "ReduceMax" 4,
   "Greater(ReduceMax(Cast(Cast(x0;to=9);to=7);keepdims=0,noop_with_empty_axes=0),0)"),
  (OV.C08.all_.term "ReduceMax" 2,
   "Greater(ReduceMax(Cast(Cast(x0;to=9);to=7);keepdims=0,noop_with_empty_axes=0),0)"),
  (OV.C08.all_dim.term "ReduceMax" 0 false,
   "Greater(ReduceMax(Cast(Cast(x0;to=9);to=7),Reshape(0,[-1];allowzero=0);keepdims=0,noop_with_empty_axes=0),0)"),
  (OV.C08.all_dim.term "ReduceMax" (-1) false,
   "Greater(ReduceMax(Cast(Cast(x0;to=9);to=7),Reshape(-1,[-1];allowzero=0);keepdims=0,noop_with_empty_axes=0),0)"),
  (OV.C08.all_dim.term "ReduceMax" (-2) false,
   "Greater(ReduceMax(Cast(Cast(x0;to=9);to=7),Reshape(-2,[-1];allowzero=0);keepdims=0,noop_with_empty_axes=0),0)"),
  (OV.C08.all_dim.term "ReduceMax" (-3) false,
   "Greater(ReduceMax(Cast(Cast(x0;to=9);to=7),Reshape(-3,[-1];allowzero=0);keepdims=0,noop_with_empty_axes=0),0)"),
  (OV.C08.all_dim.term "ReduceMax" 0 true,
   "Greater(ReduceMax(Cast(Cast(x0;to=9);to=7),Reshape(0,[-1];allowzero=0);keepdims=1,noop_with_empty_axes=0),0)"),
  (OV.C08.all_dim.term "ReduceMax" (-4) true,
   "Greater(ReduceMax(Cast(Cast(x0;to=9);to=7),Reshape(-4,[-1];allowzero=0);keepdims=1,noop_with_empty_axes=0),0)")
]

/-- kernel-checked: every row's model term is the emitted term (chunks build in parallel). -/
theorem ok2 : ∀ e ∈ table2, e.1 = e.2 := by
  unfold table2
  apply OV.C08.rows_of_reads
  · repeat (apply OV.C08.Reads.cons; with_reducible rfl)
    exact .nil
  · decide +kernel

end OV.Gen.C08Trace
