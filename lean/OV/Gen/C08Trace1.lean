import OV.Model.C08View
import OV.Model.C08Slice
import OV.Model.C08Repl
import OV.Model.C08Reduce
import OV.Model.C08IntArith
import OV.Model.C08Creation
import OV.Model.C08Attr
import OV.Model.C08Misc
import OV.Model.C08Scalar
import OV.Model.C08Linalg
import OV.Lemmas.C08Rows
/-! GENERATED by harness/extract_torchlib.py from /repo's working tree — do not edit. -/
namespace OV.Gen.C08Trace

/-- (model term, term emitted by the real torch_lib function) — chunk 1. -/
def table1 : List (String × String) := [
  (OV.C08.addsub.term true OV.C08.DC.i64 (OV.C08.halfStr OV.C08.DC.i64 2) 4,
   "Add(x0,Mul(1,CastLike(2,1)))"),
  (OV.C08.addsub.term true OV.C08.DC.f32 (OV.C08.halfStr OV.C08.DC.f32 2) 2,
   "Add(x0,1.0:FLOAT)"),
  (OV.C08.addsub.term true OV.C08.DC.i64 (OV.C08.halfStr OV.C08.DC.i64 2) 2,
   "Add(x0,1)"),
  (OV.C08.addsub.term true OV.C08.DC.f32 (OV.C08.halfStr OV.C08.DC.f32 3) 2,
   "Add(x0,1.5:FLOAT)"),
  (OV.C08.addsub.term true OV.C08.DC.i64 (OV.C08.halfStr OV.C08.DC.i64 (-4)) (-4),
   "Add(x0,Mul(-2,CastLike(-2,-2)))"),
  (OV.C08.addsub.term true OV.C08.DC.f32 (OV.C08.halfStr OV.C08.DC.f32 6) 1,
   "Add(x0,Mul(3.0:FLOAT,CastLike(0.5:FLOAT,3.0:FLOAT)))"),
  (OV.C08.addsub.term true OV.C08.DC.f32 (OV.C08.halfStr OV.C08.DC.f32 6) 4,
   "Add(x0,Mul(3.0:FLOAT,CastLike(2.0:FLOAT,3.0:FLOAT)))"),
  (OV.C08.addsub.term true OV.C08.DC.f32 (OV.C08.halfStr OV.C08.DC.f32 (-4)) 4,
   "Add(x0,Mul(-2.0:FLOAT,CastLike(2.0:FLOAT,-2.0:FLOAT)))"),
  (OV.C08.all_.term "ReduceMin" 4,
   "Cast(ReduceMin(Cast(Cast(x0;to=9);to=7);keepdims=0,noop_with_empty_axes=0);to=9)"),
  (OV.C08.all_.term "ReduceMin" 2,
   "Cast(ReduceMin(Cast(Cast(x0;to=9);to=7);keepdims=0,noop_with_empty_axes=0);to=9)"),
  (OV.C08.all_.term "ReduceMin" 1,
   "Cast(ReduceMin(Cast(Cast(x0;to=9);to=7);keepdims=0,noop_with_empty_axes=0);to=9)"),
  (OV.C08.all_.term "ReduceMin" 3,
   "Cast(ReduceMin(Cast(Cast(x0;to=9);to=7);keepdims=0,noop_with_empty_axes=0);to=9)"),
  (OV.C08.all_.term "ReduceMin" 0,
   "Cast(x0;to=9)"),
  (OV.C08.all_dim.term "ReduceMin" 0 true,
   "Cast(ReduceMin(Cast(Cast(x0;to=9);to=7),Reshape(0,[-1];allowzero=0);keepdims=1,noop_with_empty_axes=0);to=9)"),
  (OV.C08.all_dim.term "ReduceMin" (-1) false,
   "Cast(ReduceMin(Cast(Cast(x0;to=9);to=7),Reshape(-1,[-1];allowzero=0);keepdims=0,noop_with_empty_axes=0);to=9)"),
  (OV.C08.all_dim.term "ReduceMin" 3 true,
   "Cast(ReduceMin(Cast(Cast(x0;to=9);to=7),Reshape(3,[-1];allowzero=0);keepdims=1,noop_with_empty_axes=0);to=9)"),
  (OV.C08.all_dim.term "ReduceMin" (-4) true,
   "Cast(ReduceMin(Cast(Cast(x0;to=9);to=7),Reshape(-4,[-1];allowzero=0);keepdims=1,noop_with_empty_axes=0);to=9)"),
  (OV.C08.all_dim.term "ReduceMin" 1 false,
   "Cast(ReduceMin(Cast(Cast(x0;to=9);to=7),Reshape(1,[-1];allowzero=0);keepdims=0,noop_with_empty_axes=0);to=9)"),
  (OV.C08.all_dim.term "ReduceMin" (-2) false,
   "Cast(ReduceMin(Cast(Cast(x0;to=9);to=7),Reshape(-2,[-1];allowzero=0);keepdims=0,noop_with_empty_axes=0);to=9)"),
  (OV.C08.all_dim.term "ReduceMin" (-1) true,
   "Cast(ReduceMin(Cast(Cast(x0;to=9);to=7),Reshape(-1,[-1];allowzero=0);keepdims=1,noop_with_empty_axes=0);to=9)"),
  (OV.C08.all_dim.term "ReduceMin" 3 false,
   "Cast(ReduceMin(Cast(Cast(x0;to=9);to=7),Reshape(3,[-1];allowzero=0);keepdims=0,noop_with_empty_axes=0);to=9)"),
  (OV.C08.all_dim.term "ReduceMin" (-2) true,
   "Cast(ReduceMin(Cast(Cast(x0;to=9);to=7),Reshape(-2,[-1];allowzero=0);keepdims=1,noop_with_empty_axes=0);to=9)"),
  (OV.C08.all_dim.term "ReduceMin" 2 false,
   "Cast(ReduceMin(Cast(Cast(x0;to=9);to=7),Reshape(2,[-1];allowzero=0);keepdims=0,noop_with_empty_axes=0);to=9)"),
  (OV.C08.all_dims.term "ReduceMin" 1 (some ([0] : List Int)) true,
   "Cast(ReduceMin(Cast(Cast(x0;to=9);to=7),Reshape(0,[-1];allowzero=0);keepdims=1,noop_with_empty_axes=0);to=9)"),
  (OV.C08.all_dims.term "ReduceMin" 1 (some ([] : List Int)) true,
   "Cast(x0;to=9)"),
  (OV.C08.all_dims.term "ReduceMin" 1 none true,
   "Cast(ReduceMin(Cast(Cast(x0;to=9);to=7);keepdims=1,noop_with_empty_axes=0);to=9)"),
  (OV.C08.all_dims.term "ReduceMin" 1 (some ([] : List Int)) false,
   "Cast(x0;to=9)"),
  (OV.C08.all_dims.term "ReduceMin" 4 none true,
   "Cast(ReduceMin(Cast(Cast(x0;to=9);to=7);keepdims=1,noop_with_empty_axes=0);to=9)"),
  (OV.C08.all_dims.term "ReduceMin" 0 (some ([0] : List Int)) true,
   "Cast(ReduceMin(Cast(Cast(x0;to=9);to=7),Reshape(0,[-1];allowzero=0);keepdims=1,noop_with_empty_axes=0);to=9)"),
  (OV.C08.all_dims.term "ReduceMin" 3 none true,
   "Cast(ReduceMin(Cast(Cast(x0;to=9);to=7);keepdims=1,noop_with_empty_axes=0);to=9)"),
  (OV.C08.all_dims.term "ReduceMin" 3 (some ([(-3), (-2), (-1)] : List Int)) false,
   "Squeeze(Cast(ReduceMin(Cast(Cast(Cast(ReduceMin(Cast(Cast(Cast(ReduceMin(Cast(Cast(x0;to=9);to=7),Reshape(-3,[-1];allowzero=0);keepdims=1,noop_with_empty_axes=0);to=9);to=9);to=7),Reshape(-2,[-1];allowzero=0);keepdims=1,noop_with_empty_axes=0);to=9);to=9);to=7),Reshape(-1,[-1];allowzero=0);keepdims=1,noop_with_empty_axes=0);to=9),[-3,-2,-1])"),
  (OV.C08.all_dims.term "ReduceMin" 0 (some ([(-1)] : List Int)) false,
   "Cast(ReduceMin(Cast(Cast(x0;to=9);to=7),Reshape(-1,[-1];allowzero=0);keepdims=1,noop_with_empty_axes=0);to=9)")
]

/-- kernel-checked: every row's model term is the emitted term (chunks build in parallel). -/
theorem ok1 : ∀ e ∈ table1, e.1 = e.2 := by
  unfold table1
  apply OV.C08.rows_of_reads
  · repeat (apply OV.C08.Reads.cons; with_reducible rfl)
    exact .nil
  · decide +kernel

end OV.Gen.C08Trace
