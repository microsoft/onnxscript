import OV.Model.C08View
import OV.Model.C08Slice
import OV.Model.C08Repl
import OV.Model.C08Reduce
import OV.Model.C08IntArith
import OV.Model.C08Creation
import OV.Model.C08Attr
import OV.Model.C08Misc
import OV.Model.C08Scalar
import OV.Model.C08Linalg
import OV.Lemmas.C08Rows
/-! GENERATED by harness/extract_torchlib.py from /repo's working tree — do not edit. -/
namespace OV.Gen.C08Trace

/-- (model term, term emitted by the real torch_lib function) — chunk 25. -/
def table25 : List (String × String) := [
  (OV.C08.tile.term 1 ([3, 1, 2, 0] : List Int),
   "Tile(Reshape(x0,Concat([1,1,1],Shape(x0;start=0);axis=0);allowzero=1),[3,1,2,0])"),
  (OV.C08.tile.term 1 ([] : List Int),
   "Tile(x0,[1])"),
  (OV.C08.tile.term 1 ([2, 1, 3, 0] : List Int),
   "Tile(Reshape(x0,Concat([1,1,1],Shape(x0;start=0);axis=0);allowzero=1),[2,1,3,0])"),
  (OV.C08.tile.term 0 ([3, 0] : List Int),
   "Tile(Reshape(x0,Concat([1,1],Shape(x0;start=0);axis=0);allowzero=1),[3,0])"),
  (OV.C08.tile.term 0 ([2, 1, 1] : List Int),
   "Tile(Reshape(x0,Concat([1,1,1],Shape(x0;start=0);axis=0);allowzero=1),[2,1,1])"),
  (OV.C08.tile.term 2 ([2, 1, 2, 2] : List Int),
   "Tile(Reshape(x0,Concat([1,1],Shape(x0;start=0);axis=0);allowzero=1),[2,1,2,2])"),
  (OV.C08.topk.term 4 1 true true,
   "TopK(x0,[4];axis=1,largest=1,sorted=1)#0 || TopK(x0,[4];axis=1,largest=1,sorted=1)#1"),
  (OV.C08.topk.term 0 (-1) true true,
   "TopK(x0,[0];axis=-1,largest=1,sorted=1)#0 || TopK(x0,[0];axis=-1,largest=1,sorted=1)#1"),
  (OV.C08.topk.term 3 1 true true,
   "TopK(x0,[3];axis=1,largest=1,sorted=1)#0 || TopK(x0,[3];axis=1,largest=1,sorted=1)#1"),
  (OV.C08.topk.term 2 (-1) false true,
   "TopK(x0,[2];axis=-1,largest=0,sorted=1)#0 || TopK(x0,[2];axis=-1,largest=0,sorted=1)#1"),
  (OV.C08.topk.term 1 1 true true,
   "TopK(x0,[1];axis=1,largest=1,sorted=1)#0 || TopK(x0,[1];axis=1,largest=1,sorted=1)#1"),
  (OV.C08.topk.term 2 1 true true,
   "TopK(x0,[2];axis=1,largest=1,sorted=1)#0 || TopK(x0,[2];axis=1,largest=1,sorted=1)#1"),
  (OV.C08.topk.term 2 2 false true,
   "TopK(x0,[2];axis=2,largest=0,sorted=1)#0 || TopK(x0,[2];axis=2,largest=0,sorted=1)#1"),
  (OV.C08.topk.term 3 0 true true,
   "TopK(x0,[3];axis=0,largest=1,sorted=1)#0 || TopK(x0,[3];axis=0,largest=1,sorted=1)#1"),
  (OV.C08.topk.term 3 (-1) false true,
   "TopK(x0,[3];axis=-1,largest=0,sorted=1)#0 || TopK(x0,[3];axis=-1,largest=0,sorted=1)#1"),
  (OV.C08.topk.term 1 (-1) false true,
   "TopK(x0,[1];axis=-1,largest=0,sorted=1)#0 || TopK(x0,[1];axis=-1,largest=0,sorted=1)#1"),
  (OV.C08.transpose.term 1 0 (-1),
   "Transpose(x0;perm=[0])"),
  (OV.C08.transpose.term 0 0 (-1),
   "x0"),
  (OV.C08.transpose.term 3 1 (-3),
   "Transpose(x0;perm=[1,0,2])"),
  (OV.C08.transpose.term 2 (-2) 1,
   "Transpose(x0;perm=[1,0])"),
  (OV.C08.transpose.term 3 2 1,
   "Transpose(x0;perm=[0,2,1])"),
  (OV.C08.transpose.term 2 0 1,
   "Transpose(x0;perm=[1,0])"),
  (OV.C08.transpose.term 2 (-2) (-1),
   "Transpose(x0;perm=[1,0])"),
  (OV.C08.transpose.term 1 (-1) 0,
   "Transpose(x0;perm=[0])"),
  (OV.C08.transpose.term 3 1 (-2),
   "Transpose(x0;perm=[0,1,2])"),
  (OV.C08.transpose.term 2 (-2) (-2),
   "Transpose(x0;perm=[0,1])"),
  (OV.C08.trilu.term false 2,
   "Trilu(x0,2;upper=0)"),
  (OV.C08.trilu.term false 3,
   "Trilu(x0,3;upper=0)"),
  (OV.C08.trilu.term false (-1),
   "Trilu(x0,-1;upper=0)"),
  (OV.C08.trilu.term false (-3),
   "Trilu(x0,-3;upper=0)"),
  (OV.C08.trilu.term false (-5),
   "Trilu(x0,-5;upper=0)"),
  (OV.C08.trilu.term false (-2),
   "Trilu(x0,-2;upper=0)")
]

/-- kernel-checked: every row's model term is the emitted term (chunks build in parallel). -/
theorem ok25 : ∀ e ∈ table25, e.1 = e.2 := by
  unfold table25
  apply OV.C08.rows_of_reads
  · repeat (apply OV.C08.Reads.cons; with_reducible rfl)
    exact .nil
  · decide +kernel

end OV.Gen.C08Trace
