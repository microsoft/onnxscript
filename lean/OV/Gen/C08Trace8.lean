import OV.Model.C08View
import OV.Model.C08Slice
import OV.Model.C08Repl
import OV.Model.C08Reduce
import OV.Model.C08IntArith
import OV.Model.C08Creation
import OV.Model.C08Attr
import OV.Model.C08Misc
import OV.Model.C08Scalar
import OV.Model.C08Linalg
import OV.Lemmas.C08Rows
/-! GENERATED by harness/extract_torchlib.py from /repo's working tree — do not edit. -/
namespace OV.Gen.C08Trace

/-- (model term, term emitted by the real torch_lib function) — chunk 8. -/
def table8 : List (String × String) := [
  (OV.C08.convnd.term ([2, 1, 7, 5] : List Nat) ([1, 1, 2, 1] : List Nat) true ([1, 1] : List Int) ([0, 2] : List Int) ([1, 1] : List Int) 1,
   "Conv(x0,x1,x2;auto_pad=NOTSET,dilations=[1,1],group=1,kernel_shape=[2,1],pads=[0,2,0,2],strides=[1,1])"),
  (OV.C08.convnd.term ([1, 2, 6, 6] : List Nat) ([2, 2, 3, 1] : List Nat) true ([2, 3] : List Int) ([1, 2] : List Int) ([1, 2] : List Int) 1,
   "Conv(x0,x1,x2;auto_pad=NOTSET,dilations=[1,2],group=1,kernel_shape=[3,1],pads=[1,2,1,2],strides=[2,3])"),
  (OV.C08.convnd.term ([1, 2, 5, 3] : List Nat) ([1, 2, 3, 1] : List Nat) true ([3, 1] : List Int) ([1, 0] : List Int) ([1, 1] : List Int) 1,
   "Conv(x0,x1,x2;auto_pad=NOTSET,dilations=[1,1],group=1,kernel_shape=[3,1],pads=[1,0,1,0],strides=[3,1])"),
  (OV.C08.convnd.term ([2, 4, 4, 4] : List Nat) ([4, 2, 1, 1] : List Nat) false ([3, 3] : List Int) ([0, 1] : List Int) ([1, 2] : List Int) 2,
   "Conv(x0,x1,Expand(CastLike(0.0:FLOAT,x0),Expand(Shape(x1;end=1,start=0),[1]));auto_pad=NOTSET,dilations=[1,2],group=2,kernel_shape=[1,1],pads=[0,1,0,1],strides=[3,3])"),
  (OV.C08.convnd.term ([1, 2, 3, 3, 4] : List Nat) ([2, 2, 3, 2, 2] : List Nat) true ([3, 1, 2] : List Int) ([1, 1, 0] : List Int) ([1, 2, 2] : List Int) 1,
   "Conv(x0,x1,x2;auto_pad=NOTSET,dilations=[1,2,2],group=1,kernel_shape=[3,2,2],pads=[1,1,0,1,1,0],strides=[3,1,2])"),
  (OV.C08.convnd.term ([2, 2, 5, 5, 5] : List Nat) ([1, 2, 2, 1, 1] : List Nat) true ([3, 3, 2] : List Int) ([1, 2, 0] : List Int) ([2, 2, 1] : List Int) 1,
   "Conv(x0,x1,x2;auto_pad=NOTSET,dilations=[2,2,1],group=1,kernel_shape=[2,1,1],pads=[1,2,0,1,2,0],strides=[3,3,2])"),
  (OV.C08.convnd.term ([2, 1, 7, 5, 5] : List Nat) ([1, 1, 3, 2, 3] : List Nat) true ([1, 3, 3] : List Int) ([1, 0, 1] : List Int) ([2, 2, 2] : List Int) 1,
   "Conv(x0,x1,x2;auto_pad=NOTSET,dilations=[2,2,2],group=1,kernel_shape=[3,2,3],pads=[1,0,1,1,0,1],strides=[1,3,3])"),
  (OV.C08.convnd.term ([1, 2, 3, 7, 5] : List Nat) ([2, 2, 3, 3, 1] : List Nat) true ([3, 1, 1] : List Int) ([1, 1, 0] : List Int) ([1, 2, 1] : List Int) 1,
   "Conv(x0,x1,x2;auto_pad=NOTSET,dilations=[1,2,1],group=1,kernel_shape=[3,3,1],pads=[1,1,0,1,1,0],strides=[3,1,1])"),
  (OV.C08.convnd.term ([1, 1, 7, 5, 4] : List Nat) ([2, 1, 3, 2, 1] : List Nat) true ([1, 2, 3] : List Int) ([1, 2, 1] : List Int) ([1, 1, 1] : List Int) 1,
   "Conv(x0,x1,x2;auto_pad=NOTSET,dilations=[1,1,1],group=1,kernel_shape=[3,2,1],pads=[1,2,1,1,2,1],strides=[1,2,3])"),
  (OV.C08.convnd.term ([2, 1, 3, 4, 7] : List Nat) ([1, 1, 3, 2, 2] : List Nat) true ([3, 1, 1] : List Int) ([0, 1, 1] : List Int) ([1, 2, 1] : List Int) 1,
   "Conv(x0,x1,x2;auto_pad=NOTSET,dilations=[1,2,1],group=1,kernel_shape=[3,2,2],pads=[0,1,1,0,1,1],strides=[3,1,1])"),
  (OV.C08.convnd.term ([1, 1, 5, 3, 5] : List Nat) ([1, 1, 3, 2, 2] : List Nat) true ([2, 2, 3] : List Int) ([1, 1, 1] : List Int) ([1, 2, 1] : List Int) 1,
   "Conv(x0,x1,x2;auto_pad=NOTSET,dilations=[1,2,1],group=1,kernel_shape=[3,2,2],pads=[1,1,1,1,1,1],strides=[2,2,3])"),
  (OV.C08.convnd.term ([1, 4, 6, 6, 3] : List Nat) ([4, 2, 2, 3, 2] : List Nat) false ([3, 3, 2] : List Int) ([1, 0, 2] : List Int) ([2, 1, 2] : List Int) 2,
   "Conv(x0,x1,Expand(CastLike(0.0:FLOAT,x0),Expand(Shape(x1;end=1,start=0),[1]));auto_pad=NOTSET,dilations=[2,1,2],group=2,kernel_shape=[2,3,2],pads=[1,0,2,1,0,2],strides=[3,3,2])"),
  (OV.C08.convnd.term ([1, 2, 7, 5, 3] : List Nat) ([4, 1, 2, 3, 2] : List Nat) true ([2, 1, 2] : List Int) ([0, 1, 1] : List Int) ([2, 2, 1] : List Int) 2,
   "Conv(x0,x1,x2;auto_pad=NOTSET,dilations=[2,2,1],group=2,kernel_shape=[2,3,2],pads=[0,1,1,0,1,1],strides=[2,1,2])"),
  (OV.C08.convnd.term ([1, 2, 5, 7, 4] : List Nat) ([4, 1, 3, 1, 1] : List Nat) true ([3, 3, 1] : List Int) ([0, 1, 2] : List Int) ([1, 2, 2] : List Int) 2,
   "Conv(x0,x1,x2;auto_pad=NOTSET,dilations=[1,2,2],group=2,kernel_shape=[3,1,1],pads=[0,1,2,0,1,2],strides=[3,3,1])"),
  (OV.C08.conv.term ([2, 2, 5, 3] : List Nat) ([2, 2, 1, 1] : List Nat) (OV.C08.IntOrList.list ([3, 1] : List Int)) (OV.C08.IntOrList.list ([0] : List Int)) (OV.C08.IntOrList.list ([1] : List Int)) false ([0, 0] : List Int) 1,
   "Conv(x0,x1,x2;auto_pad=NOTSET,dilations=[1,1],group=1,kernel_shape=[1,1],pads=[0,0,0,0],strides=[3,1])"),
  (OV.C08.conv.term ([1, 4, 7] : List Nat) ([4, 2, 2] : List Nat) (OV.C08.IntOrList.list ([1] : List Int)) (OV.C08.IntOrList.list ([1] : List Int)) (OV.C08.IntOrList.list ([1] : List Int)) false ([0] : List Int) 2,
   "Conv(x0,x1,x2;auto_pad=NOTSET,dilations=[1],group=2,kernel_shape=[2],pads=[1,1],strides=[1])"),
  (OV.C08.conv.term ([2, 1, 7] : List Nat) ([1, 1, 1] : List Nat) (OV.C08.IntOrList.list ([3] : List Int)) (OV.C08.IntOrList.list ([1] : List Int)) (OV.C08.IntOrList.list ([1] : List Int)) false ([0] : List Int) 1,
   "Conv(x0,x1,x2;auto_pad=NOTSET,dilations=[1],group=1,kernel_shape=[1],pads=[1,1],strides=[3])"),
  (OV.C08.conv.term ([2, 1, 5] : List Nat) ([1, 1, 1] : List Nat) (OV.C08.IntOrList.list ([2] : List Int)) (OV.C08.IntOrList.list ([2] : List Int)) (OV.C08.IntOrList.list ([1] : List Int)) false ([0] : List Int) 1,
   "Conv(x0,x1,x2;auto_pad=NOTSET,dilations=[1],group=1,kernel_shape=[1],pads=[2,2],strides=[2])"),
  (OV.C08.conv.term ([1, 1, 3, 4] : List Nat) ([1, 2, 3, 1] : List Nat) (OV.C08.IntOrList.list ([2] : List Int)) (OV.C08.IntOrList.list ([0, 1] : List Int)) (OV.C08.IntOrList.list ([1] : List Int)) true ([1, 0] : List Int) 1,
   "ConvTranspose(x0,x1,x2;auto_pad=NOTSET,dilations=[1,1],group=1,kernel_shape=[3,1],output_padding=[1,0],pads=[0,1,0,1],strides=[2,2])"),
  (OV.C08.conv.term ([1, 1, 6, 3] : List Nat) ([1, 1, 2, 1] : List Nat) (OV.C08.IntOrList.list ([2, 3] : List Int)) (OV.C08.IntOrList.list ([1, 2] : List Int)) (OV.C08.IntOrList.list ([2, 1] : List Int)) false ([0, 0] : List Int) 1,
   "Conv(x0,x1,x2;auto_pad=NOTSET,dilations=[2,1],group=1,kernel_shape=[2,1],pads=[1,2,1,2],strides=[2,3])"),
  (OV.C08.conv.term ([1, 2, 5, 7] : List Nat) ([1, 2, 1, 2] : List Nat) (OV.C08.IntOrList.list ([1, 1] : List Int)) (OV.C08.IntOrList.list ([1, 0] : List Int)) (OV.C08.IntOrList.list ([2, 1] : List Int)) false ([0, 0] : List Int) 1,
   "Conv(x0,x1,x2;auto_pad=NOTSET,dilations=[2,1],group=1,kernel_shape=[1,2],pads=[1,0,1,0],strides=[1,1])"),
  (OV.C08.conv.term ([2, 2, 5, 3] : List Nat) ([2, 2, 3, 3] : List Nat) (OV.C08.IntOrList.list ([1, 1] : List Int)) (OV.C08.IntOrList.list ([2, 1] : List Int)) (OV.C08.IntOrList.list ([1, 1] : List Int)) false ([0, 0] : List Int) 1,
   "Conv(x0,x1,x2;auto_pad=NOTSET,dilations=[1,1],group=1,kernel_shape=[3,3],pads=[2,1,2,1],strides=[1,1])"),
  (OV.C08.conv.term ([2, 4, 6, 4] : List Nat) ([4, 2, 2, 1] : List Nat) (OV.C08.IntOrList.list ([2, 1] : List Int)) (OV.C08.IntOrList.list ([0, 1] : List Int)) (OV.C08.IntOrList.list ([1] : List Int)) true ([1, 0] : List Int) 2,
   "ConvTranspose(x0,x1,x2;auto_pad=NOTSET,dilations=[1,1],group=2,kernel_shape=[2,1],output_padding=[1,0],pads=[0,1,0,1],strides=[2,1])"),
  (OV.C08.conv.term ([1, 2, 5, 5] : List Nat) ([4, 1, 1, 3] : List Nat) (OV.C08.IntOrList.list ([2, 1] : List Int)) (OV.C08.IntOrList.list ([0, 0] : List Int)) (OV.C08.IntOrList.list ([2, 1] : List Int)) false ([0, 0] : List Int) 2,
   "Conv(x0,x1,x2;auto_pad=NOTSET,dilations=[2,1],group=2,kernel_shape=[1,3],pads=[0,0,0,0],strides=[2,1])"),
  (OV.C08.creation.termFull ([] : List Int) (some OV.C08.DC.f32),
   "Expand(Cast(1.5:FLOAT;to=1),Cast([];to=7))"),
  (OV.C08.creation.termFull ([3] : List Int) (some OV.C08.DC.i64),
   "Expand(Cast(1.5:FLOAT;to=7),Cast([3];to=7))"),
  (OV.C08.creation.termFull ([1, 0] : List Int) none,
   "Expand(1.5:FLOAT,Cast([1,0];to=7))"),
  (OV.C08.creation.termFull ([3, 1, 2] : List Int) (some OV.C08.DC.i64),
   "Expand(Cast(1.5:FLOAT;to=7),Cast([3,1,2];to=7))"),
  (OV.C08.creation.termFull ([2] : List Int) (some OV.C08.DC.i64),
   "Expand(Cast(1.5:FLOAT;to=7),Cast([2];to=7))"),
  (OV.C08.creation.termFull ([0, 2] : List Int) (some OV.C08.DC.f32),
   "Expand(Cast(1.5:FLOAT;to=1),Cast([0,2];to=7))"),
  (OV.C08.creation.termFull ([0, 0, 3] : List Int) none,
   "Expand(1.5:FLOAT,Cast([0,0,3];to=7))"),
  (OV.C08.creation.termFull ([3] : List Int) none,
   "Expand(1.5:FLOAT,Cast([3];to=7))")
]

/-- kernel-checked: every row's model term is the emitted term (chunks build in parallel). -/
theorem ok8 : ∀ e ∈ table8, e.1 = e.2 := by
  unfold table8
  apply OV.C08.rows_of_reads
  · repeat (apply OV.C08.Reads.cons; with_reducible rfl)
    exact .nil
  · decide +kernel

end OV.Gen.C08Trace
