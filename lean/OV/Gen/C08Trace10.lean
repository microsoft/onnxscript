import OV.Model.C08View
import OV.Model.C08Slice
import OV.Model.C08Repl
import OV.Model.C08Reduce
import OV.Model.C08IntArith
import OV.Model.C08Creation
import OV.Model.C08Attr
import OV.Model.C08Misc
import OV.Model.C08Scalar
import OV.Model.C08Linalg
import OV.Lemmas.C08Rows
/-! GENERATED by harness/extract_torchlib.py from /repo's working tree — do not edit. -/
namespace OV.Gen.C08Trace

/-- (model term, term emitted by the real torch_lib function) — chunk 10. -/
def table10 : List (String × String) := [
  (OV.C08.creation.termZeros ([0] : List Int) (some OV.C08.DC.f32),
   "Expand(0.0:FLOAT,Concat([0];axis=0))"),
  (OV.C08.creation.termZeros ([3] : List Int) (some OV.C08.DC.f32),
   "Expand(0.0:FLOAT,Concat([3];axis=0))"),
  (OV.C08.creation.termZeros ([0, 2, 0] : List Int) none,
   "Expand(0.0:FLOAT,Concat([0],[2],[0];axis=0))"),
  (OV.C08.creation.termZeros ([] : List Int) (some OV.C08.DC.f32),
   "Expand(0.0:FLOAT,[])"),
  (OV.C08.creation.termZeros ([2, 0, 2] : List Int) none,
   "Expand(0.0:FLOAT,Concat([2],[0],[2];axis=0))"),
  (OV.C08.creation.termZeros ([2, 3, 2] : List Int) (some OV.C08.DC.i64),
   "Expand(0,Concat([2],[3],[2];axis=0))"),
  (OV.C08.creation.termLike "0" none,
   "Expand(CastLike(0,x0),Shape(x0;start=0))"),
  (OV.C08.creation.termLike "0" (some OV.C08.DC.f32),
   "Expand(Cast(0;to=1),Shape(x0;start=0))"),
  (OV.C08.creation.termLike "0" (some OV.C08.DC.i64),
   "Expand(Cast(0;to=7),Shape(x0;start=0))"),
  (OV.C08.cumsum.term 3 (-1) (some 11),
   "CumSum(Cast(x0;to=11),-1;exclusive=0,reverse=0)"),
  (OV.C08.cumsum.term 0 0 none,
   "Identity(x0)"),
  (OV.C08.cumsum.term 2 1 none,
   "CumSum(x0,1;exclusive=0,reverse=0)"),
  (OV.C08.cumsum.term 4 (-4) (some 7),
   "CumSum(Cast(x0;to=7),-4;exclusive=0,reverse=0)"),
  (OV.C08.cumsum.term 2 (-2) none,
   "CumSum(x0,-2;exclusive=0,reverse=0)"),
  (OV.C08.cumsum.term 3 0 none,
   "CumSum(x0,0;exclusive=0,reverse=0)"),
  (OV.C08.cumsum.term 4 2 none,
   "CumSum(x0,2;exclusive=0,reverse=0)"),
  (OV.C08.cumsum.term 2 (-1) none,
   "CumSum(x0,-1;exclusive=0,reverse=0)"),
  (OV.C08.cumsum.term 3 (-2) none,
   "CumSum(x0,-2;exclusive=0,reverse=0)"),
  (OV.C08.cumsum.term 1 0 (some 7),
   "CumSum(Cast(x0;to=7),0;exclusive=0,reverse=0)"),
  (OV.C08.matmul.term,
   "MatMul(x0,x1)"),
  (OV.C08.embedding.term,
   "Gather(x0,x1;axis=0)"),
  (OV.C08.expand.term ([3, 4, 4, (-1)] : List Int),
   "Expand(x0,Concat([3],[4],[4],[1];axis=0))"),
  (OV.C08.expand.term ([0, 0, 0, 4] : List Int),
   "Expand(x0,Concat([0],[0],[0],[4];axis=0))"),
  (OV.C08.expand.term ([0] : List Int),
   "Expand(x0,Concat([0];axis=0))"),
  (OV.C08.expand.term ([2, 1, 2, 2] : List Int),
   "Expand(x0,Concat([2],[1],[2],[2];axis=0))"),
  (OV.C08.expand.term ([3, 2, (-1), (-1)] : List Int),
   "Expand(x0,Concat([3],[2],[1],[1];axis=0))"),
  (OV.C08.expand.term ([1, (-1), (-1), 4] : List Int),
   "Expand(x0,Concat([1],[1],[1],[4];axis=0))"),
  (OV.C08.expand.term ([] : List Int),
   "Expand(x0,[])"),
  (OV.C08.expand.term ([2, 2] : List Int),
   "Expand(x0,Concat([2],[2];axis=0))"),
  (OV.C08.expand.term ([2, 2, 0] : List Int),
   "Expand(x0,Concat([2],[2],[0];axis=0))"),
  (OV.C08.expand.term ([2, 0, (-1), (-1)] : List Int),
   "Expand(x0,Concat([2],[0],[1],[1];axis=0))"),
  (OV.C08.flatten.term ([] : List Nat) (-1) (-1),
   "Reshape(x0,[1];allowzero=1)")
]

/-- kernel-checked: every row's model term is the emitted term (chunks build in parallel). -/
theorem ok10 : ∀ e ∈ table10, e.1 = e.2 := by
  unfold table10
  apply OV.C08.rows_of_reads
  · repeat (apply OV.C08.Reads.cons; with_reducible rfl)
    exact .nil
  · decide +kernel

end OV.Gen.C08Trace
