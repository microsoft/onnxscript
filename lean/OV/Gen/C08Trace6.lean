import OV.Model.C08View
import OV.Model.C08Slice
import OV.Model.C08Repl
import OV.Model.C08Reduce
import OV.Model.C08IntArith
import OV.Model.C08Creation
import OV.Model.C08Attr
import OV.Model.C08Misc
import OV.Model.C08Scalar
import OV.Model.C08Linalg
import OV.Lemmas.C08Rows
/-! GENERATED by harness/extract_torchlib.py from /repo's working tree — do not edit. -/
namespace OV.Gen.C08Trace

/-- (model term, term emitted by the real torch_lib function) — chunk 6. -/
def table6 : List (String × String) := [
  (OV.C08.cat.term ([([0, 2] : List Nat), ([3, 1] : List Nat), ([2, 1] : List Nat)] : List (List Nat)) 0,
   "Concat(x0,x1,x2;axis=0)"),
  (OV.C08.cat.term ([([1, 0, 2] : List Nat)] : List (List Nat)) (-3),
   "Identity(x0)"),
  (OV.C08.cat.term ([([2, 0, 3] : List Nat), ([2, 3, 3] : List Nat), ([2, 0, 3] : List Nat)] : List (List Nat)) (-2),
   "Concat(x0,x1,x2;axis=-2)"),
  (OV.C08.cat.term ([([1, 2] : List Nat)] : List (List Nat)) (-2),
   "Identity(x0)"),
  ((" || ".intercalate (OV.C08.chunk.term 2 3 1)),
   "Slice(x0,[0],[1],[1]) || Slice(x0,[1],[2],[1])"),
  ((" || ".intercalate (OV.C08.chunk.term 3 3 0)),
   "Split(x0;axis=0,num_outputs=3)#0 || Split(x0;axis=0,num_outputs=3)#1 || Split(x0;axis=0,num_outputs=3)#2"),
  ((" || ".intercalate (OV.C08.chunk.term 0 4 0)),
   "Slice(x0,[0],[0],[0]) || Slice(x0,[0],[0],[0]) || Slice(x0,[0],[0],[0]) || Slice(x0,[0],[0],[0])"),
  ((" || ".intercalate (OV.C08.chunk.term 5 1 1)),
   "Identity(x0)"),
  ((" || ".intercalate (OV.C08.chunk.term 5 2 0)),
   "Split(x0;axis=0,num_outputs=2)#0 || Split(x0;axis=0,num_outputs=2)#1"),
  ((" || ".intercalate (OV.C08.chunk.term 3 4 (-1))),
   "Slice(x0,[0],[1],[-1]) || Slice(x0,[1],[2],[-1]) || Slice(x0,[2],[3],[-1])"),
  ((" || ".intercalate (OV.C08.chunk.term 1 1 (-1))),
   "Identity(x0)"),
  ((" || ".intercalate (OV.C08.chunk.term 1 2 (-2))),
   "Slice(x0,[0],[1],[-2])"),
  ((" || ".intercalate (OV.C08.chunk.term 0 1 0)),
   "Identity(x0)"),
  ((" || ".intercalate (OV.C08.chunk.term 1 2 1)),
   "Slice(x0,[0],[1],[1])"),
  (OV.C08.clamp.term OV.C08.DC.f32 none (some 5),
   "Clip(x0,_,CastLike(2.5:FLOAT,x0))"),
  (OV.C08.clamp.term OV.C08.DC.f32 none (some (-1)),
   "Clip(x0,_,CastLike(-0.5:FLOAT,x0))"),
  (OV.C08.clamp.term OV.C08.DC.i64 (some (-2)) (some 0),
   "Clip(x0,CastLike(-1,x0),CastLike(0,x0))"),
  (OV.C08.clamp.term OV.C08.DC.i64 (some 0) (some 6),
   "Clip(x0,CastLike(0,x0),CastLike(3,x0))"),
  (OV.C08.clamp.term OV.C08.DC.f32 none none,
   "Identity(x0)"),
  (OV.C08.clamp.term OV.C08.DC.f32 none (some 1),
   "Clip(x0,_,CastLike(0.5:FLOAT,x0))"),
  (OV.C08.clamp.term OV.C08.DC.f32 (some (-1)) none,
   "Clip(x0,CastLike(-0.5:FLOAT,x0))"),
  (OV.C08.clamp.term OV.C08.DC.f32 (some 0) (some 3),
   "Clip(x0,CastLike(0.0:FLOAT,x0),CastLike(1.5:FLOAT,x0))"),
  (OV.C08.clamp.term OV.C08.DC.i64 (some 2) (some 6),
   "Clip(x0,CastLike(1,x0),CastLike(3,x0))"),
  (OV.C08.clamp.term OV.C08.DC.i64 none none,
   "Identity(x0)"),
  (OV.C08.clamp.termTensor true false,
   "Max(x0,CastLike(x1,x0))"),
  (OV.C08.clamp.termTensor false true,
   "Min(x0,CastLike(x1,x0))"),
  (OV.C08.clamp.termTensor true true,
   "Min(Max(x0,CastLike(x1,x0)),CastLike(x2,x0))"),
  (OV.C08.clamp.termTensor false false,
   "Identity(x0)"),
  (OV.C08.col2im.term ([4, 7] : List Int) ([2, 1] : List Int) ([1, 1] : List Int) ([2, 0] : List Int) ([2, 3] : List Int),
   "Col2Im(x0,[4,7],[2,1];dilations=[1,1],pads=[2,0,2,0],strides=[2,3])"),
  (OV.C08.col2im.term ([7, 5] : List Int) ([1, 3] : List Int) ([1, 2] : List Int) ([2, 1] : List Int) ([3, 1] : List Int),
   "Col2Im(x0,[7,5],[1,3];dilations=[1,2],pads=[2,1,2,1],strides=[3,1])"),
  (OV.C08.col2im.term ([6, 3] : List Int) ([2, 3] : List Int) ([2, 1] : List Int) ([1, 2] : List Int) ([1, 3] : List Int),
   "Col2Im(x0,[6,3],[2,3];dilations=[2,1],pads=[1,2,1,2],strides=[1,3])"),
  (OV.C08.col2im.term ([6, 6] : List Int) ([1, 3] : List Int) ([2, 2] : List Int) ([2, 1] : List Int) ([2, 3] : List Int),
   "Col2Im(x0,[6,6],[1,3];dilations=[2,2],pads=[2,1,2,1],strides=[2,3])")
]

/-- kernel-checked: every row's model term is the emitted term (chunks build in parallel). -/
theorem ok6 : ∀ e ∈ table6, e.1 = e.2 := by
  unfold table6
  apply OV.C08.rows_of_reads
  · repeat (apply OV.C08.Reads.cons; with_reducible rfl)
    exact .nil
  · decide +kernel

end OV.Gen.C08Trace
