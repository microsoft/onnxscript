import OV.Model.C08View
import OV.Model.C08Slice
import OV.Model.C08Repl
import OV.Model.C08Reduce
import OV.Model.C08IntArith
import OV.Model.C08Creation
import OV.Model.C08Attr
import OV.Model.C08Misc
import OV.Model.C08Scalar
import OV.Model.C08Linalg
import OV.Lemmas.C08Rows
/-! GENERATED by harness/extract_torchlib.py from /repo's working tree — do not edit. -/
namespace OV.Gen.C08Trace

/-- (model term, term emitted by the real torch_lib function) — chunk 24. -/
def table24 : List (String × String) := [
  (OV.C08.addsub.term false OV.C08.DC.i64 (OV.C08.halfStr OV.C08.DC.i64 2) 2,
   "Sub(x0,1)"),
  (OV.C08.addsub.term false OV.C08.DC.f32 (OV.C08.halfStr OV.C08.DC.f32 (-4)) 1,
   "Sub(x0,Mul(-2.0:FLOAT,CastLike(0.5:FLOAT,-2.0:FLOAT)))"),
  (OV.C08.addsub.term false OV.C08.DC.f32 (OV.C08.halfStr OV.C08.DC.f32 2) 5,
   "Sub(x0,Mul(1.0:FLOAT,CastLike(2.5:FLOAT,1.0:FLOAT)))"),
  (OV.C08.addsub.term false OV.C08.DC.i64 (OV.C08.halfStr OV.C08.DC.i64 6) 6,
   "Sub(x0,Mul(3,CastLike(3,3)))"),
  (OV.C08.addsub.term false OV.C08.DC.i64 (OV.C08.halfStr OV.C08.DC.i64 (-4)) (-4),
   "Sub(x0,Mul(-2,CastLike(-2,-2)))"),
  (OV.C08.sum.term 0 none,
   "Identity(x0)"),
  (OV.C08.sum.term 1 (some 11),
   "ReduceSum(Cast(x0;to=11);keepdims=0,noop_with_empty_axes=0)"),
  (OV.C08.sum.term 1 (some 7),
   "ReduceSum(Cast(x0;to=7);keepdims=0,noop_with_empty_axes=0)"),
  (OV.C08.sum.term 4 none,
   "ReduceSum(x0;keepdims=0,noop_with_empty_axes=0)"),
  (OV.C08.sum.term 3 none,
   "ReduceSum(x0;keepdims=0,noop_with_empty_axes=0)"),
  (OV.C08.sum.term 0 (some 1),
   "Identity(Cast(x0;to=1))"),
  (OV.C08.sum.term 2 none,
   "ReduceSum(x0;keepdims=0,noop_with_empty_axes=0)"),
  (OV.C08.sum.term 4 (some 7),
   "ReduceSum(Cast(x0;to=7);keepdims=0,noop_with_empty_axes=0)"),
  (OV.C08.sum.term 1 none,
   "ReduceSum(x0;keepdims=0,noop_with_empty_axes=0)"),
  (OV.C08.sum.term 0 (some 7),
   "Identity(Cast(x0;to=7))"),
  (OV.C08.sum_dim.term 1 (some ([] : List Int)) false (some 7),
   "ReduceSum(Cast(x0;to=7),[];keepdims=0,noop_with_empty_axes=0)"),
  (OV.C08.sum_dim.term 0 none true none,
   "Identity(x0)"),
  (OV.C08.sum_dim.term 3 (some ([(-3), (-1), 1] : List Int)) false none,
   "ReduceSum(x0,[-3,-1,1];keepdims=0,noop_with_empty_axes=0)"),
  (OV.C08.sum_dim.term 3 (some ([1, 0, (-1), (-4)] : List Int)) false none,
   "ReduceSum(x0,[1,0,-1,-4];keepdims=0,noop_with_empty_axes=0)"),
  (OV.C08.sum_dim.term 0 (some ([0] : List Int)) true none,
   "Identity(x0)"),
  (OV.C08.sum_dim.term 4 (some ([] : List Int)) false none,
   "ReduceSum(x0,[];keepdims=0,noop_with_empty_axes=0)"),
  (OV.C08.sum_dim.term 2 (some ([] : List Int)) false none,
   "ReduceSum(x0,[];keepdims=0,noop_with_empty_axes=0)"),
  (OV.C08.sum_dim.term 2 (some ([0] : List Int)) true none,
   "ReduceSum(x0,[0];keepdims=1,noop_with_empty_axes=0)"),
  (OV.C08.sum_dim.term 0 (some ([] : List Int)) false none,
   "Identity(x0)"),
  (OV.C08.sum_dim.term 0 (some ([0] : List Int)) false (some 7),
   "Identity(Cast(x0;to=7))"),
  (OV.C08.t.term 2,
   "Transpose(x0;perm=[1,0])"),
  (OV.C08.t.term 0,
   "x0"),
  (OV.C08.t.term 1,
   "x0"),
  (OV.C08.tile.term 1 ([3] : List Int),
   "Tile(x0,[3])"),
  (OV.C08.tile.term 1 ([1] : List Int),
   "Tile(x0,[1])"),
  (OV.C08.tile.term 2 ([1] : List Int),
   "Tile(x0,[1,1])"),
  (OV.C08.tile.term 0 ([1, 1] : List Int),
   "Tile(Reshape(x0,Concat([1,1],Shape(x0;start=0);axis=0);allowzero=1),[1,1])")
]

/-- kernel-checked: every row's model term is the emitted term (chunks build in parallel). -/
theorem ok24 : ∀ e ∈ table24, e.1 = e.2 := by
  unfold table24
  apply OV.C08.rows_of_reads
  · repeat (apply OV.C08.Reads.cons; with_reducible rfl)
    exact .nil
  · decide +kernel

end OV.Gen.C08Trace
