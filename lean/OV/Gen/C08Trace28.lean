import OV.Model.C08View
import OV.Model.C08Slice
import OV.Model.C08Repl
import OV.Model.C08Reduce
import OV.Model.C08IntArith
import OV.Model.C08Creation
import OV.Model.C08Attr
import OV.Model.C08Misc
import OV.Model.C08Scalar
import OV.Model.C08Linalg
import OV.Lemmas.C08Rows
/-! GENERATED by harness/extract_torchlib.py from /repo's working tree — do not edit. -/
namespace OV.Gen.C08Trace

/-- (model term, term emitted by the real torch_lib function) — chunk 28. -/
def table28 : List (String × String) := [
  (OV.C08.upsample.term ([1] : List Int) (some ([2] : List Int)) "nearest" "asymmetric",
   "Resize(x0,_,[1.0:FLOAT,1.0:FLOAT,1.0:FLOAT];antialias=0,coordinate_transformation_mode=asymmetric,cubic_coeff_a=-0.75,exclude_outside=0,extrapolation_value=0.0,keep_aspect_ratio_policy=stretch,mode=nearest,nearest_mode=floor)"),
  (OV.C08.upsample.term ([3] : List Int) none "nearest" "asymmetric",
   "Resize(x0,_,_,Concat(Shape(x0;end=2,start=0),Cast([3];to=7);axis=0);antialias=0,coordinate_transformation_mode=asymmetric,cubic_coeff_a=-0.75,exclude_outside=0,extrapolation_value=0.0,keep_aspect_ratio_policy=stretch,mode=nearest,nearest_mode=floor)"),
  (OV.C08.upsample.term ([6] : List Int) none "nearest" "asymmetric",
   "Resize(x0,_,_,Concat(Shape(x0;end=2,start=0),Cast([6];to=7);axis=0);antialias=0,coordinate_transformation_mode=asymmetric,cubic_coeff_a=-0.75,exclude_outside=0,extrapolation_value=0.0,keep_aspect_ratio_policy=stretch,mode=nearest,nearest_mode=floor)"),
  (OV.C08.upsample.term ([2] : List Int) (some ([5] : List Int)) "nearest" "asymmetric",
   "Resize(x0,_,[1.0:FLOAT,1.0:FLOAT,2.5:FLOAT];antialias=0,coordinate_transformation_mode=asymmetric,cubic_coeff_a=-0.75,exclude_outside=0,extrapolation_value=0.0,keep_aspect_ratio_policy=stretch,mode=nearest,nearest_mode=floor)"),
  (OV.C08.upsample.term ([7] : List Int) none "nearest" "asymmetric",
   "Resize(x0,_,_,Concat(Shape(x0;end=2,start=0),Cast([7];to=7);axis=0);antialias=0,coordinate_transformation_mode=asymmetric,cubic_coeff_a=-0.75,exclude_outside=0,extrapolation_value=0.0,keep_aspect_ratio_policy=stretch,mode=nearest,nearest_mode=floor)"),
  (OV.C08.upsample.term ([6] : List Int) (some ([4] : List Int)) "nearest" "asymmetric",
   "Resize(x0,_,[1.0:FLOAT,1.0:FLOAT,2.0:FLOAT];antialias=0,coordinate_transformation_mode=asymmetric,cubic_coeff_a=-0.75,exclude_outside=0,extrapolation_value=0.0,keep_aspect_ratio_policy=stretch,mode=nearest,nearest_mode=floor)"),
  (OV.C08.upsample.term ([10] : List Int) (some ([5] : List Int)) "nearest" "asymmetric",
   "Resize(x0,_,[1.0:FLOAT,1.0:FLOAT,2.5:FLOAT];antialias=0,coordinate_transformation_mode=asymmetric,cubic_coeff_a=-0.75,exclude_outside=0,extrapolation_value=0.0,keep_aspect_ratio_policy=stretch,mode=nearest,nearest_mode=floor)"),
  (OV.C08.upsample.term ([8] : List Int) none "nearest" "asymmetric",
   "Resize(x0,_,_,Concat(Shape(x0;end=2,start=0),Cast([8];to=7);axis=0);antialias=0,coordinate_transformation_mode=asymmetric,cubic_coeff_a=-0.75,exclude_outside=0,extrapolation_value=0.0,keep_aspect_ratio_policy=stretch,mode=nearest,nearest_mode=floor)"),
  (OV.C08.upsample.term ([1] : List Int) none "nearest" "asymmetric",
   "Resize(x0,_,_,Concat(Shape(x0;end=2,start=0),Cast([1];to=7);axis=0);antialias=0,coordinate_transformation_mode=asymmetric,cubic_coeff_a=-0.75,exclude_outside=0,extrapolation_value=0.0,keep_aspect_ratio_policy=stretch,mode=nearest,nearest_mode=floor)"),
  (OV.C08.upsample.term ([2, 3] : List Int) none "nearest" "asymmetric",
   "Resize(x0,_,_,Concat(Shape(x0;end=2,start=0),Cast([2,3];to=7);axis=0);antialias=0,coordinate_transformation_mode=asymmetric,cubic_coeff_a=-0.75,exclude_outside=0,extrapolation_value=0.0,keep_aspect_ratio_policy=stretch,mode=nearest,nearest_mode=floor)"),
  (OV.C08.upsample.term ([8, 1] : List Int) (some ([4, 1] : List Int)) "nearest" "asymmetric",
   "Resize(x0,_,[1.0:FLOAT,1.0:FLOAT,2.0:FLOAT,0.5:FLOAT];antialias=0,coordinate_transformation_mode=asymmetric,cubic_coeff_a=-0.75,exclude_outside=0,extrapolation_value=0.0,keep_aspect_ratio_policy=stretch,mode=nearest,nearest_mode=floor)"),
  (OV.C08.upsample.term ([6, 3] : List Int) (some ([4, 3] : List Int)) "nearest" "asymmetric",
   "Resize(x0,_,[1.0:FLOAT,1.0:FLOAT,2.0:FLOAT,1.5:FLOAT];antialias=0,coordinate_transformation_mode=asymmetric,cubic_coeff_a=-0.75,exclude_outside=0,extrapolation_value=0.0,keep_aspect_ratio_policy=stretch,mode=nearest,nearest_mode=floor)"),
  (OV.C08.upsample.term ([7, 2] : List Int) (some ([3, 1] : List Int)) "nearest" "asymmetric",
   "Resize(x0,_,[1.0:FLOAT,1.0:FLOAT,1.5:FLOAT,0.5:FLOAT];antialias=0,coordinate_transformation_mode=asymmetric,cubic_coeff_a=-0.75,exclude_outside=0,extrapolation_value=0.0,keep_aspect_ratio_policy=stretch,mode=nearest,nearest_mode=floor)"),
  (OV.C08.upsample.term ([9, 6] : List Int) none "nearest" "asymmetric",
   "Resize(x0,_,_,Concat(Shape(x0;end=2,start=0),Cast([9,6];to=7);axis=0);antialias=0,coordinate_transformation_mode=asymmetric,cubic_coeff_a=-0.75,exclude_outside=0,extrapolation_value=0.0,keep_aspect_ratio_policy=stretch,mode=nearest,nearest_mode=floor)"),
  (OV.C08.upsample.term ([6, 7] : List Int) (some ([4, 3] : List Int)) "nearest" "asymmetric",
   "Resize(x0,_,[1.0:FLOAT,1.0:FLOAT,2.0:FLOAT,1.5:FLOAT];antialias=0,coordinate_transformation_mode=asymmetric,cubic_coeff_a=-0.75,exclude_outside=0,extrapolation_value=0.0,keep_aspect_ratio_policy=stretch,mode=nearest,nearest_mode=floor)"),
  (OV.C08.upsample.term ([1, 1] : List Int) none "nearest" "asymmetric",
   "Resize(x0,_,_,Concat(Shape(x0;end=2,start=0),Cast([1,1];to=7);axis=0);antialias=0,coordinate_transformation_mode=asymmetric,cubic_coeff_a=-0.75,exclude_outside=0,extrapolation_value=0.0,keep_aspect_ratio_policy=stretch,mode=nearest,nearest_mode=floor)"),
  (OV.C08.upsample.term ([1, 3] : List Int) (some ([1, 2] : List Int)) "nearest" "asymmetric",
   "Resize(x0,_,[1.0:FLOAT,1.0:FLOAT,0.5:FLOAT,1.0:FLOAT];antialias=0,coordinate_transformation_mode=asymmetric,cubic_coeff_a=-0.75,exclude_outside=0,extrapolation_value=0.0,keep_aspect_ratio_policy=stretch,mode=nearest,nearest_mode=floor)"),
  (OV.C08.upsample.term ([1, 3] : List Int) (some ([2, 2] : List Int)) "nearest" "asymmetric",
   "Resize(x0,_,[1.0:FLOAT,1.0:FLOAT,1.0:FLOAT,1.0:FLOAT];antialias=0,coordinate_transformation_mode=asymmetric,cubic_coeff_a=-0.75,exclude_outside=0,extrapolation_value=0.0,keep_aspect_ratio_policy=stretch,mode=nearest,nearest_mode=floor)"),
  (OV.C08.upsample.term ([10, 6] : List Int) (some ([5, 3] : List Int)) "nearest" "asymmetric",
   "Resize(x0,_,[1.0:FLOAT,1.0:FLOAT,2.5:FLOAT,1.5:FLOAT];antialias=0,coordinate_transformation_mode=asymmetric,cubic_coeff_a=-0.75,exclude_outside=0,extrapolation_value=0.0,keep_aspect_ratio_policy=stretch,mode=nearest,nearest_mode=floor)"),
  (OV.C08.upsample.term ([1, 2, 4] : List Int) (some ([2, 5, 3] : List Int)) "nearest" "asymmetric",
   "Resize(x0,_,[1.0:FLOAT,1.0:FLOAT,1.0:FLOAT,2.5:FLOAT,1.5:FLOAT];antialias=0,coordinate_transformation_mode=asymmetric,cubic_coeff_a=-0.75,exclude_outside=0,extrapolation_value=0.0,keep_aspect_ratio_policy=stretch,mode=nearest,nearest_mode=floor)"),
  (OV.C08.upsample.term ([1, 4, 9] : List Int) none "nearest" "asymmetric",
   "Resize(x0,_,_,Concat(Shape(x0;end=2,start=0),Cast([1,4,9];to=7);axis=0);antialias=0,coordinate_transformation_mode=asymmetric,cubic_coeff_a=-0.75,exclude_outside=0,extrapolation_value=0.0,keep_aspect_ratio_policy=stretch,mode=nearest,nearest_mode=floor)"),
  (OV.C08.upsample.term ([7, 2, 6] : List Int) none "nearest" "asymmetric",
   "Resize(x0,_,_,Concat(Shape(x0;end=2,start=0),Cast([7,2,6];to=7);axis=0);antialias=0,coordinate_transformation_mode=asymmetric,cubic_coeff_a=-0.75,exclude_outside=0,extrapolation_value=0.0,keep_aspect_ratio_policy=stretch,mode=nearest,nearest_mode=floor)"),
  (OV.C08.upsample.term ([7, 3, 4] : List Int) none "nearest" "asymmetric",
   "Resize(x0,_,_,Concat(Shape(x0;end=2,start=0),Cast([7,3,4];to=7);axis=0);antialias=0,coordinate_transformation_mode=asymmetric,cubic_coeff_a=-0.75,exclude_outside=0,extrapolation_value=0.0,keep_aspect_ratio_policy=stretch,mode=nearest,nearest_mode=floor)"),
  (OV.C08.upsample.term ([12, 2, 4] : List Int) (some ([5, 5, 3] : List Int)) "nearest" "asymmetric",
   "Resize(x0,_,[1.0:FLOAT,1.0:FLOAT,2.5:FLOAT,2.5:FLOAT,1.5:FLOAT];antialias=0,coordinate_transformation_mode=asymmetric,cubic_coeff_a=-0.75,exclude_outside=0,extrapolation_value=0.0,keep_aspect_ratio_policy=stretch,mode=nearest,nearest_mode=floor)"),
  (OV.C08.upsample.term ([5, 2, 2] : List Int) (some ([2, 5, 1] : List Int)) "nearest" "asymmetric",
   "Resize(x0,_,[1.0:FLOAT,1.0:FLOAT,1.0:FLOAT,2.5:FLOAT,0.5:FLOAT];antialias=0,coordinate_transformation_mode=asymmetric,cubic_coeff_a=-0.75,exclude_outside=0,extrapolation_value=0.0,keep_aspect_ratio_policy=stretch,mode=nearest,nearest_mode=floor)"),
  (OV.C08.upsample.term ([5, 4, 8] : List Int) none "nearest" "asymmetric",
   "Resize(x0,_,_,Concat(Shape(x0;end=2,start=0),Cast([5,4,8];to=7);axis=0);antialias=0,coordinate_transformation_mode=asymmetric,cubic_coeff_a=-0.75,exclude_outside=0,extrapolation_value=0.0,keep_aspect_ratio_policy=stretch,mode=nearest,nearest_mode=floor)"),
  (OV.C08.upsample.term ([10, 6, 7] : List Int) (some ([4, 3, 3] : List Int)) "nearest" "asymmetric",
   "Resize(x0,_,[1.0:FLOAT,1.0:FLOAT,2.0:FLOAT,1.5:FLOAT,1.5:FLOAT];antialias=0,coordinate_transformation_mode=asymmetric,cubic_coeff_a=-0.75,exclude_outside=0,extrapolation_value=0.0,keep_aspect_ratio_policy=stretch,mode=nearest,nearest_mode=floor)"),
  (OV.C08.upsample.term ([2, 5, 10] : List Int) (some ([1, 2, 4] : List Int)) "nearest" "asymmetric",
   "Resize(x0,_,[1.0:FLOAT,1.0:FLOAT,0.5:FLOAT,1.0:FLOAT,2.0:FLOAT];antialias=0,coordinate_transformation_mode=asymmetric,cubic_coeff_a=-0.75,exclude_outside=0,extrapolation_value=0.0,keep_aspect_ratio_policy=stretch,mode=nearest,nearest_mode=floor)"),
  (OV.C08.upsample.term ([5, 9, 6] : List Int) none "nearest" "asymmetric",
   "Resize(x0,_,_,Concat(Shape(x0;end=2,start=0),Cast([5,9,6];to=7);axis=0);antialias=0,coordinate_transformation_mode=asymmetric,cubic_coeff_a=-0.75,exclude_outside=0,extrapolation_value=0.0,keep_aspect_ratio_policy=stretch,mode=nearest,nearest_mode=floor)"),
  (OV.C08.vector_norm.term 0 (OV.C08.vector_norm.Ord.int (-2)) (some ([(-1)] : List Int)) false,
   "Pow(ReduceSum(Pow(Abs(x0),-2),Reshape([-1],[-1];allowzero=0);keepdims=0,noop_with_empty_axes=0),CastLike(-0.5:FLOAT,Abs(x0)))"),
  (OV.C08.vector_norm.term 3 (OV.C08.vector_norm.Ord.int 1) (some ([1, 0] : List Int)) false,
   "ReduceL1(x0,Reshape([1,0],[-1];allowzero=0);keepdims=0,noop_with_empty_axes=0)"),
  (OV.C08.vector_norm.term 0 OV.C08.vector_norm.Ord.posInf none false,
   "ReduceMax(Abs(Reshape(x0,[-1];allowzero=0));keepdims=0,noop_with_empty_axes=0)")
]

/-- kernel-checked: every row's model term is the emitted term (chunks build in parallel). -/
theorem ok28 : ∀ e ∈ table28, e.1 = e.2 := by
  unfold table28
  apply OV.C08.rows_of_reads
  · repeat (apply OV.C08.Reads.cons; with_reducible rfl)
    exact .nil
  · decide +kernel

end OV.Gen.C08Trace
