import OV.Model.C08View
import OV.Model.C08Slice
import OV.Model.C08Repl
import OV.Model.C08Reduce
import OV.Model.C08IntArith
import OV.Model.C08Creation
import OV.Model.C08Attr
import OV.Model.C08Misc
import OV.Model.C08Scalar
import OV.Model.C08Linalg
import OV.Lemmas.C08Rows
/-! GENERATED by harness/extract_torchlib.py from /repo's working tree — do not edit. -/
namespace OV.Gen.C08Trace

/-- (model term, term emitted by the real torch_lib function) — chunk 20. -/
def table20 : List (String × String) := [
  (OV.C08.roll.term ([3, 0, 1] : List Nat) ([1, 1] : List Int) ([0, (-2)] : List Int),
   "Concat(Slice(Concat(Slice(x0,Sub(Shape(x0;end=1,start=0),[1]),[9223372036854775807],[0]),Slice(x0,[0],Sub(Shape(x0;end=1,start=0),[1]),[0]);axis=0),Sub(Shape(Concat(Slice(x0,Sub(Shape(x0;end=1,start=0),[1]),[9223372036854775807],[0]),Slice(x0,[0],Sub(Shape(x0;end=1,start=0),[1]),[0]);axis=0);end=2,start=1),[1]),[9223372036854775807],[1]),Slice(Concat(Slice(x0,Sub(Shape(x0;end=1,start=0),[1]),[9223372036854775807],[0]),Slice(x0,[0],Sub(Shape(x0;end=1,start=0),[1]),[0]);axis=0),[0],Sub(Shape(Concat(Slice(x0,Sub(Shape(x0;end=1,start=0),[1]),[9223372036854775807],[0]),Slice(x0,[0],Sub(Shape(x0;end=1,start=0),[1]),[0]);axis=0);end=2,start=1),[1]),[1]);axis=1)"),
  (OV.C08.roll.term ([0] : List Nat) ([(-1)] : List Int) ([(-1)] : List Int),
   "Identity(x0)"),
  (OV.C08.scatter.term true ([1] : List Nat) ([3] : List Nat) (-1),
   "ScatterElements(x0,x1,Slice(x2,[0],Shape(x1;start=0),[0]);axis=-1,reduction=add)"),
  (OV.C08.scatter.term true ([1] : List Nat) ([3] : List Nat) 0,
   "ScatterElements(x0,x1,Slice(x2,[0],Shape(x1;start=0),[0]);axis=0,reduction=add)"),
  (OV.C08.scatter.term true ([1] : List Nat) ([1] : List Nat) (-1),
   "ScatterElements(x0,x1,x2;axis=-1,reduction=add)"),
  (OV.C08.scatter.term true ([1, 2, 3] : List Nat) ([1, 2, 3] : List Nat) (-3),
   "ScatterElements(x0,x1,x2;axis=-3,reduction=add)"),
  (OV.C08.scatter.term true ([1, 2] : List Nat) ([1, 2] : List Nat) (-2),
   "ScatterElements(x0,x1,x2;axis=-2,reduction=add)"),
  (OV.C08.scatter.term true ([2] : List Nat) ([2] : List Nat) 0,
   "ScatterElements(x0,x1,x2;axis=0,reduction=add)"),
  (OV.C08.scatter.term true ([1, 1] : List Nat) ([3, 1] : List Nat) 0,
   "ScatterElements(x0,x1,Slice(x2,[0,0],Shape(x1;start=0),[0,1]);axis=0,reduction=add)"),
  (OV.C08.scatter.term true ([1] : List Nat) ([1] : List Nat) 0,
   "ScatterElements(x0,x1,x2;axis=0,reduction=add)"),
  (OV.C08.scatter.term true ([2] : List Nat) ([2] : List Nat) (-1),
   "ScatterElements(x0,x1,x2;axis=-1,reduction=add)"),
  (OV.C08.scatter.term true ([1, 1] : List Nat) ([1, 1] : List Nat) 1,
   "ScatterElements(x0,x1,x2;axis=1,reduction=add)"),
  (OV.C08.scatter.term false ([2, 1] : List Nat) ([3, 1] : List Nat) 0,
   "ScatterElements(x0,x1,Slice(x2,[0,0],Shape(x1;start=0),[0,1]);axis=0,reduction=none)"),
  (OV.C08.scatter.term false ([2] : List Nat) ([2] : List Nat) (-1),
   "ScatterElements(x0,x1,x2;axis=-1,reduction=none)"),
  (OV.C08.scatter.term false ([1] : List Nat) ([1] : List Nat) (-1),
   "ScatterElements(x0,x1,x2;axis=-1,reduction=none)"),
  (OV.C08.scatter.term false ([1] : List Nat) ([1] : List Nat) 0,
   "ScatterElements(x0,x1,x2;axis=0,reduction=none)"),
  (OV.C08.scatter.term false ([1, 1, 3] : List Nat) ([1, 1, 3] : List Nat) (-1),
   "ScatterElements(x0,x1,x2;axis=-1,reduction=none)"),
  (OV.C08.scatter.term false ([2, 1] : List Nat) ([2, 1] : List Nat) 0,
   "ScatterElements(x0,x1,x2;axis=0,reduction=none)"),
  (OV.C08.scatter.term false ([5, 1, 1] : List Nat) ([5, 1, 1] : List Nat) 1,
   "ScatterElements(x0,x1,x2;axis=1,reduction=none)"),
  (OV.C08.scatter.term false ([2, 1] : List Nat) ([2, 1] : List Nat) 1,
   "ScatterElements(x0,x1,x2;axis=1,reduction=none)"),
  (OV.C08.scatter.term false ([1, 4, 2] : List Nat) ([1, 4, 2] : List Nat) (-3),
   "ScatterElements(x0,x1,x2;axis=-3,reduction=none)"),
  (OV.C08.scatter.term false ([2, 1, 3] : List Nat) ([2, 1, 3] : List Nat) (-2),
   "ScatterElements(x0,x1,x2;axis=-2,reduction=none)"),
  (OV.C08.select.term 0 (-4),
   "Gather(x0,-4;axis=0)"),
  (OV.C08.select.term 0 (-2),
   "Gather(x0,-2;axis=0)"),
  (OV.C08.select.term 0 1,
   "Gather(x0,1;axis=0)"),
  (OV.C08.select.term (-1) 2,
   "Gather(x0,2;axis=-1)"),
  (OV.C08.select.term (-2) (-2),
   "Gather(x0,-2;axis=-2)"),
  (OV.C08.select.term (-1) (-1),
   "Gather(x0,-1;axis=-1)"),
  (OV.C08.select.term (-1) (-2),
   "Gather(x0,-2;axis=-1)"),
  (OV.C08.select.term (-2) 1,
   "Gather(x0,1;axis=-2)"),
  (OV.C08.select.term 0 (-1),
   "Gather(x0,-1;axis=0)"),
  (OV.C08.select.term 5 (-1),
   "Gather(x0,-1;axis=5)")
]

/-- kernel-checked: every row's model term is the emitted term (chunks build in parallel). -/
theorem ok20 : ∀ e ∈ table20, e.1 = e.2 := by
  unfold table20
  apply OV.C08.rows_of_reads
  · repeat (apply OV.C08.Reads.cons; with_reducible rfl)
    exact .nil
  · decide +kernel

end OV.Gen.C08Trace
