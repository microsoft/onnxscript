import OV.Model.C08View
import OV.Model.C08Slice
import OV.Model.C08Repl
import OV.Model.C08Reduce
import OV.Model.C08IntArith
import OV.Model.C08Creation
import OV.Model.C08Attr
import OV.Model.C08Misc
import OV.Model.C08Scalar
import OV.Model.C08Linalg
import OV.Lemmas.C08Rows
/-! GENERATED by harness/extract_torchlib.py from /repo's working tree — do not edit. -/
namespace OV.Gen.C08Trace

/-- (model term, term emitted by the real torch_lib function) — chunk 7. -/
def table7 : List (String × String) := [
  (OV.C08.col2im.term ([4, 5] : List Int) ([2, 1] : List Int) ([1, 1] : List Int) ([1, 2] : List Int) ([1, 1] : List Int),
   "Col2Im(x0,[4,5],[2,1];dilations=[1,1],pads=[1,2,1,2],strides=[1,1])"),
  (OV.C08.col2im.term ([5, 3] : List Int) ([3, 1] : List Int) ([1, 2] : List Int) ([0, 1] : List Int) ([1, 3] : List Int),
   "Col2Im(x0,[5,3],[3,1];dilations=[1,2],pads=[0,1,0,1],strides=[1,3])"),
  (OV.C08.col2im.term ([7, 3] : List Int) ([2, 2] : List Int) ([1, 1] : List Int) ([0, 0] : List Int) ([3, 2] : List Int),
   "Col2Im(x0,[7,3],[2,2];dilations=[1,1],pads=[0,0,0,0],strides=[3,2])"),
  (OV.C08.col2im.term ([5, 5] : List Int) ([2, 3] : List Int) ([1, 2] : List Int) ([0, 1] : List Int) ([1, 3] : List Int),
   "Col2Im(x0,[5,5],[2,3];dilations=[1,2],pads=[0,1,0,1],strides=[1,3])"),
  (OV.C08.col2im.term ([4, 6] : List Int) ([1, 1] : List Int) ([1, 2] : List Int) ([1, 1] : List Int) ([3, 1] : List Int),
   "Col2Im(x0,[4,6],[1,1];dilations=[1,2],pads=[1,1,1,1],strides=[3,1])"),
  (OV.C08.col2im.term ([6, 6] : List Int) ([3, 1] : List Int) ([1, 1] : List Int) ([1, 1] : List Int) ([1, 2] : List Int),
   "Col2Im(x0,[6,6],[3,1];dilations=[1,1],pads=[1,1,1,1],strides=[1,2])"),
  (OV.C08.pad.termConst 3 ([3, 1, 0, 3, 3, 1] : List Int) "1.5:FLOAT",
   "Pad(x0,[3,0,3,1,3,1],1.5:FLOAT;mode=constant)"),
  (OV.C08.pad.termConst 2 ([2, 0, 3, 3] : List Int) "1.5:FLOAT",
   "Pad(x0,[3,2,3,0],1.5:FLOAT;mode=constant)"),
  (OV.C08.pad.termConst 3 ([] : List Int) "1.5:FLOAT",
   "Pad(x0,[0,0,0,0,0,0],1.5:FLOAT;mode=constant)"),
  (OV.C08.pad.termConst 2 ([] : List Int) "1.5:FLOAT",
   "Pad(x0,[0,0,0,0],1.5:FLOAT;mode=constant)"),
  (OV.C08.pad.termConst 1 ([] : List Int) "1.5:FLOAT",
   "Pad(x0,[0,0],1.5:FLOAT;mode=constant)"),
  (OV.C08.pad.termConst 2 ([3, 3] : List Int) "1.5:FLOAT",
   "Pad(x0,[0,3,0,3],1.5:FLOAT;mode=constant)"),
  (OV.C08.pad.termConst 3 ([1, 0, 3, 3] : List Int) "1.5:FLOAT",
   "Pad(x0,[0,3,1,0,3,0],1.5:FLOAT;mode=constant)"),
  (OV.C08.pad.termConst 4 ([3, 0, 2, 3, 2, 1, (-2), 0] : List Int) "1.5:FLOAT",
   "Pad(x0,[-2,2,2,3,0,1,3,0],1.5:FLOAT;mode=constant)"),
  (OV.C08.pad.termConst 3 ([0, 0, 1, 2, 3, 3] : List Int) "1.5:FLOAT",
   "Pad(x0,[3,1,0,3,2,0],1.5:FLOAT;mode=constant)"),
  (OV.C08.pad.termConst 4 ([] : List Int) "1.5:FLOAT",
   "Pad(x0,[0,0,0,0,0,0,0,0],1.5:FLOAT;mode=constant)"),
  (OV.C08.convnd.term ([1, 2, 7] : List Nat) ([2, 2, 3] : List Nat) true ([1] : List Int) ([1] : List Int) ([2] : List Int) 1,
   "Conv(x0,x1,x2;auto_pad=NOTSET,dilations=[2],group=1,kernel_shape=[3],pads=[1,1],strides=[1])"),
  (OV.C08.convnd.term ([2, 2, 4] : List Nat) ([2, 2, 3] : List Nat) true ([2] : List Int) ([1] : List Int) ([1] : List Int) 1,
   "Conv(x0,x1,x2;auto_pad=NOTSET,dilations=[1],group=1,kernel_shape=[3],pads=[1,1],strides=[2])"),
  (OV.C08.convnd.term ([1, 2, 4] : List Nat) ([2, 2, 2] : List Nat) false ([3] : List Int) ([2] : List Int) ([2] : List Int) 1,
   "Conv(x0,x1,Expand(CastLike(0.0:FLOAT,x0),Expand(Shape(x1;end=1,start=0),[1]));auto_pad=NOTSET,dilations=[2],group=1,kernel_shape=[2],pads=[2,2],strides=[3])"),
  (OV.C08.convnd.term ([2, 1, 6] : List Nat) ([2, 1, 1] : List Nat) false ([3] : List Int) ([1] : List Int) ([1] : List Int) 1,
   "Conv(x0,x1,Expand(CastLike(0.0:FLOAT,x0),Expand(Shape(x1;end=1,start=0),[1]));auto_pad=NOTSET,dilations=[1],group=1,kernel_shape=[1],pads=[1,1],strides=[3])"),
  (OV.C08.convnd.term ([1, 1, 6] : List Nat) ([2, 1, 2] : List Nat) true ([2] : List Int) ([0] : List Int) ([1] : List Int) 1,
   "Conv(x0,x1,x2;auto_pad=NOTSET,dilations=[1],group=1,kernel_shape=[2],pads=[0,0],strides=[2])"),
  (OV.C08.convnd.term ([1, 2, 3] : List Nat) ([1, 2, 3] : List Nat) true ([1] : List Int) ([2] : List Int) ([1] : List Int) 1,
   "Conv(x0,x1,x2;auto_pad=NOTSET,dilations=[1],group=1,kernel_shape=[3],pads=[2,2],strides=[1])"),
  (OV.C08.convnd.term ([1, 4, 3] : List Nat) ([4, 2, 2] : List Nat) true ([1] : List Int) ([1] : List Int) ([2] : List Int) 2,
   "Conv(x0,x1,x2;auto_pad=NOTSET,dilations=[2],group=2,kernel_shape=[2],pads=[1,1],strides=[1])"),
  (OV.C08.convnd.term ([1, 4, 5] : List Nat) ([4, 2, 1] : List Nat) true ([2] : List Int) ([2] : List Int) ([1] : List Int) 2,
   "Conv(x0,x1,x2;auto_pad=NOTSET,dilations=[1],group=2,kernel_shape=[1],pads=[2,2],strides=[2])"),
  (OV.C08.convnd.term ([1, 2, 5] : List Nat) ([1, 2, 3] : List Nat) true ([1] : List Int) ([2] : List Int) ([2] : List Int) 1,
   "Conv(x0,x1,x2;auto_pad=NOTSET,dilations=[2],group=1,kernel_shape=[3],pads=[2,2],strides=[1])"),
  (OV.C08.convnd.term ([1, 1, 5] : List Nat) ([2, 1, 2] : List Nat) false ([2] : List Int) ([2] : List Int) ([1] : List Int) 1,
   "Conv(x0,x1,Expand(CastLike(0.0:FLOAT,x0),Expand(Shape(x1;end=1,start=0),[1]));auto_pad=NOTSET,dilations=[1],group=1,kernel_shape=[2],pads=[2,2],strides=[2])"),
  (OV.C08.convnd.term ([1, 2, 5, 5] : List Nat) ([2, 1, 2, 3] : List Nat) false ([1, 3] : List Int) ([2, 1] : List Int) ([2, 1] : List Int) 2,
   "Conv(x0,x1,Expand(CastLike(0.0:FLOAT,x0),Expand(Shape(x1;end=1,start=0),[1]));auto_pad=NOTSET,dilations=[2,1],group=2,kernel_shape=[2,3],pads=[2,1,2,1],strides=[1,3])"),
  (OV.C08.convnd.term ([1, 2, 4, 6] : List Nat) ([2, 1, 2, 2] : List Nat) false ([3, 2] : List Int) ([0, 1] : List Int) ([1, 1] : List Int) 2,
   "Conv(x0,x1,Expand(CastLike(0.0:FLOAT,x0),Expand(Shape(x1;end=1,start=0),[1]));auto_pad=NOTSET,dilations=[1,1],group=2,kernel_shape=[2,2],pads=[0,1,0,1],strides=[3,2])"),
  (OV.C08.convnd.term ([2, 2, 4, 3] : List Nat) ([1, 2, 2, 2] : List Nat) false ([1, 2] : List Int) ([2, 1] : List Int) ([1, 1] : List Int) 1,
   "Conv(x0,x1,Expand(CastLike(0.0:FLOAT,x0),Expand(Shape(x1;end=1,start=0),[1]));auto_pad=NOTSET,dilations=[1,1],group=1,kernel_shape=[2,2],pads=[2,1,2,1],strides=[1,2])"),
  (OV.C08.convnd.term ([1, 1, 5, 3] : List Nat) ([1, 1, 1, 2] : List Nat) true ([1, 3] : List Int) ([2, 2] : List Int) ([1, 1] : List Int) 1,
   "Conv(x0,x1,x2;auto_pad=NOTSET,dilations=[1,1],group=1,kernel_shape=[1,2],pads=[2,2,2,2],strides=[1,3])"),
  (OV.C08.convnd.term ([1, 1, 5, 6] : List Nat) ([2, 1, 3, 1] : List Nat) true ([3, 2] : List Int) ([1, 1] : List Int) ([2, 2] : List Int) 1,
   "Conv(x0,x1,x2;auto_pad=NOTSET,dilations=[2,2],group=1,kernel_shape=[3,1],pads=[1,1,1,1],strides=[3,2])"),
  (OV.C08.convnd.term ([2, 2, 6, 5] : List Nat) ([4, 1, 3, 1] : List Nat) false ([2, 2] : List Int) ([1, 1] : List Int) ([1, 1] : List Int) 2,
   "Conv(x0,x1,Expand(CastLike(0.0:FLOAT,x0),Expand(Shape(x1;end=1,start=0),[1]));auto_pad=NOTSET,dilations=[1,1],group=2,kernel_shape=[3,1],pads=[1,1,1,1],strides=[2,2])")
]

/-- kernel-checked: every row's model term is the emitted term (chunks build in parallel). -/
theorem ok7 : ∀ e ∈ table7, e.1 = e.2 := by
  unfold table7
  apply OV.C08.rows_of_reads
  · repeat (apply OV.C08.Reads.cons; with_reducible rfl)
    exact .nil
  · decide +kernel

end OV.Gen.C08Trace
