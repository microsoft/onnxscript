import OV.Gen.C08Trace0
import OV.Gen.C08Trace1
import OV.Gen.C08Trace2
import OV.Gen.C08Trace3
import OV.Gen.C08Trace4
import OV.Gen.C08Trace5
import OV.Gen.C08Trace6
import OV.Gen.C08Trace7
import OV.Gen.C08Trace8
import OV.Gen.C08Trace9
import OV.Gen.C08Trace10
import OV.Gen.C08Trace11
import OV.Gen.C08Trace12
import OV.Gen.C08Trace13
import OV.Gen.C08Trace14
import OV.Gen.C08Trace15
import OV.Gen.C08Trace16
import OV.Gen.C08Trace17
import OV.Gen.C08Trace18
import OV.Gen.C08Trace19
import OV.Gen.C08Trace20
import OV.Gen.C08Trace21
import OV.Gen.C08Trace22
import OV.Gen.C08Trace23
import OV.Gen.C08Trace24
import OV.Gen.C08Trace25
import OV.Gen.C08Trace26
import OV.Gen.C08Trace27
import OV.Gen.C08Trace28
import OV.Gen.C08Trace29
/-! GENERATED — the whole trace table. -/
namespace OV.Gen.C08Trace
def traceTable : List (String × String) := table0 ++ (table1 ++ (table2 ++ (table3 ++ (table4 ++ (table5 ++ (table6 ++ (table7 ++ (table8 ++ (table9 ++ (table10 ++ (table11 ++ (table12 ++ (table13 ++ (table14 ++ (table15 ++ (table16 ++ (table17 ++ (table18 ++ (table19 ++ (table20 ++ (table21 ++ (table22 ++ (table23 ++ (table24 ++ (table25 ++ (table26 ++ (table27 ++ (table28 ++ (table29)))))))))))))))))))))))))))))
def nRows : Nat := 957

theorem ok_all : ∀ e ∈ traceTable, e.1 = e.2 :=
  List.forall_mem_append.2 ⟨ok0, List.forall_mem_append.2 ⟨ok1, List.forall_mem_append.2 ⟨ok2, List.forall_mem_append.2 ⟨ok3, List.forall_mem_append.2 ⟨ok4, List.forall_mem_append.2 ⟨ok5, List.forall_mem_append.2 ⟨ok6, List.forall_mem_append.2 ⟨ok7, List.forall_mem_append.2 ⟨ok8, List.forall_mem_append.2 ⟨ok9, List.forall_mem_append.2 ⟨ok10, List.forall_mem_append.2 ⟨ok11, List.forall_mem_append.2 ⟨ok12, List.forall_mem_append.2 ⟨ok13, List.forall_mem_append.2 ⟨ok14, List.forall_mem_append.2 ⟨ok15, List.forall_mem_append.2 ⟨ok16, List.forall_mem_append.2 ⟨ok17, List.forall_mem_append.2 ⟨ok18, List.forall_mem_append.2 ⟨ok19, List.forall_mem_append.2 ⟨ok20, List.forall_mem_append.2 ⟨ok21, List.forall_mem_append.2 ⟨ok22, List.forall_mem_append.2 ⟨ok23, List.forall_mem_append.2 ⟨ok24, List.forall_mem_append.2 ⟨ok25, List.forall_mem_append.2 ⟨ok26, List.forall_mem_append.2 ⟨ok27, List.forall_mem_append.2 ⟨ok28, ok29⟩⟩⟩⟩⟩⟩⟩⟩⟩⟩⟩⟩⟩⟩⟩⟩⟩⟩⟩⟩⟩⟩⟩⟩⟩⟩⟩⟩⟩
end OV.Gen.C08Trace
