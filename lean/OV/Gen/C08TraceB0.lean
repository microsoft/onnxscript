import OV.Model.C08Norm
import OV.Lemmas.C08Rows
/-! GENERATED by harness/extract_torchlib.py from /repo's working tree — do not edit. -/
namespace OV.Gen.C08TraceB

/-- (model term, term emitted by the real torch_lib function) — second table, chunk 0. -/
def table0 : List (String × String) := [
  (OV.C08.addmm.term 1 (-1),
   "Gemm(x1,x2,x0;alpha=1.0,beta=-1.0,transA=0,transB=0)"),
  (OV.C08.addmm.term 3 1,
   "Gemm(x1,x2,x0;alpha=3.0,beta=1.0,transA=0,transB=0)"),
  (OV.C08.addmm.term 1 1,
   "Gemm(x1,x2,x0;alpha=1.0,beta=1.0,transA=0,transB=0)"),
  (OV.C08.addmm.term 3 2,
   "Gemm(x1,x2,x0;alpha=3.0,beta=2.0,transA=0,transB=0)"),
  (OV.C08.addmm.term (-1) 1,
   "Gemm(x1,x2,x0;alpha=-1.0,beta=1.0,transA=0,transB=0)"),
  (OV.C08.addmm.term 0 3,
   "Gemm(x1,x2,x0;alpha=0.0,beta=3.0,transA=0,transB=0)"),
  (OV.C08.addmm.term 0 1,
   "Gemm(x1,x2,x0;alpha=0.0,beta=1.0,transA=0,transB=0)"),
  (OV.C08.addmm.term 1 3,
   "Gemm(x1,x2,x0;alpha=1.0,beta=3.0,transA=0,transB=0)"),
  (OV.C08.addmm.term 2 3,
   "Gemm(x1,x2,x0;alpha=2.0,beta=3.0,transA=0,transB=0)"),
  (OV.C08.addmm.term 2 1,
   "Gemm(x1,x2,x0;alpha=2.0,beta=1.0,transA=0,transB=0)"),
  (OV.C08.baddbmm.term (some 0) (some 2),
   "Add(Mul(MatMul(x1,x2),CastLike(0,x0)),Mul(x0,CastLike(2,x0)))"),
  (OV.C08.baddbmm.term (some (-1)) (some 3),
   "Add(Mul(MatMul(x1,x2),CastLike(-1,x0)),Mul(x0,CastLike(3,x0)))"),
  (OV.C08.baddbmm.term (some 1) none,
   "Add(MatMul(x1,x2),x0)"),
  (OV.C08.baddbmm.term none (some (-1)),
   "Add(MatMul(x1,x2),Mul(x0,CastLike(-1,x0)))"),
  (OV.C08.baddbmm.term (some 0) (some 1),
   "Add(Mul(MatMul(x1,x2),CastLike(0,x0)),x0)"),
  (OV.C08.baddbmm.term (some 2) (some 1),
   "Add(Mul(MatMul(x1,x2),CastLike(2,x0)),x0)"),
  (OV.C08.baddbmm.term (some 1) (some 0),
   "Add(MatMul(x1,x2),Mul(x0,CastLike(0,x0)))"),
  (OV.C08.baddbmm.term (some 1) (some (-1)),
   "Add(MatMul(x1,x2),Mul(x0,CastLike(-1,x0)))"),
  (OV.C08.baddbmm.term (some 0) (some (-1)),
   "Add(Mul(MatMul(x1,x2),CastLike(0,x0)),Mul(x0,CastLike(-1,x0)))"),
  (OV.C08.baddbmm.term (some 1) (some 1),
   "Add(MatMul(x1,x2),x0)"),
  (OV.C08.glu.term (-1),
   "pkg.onnxscript.torch_lib::aten_glu(x0;dim=-1)"),
  (OV.C08.glu.term 0,
   "pkg.onnxscript.torch_lib::aten_glu(x0;dim=0)"),
  (OV.C08.glu.term 2,
   "pkg.onnxscript.torch_lib::aten_glu(x0;dim=2)"),
  (OV.C08.glu.term (-3),
   "pkg.onnxscript.torch_lib::aten_glu(x0;dim=-3)"),
  (OV.C08.glu.term (-2),
   "pkg.onnxscript.torch_lib::aten_glu(x0;dim=-2)"),
  (OV.C08.glu.term 1,
   "pkg.onnxscript.torch_lib::aten_glu(x0;dim=1)"),
  (OV.C08.glu.term 3,
   "pkg.onnxscript.torch_lib::aten_glu(x0;dim=3)"),
  (OV.C08.layer_norm.term false 2 false true,
   "LayerNormalization(x0,Expand(1.0:FLOAT,Shape(x0;start=-2)),x1;axis=-2,epsilon=1e-05,stash_type=1)#0"),
  (OV.C08.layer_norm.term false 1 false true,
   "LayerNormalization(x0,Expand(1.0:FLOAT,Shape(x0;start=-1)),x1;axis=-1,epsilon=1e-05,stash_type=1)#0"),
  (OV.C08.layer_norm.term false 1 true true,
   "LayerNormalization(x0,x1,x2;axis=-1,epsilon=1e-05,stash_type=1)#0"),
  (OV.C08.layer_norm.term false 3 true true,
   "LayerNormalization(x0,x1,x2;axis=-3,epsilon=1e-05,stash_type=1)#0"),
  (OV.C08.layer_norm.term false 4 false true,
   "LayerNormalization(x0,Expand(1.0:FLOAT,Shape(x0;start=-4)),x1;axis=-4,epsilon=1e-05,stash_type=1)#0")
]

theorem ok0 : ∀ e ∈ table0, e.1 = e.2 := by
  unfold table0
  apply OV.C08.rows_of_reads
  · repeat (apply OV.C08.Reads.cons; with_reducible rfl)
    exact .nil
  · decide +kernel

end OV.Gen.C08TraceB
