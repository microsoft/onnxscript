import OV.Model.C08View
import OV.Model.C08Slice
import OV.Model.C08Repl
import OV.Model.C08Reduce
import OV.Model.C08IntArith
import OV.Model.C08Creation
import OV.Model.C08Attr
import OV.Model.C08Misc
import OV.Model.C08Scalar
import OV.Model.C08Linalg
import OV.Lemmas.C08Rows
/-! GENERATED by harness/extract_torchlib.py from /repo's working tree — do not edit. -/
namespace OV.Gen.C08Trace

/-- (model term, term emitted by the real torch_lib function) — chunk 26. -/
def table26 : List (String × String) := [
  (OV.C08.trilu.term false 1,
   "Trilu(x0,1;upper=0)"),
  (OV.C08.trilu.term false 0,
   "Trilu(x0,0;upper=0)"),
  (OV.C08.trilu.term false (-6),
   "Trilu(x0,-6;upper=0)"),
  (OV.C08.trilu.term false 4,
   "Trilu(x0,4;upper=0)"),
  (OV.C08.trilu.term true 0,
   "Trilu(x0,0;upper=1)"),
  (OV.C08.trilu.term true 3,
   "Trilu(x0,3;upper=1)"),
  (OV.C08.trilu.term true (-2),
   "Trilu(x0,-2;upper=1)"),
  (OV.C08.trilu.term true 2,
   "Trilu(x0,2;upper=1)"),
  (OV.C08.trilu.term true (-3),
   "Trilu(x0,-3;upper=1)"),
  (OV.C08.trilu.term true 1,
   "Trilu(x0,1;upper=1)"),
  (OV.C08.trilu.term true 5,
   "Trilu(x0,5;upper=1)"),
  (OV.C08.trilu.term true (-1),
   "Trilu(x0,-1;upper=1)"),
  (OV.C08.trilu.term true (-4),
   "Trilu(x0,-4;upper=1)"),
  (OV.C08.trilu.term true 4,
   "Trilu(x0,4;upper=1)"),
  ((" || ".intercalate (OV.C08.unbind.term 0 (-1))),
   ""),
  ((" || ".intercalate (OV.C08.unbind.term 1 (-2))),
   "Squeeze(Slice(x0,[0],[1],[-2]),[-2])"),
  ((" || ".intercalate (OV.C08.unbind.term 4 0)),
   "Squeeze(Slice(x0,[0],[1],[0]),[0]) || Squeeze(Slice(x0,[1],[2],[0]),[0]) || Squeeze(Slice(x0,[2],[3],[0]),[0]) || Squeeze(Slice(x0,[3],[4],[0]),[0])"),
  ((" || ".intercalate (OV.C08.unbind.term 3 0)),
   "Squeeze(Slice(x0,[0],[1],[0]),[0]) || Squeeze(Slice(x0,[1],[2],[0]),[0]) || Squeeze(Slice(x0,[2],[3],[0]),[0])"),
  ((" || ".intercalate (OV.C08.unbind.term 1 0)),
   "Squeeze(Slice(x0,[0],[1],[0]),[0])"),
  ((" || ".intercalate (OV.C08.unbind.term 4 (-3))),
   "Squeeze(Slice(x0,[0],[1],[-3]),[-3]) || Squeeze(Slice(x0,[1],[2],[-3]),[-3]) || Squeeze(Slice(x0,[2],[3],[-3]),[-3]) || Squeeze(Slice(x0,[3],[4],[-3]),[-3])"),
  ((" || ".intercalate (OV.C08.unbind.term 2 (-3))),
   "Squeeze(Slice(x0,[0],[1],[-3]),[-3]) || Squeeze(Slice(x0,[1],[2],[-3]),[-3])"),
  ((" || ".intercalate (OV.C08.unbind.term 0 (-2))),
   ""),
  ((" || ".intercalate (OV.C08.unbind.term 5 (-1))),
   "Squeeze(Slice(x0,[0],[1],[-1]),[-1]) || Squeeze(Slice(x0,[1],[2],[-1]),[-1]) || Squeeze(Slice(x0,[2],[3],[-1]),[-1]) || Squeeze(Slice(x0,[3],[4],[-1]),[-1]) || Squeeze(Slice(x0,[4],[5],[-1]),[-1])"),
  ((" || ".intercalate (OV.C08.unbind.term 1 2)),
   "Squeeze(Slice(x0,[0],[1],[2]),[2])"),
  (OV.C08.unflatten.term ([5, 4] : List Nat) (-2) ([5, 1] : List Int),
   "Reshape(x0,Concat(Reshape(5,[1];allowzero=0),Reshape(1,[1];allowzero=0),Slice(Shape(x0;start=0),Reshape(1,[1];allowzero=0),[9223372036854775807]);axis=0);allowzero=1)"),
  (OV.C08.unflatten.term ([3, 0, 0, 0] : List Nat) (-2) ([(-1)] : List Int),
   "Reshape(x0,Concat(Slice(Shape(x0;start=0),[0],Reshape(2,[1];allowzero=0)),Reshape(0,[1];allowzero=0),Slice(Shape(x0;start=0),Reshape(3,[1];allowzero=0),[9223372036854775807]);axis=0);allowzero=1)"),
  (OV.C08.unflatten.term ([2, 5, 2, 4] : List Nat) (-3) ([5, 1] : List Int),
   "Reshape(x0,Concat(Slice(Shape(x0;start=0),[0],Reshape(1,[1];allowzero=0)),Reshape(5,[1];allowzero=0),Reshape(1,[1];allowzero=0),Slice(Shape(x0;start=0),Reshape(2,[1];allowzero=0),[9223372036854775807]);axis=0);allowzero=1)"),
  (OV.C08.unflatten.term ([2, 5, 3, 4] : List Nat) (-3) ([5, (-1)] : List Int),
   "Reshape(x0,Concat(Slice(Shape(x0;start=0),[0],Reshape(1,[1];allowzero=0)),Reshape(5,[1];allowzero=0),Reshape(1,[1];allowzero=0),Slice(Shape(x0;start=0),Reshape(2,[1];allowzero=0),[9223372036854775807]);axis=0);allowzero=1)"),
  (OV.C08.unflatten.term ([5, 2, 1] : List Nat) 0 ([1, 1, 5] : List Int),
   "Reshape(x0,Concat(Reshape(1,[1];allowzero=0),Reshape(1,[1];allowzero=0),Reshape(5,[1];allowzero=0),Slice(Shape(x0;start=0),Reshape(1,[1];allowzero=0),[9223372036854775807]);axis=0);allowzero=1)"),
  (OV.C08.unflatten.term ([1, 1] : List Nat) 0 ([(-1)] : List Int),
   "Reshape(x0,Concat(Reshape(1,[1];allowzero=0),Slice(Shape(x0;start=0),Reshape(1,[1];allowzero=0),[9223372036854775807]);axis=0);allowzero=1)"),
  (OV.C08.unflatten.term ([5, 3, 3, 3] : List Nat) (-3) ([0] : List Int),
   "Reshape(x0,Concat(Slice(Shape(x0;start=0),[0],Reshape(1,[1];allowzero=0)),Reshape(0,[1];allowzero=0),Slice(Shape(x0;start=0),Reshape(2,[1];allowzero=0),[9223372036854775807]);axis=0);allowzero=1)"),
  (OV.C08.unflatten.term ([5, 3, 3, 5] : List Nat) 0 ([5, 1] : List Int),
   "Reshape(x0,Concat(Reshape(5,[1];allowzero=0),Reshape(1,[1];allowzero=0),Slice(Shape(x0;start=0),Reshape(1,[1];allowzero=0),[9223372036854775807]);axis=0);allowzero=1)")
]

/-- kernel-checked: every row's model term is the emitted term (chunks build in parallel). -/
theorem ok26 : ∀ e ∈ table26, e.1 = e.2 := by
  unfold table26
  apply OV.C08.rows_of_reads
  · repeat (apply OV.C08.Reads.cons; with_reducible rfl)
    exact .nil
  · decide +kernel

end OV.Gen.C08Trace
