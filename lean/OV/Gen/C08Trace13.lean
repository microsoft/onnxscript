import OV.Model.C08View
import OV.Model.C08Slice
import OV.Model.C08Repl
import OV.Model.C08Reduce
import OV.Model.C08IntArith
import OV.Model.C08Creation
import OV.Model.C08Attr
import OV.Model.C08Misc
import OV.Model.C08Scalar
import OV.Model.C08Linalg
import OV.Lemmas.C08Rows
/-! GENERATED by harness/extract_torchlib.py from /repo's working tree — do not edit. -/
namespace OV.Gen.C08Trace

/-- (model term, term emitted by the real torch_lib function) — chunk 13. -/
def table13 : List (String × String) := [
  (OV.C08.logcumsumexp.term 2 1,
   "Add(Log(CumSum(Exp(Sub(x0,ReduceMax(x0,Unsqueeze(1,[0]);keepdims=1,noop_with_empty_axes=0))),Unsqueeze(1,[0]);exclusive=0,reverse=0)),ReduceMax(x0,Unsqueeze(1,[0]);keepdims=1,noop_with_empty_axes=0))"),
  (OV.C08.logcumsumexp.term 3 (-2),
   "Add(Log(CumSum(Exp(Sub(x0,ReduceMax(x0,Unsqueeze(-2,[0]);keepdims=1,noop_with_empty_axes=0))),Unsqueeze(-2,[0]);exclusive=0,reverse=0)),ReduceMax(x0,Unsqueeze(-2,[0]);keepdims=1,noop_with_empty_axes=0))"),
  (OV.C08.logcumsumexp.term 0 0,
   "x0"),
  (OV.C08.logcumsumexp.term 1 0,
   "Add(Log(CumSum(Exp(Sub(x0,ReduceMax(x0,Unsqueeze(0,[0]);keepdims=1,noop_with_empty_axes=0))),Unsqueeze(0,[0]);exclusive=0,reverse=0)),ReduceMax(x0,Unsqueeze(0,[0]);keepdims=1,noop_with_empty_axes=0))"),
  (OV.C08.logcumsumexp.term 0 (-1),
   "x0"),
  (OV.C08.logsumexp.term 0 ([(-1)] : List Int) true,
   "x0"),
  (OV.C08.logsumexp.term 2 ([0] : List Int) true,
   "ReduceLogSumExp(x0,[0];keepdims=1,noop_with_empty_axes=0)"),
  (OV.C08.logsumexp.term 3 ([1, (-3)] : List Int) true,
   "ReduceLogSumExp(x0,[1,-3];keepdims=1,noop_with_empty_axes=0)"),
  (OV.C08.logsumexp.term 2 ([(-2), 1] : List Int) true,
   "ReduceLogSumExp(x0,[-2,1];keepdims=1,noop_with_empty_axes=0)"),
  (OV.C08.logsumexp.term 3 ([2] : List Int) true,
   "ReduceLogSumExp(x0,[2];keepdims=1,noop_with_empty_axes=0)"),
  (OV.C08.logsumexp.term 1 ([(-1)] : List Int) true,
   "ReduceLogSumExp(x0,[-1];keepdims=1,noop_with_empty_axes=0)"),
  (OV.C08.logsumexp.term 0 ([(-1)] : List Int) false,
   "x0"),
  (OV.C08.logsumexp.term 2 ([1] : List Int) false,
   "ReduceLogSumExp(x0,[1];keepdims=0,noop_with_empty_axes=0)"),
  (OV.C08.logsumexp.term 3 ([(-2), (-3)] : List Int) true,
   "ReduceLogSumExp(x0,[-2,-3];keepdims=1,noop_with_empty_axes=0)"),
  (OV.C08.logsumexp.term 3 ([1, (-1), 0] : List Int) false,
   "ReduceLogSumExp(x0,[1,-1,0];keepdims=0,noop_with_empty_axes=0)"),
  (OV.C08.matmul.term,
   "MatMul(x0,x1)"),
  (OV.C08.max_dim.term "ReduceMax" "ArgMax" 0 0 true,
   "x0 || 0"),
  (OV.C08.max_dim.term "ReduceMax" "ArgMax" 1 0 true,
   "ReduceMax(x0,Reshape(0,[-1];allowzero=0);keepdims=1,noop_with_empty_axes=0) || ArgMax(x0;axis=0,keepdims=1,select_last_index=0)"),
  (OV.C08.max_dim.term "ReduceMax" "ArgMax" 0 (-1) true,
   "x0 || 0"),
  (OV.C08.max_dim.term "ReduceMax" "ArgMax" 3 1 false,
   "ReduceMax(x0,Reshape(1,[-1];allowzero=0);keepdims=0,noop_with_empty_axes=0) || ArgMax(x0;axis=1,keepdims=0,select_last_index=0)"),
  (OV.C08.max_dim.term "ReduceMax" "ArgMax" 2 1 false,
   "ReduceMax(x0,Reshape(1,[-1];allowzero=0);keepdims=0,noop_with_empty_axes=0) || ArgMax(x0;axis=1,keepdims=0,select_last_index=0)"),
  (OV.C08.max_dim.term "ReduceMax" "ArgMax" 0 (-1) false,
   "x0 || 0"),
  (OV.C08.max_dim.term "ReduceMax" "ArgMax" 3 (-3) true,
   "ReduceMax(x0,Reshape(-3,[-1];allowzero=0);keepdims=1,noop_with_empty_axes=0) || ArgMax(x0;axis=-3,keepdims=1,select_last_index=0)"),
  (OV.C08.max_dim.term "ReduceMax" "ArgMax" 3 (-1) false,
   "ReduceMax(x0,Reshape(-1,[-1];allowzero=0);keepdims=0,noop_with_empty_axes=0) || ArgMax(x0;axis=-1,keepdims=0,select_last_index=0)"),
  (OV.C08.max_dim.term "ReduceMax" "ArgMax" 2 (-2) false,
   "ReduceMax(x0,Reshape(-2,[-1];allowzero=0);keepdims=0,noop_with_empty_axes=0) || ArgMax(x0;axis=-2,keepdims=0,select_last_index=0)"),
  (OV.C08.max_dim.term "ReduceMax" "ArgMax" 2 (-1) true,
   "ReduceMax(x0,Reshape(-1,[-1];allowzero=0);keepdims=1,noop_with_empty_axes=0) || ArgMax(x0;axis=-1,keepdims=1,select_last_index=0)"),
  (OV.C08.max_pool.term 1 3 (OV.C08.IntOrList.int 1) (OV.C08.IntOrList.list ([3] : List Int)) (OV.C08.IntOrList.int 0) (OV.C08.IntOrList.int 2) true,
   "MaxPool(x0;auto_pad=NOTSET,ceil_mode=1,dilations=[2],kernel_shape=[1],pads=[0,0],storage_order=0,strides=[3])#0"),
  (OV.C08.max_pool.term 1 3 (OV.C08.IntOrList.list ([2] : List Int)) (OV.C08.IntOrList.list ([1] : List Int)) (OV.C08.IntOrList.list ([0] : List Int)) (OV.C08.IntOrList.int 1) true,
   "MaxPool(x0;auto_pad=NOTSET,ceil_mode=1,dilations=[1],kernel_shape=[2],pads=[0,0],storage_order=0,strides=[1])#0"),
  (OV.C08.max_pool.term 1 3 (OV.C08.IntOrList.int 4) (OV.C08.IntOrList.list ([1] : List Int)) (OV.C08.IntOrList.list ([2] : List Int)) (OV.C08.IntOrList.list ([1] : List Int)) false,
   "MaxPool(x0;auto_pad=NOTSET,ceil_mode=0,dilations=[1],kernel_shape=[4],pads=[2,2],storage_order=0,strides=[1])#0"),
  (OV.C08.max_pool.term 1 3 (OV.C08.IntOrList.list ([2] : List Int)) (OV.C08.IntOrList.list ([3] : List Int)) (OV.C08.IntOrList.list ([1] : List Int)) (OV.C08.IntOrList.list ([1] : List Int)) true,
   "MaxPool(x0;auto_pad=NOTSET,ceil_mode=1,dilations=[1],kernel_shape=[2],pads=[1,1],storage_order=0,strides=[3])#0"),
  (OV.C08.max_pool.term 1 3 (OV.C08.IntOrList.list ([3] : List Int)) (OV.C08.IntOrList.int 1) (OV.C08.IntOrList.list ([0] : List Int)) (OV.C08.IntOrList.list ([1] : List Int)) true,
   "MaxPool(x0;auto_pad=NOTSET,ceil_mode=1,dilations=[1],kernel_shape=[3],pads=[0,0],storage_order=0,strides=[1])#0"),
  (OV.C08.max_pool.term 1 2 (OV.C08.IntOrList.list ([1] : List Int)) (OV.C08.IntOrList.list ([2] : List Int)) (OV.C08.IntOrList.int 0) (OV.C08.IntOrList.int 1) true,
   "Squeeze(MaxPool(Unsqueeze(x0,[0]);auto_pad=NOTSET,ceil_mode=1,dilations=[1],kernel_shape=[1],pads=[0,0],storage_order=0,strides=[2])#0,[0])")
]

/-- kernel-checked: every row's model term is the emitted term (chunks build in parallel). -/
theorem ok13 : ∀ e ∈ table13, e.1 = e.2 := by
  unfold table13
  apply OV.C08.rows_of_reads
  · repeat (apply OV.C08.Reads.cons; with_reducible rfl)
    exact .nil
  · decide +kernel

end OV.Gen.C08Trace
