import OV.Lemmas.C12Rename
/-! GENERATED by harness/extract_schemas.py from /repo's working tree and the installed onnx schemas.
    Do not edit.  `shapes`: distinct (OpSignature reading, raw OpSchema reading) pairs;
    `rows`: (op, since_version, shape index) for every schema effective in opsets 13..23 with ≥1 input;
    `chunk<k>Idx`: the shape indices in groups of balanced size (sum of the cubed signature lengths). -/
namespace OV.Gen.C12
open OV.Autocast

def shapes : List Shape := [
  ⟨[⟨"T", false, true⟩], [⟨"T", false, true⟩]⟩,
  ⟨[⟨"T", false, true⟩, ⟨"T", false, true⟩], [⟨"T", false, true⟩, ⟨"T", false, true⟩]⟩,
  ⟨[⟨"T1", false, true⟩, ⟨"T2", false, true⟩], [⟨"T1", false, true⟩, ⟨"T2", false, true⟩]⟩,
  ⟨[⟨"T1", false, true⟩, ⟨"T1", false, true⟩, ⟨"T2", false, true⟩, ⟨"U", false, true⟩, ⟨"T1", false, true⟩, ⟨"T2", false, true⟩], [⟨"T1", false, true⟩, ⟨"T1", false, true⟩, ⟨"T2", false, true⟩, ⟨"U", false, true⟩, ⟨"T1", false, true⟩, ⟨"T2", false, true⟩]⟩,
  ⟨[⟨"T", false, true⟩, ⟨"T", false, true⟩, ⟨"T", false, true⟩, ⟨"T", false, true⟩, ⟨"T", false, true⟩], [⟨"T", false, true⟩, ⟨"T", false, true⟩, ⟨"T", false, true⟩, ⟨"T", false, true⟩, ⟨"T", false, true⟩]⟩,
  ⟨[⟨"T", false, true⟩, ⟨"T", false, true⟩, ⟨"T", false, true⟩, ⟨"U", false, true⟩, ⟨"U", false, true⟩], [⟨"T", false, true⟩, ⟨"T", false, true⟩, ⟨"T", false, true⟩, ⟨"U", false, true⟩, ⟨"U", false, true⟩]⟩,
  ⟨[⟨"T", false, true⟩, ⟨"T1", false, true⟩, ⟨"T1", false, true⟩, ⟨"T2", false, true⟩, ⟨"T2", false, true⟩], [⟨"T", false, true⟩, ⟨"T1", false, true⟩, ⟨"T1", false, true⟩, ⟨"T2", false, true⟩, ⟨"T2", false, true⟩]⟩,
  ⟨[⟨"T1", false, true⟩], [⟨"T1", false, true⟩]⟩,
  ⟨[⟨"T", false, true⟩, ⟨"Tind", false, true⟩], [⟨"T", false, true⟩, ⟨"Tind", false, true⟩]⟩,
  ⟨[⟨"T", false, true⟩, ⟨"T", false, true⟩, ⟨"T", false, true⟩], [⟨"T", false, true⟩, ⟨"T", false, true⟩, ⟨"T", false, true⟩]⟩,
  ⟨[⟨"T", false, true⟩, ⟨"image_shape", false, true⟩, ⟨"block_shape", false, true⟩], [⟨"T", false, true⟩, ⟨"tensor(int64)", false, true⟩, ⟨"tensor(int64)", false, true⟩]⟩,
  ⟨[⟨"T", false, true⟩, ⟨"T1", false, true⟩], [⟨"T", false, true⟩, ⟨"T1", false, true⟩]⟩,
  ⟨[⟨"T", true, true⟩], [⟨"T", true, true⟩]⟩,
  ⟨[⟨"S", false, true⟩], [⟨"S", false, true⟩]⟩,
  ⟨[⟨"T1", false, true⟩, ⟨"T2", false, true⟩, ⟨"T1", false, true⟩, ⟨"T2", false, true⟩], [⟨"T1", false, true⟩, ⟨"T2", false, true⟩, ⟨"T1", false, true⟩, ⟨"T2", false, true⟩]⟩,
  ⟨[⟨"T", false, true⟩, ⟨"T2", false, true⟩], [⟨"T", false, true⟩, ⟨"T2", false, true⟩]⟩,
  ⟨[⟨"T1", false, true⟩, ⟨"T2", false, true⟩, ⟨"axis", false, true⟩], [⟨"T1", false, true⟩, ⟨"T2", false, true⟩, ⟨"tensor(int64)", false, true⟩]⟩,
  ⟨[⟨"T", false, true⟩, ⟨"x_scale", false, true⟩, ⟨"T", false, true⟩], [⟨"T", false, true⟩, ⟨"tensor(float)", false, true⟩, ⟨"T", false, true⟩]⟩,
  ⟨[⟨"T1", false, true⟩, ⟨"T2", false, true⟩, ⟨"T1", false, true⟩], [⟨"T1", false, true⟩, ⟨"T2", false, true⟩, ⟨"T1", false, true⟩]⟩,
  ⟨[⟨"T", false, true⟩, ⟨"T1", false, true⟩, ⟨"T2", false, true⟩], [⟨"T", false, true⟩, ⟨"T1", false, true⟩, ⟨"T2", false, true⟩]⟩,
  ⟨[⟨"T", false, true⟩, ⟨"shape", false, true⟩], [⟨"T", false, true⟩, ⟨"tensor(int64)", false, true⟩]⟩,
  ⟨[⟨"T", false, true⟩, ⟨"T", false, true⟩, ⟨"T", false, true⟩, ⟨"T", false, true⟩, ⟨"T1", false, true⟩, ⟨"T", false, true⟩], [⟨"T", false, true⟩, ⟨"T", false, true⟩, ⟨"T", false, true⟩, ⟨"T", false, true⟩, ⟨"T1", false, true⟩, ⟨"T", false, true⟩]⟩,
  ⟨[⟨"T", false, true⟩, ⟨"indices", false, true⟩], [⟨"T", false, true⟩, ⟨"tensor(int64)", false, true⟩]⟩,
  ⟨[⟨"V", false, true⟩], [⟨"V", false, true⟩]⟩,
  ⟨[⟨"B", false, true⟩], [⟨"B", false, true⟩]⟩,
  ⟨[⟨"T", false, true⟩, ⟨"T", false, true⟩, ⟨"T", false, true⟩, ⟨"T", false, true⟩, ⟨"T1", false, true⟩, ⟨"T", false, true⟩, ⟨"T", false, true⟩, ⟨"T", false, true⟩], [⟨"T", false, true⟩, ⟨"T", false, true⟩, ⟨"T", false, true⟩, ⟨"T", false, true⟩, ⟨"T1", false, true⟩, ⟨"T", false, true⟩, ⟨"T", false, true⟩, ⟨"T", false, true⟩]⟩,
  ⟨[⟨"I", false, true⟩, ⟨"B", false, true⟩, ⟨"V", true, false⟩], [⟨"I", false, true⟩, ⟨"B", false, true⟩, ⟨"V", true, false⟩]⟩,
  ⟨[⟨"T1", false, true⟩, ⟨"T2", false, true⟩, ⟨"T2", false, true⟩], [⟨"T1", false, true⟩, ⟨"T2", false, true⟩, ⟨"T2", false, true⟩]⟩,
  ⟨[⟨"T1", false, true⟩, ⟨"T1", false, true⟩, ⟨"T1", false, true⟩, ⟨"T2", false, true⟩, ⟨"T2", false, true⟩], [⟨"T1", false, true⟩, ⟨"T1", false, true⟩, ⟨"T1", false, true⟩, ⟨"T2", false, true⟩, ⟨"T2", false, true⟩]⟩,
  ⟨[⟨"T", false, true⟩, ⟨"Tind", false, true⟩, ⟨"T", false, true⟩], [⟨"T", false, true⟩, ⟨"Tind", false, true⟩, ⟨"T", false, true⟩]⟩,
  ⟨[⟨"boxes", false, true⟩, ⟨"scores", false, true⟩, ⟨"max_output_boxes_per_class", false, true⟩, ⟨"iou_threshold", false, true⟩, ⟨"score_threshold", false, true⟩], [⟨"tensor(float)", false, true⟩, ⟨"tensor(float)", false, true⟩, ⟨"tensor(int64)", false, true⟩, ⟨"tensor(float)", false, true⟩, ⟨"tensor(float)", false, true⟩]⟩,
  ⟨[⟨"T1", false, true⟩, ⟨"T2", false, true⟩, ⟨"T3", false, true⟩], [⟨"T1", false, true⟩, ⟨"T2", false, true⟩, ⟨"T3", false, true⟩]⟩,
  ⟨[⟨"O", false, true⟩], [⟨"O", false, true⟩]⟩,
  ⟨[⟨"T", false, true⟩, ⟨"pads", false, true⟩, ⟨"T", false, true⟩], [⟨"T", false, true⟩, ⟨"tensor(int64)", false, true⟩, ⟨"T", false, true⟩]⟩,
  ⟨[⟨"T", false, true⟩, ⟨"pads", false, true⟩, ⟨"T", false, true⟩, ⟨"Tind", false, true⟩], [⟨"T", false, true⟩, ⟨"tensor(int64)", false, true⟩, ⟨"T", false, true⟩, ⟨"Tind", false, true⟩]⟩,
  ⟨[⟨"T1", false, true⟩, ⟨"x_scale", false, true⟩, ⟨"T1", false, true⟩, ⟨"T2", false, true⟩, ⟨"w_scale", false, true⟩, ⟨"T2", false, true⟩, ⟨"y_scale", false, true⟩, ⟨"T3", false, true⟩, ⟨"T4", false, true⟩], [⟨"T1", false, true⟩, ⟨"tensor(float)", false, true⟩, ⟨"T1", false, true⟩, ⟨"T2", false, true⟩, ⟨"tensor(float)", false, true⟩, ⟨"T2", false, true⟩, ⟨"tensor(float)", false, true⟩, ⟨"T3", false, true⟩, ⟨"T4", false, true⟩]⟩,
  ⟨[⟨"T1", false, true⟩, ⟨"a_scale", false, true⟩, ⟨"T1", false, true⟩, ⟨"T2", false, true⟩, ⟨"b_scale", false, true⟩, ⟨"T2", false, true⟩, ⟨"y_scale", false, true⟩, ⟨"T3", false, true⟩], [⟨"T1", false, true⟩, ⟨"tensor(float)", false, true⟩, ⟨"T1", false, true⟩, ⟨"T2", false, true⟩, ⟨"tensor(float)", false, true⟩, ⟨"T2", false, true⟩, ⟨"tensor(float)", false, true⟩, ⟨"T3", false, true⟩]⟩,
  ⟨[⟨"T1", false, true⟩, ⟨"TS", false, true⟩, ⟨"T1", false, true⟩, ⟨"T2", false, true⟩, ⟨"TS", false, true⟩, ⟨"T2", false, true⟩, ⟨"TS", false, true⟩, ⟨"T3", false, true⟩], [⟨"T1", false, true⟩, ⟨"TS", false, true⟩, ⟨"T1", false, true⟩, ⟨"T2", false, true⟩, ⟨"TS", false, true⟩, ⟨"T2", false, true⟩, ⟨"TS", false, true⟩, ⟨"T3", false, true⟩]⟩,
  ⟨[⟨"T1", false, true⟩, ⟨"y_scale", false, true⟩, ⟨"T2", false, true⟩], [⟨"T1", false, true⟩, ⟨"tensor(float)", false, true⟩, ⟨"T2", false, true⟩]⟩,
  ⟨[⟨"T1", false, true⟩, ⟨"T1", false, true⟩, ⟨"T2", false, true⟩], [⟨"T1", false, true⟩, ⟨"T1", false, true⟩, ⟨"T2", false, true⟩]⟩,
  ⟨[⟨"T", false, true⟩, ⟨"V", false, true⟩], [⟨"T", false, true⟩, ⟨"V", false, true⟩]⟩,
  ⟨[⟨"T", false, true⟩, ⟨"axes", false, true⟩], [⟨"T", false, true⟩, ⟨"tensor(int64)", false, true⟩]⟩,
  ⟨[⟨"T1", false, true⟩, ⟨"T2", false, true⟩, ⟨"scales", false, true⟩, ⟨"sizes", false, true⟩], [⟨"T1", false, true⟩, ⟨"T2", false, true⟩, ⟨"tensor(float)", false, true⟩, ⟨"tensor(int64)", false, true⟩]⟩,
  ⟨[⟨"T", false, true⟩, ⟨"sequence_lens", false, true⟩], [⟨"T", false, true⟩, ⟨"tensor(int64)", false, true⟩]⟩,
  ⟨[⟨"T", false, true⟩, ⟨"T", false, true⟩, ⟨"T", false, true⟩, ⟨"M", false, true⟩], [⟨"T", false, true⟩, ⟨"T", false, true⟩, ⟨"T", false, true⟩, ⟨"M", false, true⟩]⟩,
  ⟨[⟨"V", true, false⟩], [⟨"V", true, false⟩]⟩,
  ⟨[⟨"T", false, true⟩, ⟨"indices", false, true⟩, ⟨"T", false, true⟩], [⟨"T", false, true⟩, ⟨"tensor(int64)", false, true⟩, ⟨"T", false, true⟩]⟩,
  ⟨[⟨"S", false, true⟩, ⟨"I", false, true⟩], [⟨"S", false, true⟩, ⟨"I", false, true⟩]⟩,
  ⟨[⟨"S", false, true⟩, ⟨"T", false, true⟩, ⟨"I", false, true⟩], [⟨"S", false, true⟩, ⟨"T", false, true⟩, ⟨"I", false, true⟩]⟩,
  ⟨[⟨"S", false, true⟩, ⟨"V", true, false⟩], [⟨"S", false, true⟩, ⟨"V", true, false⟩]⟩,
  ⟨[⟨"T", false, true⟩, ⟨"Tind", false, true⟩, ⟨"Tind", false, true⟩, ⟨"Tind", false, true⟩, ⟨"Tind", false, true⟩], [⟨"T", false, true⟩, ⟨"Tind", false, true⟩, ⟨"Tind", false, true⟩, ⟨"Tind", false, true⟩, ⟨"Tind", false, true⟩]⟩,
  ⟨[⟨"T", false, true⟩, ⟨"split", false, true⟩], [⟨"T", false, true⟩, ⟨"tensor(int64)", false, true⟩]⟩,
  ⟨[⟨"T", false, true⟩, ⟨"I", false, true⟩], [⟨"T", false, true⟩, ⟨"I", false, true⟩]⟩,
  ⟨[⟨"X", false, true⟩], [⟨"tensor(string)", false, true⟩]⟩,
  ⟨[⟨"T", false, true⟩, ⟨"K", false, true⟩], [⟨"T", false, true⟩, ⟨"tensor(int64)", false, true⟩]⟩,
  ⟨[⟨"T", false, true⟩, ⟨"k", false, true⟩], [⟨"T", false, true⟩, ⟨"tensor(int64)", false, true⟩]⟩,
  ⟨[⟨"B", false, true⟩, ⟨"T", false, true⟩, ⟨"T", false, true⟩], [⟨"B", false, true⟩, ⟨"T", false, true⟩, ⟨"T", false, true⟩]⟩
]

def rows : List Row := [
  ⟨"Abs", 13, 0⟩,
  ⟨"Acos", 7, 0⟩,
  ⟨"Acos", 22, 0⟩,
  ⟨"Acosh", 9, 0⟩,
  ⟨"Acosh", 22, 0⟩,
  ⟨"Add", 13, 1⟩,
  ⟨"Add", 14, 1⟩,
  ⟨"AffineGrid", 20, 2⟩,
  ⟨"And", 7, 1⟩,
  ⟨"ArgMax", 13, 0⟩,
  ⟨"ArgMin", 13, 0⟩,
  ⟨"Asin", 7, 0⟩,
  ⟨"Asin", 22, 0⟩,
  ⟨"Asinh", 9, 0⟩,
  ⟨"Asinh", 22, 0⟩,
  ⟨"Atan", 7, 0⟩,
  ⟨"Atan", 22, 0⟩,
  ⟨"Atanh", 9, 0⟩,
  ⟨"Atanh", 22, 0⟩,
  ⟨"Attention", 23, 3⟩,
  ⟨"AveragePool", 11, 0⟩,
  ⟨"AveragePool", 19, 0⟩,
  ⟨"AveragePool", 22, 0⟩,
  ⟨"BatchNormalization", 9, 4⟩,
  ⟨"BatchNormalization", 14, 5⟩,
  ⟨"BatchNormalization", 15, 6⟩,
  ⟨"Bernoulli", 15, 7⟩,
  ⟨"Bernoulli", 22, 7⟩,
  ⟨"BitShift", 11, 1⟩,
  ⟨"BitwiseAnd", 18, 1⟩,
  ⟨"BitwiseNot", 18, 0⟩,
  ⟨"BitwiseOr", 18, 1⟩,
  ⟨"BitwiseXor", 18, 1⟩,
  ⟨"BlackmanWindow", 17, 7⟩,
  ⟨"Cast", 13, 7⟩,
  ⟨"Cast", 19, 7⟩,
  ⟨"Cast", 21, 7⟩,
  ⟨"Cast", 23, 7⟩,
  ⟨"CastLike", 15, 2⟩,
  ⟨"CastLike", 19, 2⟩,
  ⟨"CastLike", 21, 2⟩,
  ⟨"CastLike", 23, 2⟩,
  ⟨"Ceil", 13, 0⟩,
  ⟨"Celu", 12, 0⟩,
  ⟨"CenterCropPad", 18, 8⟩,
  ⟨"Clip", 13, 9⟩,
  ⟨"Col2Im", 18, 10⟩,
  ⟨"Compress", 11, 11⟩,
  ⟨"Concat", 13, 12⟩,
  ⟨"ConcatFromSequence", 11, 13⟩,
  ⟨"ConstantOfShape", 9, 7⟩,
  ⟨"ConstantOfShape", 20, 7⟩,
  ⟨"ConstantOfShape", 21, 7⟩,
  ⟨"ConstantOfShape", 23, 7⟩,
  ⟨"Conv", 11, 9⟩,
  ⟨"Conv", 22, 9⟩,
  ⟨"ConvInteger", 10, 14⟩,
  ⟨"ConvTranspose", 11, 9⟩,
  ⟨"ConvTranspose", 22, 9⟩,
  ⟨"Cos", 7, 0⟩,
  ⟨"Cos", 22, 0⟩,
  ⟨"Cosh", 9, 0⟩,
  ⟨"Cosh", 22, 0⟩,
  ⟨"CumSum", 11, 15⟩,
  ⟨"CumSum", 14, 15⟩,
  ⟨"DFT", 17, 2⟩,
  ⟨"DFT", 20, 16⟩,
  ⟨"DeformConv", 19, 4⟩,
  ⟨"DeformConv", 22, 4⟩,
  ⟨"DepthToSpace", 13, 0⟩,
  ⟨"DequantizeLinear", 13, 17⟩,
  ⟨"DequantizeLinear", 19, 18⟩,
  ⟨"DequantizeLinear", 21, 18⟩,
  ⟨"DequantizeLinear", 23, 18⟩,
  ⟨"Det", 11, 0⟩,
  ⟨"Det", 22, 0⟩,
  ⟨"Div", 13, 1⟩,
  ⟨"Div", 14, 1⟩,
  ⟨"Dropout", 13, 19⟩,
  ⟨"Dropout", 22, 19⟩,
  ⟨"DynamicQuantizeLinear", 11, 7⟩,
  ⟨"Einsum", 12, 12⟩,
  ⟨"Elu", 6, 0⟩,
  ⟨"Elu", 22, 0⟩,
  ⟨"Equal", 13, 1⟩,
  ⟨"Equal", 19, 1⟩,
  ⟨"Erf", 13, 0⟩,
  ⟨"Exp", 13, 0⟩,
  ⟨"Expand", 13, 20⟩,
  ⟨"EyeLike", 9, 7⟩,
  ⟨"EyeLike", 22, 7⟩,
  ⟨"Flatten", 13, 0⟩,
  ⟨"Flatten", 21, 0⟩,
  ⟨"Flatten", 23, 0⟩,
  ⟨"Floor", 13, 0⟩,
  ⟨"GRU", 7, 21⟩,
  ⟨"GRU", 14, 21⟩,
  ⟨"GRU", 22, 21⟩,
  ⟨"Gather", 13, 8⟩,
  ⟨"GatherElements", 13, 8⟩,
  ⟨"GatherND", 13, 22⟩,
  ⟨"Gelu", 20, 0⟩,
  ⟨"Gemm", 13, 9⟩,
  ⟨"GlobalAveragePool", 1, 0⟩,
  ⟨"GlobalAveragePool", 22, 0⟩,
  ⟨"GlobalLpPool", 2, 0⟩,
  ⟨"GlobalLpPool", 22, 0⟩,
  ⟨"GlobalMaxPool", 1, 0⟩,
  ⟨"GlobalMaxPool", 22, 0⟩,
  ⟨"Greater", 13, 1⟩,
  ⟨"GreaterOrEqual", 12, 1⟩,
  ⟨"GreaterOrEqual", 16, 1⟩,
  ⟨"GridSample", 16, 2⟩,
  ⟨"GridSample", 20, 2⟩,
  ⟨"GridSample", 22, 2⟩,
  ⟨"GroupNormalization", 21, 9⟩,
  ⟨"HammingWindow", 17, 7⟩,
  ⟨"HannWindow", 17, 7⟩,
  ⟨"HardSigmoid", 6, 0⟩,
  ⟨"HardSigmoid", 22, 0⟩,
  ⟨"HardSwish", 14, 0⟩,
  ⟨"HardSwish", 22, 0⟩,
  ⟨"Hardmax", 13, 0⟩,
  ⟨"Identity", 13, 0⟩,
  ⟨"Identity", 14, 23⟩,
  ⟨"Identity", 16, 23⟩,
  ⟨"Identity", 19, 23⟩,
  ⟨"Identity", 21, 23⟩,
  ⟨"Identity", 23, 23⟩,
  ⟨"If", 13, 24⟩,
  ⟨"If", 16, 24⟩,
  ⟨"If", 19, 24⟩,
  ⟨"If", 21, 24⟩,
  ⟨"If", 23, 24⟩,
  ⟨"ImageDecoder", 20, 7⟩,
  ⟨"InstanceNormalization", 6, 9⟩,
  ⟨"InstanceNormalization", 22, 9⟩,
  ⟨"IsInf", 10, 7⟩,
  ⟨"IsInf", 20, 7⟩,
  ⟨"IsNaN", 13, 7⟩,
  ⟨"IsNaN", 20, 7⟩,
  ⟨"LRN", 13, 0⟩,
  ⟨"LSTM", 7, 25⟩,
  ⟨"LSTM", 14, 25⟩,
  ⟨"LSTM", 22, 25⟩,
  ⟨"LayerNormalization", 17, 9⟩,
  ⟨"LeakyRelu", 6, 0⟩,
  ⟨"LeakyRelu", 16, 0⟩,
  ⟨"Less", 13, 1⟩,
  ⟨"LessOrEqual", 12, 1⟩,
  ⟨"LessOrEqual", 16, 1⟩,
  ⟨"Log", 13, 0⟩,
  ⟨"LogSoftmax", 13, 0⟩,
  ⟨"Loop", 13, 26⟩,
  ⟨"Loop", 16, 26⟩,
  ⟨"Loop", 19, 26⟩,
  ⟨"Loop", 21, 26⟩,
  ⟨"Loop", 23, 26⟩,
  ⟨"LpNormalization", 1, 0⟩,
  ⟨"LpNormalization", 22, 0⟩,
  ⟨"LpPool", 11, 0⟩,
  ⟨"LpPool", 18, 0⟩,
  ⟨"LpPool", 22, 0⟩,
  ⟨"MatMul", 13, 1⟩,
  ⟨"MatMulInteger", 10, 14⟩,
  ⟨"Max", 13, 12⟩,
  ⟨"MaxPool", 12, 0⟩,
  ⟨"MaxPool", 22, 0⟩,
  ⟨"MaxRoiPool", 1, 1⟩,
  ⟨"MaxRoiPool", 22, 1⟩,
  ⟨"MaxUnpool", 11, 27⟩,
  ⟨"MaxUnpool", 22, 27⟩,
  ⟨"Mean", 13, 12⟩,
  ⟨"MeanVarianceNormalization", 13, 0⟩,
  ⟨"MelWeightMatrix", 17, 28⟩,
  ⟨"Min", 13, 12⟩,
  ⟨"Mish", 18, 0⟩,
  ⟨"Mish", 22, 0⟩,
  ⟨"Mod", 13, 1⟩,
  ⟨"Mul", 13, 1⟩,
  ⟨"Mul", 14, 1⟩,
  ⟨"Multinomial", 7, 7⟩,
  ⟨"Multinomial", 22, 7⟩,
  ⟨"Neg", 13, 0⟩,
  ⟨"NegativeLogLikelihoodLoss", 13, 29⟩,
  ⟨"NegativeLogLikelihoodLoss", 22, 29⟩,
  ⟨"NonMaxSuppression", 11, 30⟩,
  ⟨"NonZero", 13, 0⟩,
  ⟨"Not", 1, 0⟩,
  ⟨"OneHot", 11, 31⟩,
  ⟨"Optional", 15, 23⟩,
  ⟨"OptionalGetElement", 15, 32⟩,
  ⟨"OptionalGetElement", 18, 32⟩,
  ⟨"OptionalHasElement", 15, 32⟩,
  ⟨"OptionalHasElement", 18, 32⟩,
  ⟨"Or", 7, 1⟩,
  ⟨"PRelu", 9, 1⟩,
  ⟨"PRelu", 16, 1⟩,
  ⟨"Pad", 13, 33⟩,
  ⟨"Pad", 18, 34⟩,
  ⟨"Pad", 19, 34⟩,
  ⟨"Pad", 21, 34⟩,
  ⟨"Pad", 23, 34⟩,
  ⟨"Pow", 13, 11⟩,
  ⟨"Pow", 15, 11⟩,
  ⟨"QLinearConv", 10, 35⟩,
  ⟨"QLinearMatMul", 10, 36⟩,
  ⟨"QLinearMatMul", 21, 37⟩,
  ⟨"QuantizeLinear", 13, 38⟩,
  ⟨"QuantizeLinear", 19, 39⟩,
  ⟨"QuantizeLinear", 21, 39⟩,
  ⟨"QuantizeLinear", 23, 31⟩,
  ⟨"RMSNormalization", 23, 40⟩,
  ⟨"RNN", 7, 21⟩,
  ⟨"RNN", 14, 21⟩,
  ⟨"RNN", 22, 21⟩,
  ⟨"RandomNormalLike", 1, 7⟩,
  ⟨"RandomNormalLike", 22, 7⟩,
  ⟨"RandomUniformLike", 1, 7⟩,
  ⟨"RandomUniformLike", 22, 7⟩,
  ⟨"Range", 11, 9⟩,
  ⟨"Reciprocal", 13, 0⟩,
  ⟨"ReduceL1", 13, 0⟩,
  ⟨"ReduceL1", 18, 41⟩,
  ⟨"ReduceL2", 13, 0⟩,
  ⟨"ReduceL2", 18, 41⟩,
  ⟨"ReduceLogSum", 13, 0⟩,
  ⟨"ReduceLogSum", 18, 41⟩,
  ⟨"ReduceLogSumExp", 13, 0⟩,
  ⟨"ReduceLogSumExp", 18, 41⟩,
  ⟨"ReduceMax", 13, 0⟩,
  ⟨"ReduceMax", 18, 41⟩,
  ⟨"ReduceMax", 20, 41⟩,
  ⟨"ReduceMean", 13, 0⟩,
  ⟨"ReduceMean", 18, 41⟩,
  ⟨"ReduceMin", 13, 0⟩,
  ⟨"ReduceMin", 18, 41⟩,
  ⟨"ReduceMin", 20, 41⟩,
  ⟨"ReduceProd", 13, 0⟩,
  ⟨"ReduceProd", 18, 41⟩,
  ⟨"ReduceSum", 13, 41⟩,
  ⟨"ReduceSumSquare", 13, 0⟩,
  ⟨"ReduceSumSquare", 18, 41⟩,
  ⟨"RegexFullMatch", 20, 7⟩,
  ⟨"Relu", 13, 0⟩,
  ⟨"Relu", 14, 0⟩,
  ⟨"Reshape", 13, 20⟩,
  ⟨"Reshape", 14, 20⟩,
  ⟨"Reshape", 19, 20⟩,
  ⟨"Reshape", 21, 20⟩,
  ⟨"Reshape", 23, 20⟩,
  ⟨"Resize", 13, 42⟩,
  ⟨"Resize", 18, 42⟩,
  ⟨"Resize", 19, 42⟩,
  ⟨"ReverseSequence", 10, 43⟩,
  ⟨"RoiAlign", 10, 39⟩,
  ⟨"RoiAlign", 16, 39⟩,
  ⟨"RoiAlign", 22, 39⟩,
  ⟨"RotaryEmbedding", 23, 44⟩,
  ⟨"Round", 11, 0⟩,
  ⟨"Round", 22, 0⟩,
  ⟨"STFT", 17, 14⟩,
  ⟨"Scan", 11, 45⟩,
  ⟨"Scan", 16, 45⟩,
  ⟨"Scan", 19, 45⟩,
  ⟨"Scan", 21, 45⟩,
  ⟨"Scan", 23, 45⟩,
  ⟨"ScatterElements", 13, 29⟩,
  ⟨"ScatterElements", 16, 29⟩,
  ⟨"ScatterElements", 18, 29⟩,
  ⟨"ScatterND", 13, 46⟩,
  ⟨"ScatterND", 16, 46⟩,
  ⟨"ScatterND", 18, 46⟩,
  ⟨"Selu", 6, 0⟩,
  ⟨"Selu", 22, 0⟩,
  ⟨"SequenceAt", 11, 47⟩,
  ⟨"SequenceConstruct", 11, 12⟩,
  ⟨"SequenceErase", 11, 47⟩,
  ⟨"SequenceInsert", 11, 48⟩,
  ⟨"SequenceLength", 11, 13⟩,
  ⟨"SequenceMap", 17, 49⟩,
  ⟨"Shape", 13, 0⟩,
  ⟨"Shape", 15, 0⟩,
  ⟨"Shape", 19, 0⟩,
  ⟨"Shape", 21, 0⟩,
  ⟨"Shape", 23, 0⟩,
  ⟨"Shrink", 9, 0⟩,
  ⟨"Sigmoid", 13, 0⟩,
  ⟨"Sign", 13, 0⟩,
  ⟨"Sin", 7, 0⟩,
  ⟨"Sin", 22, 0⟩,
  ⟨"Sinh", 9, 0⟩,
  ⟨"Sinh", 22, 0⟩,
  ⟨"Size", 13, 0⟩,
  ⟨"Size", 19, 0⟩,
  ⟨"Size", 21, 0⟩,
  ⟨"Size", 23, 0⟩,
  ⟨"Slice", 13, 50⟩,
  ⟨"Softmax", 13, 0⟩,
  ⟨"SoftmaxCrossEntropyLoss", 13, 29⟩,
  ⟨"Softplus", 1, 0⟩,
  ⟨"Softplus", 22, 0⟩,
  ⟨"Softsign", 1, 0⟩,
  ⟨"Softsign", 22, 0⟩,
  ⟨"SpaceToDepth", 13, 0⟩,
  ⟨"Split", 13, 51⟩,
  ⟨"Split", 18, 51⟩,
  ⟨"SplitToSequence", 11, 52⟩,
  ⟨"Sqrt", 13, 0⟩,
  ⟨"Squeeze", 13, 41⟩,
  ⟨"Squeeze", 21, 41⟩,
  ⟨"Squeeze", 23, 41⟩,
  ⟨"StringConcat", 20, 1⟩,
  ⟨"StringNormalizer", 10, 53⟩,
  ⟨"StringSplit", 20, 7⟩,
  ⟨"Sub", 13, 1⟩,
  ⟨"Sub", 14, 1⟩,
  ⟨"Sum", 13, 12⟩,
  ⟨"Tan", 7, 0⟩,
  ⟨"Tan", 22, 0⟩,
  ⟨"Tanh", 13, 0⟩,
  ⟨"TfIdfVectorizer", 9, 0⟩,
  ⟨"ThresholdedRelu", 10, 0⟩,
  ⟨"ThresholdedRelu", 22, 0⟩,
  ⟨"Tile", 13, 11⟩,
  ⟨"TopK", 11, 54⟩,
  ⟨"Transpose", 13, 0⟩,
  ⟨"Transpose", 21, 0⟩,
  ⟨"Transpose", 23, 0⟩,
  ⟨"Trilu", 14, 55⟩,
  ⟨"Unique", 11, 0⟩,
  ⟨"Unsqueeze", 13, 41⟩,
  ⟨"Unsqueeze", 21, 41⟩,
  ⟨"Unsqueeze", 23, 41⟩,
  ⟨"Where", 9, 56⟩,
  ⟨"Where", 16, 56⟩,
  ⟨"Xor", 7, 1⟩
]

def chunk0Idx : List Nat := [35]
def chunk1Idx : List Nat := [25, 56]
def chunk2Idx : List Nat := [1, 20, 36, 51]
def chunk3Idx : List Nat := [2, 22, 37, 52]
def chunk4Idx : List Nat := [3, 8, 10, 17, 28, 29, 39, 41, 42, 55]
def chunk5Idx : List Nat := [0, 11, 12, 13, 18, 21, 24, 30, 31, 43, 44, 45, 53]
def chunk6Idx : List Nat := [4, 6, 27, 38, 40, 48, 49, 50, 54]
def chunk7Idx : List Nat := [5, 7, 9, 14, 15, 16, 19, 23, 26, 32, 33, 34, 46, 47]

theorem rows_indexed : ∀ r ∈ rows, r.shape < shapes.length := by decide +kernel

/-- To the casts the raw `OpSchema` reading of every shape is its `OpSignature` reading (names interned). -/
theorem shapes_links : ∀ s ∈ shapes, sameLinks s.intern.sig s.intern.raw = true := by decide +kernel

theorem shapes_ok : ∀ s ∈ shapes, agree3All s.intern = true :=
  fun s hs => agree3All_of_sameLinks _ (shapes_links s hs)
end OV.Gen.C12
