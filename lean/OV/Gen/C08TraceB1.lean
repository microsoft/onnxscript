import OV.Model.C08Norm
import OV.Lemmas.C08Rows
/-! GENERATED by harness/extract_torchlib.py from /repo's working tree — do not edit. -/
namespace OV.Gen.C08TraceB

/-- (model term, term emitted by the real torch_lib function) — second table, chunk 1. -/
def table1 : List (String × String) := [
  (OV.C08.layer_norm.term false 1 false false,
   "LayerNormalization(x0,Expand(1.0:FLOAT,Shape(x0;start=-1));axis=-1,epsilon=1e-05,stash_type=1)#0"),
  (OV.C08.layer_norm.term false 1 true false,
   "LayerNormalization(x0,x1;axis=-1,epsilon=1e-05,stash_type=1)#0"),
  (OV.C08.layer_norm.term false 2 false false,
   "LayerNormalization(x0,Expand(1.0:FLOAT,Shape(x0;start=-2));axis=-2,epsilon=1e-05,stash_type=1)#0"),
  (OV.C08.layer_norm.term false 2 true true,
   "LayerNormalization(x0,x1,x2;axis=-2,epsilon=1e-05,stash_type=1)#0"),
  (OV.C08.layer_norm.term false 4 true false,
   "LayerNormalization(x0,x1;axis=-4,epsilon=1e-05,stash_type=1)#0"),
  (OV.C08.layer_norm.term true 4 true true,
   "LayerNormalization(x0,x1,x2;axis=-4,epsilon=1e-05,stash_type=1)#0 || LayerNormalization(x0,x1,x2;axis=-4,epsilon=1e-05,stash_type=1)#1 || LayerNormalization(x0,x1,x2;axis=-4,epsilon=1e-05,stash_type=1)#2"),
  (OV.C08.layer_norm.term true 3 true true,
   "LayerNormalization(x0,x1,x2;axis=-3,epsilon=1e-05,stash_type=1)#0 || LayerNormalization(x0,x1,x2;axis=-3,epsilon=1e-05,stash_type=1)#1 || LayerNormalization(x0,x1,x2;axis=-3,epsilon=1e-05,stash_type=1)#2"),
  (OV.C08.layer_norm.term true 1 true false,
   "LayerNormalization(x0,x1;axis=-1,epsilon=1e-05,stash_type=1)#0 || LayerNormalization(x0,x1;axis=-1,epsilon=1e-05,stash_type=1)#1 || LayerNormalization(x0,x1;axis=-1,epsilon=1e-05,stash_type=1)#2"),
  (OV.C08.layer_norm.term true 2 false false,
   "LayerNormalization(x0,CastLike(Expand([1.0:FLOAT],Shape(x0;start=-2)),x0);axis=-2,epsilon=1e-05,stash_type=1)#0 || LayerNormalization(x0,CastLike(Expand([1.0:FLOAT],Shape(x0;start=-2)),x0);axis=-2,epsilon=1e-05,stash_type=1)#1 || LayerNormalization(x0,CastLike(Expand([1.0:FLOAT],Shape(x0;start=-2)),x0);axis=-2,epsilon=1e-05,stash_type=1)#2"),
  (OV.C08.layer_norm.term true 2 true true,
   "LayerNormalization(x0,x1,x2;axis=-2,epsilon=1e-05,stash_type=1)#0 || LayerNormalization(x0,x1,x2;axis=-2,epsilon=1e-05,stash_type=1)#1 || LayerNormalization(x0,x1,x2;axis=-2,epsilon=1e-05,stash_type=1)#2"),
  (OV.C08.layer_norm.term true 3 true false,
   "LayerNormalization(x0,x1;axis=-3,epsilon=1e-05,stash_type=1)#0 || LayerNormalization(x0,x1;axis=-3,epsilon=1e-05,stash_type=1)#1 || LayerNormalization(x0,x1;axis=-3,epsilon=1e-05,stash_type=1)#2"),
  (OV.C08.layer_norm.term true 1 false false,
   "LayerNormalization(x0,CastLike(Expand([1.0:FLOAT],Shape(x0;start=-1)),x0);axis=-1,epsilon=1e-05,stash_type=1)#0 || LayerNormalization(x0,CastLike(Expand([1.0:FLOAT],Shape(x0;start=-1)),x0);axis=-1,epsilon=1e-05,stash_type=1)#1 || LayerNormalization(x0,CastLike(Expand([1.0:FLOAT],Shape(x0;start=-1)),x0);axis=-1,epsilon=1e-05,stash_type=1)#2"),
  (OV.C08.layer_norm.term true 1 false true,
   "LayerNormalization(x0,CastLike(Expand([1.0:FLOAT],Shape(x0;start=-1)),x0),x1;axis=-1,epsilon=1e-05,stash_type=1)#0 || LayerNormalization(x0,CastLike(Expand([1.0:FLOAT],Shape(x0;start=-1)),x0),x1;axis=-1,epsilon=1e-05,stash_type=1)#1 || LayerNormalization(x0,CastLike(Expand([1.0:FLOAT],Shape(x0;start=-1)),x0),x1;axis=-1,epsilon=1e-05,stash_type=1)#2"),
  (OV.C08.layer_norm.term true 3 false true,
   "LayerNormalization(x0,CastLike(Expand([1.0:FLOAT],Shape(x0;start=-3)),x0),x1;axis=-3,epsilon=1e-05,stash_type=1)#0 || LayerNormalization(x0,CastLike(Expand([1.0:FLOAT],Shape(x0;start=-3)),x0),x1;axis=-3,epsilon=1e-05,stash_type=1)#1 || LayerNormalization(x0,CastLike(Expand([1.0:FLOAT],Shape(x0;start=-3)),x0),x1;axis=-3,epsilon=1e-05,stash_type=1)#2"),
  (OV.C08.layer_norm.term true 1 true true,
   "LayerNormalization(x0,x1,x2;axis=-1,epsilon=1e-05,stash_type=1)#0 || LayerNormalization(x0,x1,x2;axis=-1,epsilon=1e-05,stash_type=1)#1 || LayerNormalization(x0,x1,x2;axis=-1,epsilon=1e-05,stash_type=1)#2"),
  (OV.C08.sort.term 0 0 false,
   "Identity(x0) || 0"),
  (OV.C08.sort.term 0 (-1) true,
   "Identity(x0) || 0"),
  (OV.C08.sort.term 2 1 true,
   "TopK(x0,Reshape(Gather(Shape(x0;start=0),1;axis=0),[1];allowzero=0);axis=1,largest=1,sorted=1)#0 || TopK(x0,Reshape(Gather(Shape(x0;start=0),1;axis=0),[1];allowzero=0);axis=1,largest=1,sorted=1)#1"),
  (OV.C08.sort.term 2 (-1) true,
   "TopK(x0,Reshape(Gather(Shape(x0;start=0),-1;axis=0),[1];allowzero=0);axis=-1,largest=1,sorted=1)#0 || TopK(x0,Reshape(Gather(Shape(x0;start=0),-1;axis=0),[1];allowzero=0);axis=-1,largest=1,sorted=1)#1"),
  (OV.C08.sort.term 3 2 true,
   "TopK(x0,Reshape(Gather(Shape(x0;start=0),2;axis=0),[1];allowzero=0);axis=2,largest=1,sorted=1)#0 || TopK(x0,Reshape(Gather(Shape(x0;start=0),2;axis=0),[1];allowzero=0);axis=2,largest=1,sorted=1)#1"),
  (OV.C08.sort.term 3 (-1) true,
   "TopK(x0,Reshape(Gather(Shape(x0;start=0),-1;axis=0),[1];allowzero=0);axis=-1,largest=1,sorted=1)#0 || TopK(x0,Reshape(Gather(Shape(x0;start=0),-1;axis=0),[1];allowzero=0);axis=-1,largest=1,sorted=1)#1"),
  (OV.C08.sort.term 0 (-1) false,
   "Identity(x0) || 0"),
  (OV.C08.sort.term 3 2 false,
   "TopK(x0,Reshape(Gather(Shape(x0;start=0),2;axis=0),[1];allowzero=0);axis=2,largest=0,sorted=1)#0 || TopK(x0,Reshape(Gather(Shape(x0;start=0),2;axis=0),[1];allowzero=0);axis=2,largest=0,sorted=1)#1"),
  (OV.C08.sort.term 1 0 true,
   "TopK(x0,Reshape(Gather(Shape(x0;start=0),0;axis=0),[1];allowzero=0);axis=0,largest=1,sorted=1)#0 || TopK(x0,Reshape(Gather(Shape(x0;start=0),0;axis=0),[1];allowzero=0);axis=0,largest=1,sorted=1)#1"),
  (OV.C08.sort.term 1 0 false,
   "TopK(x0,Reshape(Gather(Shape(x0;start=0),0;axis=0),[1];allowzero=0);axis=0,largest=0,sorted=1)#0 || TopK(x0,Reshape(Gather(Shape(x0;start=0),0;axis=0),[1];allowzero=0);axis=0,largest=0,sorted=1)#1")
]

theorem ok1 : ∀ e ∈ table1, e.1 = e.2 := by
  unfold table1
  apply OV.C08.rows_of_reads
  · repeat (apply OV.C08.Reads.cons; with_reducible rfl)
    exact .nil
  · decide +kernel

end OV.Gen.C08TraceB
