import OV.Model.C08View
import OV.Model.C08Slice
import OV.Model.C08Repl
import OV.Model.C08Reduce
import OV.Model.C08IntArith
import OV.Model.C08Creation
import OV.Model.C08Attr
import OV.Model.C08Misc
import OV.Model.C08Scalar
import OV.Model.C08Linalg
import OV.Lemmas.C08Rows
/-! GENERATED by harness/extract_torchlib.py from /repo's working tree — do not edit. -/
namespace OV.Gen.C08Trace

/-- (model term, term emitted by the real torch_lib function) — chunk 16. -/
def table16 : List (String × String) := [
  (OV.C08.matmul.term,
   "MatMul(x0,x1)"),
  (OV.C08.matmul.term,
   "MatMul(x0,x1)"),
  (OV.C08.narrow.term ([3, 5] : List Nat) false 1 (-4) 4,
   "Slice(x0,Reshape(1,[-1];allowzero=0),Add(Reshape(1,[-1];allowzero=0),Reshape(4,[-1];allowzero=0)),Reshape(1,[-1];allowzero=0))"),
  (OV.C08.narrow.term ([1] : List Nat) true (-1) (-2) 0,
   "Slice(x0,Where(Less(Reshape(x2,[-1];allowzero=0),[0]),Add(Reshape(x2,[-1];allowzero=0),Gather(Shape(x0;start=0),Reshape(x1,[-1];allowzero=0);axis=0)),Reshape(x2,[-1];allowzero=0)),Add(Where(Less(Reshape(x2,[-1];allowzero=0),[0]),Add(Reshape(x2,[-1];allowzero=0),Gather(Shape(x0;start=0),Reshape(x1,[-1];allowzero=0);axis=0)),Reshape(x2,[-1];allowzero=0)),Reshape(x3,[-1];allowzero=0)),Reshape(x1,[-1];allowzero=0))"),
  (OV.C08.narrow.term ([3] : List Nat) false (-1) 4 0,
   "Slice(x0,Reshape(4,[-1];allowzero=0),Add(Reshape(4,[-1];allowzero=0),Reshape(0,[-1];allowzero=0)),Reshape(-1,[-1];allowzero=0))"),
  (OV.C08.narrow.term ([1] : List Nat) false 0 (-2) 1,
   "Slice(x0,Reshape(-1,[-1];allowzero=0),Add(Reshape(-1,[-1];allowzero=0),Reshape(1,[-1];allowzero=0)),Reshape(0,[-1];allowzero=0))"),
  (OV.C08.narrow.term ([3] : List Nat) false (-1) (-2) 2,
   "Slice(x0,Reshape(1,[-1];allowzero=0),Add(Reshape(1,[-1];allowzero=0),Reshape(2,[-1];allowzero=0)),Reshape(-1,[-1];allowzero=0))"),
  (OV.C08.narrow.term ([0, 3, 2] : List Nat) true (-3) (-1) 1,
   "Slice(x0,Where(Less(Reshape(x2,[-1];allowzero=0),[0]),Add(Reshape(x2,[-1];allowzero=0),Gather(Shape(x0;start=0),Reshape(x1,[-1];allowzero=0);axis=0)),Reshape(x2,[-1];allowzero=0)),Add(Where(Less(Reshape(x2,[-1];allowzero=0),[0]),Add(Reshape(x2,[-1];allowzero=0),Gather(Shape(x0;start=0),Reshape(x1,[-1];allowzero=0);axis=0)),Reshape(x2,[-1];allowzero=0)),Reshape(x3,[-1];allowzero=0)),Reshape(x1,[-1];allowzero=0))"),
  (OV.C08.narrow.term ([1, 0, 4] : List Nat) false (-3) (-2) 1,
   "Slice(x0,Reshape(-1,[-1];allowzero=0),Add(Reshape(-1,[-1];allowzero=0),Reshape(1,[-1];allowzero=0)),Reshape(-3,[-1];allowzero=0))"),
  (OV.C08.narrow.term ([5, 5] : List Nat) false (-2) (-2) 0,
   "Slice(x0,Reshape(3,[-1];allowzero=0),Add(Reshape(3,[-1];allowzero=0),Reshape(0,[-1];allowzero=0)),Reshape(-2,[-1];allowzero=0))"),
  (OV.C08.narrow.term ([0, 1, 2, 5] : List Nat) true (-1) 3 1,
   "Slice(x0,Where(Less(Reshape(x2,[-1];allowzero=0),[0]),Add(Reshape(x2,[-1];allowzero=0),Gather(Shape(x0;start=0),Reshape(x1,[-1];allowzero=0);axis=0)),Reshape(x2,[-1];allowzero=0)),Add(Where(Less(Reshape(x2,[-1];allowzero=0),[0]),Add(Reshape(x2,[-1];allowzero=0),Gather(Shape(x0;start=0),Reshape(x1,[-1];allowzero=0);axis=0)),Reshape(x2,[-1];allowzero=0)),Reshape(x3,[-1];allowzero=0)),Reshape(x1,[-1];allowzero=0))"),
  (OV.C08.narrow.term ([0, 2, 5, 2] : List Nat) true (-2) 6 0,
   "Slice(x0,Where(Less(Reshape(x2,[-1];allowzero=0),[0]),Add(Reshape(x2,[-1];allowzero=0),Gather(Shape(x0;start=0),Reshape(x1,[-1];allowzero=0);axis=0)),Reshape(x2,[-1];allowzero=0)),Add(Where(Less(Reshape(x2,[-1];allowzero=0),[0]),Add(Reshape(x2,[-1];allowzero=0),Gather(Shape(x0;start=0),Reshape(x1,[-1];allowzero=0);axis=0)),Reshape(x2,[-1];allowzero=0)),Reshape(x3,[-1];allowzero=0)),Reshape(x1,[-1];allowzero=0))"),
  (OV.C08.pad.termMode 2 ([0, 1] : List Int) "edge",
   "Pad(x0,[0,0,0,1];mode=edge)"),
  (OV.C08.pad.termMode 4 ([1, 0, 1, 2] : List Int) "edge",
   "Pad(x0,[0,0,1,1,0,0,2,0];mode=edge)"),
  (OV.C08.pad.termMode 3 ([2, 2, 1, 1, 3, 1] : List Int) "constant",
   "Pad(x0,[3,1,2,1,1,2];mode=constant)"),
  (OV.C08.pad.termMode 3 ([0, 1, 2, 1] : List Int) "wrap",
   "Pad(x0,[0,2,0,0,1,1];mode=wrap)"),
  (OV.C08.pad.termMode 4 ([2, 0, 1, 0] : List Int) "wrap",
   "Pad(x0,[0,0,1,2,0,0,0,0];mode=wrap)"),
  (OV.C08.pad.termMode 3 ([1, 0, 2, 2] : List Int) "reflect",
   "Pad(x0,[0,2,1,0,2,0];mode=reflect)"),
  (OV.C08.pad.termMode 1 ([1, 0] : List Int) "constant",
   "Pad(x0,[1,0];mode=constant)"),
  (OV.C08.pad.termMode 3 ([2, 1] : List Int) "reflect",
   "Pad(x0,[0,0,2,0,0,1];mode=reflect)"),
  (OV.C08.pad.termMode 3 ([2, 2, 0, 2] : List Int) "edge",
   "Pad(x0,[0,0,2,0,2,2];mode=edge)"),
  (OV.C08.pad.termMode 3 ([1, 2] : List Int) "wrap",
   "Pad(x0,[0,0,1,0,0,2];mode=wrap)"),
  (OV.C08.permute.term ([] : List Int),
   "Transpose(x0)"),
  (OV.C08.permute.term ([(-3), 1, 2] : List Int),
   "Transpose(x0;perm=[0,1,2])"),
  (OV.C08.permute.term ([(-3), (-2), 2] : List Int),
   "Transpose(x0;perm=[0,1,2])"),
  (OV.C08.permute.term ([(-2), (-1), (-3), 0] : List Int),
   "Transpose(x0;perm=[2,3,1,0])"),
  (OV.C08.permute.term ([(-4), 1, 2, (-1)] : List Int),
   "Transpose(x0;perm=[0,1,2,3])"),
  (OV.C08.permute.term ([2, 1, 3, 0] : List Int),
   "Transpose(x0;perm=[2,1,3,0])"),
  (OV.C08.permute.term ([(-4), (-3), 3, 2] : List Int),
   "Transpose(x0;perm=[0,1,3,2])"),
  (OV.C08.permute.term ([3, 1, (-2), 0] : List Int),
   "Transpose(x0;perm=[3,1,2,0])"),
  (OV.C08.permute.term ([0, (-2), 0] : List Int),
   "Transpose(x0;perm=[0,1,0])"),
  (OV.C08.permute.term ([1, 0] : List Int),
   "Transpose(x0;perm=[1,0])")
]

/-- kernel-checked: every row's model term is the emitted term (chunks build in parallel). -/
theorem ok16 : ∀ e ∈ table16, e.1 = e.2 := by
  unfold table16
  apply OV.C08.rows_of_reads
  · repeat (apply OV.C08.Reads.cons; with_reducible rfl)
    exact .nil
  · decide +kernel

end OV.Gen.C08Trace
