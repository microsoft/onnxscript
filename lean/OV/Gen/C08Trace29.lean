import OV.Model.C08View
import OV.Model.C08Slice
import OV.Model.C08Repl
import OV.Model.C08Reduce
import OV.Model.C08IntArith
import OV.Model.C08Creation
import OV.Model.C08Attr
import OV.Model.C08Misc
import OV.Model.C08Scalar
import OV.Model.C08Linalg
import OV.Lemmas.C08Rows
/-! GENERATED by harness/extract_torchlib.py from /repo's working tree — do not edit. -/
namespace OV.Gen.C08Trace

/-- (model term, term emitted by the real torch_lib function) — chunk 29. -/
def table29 : List (String × String) := [
  (OV.C08.vector_norm.term 2 (OV.C08.vector_norm.Ord.int 1) none false,
   "ReduceL1(Reshape(x0,[-1];allowzero=0);keepdims=0,noop_with_empty_axes=0)"),
  (OV.C08.vector_norm.term 0 OV.C08.vector_norm.Ord.posInf (some ([(-1)] : List Int)) false,
   "ReduceMax(Abs(x0),Reshape([-1],[-1];allowzero=0);keepdims=0,noop_with_empty_axes=0)"),
  (OV.C08.vector_norm.term 3 (OV.C08.vector_norm.Ord.int 2) (some ([(-3)] : List Int)) false,
   "ReduceL2(x0,Reshape([-3],[-1];allowzero=0);keepdims=0,noop_with_empty_axes=0)"),
  (OV.C08.vector_norm.term 3 (OV.C08.vector_norm.Ord.int 2) (some ([(-1), (-3)] : List Int)) true,
   "ReduceL2(x0,Reshape([-1,-3],[-1];allowzero=0);keepdims=1,noop_with_empty_axes=0)"),
  (OV.C08.vector_norm.term 2 (OV.C08.vector_norm.Ord.int 1) (some ([(-1), (-2)] : List Int)) false,
   "ReduceL1(x0,Reshape([-1,-2],[-1];allowzero=0);keepdims=0,noop_with_empty_axes=0)"),
  (OV.C08.vector_norm.term 1 (OV.C08.vector_norm.Ord.int 0) none true,
   "Reshape(ReduceSum(CastLike(Cast(Reshape(x0,[-1];allowzero=0);to=9),Reshape(x0,[-1];allowzero=0));keepdims=0,noop_with_empty_axes=0),[1];allowzero=0)"),
  (OV.C08.vector_norm.term 2 (OV.C08.vector_norm.Ord.int 1) (some ([(-2)] : List Int)) false,
   "ReduceL1(x0,Reshape([-2],[-1];allowzero=0);keepdims=0,noop_with_empty_axes=0)"),
  (OV.C08.view.term ([(-1), 1, 0] : List Int),
   "Reshape(x0,Concat([-1],[1],[0];axis=0);allowzero=1)"),
  (OV.C08.view.term ([(-1)] : List Int),
   "Reshape(x0,Concat([-1];axis=0);allowzero=1)"),
  (OV.C08.view.term ([12] : List Int),
   "Reshape(x0,Concat([12];axis=0);allowzero=1)"),
  (OV.C08.view.term ([1, 3, 5] : List Int),
   "Reshape(x0,Concat([1],[3],[5];axis=0);allowzero=1)"),
  (OV.C08.view.term ([1, (-1), 15] : List Int),
   "Reshape(x0,Concat([1],[-1],[15];axis=0);allowzero=1)"),
  (OV.C08.view.term ([1, 1, 1, 1] : List Int),
   "Reshape(x0,Concat([1],[1],[1],[1];axis=0);allowzero=1)"),
  (OV.C08.view.term ([3, 1, 0, 3] : List Int),
   "Reshape(x0,Concat([3],[1],[0],[3];axis=0);allowzero=1)"),
  (OV.C08.view.term ([0] : List Int),
   "Reshape(x0,Concat([0];axis=0);allowzero=1)"),
  (OV.C08.view.term ([1, (-1), 1] : List Int),
   "Reshape(x0,Concat([1],[-1],[1];axis=0);allowzero=1)"),
  (OV.C08.view.term ([1, 1, 2] : List Int),
   "Reshape(x0,Concat([1],[1],[2];axis=0);allowzero=1)"),
  (OV.C08.IntArith.floorDivideTerm "i64",
   "Sub(Div(x0,x1),Cast(And(Equal(Less(x0,0),Greater(x1,0)),Cast(Mod(x0,x1;fmod=0);to=9));to=7))"),
  (OV.C08.IntArith.floorDivideTerm "i32",
   "Sub(Div(x0,x1),Cast(And(Equal(Less(x0,0:INT32),Greater(x1,0:INT32)),Cast(Mod(x0,x1;fmod=0);to=9));to=6))"),
  (OV.C08.IntArith.floorDivideTerm "u8",
   "Div(x0,x1)"),
  ("Mod(x0,x1;fmod=0)",
   "Mod(x0,x1;fmod=0)"),
  ("Mod(x0,x1;fmod=1)",
   "Mod(x0,x1;fmod=1)"),
  (OV.C08.arange.termStep 2 9 3 false,
   "Range(2,9,3)"),
  (OV.C08.arange.termStep 9 2 (-3) false,
   "Range(9,2,-3)"),
  (OV.C08.arange.termStart 2 7 false,
   "Range(2,7,CastLike(1.0:FLOAT,7))"),
  (OV.C08.arange.termEnd 5 false,
   "Range(CastLike(0.0:FLOAT,5),5,CastLike(1.0:FLOAT,5))"),
  (OV.C08.arange.termEnd 5 true,
   "Range(Cast(0;to=7),Cast(5;to=7),Cast(1;to=7))"),
  (OV.C08.arange.termStart 2 7 true,
   "Range(Cast(2;to=7),Cast(7;to=7),Cast(1;to=7))"),
  (OV.C08.arange.termStep 2 9 3 true,
   "Range(Cast(2;to=7),Cast(9;to=7),Cast(3;to=7))")
]

/-- kernel-checked: every row's model term is the emitted term (chunks build in parallel). -/
theorem ok29 : ∀ e ∈ table29, e.1 = e.2 := by
  unfold table29
  apply OV.C08.rows_of_reads
  · repeat (apply OV.C08.Reads.cons; with_reducible rfl)
    exact .nil
  · decide +kernel

end OV.Gen.C08Trace
