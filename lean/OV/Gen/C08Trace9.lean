import OV.Model.C08View
import OV.Model.C08Slice
import OV.Model.C08Repl
import OV.Model.C08Reduce
import OV.Model.C08IntArith
import OV.Model.C08Creation
import OV.Model.C08Attr
import OV.Model.C08Misc
import OV.Model.C08Scalar
import OV.Model.C08Linalg
import OV.Lemmas.C08Rows
/-! GENERATED by harness/extract_torchlib.py from /repo's working tree — do not edit. -/
namespace OV.Gen.C08Trace

/-- (model term, term emitted by the real torch_lib function) — chunk 9. -/
def table9 : List (String × String) := [
  (OV.C08.creation.termFull ([3, 1, 1] : List Int) none,
   "Expand(1.5:FLOAT,Cast([3,1,1];to=7))"),
  (OV.C08.creation.termFull ([3, 2] : List Int) none,
   "Expand(1.5:FLOAT,Cast([3,2];to=7))"),
  (OV.C08.creation.termLike "7" (some OV.C08.DC.f32),
   "Expand(Cast(7;to=1),Shape(x0;start=0))"),
  (OV.C08.creation.termLike "7" none,
   "Expand(CastLike(7,x0),Shape(x0;start=0))"),
  (OV.C08.creation.termLike "7" (some OV.C08.DC.i64),
   "Expand(Cast(7;to=7),Shape(x0;start=0))"),
  (OV.C08.creation.termNewFull ([2, 1] : List Int) (some OV.C08.DC.f32),
   "Expand(Cast(3;to=1),[2,1])"),
  (OV.C08.creation.termNewFull ([2, 0, 3] : List Int) (some OV.C08.DC.i64),
   "Expand(Cast(3;to=7),[2,0,3])"),
  (OV.C08.creation.termNewFull ([2] : List Int) (some OV.C08.DC.f32),
   "Expand(Cast(3;to=1),[2])"),
  (OV.C08.creation.termNewFull ([0, 2] : List Int) (some OV.C08.DC.i64),
   "Expand(Cast(3;to=7),[0,2])"),
  (OV.C08.creation.termNewFull ([2] : List Int) (some OV.C08.DC.i64),
   "Expand(Cast(3;to=7),[2])"),
  (OV.C08.creation.termNewFull ([2, 3, 2] : List Int) none,
   "Expand(CastLike(3,x0),[2,3,2])"),
  (OV.C08.creation.termNewFull ([2, 1, 3] : List Int) none,
   "Expand(CastLike(3,x0),[2,1,3])"),
  (OV.C08.creation.termNewFull ([1, 3, 2] : List Int) (some OV.C08.DC.f32),
   "Expand(Cast(3;to=1),[1,3,2])"),
  (OV.C08.creation.termNewFull ([1] : List Int) none,
   "Expand(CastLike(3,x0),[1])"),
  (OV.C08.creation.termNewFull ([0] : List Int) (some OV.C08.DC.i64),
   "Expand(Cast(3;to=7),[0])"),
  (OV.C08.creation.termNewZeros ([] : List Int) (some OV.C08.DC.i64),
   "Cast(ConstantOfShape([]);to=7)"),
  (OV.C08.creation.termNewZeros ([] : List Int) (some OV.C08.DC.f32),
   "Cast(ConstantOfShape([]);to=1)"),
  (OV.C08.creation.termNewZeros ([3] : List Int) (some OV.C08.DC.f32),
   "Cast(ConstantOfShape([3]);to=1)"),
  (OV.C08.creation.termNewZeros ([1, 1] : List Int) (some OV.C08.DC.f32),
   "Cast(ConstantOfShape([1,1]);to=1)"),
  (OV.C08.creation.termNewZeros ([1, 1] : List Int) none,
   "CastLike(ConstantOfShape([1,1]),x0)"),
  (OV.C08.creation.termNewZeros ([1] : List Int) (some OV.C08.DC.f32),
   "Cast(ConstantOfShape([1]);to=1)"),
  (OV.C08.creation.termNewZeros ([] : List Int) none,
   "CastLike(ConstantOfShape([]),x0)"),
  (OV.C08.creation.termNewZeros ([1, 0, 1] : List Int) (some OV.C08.DC.i64),
   "Cast(ConstantOfShape([1,0,1]);to=7)"),
  (OV.C08.creation.termNewZeros ([2, 3] : List Int) (some OV.C08.DC.f32),
   "Cast(ConstantOfShape([2,3]);to=1)"),
  (OV.C08.creation.termNewZeros ([2, 1, 0] : List Int) (some OV.C08.DC.f32),
   "Cast(ConstantOfShape([2,1,0]);to=1)"),
  (OV.C08.creation.termLike "1" none,
   "Expand(CastLike(1,x0),Shape(x0;start=0))"),
  (OV.C08.creation.termLike "1" (some OV.C08.DC.f32),
   "Expand(Cast(1;to=1),Shape(x0;start=0))"),
  (OV.C08.creation.termLike "1" (some OV.C08.DC.i64),
   "Expand(Cast(1;to=7),Shape(x0;start=0))"),
  (OV.C08.creation.termZeros ([1] : List Int) none,
   "Expand(0.0:FLOAT,Concat([1];axis=0))"),
  (OV.C08.creation.termZeros ([2] : List Int) none,
   "Expand(0.0:FLOAT,Concat([2];axis=0))"),
  (OV.C08.creation.termZeros ([0, 1] : List Int) (some OV.C08.DC.i64),
   "Expand(0,Concat([0],[1];axis=0))"),
  (OV.C08.creation.termZeros ([0, 1, 2] : List Int) (some OV.C08.DC.i64),
   "Expand(0,Concat([0],[1],[2];axis=0))")
]

/-- kernel-checked: every row's model term is the emitted term (chunks build in parallel). -/
theorem ok9 : ∀ e ∈ table9, e.1 = e.2 := by
  unfold table9
  apply OV.C08.rows_of_reads
  · repeat (apply OV.C08.Reads.cons; with_reducible rfl)
    exact .nil
  · decide +kernel

end OV.Gen.C08Trace
