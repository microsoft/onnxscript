import OV.Model.C08View
import OV.Model.C08Slice
import OV.Model.C08Repl
import OV.Model.C08Reduce
import OV.Model.C08IntArith
import OV.Model.C08Creation
import OV.Model.C08Attr
import OV.Model.C08Misc
import OV.Model.C08Scalar
import OV.Model.C08Linalg
import OV.Lemmas.C08Rows
/-! GENERATED by harness/extract_torchlib.py from /repo's working tree — do not edit. -/
namespace OV.Gen.C08Trace

/-- (model term, term emitted by the real torch_lib function) — chunk 4. -/
def table4 : List (String × String) := [
  (OV.C08.argmax.term "ArgMin" 3 (some 0) true,
   "ArgMin(x0;axis=0,keepdims=1,select_last_index=0)"),
  (OV.C08.argmax.term "ArgMin" 4 (some 2) false,
   "ArgMin(x0;axis=2,keepdims=0,select_last_index=0)"),
  (OV.C08.atleast.term 1 1,
   "Identity(x0)"),
  (OV.C08.atleast.term 1 0,
   "Identity(Reshape(x0,[1];allowzero=0))"),
  (OV.C08.atleast.term 1 4,
   "Identity(x0)"),
  (OV.C08.atleast.term 1 3,
   "Identity(x0)"),
  (OV.C08.atleast.term 1 2,
   "Identity(x0)"),
  (OV.C08.atleast.term 2 1,
   "Identity(Reshape(x0,[1,-1];allowzero=0))"),
  (OV.C08.atleast.term 2 0,
   "Identity(Reshape(x0,[1,-1];allowzero=0))"),
  (OV.C08.atleast.term 2 4,
   "Identity(x0)"),
  (OV.C08.atleast.term 2 3,
   "Identity(x0)"),
  (OV.C08.atleast.term 2 2,
   "Identity(x0)"),
  (OV.C08.atleast.term 3 3,
   "Identity(x0)"),
  (OV.C08.atleast.term 3 2,
   "Identity(Unsqueeze(x0,[-1]))"),
  (OV.C08.atleast.term 3 1,
   "Identity(Reshape(x0,[1,-1,1];allowzero=0))"),
  (OV.C08.atleast.term 3 0,
   "Identity(Reshape(x0,[1,-1,1];allowzero=0))"),
  (OV.C08.atleast.term 3 4,
   "Identity(x0)"),
  (OV.C08.avg_pool.term 1 3 (OV.C08.IntOrList.list ([2] : List Int)) (OV.C08.IntOrList.list ([] : List Int)) (OV.C08.IntOrList.list ([1] : List Int)) false true,
   "AveragePool(x0;auto_pad=NOTSET,ceil_mode=0,count_include_pad=1,kernel_shape=[2],pads=[1,1],strides=[2])"),
  (OV.C08.avg_pool.term 1 2 (OV.C08.IntOrList.int 2) (OV.C08.IntOrList.int 2) (OV.C08.IntOrList.int 0) true false,
   "Squeeze(AveragePool(Unsqueeze(x0,[0]);auto_pad=NOTSET,ceil_mode=1,count_include_pad=0,kernel_shape=[2],pads=[0,0],strides=[2]),[0])"),
  (OV.C08.avg_pool.term 1 3 (OV.C08.IntOrList.list ([2] : List Int)) (OV.C08.IntOrList.list ([3] : List Int)) (OV.C08.IntOrList.int 1) true false,
   "AveragePool(x0;auto_pad=NOTSET,ceil_mode=1,count_include_pad=0,kernel_shape=[2],pads=[1,1],strides=[3])"),
  (OV.C08.avg_pool.term 1 2 (OV.C08.IntOrList.list ([1] : List Int)) (OV.C08.IntOrList.list ([3] : List Int)) (OV.C08.IntOrList.list ([0] : List Int)) false true,
   "Squeeze(AveragePool(Unsqueeze(x0,[0]);auto_pad=NOTSET,ceil_mode=0,count_include_pad=1,kernel_shape=[1],pads=[0,0],strides=[3]),[0])"),
  (OV.C08.avg_pool.term 1 3 (OV.C08.IntOrList.list ([2] : List Int)) (OV.C08.IntOrList.list ([1] : List Int)) (OV.C08.IntOrList.list ([1] : List Int)) true true,
   "AveragePool(x0;auto_pad=NOTSET,ceil_mode=1,count_include_pad=1,kernel_shape=[2],pads=[1,1],strides=[1])"),
  (OV.C08.avg_pool.term 1 2 (OV.C08.IntOrList.list ([2] : List Int)) (OV.C08.IntOrList.list ([2] : List Int)) (OV.C08.IntOrList.list ([1] : List Int)) false false,
   "Squeeze(AveragePool(Unsqueeze(x0,[0]);auto_pad=NOTSET,ceil_mode=0,count_include_pad=0,kernel_shape=[2],pads=[1,1],strides=[2]),[0])"),
  (OV.C08.avg_pool.term 1 3 (OV.C08.IntOrList.list ([2] : List Int)) (OV.C08.IntOrList.list ([3] : List Int)) (OV.C08.IntOrList.list ([0] : List Int)) false true,
   "AveragePool(x0;auto_pad=NOTSET,ceil_mode=0,count_include_pad=1,kernel_shape=[2],pads=[0,0],strides=[3])"),
  (OV.C08.avg_pool.term 1 2 (OV.C08.IntOrList.list ([3] : List Int)) (OV.C08.IntOrList.list ([2] : List Int)) (OV.C08.IntOrList.list ([0] : List Int)) true false,
   "Squeeze(AveragePool(Unsqueeze(x0,[0]);auto_pad=NOTSET,ceil_mode=1,count_include_pad=0,kernel_shape=[3],pads=[0,0],strides=[2]),[0])"),
  (OV.C08.avg_pool.term 1 3 (OV.C08.IntOrList.int 4) (OV.C08.IntOrList.list ([3] : List Int)) (OV.C08.IntOrList.list ([1] : List Int)) false false,
   "AveragePool(x0;auto_pad=NOTSET,ceil_mode=0,count_include_pad=0,kernel_shape=[4],pads=[1,1],strides=[3])"),
  (OV.C08.avg_pool.term 1 3 (OV.C08.IntOrList.list ([3] : List Int)) (OV.C08.IntOrList.int 2) (OV.C08.IntOrList.list ([1] : List Int)) false false,
   "AveragePool(x0;auto_pad=NOTSET,ceil_mode=0,count_include_pad=0,kernel_shape=[3],pads=[1,1],strides=[2])"),
  (OV.C08.avg_pool.term 2 4 (OV.C08.IntOrList.list ([2, 2] : List Int)) (OV.C08.IntOrList.list ([2, 2] : List Int)) (OV.C08.IntOrList.list ([1, 0] : List Int)) true true,
   "AveragePool(x0;auto_pad=NOTSET,ceil_mode=1,count_include_pad=1,kernel_shape=[2,2],pads=[1,0,1,0],strides=[2,2])"),
  (OV.C08.avg_pool.term 2 3 (OV.C08.IntOrList.list ([1, 2] : List Int)) (OV.C08.IntOrList.list ([2, 1] : List Int)) (OV.C08.IntOrList.list ([0, 1] : List Int)) false false,
   "Squeeze(AveragePool(Unsqueeze(x0,[0]);auto_pad=NOTSET,ceil_mode=0,count_include_pad=0,kernel_shape=[1,2],pads=[0,1,0,1],strides=[2,1]),[0])"),
  (OV.C08.avg_pool.term 2 4 (OV.C08.IntOrList.list ([3, 4] : List Int)) (OV.C08.IntOrList.list ([] : List Int)) (OV.C08.IntOrList.list ([0] : List Int)) false false,
   "AveragePool(x0;auto_pad=NOTSET,ceil_mode=0,count_include_pad=0,kernel_shape=[3,4],pads=[0,0,0,0],strides=[3,4])"),
  (OV.C08.avg_pool.term 2 4 (OV.C08.IntOrList.list ([4] : List Int)) (OV.C08.IntOrList.list ([2, 2] : List Int)) (OV.C08.IntOrList.list ([2, 0] : List Int)) false false,
   "AveragePool(x0;auto_pad=NOTSET,ceil_mode=0,count_include_pad=0,kernel_shape=[4,4],pads=[2,0,2,0],strides=[2,2])"),
  (OV.C08.avg_pool.term 2 4 (OV.C08.IntOrList.list ([2, 2] : List Int)) (OV.C08.IntOrList.list ([2, 3] : List Int)) (OV.C08.IntOrList.list ([0] : List Int)) true true,
   "AveragePool(x0;auto_pad=NOTSET,ceil_mode=1,count_include_pad=1,kernel_shape=[2,2],pads=[0,0,0,0],strides=[2,3])")
]

/-- kernel-checked: every row's model term is the emitted term (chunks build in parallel). -/
theorem ok4 : ∀ e ∈ table4, e.1 = e.2 := by
  unfold table4
  apply OV.C08.rows_of_reads
  · repeat (apply OV.C08.Reads.cons; with_reducible rfl)
    exact .nil
  · decide +kernel

end OV.Gen.C08Trace
