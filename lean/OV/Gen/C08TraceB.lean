import OV.Gen.C08TraceB0
import OV.Gen.C08TraceB1
/-! GENERATED — the second trace table (round-5 families). -/
namespace OV.Gen.C08TraceB
def traceTable : List (String × String) := table0 ++ (table1)
def nRows : Nat := 57

theorem ok_all : ∀ e ∈ traceTable, e.1 = e.2 :=
  List.forall_mem_append.2 ⟨ok0, ok1⟩
end OV.Gen.C08TraceB
