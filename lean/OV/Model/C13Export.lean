/-
  OV.Model.C13Export — the decision logic of `onnxscript/backend/onnx_export.py`
  (`export2python` = `onnxscript.proto2python`), restated as total functions.  Core Lean only.

  What is modelled (the code as it is now, after the fixes e68372f, 4af3eb7, b6d60b3, 71b4284, 4e95266, 9e40403,
  7dcad6a, efaa07e, da27432; remaining defects included, see design_notes/C13.md):
  * `_cleanup_variable_name` over ASCII (`cleanupL` on `List Char`, `cleanup` on `String`);
  * `_make_unique_name_mapper` (`uniqStep`/`uniqueName`: cleaned name, `_1`, `_2`, … on collision, one Python name
    per ONNX name), `_make_short_name_mapper` (`shortName`: `v1, v2, …` keyed by the ONNX name, in order of first
    request), `_handle_attrname_conflict` (`newRenamer`, `findCand`), the `_name_remappings` scope stack
    (`lookupRemap`), `_rename_domain`, `_make_callee_name`;
  * `_get_const_repr` (`constRepr`): no dimension 0, FLOAT/INT64, rank 0 or rank 1 with < 5 elements, all finite;
  * `_translate_node` (inline constants, control flow dispatch, graph-attribute refusal, the operator-sugar table —
    with the dead key `"Lesser"` —, parentheses around a `-…` base of `**`, call form, `_i` for missing outputs,
    suppression of `x = Identity(x)`), `_translate_attributes`, `_translate_if`, `_translate_loop` (the table of inlined constants saved/restored per branch and body, fix e0cdb9e), `_emit_assign`,
    `_translate_graph_body` (initializers → `Constant` with the ONNX name, translated once; `skip_initializers`;
    sparse refusal), `_translate_function` (sorted used names, attributes registered before the inputs),
    `_translate_graph` (own remapping scope, body first, signature through the renamer, dedent when nothing was
    skipped), `_substitute_initializers` (`generate_rand` dtype table).
  The result is a canonical *program* (`List String`, one line per emitted statement, with its
  nesting depth) that the harness compares with the `ast` of the text the real exporter returns.
  Rendering of values (float `repr`, tensors) is not modelled: literals are opaque tokens supplied
  by the harness and checked there.
-/
namespace OV.C13

/-! ## Characters: `str.isalpha` / `str.isalnum` restricted to ASCII -/

def isAlpha (c : Char) : Bool :=
  (decide ('a' ≤ c) && decide (c ≤ 'z')) || (decide ('A' ≤ c) && decide (c ≤ 'Z'))
def isDigit (c : Char) : Bool := decide ('0' ≤ c) && decide (c ≤ '9')
def isAlnum (c : Char) : Bool := isAlpha c || isDigit c
/-- `first.isalpha() or first == "_"` -/
def idStart (c : Char) : Bool := isAlpha c || c == '_'
/-- `char.isalnum() or char == "_"` -/
def idChar (c : Char) : Bool := isAlnum c || c == '_'
/-- `rename_char` -/
def renameChar (c : Char) : Char := if idChar c then c else '_'

/-- `kwlist` of onnx_export.py (35 entries; `match`/`case`/`type` soft keywords are not in it). -/
def kwlist : List String :=
  ["False", "None", "True", "and", "as", "assert", "async", "await", "break", "class",
   "continue", "def", "del", "elif", "else", "except", "finally", "for", "from", "global",
   "if", "import", "in", "is", "lambda", "nonlocal", "not", "or", "pass", "raise",
   "return", "try", "while", "with", "yield"]

def kwlistL : List (List Char) := kwlist.map String.toList

/-- `_cleanup_variable_name` on the character list of a non-empty name. -/
def cleanupL (n : List Char) : List Char :=
  if n ∈ kwlistL then 'r' :: '_' :: n
  else match n with
    | [] => []
    | c :: _ => (if idStart c then n else '_' :: '_' :: n).map renameChar

def cleanup (s : String) : String := String.ofList (cleanupL s.toList)

/-- ASCII Python identifier. -/
def isPyIdentL : List Char → Bool
  | [] => false
  | c :: cs => idStart c && cs.all idChar

/-! ## Options, errors, state -/

structure Opts where
  rename : Bool
  useOps : Bool
  inlineConst : Bool
  skipInit : Bool
  deriving Repr, DecidableEq

/-- Exceptions the exporter raises, by site. -/
inductive Err where
  | sparseInit      -- NotImplementedError: sparse_initializer
  | scan            -- NotImplementedError: _translate_scan
  | graphAttr       -- RuntimeError: graph attribute on an op other than If/Loop/Scan
  | attrKind        -- NotImplementedError: _attribute_value on an unsupported attribute kind
  | ifAttrs         -- RuntimeError: If without exactly two attributes
  | loopNoStop      -- RuntimeError: loop without trip count use and without condition
  | remapIndex      -- IndexError: `self._name_remappings[-1]` on an empty stack
  | dupSkipped      -- RuntimeError: initializer already in skipped_initializers
  | emptyName       -- AssertionError: `assert name != ""`
  | noOpset         -- KeyError: `opsets[node.domain]`
  | noAttr          -- IndexError: `const_node.attribute[0]` / missing list element
  | randInit        -- NotImplementedError: generate_rand on a dtype other than FLOAT/INT8
  | depth           -- (model only) nesting deeper than the fuel handed to the model
  deriving Repr, DecidableEq

/-- Python exception class of each site (what the harness can observe). -/
def Err.pyClass : Err → String
  | .sparseInit | .scan | .attrKind | .randInit => "NotImplementedError"
  | .graphAttr | .ifAttrs | .loopNoStop | .dupSkipped => "RuntimeError"
  | .remapIndex | .noAttr => "IndexError"
  | .emptyName => "AssertionError"
  | .noOpset => "KeyError"
  | .depth => "ModelDepth"

structure St where
  /-- `variable_names` of the short-name mapper: keys (ONNX names) in insertion order. -/
  shortKeys : List String := []
  /-- `_attr_renaming` -/
  attrRen : List (String × Option String) := []
  /-- `_names_used` -/
  namesUsed : List String := []
  /-- `_name_remappings`, innermost scope first. -/
  remaps : List (List (String × String)) := []
  /-- `constants`: ONNX name ↦ literal token -/
  constants : List (String × String) := []
  /-- keys of `skipped_initializers` with their dtype, in insertion order -/
  skipped : List (String × Nat) := []
  /-- `_names_read`: names read in the graph being translated (fixes 0215218, ce0fc89) -/
  namesRead : List String := []
  /-- `_local_functions`: Python name ↦ (domain, name) of the function printed under that name (fix 41fb399) -/
  localFns : List (String × String × String) := []
  /-- `python_names` of `_make_unique_name_mapper` (ONNX name ↦ Python name, insertion order);
      its `used` set is the list of second components -/
  uniq : List (String × String) := []
  deriving Repr

/-! ## Renaming -/

/-- One request to the short-name mapper on the key list `keys` (in insertion order):
    the 0-based index the name gets and the new key list. -/
def shortStep (keys : List String) (k : String) : Nat × List String :=
  if k ∈ keys then (keys.idxOf k, keys) else (keys.length, keys ++ [k])

/-- `_make_short_name_mapper().renamer`: `v{index+1}`, keyed by the ONNX name itself (fix da27432; it was
    keyed by the cleaned name before). -/
def shortName (st : St) (name : String) : String × St :=
  let r := shortStep st.shortKeys name
  ("v" ++ Nat.repr (r.1 + 1), { st with shortKeys := r.2 })

/-- the `k`-th candidate of `_make_unique_name_mapper`: the cleaned name, then `<cleaned>_1`, `<cleaned>_2`, … -/
def uniqCand (cleaned : String) (k : Nat) : String :=
  if k = 0 then cleaned else cleaned ++ "_" ++ Nat.repr k

/-- `while candidate in used: counter += 1; candidate = f"{cleaned}_{counter}"` (fuel `used.length + 1` suffices) -/
def findFree (cleaned : String) (used : List String) : Nat → Nat → String
  | 0, k => uniqCand cleaned k
  | fuel + 1, k => if uniqCand cleaned k ∈ used then findFree cleaned used fuel (k + 1) else uniqCand cleaned k

/-- one request to `_make_unique_name_mapper().renamer` on the table `u` -/
def uniqStep (u : List (String × String)) (name : String) : String × List (String × String) :=
  match u.lookup name with
  | some r => (r, u)
  | none =>
    let r := findFree (cleanup name) (u.map (·.2)) (u.length + 1) 0
    (r, u ++ [(name, r)])

/-- a request to the unique-name mapper as `_translate_onnx_var` issues it: the empty name (absent input)
    does not reach the mapper -/
def uniqReq (u : List (String × String)) (v : String) : List (String × String) :=
  if v = "" then u else (uniqStep u v).2

/-- the table after a sequence of requests -/
def uniqRun (u : List (String × String)) : List String → List (String × String)
  | [] => u
  | v :: vs => uniqRun (uniqReq u v) vs

/-- the printed name of `v` according to table `T` (`""` ↦ `None`) -/
def pyT (T : List (String × String)) (v : String) : String :=
  if v = "" then "None" else (T.lookup v).getD ""

/-- `_make_unique_name_mapper().renamer` (fix da27432): clean-up, made injective by a numeric suffix -/
def uniqueName (st : St) (name : String) : String × St :=
  let r := uniqStep st.uniq name
  (r.1, { st with uniq := r.2 })

/-- a sequence of requests -/
def shortRun : List String → List String → List Nat × List String
  | keys, [] => ([], keys)
  | keys, k :: ks =>
    let r := shortStep keys k
    let rest := shortRun r.2 ks
    (r.1 :: rest.1, rest.2)

/-- the `while candidate in self._names_used` loop; `fuel` = `used.length + 1` suffices. -/
def findCand (base : String) (used : List String) : Nat → Nat → String → String
  | 0, _, cand => cand
  | fuel + 1, k, cand =>
    if cand ∈ used then findCand base used fuel (k + 1) (base ++ "_" ++ Nat.repr k) else cand

/-- the layer `_handle_attrname_conflict` puts over a base name `nn`: names that are not attribute parameters
    pass; an attribute parameter's name is replaced by its cached alternate, or by the first of
    `nn, nn_0, nn_1, …` that is not in `_names_used` (which is then cached and marked used) -/
def conflictStep (ar : List (String × Option String)) (nu : List String) (nn : String) :
    String × List (String × Option String) × List String :=
  match ar.lookup nn with
  | none => (nn, ar, nu)
  | some (some alt) => (alt, ar, nu)
  | some none =>
    let cand := findCand nn nu (nu.length + 1) 0 nn
    (cand, (nn, some cand) :: ar, cand :: nu)

/-- a sequence of requests to the conflict layer -/
def conflictRun (ar : List (String × Option String)) (nu : List String) :
    List String → List String × List (String × Option String) × List String
  | [] => ([], ar, nu)
  | nn :: rest =>
    let r := conflictStep ar nu nn
    let rs := conflictRun r.2.1 r.2.2 rest
    (r.1 :: rs.1, rs.2)

/-- `rename_function` (short mapper or unique-name mapper) wrapped by `_handle_attrname_conflict`. -/
def newRenamer (o : Opts) (st : St) (name : String) : String × St :=
  let (nn, st) := if o.rename then shortName st name else uniqueName st name
  let r := conflictStep st.attrRen st.namesUsed nn
  (r.1, { st with attrRen := r.2.1, namesUsed := r.2.2 })

def lookupRemap : List (List (String × String)) → String → Option String
  | [], _ => none
  | sc :: rest, v => match sc.lookup v with
    | some r => some r
    | none => lookupRemap rest v

/-- `_translate_onnx_var` -/
def translateVar (o : Opts) (st : St) (v : String) : String × St :=
  if v == "" then ("None", st)
  else match lookupRemap st.remaps v with
    | some r => (r, st)
    | none => newRenamer o st v

/-- `_translate_onnx_var_ref` -/
def translateVarRef (o : Opts) (st : St) (v : String) : String × St :=
  match st.constants.lookup v with
  | some lit => (lit, st)
  | none => translateVar o st v

def translateVars (o : Opts) : St → List String → List String × St
  | st, [] => ([], st)
  | st, v :: vs =>
    let (r, st) := translateVar o st v
    let (rs, st) := translateVars o st vs
    (r :: rs, st)

def translateVarRefs (o : Opts) : St → List String → List String × St
  | st, [] => ([], st)
  | st, v :: vs =>
    let (r, st) := translateVarRef o st v
    let (rs, st) := translateVarRefs o st vs
    (r :: rs, st)

/-- `_rename_domain` -/
def renameDomain (d : String) : String :=
  if d == "" || d == "ai.onnx" then "opset" else cleanup d

/-- `_make_opset_name` -/
def opsetName (d : String) (version : Nat) : String := renameDomain d ++ Nat.repr version

/-- `_default_opset_arg` (fix 24e6aa0): with `use_operators` the decorator names the standard-domain opset the
    proto imports (`""` first, then `"ai.onnx"`), so that a body made of Python operators only still converts -/
def defaultOpsetArg (o : Opts) (opsets : List (String × Nat)) : String :=
  if o.useOps then
    match opsets.lookup "" with
    | some v => "default_opset=" ++ opsetName "" v
    | none => match opsets.lookup "ai.onnx" with
      | some v => "default_opset=" ++ opsetName "ai.onnx" v
      | none => ""
  else ""

/-! ## Protos -/

mutual
inductive Attr where
  /-- FLOAT / INT / STRING / FLOATS / INTS / STRINGS: rendered by `repr` -/
  | plain
  /-- `HasField("t")`: dtype, dims, whether all elements are finite, literal token of the value
      (meaningful when inlinable; a token starting with `-` is a text starting with `-`) -/
  | tensor (dtype : Nat) (dims : List Nat) (finite : Bool) (lit : String)
  /-- `ref_attr_name` set -/
  | ref (r : String)
  /-- non-empty `g` -/
  | graph (g : Graph)
  /-- anything `_attribute_value` refuses that carries no non-empty `g`
      (GRAPHS, SPARSE_TENSOR, TYPE_PROTO, TENSORS, empty GRAPH, …) -/
  | unsupported
inductive Node where
  | mk (op domain name : String) (ins outs : List String) (attrs : List (String × Attr))
inductive Graph where
  /-- inits: (name, element count, dtype, dims, all-finite, literal token) -/
  | mk (inputs outputs : List String) (inits : List (String × Nat × Nat × List Nat × Bool × String))
       (nSparse : Nat) (nodes : List Node)
end

instance : Inhabited Graph := ⟨.mk [] [] [] 0 []⟩
instance : Inhabited Node := ⟨.mk "" "" "" [] [] []⟩

namespace Node
def op : Node → String | .mk o _ _ _ _ _ => o
def domain : Node → String | .mk _ d _ _ _ _ => d
def name : Node → String | .mk _ _ n _ _ _ => n
def ins : Node → List String | .mk _ _ _ i _ _ => i
def outs : Node → List String | .mk _ _ _ _ o _ => o
def attrs : Node → List (String × Attr) | .mk _ _ _ _ _ a => a
end Node

namespace Graph
def inputs : Graph → List String | .mk i _ _ _ _ => i
def outputs : Graph → List String | .mk _ o _ _ _ => o
def inits : Graph → List (String × Nat × Nat × List Nat × Bool × String) | .mk _ _ i _ _ => i
def nSparse : Graph → Nat | .mk _ _ _ s _ => s
def nodes : Graph → List Node | .mk _ _ _ _ n => n
def empty : Graph := .mk [] [] [] 0 []
end Graph

/-- `attr.g` (an empty GraphProto when the field is not set) -/
def Attr.g : Attr → Graph
  | .graph g => g
  | _ => Graph.empty

def Attr.isGraph : Attr → Bool
  | .graph _ => true
  | _ => false

/-- `_update_names_used_in_node` / `_update_names_used_in_graph`, to nesting depth `d`. -/
def namesOfNode : Nat → Node → List String
  | 0, n => n.ins ++ n.outs
  | d + 1, n =>
    n.ins ++ n.outs ++ n.attrs.flatMap (fun a =>
      match a.2 with
      | .graph g => g.inputs ++ g.outputs ++ g.inits.map (·.1) ++ g.nodes.flatMap (namesOfNode d)
      | _ => [])

/-- `_update_names_read`: the names read by nodes — their inputs and, for nested graphs, the graph outputs and the
    names read by their nodes (to nesting depth `d`) -/
def namesReadBy : Nat → List Node → List String
  | 0, ns => ns.flatMap (·.ins)
  | d + 1, ns =>
    ns.flatMap (fun n => n.ins ++ n.attrs.flatMap (fun a =>
      match a.2 with
      | .graph g => g.outputs ++ namesReadBy d g.nodes
      | _ => []))

def namesOfGraph (d : Nat) (g : Graph) : List String :=
  g.inputs ++ g.outputs ++ g.inits.map (·.1) ++ g.nodes.flatMap (namesOfNode d)

/-- `is_onnx_op` -/
def isOnnxOp (n : Node) (op : String) : Bool :=
  n.op == op && (n.domain == "" || n.domain == "ai.onnx")

/-- `has_input` -/
def hasInput (n : Node) (i : Nat) : Bool :=
  match n.ins[i]? with
  | some x => x != ""
  | none => false

/-- `_is_used_in_graph_body` -/
def isUsedInBody (d : Nat) (name : String) (g : Graph) : Bool :=
  (g.nodes.flatMap (namesOfNode d)).contains name

/-- `_cond_is_used_in_loop_body` -/
def condIsUsed (d : Nat) (g : Graph) : Bool :=
  let condIn := g.inputs.getD 1 ""
  let condOut := g.outputs.getD 0 ""
  g.nodes.any (fun n =>
    if isOnnxOp n "Identity" && n.ins.length == 1 && n.outs.length == 1
        && n.ins.getD 0 "" == condIn && n.outs.getD 0 "" == condOut then false
    else
      let ns := namesOfNode d n
      ns.contains condIn || ns.contains condOut)

/-! ## Inline constants, operator table, attributes -/

/-- `_get_const_repr` on `attribute[0]`: no dimension 0 (fix 4e95266), FLOAT (1) / INT64 (7), rank 0 or rank 1
    with `dims[0] < 5`, and every element finite (fix 71b4284). -/
def constRepr : Attr → Option String
  | .tensor dtype dims finite lit =>
    if dims.contains 0 then none
    else if dtype == 1 || dtype == 7 then
      match dims with
      | [] => if finite then some lit else none
      | [n] => if n < 5 then (if finite then some lit else none) else none
      | _ => none
    else none
  | _ => none

/-- the `ops` table of `_translate_node` (`"Lesser"` is not an ONNX operator: `Less` is never sugared). -/
def opsTable : List (String × String) :=
  [("Add", "+"), ("Sub", "-"), ("Mul", "*"), ("MatMul", "@"), ("Div", "/"), ("Pow", "**"),
   ("And", "&"), ("Or", "|"), ("Greater", ">"), ("Equal", "=="), ("Lesser", "<"),
   ("GreaterOrEqual", ">="), ("LessOrEqual", "<=")]

/-- `_translate_attributes`: the rendered keyword list (`k` or `k=@ref`), or the refusal. -/
def translateAttrs : List (String × Attr) → Except Err (List String)
  | [] => .ok []
  | (k, a) :: rest =>
    match a with
    | .ref r => (translateAttrs rest).map (fun l => (k ++ "=@" ++ r) :: l)
    | .plain => (translateAttrs rest).map (fun l => k :: l)
    | .tensor _ _ _ _ => (translateAttrs rest).map (fun l => k :: l)
    | .graph _ => .error .attrKind
    | .unsupported => .error .attrKind

/-! ## Statements -/

abbrev R := Except Err (List String × St)

def comma (l : List String) : String := ",".intercalate l

def line (indent : Nat) (s : String) : String := "L" ++ Nat.repr indent ++ " " ++ s

/-- `_emit_assign` on two lists (`zip`); each pair: lhs translated first, then rhs. -/
def emitAssign (o : Opts) (indent : Nat) : St → List String → List String → List String × St
  | st, l :: ls, r :: rs =>
    let (a, st) := translateVar o st l
    let (b, st) := translateVarRef o st r   -- a right-hand side may be an inlined constant (fix b124a38)
    let (rest, st) := emitAssign o indent st ls rs
    (line indent ("assign " ++ a ++ " = " ++ b) :: rest, st)
  | st, _, _ => ([], st)

/-- run `f` over the nodes, concatenating the emitted lines -/
def nodesLoop (f : Node → St → R) : List Node → St → R
  | [], st => .ok ([], st)
  | n :: ns, st =>
    match f n st with
    | .error e => .error e
    | .ok (l1, st) =>
      match nodesLoop f ns st with
      | .error e => .error e
      | .ok (l2, st) => .ok (l1 ++ l2, st)

/-- the initializer loop of `_translate_graph_body` -/
def initsLoop (o : Opts) (rec : Node → St → R) :
    List (String × Nat × Nat × List Nat × Bool × String) → St → R
  | [], st => .ok ([], st)
  | (name, size, dtype, dims, finite, lit) :: rest, st =>
    if o.skipInit && size > 4 then
      let (py, st) := translateVar o st name
      if (st.skipped.map (·.1)).contains py then .error .dupSkipped
      else initsLoop o rec rest { st with skipped := st.skipped ++ [(py, dtype)] }
    else
      -- make_node("Constant", [], [init.name], value=init): the output keeps its ONNX name and is
      -- translated (once) by `_translate_node` (fix efaa07e)
      match rec (.mk "Constant" "" "" [] [name] [("value", .tensor dtype dims finite lit)]) st with
      | .error e => .error e
      | .ok (l1, st) =>
        match initsLoop o rec rest st with
        | .error e => .error e
        | .ok (l2, st) => .ok (l1 ++ l2, st)

/-- `_translate_graph_body` -/
def graphBody (o : Opts) (rec : Node → St → R) (g : Graph) (st : St) : R :=
  match initsLoop o rec g.inits st with
  | .error e => .error e
  | .ok (l1, st) =>
    if g.nSparse > 0 then .error .sparseInit
    else match nodesLoop rec g.nodes st with
      | .error e => .error e
      | .ok (l2, st) => .ok (l1 ++ l2, st)

/-- `_translate_graph_body` of a subgraph together with its read set (fix ce0fc89): `_names_read` is the set of the
    graph being translated — its outputs and the names read by its nodes, to nesting depth `d` — and the enclosing
    graph's set is restored afterwards.  (For a main graph `_translate_graph` has already set the same set.) -/
def graphBodyR (o : Opts) (d : Nat) (rec : Node → St → R) (g : Graph) (st : St) : R :=
  let outer := st.namesRead
  match graphBody o rec g { st with namesRead := g.outputs ++ namesReadBy d g.nodes } with
  | .error e => .error e
  | .ok (l, st) => .ok (l, { st with namesRead := outer })

/-- `_translate_if`; `d` is the depth to which the names read inside the branches are collected. -/
def translateIf (o : Opts) (recIn : Node → St → R) (d : Nat) (n : Node) (indent : Nat) (st : St) : R :=
  let (cond, st) := translateVarRef o st (n.ins.getD 0 "")
  match n.attrs with
  | [a0, a1] =>
    let (elseB, thenB) := if a0.1 == "else_branch" then (a0.2.g, a1.2.g) else (a1.2.g, a0.2.g)
    -- fix e0cdb9e: a constant inlined in a branch is local to it — the table is saved here and restored after the
    -- assignments closing each branch (which may still refer to a constant of that branch)
    let outer := st.constants
    match graphBodyR o d recIn thenB st with
    | .error e => .error e
    | .ok (tl, st) =>
      let (ta, st) := emitAssign o (indent + 1) st n.outs thenB.outputs
      let st := { st with constants := outer }
      match graphBodyR o d recIn elseB st with
      | .error e => .error e
      | .ok (el, st) =>
        let (ea, st) := emitAssign o (indent + 1) st n.outs elseB.outputs
        let st := { st with constants := outer }
        -- no output is read in the enclosing graph (its own read set, fix ce0fc89): the (checked) translation is
        -- dropped (fix 0215218)
        if !(n.outs.any (fun x => st.namesRead.contains x)) then .ok ([], st)
        else .ok ([line indent ("if " ++ cond)] ++ tl ++ ta ++ [line indent "else"] ++ el ++ ea, st)
  | _ => .error .ifAttrs

/-- `_translate_loop`; `d` is the depth to which names inside the body are collected. -/
def translateLoop (o : Opts) (recIn : Node → St → R) (d : Nat) (n : Node) (indent : Nat) (st : St) : R :=
  match n.attrs with
  | [] => .error .noAttr
  | a0 :: _ =>
    let body := a0.2.g
    match body.inputs, body.outputs with
    | iterVar :: condIn :: formalIns, condOut :: bodyOuts =>
      let (useIter, nIter, st) :=
        if hasInput n 0 then
          let (r, st) := translateVarRef o st (n.ins.getD 0 "")   -- may be an inlined constant (fix b124a38)
          (true, r, st)
        else (isUsedInBody d iterVar body, "None", st)
      let (iterPy, st) := translateVar o st iterVar
      let (pyCond, st) := translateVar o st condIn
      let (rows1, useCond, st) :=
        if hasInput n 1 then
          let (r, st) := emitAssign o indent st [condIn] [n.ins.getD 1 ""]
          (r, true, st)
        else ([], condIsUsed d body, st)
      let numState := n.ins.length - 2
      let actualIns := n.ins.drop 2
      let formalOuts := bodyOuts.take numState
      let actualOuts := n.outs.take numState
      let (rows2, st) := emitAssign o indent st formalIns actualIns
      let breakLast := useIter && useCond && !hasInput n 1 && !isUsedInBody d condIn body
      let hdr : Except Err (List String × St) :=
        if useIter && !useCond then
          let (r, st) := translateVar o st condIn
          match st.remaps with
          | [] => .error .remapIndex
          | sc :: rest => .ok ([line indent ("for " ++ iterPy ++ " " ++ nIter)],
                               { st with remaps := ((condOut, r) :: sc) :: rest })
        else if !useIter && useCond then .ok ([line indent ("while " ++ pyCond)], st)
        else if useIter && useCond then
          -- fix 413fb60: without an initial condition, and when the body does not read cond_in, the loop is
          -- printed `for …: <body>; c_in = Not(c_out); <hand-over>; if c_in: break`
          if breakLast then .ok ([line indent ("for " ++ iterPy ++ " " ++ nIter)], st)
          else .ok ([line indent ("forbreak " ++ iterPy ++ " " ++ nIter ++ " " ++ pyCond)], st)
        else .error .loopNoStop
      match hdr with
      | .error e => .error e
      | .ok (h, st) =>
        -- fix e0cdb9e: a constant inlined in the loop body is local to the body
        let outer := st.constants
        match graphBodyR o d recIn body st with
        | .error e => .error e
        | .ok (bl, st) =>
          let r3 : Except Err (List String × St) :=
            if breakLast then recIn (.mk "Not" n.domain "" [condOut] [condIn] []) st
            else if useCond then .ok (emitAssign o (indent + 1) st [condIn] [condOut])
            else .ok ([], st)
          match r3 with
          | .error e => .error e
          | .ok (rows3, st) =>
            let (rows4, st) := emitAssign o (indent + 1) st formalIns formalOuts
            let st := { st with constants := outer }
            let brk := if breakLast then [line (indent + 1) ("breakif " ++ pyCond)] else []
            let (rows5, st) := emitAssign o indent st actualOuts formalIns
            .ok (rows1 ++ rows2 ++ h ++ bl ++ rows3 ++ rows4 ++ brk ++ rows5, st)
    | _, _ => .error .noAttr

/-- output names of a call: `_i` for a missing output, else `_translate_onnx_var` -/
def outNames (o : Opts) (st : St) (i : Nat) : List String → List String × St
  | [] => ([], st)
  | x :: xs =>
    if x == "" then
      let (rs, st) := outNames o st (i + 1) xs
      (("_" ++ Nat.repr i) :: rs, st)
    else
      let (r, st) := translateVar o st x
      let (rs, st) := outNames o st (i + 1) xs
      (r :: rs, st)

/-- fix b6d60b3: the left operand of `**` is parenthesised when its text starts with `-` (only an inlined
    negative constant can) -/
def powParen (op : String) (args : List String) : List String :=
  match args with
  | a :: rest => if op == "Pow" && a.toList.head? == some '-' then ("(" ++ a ++ ")") :: rest else args
  | [] => []

/-- the non-control-flow tail of `_translate_node` -/
def translatePlain (o : Opts) (opsets : List (String × Nat)) (n : Node) (indent : Nat) (st : St) : R :=
  if n.attrs.any (·.2.isGraph) then .error .graphAttr
  else match (if o.useOps then opsTable.lookup n.op else none) with
    | some sym =>
      let (out, st) := translateVar o st (n.outs.getD 0 "")
      let (args, st) := translateVarRefs o st n.ins
      .ok ([line indent ("op " ++ out ++ " = " ++ (" " ++ sym ++ " ").intercalate (powParen n.op args))], st)
    | none =>
      match opsets.lookup n.domain with
      | none => .error .noOpset
      | some ver =>
        -- a call of a function printed above goes through the python function (fix 41fb399)
        let callee := match st.localFns.lookup (cleanup n.op) with
          | some (dm, nm) => if dm == n.domain && nm == n.op then cleanup n.op
                             else opsetName n.domain ver ++ "." ++ cleanup n.op
          | none => opsetName n.domain ver ++ "." ++ cleanup n.op
        match translateAttrs n.attrs with
        | .error e => .error e
        | .ok attrs =>
          let (outs, st) := outNames o st 0 n.outs
          let (args, st) := translateVarRefs o st n.ins
          if n.op == "Identity" && n.ins.length == 1 && n.outs.length == 1 && outs.getD 0 "" == args.getD 0 "" then
            .ok ([], st)
          else
            .ok ([line indent ("call " ++ comma outs ++ " = " ++ callee ++ "(" ++ comma args ++ "|" ++ comma attrs ++ ")")], st)

/-- `_translate_node`.  `d` bounds the nesting depth of subgraphs (structural recursion). -/
def translateNode (o : Opts) (opsets : List (String × Nat)) : Nat → Nat → Node → St → R
  | 0, _, _, _ => .error .depth
  | d + 1, indent, n, st =>
    let inlined : Option (Except Err St) :=
      if o.inlineConst && n.op == "Constant" then
        match n.attrs with
        | [] => some (.error .noAttr)
        | a0 :: _ =>
          match constRepr a0.2 with
          | some lit => some (.ok { st with constants := (n.outs.getD 0 "", lit) :: st.constants })
          | none => none
      else none
    match inlined with
    | some (.error e) => .error e
    | some (.ok st) => .ok ([], st)
    | none =>
      if n.op == "If" then translateIf o (translateNode o opsets d (indent + 1)) d n indent st
      else if n.op == "Loop" then translateLoop o (translateNode o opsets d (indent + 1)) d n indent st
      else if n.op == "Scan" then .error .scan
      else translatePlain o opsets n indent st

/-! ## Whole protos -/

structure FunctionP where
  name : String
  domain : String
  inputs : List String
  outputs : List String
  attrs : List String
  /-- `sorted(_names_used_in_function(f))` (fix da27432 sorts the set; the sorted list is supplied by the harness) -/
  usedOrder : List String
  opsets : List (String × Nat)
  nodes : List Node

structure ModelP where
  graphName : String
  functionName : Option String
  opsets : List (String × Nat)
  graph : Graph

/-- the exporter state of `_translate_function` when the signature is printed: `_attr_renaming` reset, the pre-pass
    over the (sorted) used names done, `_names_used`/`_names_read`/`_local_functions` set, the attribute parameters
    registered (fix 9e40403: before the inputs are translated) -/
def funcState (o : Opts) (d : Nat) (f : FunctionP) (st : St) : St :=
  let st := { st with attrRen := [], constants := [] }  -- fix e0cdb9e: inlined constants are local to the function
  let (renamed, st) := translateVars o st f.usedOrder
  let st := { st with namesUsed := renamed, namesRead := f.outputs ++ namesReadBy d f.nodes }
  let st := { st with localFns := (cleanup f.name, f.domain, f.name) :: st.localFns }
  { st with attrRen := f.attrs.reverse.map (·, none) ++ st.attrRen,
            namesUsed := f.attrs.reverse ++ st.namesUsed }

/-- nodes of a function body: every node's line list is kept (even when empty) -/
def translateFunction (o : Opts) (d : Nat) (f : FunctionP) (st : St) : R :=
  let funName := cleanup f.name
  let st := funcState o d f st
  let (ins, st) := translateVars o st f.inputs
  let st := { st with remaps := [] :: st.remaps }
  match nodesLoop (translateNode o f.opsets d 1) f.nodes st with
  | .error e => .error e
  | .ok (body, st) =>
    let (rets, st) := translateVarRefs o st f.outputs
    let st := { st with remaps := st.remaps.drop 1 }
    let dflt := defaultOpsetArg o f.opsets
    let deco := "deco " ++ opsetName f.domain 1 ++ (if dflt == "" then "" else "," ++ dflt)
    .ok ([deco, "sig " ++ funName ++ "(" ++ comma ins ++ "|" ++ comma f.attrs ++ ")"] ++ body
          ++ [line 1 ("return " ++ comma rets)], st)

/-- `generate_rand` (fix 7dcad6a): FLOAT (1), INT8 (3); FLOAT16 (10), DOUBLE (11); the integer types
    UINT8 (2), UINT16 (4), INT16 (5), INT32 (6), INT64 (7), UINT32 (12), UINT64 (13) and BOOL (9) -/
def randOk (dtype : Nat) : Bool := [1, 3, 10, 11, 2, 4, 5, 6, 7, 12, 13, 9].contains dtype

/-- `function_name`, or the cleaned graph name -/
def ModelP.funName (m : ModelP) : String :=
  match m.functionName with
  | some f => f
  | none => cleanup m.graphName

/-- body, signature and `return` of `_translate_graph` at a given indentation level.  The main graph gets its own
    remapping scope (pushed before the body, popped after the `return` line) — fix e68372f. -/
def graphProg (o : Opts) (d : Nat) (m : ModelP) (funName : String) (indent : Nat) (st : St) : R :=
  -- fix e0cdb9e: the inlined constants of the functions translated before are not visible in the main graph
  let st := { st with remaps := [] :: st.remaps, namesRead := m.graph.outputs ++ namesReadBy d m.graph.nodes,
                      constants := [] }
  -- the body is translated first; the signature then goes through the exporter's renamer (fix efaa07e)
  match graphBody o (translateNode o m.opsets d indent) m.graph st with
  | .error e => .error e
  | .ok (body, st) =>
    let (sigNames, st) := translateVars o st m.graph.inputs
    let sig := "sig " ++ funName ++ "(" ++ comma sigNames ++ "|)"
    let (rets, st) := translateVarRefs o st m.graph.outputs
    let st := { st with remaps := st.remaps.drop 1 }
    .ok (["deco " ++ defaultOpsetArg o m.opsets, sig] ++ body ++ [line indent ("return " ++ comma rets)], st)

/-- `_translate_graph` (+ `_substitute_initializers`).  Under `skip_initializers` the function is printed one
    level deeper; when nothing was skipped that extra indentation is removed again (fix 4af3eb7) — the
    indentation influences nothing but the printed depth, so the dedented text is the program at depth 1. -/
def translateGraph (o : Opts) (d : Nat) (m : ModelP) (st0 : St) : R :=
  if m.functionName.isNone && m.graphName == "" then .error .emptyName
  else
  let funName := m.funName
  let indent := if o.skipInit then 2 else 1
  match graphProg o d m funName indent st0 with
  | .error e => .error e
  | .ok (prog, st) =>
    if st.skipped.isEmpty then
      (if o.skipInit then graphProg o d m funName 1 st0 else .ok (prog, st))
    else
      -- `generate_rand` has a fallback for every dtype since 718c87b (zeros through `make_tensor`)
      .ok (["wrap " ++ comma (st.skipped.map (·.1))] ++ prog, st)

/-- a set of names as a duplicate-free list -/
def dedup : List String → List String
  | [] => []
  | x :: xs => if x ∈ dedup xs then dedup xs else x :: dedup xs

/-- `_reserve_global_names` + the type names `_import_onnx_types` adds: the module-level names of the generated text
    that `_make_unique_name_mapper` never produces (fix 7e6d802).  `tys` are the type names of the graph inputs and
    outputs (types are not part of this model: supplied by the harness). -/
def reservedNames (tys : List String) (opsetLists : List (List (String × Nat))) (funDomains : List String) : List String :=
  (["np", "TensorProto", "make_tensor", "script", "external_tensor", "Opset", "value_infos"]
    ++ opsetLists.flatMap (fun l => l.map (fun dv => opsetName dv.1 dv.2))
    ++ funDomains.map (fun dmn => opsetName dmn 1) ++ tys) |> dedup

/-- the initial table of the unique-name mapper: the reserved names count as used; their key `""` is never
    looked up (`_translate_onnx_var("")` is `None` and does not reach the mapper) -/
def reservedTable (res : List String) : List (String × String) := res.map (fun r => ("", r))

/-- `export()` on a ModelProto without model-local functions; `tys`: type names of the graph inputs/outputs -/
def exportModelT (tys : List String) (o : Opts) (d : Nat) (m : ModelP) : Except Err (List String) :=
  (translateGraph o d m { uniq := reservedTable (reservedNames tys [m.opsets] []) }).map (·.1)

/-- the same when no type name is imported -/
def exportModel (o : Opts) (d : Nat) (m : ModelP) : Except Err (List String) := exportModelT [] o d m

/-- `_translate_opset_imports_of`: one line per opset import — `from onnxscript.onnx_opset import opsetN` for the
    standard domains, `alias = Opset('domain', version)` otherwise; for a FunctionProto additionally the function's
    own domain at version 1 when it is not imported.  Printed as `alias` resp. `alias=domain:version`. -/
def importTok (dv : String × Nat) : String :=
  if dv.1 == "" || dv.1 == "ai.onnx" then opsetName dv.1 dv.2
  else opsetName dv.1 dv.2 ++ "=" ++ dv.1 ++ ":" ++ Nat.repr dv.2

def importsLine (imports : List (String × Nat)) (funDomain : Option String) : String :=
  let extra := match funDomain with
    | some d => if imports.any (·.1 == d) then [] else [(d, 1)]
    | none => []
  "imports " ++ comma ((imports ++ extra).map importTok)

/-- `export()` on a ModelProto with model-local functions: `_translate_function` for each function in order, then
    `_translate_graph`, all on the same exporter state (the renaming tables persist; the table of inlined constants is
    cleared at the start of each, fix e0cdb9e) -/
def functionsLoop (o : Opts) (d : Nat) : List FunctionP → St → R
  | [], st => .ok ([], st)
  | f :: fs, st =>
    match translateFunction o d f st with
    | .error e => .error e
    | .ok (p1, st) =>
      match functionsLoop o d fs st with
      | .error e => .error e
      | .ok (p2, st) => .ok (p1 ++ p2, st)

/-- the functions a function calls (in all nested graphs), as `(domain, op_type)` keys, in order of occurrence -/
def calledKeys : Nat → List Node → List (String × String)
  | 0, ns => ns.map (fun n => (n.domain, n.op))
  | d + 1, ns =>
    ns.flatMap (fun n => (n.domain, n.op) :: n.attrs.flatMap (fun a =>
      match a.2 with
      | .graph g => calledKeys d g.nodes
      | _ => []))

/-- `visit` of `_callees_first`: depth-first, a callee is placed before its caller; `pending` breaks cycles -/
def cfVisit (byId : List ((String × String) × FunctionP)) (d : Nat) :
    Nat → List (String × String) → List (String × String) → List ((String × String) × FunctionP) →
    List ((String × String) × FunctionP)
  | 0, _, _, ordered => ordered
  | fuel + 1, keys, pending, ordered =>
    keys.foldl (fun ord key =>
      match byId.lookup key with
      | some f =>
        if (ord.lookup key).isSome || pending.contains key then ord
        else
          let ord := cfVisit byId d fuel (calledKeys d f.nodes) (key :: pending) ord
          ord ++ [(key, f)]
      | none => ord) ordered

/-- `_callees_first` (fix 41fb399): a function follows the functions it calls; the given order otherwise -/
def calleesFirst (d : Nat) (fs : List FunctionP) : List FunctionP :=
  -- `by_id` is a dict: for equal keys the last function wins
  let byId := fs.reverse.map (fun f => ((f.domain, f.name), f))
  let ordered := fs.foldl (fun ord f =>
    let key := (f.domain, f.name)
    if (ord.lookup key).isSome then ord
    else
      let ord := cfVisit byId d (fs.length + 1) (calledKeys d f.nodes) [key] ord
      ord ++ [(key, f)]) []
  if ordered.length == fs.length then ordered.map (·.2) else fs

def exportModelF (tys : List String) (o : Opts) (d : Nat) (fs : List FunctionP) (m : ModelP) : Except Err (List String) :=
  let st0 : St := { uniq := reservedTable (reservedNames tys (m.opsets :: fs.map (·.opsets)) (fs.map (·.domain))) }
  match functionsLoop o d (calleesFirst d fs) st0 with
  | .error e => .error e
  | .ok (pf, st) => (translateGraph o d m st).map (fun r => pf ++ r.1)

def exportFunction (o : Opts) (d : Nat) (f : FunctionP) : Except Err (List String) :=
  (translateFunction o d f { uniq := reservedTable (reservedNames [] [f.opsets] [f.domain]) }).map (·.1)

/-- The renaming the exporter applies to the value names `ns` of a *main graph* when they are
    requested in the order `ns` (no attribute parameters, no remapping scope): the table
    `name ↦ Python name`. -/
def renameTable (o : Opts) (ns : List String) : List (String × String) :=
  ns.zip (translateVars o {} ns).1

end OV.C13
