/-
  OV.Model.C07Graph — C07: the host-model fragment the rewriter's splice acts on, and its meaning.

  Core Lean only.

  * `Node` carries an `id` (Python object identity of the `ir.Node`), op identifier, optional
    inputs, outputs, opaque attributes, `metadata_props`, graph-valued attributes (`subs`; a GRAPHS
    attribute is several entries under one key) and `caps`: the names its bodies read from the
    enclosing scopes (what `Value.uses()` reports for uses inside nested subgraphs).
  * `Graph` = formal inputs, initializers (name ↦ constant token), nodes, outputs.
  * `evalGraph sem d outer g args`: operators are the uninterpreted `sem.op`; a node with bodies is
    the uninterpreted higher-order `sem.ctl` applied to the *denotations* of its bodies closed over
    the enclosing environment restricted to `caps` (ONNX outer-scope visibility: a body can only
    observe the outer values it names).  `d` bounds nesting depth only.
-/
namespace OV.C07

abbrev Name := String

mutual
inductive Node where
  | mk (id : Nat) (op domain overload : String) (inputs : List (Option Name)) (outputs : List Name)
       (attrs : List (String × String)) (mprops : List (String × String))
       (caps : List Name) (subs : List (String × Graph))
inductive Graph where
  | mk (inputs : List Name) (inits : List (Name × String)) (nodes : List Node) (outputs : List Name)
end

instance : Inhabited Graph := ⟨.mk [] [] [] []⟩
instance : Inhabited Node := ⟨.mk 0 "" "" "" [] [] [] [] [] []⟩

namespace Node
def id : Node → Nat | .mk i _ _ _ _ _ _ _ _ _ => i
def op : Node → String | .mk _ o _ _ _ _ _ _ _ _ => o
def domain : Node → String | .mk _ _ d _ _ _ _ _ _ _ => d
def overload : Node → String | .mk _ _ _ v _ _ _ _ _ _ => v
def inputs : Node → List (Option Name) | .mk _ _ _ _ i _ _ _ _ _ => i
def outputs : Node → List Name | .mk _ _ _ _ _ o _ _ _ _ => o
def attrs : Node → List (String × String) | .mk _ _ _ _ _ _ a _ _ _ => a
def mprops : Node → List (String × String) | .mk _ _ _ _ _ _ _ m _ _ => m
def caps : Node → List Name | .mk _ _ _ _ _ _ _ _ c _ => c
def subs : Node → List (String × Graph) | .mk _ _ _ _ _ _ _ _ _ s => s

def setInputs (n : Node) (i : List (Option Name)) : Node :=
  .mk n.id n.op n.domain n.overload i n.outputs n.attrs n.mprops n.caps n.subs
def setOutputs (n : Node) (o : List Name) : Node :=
  .mk n.id n.op n.domain n.overload n.inputs o n.attrs n.mprops n.caps n.subs
def setMeta (n : Node) (m : List (String × String)) : Node :=
  .mk n.id n.op n.domain n.overload n.inputs n.outputs n.attrs m n.caps n.subs
def setOverload (n : Node) (v : String) : Node :=
  .mk n.id n.op n.domain v n.inputs n.outputs n.attrs n.mprops n.caps n.subs
def setBodies (n : Node) (c : List Name) (s : List (String × Graph)) : Node :=
  .mk n.id n.op n.domain n.overload n.inputs n.outputs n.attrs n.mprops c s

def inputNames (n : Node) : List Name := n.inputs.filterMap (fun x => x)
/-- Names a node reads: its inputs and what its bodies capture. -/
def reads (n : Node) : List Name := n.inputNames ++ n.caps
end Node

namespace Graph
def inputs : Graph → List Name | .mk i _ _ _ => i
def inits : Graph → List (Name × String) | .mk _ i _ _ => i
def nodes : Graph → List Node | .mk _ _ n _ => n
def outputs : Graph → List Name | .mk _ _ _ o => o
def setNodes (g : Graph) (ns : List Node) : Graph := .mk g.inputs g.inits ns g.outputs
def setInits (g : Graph) (i : List (Name × String)) : Graph := .mk g.inputs i g.nodes g.outputs
def initNames (g : Graph) : List Name := g.inits.map (·.1)
/-- Names defined by the graph itself (inputs, initializers, node outputs). -/
def defined (g : Graph) : List Name := g.inputs ++ g.initNames ++ g.nodes.flatMap (·.outputs)
end Graph

/-! ## Semantics -/

structure Sem (V : Type) where
  op : String → String → String → List (String × String) → List (Option V) → Option (List V)
  ctl : String → String → List (String × String) → List (Option V) →
        List (List (Option V) → Option (List V)) → Option (List V)
  tensor : String → V

def Env (V : Type) := Name → Option V

def Env.empty {V} : Env V := fun _ => none
def Env.set {V} (ρ : Env V) (x : Name) (v : V) : Env V := fun y => if y = x then some v else ρ y
def Env.restrict {V} (ρ : Env V) (S : List Name) : Env V := fun y => if y ∈ S then ρ y else none

def bindOuts {V} (ρ : Env V) : List Name → List V → Option (Env V)
  | [], [] => some ρ
  | x :: xs, v :: vs => bindOuts (ρ.set x v) xs vs
  | _, _ => none

def lookupIn {V} (ρ : Env V) : Option Name → Option (Option V)
  | none => some none
  | some x => (ρ x).map some

def lookupAll {V} (ρ : Env V) : List (Option Name) → Option (List (Option V))
  | [] => some []
  | x :: xs => (lookupIn ρ x).bind fun v => (lookupAll ρ xs).map (v :: ·)

def lookupOuts {V} (ρ : Env V) : List Name → Option (List V)
  | [] => some []
  | x :: xs => (ρ x).bind fun v => (lookupOuts ρ xs).map (v :: ·)

/-- Outputs of one node from its looked-up inputs; `sub` gives the meaning of a body in an
enclosing environment. -/
def nodeOutputs {V} (sem : Sem V) (sub : Env V → Graph → List (Option V) → Option (List V))
    (ρ : Env V) (n : Node) (args : List (Option V)) : Option (List V) :=
  if n.subs.isEmpty then sem.op n.op n.domain n.overload n.attrs args
  else sem.ctl n.op n.domain n.attrs args
    (n.subs.map fun sg => fun vs => sub (ρ.restrict n.caps) sg.2 vs)

def evalNode {V} (sem : Sem V) (sub : Env V → Graph → List (Option V) → Option (List V))
    (ρ : Env V) (n : Node) : Option (Env V) :=
  (lookupAll ρ n.inputs).bind fun args =>
  (nodeOutputs sem sub ρ n args).bind fun vs =>
  bindOuts ρ n.outputs vs

def evalNodes {V} (f : Env V → Node → Option (Env V)) : Env V → List Node → Option (Env V)
  | ρ, [] => some ρ
  | ρ, n :: ns => (f ρ n).bind fun ρ' => evalNodes f ρ' ns

def bindInits {V} (sem : Sem V) (ρ : Env V) : List (Name × String) → Env V
  | [] => ρ
  | (x, t) :: r => bindInits sem (ρ.set x (sem.tensor t)) r

def bindInputs {V} (ρ : Env V) : List Name → List (Option V) → Option (Env V)
  | [], [] => some ρ
  | x :: xs, some v :: as => bindInputs (ρ.set x v) xs as
  | _ :: xs, none :: as => bindInputs ρ xs as
  | _, _ => none

def startEnv {V} (sem : Sem V) (outer : Env V) (g : Graph) (args : List (Option V)) : Option (Env V) :=
  bindInputs (bindInits sem outer g.inits) g.inputs args

/-- Meaning of a graph in an enclosing environment (`outer` is empty for a main graph or a
function body). -/
def evalGraph {V} (sem : Sem V) : Nat → Env V → Graph → List (Option V) → Option (List V)
  | 0, _, _, _ => none
  | d + 1, outer, g, args =>
    (startEnv sem outer g args).bind fun ρ0 =>
    (evalNodes (evalNode sem (evalGraph sem d)) ρ0 g.nodes).bind fun ρ =>
    lookupOuts ρ g.outputs

/-! ## Free names of bodies (what `caps` must contain), fuel-bounded traversal -/

def dedup (l : List Name) : List Name := l.foldl (fun acc x => if x ∈ acc then acc else acc ++ [x]) []

mutual
/-- names read by the nodes (inputs and, recursively, bodies) that are not defined by `bound`
or by an earlier node of the list; the fuel decreases at every node and every descent -/
def freeNodes : Nat → List Name → List Node → List Name
  | 0, _, _ => []
  | _ + 1, _, [] => []
  | d + 1, bound, n :: ns =>
    let own := (n.inputNames ++ n.subs.flatMap (fun s => freeGraph d s.2)).filter (fun x => !(bound.contains x))
    own ++ freeNodes d (bound ++ n.outputs) ns
def freeGraph : Nat → Graph → List Name
  | 0, _ => []
  | d + 1, g =>
    let bound := g.inputs ++ g.initNames
    (freeNodes d bound g.nodes ++ g.outputs.filter (fun x =>
      !((bound ++ g.nodes.flatMap (·.outputs)).contains x)))
end

/-- `caps` a node ought to carry for its current bodies. -/
def capsOf (d : Nat) (subs : List (String × Graph)) : List Name :=
  dedup (subs.flatMap (fun s => freeGraph d s.2))

/-! ## Well-formedness used by the splice theorems (one scope level)

`sortedNodes ns`: later nodes never write what an earlier node reads or writes — the list form of
"single assignment + definition before use" that `onnx.checker` enforces. -/

def disjoint (a b : List Name) : Bool := a.all (fun x => !(b.contains x))

/-- `b` may follow `a`: `b` writes neither a read nor a write of `a`. -/
def follows (a b : Node) : Bool := disjoint b.outputs a.reads && disjoint b.outputs a.outputs

def sortedNodes : List Node → Bool
  | [] => true
  | a :: r => r.all (follows a) && sortedNodes r

/-- One-level structural validity of a graph in a scope where `outerNames` are visible:
distinct outputs per node and across nodes, no redefinition of visible names, every read defined
earlier, graph outputs defined. -/
def wfNodes : List Name → List Node → Bool
  | _, [] => true
  | avail, n :: ns =>
    n.reads.all (avail.contains ·) && n.outputs.all (fun o => !(avail.contains o)) &&
    n.outputs.eraseDups.length == n.outputs.length && wfNodes (avail ++ n.outputs) ns

def wfGraph (outerNames : List Name) (g : Graph) : Bool :=
  let avail := outerNames ++ g.inputs ++ g.initNames
  wfNodes avail g.nodes && g.outputs.all ((avail ++ g.nodes.flatMap (·.outputs)).contains ·)

end OV.C07
