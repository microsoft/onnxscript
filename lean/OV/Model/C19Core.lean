import OV.Model.C19Fusions
/-!
# C19 — `_core.py` as the model assumes it

The statement sequences of `fuse_xformers`, `_pre_optimize`, `optimize_for_ort` and `ORT_PATTERN_REWRITE_RULES`
in the canonical form of `harness/c19_extract.py` (guard, `fusion_count` key, call).  These are the *expectations*
of the model: `OV.Gen.C19Core` is regenerated from the tree under test on every run and
`OV.Props.C19.core_tables_match_model` states that the two coincide.  `pipeStagesOf` interprets a
list of stage keys on the query-op stack of `pipe`; `pipe_stages_follow_core_table` proves that run over the
extracted key list it IS `pipeStages`, the function `pipe_stage_order_sound` is about.
-/
namespace OV.C19

/-- the test guarding `mha_bias` / `attention` in `fuse_xformers` -/
def mhaGuard : String := "fusion_count['mha1'] == 0 and fusion_count['mha2'] == 0"

def xformersOrder : List (String × String × String) := [
  ("", "", "_pre_optimize()"),
  ("", "", "def fuse: return func(model, debug=debug, **kwargs)"),
  ("", "erf_gelu", "fuse_erfgelu()"),
  ("", "rms_normalization", "fuse_rms_normalization()"),
  ("", "skip_layer_normalization", "fuse_skip_layer_normalization()"),
  ("", "skip_rms_normalization", "fuse_skip_rms_normalization()"),
  ("", "rotary_embedding", "fuse_rotary_embedding()"),
  ("", "cos_sin_cache", "fuse_cos_sin_cache()"),
  ("", "", "CommonSubexpressionEliminationPass()"),
  ("", "partial_rotary_embedding", "fuse_partial_rotary_embedding()"),
  ("", "sdpa", "fuse_sdpa(apply_shape_inference=True)"),
  ("", "gqa", "fuse_gqa()"),
  ("", "packed_qkv_for_gqa", "fuse_qkv_gqa()"),
  ("", "mha1", "fuse_mha1()"),
  ("", "mha2", "fuse_mha2()"),
  ("", "mha_scale", "fuse_mha_scale()"),
  ("if:" ++ mhaGuard, "mha_bias", "0"),
  ("if:" ++ mhaGuard, "attention", "0"),
  ("else:" ++ mhaGuard, "mha_bias", "fuse_mha_bias()"),
  ("else:" ++ mhaGuard, "attention", "fuse_attention()"),
  ("", "gelu", "fuse_gelu()"),
  ("", "bias_gelu", "fuse_bias_gelu()"),
  ("", "sdpa_via_mha", "replace_sdpa_by_mha()"),
  ("", "", "optimize()"),
  ("", "", "return (model, fusion_count)")]

/-- `_pre_optimize`: the `shape_optimization` rules (family `shapeopt`) run between two `optimize` calls -/
def preOptimizeOrder : List (String × String × String) := [
  ("", "", "ShapeInferencePass()"),
  ("", "", "optimize()"),
  ("", "", "shape_optimization.rules.apply_to_model()"),
  ("", "", "optimize()"),
  ("", "", "return model")]

def optimizeForOrtOrder : List (String × String × String) := [
  ("", "", "rewrite([_gemm_to_matmul_add.gemm_to_matmul_add_rule])"),
  ("", "", "fuse_xformers()"),
  ("", "", "rewrite(ORT_PATTERN_REWRITE_RULES)"),
  ("", "", "LiftConstantsToInitializersPass(lift_all_constants=False,size_limit=1)"),
  ("", "", "RemoveInitializersFromInputsPass()"),
  ("", "", "ShapeInferencePass()"),
  ("if:clear_metadata", "", "ClearMetadataAndDocStringPass()"),
  ("", "", "return (model, fusion_count)")]

/-- families `softmax`, `i2g`, `fmm`, in the order `optimize_for_ort` tries their rules -/
def ortRuleOrder : List String :=
  ["*softmax.rules.rules", "*instance_to_group_normalization.rules.rules", "*fused_matmul_rule_sets.fused_matmul_rule_sets()"]

/-- `math.isclose(scale, 1/sqrt(Dh), rel_tol=1e-5, abs_tol=1e-8)` in `SDPA.check` (`sdpaCheck` uses `1e-5 1e-8`) -/
def sdpaIscloseKw : List (List String) := [["rel_tol", "1e-05"], ["abs_tol", "1e-08"]]

/-- `softmax.rules`: the rule that keeps `axis` is tried BEFORE the attribute-free one (whose pattern would also
match a Softmax that has an axis and re-emit it without) — `softmax` restates exactly that priority. -/
def softmaxOrder : List (List String) := [
  ["softmax_with_fp32_upcast", "softmax", "check_if_fp16_input"],
  ["softmax_with_fp32_upcast_without_axis", "softmax_without_axis", "check_if_fp16_input"]]

/-- keys of the fusion stages that can actually run a fusion (top level or the `else` branch), in program order -/
def stageKeys (l : List (String × String × String)) : List String :=
  (l.filter (fun s => s.2.1 != "" && !s.1.startsWith "if:")).map (fun s => s.2.1)

/-- keys whose stage sits under a guard, with the guard -/
def guardedKeys (l : List (String × String × String)) : List (String × String) :=
  (l.filter (fun s => s.2.1 != "" && s.1 != "")).map (fun s => (s.1, s.2.1))

def posOf (k : String) : List String → Nat
  | [] => 0
  | x :: xs => if x == k then 0 else posOf k xs + 1

/-- `a` and `b` both occur and the first `a` is before the first `b` -/
def precedes (l : List String) (a b : String) : Bool :=
  l.contains a && l.contains b && posOf a l < posOf b l

/-- what sits in front of MHA's query (outermost last), "scale folded", "query bias folded", "the MHA node has a
packed `bias` input" -/
abbrev QState := List QOp × Bool × Bool × Bool

/-- One `fuse_xformers` stage acting on the query path of an attention block.  `mha_scale` peels a `Mul` that feeds MHA
directly — since /repo commit a202620 (`fix16`) only when the node has NO bias input (the operator adds its packed bias
before scaling the scores); `mha_bias` peels an `Add` (it also fires, without touching the query, when only the
key/value projection has a bias) and its pattern requires the node's bias input to be absent; every other stage leaves
the query path alone. -/
def runQStage (fix16 : Bool) (otherBias : Bool) (st : QState) (key : String) : QState :=
  if key == "mha_scale" then
    if fix16 && st.2.2.2 then st else
    let (o, m) := peelMul st.1
    (o, st.2.1 || m, st.2.2.1, st.2.2.2)
  else if key == "mha_bias" then
    if st.2.2.2 then st else
    let (o, a) := peelAdd st.1
    if a || otherBias then (o, st.2.1, st.2.2.1 || a, true) else st
  else st

/-- the attention stages run in the order given by `keys`, on a freshly fused MHA node (current rules) -/
def pipeStagesOf (keys : List String) (ops : List QOp) (otherBias : Bool) : QState :=
  keys.foldl (runQStage true otherBias) (ops, false, false, false)

/-- `pipeStages`' result as a `QState`: the node has a bias input iff `mha_bias` fired (query bias or other bias) -/
def qstateOf (r : List QOp × Bool × Bool) (otherBias : Bool) : QState := (r.1, r.2.1, r.2.2, r.2.2 || otherBias)

/-! ## Second application (`fuse_*` / `fuse_xformers` run again on its own output) -/

/-- stage keys that still run when `fusion_count['mha1'] == 0 and fusion_count['mha2'] == 0` holds — the state of every
round after the first one (the MHA rules find nothing new): the `else:`-guarded stages are skipped -/
def unguardedKeys (l : List (String × String × String)) : List String :=
  (l.filter (fun s => s.2.1 != "" && s.1 == "")).map (fun s => s.2.1)

/-- A later round of `fuse_xformers` continues from the state the previous round left. -/
def pipeRoundOf (fix16 : Bool) (keys : List String) (otherBias : Bool) (st : QState) : QState :=
  keys.foldl (runQStage fix16 otherBias) st

/-- does a SECOND `fuse_xformers` fold one more `Mul`?  `mha_bias` / `attention` are skipped by the guard, `mha_scale`
is not: it peels a `Mul` the first round left in front of MHA — since a202620 (`fix16`) unless the node carries a bias. -/
def pipeSecondPeels (fix16 : Bool) (st : QState) : Bool :=
  !(fix16 && st.2.2.2) && (peelMul st.1).2

def pipeSecondRound (fix16 : Bool) (st : QState) : QState :=
  if fix16 && st.2.2.2 then st else
  let (o, m) := peelMul st.1
  (o, st.2.1 || m, st.2.2.1, st.2.2.2)

def qOpsOf (qProj : String) : List QOp :=
  match qProj with
  | "scale" => [.mul]
  | "bias" => [.add]
  | "scale_bias" => [.mul, .add]
  | "bias_scale" => [.add, .mul]
  | _ => []

/-- counts of the second `fuse_xformers` on a `pipe` block (`sdpa/mha/mha_scale/mha_bias/attention`); `*` = not tied
(rank-1 mask: the node was realised by `replace_sdpa_by_mha`, whether a `Mul` ends up feeding it directly depends on
what the final `optimize` removes). -/
def pipeSecond (i : PipeIn) : String :=
  if i.mask1d then "*" else
  let ob := i.kb || i.vb
  let st1 := qstateOf (pipeStages (qOpsOf i.qProj) ob) ob
  s!"0/0/{if pipeSecondPeels true st1 then 1 else 0}/0/0"

/-- counts of a second run of the three rotary stages: a `RotaryEmbedding` function node that the cos/sin-cache rule
did not consume is inlined again by the trailing `optimize`, so the same stage-1 fusion fires again (and is undone
again); everything else is a fixed point. -/
def ropeSecondLine (first : String) : String :=
  if first.startsWith "count=1/0/0" then "1/0/0" else "0/0/0"

/-- every other family: the fused graph offers no further match — all counts 0 (same arity as the first line) -/
def zerosLike (firstLine : String) : String :=
  let head := ((firstLine.splitOn " ").headD "")
  let cnt := (head.drop 6).toString   -- after "count="
  "/".intercalate ((cnt.splitOn "/").map fun _ => "0")

end OV.C19
