import OV.Model.C03Pass
/-
  OV.Model.C03Frag — decidable description of the graphs covered by the end-to-end theorem
  `fold_fragmentA_preserves` (Props/C03.lean).  The driver evaluates `fragAWFB` on every case it is
  given and reports it, so each run says how many generated models lie inside the theorem's domain.
  `OV/Lemmas/C03Check.lean` proves `fragAWFB g = true` implies the theorem's structural hypotheses.
-/
namespace OV.C03

def mentionsTop (n : Node) (x : Name) : Bool := n.inputs.contains (some x) || n.outputs.contains x

/-- No node mentions an output of a later node (single assignment + definition before use, one level). -/
def orderOK : List Node → Bool
  | [] => true
  | n :: rest => rest.all (fun m => m.outputs.all (fun o => !mentionsTop n o)) && orderOK rest

def io1 (n : Node) : Option (Name × Name) :=
  match n.inputs, n.outputs with
  | [some x], [o] => some (x, o)
  | _, _ => none

/-- decidable mirror of the node classes of fragment A (syntactic part) -/
def nodeFragAB (n : Node) : Bool :=
  n.subs.isEmpty && !hasRefAttr n &&
  ( (!n.isOp "Constant" && (lookupEvaluator n 100).isNone)
  || (n.isOp "Constant" && n.inputs.isEmpty && n.outputs.length == 1)
  || (n.op == "Identity" && n.domain == "" && (match io1 n with | some (x, o) => o != x | none => false))
  || (n.domain == "" && (match n.outputs with
        | [o] => n.inputs.all (fun i => i != some o) &&
            ((n.op == "Concat" && (match n.inputs with | [some _] => true | _ => false)) ||
             (n.op == "Dropout" && (match n.inputs with | some _ :: tl => decide (tl.length ≤ 1) | _ => false)))
        | _ => false))
  || (n.op == "Cast" && n.domain == "" && (match io1 n with | some (x, o) => o != x | none => false) && intAttr n "to" none != some 0)
  || (n.op == "CastLike" && n.domain == "" && n.attrs.isEmpty &&
        (match n.inputs, n.outputs with | [some x, some w], [o] => o != x && o != w | _, _ => false)) )

def nameOKB (y : Name) : Bool := y.toList.head? != some '%'

def nodeNamesOKB (n : Node) : Bool :=
  n.inputs.all (fun i => match i with | some y => nameOKB y | none => true) && n.outputs.all nameOKB

/-- decidable part of `FragAWF`: node classes, order, outputs are not formal inputs, no generated-looking name -/
def fragAWFB (g : Graph) : Bool :=
  g.nodes.all nodeFragAB && orderOK g.nodes &&
  g.nodes.all (fun n => n.outputs.all fun o => !g.inputs.contains o) && g.nodes.all nodeNamesOKB

/-- decidable part of the hypotheses on the annotation table: constants and element types are recorded only for names
that do not look generated, and no constant is recorded for a node output -/
def infoOKB (info : List (Name × VInfo)) (g : Graph) : Bool :=
  info.all fun p =>
    (p.2.const.isNone || (nameOKB p.1 && g.nodes.all fun m => !m.outputs.contains p.1)) &&
    (p.2.dtype.isNone || nameOKB p.1)

/-- everything about a case that can be checked mechanically among the hypotheses of `fold_fragmentA_preserves` -/
def inTheoremFragment (isFunction : Bool) (info : List (Name × VInfo)) (g : Graph) : Bool :=
  !isFunction && fragAWFB g && infoOKB info g

end OV.C03
