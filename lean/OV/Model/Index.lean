/-
  OV.Model.Index — C11: tensor indexing / slicing.

  Core Lean only.  Three independent pieces, related only by theorems (Props/C11.lean)
  and by the correspondence check (harness/c11.py):

  * NumPy / CPython basic indexing             (`pyAdjust`, `pySliceList`, `numpyIndex`)
  * ONNX operator semantics Slice/Squeeze/Gather (`onnxNorm`, `onnxSliceList`, `opSlice`, …)
  * the two front ends of onnxscript, transcribed:
      `planGraph`  = Converter._translate_subscript_expr   (onnxscript/_internal/converter.py)
      `planEager`  = Tensor.__getitem__                     (onnxscript/tensor.py)

  A tensor is never materialised in the model: an indexing result is a *view*, one
  `AxisMap` per source axis, saying which source positions each output position reads.
-/
namespace OV.Index

/-! ## Integer level: slice bound normalisation -/

def maxint : Int := 9223372036854775807
def minint : Int := -9223372036854775808

/-- CPython `PySlice_AdjustIndices` (together with the `None` defaults of
`PySlice_Unpack`), unbounded integers.  `step ≠ 0` is the caller's obligation. -/
def pyAdjust (d : Int) (lo hi : Option Int) (step : Int) : Int × Int :=
  let start :=
    match lo with
    | none => if step < 0 then d - 1 else 0
    | some s =>
      if s < 0 then (if s + d < 0 then (if step < 0 then -1 else 0) else s + d)
      else (if s ≥ d then (if step < 0 then d - 1 else d) else s)
  let stop :=
    match hi with
    | none => if step < 0 then -1 else d
    | some s =>
      if s < 0 then (if s + d < 0 then (if step < 0 then -1 else 0) else s + d)
      else (if s ≥ d then (if step < 0 then d - 1 else d) else s)
  (start, stop)

/-- ONNX `Slice` (opset 13) normalisation of one axis, from the operator specification:
negative values get `d` added once; then for positive steps both are clamped to `[0,d]`,
for negative steps `start` is clamped to `[0,d-1]` and `end` to `[-1,d-1]`. -/
def onnxNorm (d : Int) (start stop step : Int) : Int × Int :=
  let s := if start < 0 then start + d else start
  let e := if stop < 0 then stop + d else stop
  if step < 0 then
    (max 0 (min s (d - 1)), max (-1) (min e (d - 1)))
  else
    (max 0 (min s d), max 0 (min e d))

/-- Bounds the converter feeds to `Slice` for constant bounds (`translate_slice`):
defaults `0 / maxint` for a positive step, `maxint / minint` for a negative one. -/
def convBounds (lo hi : Option Int) (step : Int) : Int × Int :=
  if step > 0 then (lo.getD 0, hi.getD maxint) else (lo.getD maxint, hi.getD minint)

/-- Number of elements of a normalised `(start, stop, step)` range (`PySlice_AdjustIndices`'
return value / ONNX output dim: `ceil((stop-start)/step)` clipped at 0). -/
def sliceLen (start stop step : Int) : Nat :=
  if step > 0 then
    (if start < stop then ((stop - start - 1) / step + 1).toNat else 0)
  else if step < 0 then
    (if stop < start then ((start - stop - 1) / (-step) + 1).toNat else 0)
  else 0

/-- Bounds eager mode feeds to `Slice` (`Tensor.__getitem__`, after the repair of the eager half
of finding D22): the slice is normalised with `slice.indices(d)` — which is `pyAdjust` —, then
rewritten in ONNX Slice's conventions: an empty selection becomes `0:0`, and the stop `-1` of a
negative step ("before the first element") becomes `-(d+1)`. -/
def eagerBounds (d : Int) (lo hi : Option Int) (step : Int) : Int × Int :=
  let p := pyAdjust d lo hi step
  if sliceLen p.1 p.2 step = 0 then (0, 0)
  else if p.2 < 0 then (p.1, -(d + 1))
  else p

/-! ## List level -/

/-- The elements `l[start], l[start+step], …` (`n` of them); out-of-range reads are dropped
(they do not happen for normalised bounds). -/
def enumerate {α} (l : List α) (start step : Int) : Nat → List α
  | 0 => []
  | n + 1 =>
    (if 0 ≤ start then (l[start.toNat]?).toList else [])
      ++ enumerate l (start + step) step n

def pySliceList {α} (l : List α) (lo hi : Option Int) (step : Int) : List α :=
  let (s, e) := pyAdjust l.length lo hi step
  enumerate l s step (sliceLen s e step)

def onnxSliceList {α} (l : List α) (start stop step : Int) : List α :=
  let (s, e) := onnxNorm l.length start stop step
  enumerate l s step (sliceLen s e step)

/-! ## Views -/

inductive AxisMap where
  | drop (src : Nat)            -- axis removed; reads source position `src`
  | pick (srcs : List Nat)      -- axis kept; output position k reads source position srcs[k]
  deriving Repr, DecidableEq, BEq

abbrev View := List AxisMap

def View.init (shape : List Nat) : View := shape.map (fun d => .pick (List.range d))

def AxisMap.isPick : AxisMap → Bool
  | .pick _ => true
  | .drop _ => false

def View.rank (v : View) : Nat := (v.filter AxisMap.isPick).length

def View.shape (v : View) : List Nat :=
  v.filterMap (fun a => match a with | .pick s => some s.length | .drop _ => none)

inductive Err where
  | indexError      -- NumPy IndexError / ONNX runtime failure on out-of-range or bad squeeze
  | valueError      -- zero step, too many indices (eager)
  | refused         -- front end refuses the form (translation-time / TypeError)
  | unmodelled      -- NumPy form whose result order a `View` cannot express
  deriving Repr, DecidableEq, BEq

/-- Apply `f` to the `k`-th *kept* axis (current output numbering). -/
def modifyPick (k : Nat) (f : List Nat → Except Err AxisMap) : View → Except Err View
  | [] => .error .indexError
  | .drop s :: rest => do let r ← modifyPick k f rest; pure (.drop s :: r)
  | .pick srcs :: rest =>
    match k with
    | 0 => do let a ← f srcs; pure (a :: rest)
    | k + 1 => do let r ← modifyPick k f rest; pure (.pick srcs :: r)

def normIdx (n : Nat) (i : Int) : Option Nat :=
  if 0 ≤ i ∧ i < n then some i.toNat
  else if i < 0 ∧ -(n : Int) ≤ i then some (i + n).toNat
  else none

/-! ### ONNX operators on views -/

structure SliceEntry where
  axis : Nat
  start : Int
  stop : Int
  step : Int
  deriving Repr, DecidableEq, BEq

/-- ONNX Slice: every listed axis is sliced independently (axes are distinct in every plan
the front ends emit; for a repeated axis the first entry is used, cf. spec "behaviour is
undefined if an axis is repeated"). A zero step is a runtime error. -/
def lookupSlice (entries : List SliceEntry) (k : Nat) (srcs : List Nat) : List Nat :=
  match entries.find? (fun e => e.axis == k) with
  | some e => onnxSliceList srcs e.start e.stop e.step
  | none => srcs

def opSlice (entries : List SliceEntry) (v : View) : Except Err View :=
  if entries.any (fun e => e.step == 0) then .error .valueError
  else if entries.any (fun e => decide (e.axis ≥ v.rank)) then .error .indexError
  else
    -- walk the view, numbering kept axes
    let rec go (k : Nat) : View → View
      | [] => []
      | .drop s :: rest => .drop s :: go k rest
      | .pick srcs :: rest => .pick (lookupSlice entries k srcs) :: go (k + 1) rest
    .ok (go 0 v)

/-- The single selected position of an axis that is being squeezed (extent must be 1). -/
def single? (srcs : List Nat) : Except Err Nat :=
  match srcs with
  | [s] => .ok s
  | _ => .error .indexError

/-- ONNX Squeeze with explicit axes: every listed axis must have extent 1. -/
def opSqueeze (axes : List Nat) (v : View) : Except Err View :=
  if axes.any (fun a => decide (a ≥ v.rank)) then .error .indexError
  else
    let rec go (k : Nat) : View → Except Err View
      | [] => .ok []
      | .drop s :: rest => do let r ← go k rest; pure (.drop s :: r)
      | .pick srcs :: rest =>
        if axes.contains k then do
          let s ← single? srcs
          let r ← go (k + 1) rest
          pure (.drop s :: r)
        else do let r ← go (k + 1) rest; pure (.pick srcs :: r)
    go 0 v

/-- ONNX Gather with a rank-0 index: the axis disappears. -/
def opGatherScalar (axis : Nat) (i : Int) (v : View) : Except Err View :=
  modifyPick axis (fun srcs =>
    match normIdx srcs.length i with
    | some k => (match srcs[k]? with | some s => .ok (.drop s) | none => .error .indexError)
    | none => .error .indexError) v

/-- ONNX Gather with a 1-D index: the axis is replaced by the gathered positions. -/
def opGatherVec (axis : Nat) (is : List Int) (v : View) : Except Err View :=
  modifyPick axis (fun srcs =>
    let picked := is.map (fun i => (normIdx srcs.length i).bind (fun k => srcs[k]?))
    if picked.all Option.isSome then .ok (.pick (picked.filterMap id)) else .error .indexError) v

/-! ## Index expressions -/

/-- A slice bound or step: absent, a Python int constant, or a tensor-valued expression
(`dyn`, with the value it has at run time). -/
inductive Bnd where
  | none
  | const (i : Int)
  | dyn (i : Int)
  deriving Repr, DecidableEq, BEq

def Bnd.val? : Bnd → Option Int
  | .none => Option.none
  | .const i => some i
  | .dyn i => some i

inductive Comp where
  | full
  | int (i : Int)
  | slice (lo hi step : Bnd)
  | tScalar (v : Int)
  | tVec (vs : List Int)
  deriving Repr, DecidableEq, BEq

def Comp.isAdvanced : Comp → Bool
  | .int _ | .tScalar _ | .tVec _ => true
  | _ => false

def Comp.isVec : Comp → Bool
  | .tVec _ => true
  | _ => false

/-! ### NumPy -/

def numpyAxis (c : Comp) (srcs : List Nat) : Except Err AxisMap :=
  match c with
  | .full => .ok (.pick srcs)
  | .int i | .tScalar i =>
    (match normIdx srcs.length i with
     | some k => (match srcs[k]? with | some s => .ok (.drop s) | none => .error .indexError)
     | none => .error .indexError)
  | .slice lo hi st =>
    let step := (st.val?).getD 1
    if step == 0 then .error .valueError
    else .ok (.pick (pySliceList srcs lo.val? hi.val? step))
  | .tVec is =>
    let picked := is.map (fun i => (normIdx srcs.length i).bind (fun k => srcs[k]?))
    if picked.all Option.isSome then .ok (.pick (picked.filterMap id)) else .error .indexError

/-- Does NumPy move the broadcast (advanced-index) axis to the front in a way that changes
the axis order?  True iff there is a 1-D index, the advanced indices are not adjacent,
and a kept (slice/full) axis precedes the 1-D index. -/
def needsTranspose (comps : List Comp) : Bool :=
  let idx := comps.zipIdx
  let adv := idx.filter (fun p => p.1.isAdvanced)
  match adv.head?, adv.getLast? with
  | some f, some l =>
    let adjacent := (adv.length == l.2 - f.2 + 1)
    let vecPos := (idx.filter (fun p => p.1.isVec)).map (·.2)
    match vecPos with
    | [p] => !adjacent && (idx.any (fun q => !q.1.isAdvanced && q.2 < p))
    | _ => false
  | _, _ => false

/-- Apply a per-axis function to the leading axes (one per component); trailing axes are kept. -/
def axiswise (f : Comp → List Nat → Except Err AxisMap) : List Comp → List Nat → Except Err View
  | [], ds => .ok (View.init ds)
  | _ :: _, [] => .error .indexError
  | c :: cs, d :: ds => do
    let a ← f c (List.range d)
    let r ← axiswise f cs ds
    pure (a :: r)

def numpyIndex (comps : List Comp) (shape : List Nat) : Except Err View :=
  if comps.length > shape.length then .error .indexError
  else if (comps.filter Comp.isVec).length > 1 then .error .unmodelled
  else if needsTranspose comps then .error .unmodelled
  else axiswise numpyAxis comps shape

/-- A NumPy result whose axis order a plain `View` cannot express: the per-axis maps plus, when
NumPy moves the broadcast (advanced-index) axis to the front, the source position of that axis. -/
structure NView where
  view : View
  front : Option Nat
  deriving Repr, DecidableEq

/-- The source position of the (single) 1-D index when NumPy moves its axis to the front. -/
def frontOf (comps : List Comp) : Option Nat :=
  if needsTranspose comps then ((comps.zipIdx.filter (fun p => p.1.isVec)).map (·.2)).head? else none

/-- Output shape of a NumPy result: the moved axis first, the other kept axes in source order. -/
def NView.shape (n : NView) : List Nat :=
  match n.front with
  | none => n.view.shape
  | some p =>
    (match n.view[p]? with
     | some (.pick srcs) => srcs.length :: View.shape (n.view.eraseIdx p)
     | _ => n.view.shape)

/-- NumPy indexing with the axis order made explicit: every expression with at most one 1-D index
is covered — the advanced indices (ints, rank-0 tensors, the 1-D index) being separated by a slice
makes NumPy put the broadcast axis first (`X[0, :, I]`).  Two or more 1-D indices (zip/broadcast
semantics) stay `unmodelled`. -/
def numpyIndexT (comps : List Comp) (shape : List Nat) : Except Err NView :=
  if comps.length > shape.length then .error .indexError
  else if (comps.filter Comp.isVec).length > 1 then .error .unmodelled
  else do
    let v ← axiswise numpyAxis comps shape
    pure ⟨v, frontOf comps⟩

/-! ### Plans -/

inductive PlanOp where
  | identity
  | slice (entries : List SliceEntry)
  | squeeze (axes : List Nat)
  | npSqueeze (axes : List Nat)          -- eager: numpy squeeze on the result
  | gatherScalar (axis : Nat) (i : Int)
  | gatherVec (axis : Nat) (is : List Int)
  deriving Repr, DecidableEq, BEq

abbrev Plan := List PlanOp

def runOp (op : PlanOp) (v : View) : Except Err View :=
  match op with
  | .identity => .ok v
  | .slice es => opSlice es v
  | .squeeze axes => opSqueeze axes v
  | .npSqueeze axes => opSqueeze axes v
  | .gatherScalar a i => opGatherScalar a i v
  | .gatherVec a is => opGatherVec a is v

def runPlan (p : Plan) (v : View) : Except Err View :=
  p.foldlM (fun v op => runOp op v) v

/-- The classification of `_translate_subscript_expr`'s first loop. -/
inductive Kind where
  | skip | sliced | scalar | nonScalar
  deriving Repr, DecidableEq, BEq

def Comp.kind : Comp → Kind
  | .full => .skip
  | .slice .none .none .none => .skip
  | .slice _ _ _ => .sliced
  | .int _ => .scalar
  | .tScalar _ | .tVec _ => .nonScalar

/-- A scalar index `i` routed through Slice + Squeeze is the slice `i:i+1:1` — except `i = -1`,
whose end would be 0 (nothing selected): there the end is "to the end" (`dflt`: the int64
maximum in the converter, which does not know the dimension; the dimension in eager mode). -/
def scalarStop (i dflt : Int) : Int := if i = -1 then dflt else i + 1

/-- `translate_slice` for one component; `none` = the converter raises. -/
def convSliceEntry (axis : Nat) (lo hi st : Bnd) : Option SliceEntry :=
  match st with
  | .dyn s =>
    -- step direction unknown: omitted bounds are refused
    (match lo.val?, hi.val? with
     | some l, some h => some ⟨axis, l, h, s⟩
     | _, _ => Option.none)
  | _ =>
    let step := (st.val?).getD 1
    let (s, e) := convBounds lo.val? hi.val? step
    some ⟨axis, s, e, step⟩

def gatherOp (axis : Nat) : Comp → Option PlanOp
  | .int i | .tScalar i => some (.gatherScalar axis i)
  | .tVec is => some (.gatherVec axis is)
  | _ => Option.none

/-- What the Slice path registers for a component at axis `j`: a (non-trivial) slice gives
`translate_slice`'s entry, a Python int `i` gives `i:i+1:1` (`-1:maxint:1` for `i = -1`). -/
def entryOf (c : Comp) (j : Nat) : Option SliceEntry :=
  match c with
  | .slice lo hi st =>
    if lo = .none ∧ hi = .none ∧ st = .none then Option.none
    else convSliceEntry j lo hi st
  | .int i => some ⟨j, i, scalarStop i maxint, 1⟩
  | _ => Option.none

def slicedOf (comps : List Comp) : List (Comp × Nat) := comps.zipIdx.filter (fun p => p.1.kind == .sliced)
def scalarsOf (comps : List Comp) : List (Comp × Nat) := comps.zipIdx.filter (fun p => p.1.kind == .scalar)
def nonScalarsOf (comps : List Comp) : List (Comp × Nat) := comps.zipIdx.filter (fun p => p.1.kind == .nonScalar)

/-- "We emit a Slice operation if we have any indices like 1:5:2 or if the number of scalar
indices (like 2) is more than 1." -/
def useSlice (comps : List Comp) : Bool :=
  !(slicedOf comps).isEmpty || decide ((scalarsOf comps).length > 1)

/-- Entries in the code's order: sliced components first, then the scalar ones. -/
def sliceEntriesOf (comps : List Comp) : List (Option SliceEntry) :=
  (slicedOf comps ++ scalarsOf comps).map (fun p => entryOf p.1 p.2)

/-- Components translated to `Gather` when the Slice path is *not* taken: the tensor-valued ones
and the (at most one) Python int. -/
def gatheredOf (comps : List Comp) : List (Comp × Nat) :=
  comps.zipIdx.filter (fun p => p.1.kind == .nonScalar || p.1.kind == .scalar)

/-- The axis attribute of a `Gather` for source axis `j`: the axes in `removed` (squeezed before the
Gather chain starts) that lie below `j` have already disappeared from the intermediate result
(`axis - sum(1 for a in removed_axes if a < axis)`). -/
def gatherAxis (removed : List Nat) (j : Nat) : Nat :=
  j - (removed.filter (fun a => decide (a < j))).length

/-- The trailing Gather chain.  `items` come in ascending axis order; the code sorts them with
`sort(key=axis, reverse=True)`, i.e. (axes being distinct) highest axis first, so that a rank-0
Gather never renumbers an axis that is still to be indexed. -/
def gatherChain (removed : List Nat) (items : List (Comp × Nat)) : Plan :=
  items.reverse.filterMap (fun p => gatherOp (gatherAxis removed p.2) p.1)

/-- `Converter._translate_subscript_expr` (after /repo commit e7769b9, the repair of finding D7). -/
def planGraph (comps : List Comp) : Except Err Plan :=
  -- `A[:]`, `A[:, :]`: edge case, no index specified: one Identity node.  (Before /repo commit 35a0ff1
  -- the code passed the *name* (a `str`) to `_emit1` and decoration died with AttributeError.)
  if (slicedOf comps).isEmpty && (scalarsOf comps).isEmpty && (nonScalarsOf comps).isEmpty then
    .ok [.identity]
  else if useSlice comps then
    if (sliceEntriesOf comps).any Option.isNone then .error .refused
    else
      -- `removed_axes = list(squeezed_axes)`
      let squeezed := (scalarsOf comps).map (·.2)
      .ok ([PlanOp.slice ((sliceEntriesOf comps).filterMap id)]
            ++ (if squeezed.isEmpty then [] else [PlanOp.squeeze squeezed])
            ++ gatherChain squeezed (nonScalarsOf comps))
  else
    -- `non_scalar_indices.extend(scalar_indices)` then the stable descending sort by axis: since the
    -- axes are distinct this is "all Gather-translated components, highest axis first";
    -- `removed_axes` is empty.  (The plan correspondence re-checks the order on every run.)
    .ok (gatherChain [] (gatheredOf comps))

/-! ### Eager mode (`Tensor.__getitem__`), in the code's own pieces -/

def Comp.isEagerScalar : Comp → Bool
  | .int _ | .tScalar _ => true
  | _ => false

def Comp.isEagerSliced : Comp → Bool
  | .slice lo hi st => !(decide (lo = .none ∧ hi = .none ∧ st = .none))
  | _ => false

def Comp.stepVal : Comp → Int
  | .slice _ _ st => (st.val?).getD 1
  | _ => 1

def Comp.scalarVal : Comp → Int
  | .int i | .tScalar i => i
  | _ => 0

/-- What eager mode registers for a component at axis `j` of extent `d`: a (non-trivial) slice
gives `[start, stop, axis, step]` with `eagerBounds` (a zero step never gets here: `planEager`
refuses it first, as `slice.indices` does); a rank-0 index `i` gives `i:i+1:1` (`-1:d:1` for `i = -1`). -/
def entryOfEager (c : Comp) (j : Nat) (d : Nat) : Option SliceEntry :=
  match c with
  | .slice lo hi st =>
    if lo = .none ∧ hi = .none ∧ st = .none then Option.none
    else
      let step := (st.val?).getD 1
      some ⟨j, (eagerBounds d lo.val? hi.val? step).1, (eagerBounds d lo.val? hi.val? step).2, step⟩
  | .int i | .tScalar i => some ⟨j, i, scalarStop i d, 1⟩
  | _ => Option.none

def eSlicedOf (comps : List Comp) : List (Comp × Nat) := comps.zipIdx.filter (fun p => p.1.isEagerSliced)
def eScalarsOf (comps : List Comp) : List (Comp × Nat) := comps.zipIdx.filter (fun p => p.1.isEagerScalar)
def eVecsOf (comps : List Comp) : List (Comp × Nat) := comps.zipIdx.filter (fun p => p.1.isVec)

/-- `sliced_indices + scalar_indices`, in the code's order. -/
def eagerEntriesOf (comps : List Comp) (shape : List Nat) : List SliceEntry :=
  (eSlicedOf comps ++ eScalarsOf comps).filterMap (fun p => entryOfEager p.1 p.2 (shape.getD p.2 0))

/-- `Tensor.__getitem__` for a tensor of the given shape (after /repo commit e7769b9).  Python ints
are promoted to rank-0 tensors first, so `int` and `tScalar` are the same thing here.  The 1-D
indices are gathered last, in ascending axis order, each with
`axis - sum(1 for a in to_squeeze if a < axis)`: the rank-0-indexed axes are gone by then
(a 1-D Gather keeps its axis, so the order among them does not matter). -/
def planEager (comps : List Comp) (shape : List Nat) : Except Err Plan :=
  if comps.length > shape.length then .error .valueError
  -- `slice.indices` raises ValueError("slice step cannot be zero") while the index is being read
  else if comps.any (fun c => c.isEagerSliced && c.stepVal == 0) then .error .valueError
  else if (eSlicedOf comps).isEmpty && (eScalarsOf comps).isEmpty && (eVecsOf comps).isEmpty then
    .ok [.identity]
  else
    let toSqueeze := (eScalarsOf comps).map (·.2)
    let pre : Plan :=
      if (eSlicedOf comps).isEmpty && (eScalarsOf comps).length == 1 then
        (eScalarsOf comps).map (fun p => .gatherScalar p.2 p.1.scalarVal)
      else if !(eSlicedOf comps).isEmpty || !(eScalarsOf comps).isEmpty then
        [.slice (eagerEntriesOf comps shape)]
        ++ (if (eScalarsOf comps).isEmpty then [] else [.npSqueeze toSqueeze])
      else []
    .ok (pre ++ (eVecsOf comps).filterMap (fun p => gatherOp (gatherAxis toSqueeze p.2) p.1))

/-- Per-axis effect of eager mode's Slice(+squeeze) path on an axis of the original tensor. -/
def eagerAxisSlicePath (c : Comp) (srcs : List Nat) : Except Err AxisMap :=
  match c with
  | .full => .ok (.pick srcs)
  | .slice lo hi st =>
    if lo = .none ∧ hi = .none ∧ st = .none then .ok (.pick srcs)
    else
      let step := (st.val?).getD 1
      if step == 0 then .error .valueError
      else .ok (.pick (onnxSliceList srcs (eagerBounds srcs.length lo.val? hi.val? step).1
                          (eagerBounds srcs.length lo.val? hi.val? step).2 step))
  | .int i | .tScalar i => do
    let s ← single? (onnxSliceList srcs i (scalarStop i srcs.length) 1)
    pure (.drop s)
  | _ => .error .refused

deriving instance DecidableEq for Except

/-- Per-axis effect of the converter's Slice(+Squeeze) path on a component it handles: a slice
becomes an ONNX slice with `convBounds` (with a tensor-valued step the direction is unknown at
translation time, so both bounds must be written out and are passed as they are; otherwise the
form is refused), a Python int `i` becomes `i:i+1:1` followed by Squeeze (which fails unless
exactly one position was selected). -/
def graphAxisSlicePath (c : Comp) (srcs : List Nat) : Except Err AxisMap :=
  match c with
  | .full => .ok (.pick srcs)
  | .slice lo hi st =>
    if lo = .none ∧ hi = .none ∧ st = .none then .ok (.pick srcs)  -- "::" is a no-op (kind `skip`)
    else
    (match st with
     | .dyn s =>
       (match lo.val?, hi.val? with
        | some l, some h =>
          if s == 0 then .error .valueError else .ok (.pick (onnxSliceList srcs l h s))
        | _, _ => .error .refused)
     | _ =>
       let step := (st.val?).getD 1
       if step == 0 then .error .valueError
       else .ok (.pick (onnxSliceList srcs (convBounds lo.val? hi.val? step).1
                          (convBounds lo.val? hi.val? step).2 step)))
  | .int i => do
    let s ← single? (onnxSliceList srcs i (scalarStop i maxint) 1)
    pure (.drop s)
  | _ => .error .refused

/-- Whole pipelines: `graphIndex` / `eagerIndex` give the view the front end computes. -/
def graphIndex (comps : List Comp) (shape : List Nat) : Except Err View := do
  let p ← planGraph comps
  runPlan p (View.init shape)

def eagerIndex (comps : List Comp) (shape : List Nat) : Except Err View := do
  let p ← planEager comps shape
  runPlan p (View.init shape)

end OV.Index
