/-!
# C20 — model of `save_model_with_external_data` and of `ir.save(..., external_data=…)`

Core Lean only (the driver `drv_c20` is compiled from this file).

What is restated here, and from where:

* `save` — `/repo/onnxscript/_framework_apis/torch_2_5.py`, `save_model_with_external_data`: the
  uninitialised-initializer guard over the initializers of every graph of `model.graphs()` (`Cfg.deep`; the bodies of
  model-local functions, which the code walks too, are outside the model) and the guard against tensors stored in a
  destination file (`Cfg.refuse`, `Cfg.refuseModel`), both *before* anything else,
  `data_path = f"{destination_path.name}.data"`, the tqdm / non-tqdm branches (identical up to the progress callback,
  which performs no file-system call), the `finally` that puts the tensors' names back (`Cfg.keepNames`), and the
  call `ir.save(model, model_path, external_data=data_path[, callback=…])` — hence the default
  `size_threshold_bytes = 256`.
* `irSave` — `onnx_ir/_io.py:save` (third party, contract A-ir; transcribed because the tie executes the real
  one): remember `const_value` of every initializer of every graph → `try:` `unload_from_model`, `serialize_model`,
  `onnx.save` (`open(path,"wb")`, one `write`, close) → `finally:` put every `const_value` back.
* `unload` — `onnx_ir/external_data.py:unload_from_model` (single-file branch, `max_shard_size_bytes=None`):
  classify (`nbytes > 256` → becomes external; otherwise an `ExternalTensor` is loaded to memory), load the small
  external ones first, `convert_tensors_to_external`, then swap the `const_value`s.
* `convertToExternal` — `convert_tensors_to_external`: `os.path.exists(dest)`; every `ExternalTensor` whose file
  *is* the destination is read into memory and the original object is **invalidated** (`tensor.invalidate()`),
  stable sort by `nbytes`, offsets by `_compute_new_offset` (`_ALIGN_THRESHOLD = 1048576`, alignment
  `max(4096, 65536)`), `_write_external_data` (`with open(dest,"wb")`: per tensor the optional callback, zero padding
  up to the offset, `tensor.tofile(file)`), new `ExternalTensor`s, restored to the input order.
* `tofile` — the three ways a tensor reaches the file: `ir.Tensor` over an `ndarray` on a file with `fileno()`
  (`numpy.ndarray.tofile`: `file.flush()`, a C-level write through a dup'ed descriptor, `file.seek(pos)`),
  any other in-memory tensor (`file.write(tobytes())`), and `ExternalTensor.tofile` (`open(src,"rb")`, `seek(offset)`,
  1 MiB `read`/`write` chunks, close).
* Faults: the `k`-th file-system call (`open`, `write`, `flush`, `seek`, `read`, `close`; counted from 0) raises
  `OSError` *instead of* being performed.  `stat`-family calls (`os.path.exists`, `samefile`, `realpath`),
  `tell` and `fileno` are not fault points (their failures are swallowed by the code or they do not touch the disk).

Tensor objects live in a heap (`index = identity`); `cv` is the `const_value` pointer of each initializer.
-/
namespace OV.C20

abbrev Bytes := List Nat

/-- A tensor object. `np = true`: `ir.Tensor` backed by a NumPy array (the `ndarray.tofile` fast path);
`np = false`: any other in-memory tensor (`TorchTensor`, `TensorProtoTensor`, …: `file.write(tobytes())`).
`ext`: `ExternalTensor` whose (resolved) file is `file`. -/
inductive TRef
  | mem (b : Bytes) (np : Bool)
  | ext (file : String) (off len : Nat) (valid : Bool)
  deriving Repr, DecidableEq, Inhabited

def TRef.nbytes : TRef → Nat
  | .mem b _ => b.length
  | .ext _ _ len _ => len

/-- An initializer as it appears in the serialized model. -/
inductive PInit
  | inline (b : Bytes)
  | external (file : String) (off len : Nat)
  deriving Repr, DecidableEq, Inhabited

/-- name, "lives in a subgraph", payload. -/
abbrev Proto := List (String × Bool × PInit)

inductive Content
  | data (b : Bytes)
  | proto (p : Proto)
  deriving Repr, DecidableEq, Inhabited

abbrev FS := List (String × Content)

def FS.get? (fs : FS) (f : String) : Option Content := fs.lookup f

def FS.set : FS → String → Content → FS
  | [], f, c => [(f, c)]
  | (g, d) :: rest, f, c => if g = f then (g, c) :: rest else (g, d) :: FS.set rest f c

def FS.append (fs : FS) (f : String) (b : Bytes) : FS :=
  match fs.get? f with
  | some (.data old) => fs.set f (.data (old ++ b))
  | _ => fs.set f (.data b)

def slice (b : Bytes) (off len : Nat) : Bytes := (b.drop off).take len

/-- Read `len` bytes at `off` of a data file; `none` when the file is missing, not a data file, or too short.
An empty tensor never touches its file (`ExternalTensor._load`: `if self.size == 0: np.empty(...)`). -/
def FS.read (fs : FS) (f : String) (off len : Nat) : Option Bytes :=
  if len = 0 then some [] else
  match fs.get? f with
  | some (.data b) => if off + len ≤ b.length then some (slice b off len) else none
  | _ => none

inductive Err
  | valueError | osError | typeError
  deriving Repr, DecidableEq, Inhabited

inductive Op
  | openW (f : String) | openR (f : String) | write (f : String) (n : Nat) | flush (f : String)
  | seek (f : String) (pos : Nat) | read (f : String) | close (f : String)
  deriving Repr, DecidableEq, Inhabited

structure St where
  k : Option Nat              -- fault plan: the k-th FS call raises OSError
  calls : Nat := 0
  trace : List Op := []
  fs : FS
  heap : List TRef            -- tensor objects, index = identity
  cv : List (Option Nat)      -- const_value of each initializer (all graphs, in `model.graphs()` order)
  cb : List (String × Nat) := []   -- progress-callback log: (tensor name, offset)
  cbTotal : Option Nat := none
  wopened : List String := []      -- files successfully opened for writing so far (the handles writes go through)
  tn : List String := []           -- current `name` of each ORIGINAL tensor object (index = identity)
  deriving Repr, Inhabited

abbrev M (α : Type) := St → Except Err α × St

@[inline] def M.pure (a : α) : M α := fun s => (.ok a, s)
@[inline] def M.bind (x : M α) (f : α → M β) : M β := fun s =>
  match x s with
  | (.ok a, s') => f a s'
  | (.error e, s') => (.error e, s')

instance : Monad M where
  pure := M.pure
  bind := M.bind

def get : M St := fun s => (.ok s, s)
def modify (f : St → St) : M Unit := fun s => (.ok (), f s)
def throw (e : Err) : M α := fun s => (.error e, s)

/-- One file-system call: counted, traced, and failing when it is the planned fault. -/
def tick (op : Op) : M Unit := fun s =>
  let s' := { s with calls := s.calls + 1, trace := s.trace ++ [op] }
  if s.k = some s.calls then (.error .osError, s') else (.ok (), s')

/-- `try: body finally: fin` (the `finally` block here never raises). -/
def tryFinally (body : M α) (fin : St → St) : M α := fun s =>
  match body s with
  | (r, s') => (r, fin s')

/-- The body of `with open(f) as h:` — `h.close()` runs on both exits (and is itself an FS call). -/
def withClose (f : String) (body : M α) : M α := fun s =>
  match body s with
  | (.ok a, s1) =>
    (match tick (.close f) s1 with
     | (.ok _, s2) => (.ok a, s2)
     | (.error e, s2) => (.error e, s2))
  | (.error e, s1) =>
    (match tick (.close f) s1 with
     | (.ok _, s2) => (.error e, s2)
     | (.error e', s2) => (.error e', s2))

/-- Monadic map over a list, left to right (own definition: structural, easy to induct on). -/
def mapM' (f : α → M β) : List α → M (List β)
  | [] => pure []
  | a :: as => do
    let b ← f a
    let bs ← mapM' f as
    pure (b :: bs)

def forM' (f : α → M Unit) : List α → M Unit
  | [] => pure ()
  | a :: as => do f a; forM' f as

/-! ## File-system primitives -/

/-- Writing goes through a handle obtained by a successful `open(f, "wb")` (never violated by the transcribed
sequence; `EBADF` otherwise). -/
def needHandle (f : String) : M Unit := fun s =>
  if s.wopened.contains f then (.ok (), s) else (.error .osError, s)

def fsOpenW (f : String) : M Unit := do
  tick (.openW f)
  modify fun s => { s with fs := s.fs.set f (.data []), wopened := s.wopened ++ [f] }

def fsWrite (f : String) (b : Bytes) : M Unit := do
  needHandle f
  tick (.write f b.length)
  modify fun s => { s with fs := s.fs.append f b }

/-- C-level write of `ndarray.tofile` through a dup'ed descriptor: not interceptable, not a fault point. -/
def fsCWrite (f : String) (b : Bytes) : M Unit := do
  needHandle f
  modify fun s => { s with fs := s.fs.append f b }

def fsWriteProto (f : String) (p : Proto) : M Unit := do
  needHandle f
  tick (.write f 0)
  modify fun s => { s with fs := s.fs.set f (.proto p) }

/-- `open(f, "rb")`: a missing file is `FileNotFoundError` (an `OSError`). Returns the whole content. -/
def fsOpenR (f : String) : M Bytes := do
  tick (.openR f)
  match (← get).fs.get? f with
  | some (.data b) => pure b
  | some (.proto _) => throw .valueError
  | none => throw .osError

def fileLen (f : String) : M Nat := do
  match (← get).fs.get? f with
  | some (.data b) => pure b.length
  | _ => pure 0

/-! ## Tensor objects -/

def newObj (t : TRef) : M Nat := fun s => (.ok s.heap.length, { s with heap := s.heap ++ [t] })

def getObj (id : Nat) : M TRef := do
  match (← get).heap[id]? with
  | some t => pure t
  | none => throw .typeError

/-- `ExternalTensor.invalidate()` — mutates the object in place. -/
def invalidate (id : Nat) : M Unit :=
  modify fun s => { s with heap := s.heap.modify id fun
    | .ext f o l _ => .ext f o l false
    | t => t }

/-- `_external_tensor_to_memory_tensor`: `tensor.numpy().copy()` (`_check_validity`, then for a non-empty tensor
`open(path,"rb")` + `mmap` + close), `release()`, a fresh `ir.Tensor`. -/
def extToMem (id : Nat) : M Nat := do
  match (← getObj id) with
  | .mem _ _ => throw .typeError
  | .ext f off len valid =>
    if !valid then throw .valueError
    else if len = 0 then newObj (.mem [] true)
    else do
      let whole ← fsOpenR f
      let r ← withClose f (do
        if whole.length = 0 then throw .valueError          -- "cannot mmap an empty file"
        else pure ())
      let _ := r
      if off + len ≤ whole.length then newObj (.mem (slice whole off len) true)
      else throw .valueError                                  -- np.frombuffer: buffer is smaller than requested

/-! ## Layout -/

def alignThreshold : Nat := 1048576
def alignFactor : Nat := 65536
def sizeThreshold : Nat := 256
def chunkSize : Nat := 1048576

/-- `_compute_new_offset`. -/
def newOffset (cur size : Nat) : Nat :=
  if size > alignThreshold then (cur + alignFactor - 1) / alignFactor * alignFactor else cur

/-- Offsets and lengths for tensors of the given sizes written in this order starting at `cur`. -/
def layout (cur : Nat) : List Nat → List (Nat × Nat)
  | [] => []
  | n :: ns => (newOffset cur n, n) :: layout (newOffset cur n + n) ns

/-- Stable insertion (by size) used by `sortBySize`; an element is put *before* equal ones that follow it. -/
def insBySize (size : α → Nat) (x : α) : List α → List α
  | [] => [x]
  | y :: ys => if size x ≤ size y then x :: y :: ys else y :: insBySize size x ys

/-- `sorted(range(n), key=nbytes)`: stable, ascending. -/
def sortBySize (size : α → Nat) (l : List α) : List α := l.foldr (insBySize size) []

/-! ## Writing the data file -/

def zeros (n : Nat) : Bytes := List.replicate n 0

/-- Chunks read by `ExternalTensor.tofile` (`src.read(min(1 MiB, remaining))`). -/
def chunks (c : Nat) : Nat → Bytes → List Bytes
  | 0, _ => []
  | fuel + 1, l => if l.isEmpty then [] else l.take c :: chunks c fuel (l.drop c)

/-- `tensor.tofile(data_file)`. -/
def tofile (dest : String) (id : Nat) : M Unit := do
  match (← getObj id) with
  | .mem b true => do
    tick (.flush dest)
    fsCWrite dest b
    let n ← fileLen dest
    tick (.seek dest n)
  | .mem b false => fsWrite dest b
  | .ext f off len valid =>
    if !valid then throw .valueError
    else do
      let whole ← fsOpenR f
      withClose f (do
        tick (.seek f off)
        let avail := slice whole off len
        forM' (fun c => do tick (.read f); fsWrite dest c) (chunks chunkSize avail.length avail)
        if avail.length < len then do
          tick (.read f)          -- the read that returns b"" → OSError "shorter than expected"
          throw .osError
        else pure ())

/-- One iteration of the loop of `_write_external_data`. -/
def writeOne (dest : String) (verbose : Bool) (item : String × Nat × Nat) : M Unit := do
  let (name, id, off) := item
  if verbose then modify fun s => { s with cb := s.cb ++ [(name, off)] }
  let size ← fileLen dest            -- data_file.tell()
  if off > size then fsWrite dest (zeros (off - size))
  tofile dest id

/-- `_write_external_data`. -/
def writeExternalData (dest : String) (verbose : Bool) (items : List (String × Nat × Nat)) : M Unit := do
  fsOpenW dest
  withClose dest (do
    if verbose && !items.isEmpty then modify fun s => { s with cbTotal := some items.length }
    forM' (writeOne dest verbose) items)

/-- An entry handled by `convert_tensors_to_external`: position in the input list, initializer name, object id, size. -/
structure Ent where
  pos : Nat
  name : String
  id : Nat
  size : Nat
  deriving Repr, DecidableEq, Inhabited

def mkEnts (pos : Nat) : List String → List Nat → List Nat → List Ent
  | n :: ns, i :: is, z :: zs => { pos := pos, name := n, id := i, size := z } :: mkEnts (pos + 1) ns is zs
  | _, _, _ => []

def zipOffsets : List Ent → List (Nat × Nat) → List (Ent × Nat)
  | e :: es, (o, _) :: os => (e, o) :: zipOffsets es os
  | _, _ => []

/-- One step of `_materialize_external_tensors_for_destination_paths`: an `ExternalTensor` whose file is the
destination (which exists) is read into memory and the original object is invalidated. -/
def materializeOne (dest : String) (exists_ : Bool) (p : String × Nat) : M Nat := do
  if !exists_ then pure p.2
  else match (← getObj p.2) with
    | .ext f _ _ _ =>
      if f = dest then do
        let nid ← extToMem p.2
        invalidate p.2
        pure nid
      else pure p.2
    | .mem _ _ => pure p.2

def sizeOf (id : Nat) : M Nat := do pure (← getObj id).nbytes

/-- `_create_external_tensor` for one placed entry. -/
def makeExternal (dest : String) (p : Ent × Nat) : M (Nat × Nat) := do
  let nid ← newObj (.ext dest p.2 p.1.size true)
  pure (p.1.pos, nid)

/-- `[made[pos] for pos in i, i+1, …]` — the new tensors back in input order (`made` is keyed by input position). -/
def gather (made : List (Nat × Nat)) : Nat → Nat → Option (List Nat)
  | _, 0 => some []
  | i, fuel + 1 =>
    match made.lookup i, gather made (i + 1) fuel with
    | some v, some r => some (v :: r)
    | _, _ => none

/-- Sorting, offsets, writing, new objects, back to the input order (everything after materialisation). -/
def placeAndWrite (dest : String) (verbose : Bool) (names : List String) (ids : List Nat) : M (List Nat) := do
  let sizes ← mapM' sizeOf ids
  let ents := mkEnts 0 names ids sizes
  let sorted := sortBySize Ent.size ents
  let lay := layout 0 (sorted.map Ent.size)
  let placed := zipOffsets sorted lay
  writeExternalData dest verbose (placed.map fun (e, o) => (e.name, e.id, o))
  let made ← mapM' (makeExternal dest) placed                 -- in sorted order
  match gather made 0 names.length with                         -- back to the input order
  | some out => pure out
  | none => throw .typeError

/-- `convert_tensors_to_external(tensors, base_dir, relative_path, callback)`; `inp` = (name, object id) in input
order.  Returns the new `ExternalTensor` objects in input order. -/
def convertToExternal (dest : String) (verbose : Bool) (inp : List (String × Nat)) : M (List Nat) := do
  let exists_ := ((← get).fs.get? dest).isSome          -- os.path.exists(path)
  let ids ← mapM' (materializeOne dest exists_) inp
  placeAndWrite dest verbose (inp.map (·.1)) ids

/-- What `unload_from_model` does with an initializer: `ext` — `nbytes > 256`, (re)written to the data file;
`mem` — a small `ExternalTensor`, loaded to memory; `keep` — untouched (small in-memory tensor, or no `const_value`). -/
inductive Tag
  | ext | mem | keep
  deriving Repr, DecidableEq, Inhabited

def classify (thr : Nat) (heap : List TRef) : Option Nat → Tag
  | none => .keep
  | some id =>
    match heap[id]? with
    | none => .keep
    | some t =>
      if t.nbytes > thr then .ext
      else match t with
        | .ext _ _ _ _ => .mem
        | .mem _ _ => .keep

/-- `initializers_to_become_external` as (tensor name, tensor object), in `model.graphs()` order; `tnames[id]` is
the `name` of tensor object `id` (what the progress callback prints). -/
def extInputs (thr : Nat) (heap : List TRef) (tnames : List String) : List (Option Nat) → List (String × Nat)
  | some id :: cv =>
    if classify thr heap (some id) = .ext then (tnames.getD id "", id) :: extInputs thr heap tnames cv
    else extInputs thr heap tnames cv
  | none :: cv => extInputs thr heap tnames cv
  | [] => []

/-- `initializers_to_load_to_memory` (tensor objects), in order. -/
def memInputs (thr : Nat) (heap : List TRef) : List (Option Nat) → List Nat
  | some id :: cv => if classify thr heap (some id) = .mem then id :: memInputs thr heap cv else memInputs thr heap cv
  | none :: cv => memInputs thr heap cv
  | [] => []

/-- The two `for value, tensor in zip(values, tensors): value.const_value = tensor` loops: every `ext`-tagged
initializer takes the next new external tensor, every `mem`-tagged one the next loaded tensor. -/
def mergeCv (thr : Nat) (heap : List TRef) : List (Option Nat) → List Nat → List Nat → List (Option Nat)
  | [], _, _ => []
  | c :: cv, es, ms =>
    match classify thr heap c, es, ms with
    | .ext, e :: es', _ => some e :: mergeCv thr heap cv es' ms
    | .mem, _, m :: ms' => some m :: mergeCv thr heap cv es ms'
    | _, _, _ => c :: mergeCv thr heap cv es ms

/-- `unload_from_model(model, base_dir, relative_path, size_threshold_bytes=256)`; `tnames[id]` names tensor object `id`. -/
def unload (thr : Nat) (tnames : List String) (dest : String) (verbose : Bool) : M Unit := do
  let s ← get
  let memIds ← mapM' extToMem (memInputs thr s.heap s.cv)          -- convert_tensors_from_external, first
  let extIds ← convertToExternal dest verbose (extInputs thr s.heap tnames s.cv)
  modify fun s' => { s' with cv := mergeCv thr s.heap s.cv extIds memIds }

/-- `serde.serialize_model`: initializers without a `const_value` are dropped (a warning is logged). -/
def serializeAux (heap : List TRef) : List (String × Bool) → List (Option Nat) → Except Err Proto
  | (n, sub) :: sig, c :: cv =>
    match serializeAux heap sig cv with
    | .error e => .error e
    | .ok rest =>
      match c with
      | none => .ok rest
      | some id =>
        match heap[id]? with
        | some (.mem b _) => .ok ((n, sub, PInit.inline b) :: rest)
        | some (.ext f o l _) => .ok ((n, sub, PInit.external f o l) :: rest)
        | none => .error .typeError
  | _, _ => .ok []

def serialize (sig : List (String × Bool)) (s : St) : Except Err Proto := serializeAux s.heap sig s.cv

def joinPath (dir name : String) : String := if dir = "" then name else dir ++ "/" ++ name

/-- `serde._serialize_graph`: `value.const_value.name = value.name` for every initializer with a `const_value`, in
`model.graphs()` order (objects created during the save are not tracked: `List.set` beyond the end is a no-op). -/
def renameAll : List (String × Bool) → List (Option Nat) → List String → List String
  | (n, _) :: sig, some id :: cv, tn => renameAll sig cv (tn.set id n)
  | _ :: sig, none :: cv, tn => renameAll sig cv tn
  | _, _, tn => tn

/-- `ir.save(model, path, external_data=rel, callback=…)`. -/
def irSave (thr : Nat) (sig : List (String × Bool)) (tnames : List String) (dir name rel : String) (verbose : Bool) : M Unit := do
  let orig := (← get).cv                                  -- initialized_values / tensors
  tryFinally (do
      unload thr tnames (joinPath dir rel) verbose
      modify fun s => { s with tn := renameAll sig s.cv s.tn }   -- serialize_model renames the tensors it visits
      match serialize sig (← get) with
      | .error e => throw e
      | .ok p => do
        let mp := joinPath dir name
        fsOpenW mp                                          -- onnx.save → _save_bytes
        withClose mp (fsWriteProto mp p))
    (fun s => { s with cv := orig })                        -- finally: initializer.const_value = tensor

/-- Indices of initializers the guard of `save_model_with_external_data` complains about. -/
def guardHits (deep : Bool) (sig : List (String × Bool)) (cv : List (Option Nat)) : List String :=
  ((sig.zip cv).filter fun (x : (String × Bool) × Option Nat) => x.2.isNone && (deep || !x.1.2)).map (·.1.1)

/-- Which guards `save_model_with_external_data` has.  **The defaults are the code as it is** (pinned by the harness, no
probing): all four repairs are in /repo.  The `false` values describe the function before the respective commit and are kept
only so that the refutation theorems of the old behaviour remain stated.
`deep` — the uninitialized-initializer guard walks every graph (1c518f5; function bodies b7a9ed1 are outside the model);
`refuse` — the second guard refuses, before writing, a model one of whose initializers is an `ExternalTensor` stored in
the destination data file (56a0c3c, finding C20-D1);
`refuseModel` — the second guard also refuses an initializer stored as external data in the file at `model_path` ITSELF
(3d20cf2, finding C20-D5: `onnx.save` would overwrite the tensor's backing file);
`keepNames` — the names of the initializers' tensors are remembered and put back in a `finally` (657db39, finding C20-D4);
`tqdm` — `importlib.util.find_spec("tqdm") is not None` (environment, not code): the progress-bar branch with its callback
is taken iff `verbose and tqdm`;
`thr` — `size_threshold_bytes` of `ir.save` (the function passes none, so onnx_ir's default 256 applies): tensors of more
than `thr` bytes go to the data file, smaller external ones are loaded to memory, smaller in-memory ones stay inline. -/
structure Cfg where
  deep : Bool := true
  refuse : Bool := true
  keepNames : Bool := true
  refuseModel : Bool := true
  tqdm : Bool := true
  thr : Nat := 256
  deriving Repr, DecidableEq, Inhabited

/-- Initializers (by `const_value`) whose tensor is an `ExternalTensor` stored in `dest`
(`isinstance(value.const_value, ir.ExternalTensor) and _is_same_file(value.const_value.path, data_file)`). -/
def destHits (dest : String) (heap : List TRef) (cv : List (Option Nat)) : List Nat :=
  cv.filterMap fun c =>
    match c with
    | some id =>
      (match heap[id]? with
       | some (.ext f _ _ _) => if f = dest then some id else none
       | _ => none)
    | none => none

/-- `save_model_with_external_data(model, model_path, …)`; `model_path = dir/name`; `verbose` here is `use_tqdm`, the
branch condition (`runSave` computes it as `verbose and find_spec("tqdm") is not None`). -/
def save (cfg : Cfg) (sig : List (String × Bool)) (tnames : List String) (dir name : String) (verbose : Bool) : M Unit := do
  let s ← get
  if !(guardHits cfg.deep sig s.cv).isEmpty then throw .valueError
  else if (cfg.refuse && !(destHits (joinPath dir (name ++ ".data")) s.heap s.cv).isEmpty) ||
      (cfg.refuseModel && !(destHits (joinPath dir name) s.heap s.cv).isEmpty) then throw .valueError
  else if cfg.keepNames then
    tryFinally (irSave cfg.thr sig tnames dir name (name ++ ".data") verbose) (fun s' => { s' with tn := s.tn })
  else irSave cfg.thr sig tnames dir name (name ++ ".data") verbose

/-- A model in memory: initializer signature (name, in-subgraph), `const_value` pointers, tensor objects. -/
structure Model where
  sig : List (String × Bool)
  cv : List (Option Nat)
  heap : List TRef
  tnames : List String := []      -- `name` of each tensor object (only the progress callback looks at it)
  deriving Repr, Inhabited, DecidableEq

structure Result where
  res : Except Err Unit
  st : St
  deriving Inhabited

def init (m : Model) (fs : FS) (k : Option Nat) : St :=
  { k := k, fs := fs, heap := m.heap, cv := m.cv, tn := m.tnames }

/-- Run the save on model `m`, file system `fs`, fault plan `k`. -/
def runSave (cfg : Cfg) (m : Model) (dir name : String) (verbose : Bool) (fs : FS) (k : Option Nat) : Result :=
  match save cfg m.sig m.tnames dir name (verbose && cfg.tqdm) (init m fs k) with
  | (r, s) => { res := r, st := s }

/-- The model after the call: same signature, the state's pointers, the *original* objects' state. -/
def Result.model (r : Result) (m : Model) : Model :=
  { sig := m.sig, cv := r.st.cv, heap := r.st.heap.take m.heap.length, tnames := m.tnames }

/-- Bytes a tensor object denotes on a file system (`none`: invalidated, or unreadable). -/
def bytesOf (fs : FS) : TRef → Option Bytes
  | .mem b _ => some b
  | .ext f off len valid => if valid then fs.read f off len else none

/-- `ir.load(dir/name)` followed by reading every tensor: (name, in-subgraph, bytes). -/
def load (fs : FS) (dir name : String) : Option (List (String × Bool × Bytes)) :=
  match fs.get? (joinPath dir name) with
  | some (.proto p) => p.mapM fun (x : String × Bool × PInit) =>
      match x.2.2 with
      | .inline b => some (x.1, x.2.1, b)
      | .external f off len => (fs.read f off len).map fun b => (x.1, x.2.1, b)
  | _ => none

end OV.C20
