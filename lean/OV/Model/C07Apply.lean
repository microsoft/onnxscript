import OV.Model.C07Graph
/-
  OV.Model.C07Apply — C07: what `RewriteRuleSet.apply_to_model` does to a model.

  Core Lean only.  Anchors (onnxscript/rewriter/_rewrite_rule.py):
    `_update_opset_imports`                    → `updOpsets`
    `RewriteRule.try_rewrite`                  → `tryRule` (match, replacement, output arity, opsets)
    `_apply_to_graph_or_function`              → `passLoop` (iteration over the *mutating* node list,
                                                  first applicable rule, recursion into the graph
                                                  attributes of the node that was just visited)
    initializer registration (≈703-722)        → `registerInits` (clash: the new value is renamed `name_k`; fix 340a24c)
                                                 `registerInitsPrefix` = the code before the fix (overwrite)
    `as_function` branch, `_copy_for_function`,
    `_get_new_overload`                        → `asFunction`, `newOverload`
    rule-name tag + `MetadataMerger`           → `tagAndMerge`
    `convenience.replace_nodes_and_values`     → `applyAt` (onnx_ir; contract parameter, executed for real by the tie)
    `RewriteRuleSet.apply_to_model`            → `applyToModel`
    `rewrite()` (rewriter/__init__.py)         → `rewriteModel` (= `applyToModel` + the three clean-up passes)

  `matchAt` transcribes `SimplePatternMatcher` for the pattern class the C07 generators use (one or
  several output nodes, repeated variables, constant attributes).  It is the matcher the driver runs
  to predict whole passes and the one the matcher ∘ splice theorems speak of; there is no translation
  to C06's matcher model.
-/
namespace OV.C07

def RULE_NAME_TAG : String := "pkg.onnxscript.rewriter.rule_name"

/-! ## Rules -/

inductive PRef where
  | var (k : Nat) | out (node idx : Nat) | none
  deriving DecidableEq, Repr, Inhabited

structure PNode where
  op : String
  domain : String
  inputs : List PRef
  nOut : Nat
  attrs : List (String × String) := []
  deriving Repr, Inhabited

/-- `root`: the pattern's output node when there is one.  The matcher reads the output nodes off
`outputs` (`outputNodes`), which may name several. -/
structure Pat where
  nodes : List PNode
  root : Nat
  outputs : List PRef
  deriving Repr, Inhabited

inductive TRef where
  | var (k : Nat) | out (node idx : Nat) | init (k : Nat) | none
  deriving DecidableEq, Repr, Inhabited

structure TNode where
  op : String
  domain : String
  version : Option Nat
  inputs : List TRef
  nOut : Nat
  attrs : List (String × String) := []
  deriving Repr, Inhabited

/-- What the replacement function does on its tape: initializers, nodes, returned values.
`uniqueInits`: the function numbers its initializer names by call (`name_<call#>`). -/
structure Repl where
  inits : List (String × String)
  uniqueInits : Bool
  nodes : List TNode
  outputs : List TRef
  deriving Repr, Inhabited

structure Rule where
  name : String            -- "" = unnamed
  removeNodes : Bool
  asFunction : Bool
  guardTag : Bool          -- condition function: root not already tagged by this rule
  pat : Pat
  repl : Repl
  deriving Repr, Inhabited

/-- A successful match, as `MatchResult` reports it. -/
structure Match where
  root : Nat                          -- id of the node the pattern's output node matched
  nodes : List Nat                    -- ids of matched nodes, in binding order
  bindings : List (Nat × Option Name) -- pattern variable ↦ value
  outputs : List Name                 -- values bound to the pattern outputs
  deriving Repr, Inhabited, DecidableEq

/-! ## Graph queries -/

def producer (g : Graph) (x : Name) : Option (Node × Nat) :=
  g.nodes.findSome? fun n => (n.outputs.idxOf? x).map fun i => (n, i)

def nodeById (g : Graph) (id : Nat) : Option Node := g.nodes.find? (·.id == id)

/-- `Value.uses()` restricted to consumers: nodes of `g` reading `x` directly or from a body. -/
def consumers (g : Graph) (x : Name) : List Nat :=
  (g.nodes.filter fun n => n.reads.contains x).map (·.id)

/-- `_valid_to_replace` -/
def validToReplace (g : Graph) (matched : List Nat) (outs : List Name) : Bool :=
  (g.nodes.filter fun n => matched.contains n.id).all fun n =>
    n.outputs.all fun v =>
      outs.contains v ||
      (!(g.outputs.contains v) && (consumers g v).all (matched.contains ·))

/-! ## `SimplePatternMatcher` for the pattern class above -/

structure MSt where
  nb : List (Nat × Nat) := []                 -- pattern node ↦ node id
  vb : List (PRef × Option Name) := []        -- value bindings
  nodes : List Nat := []
  deriving Inhabited

def bindValue (st : MSt) (p : PRef) (v : Option Name) : Option MSt :=
  match st.vb.lookup p with
  | some v' => if v' == v then some st else none
  | none => some { st with vb := st.vb ++ [(p, v)] }

def attrsMatch (want : List (String × String)) (have_ : List (String × String)) : Bool :=
  want.all fun kv => have_.lookup kv.1 == some kv.2

mutual
def matchNode (g : Graph) (p : Pat) : Nat → MSt → Nat → Node → Option MSt
  | 0, _, _, _ => none
  | f + 1, st, pi, node =>
    match st.nb.lookup pi with
    | some nid => if nid == node.id then some st else none
    | none =>
      match p.nodes[pi]? with
      | none => none
      | some pn =>
        if !(pn.op == node.op && pn.domain == node.domain && attrsMatch pn.attrs node.attrs) then none
        else
          let st := { st with nb := st.nb ++ [(pi, node.id)], nodes := st.nodes ++ [node.id] }
          if node.inputs.length > pn.inputs.length then none
          else
            let vals := node.inputs ++ List.replicate (pn.inputs.length - node.inputs.length) none
            match matchInputs g p f st (vals.zip pn.inputs) with
            | none => none
            | some st =>
              if pn.nOut > node.outputs.length then none
              else (List.range pn.nOut).foldlM (fun st j => bindValue st (.out pi j) (node.outputs[j]?)) st
def matchInputs (g : Graph) (p : Pat) : Nat → MSt → List (Option Name × PRef) → Option MSt
  | 0, _, _ => none
  | _ + 1, st, [] => some st
  | f + 1, st, (v, pr) :: rest =>
    match matchValue g p f st v pr with
    | none => none
    | some st => matchInputs g p f st rest
def matchValue (g : Graph) (p : Pat) : Nat → MSt → Option Name → PRef → Option MSt
  | 0, _, _, _ => none
  | f + 1, st, v, pr =>
    match pr with
    | .none => if v.isNone then some st else none
    | .var k =>
      match bindValue st (.var k) v with
      | none => none
      | some st => if v.isNone then none else some st
    | .out pi j =>
      match v with
      | none => none
      | some x =>
        if !(g.defined.contains x) then none   -- value of another graph: only variables may bind it
        else match bindValue st (.out pi j) v with
          | none => none
          | some st =>
            match producer g x with
            | none => none
            | some (n, i) => if i != j then none else matchNode g p f st pi n
end

/-- backward slice of a pattern node (the pattern nodes it reaches through its inputs) -/
def backSlice (p : Pat) : Nat → List Nat → List Nat → List Nat
  | 0, acc, _ => acc
  | _ + 1, acc, [] => acc
  | f + 1, acc, i :: todo =>
    if acc.contains i then backSlice p f acc todo
    else
      let ins := (p.nodes[i]?.map (·.inputs)).getD []
      backSlice p f (acc ++ [i]) (ins.filterMap (fun r => match r with | .out n _ => some n | _ => none) ++ todo)

/-- `GraphPattern.output_nodes`: producers of the outputs, in order, skipping those already
covered by the backward slice of an earlier one. -/
def outputNodes (p : Pat) : List Nat :=
  (p.outputs.foldl (fun (acc : List Nat × List Nat) o => match o with
    | .out n _ => if acc.2.contains n then acc else (acc.1 ++ [n], backSlice p 1000 acc.2 [n])
    | _ => acc) ([], [])).1

/-- `itertools.product`: the last list varies fastest -/
def product {α} : List (List α) → List (List α)
  | [] => [[]]
  | l :: rest => l.flatMap fun x => (product rest).map (x :: ·)

/-- one candidate assignment of graph nodes to the pattern's output nodes (`_multi_match`; for a
single output node `_match_single_output_node`): structural match, output values, removability -/
def matchCombo (g : Graph) (r : Rule) (ghost : List Name) (combo : List (Nat × Node)) : Option (MSt × List Name) :=
  match combo.foldlM (fun st (pi, n) => matchNode g r.pat 1000 st pi n) ({} : MSt) with
  | none => none
  | some st =>
    match r.pat.outputs.mapM (fun o => (st.vb.lookup o).bind id) with
    | none => none
    | some outs =>
      -- `ghost`: values still read by replacement nodes that were built and then discarded (`uses()` sees them)
      let interior := ((g.nodes.filter fun n => st.nodes.contains n.id).flatMap (·.outputs)).filter fun v => !(outs.contains v)
      if r.removeNodes && (!(validToReplace g st.nodes outs) || interior.any (ghost.contains ·)) then none
      else some (st, outs)

/-- `Pattern.match` at `node`.  The node is matched against the pattern's first output node; for
the remaining output nodes every combination of graph nodes with the same operator identifier is
tried in graph order (`SimplePatternMatcher.match`), the first one that matches structurally and
is removable wins; then the `guardTag` condition function. -/
def matchAt (g : Graph) (r : Rule) (node : Node) (ghost : List Name := []) : Option Match :=
  match outputNodes r.pat with
  | [] => none
  | first :: others =>
    let cands := others.map fun pi =>
      match r.pat.nodes[pi]? with
      -- since 750cd8e the candidates are keyed by (domain, op_type) only: `NodePattern.matches` ignores the overload
      | some pn => (g.nodes.filter fun n => n.domain == pn.domain && n.op == pn.op).map fun n => (pi, n)
      | none => []
    match (product ([(first, node)] :: cands)).findSome? (matchCombo g r ghost) with
    | none => none
    | some (st, outs) =>
      let tagged := match node.mprops.lookup RULE_NAME_TAG with
        | some t => (t.splitOn ", ").contains r.name
        | none => false
      if r.guardTag && tagged then none
      else
        let binds := st.vb.filterMap fun (pr, v) => match pr with | .var k => some (k, v) | _ => none
        some { root := node.id, nodes := st.nodes, bindings := binds, outputs := outs }

/-! ## Model-level state -/

structure Func where
  domain : String
  name : String
  overload : String
  opsets : List (String × Nat)
  body : Graph
  deriving Inhabited

structure Model where
  opsets : List (String × Nat)
  graph : Graph
  funcs : List Func
  ghost : List Name := []   -- uses held by detached bodies (see dead-code elimination)
  deriving Inhabited

inductive Kind where | main | func | sub
  deriving DecidableEq, Repr

/-- State threaded through a pass: model-wide opset imports, functions, fresh-id counter,
application count, number of replacement-function calls. -/
structure PassSt where
  mainOpsets : List (String × Nat)
  funcs : List Func
  nextId : Nat
  count : Nat := 0
  calls : Nat := 0
  ghost : List Name := []   -- values still "used" by replacement nodes that were built and then discarded
  names : List Name := []   -- `RewriteRuleSet._value_names`: names of all values of the model (fix c9666a4)
  deriving Inhabited

/-- `_update_opset_imports`: `none` = `ValueError` (two versions of one domain). -/
def updOpsets (imports : List (String × Nat)) : List (String × Option Nat) → Option (List (String × Nat))
  | [] => some imports
  | (d, v) :: rest =>
    match imports.lookup d with
    | none => updOpsets (imports ++ [(d, v.getD 1)]) rest
    | some cur =>
      match v with
      | some v' => if v' != cur then none else updOpsets imports rest
      | none => updOpsets imports rest

/-! ## Instantiating the replacement -/

/-- A value returned by the replacement function: an output of one of its new nodes, a value that
already existed (a bound input, an initializer), or `None`. -/
inductive NewOut where
  | fresh (t : Name) | existing (x : Name) | none
  deriving DecidableEq, Repr, Inhabited

structure Delta where
  newNodes : List Node
  newOutputs : List NewOut
  newInits : List (Name × String)
  usedOpsets : List (String × Option Nat)
  deriving Inhabited

def freshName (id j : Nat) : Name := s!"%{id}_{j}"

def tref (m : Match) (base : Nat) (inits : List (Name × String)) : TRef → Option Name
  | .var k => (m.bindings.lookup k).bind id
  | .out n j => some (freshName (base + n) j)
  | .init k => (inits[k]?).map (·.1)
  | .none => none

/-- order of fix 630be50: `sorted(used_opsets, key=(domain, version is not None, version or 0))` -/
def usedLe (a b : String × Option Nat) : Bool :=
  if a.1 != b.1 then a.1 < b.1
  else match a.2, b.2 with
    | none, _ => true
    | some _, none => false
    | some x, some y => x ≤ y

def insertUsed (x : String × Option Nat) : List (String × Option Nat) → List (String × Option Nat)
  | [] => [x]
  | y :: r => if usedLe x y then x :: y :: r else y :: insertUsed x r

/-- `TapeBuilder.used_opsets` (a set of (domain, version)), in the order `_update_opset_imports`
iterates it since 630be50 -/
def usedOf (ns : List TNode) : List (String × Option Nat) :=
  (ns.foldl (fun acc n => if acc.contains (n.domain, n.version) then acc else acc ++ [(n.domain, n.version)]) []).foldl
    (fun acc x => insertUsed x acc) []

/-- `ReplacementPatternFunction.get_replacement`: new nodes get ids `base, base+1, …`. -/
def nominalInits (r : Repl) (call : Nat) : List (Name × String) :=
  r.inits.map fun (n, t) => (if r.uniqueInits then s!"{n}_{call}" else n, t)

/-- `inits`: the initializer values the function created, under the names they end up with (a
value renamed at registration is the same object the tape nodes read). -/
def instantiate (r : Repl) (m : Match) (base : Nat) (inits : List (Name × String)) : Delta :=
  let nodes := (List.range r.nodes.length).zip r.nodes |>.map fun (i, tn) =>
    Node.mk (base + i) tn.op tn.domain "" (tn.inputs.map (tref m base inits))
      ((List.range tn.nOut).map (freshName (base + i))) tn.attrs [] [] []
  { newNodes := nodes
    newOutputs := r.outputs.map fun o => match o with
      | .out n j => .fresh (freshName (base + n) j)
      | o => match tref m base inits o with | some x => .existing x | none => .none
    newInits := inits
    usedOpsets := usedOf r.nodes }

/-! ## Renaming -/

def renName (a b : Name) (x : Name) : Name := if x == a then b else x

mutual
def renNode (a b : Name) : Nat → Node → Node
  | 0, n => n
  | d + 1, n =>
    .mk n.id n.op n.domain n.overload (n.inputs.map (·.map (renName a b))) (n.outputs.map (renName a b))
      n.attrs n.mprops (n.caps.map (renName a b)) (n.subs.map fun s => (s.1, renGraph a b d s.2))
def renGraph (a b : Name) : Nat → Graph → Graph
  | 0, g => g
  | d + 1, g =>
    .mk (g.inputs.map (renName a b)) (g.inits.map fun (x, t) => (renName a b x, t))
      (g.nodes.map (renNode a b d)) (g.outputs.map (renName a b))
end

/-- redirect the *uses* of `a` to `b` (not its definition): inputs, captures, bodies, graph outputs -/
def redirectUses (a b : Name) (d : Nat) (g : Graph) : Graph :=
  .mk g.inputs g.inits
    (g.nodes.map fun n =>
      .mk n.id n.op n.domain n.overload (n.inputs.map (·.map (renName a b))) n.outputs n.attrs n.mprops
        (n.caps.map (renName a b)) (n.subs.map fun s => (s.1, renGraph a b d s.2)))
    (g.outputs.map (renName a b))

/-! ## Naming and initializer registration (after fixes 340a24c and c9666a4)

`RewriteRuleSet._value_names` holds the names of all values of the model (all graphs, subgraphs and
functions; collected by `apply_to_model`, extended by every name given here).
`_fresh_value_name(base)` = the first `base_k` (k = 1, 2, …) not in the set, which is then added.
A new initializer whose name is a key of `graph.initializers` or is in the set is renamed that
way; otherwise its name is added to the set; nothing registered is ever replaced.
The search is rendered over `k ≤ |names| + 1` (`none` only if none of these is free). -/

def freshIn (names : List Name) (base : Name) : Option Name :=
  ((List.range (names.length + 1)).map fun k => base ++ "_" ++ toString (k + 1)).find? fun y => !(names.contains y)

def freshInitName (names taken : List Name) (x : Name) : Option Name :=
  if !(taken.contains x) && !(names.contains x) then some x else freshIn names x

/-- Returns the graph, the initializers under their final names, and the extended name set. -/
def registerInits (names : List Name) (g : Graph) :
    List (Name × String) → Option (Graph × List (Name × String) × List Name)
  | [] => some (g, [], names)
  | (x, t) :: rest =>
    match freshInitName names g.initNames x with
    | none => none
    | some y =>
      match registerInits (names ++ [y]) (g.setInits (g.inits ++ [(y, t)])) rest with
      | none => none
      | some (g', r, names') => some (g', (y, t) :: r, names')

/-- `for n in delta.new_nodes: for v in n.outputs: if not v.name: v.name = _fresh_value_name("val")`:
`temps` are the (still unnamed, rendered `%id_j`) outputs of the new nodes in order. -/
def nameNewValues : List Name → List Name → List Node → List NewOut → Option (List Node × List NewOut × List Name)
  | names, [], ns, os => some (ns, os, names)
  | names, t :: temps, ns, os =>
    match freshIn names "val" with
    | none => none
    | some y =>
      nameNewValues (names ++ [y]) temps (ns.map (renNode t y 1))
        (os.map fun o => match o with | .fresh t' => if t' == t then .fresh y else .fresh t' | o => o)

/-! ### the code before the fix (kept for the refutation `registerInits_prefix_refuted`)

The first loop only printed on a clash; the second loop assigned unconditionally.  Assigning to an
existing key replaces the registered `ir.Value` object: the users of the old object keep pointing
at a value that is no longer an initializer.  Name-based rendering: the old users are redirected
to the dangling name `†<name>`. -/

def dangling (x : Name) : Name := "†" ++ x

def registerInitPrefix (d : Nat) (g : Graph) (x : Name) (tok : String) : Graph :=
  if g.initNames.contains x then
    let g := redirectUses x (dangling x) d g
    g.setInits (g.inits.map fun (y, t) => if y == x then (y, tok) else (y, t))
  else g.setInits (g.inits ++ [(x, tok)])

def registerInitsPrefix (d : Nat) (g : Graph) (is : List (Name × String)) : Graph :=
  is.foldl (fun g (x, t) => registerInitPrefix d g x t) g

/-! ## Metadata (rule-name tag, `MetadataMerger.copy_merged_metadata`) -/

def metaSet (m : List (String × String)) (k v : String) : List (String × String) :=
  if (m.lookup k).isSome then m.map fun (k', v') => if k' == k then (k', v) else (k', v') else m ++ [(k, v)]

/-- `MetadataMerger.update_dict` with mergers `{RULE_NAME_TAG: join(", ")}`, default `None`. -/
def updateDict (updated updates : List (String × String)) : List (String × String) :=
  updates.foldl (fun upd (k, nv) =>
    if nv == "" then upd
    else match upd.lookup k with
      | some ov =>
        if ov != "" then (if k == RULE_NAME_TAG then metaSet upd k (ov ++ ", " ++ nv) else upd)
        else metaSet upd k nv
      | none => metaSet upd k nv) updated

def tagAndMerge (ruleName : String) (from_ : List Node) (to : List Node) : List Node :=
  let to := if ruleName != "" then to.map fun n => n.setMeta (metaSet n.mprops RULE_NAME_TAG ruleName) else to
  match to with
  | [t] => [t.setMeta (from_.foldl (fun u n => updateDict u n.mprops) t.mprops)]
  | _ =>
    let merged := from_.foldl (fun u n => updateDict u n.mprops) []
    to.map fun t => t.setMeta (updateDict t.mprops merged)

/-! ## The splice: `convenience.replace_nodes_and_values(graph, root, old_nodes, new_nodes, old_values, new_values)`

Name-based rendering of the object-level steps:
 1. each new value takes the *name* of the old value it replaces;
 2. every use of an old value (node inputs, captures inside nested bodies, graph outputs) is
    redirected to the new value — textually the same name once step 1 is done; if the old
    producer is kept (`remove_nodes=False`) its now unused output is left behind under a dead name;
    if the new value is an *existing* value (the replacement returned one of its inputs) that
    existing value is renamed everywhere it occurs, graph inputs included;
 3. the new nodes are inserted after the root node, 4. the old nodes are removed. -/

def deadName (x : Name) : Name := "‡" ++ x

def insertAfter (ns : List Node) (rootId : Nat) (new : List Node) : List Node :=
  ns.flatMap fun n => if n.id == rootId then n :: new else [n]

/-- step 1 on the new nodes: each fresh output name becomes the name of the value it replaces -/
def transferNames (pairs : List (Name × NewOut)) (newNodes : List Node) : List Node :=
  pairs.foldl (fun ns (o, nv) => match nv with
      | .fresh t => ns.map (renNode t o 1)
      | _ => ns) newNodes

/-- old producers that stay (`remove_nodes=False`): their replaced outputs become dead names -/
def retireOld (g : Graph) (m : Match) (removeNodes : Bool) : Graph :=
  if removeNodes then g else
    g.setNodes (g.nodes.map fun n =>
      if m.nodes.contains n.id then n.setOutputs (n.outputs.map fun o => if m.outputs.contains o then deadName o else o) else n)

/-- steps 3 and 4: insert after the root, remove the matched nodes iff `removeNodes` -/
def spliceNodes (ns : List Node) (rootId : Nat) (matched : List Nat) (new : List Node) (removeNodes : Bool) :
    List Node :=
  let ns1 := insertAfter ns rootId new
  if removeNodes then ns1.filter fun n => !(matched.contains n.id) else ns1

/-- an *existing* value returned by the replacement is renamed to the old output's name, everywhere -/
def renamePassthru (d : Nat) (pairs : List (Name × NewOut)) (g : Graph) : Graph :=
  pairs.foldl (fun g (o, nv) => match nv with
    | .existing x => renGraph x o d g
    | _ => g) g

/-- Two pattern outputs may be bound to the *same* old value (two pattern nodes matched by one
graph node): the first new value takes over its uses and its name, the later ones replace a value
that has no uses left and end up under another name (`NameFixPass`). -/
def dedupOuts : List Name → List Name → List Name
  | _, [] => []
  | seen, o :: rest =>
    (if seen.contains o then deadName (o ++ "#" ++ toString seen.length) else o) :: dedupOuts (seen ++ [o]) rest

def applyAt (d : Nat) (g : Graph) (m : Match) (newNodes : List Node) (newOutputs : List NewOut)
    (removeNodes : Bool) : Graph :=
  let pairs := (dedupOuts [] m.outputs).zip newOutputs
  let g1 := retireOld g m removeNodes
  renamePassthru d pairs
    (g1.setNodes (spliceNodes g1.nodes m.root m.nodes (transferNames pairs newNodes) removeNodes))

/-! ## `as_function` (≈725-755) -/

def newOverload (funcs : List Func) (domain name : String) : Nat → Nat → String
  | 0, k => toString k
  | f + 1, k =>
    if funcs.any (fun fn => fn.domain == domain && fn.name == name && fn.overload == toString k)
    then newOverload funcs domain name f (k + 1) else toString k

/-- Python `{**base, **over}`: `base`'s keys in order with `over`'s values where it has the key,
then the `over`-only keys. -/
def mergeOpsets (base over : List (String × Nat)) : List (String × Nat) :=
  base.map (fun kv => (kv.1, (over.lookup kv.1).getD kv.2)) ++
    over.filter (fun kv => !(base.any (fun mv => mv.1 == kv.1)))

/-- The imports an extracted function's own are filtered from (fixes 35ad500, 04d2d07): inside a
model-local *function* the function's imports override the model's; in a graph or subgraph the
model's imports override the container's own dict (which may hold default versions recorded by
`_update_opset_imports`). -/
def parentOpsets (isFunc : Bool) (main lo : List (String × Nat)) : List (String × Nat) :=
  if isFunc then mergeOpsets main lo else mergeOpsets lo main

/-- Result: the call node with its overload set, and the new function; `none` = the code raises.
`parentOpsets`: the imports the function's own are filtered from (see `OV.C07.parentOpsets`; the
container's alone before 35ad500, `mergeOpsets model container` before 04d2d07). -/
def asFunction (g : Graph) (parentOpsets : List (String × Nat)) (funcs : List Func) (m : Match)
    (newNodes : List Node) : Option (Node × Func) :=
  match newNodes with
  | [call] =>
    let ov := newOverload funcs call.domain call.op (funcs.length + 1) 1
    let orig := g.nodes.filter fun n => m.nodes.contains n.id
    let formals := call.inputs.map fun x => x.getD ""
    let known := formals ++ orig.flatMap (·.outputs)
    -- `_copy_for_function`: graph attributes unsupported; every read must be a formal or computed inside
    if orig.any (fun n => !n.subs.isEmpty) then none
    else if !(orig.all fun n => n.inputNames.all (known.contains ·)) then none
    else if !(m.outputs.all (known.contains ·)) then none
    else
      let used := orig.map (·.domain)
      let body : Graph := .mk formals [] orig m.outputs
      some (call.setOverload ov,
        { domain := call.domain, name := call.op, overload := ov,
          opsets := parentOpsets.filter (fun kv => used.contains kv.1), body := body })
  | _ => none

def BIG : Nat := 100000

mutual
def bodyReadsNodes : Nat → List Node → List Name
  | 0, _ => []
  | d + 1, ns => ns.flatMap fun n => n.inputNames ++ n.subs.flatMap fun s => bodyReadsGraph d s.2
def bodyReadsGraph : Nat → Graph → List Name
  | 0, _ => []
  | d + 1, g => bodyReadsNodes d g.nodes
end

/-- `graph.remove(old_nodes, safe=True)` raises when a value of a removed node still has a user
outside the removed set: a replacement node reading an *interior* matched value (a pattern
variable may bind the output of another matched node; `_valid_to_replace` does not look at the
replacement). -/
def unsafeRemove (matched : List Node) (outs : List Name) (newNodes : List Node) : Bool :=
  let interior := (matched.flatMap (·.outputs)).filter fun v => !(outs.contains v)
  newNodes.any fun n => n.reads.any (interior.contains ·)

/-- The test of fix f6e9b0d: some replacement node reads, or the replacement returns, an interior
value of the match. -/
def readsRemoved (matched : List Node) (outs : List Name) (newNodes : List Node) (newOutputs : List NewOut) : Bool :=
  let interior := (matched.flatMap (·.outputs)).filter fun v => !(outs.contains v)
  unsafeRemove matched outs newNodes ||
    newOutputs.any fun o => match o with | .existing x => interior.contains x | _ => false

/-- Fixes e8a0767, 1dc987d, aef7e04: every returned value that is one of the listed names (`routeNames`:
inputs and outputs of the graph or function being rewritten, values of another graph) is replaced by
the output of a new `Identity` node reading it. -/
def addIdentities (inputs : List Name) : Nat → List NewOut → List Node × List NewOut
  | _, [] => ([], [])
  | base, .existing x :: rest =>
    if inputs.contains x then
      (Node.mk base "Identity" "" "" [some x] [freshName base 0] [] [] [] [] :: (addIdentities inputs (base + 1) rest).1,
       .fresh (freshName base 0) :: (addIdentities inputs (base + 1) rest).2)
    else ((addIdentities inputs base rest).1, .existing x :: (addIdentities inputs base rest).2)
  | base, .fresh t :: rest => ((addIdentities inputs base rest).1, .fresh t :: (addIdentities inputs base rest).2)
  | base, .none :: rest => ((addIdentities inputs base rest).1, .none :: (addIdentities inputs base rest).2)

/-- Fix aef7e04: returned values that belong to *another* graph — an existing value that the graph
being rewritten does not define (an outer-scope value seen from inside an If/Loop body). -/
def foreignOuts (g : Graph) (outs : List NewOut) : List Name :=
  outs.filterMap fun o => match o with
    | .existing x => if g.defined.contains x then none else some x
    | _ => none

/-- `_must_route(v)`: graph input, graph output, or — when the container is a `Graph`, not a
`Function` — a value of another graph. -/
def routeNames (isFunc : Bool) (g : Graph) (outs : List NewOut) : List Name :=
  g.inputs ++ g.outputs ++ (if isFunc then [] else foreignOuts g outs)

/-- The test of fix f8abc79: the replacement has no nodes of its own, exactly one routing `Identity`
was created, the match is exactly one node, a default-domain `Identity`, and its input is the routed value. -/
def noProgress (g : Graph) (m : Match) (newNodes idNodes : List Node) : Bool :=
  newNodes.isEmpty && idNodes.length == 1 &&
  match m.nodes, idNodes with
  | [nid], [idn] =>
    (match nodeById g nid with
     | some n => n.op == "Identity" && n.domain == "" && n.inputs.head? == idn.inputs.head?
     | none => false)
  | _, _ => false

/-! ## `try_rewrite` + the body of the rule loop -/

inductive Err where
  | opsetClash | outputArity | asFunction | unsafeRemove | fuel | unmodelled (what : String)
  deriving Repr, DecidableEq

/-- Outcome of offering one rule at one node. -/
inductive Step where
  | noMatch (st : PassSt) (lo : List (String × Nat))
  | skipped (st : PassSt) (lo : List (String × Nat))         -- function + new initializers: `continue`
  | applied (st : PassSt) (lo : List (String × Nat)) (g : Graph) (firstNew : Nat)


def tryRule (kind : Kind) (r : Rule) (st : PassSt) (lo : List (String × Nat)) (g : Graph) (node : Node) :
    Except Err Step :=
  match matchAt g r node st.ghost with
  | none => .ok (.noMatch st lo)
  | some m =>
    let st := { st with calls := st.calls + 1 }
    let nominal := nominalInits r.repl st.calls
    -- functions take no initializers (the rule is skipped below); otherwise the values are registered,
    -- renamed on a clash; the registered graph is used only once the opset updates went through
    match (if kind == .func then some (g, nominal, st.names) else registerInits st.names g nominal) with
    | none => .error (.unmodelled "no free initializer name")
    | some (gReg, finalInits, namesReg) =>
    let δ := instantiate r.repl m st.nextId finalInits
    let st := { st with nextId := st.nextId + δ.newNodes.length }
    if δ.newOutputs.length != r.pat.outputs.length then .error .outputArity
    else
      -- `_update_opset_imports(graph_or_function)`, then `_update_opset_imports(model.graph)`
      let loIn := if kind == .main then st.mainOpsets else lo
      match updOpsets loIn δ.usedOpsets with
      | none => .error .opsetClash
      | some lo1 =>
        match updOpsets (if kind == .main then lo1 else st.mainOpsets) δ.usedOpsets with
        | none => .error .opsetClash
        | some main1 =>
          let st := { st with mainOpsets := main1 }
          let lo1 := if kind == .main then main1 else lo1
          -- fix f6e9b0d: a replacement that reads (or returns) a value of a node about to be removed is skipped
          let matched0 := m.nodes.filterMap (nodeById g)
          let tapeGhost := (δ.newNodes.flatMap (·.inputNames)).filter (fun x => !((δ.newInits.map (·.1)).contains x))
          if r.removeNodes && readsRemoved matched0 m.outputs δ.newNodes δ.newOutputs then
            .ok (.skipped { st with ghost := st.ghost ++ tapeGhost } lo1)
          else
          if !δ.newInits.isEmpty && kind == .func then
            -- the tape nodes are dropped but stay registered as users of the values they read
            -- (the initializer values created by this call are new objects, not the registered ones)
            .ok (.skipped { st with ghost := st.ghost ++
              (δ.newNodes.flatMap (·.inputNames)).filter (fun x => !((δ.newInits.map (·.1)).contains x)) } lo1)
          else
            let g := gReg
            let st := { st with names := namesReg }
            let res : Except Err (PassSt × List Node) :=
              if r.asFunction then
                match asFunction g (parentOpsets (kind == .func) st.mainOpsets lo1) st.funcs m δ.newNodes with
                | none => .error .asFunction
                | some (call, fn) => .ok ({ st with funcs := st.funcs ++ [fn] }, [call])
              else .ok (st, δ.newNodes)
            match res with
            | .error e => .error e
            | .ok (st, newNodes) =>
              -- fixes e8a0767, 1dc987d, aef7e04: a returned graph input, graph output or value of another graph
              -- goes through an Identity node
              let (idNodes, newOuts) := addIdentities (routeNames (kind == .func) g δ.newOutputs) st.nextId δ.newOutputs
              -- fix f8abc79: replacing `Identity(v)` by the routing `Identity(v)` is no progress (and the new node would be
              -- matched again for ever): the rule is skipped, the next rule is tried, nothing is counted
              if noProgress g m newNodes idNodes then
                if !δ.newInits.isEmpty then .error (.unmodelled "no-progress skip after initializer registration")
                else .ok (.skipped { st with ghost := st.ghost ++ idNodes.flatMap (·.inputNames) } lo1)   -- the discarded Identity keeps its use
              else
              let st := { st with nextId := st.nextId + idNodes.length }
              let newNodes := newNodes ++ idNodes
              let δ := { δ with newOutputs := newOuts }
              let matchedNodes := m.nodes.filterMap (nodeById g)
              let newNodes := tagAndMerge r.name matchedNodes newNodes
              -- fix c9666a4: the unnamed new values get model-wide fresh `val_k` names before insertion
              match nameNewValues st.names (newNodes.flatMap (·.outputs)) newNodes δ.newOutputs with
              | none => .error (.unmodelled "no free value name")
              | some (newNodes, namedOuts, names') =>
              let st := { st with names := names' }
              let δ := { δ with newOutputs := namedOuts }
              if δ.newOutputs.any (· == .none) then .error (.unmodelled "replacement returned None")
              else if !r.removeNodes && δ.newOutputs.any (fun o => match o with | .existing _ => true | _ => false) then
                .error (.unmodelled "passthru with kept nodes")
              else
                let g' := applyAt BIG g m newNodes δ.newOutputs r.removeNodes
                .ok (.applied { st with count := st.count + 1 } lo1 g' (newNodes.head?.map (·.id) |>.getD 0))

/-- `for rule in self.rules: …; break` -/
def tryRules (kind : Kind) : List Rule → PassSt → List (String × Nat) → Graph → Node → Except Err Step
  | [], st, lo, _, _ => .ok (.noMatch st lo)
  | r :: rs, st, lo, g, node =>
    match tryRule kind r st lo g node with
    | .error e => .error e
    | .ok (.applied st lo g' f) => .ok (.applied st lo g' f)
    | .ok (.noMatch st lo) => tryRules kind rs st lo g node
    | .ok (.skipped st lo) => tryRules kind rs st lo g node

/-! ## `_apply_to_graph_or_function`: the iteration discipline

`for node in graph_or_function` walks `onnx_ir`'s doubly linked list: after the body ran for
`node`, the iterator follows `node`'s *own* `next` link as it is then.  New nodes were inserted
right after `node` before it was unlinked, so **the nodes of the replacement are visited next**;
a replacement that matches its own pattern is rewritten again.  The model keeps the current graph
and the id of the node under the cursor; `successor` reads the link after the body ran. -/

def Graph.ids (g : Graph) : List Nat := g.nodes.map (·.id)

/-- on node ids (object identities), before and after the body ran -/
def successor (before after : List Nat) (cur : Nat) : Option Nat :=
  -- `cur` still linked: its successor in `after`; unlinked: first new node if any, else its old successor
  match after.dropWhile (· != cur) with
  | _ :: nxt :: _ => some nxt
  | [_] => none
  | [] => ((before.dropWhile (· != cur)).drop 1).find? (after.contains ·)

/-- apply `recurse` to every body of `node` in attribute order, threading the state -/
def recurseBodies (recurse : PassSt → Graph → Except Err (PassSt × Graph)) :
    PassSt → List (String × Graph) → Except Err (PassSt × List (String × Graph))
  | st, [] => .ok (st, [])
  | st, (k, b) :: rest =>
    match recurse st b with
    | .error e => .error e
    | .ok (st, b') =>
      match recurseBodies recurse st rest with
      | .error e => .error e
      | .ok (st, rest') => .ok (st, (k, b') :: rest')

def passLoop (rules : List Rule) (kind : Kind)
    (recurse : PassSt → Graph → Except Err (PassSt × Graph)) :
    Nat → PassSt → List (String × Nat) → Graph → Option Nat → Except Err (PassSt × List (String × Nat) × Graph)
  | 0, _, _, _, _ => .error .fuel
  | _ + 1, st, lo, g, none => .ok (st, lo, g)
  | fuel + 1, st, lo, g, some cur =>
    match nodeById g cur with
    | none => .error (.unmodelled "cursor lost")
    | some node =>
      match tryRules kind rules st lo g node with
      | .error e => .error e
      | .ok step =>
        let (st, lo, g1, next) := match step with
          | .applied st lo g' first =>
            -- new nodes sit right after the root; if the splice inserted nothing, fall back to the link
            (st, lo, g', if g'.ids.contains first then some first else successor g.ids g'.ids cur)
          | .noMatch st lo => (st, lo, g, successor g.ids g.ids cur)
          | .skipped st lo => (st, lo, g, successor g.ids g.ids cur)
        -- "Apply rewrite rules to subgraphs of the node" — the node object visited, even if just removed
        match recurseBodies recurse st node.subs with
        | .error e => .error e
        | .ok (st, subs') =>
          let g2 := g1.setNodes (g1.nodes.map fun n =>
            if n.id == cur then n.setBodies (capsOf BIG subs') subs' else n)
          passLoop rules kind recurse fuel st lo g2 next

/-! ## `Graph.sort()` (onnx_ir; contract, executable rendering) — fix a8da06e calls it at the end
of `_apply_to_graph_or_function` when a rule with several output nodes is in the set and the call
applied something.  Reverse Kahn over the graph and all its subgraphs: nodes in pre-order
(a node, then the nodes of its bodies); predecessors of a node = producers of its inputs (if in
the set) and the top-level nodes of its bodies; repeatedly pop the zero-child node with the
largest index; each graph's new order is the reverse of its pop order.  Identity on sorted graphs. -/

mutual
def flatNodes : Nat → List Node → List Node
  | 0, _ => []
  | d + 1, ns => ns.flatMap fun n => n :: n.subs.flatMap fun s => flatGraph d s.2
def flatGraph : Nat → Graph → List Node
  | 0, _ => []
  | d + 1, g => flatNodes d g.nodes
end

def sortPreds (flat : List Node) (n : Node) : List Nat :=
  (n.inputNames.filterMap fun x => (flat.find? fun m => m.outputs.contains x).map (·.id)) ++
    n.subs.flatMap fun s => s.2.nodes.map (·.id)

def countOcc (l : List Nat) (x : Nat) : Nat := (l.filter (· == x)).length

/-- pop order; `depth` = remaining child counts, `queue` = ids with zero children -/
def kahn (idx : Nat → Nat) (preds : Nat → List Nat) : Nat → List (Nat × Nat) → List Nat → List Nat → List Nat
  | 0, _, _, acc => acc
  | _ + 1, _, [], acc => acc
  | f + 1, depth, q :: queue, acc =>
    let cur := (q :: queue).foldl (fun b x => if idx x > idx b then x else b) q
    let queue := (q :: queue).filter (· != cur)
    let (depth, queue) := (preds cur).foldl (fun (dq : List (Nat × Nat) × List Nat) p =>
        let depth := dq.1.map fun (i, c) => if i == p then (i, c - 1) else (i, c)
        if (depth.lookup p) == some 0 then (depth, dq.2 ++ [p]) else (depth, dq.2)) (depth, queue)
    kahn idx preds f depth queue (acc ++ [cur])

mutual
def reorderNodes : Nat → List Nat → List Node → List Node
  | 0, _, ns => ns
  | d + 1, order, ns =>
    let ids := ns.map (·.id)
    (order.filter (ids.contains ·)).filterMap fun i =>
      (ns.find? (·.id == i)).map fun n => n.setBodies n.caps (n.subs.map fun s => (s.1, reorderGraph d order s.2))
def reorderGraph : Nat → List Nat → Graph → Graph
  | 0, _, g => g
  | d + 1, order, g => g.setNodes (reorderNodes d order g.nodes)
end

def sortGraph (g : Graph) : Graph :=
  let flat := flatGraph BIG g
  let allPreds := flat.flatMap (sortPreds flat)
  let depth := flat.map fun n => (n.id, countOcc allPreds n.id)
  let idx (i : Nat) : Nat := (flat.map (·.id)).idxOf i
  let preds (i : Nat) : List Nat := ((flat.find? (·.id == i)).map (sortPreds flat)).getD []
  let queue := (depth.filter (·.2 == 0)).map (·.1)
  let pops := kahn idx preds (flat.length + 1) depth queue []
  reorderGraph BIG pops.reverse g

/-- one graph-or-function: depth-indexed knot for the recursion into bodies; a body starts with
its own (empty after deserialisation) `opset_imports` -/
def applyRules (rules : List Rule) (fuel : Nat) : Nat → Kind → PassSt → List (String × Nat) → Graph →
    Except Err (PassSt × List (String × Nat) × Graph)
  | 0, _, _, _, _ => .error .fuel
  | d + 1, kind, st, lo, g =>
    match passLoop rules kind
      (fun st b => match applyRules rules fuel d .sub st [] b with
        | .error e => .error e
        | .ok (st, _, b') => .ok (st, b'))
      fuel st lo g (g.nodes.head?.map (·.id)) with
    | .error e => .error e
    | .ok (st', lo', g') =>
      -- fix a8da06e: `if count and any(not has_single_output_node …): graph_or_function.sort()`
      if st'.count > st.count && rules.any (fun r => (outputNodes r.pat).length != 1) then .ok (st', lo', sortGraph g')
      else .ok (st', lo', g')

/-! ## Dead-code elimination (`RemoveUnusedNodesPass`, onnx_ir — contract; executable rendering)

Reverse sweep; a node goes when none of its outputs is a graph output or has a use.  Removing a
node detaches *its* inputs, but the nodes inside the bodies of a removed `If`/`Loop` keep their
uses: values they read stay "used" (`ghost` names) for the rest of this pass and for later passes. -/

/-- uses that survive the removal of `n` -/
def ghostOf (n : Node) : List Name := n.subs.flatMap fun s => freeGraph BIG s.2   -- outer values only: names bound inside the bodies are other objects

mutual
/-- nodes in *reverse* order; `live` = graph outputs + ghosts + reads of the later nodes kept so far.
Returns the kept nodes (in order) and the ghost names created. -/
def dceNodes : Nat → List Name → List Node → List Node × List Name
  | 0, _, ns => (ns.reverse, [])
  | _ + 1, _, [] => ([], [])
  | d + 1, live, n :: before =>
    if n.outputs.any (live.contains ·) then
      let (subs', gh) := dceSubs d live n.subs
      let n' := n.setBodies (capsOf BIG subs') subs'
      let (kept, gh') := dceNodes d (live ++ n'.reads ++ gh) before
      (kept ++ [n'], gh ++ gh')
    else
      let gh := ghostOf n
      let (kept, gh') := dceNodes d (live ++ gh) before
      (kept, gh ++ gh')
def dceSubs : Nat → List Name → List (String × Graph) → List (String × Graph) × List Name
  | 0, _, ss => (ss, [])
  | _ + 1, _, [] => ([], [])
  | d + 1, live, (k, g) :: rest =>
    let (g', gh) := dceGraph d live g
    let (rest', gh') := dceSubs d (live ++ gh) rest
    ((k, g') :: rest', gh ++ gh')
def dceGraph : Nat → List Name → Graph → Graph × List Name
  | 0, _, g => (g, [])
  | d + 1, ghosts, g =>
    let (ns, gh) := dceNodes d (g.outputs ++ ghosts) g.nodes.reverse
    (g.setNodes ns, gh)
end

def allReads (g : Graph) : List Name := g.outputs ++ g.nodes.flatMap (·.reads)

def dceFuncs (ghost : List Name) : List Func → List Func × List Name
  | [] => ([], ghost)
  | f :: rest =>
    let (b, gh) := dceGraph BIG ghost f.body
    let (rest', gh') := dceFuncs (ghost ++ gh) rest
    ({ f with body := b } :: rest', gh')

def dceModel (m : Model) : Model :=
  let (g, gh) := dceGraph BIG m.ghost m.graph
  let ghost := m.ghost ++ gh
  let used := allReads g ++ g.inputs ++ ghost
  let g := g.setInits (g.inits.filter fun (x, _) => used.contains x)
  let (fs, ghost) := dceFuncs ghost m.funcs
  { m with graph := g, funcs := fs, ghost := ghost }

/-! ## `RemoveUnusedFunctionsPass`, `RemoveUnusedOpsetsPass` (onnx_ir; executable rendering) -/

mutual
def opIdsNodes : Nat → List Node → List (String × String × String)
  | 0, _ => []
  | d + 1, ns => ns.flatMap fun n => (n.domain, n.op, n.overload) :: n.subs.flatMap fun s => opIdsGraph d s.2
def opIdsGraph : Nat → Graph → List (String × String × String)
  | 0, _ => []
  | d + 1, g => opIdsNodes d g.nodes
end

def Func.ident (f : Func) : String × String × String := (f.domain, f.name, f.overload)

def reachableFuncs (funcs : List Func) : Nat → List (String × String × String) → List (String × String × String) →
    List (String × String × String)
  | 0, seen, _ => seen
  | _ + 1, seen, [] => seen
  | fuel + 1, seen, id :: todo =>
    if seen.contains id then reachableFuncs funcs fuel seen todo
    else match funcs.find? (·.ident == id) with
      | none => reachableFuncs funcs fuel seen todo
      | some f => reachableFuncs funcs fuel (seen ++ [id]) (opIdsGraph BIG f.body ++ todo)

def removeUnusedFunctions (m : Model) : Model :=
  let used := reachableFuncs m.funcs BIG [] (opIdsGraph BIG m.graph)
  { m with funcs := m.funcs.filter fun f => used.contains f.ident }

def removeUnusedOpsets (m : Model) : Model :=
  -- the default domain "" is always retained; the main graph also retains every function's domain
  let doms (g : Graph) := (opIdsGraph BIG g).map (·.1)
  { m with
    opsets := m.opsets.filter (fun kv => ("" :: doms m.graph ++ m.funcs.map (·.domain)).contains kv.1)
    funcs := m.funcs.map fun f => { f with opsets := f.opsets.filter fun kv => ("" :: doms f.body).contains kv.1 } }

/-! ## `RewriteRuleSet(rules, commute=True)`: `RewriteRule.commute` / `GraphPattern.commute` -/

def COMMUTATIVE_OPS : List String :=
  ["Add", "Mul", "And", "Or", "Xor", "BitwiseAnd", "BitwiseOr", "BitwiseXor", "Equal", "Max", "Mean", "Min", "Sum"]

def commuteChoices (pn : PNode) : List Bool :=
  if pn.domain == "" && COMMUTATIVE_OPS.contains pn.op && pn.inputs.length == 2 then [false, true] else [false]

/-- One rule per element of `itertools.product` over the pattern's nodes (the last node varies
fastest): the pattern with the operands of the flagged commutative binary nodes swapped; matcher,
condition, replacement, name, `remove_nodes`, `as_function` and the visitors are those of the rule. -/
def commuteRule (r : Rule) : List Rule :=
  (product (r.pat.nodes.map commuteChoices)).map fun sw =>
    { r with pat := { r.pat with nodes := (r.pat.nodes.zip sw).map fun (pn, s) =>
        if s then { pn with inputs := pn.inputs.reverse } else pn } }

/-! ## `RewriteRuleSet.apply_to_model` and `rewrite()` -/

mutual
def maxIdNodes : Nat → List Node → Nat
  | 0, _ => 0
  | d + 1, ns => ns.foldl (fun acc n => max acc (max n.id ((n.subs.map fun s => maxIdGraph d s.2).foldl max 0))) 0
def maxIdGraph : Nat → Graph → Nat
  | 0, _ => 0
  | d + 1, g => maxIdNodes d g.nodes
end

mutual
/-- `_collect_value_names`: inputs, initializers and node outputs of a graph and all its subgraphs -/
def collectNamesNodes : Nat → List Node → List Name
  | 0, _ => []
  | d + 1, ns => ns.flatMap fun n => n.outputs ++ n.subs.flatMap fun s => collectNames d s.2
def collectNames : Nat → Graph → List Name
  | 0, _ => []
  | d + 1, g => g.inputs ++ g.initNames ++ collectNamesNodes d g.nodes
end

def applyFuncs (rules : List Rule) (fuel : Nat) (orig : List (String × String × String)) :
    PassSt → List (String × String × String) → Except Err PassSt
  | st, [] => .ok st
  | st, id :: rest =>
    if !orig.contains id then applyFuncs rules fuel orig st rest else
    match st.funcs.find? (·.ident == id) with
    | none => applyFuncs rules fuel orig st rest
    | some f =>
      match applyRules rules fuel 64 .func st f.opsets f.body with
      | .error e => .error e
      | .ok (st, lo, body') =>
        let st := { st with funcs := st.funcs.map fun f' => if f'.ident == id then { f' with opsets := lo, body := body' } else f' }
        applyFuncs rules fuel orig st rest

/-- Returns the application count and the rewritten model.  `NameFixPass` (run when count > 0)
only renames; the rendering keeps names symbolic and the tie compares modulo renaming of
non-interface values, so it is the identity here. -/
def applyToModel (rules : List Rule) (fuel : Nat) (m : Model) : Except Err (Nat × Model) :=
  let base := max (maxIdGraph BIG m.graph) ((m.funcs.map fun f => maxIdGraph BIG f.body).foldl max 0) + 1
  let st : PassSt := { mainOpsets := m.opsets, funcs := m.funcs, nextId := base,
                       names := collectNames BIG m.graph ++ m.funcs.flatMap fun f => collectNames BIG f.body }
  let orig := m.funcs.map (·.ident)
  match applyRules rules fuel 64 .main st m.opsets m.graph with
  | .error e => .error e
  | .ok (st, _, g') =>
    match applyFuncs rules fuel orig st orig with
    | .error e => .error e
    | .ok st =>
      let m' : Model := { opsets := st.mainOpsets, graph := g', funcs := st.funcs, ghost := st.ghost }
      let m' := if rules.any (fun r => !r.removeNodes) then dceModel m' else m'
      .ok (st.count, m')

/-- `rewrite(model, rules)`: `RewritePass`, then RemoveUnusedNodes/Functions/Opsets. -/
def rewriteModel (rules : List Rule) (fuel : Nat) (m : Model) : Except Err (Nat × Model) :=
  match applyToModel rules fuel m with
  | .error e => .error e
  | .ok (c, m') => .ok (c, removeUnusedOpsets (removeUnusedFunctions (dceModel m')))

end OV.C07
