/-!
# C19 — executable model of the ORT fusion decisions (`onnxscript/rewriter/ort_fusions/*.py`)

Core Lean only.  Every `def` below restates the *decision* a fusion rule takes (structural match,
`check`, rule order inside a rule set) and the *attributes / input wiring* its `rewrite` emits, as a
function of the facts the rule reads from the graph (shapes, dtypes, constants, attributes).  The
numeric side (what the fused operator computes) is in `OV.Props.C19` (the operators' formulas) / `OV.Model.C19Index`.
-/
namespace OV.C19

/-! ## dims, `_fusion_utils.check_shape_bool` -/

/-- An `onnx_ir` dimension: `int`, `SymbolicDim("N")`, `SymbolicDim(None)`. -/
inductive Dim where
  | int (n : Nat)
  | sym (s : String)
  | unk
  deriving DecidableEq, Repr, Inhabited

/-- Python `actual == bindings[expected]` on `onnx_ir` dims.  `SymbolicDim.__eq__` compares the
`.value`s, so **two unknown dims (`None`) compare equal**; an `int` never equals a `SymbolicDim`. -/
def Dim.pyEq : Dim → Dim → Bool
  | .int a, .int b => a == b
  | .sym a, .sym b => a == b
  | .unk, .unk => true
  | _, _ => false

def Dim.isKnown : Dim → Bool
  | .unk => false
  | _ => true

def Dim.isInt : Dim → Bool
  | .int _ => true
  | _ => false

abbrev Shape := List Dim
abbrev Bindings := List (String × Dim)

/-- The loop of `check_shape_bool` / `check_shape`: first occurrence of a name binds, later ones compare. -/
def unify : Bindings → List (Dim × String) → Option Bindings
  | b, [] => some b
  | b, (d, n) :: rest =>
    match b.lookup n with
    | none => unify ((n, d) :: b) rest
    | some d' => if d.pyEq d' then unify b rest else none

/-- `check_shape_bool(bindings, val, names)`; `none` = `False` (unknown shape, rank mismatch, dim mismatch). -/
def checkShape (b : Bindings) (shape : Option Shape) (names : List String) : Option Bindings :=
  match shape with
  | none => none
  | some s => if s.length != names.length then none else unify b (s.zip names)

def hasRank (shape : Option Shape) (r : Nat) : Bool :=
  match shape with
  | none => false
  | some s => s.length == r

/-! ## floats as seen by the Python code (IEEE binary64; only used by the decision, never by theorems) -/

def fabs (x : Float) : Float := if x < 0 then -x else x
def fmax (a b : Float) : Float := if a < b then b else a

/-- `math.isclose(a, b, rel_tol, abs_tol)` for finite values, over ANY carrier that has the operations the
C implementation uses (`a == b`, `fabs(a-b)`, two `fmax`, one product).  The driver runs it at `Float` (IEEE
binary64, `isclose` below); the theorems `isclose_*` of `OV.Props.C19` are about the same definition at an ordered
field (exact arithmetic: rounding inside the test itself is not modelled). -/
def iscloseG {α : Type} [Sub α] [Mul α] [Neg α] [OfNat α 0] [LT α] [LE α] [DecidableLT α] [DecidableLE α] [BEq α]
    (a b rel abs : α) : Bool :=
  let ab : α → α := fun x => if x < 0 then -x else x
  let mx : α → α → α := fun x y => if x < y then y else x
  a == b || decide (ab (a - b) ≤ mx (rel * mx (ab a) (ab b)) abs)

/-- `math.isclose(a, b, rel_tol, abs_tol)` at IEEE binary64. -/
def isclose (a b rel abs : Float) : Bool := iscloseG a b rel abs

/-- A scalar *float* pattern literal (`_matcher._match_constant`): rank 0 and `isclose(·, expected, 1e-5, 1e-8)`. -/
def constMatches (rank : Nat) (v expected : Float) : Bool :=
  rank == 0 && isclose v expected 1e-5 1e-8

/-- A scalar *integer* pattern literal (`op.Pow(x, 3)`, `op.Add(t, 1)`): since /repo commit 6800bd1 integer
literals default to zero tolerance, i.e. `isclose(·, expected, 0, 0)` = equality. -/
def constMatchesExact (rank : Nat) (v expected : Float) : Bool :=
  rank == 0 && isclose v expected 0.0 0.0

def showF (x : Float) : String := "f" ++ toString x.toBits.toNat

/-! ## RMS normalization (`rms_normalization.py`) -/

structure RmsIn where
  xdt : Nat
  sdt : Nat
  castIn : Bool
  cdt : Nat
  castOut : Bool
  tdt : Nat
  scaleCast : Bool
  mulOrder : Bool
  innerSwap : Bool
  epsConst : Bool
  epsSize : Nat
  eps : Float
  axes : List Int
  pow : Float
  powRank : Nat
  keepdims : Option Int
  noop : Option Int
  xRank : Nat := 0
  scaleRank : Nat := 0
  epsRank : Nat := 0
  /-- `true` (the default, what the driver uses) = the rule of /repo after commits 860eec7 (F6), 655e32d (F7),
      a2dc518 (F10); `false` = the rule before that commit, kept only for the `…_prefix_refuted` theorems. -/
  fix8 : Bool := true    -- /repo commit ca48b9a: the exponent literal is the integer 2 (exact); `false` = before (finding C19-F8)
  fix6 : Bool := true    -- no fusion when the scale's Cast changes its element type
  fix7 : Bool := true    -- no fusion when rank(scale) > rank(x)
  fix10 : Bool := true   -- no fusion when rank(epsilon) > rank(x)

/-- `float_types` / `fp_float_types` as ONNX dtype numbers (FLOAT=1, FLOAT16=10, DOUBLE=11, BFLOAT16=16). -/
def floatTypes : List Nat := [1, 10, 16, 11]
def fpFloatTypes : List Nat := [1, 11]

/-- One `OrValue([Cast(v, to=compute_dtype), v])`: the Cast alternative is taken when a Cast is there and
its `to` agrees with the binding `compute_dtype` already has; otherwise the variable is bound to the Cast's
output itself.  Returns (bound to the pre-cast value?, dtype of the bound value, new binding). -/
def orCast (castPresent : Bool) (to orig : Nat) (cd : Option Nat) : Bool × Nat × Option Nat :=
  if castPresent then
    if cd.isNone || cd == some to then (true, orig, some to) else (false, to, cd)
  else (false, orig, cd)

/-- The variable bindings the matcher ends with: (x bound before its Cast?, dtype of bound x, scale bound before
its Cast?, dtype of bound scale, `compute_dtype`).  Visiting order: `mul_order=True` → normalized (hence x) first,
then scale; `False` → scale first. -/
def rmsBind (i : RmsIn) : Bool × Nat × Bool × Nat × Option Nat :=
  if i.mulOrder then
    let (xp, xd, cd1) := orCast i.castIn i.cdt i.xdt none
    let (sp, sd, cd2) := orCast i.scaleCast i.tdt i.sdt cd1
    (xp, xd, sp, sd, cd2)
  else
    let (sp, sd, cd1) := orCast i.scaleCast i.tdt i.sdt none
    let (xp, xd, cd2) := orCast i.castIn i.cdt i.xdt cd1
    (xp, xd, sp, sd, cd2)

/-- `RmsNormFusion.check` on those bindings (everything after the structural match). -/
def rmsCheck (i : RmsIn) : Bool :=
  let (_, xdtB, sPre, sdtB, cd) := rmsBind i
  let epsOk := i.epsConst && i.epsSize == 1
  let stash := cd.getD xdtB
  epsOk && floatTypes.contains xdtB && floatTypes.contains sdtB && fpFloatTypes.contains stash
    && !(i.fix10 && i.epsRank > i.xRank)
    && !(i.fix7 && i.scaleRank > i.xRank)
    && !(i.fix6 && i.scaleCast && sPre && i.sdt != i.tdt)

/-- Decision + emitted node of `RmsNormFusion` (`_rule1`: `Mul(scale, normalized)`, `_rule2`:
`Mul(normalized, scale)`; the matcher visits the root's inputs left to right). -/
def rms (i : RmsIn) : String :=
  let structural :=
    !i.innerSwap && (if i.fix8 then constMatchesExact i.powRank i.pow 2.0 else constMatches i.powRank i.pow 2.0)
      && i.axes == [-1]
      && i.keepdims == some 1 && i.noop == some 0
  if !structural then "count=0" else
  if !rmsCheck i then "count=0" else
    let (xPre, xdtB, sPre, _, cd) := rmsBind i
    let stash := cd.getD xdtB
    let xn := if i.castIn && !xPre then "@Cast" else "x"
    let sn := if i.scaleCast && !sPre then "@Cast" else "scale"
    s!"count=1 SimplifiedLayerNormalization@\{axis=-1;epsilon={showF i.eps};stash_type={stash}}({xn},{sn})->1"

/-! ## Skip(Simplified)LayerNormalization (`skip_normalization.py`) -/

/-- The `Add` tree feeding the normalization node, with the shapes shape-inference attached. -/
inductive E where
  | leaf (name : String) (shape : Option Shape)
  | add (shape : Option Shape) (l r : E)
  deriving Inhabited

def E.shape : E → Option Shape
  | .leaf _ s => s
  | .add s _ _ => s

def E.show : E → String
  | .leaf n _ => n
  | .add _ _ _ => "@Add"

structure SkipIn where
  layer : Bool                 -- LayerNormalization (else SimplifiedLayerNormalization)
  top : E                      -- first input of the normalization node
  gamma : Option Shape
  beta : Option (Option Shape) -- `none`: the node has no third input
  stash : Option Int
  eps : Option Float
  axis : Option Int

/-- Structural match of one of the three rules; result = (input, skip, bias?). -/
def skipMatch (variant : String) (t : E) : Option (E × E × Option E) :=
  match variant, t with
  | "none", .add _ l r => some (r, l, none)                       -- Add(skip, input) is tried first
  | "post", .add _ (.add _ l1 r1) r => some (r1, l1, some r)      -- Add(Add(skip,input), bias)
  | "pre", .add _ l (.add _ r1 r2) => some (r1, l, some r2)       -- Add(skip, Add(input,bias))
  | "pre", .add _ (.add _ l1 l2) r => some (l1, r, some l2)       -- Add(Add(input,bias), skip)
  | _, _ => none

def skipCheck (i : SkipIn) (input skip : E) (bias : Option E) : Bool :=
  match checkShape [] input.shape ["B", "S", "D"] with
  | none => false
  | some b1 =>
  match checkShape b1 skip.shape ["B", "S", "D"] with
  | none => false
  | some b2 =>
  match checkShape b2 i.gamma ["D"] with
  | none => false
  | some b3 =>
    let b4? := if i.layer then (match i.beta with
                                | some bs => checkShape b3 bs ["D"]
                                | none => none) else some b3
    match b4? with
    | none => false
    | some b4 =>
      let b5? := match bias with
                 | some e => checkShape b4 e.shape ["D"]
                 | none => some b4
      match b5? with
      | none => false
      | some _ => i.stash.getD 1 == 1

def defaultEps : Float := 1e-5

/-- Rule sets `[pre-bias, post-bias, no-bias]`, first rule whose pattern matches *and* whose check passes. -/
def skip (i : SkipIn) : String :=
  -- the pattern spells `axis=-1`; a node without the attribute does not match
  if i.axis != some (-1) then "count=0" else
  if i.layer && i.beta.isNone then "count=0" else
  let tryRule (v : String) : Option String :=
    match skipMatch v i.top with
    | none => none
    | some (input, sk, bias) =>
      if skipCheck i input sk bias then
        let eps := showF (i.eps.getD defaultEps)
        if i.layer then
          let bn := match bias with | some e => e.show | none => "_"
          some s!"count=1 SkipLayerNormalization@com.microsoft\{epsilon={eps}}({input.show},{sk.show},gamma,beta,{bn})->4"
        else
          let bn := match bias with | some e => "," ++ e.show | none => ""
          some s!"count=1 SkipSimplifiedLayerNormalization@com.microsoft\{epsilon={eps}}({input.show},{sk.show},gamma{bn})->4"
      else none
  match tryRule "pre" with
  | some r => r
  | none => match tryRule "post" with
    | some r => r
    | none => match tryRule "none" with
      | some r => r
      | none => "count=0"

/-! ## GELU (`gelu.py`, `erfgelu.py`) -/

def sqrtTwoOverPi : Float := Float.sqrt (2.0 / 3.141592653589793)
def sqrtTwo : Float := Float.sqrt 2.0

/-- `exact`: positions whose pattern literal is a Python `int` (matched exactly). -/
def allClose (rank1 : Int) (exact : List Nat := []) : Nat → List Float → List Float → Bool
  | _, [], [] => true
  | k, v :: vs, e :: es =>
    (if exact.contains k then constMatchesExact (if rank1 == (k : Int) then 1 else 0) v e
     else constMatches (if rank1 == (k : Int) then 1 else 0) v e) && allClose rank1 exact (k + 1) vs es
  | _, _, _ => false

/-- `fuse_erfgelu` then `fuse_gelu` on one GELU-shaped expression.  `sw[k] = 1` when the k-th binary node of
the generator's form has its operands swapped w.r.t. the form's nominal order. -/
def gelu (form : String) (sw : List Nat) (consts : List Float) (rank1 : Int) : String :=
  let s (k : Nat) := sw.getD k 0
  match form with
  | "tanh" =>
    if sw.all (· == 0) && allClose rank1 [0, 3] 0 consts [3.0, 0.044715, sqrtTwoOverPi, 1.0, 0.5] then
      "count=1 FastGelu@com.microsoft{}(x)->1" else "count=0"
  | _ =>
    let cOk := allClose rank1 [] 0 consts [sqrtTwo, 1.0, 0.5]
    -- three shapes exist: E  = Mul(Mul(x,T), h)   (gelu.py)
    --                     EG1 = Mul(h, Mul(x,T))   (erfgelu rule1)
    --                     EG2 = Mul(x, Mul(h,T))   (erfgelu rule2);  T = Add(Erf(Div(x,√2)), 1)
    let shapeOk := match form with
      | "erf" => s 1 == 0          -- inner Mul(x,T); either outer order is one of E / EG1
      | "eg1" => s 1 == 0
      | "eg2" => s 1 == 0 && s 2 == 0
      | _ => false
    if cOk && s 0 == 0 && shapeOk then "count=1 Gelu@com.microsoft{}(x)->1" else "count=0"

/-! ## BiasGelu (`bias_gelu.py`) -/

/-- `BiasGeluFusion.check` on (`input`, `bias`).  `fixed = true` is the rule of /repo (commit 0030071): bias of
rank 1, input shape known with rank ≥ 1, bias length an `int` equal to the input's last dimension.
`fixed = false` is the rule before that commit (rank of the bias only, finding C19-F1); it is kept only for the
`…_prefix_refuted` theorems. -/
def biasOk (fixed : Bool) (input bias : Option Shape) : Bool :=
  hasRank bias 1 &&
    (!fixed ||
      (match input, bias with
       | some ish, some [.int n] => (match ish.getLast? with
                                      | some (.int m) => n == m
                                      | _ => false)
       | _, _ => false))

/-- `[rule, rule.commuted]` for the chosen Gelu flavour: `Add(input, bias)` then `Add(bias, input)`. -/
def biasGeluV (fixed : Bool) (approxTanh : Bool) (a b : Option Shape) : String :=
  if approxTanh then "count=0"
  else if biasOk fixed a b then "count=1 BiasGelu@com.microsoft{}(a,b)->1"
  else if biasOk fixed b a then "count=1 BiasGelu@com.microsoft{}(b,a)->1"
  else "count=0"

/-- The model of the current code. -/
def biasGelu (approxTanh : Bool) (a b : Option Shape) : String := biasGeluV true approxTanh a b

/-! ## Softmax upcast removal (`softmax.py`) -/

def softmax (dt up down : Nat) (axis : Option Int) : String :=
  if up == 1 && down == 10 && dt == 10 then
    match axis with
    | some a => s!"count=1 Softmax@\{axis={a}}(x)->1"
    | none => "count=1 Softmax@{}(x)->1"
  else "count=0"

/-! ## FusedMatMul rule set (`fused_matmul_rule_sets.py`) -/

structure FAttrs where
  transA : Option Int
  transB : Option Int
  transBatchA : Option Int
  transBatchB : Option Int
  alpha : Option Float

def FAttrs.empty : FAttrs := ⟨none, none, none, none, none⟩

def FAttrs.show (a : FAttrs) : String :=
  let parts :=
    (match a.alpha with | some v => [s!"alpha={showF v}"] | none => []) ++
    (match a.transA with | some v => [s!"transA={v}"] | none => []) ++
    (match a.transB with | some v => [s!"transB={v}"] | none => []) ++
    (match a.transBatchA with | some v => [s!"transBatchA={v}"] | none => []) ++
    (match a.transBatchB with | some v => [s!"transBatchB={v}"] | none => [])
  ";".intercalate parts

/-! Axis maps: `p k` = the *input* axis that output axis `k` of `Transpose(·, perm=p)` reads. -/

/-- swap of the last two axes (`transA`/`transB`) -/
def axSwap (n k : Nat) : Nat := if k + 2 = n then n - 1 else if k + 1 = n then n - 2 else k
/-- `[1, …, N-1, 0]` -/
def axRotL (n k : Nat) : Nat := if k + 1 = n then 0 else k + 1
/-- `[N-1, 0, …, N-2]` -/
def axRotR (n k : Nat) : Nat := if k = 0 then n - 1 else k - 1
/-- `[1, …, N-2, 0, N-1]` (`transBatch`) -/
def axBatch (n k : Nat) : Nat := if k + 1 = n then n - 1 else if k + 2 = n then 0 else k + 1
/-- `[N-2, 0, …, N-3, N-1]` -/
def axBatchInv (n k : Nat) : Nat := if k + 1 = n then n - 1 else if k = 0 then n - 2 else k - 1
/-- `[N-1, 1, …, N-2, 0]` -/
def axSwap0L (n k : Nat) : Nat := if k = 0 then n - 1 else if k + 1 = n then 0 else k

def permOf (f : Nat → Nat → Nat) (n : Nat) : List Int := (List.range n).map (fun k => Int.ofNat (f n k))

def permSwap := permOf axSwap
def permRotL := permOf axRotL
def permRotR := permOf axRotR
def permBatch := permOf axBatch
def permBatchInv := permOf axBatchInv
def permSwap0L := permOf axSwap0L

structure FmmIn where
  kind : String            -- div | t1 | t2 | mt
  rank : Nat               -- rank of both operands when they agree
  xRank : Nat := rank      -- rank of the first operand (before its Transpose, if any)
  yRank : Nat := rank      -- rank of the second operand
  inner : Option FAttrs    -- none: plain MatMul
  perm : Option (List Int)
  cstConst : Bool
  cstShape : List Nat
  cst : Float
  /-- `true` (the default, what the driver uses) = the rule of /repo after commits a12b4ef (F3: flag swap in
      `MatMulTranspose.rewrite`), fe00de2 (F4: rank ≥ 3 in the batch rules), 549a083 (F5: `get_ints("perm")`),
      6dfb298 (F9: divisor of rank ≤ 1 with exactly one element).  `false` = the rule before that commit, kept
      only for the `…_prefix_refuted` theorems. -/
  fix3 : Bool := true
  fix4 : Bool := true
  fix5 : Bool := true
  fix9 : Bool := true
  /-- `true` (default, what the driver uses) = /repo after commit d043511: the batch rules require the OTHER
      operand to have rank `len(perm)`.  `false` = the rule before that commit (finding C19-F15), kept only for
      the `…_prefix_refuted` theorem. -/
  fix15 : Bool := true

def flip (v : Option Int) : Option Int := some (1 - v.getD 0)

/-- `(transA, transB)` emitted by `MatMulTranspose.rewrite` for an inner `(a, b)` (operands are swapped):
before commit a12b4ef `(1-a, 1-b)` (finding C19-F3); now `(1-b, 1-a)`. -/
def mtFlags (fixed : Bool) (a b : Int) : Int × Int :=
  if fixed then (1 - b, 1 - a) else (1 - a, 1 - b)

def fmmOut (a : FAttrs) (swapped : Bool) : String :=
  s!"count=1 FusedMatMul@com.microsoft\{{a.show}}({if swapped then "y,x" else "x,y"})->1"

/-- Decision of the three batch-transpose rules, in rule order (FlippedBatch, FlippedBatchAndTranspose,
BatchAndTranspose), for a Transpose `perm = p` in front of an operand whose `transBatch` flag is `tb`:
`some (flipBatch, flipTrans)` or `none`. -/
def batchRule (tb : Int) (p : List Int) : Option (Bool × Bool) :=
  let n := p.length
  if p == (if tb == 0 then permBatch n else permBatchInv n) then some (true, false)
  else if p == (if tb == 0 then permRotL n else permRotR n) then some (true, true)
  else if p == permSwap0L n && tb == 1 then some (false, true)
  else none

/-- The rule list of `fused_matmul_rule_sets()` in order; `EXC` = the rewriter raises. -/
def fmm (i : FmmIn) : String :=
  let size := i.cstShape.foldl (· * ·) 1
  match i.kind with
  | "div" =>
    if !(i.cstConst && size ≤ 1) then "count=0" else
    -- repaired check: exactly one element and rank ≤ 1
    if i.fix9 && !(size == 1 && i.cstShape.length ≤ 1) then "count=0" else
    -- `float(value[0] if value.shape == (1,) else value)`: NumPy ≥ 2 refuses float() of a rank ≥ 2 (or rank-1
    -- handled above) array → the rewrite raises TypeError
    if i.cstShape.length ≥ 2 then "EXC" else
    (match i.inner with
     | none => fmmOut { FAttrs.empty with alpha := some (1.0 / i.cst) } false
     | some a => fmmOut { a with alpha := some ((a.alpha.getD 1.0) / i.cst) } false)
  | "mt" =>
    -- (Fused)MatMulTranspose: both operands rank 2, perm absent or (1,0)
    let ok := i.xRank == 2 && i.yRank == 2 && (match i.perm with | none => true | some p => p.isEmpty || p == [1, 0])
    if !ok then "count=0" else
    let a := i.inner.getD FAttrs.empty
    let (ta, tb) := mtFlags i.fix3 (a.transA.getD 0) (a.transB.getD 0)
    fmmOut { a with transA := some ta, transB := some tb } true
  | k =>
    if k != "t1" && k != "t2" then "count=0" else
    let pos1 := k == "t1"
    let a := i.inner.getD FAttrs.empty
    let tb := ((if pos1 then a.transBatchA else a.transBatchB).getD 0)
    -- rules 5–8: Transpose(Fused)MatMul1/2
    -- a Transpose without `perm` reverses ALL axes: only for a rank-2 *transposed operand* is that transA/transB
    let opRank := if pos1 then i.xRank else i.yRank
    let basicOk :=
      (match i.perm with
       | some p => if p.isEmpty then opRank == 2 else p == permSwap p.length
       | none => opRank == 2) && (i.inner.isNone || tb == 0)
    if basicOk then
      fmmOut (if pos1 then { a with transA := flip a.transA } else { a with transB := flip a.transB }) false
    else if i.inner.isNone then "count=0"
    else
      match i.perm with
      | none => if i.fix5 then "count=0" else "EXC"   -- `transposed_node.attributes["perm"]` → KeyError
      | some p =>
        if p.isEmpty then "count=0" else
        let n := p.length
        if i.fix15 && (if pos1 then i.yRank else i.xRank) != n then "count=0" else
        if i.fix4 && n < 3 then "count=0" else
        let flipB (x : FAttrs) := if pos1 then { x with transBatchA := flip x.transBatchA } else { x with transBatchB := flip x.transBatchB }
        let flipT (x : FAttrs) := if pos1 then { x with transA := flip x.transA } else { x with transB := flip x.transB }
        match batchRule tb p with
        | some (fb, ft) => fmmOut ((if ft then flipT else id) ((if fb then flipB else id) a)) false
        | none => "count=0"

/-! ## Rotary embedding, cos/sin cache, partial rotary (`rotary_embedding.py`, `cos_sin_cache.py`) -/

structure RopeIn where
  x : Option Shape          -- the model input
  xe : Option Shape         -- the value that is rotated (x itself, or its leading slice when partial)
  sl : List Int             -- start1, end1, start2, end2
  partialRot : Bool
  pEnd1 : Int
  pStart2 : Int
  posRank : Nat
  inv0 : Nat                -- leading dim of the (constant-folded) inv_freq tensor
  odd : Bool
  cast16 : Bool := false    -- Cos/Sin are cast to float16 before use (rules `CosSinCache_cast…`); a Cast to the
                            -- type they already have is removed by `optimize` and never reaches the rule
  posConst : Bool := false  -- position_ids is a constant: `optimize` folds the whole cos/sin computation away

/-- `RotaryEmbeddingFusion.check`; returns num_heads. -/
def rotaryCheck (xe : Option Shape) (sl : List Int) : Option Nat :=
  match xe, sl with
  | some [_, .int h, _, .int d], [s1, e1, s2, e2] =>
    let half : Int := (d / 2 : Nat)
    if s1 == 0 && e1 == half && s2 == half && e2 ≥ (d : Int) then some h else none
  | _, _ => none

/-- The three rotary stages in the order `fuse_xformers` runs them — `fuse_rotary_embedding`, `fuse_cos_sin_cache`,
(CSE,) `fuse_partial_rotary_embedding` — as counts, plus `num_heads`.  Each stage consumes the previous one's node:
the cos/sin-cache rule matches the `ai.onnxruntime._fusion` RotaryEmbedding the first stage emits, the partial rule
the `com.microsoft` RotaryEmbedding the second emits. -/
def ropeStages (i : RopeIn) : Nat × Nat × Nat × Nat :=
  match rotaryCheck i.xe i.sl with
  | none => (0, 0, 0, 0)
  | some h =>
    -- the cos/sin-cache pattern needs emb = Concat(freqs, freqs): impossible for an odd rotary dim;
    -- `inv_freq` must be a constant of shape [1, ., 1]; constant position ids are folded away by `optimize`
    if i.odd || i.inv0 != 1 || i.posConst then (1, 0, 0, h)
    else if i.partialRot && i.pEnd1 == i.pStart2 then (1, 1, 1, h)
    else (1, 1, 0, h)

def rope (i : RopeIn) : String :=
  let (c1, c2, c3, h) := ropeStages i
  if c2 == 0 then s!"count={c1}/0/0" else
    let pos := if i.posRank == 1 then "@Unsqueeze" else "position_ids"
    -- the cast rules re-apply the Cast to the rebuilt cache
    let cs := if i.cast16 then "@Cast,@Cast" else "@Cos,@Sin"
    if c3 == 1 then
      s!"count=1/1/1 RotaryEmbedding@com.microsoft\{interleaved=0;num_heads={h};rotary_embedding_dim={i.pEnd1}}(x,{pos},{cs})->1"
    else
      let xn := if i.partialRot then "@Slice" else "x"
      s!"count=1/1/0 RotaryEmbedding@com.microsoft\{interleaved=0;num_heads={h}}({xn},{pos},{cs})->1"

/-! ## SDPA (`sdpa.py`) and its MHA realisation (`sdpa_via_mha.py`) -/

structure Scaling where
  op : String      -- Mul | Div
  isConst : Bool
  value : Float

structure SdpaIn where
  q : Option Shape
  k : Option Shape
  v : Option Shape
  kpat : Nat        -- 1: Transpose(0,1,3,2)  2: Reshape/Transpose/Reshape  3: Transpose(0,2,3,1)
  permOk : Bool
  mask : Bool
  qs : Option Scaling
  ks : Option Scaling
  qks : Option Scaling

def scaleValue : Option Scaling → Option Float
  | none => some 1.0
  | some s => if !s.isConst then none else some (if s.op == "Mul" then s.value else 1.0 / s.value)

/-- `SDPA.check`: (key_format, H, emitted scale) or `none`. -/
def sdpaCheck (i : SdpaIn) : Option (String × Dim × Option Float) :=
  if !i.permOk then none else
  let fmt := if i.kpat == 3 then "BSHd" else "BHSd"
  match checkShape [] i.q ["B", "H", "S", "Dh"] with
  | none => none
  | some b1 =>
  match checkShape b1 i.k (if fmt == "BHSd" then ["B", "H", "Skv", "Dh"] else ["B", "Skv", "H", "Dh"]) with
  | none => none
  | some b2 =>
  match checkShape b2 i.v ["B", "H", "Skv", "Dv"] with
  | none => none
  | some b3 =>
  match scaleValue i.qs, scaleValue i.ks, scaleValue i.qks with
  | some a, some b, some c =>
    let scale := a * b * c
    let h := (b3.lookup "H").getD .unk
    match b3.lookup "Dh" with
    | some (.int d) =>
      let dflt := 1.0 / Float.sqrt d.toFloat
      some (fmt, h, if isclose scale dflt 1e-5 1e-8 then none else some scale)
    | _ => some (fmt, h, some scale)
  | _, _, _ => none

/-- What `replace_sdpa_by_mha` (`sdpa_via_mha.py`) builds around `MultiHeadAttention` for `num_heads = h`:
per operand the `Transpose` perm (none for a key already in BSHd layout) and the constant `Reshape` shape that bring
`(B,H,S,d)` to `(B,S,H·d)`; the `Reshape` shape and `Transpose` perm that bring the result back to `(B,H,S,Dv)`;
and the `scale` attribute, which is the SDPA node's own (absent stays absent: both operators then default to
`1/sqrt(head size of the query)`, see `sdpa_via_mha_default_scale`). -/
structure ViaMha where
  qPerm : Option (List Int)
  kPerm : Option (List Int)
  vPerm : Option (List Int)
  to3d : List Int
  to4d : List Int
  outPerm : List Int
  numHeads : Nat
  deriving DecidableEq, Repr

def viaMha (fmt : String) (h : Nat) : ViaMha :=
  { qPerm := some [0, 2, 1, 3], kPerm := if fmt == "BHSd" then some [0, 2, 1, 3] else none, vPerm := some [0, 2, 1, 3],
    to3d := [0, 0, -1], to4d := [0, 0, (h : Int), -1], outPerm := [0, 2, 1, 3], numHeads := h }

def showInts (sep : String) (l : List Int) : String := sep.intercalate (l.map toString)

def ViaMha.show (v : ViaMha) : String :=
  let one (p : Option (List Int)) := (match p with | some q => "T" ++ showInts "" q | none => "") ++ "R" ++ showInts "/" v.to3d
  s!"via={one v.qPerm}|{one v.kPerm}|{one v.vPerm}|R{showInts "/" v.to4d}T{showInts "" v.outPerm}"

def sdpa (i : SdpaIn) : String :=
  match sdpaCheck i with
  | none => "count=0/0"
  | some (fmt, h, scale) =>
    let sc := match scale with | some s => s!";scale={showF s}" | none => ""
    let m := if i.mask then ",mask" else ""
    let rec1 := s!"SDPA@ai.onnxruntime._fusion\{key_format=q{fmt}{sc}}(query,key,value{m})->1"
    match h with
    | .int n =>
      let sc2 := match scale with | some s => s!";scale={showF s}" | none => ""
      let m2 := if i.mask then ",_,_,@Expand" else ""
      s!"count=1/1 {rec1} ; {(viaMha fmt n).show} MultiHeadAttention@com.microsoft\{num_heads={n}{sc2}}(@Reshape,@Reshape,@Reshape{m2})->1"
    | _ => s!"count=1/0 {rec1} ;"

/-! ## MultiHeadAttention (`mha.py`), on the graphs the harness builds (self-attention, no rotary) -/

structure MhaIn where
  past : Bool
  keyT : Bool
  qPermOk : Bool
  cross : Bool := false         -- cross-attention rules: key/value are already (B,H,Skv,Dh); no past allowed
  rotary : Bool := false        -- com.microsoft.RotaryEmbedding on the transposed query and key
  rotIl : Int := 0              -- their `interleaved` attribute (the harness gives both nodes the same value)
  /-- `true` (default, what the driver uses) = /repo after commit 9411688: `interleaved` is forwarded to the
      re-created nodes.  `false` = the rule before that commit (finding C19-F14), kept for `…_prefix_refuted`. -/
  fix14 : Bool := true
  scale : Option Float          -- the SDPA node's `scale` attribute
  query : Option Shape
  key : Option Shape
  value : Option Shape
  q4 : Option Shape
  pastKey : Option Shape
  pastValue : Option Shape
  mask : Option (Option Shape)  -- `none`: SDPA has three inputs

def mha (i : MhaIn) : String :=
  let fail := "count=1/0/0"
  if !i.qPermOk then fail else
  match checkShape [] i.query ["B", "S", "D"] with
  | none => fail
  | some b1 =>
  match checkShape b1 i.q4 ["B", "S", "H", "Dh"] with
  | none => fail
  | some b2 =>
  match checkShape b2 i.key (if i.cross then ["B", "H", "Skv", "Dh"] else ["B", "Skv", "D"]) with
  | none => fail
  | some b3 =>
  match checkShape b3 i.value (if i.cross then ["B", "H", "Skv", "Dv"] else ["B", "Skv", "D"]) with
  | none => fail
  | some b4 =>
    let b6? := if i.cross then (if i.past then none else some b4) else if i.past then
        (match checkShape b4 i.pastKey ["B", "H", "Spast", "Dh"] with
         | none => none
         | some b5 => checkShape b5 i.pastValue ["B", "H", "Spast", "Dv"])
      else some b4
    match b6? with
    | none => fail
    | some b6 =>
      -- mask: rank 4 → dim 2 must be S (no broadcast) or 1 (Expand); rank 2 → Expand; else reject
      let maskR : Option String :=
        match i.mask with
        | none => some "_"
        | some none => none
        | some (some ms) =>
          if ms.length == 4 then
            (match checkShape b6 (some ms) ["B_or_1", "H_or_1", "S_or_1", "St"] with
             | none => none
             | some b7 =>
               let d2 := (b7.lookup "S_or_1").getD .unk
               let s := (b7.lookup "S").getD .unk
               if d2.pyEq s then some "mask" else if d2 == .int 1 then some "@Expand" else none)
          else if ms.length == 2 then some "@Expand" else none
      match maskR, (b6.lookup "H") with
      | some m, some (.int h) =>
        let sc := match i.scale with | some s => s!";scale={showF s}" | none => ""
        -- rotary rules: the rewrite re-emits RotaryEmbedding on the 3-D inputs; since commit 9411688 with the
        -- matched nodes' `interleaved` (before: without any attribute, finding C19-F14)
        let ra := if i.fix14 then s!"interleaved={i.rotIl}" else ""
        let pre := if i.rotary then
            s!"RotaryEmbedding@com.microsoft\{{ra}}(query,position_ids,cos,sin)->1 RotaryEmbedding@com.microsoft\{{ra}}(key,position_ids,cos,sin)->1 "
          else ""
        let qk := if i.rotary then "@RotaryEmbedding,@RotaryEmbedding" else "query,key"
        if i.cross then
          -- key/value are brought to (B,Skv,H·Dh) by Transpose(0,2,1,3) + Reshape([0,0,-1])
          s!"count=1/0/1 MultiHeadAttention@com.microsoft\{num_heads={h}{sc}}(query,@Reshape,@Reshape,_,_,{m},_,_)->1"
        else if i.past then
          s!"count=1/1/0 {pre}MultiHeadAttention@com.microsoft\{num_heads={h}{sc}}({qk},value,_,_,{m},past_key,past_value)->3"
        else
          s!"count=1/0/1 {pre}MultiHeadAttention@com.microsoft\{num_heads={h}{sc}}({qk},value,_,_,{m},_,_)->1"
      | _, _ => fail

/-! ## InstanceNormalization → GroupNorm (`instance_to_group_normalization.py`) -/

structure I2gIn where
  x : Shape
  g : Nat
  wnConst : Bool
  wOnes : Bool
  bZeros : Bool
  wf : Shape
  bf : Shape
  adj : Option (List Int)     -- constant value of the first Reshape's shape, if constant
  orig : Option (List Int)    -- constant value of the second Reshape's shape, if constant
  eps : Float

def dimIsOne : Dim → Bool
  | .int 1 => true
  | _ => false

def dimEqInt (d : Dim) (v : Int) : Bool :=
  match d with
  | .int n => (n : Int) == v
  | _ => false

def listEqShape : List Int → Shape → Bool
  | [], [] => true
  | v :: vs, d :: ds => dimEqInt d v && listEqShape vs ds
  | _, _ => false

/-- `check_if_simulated_instance_norm_is_used` -/
def i2gOk (i : I2gIn) : Bool :=
  i.wnConst && i.wOnes && i.bZeros
    && i.wf.length == i.x.length - 1 && i.bf.length == i.x.length - 1
    && i.x.length == 4
    && (i.wf.drop 1).all dimIsOne && (i.bf.drop 1).all dimIsOne
    && i.adj == some [0, (i.g : Int), -1]
    && (match i.orig with | some o => listEqShape o i.x | none => false)

def i2g (i : I2gIn) : String :=
  if i2gOk i then
    s!"count=1 GroupNorm@com.microsoft\{activation=0;channels_last=1;epsilon={showF i.eps};groups={i.g}}(@Transpose,@Reshape,@Reshape)->1"
  else "count=0"

/-! ## Attention (`attention.py`) -/

structure AttnIn where
  noSlice : Bool
  past : Bool
  heads : Nat
  sl : List Int     -- start1,end1,start2,end2,start3,end3
  scale : Option Float
  input : Option Shape
  weight : Option Shape
  projected : Option Shape
  qS : Option Shape
  kS : Option Shape
  vS : Option Shape
  wq : Option Shape
  wk : Option Shape
  wv : Option Shape

def lookupInt (b : Bindings) (n : String) : Option Nat :=
  match b.lookup n with
  | some (.int k) => some k
  | _ => none

def attn (i : AttnIn) : String :=
  let fail := "count=0"
  match checkShape [] i.input ["B", "S", "D"] with
  | none => fail
  | some b1 =>
    let b? : Option Bindings :=
      if !i.noSlice then
        match i.projected, i.sl with
        | some [_, _, .int hidden], [s1, e1, s2, e2, s3, e3] =>
          if !(s1 == 0 && e1 == s2 && e2 == s3 && e3 ≥ (hidden : Int)) then none else
          (match checkShape b1 i.weight ["D", "Dh"] with
           | none => none
           | some b2 => match checkShape b2 i.qS ["B", "S", "Dh_q"] with
             | none => none
             | some b3 => match checkShape b3 i.kS ["B", "S", "Dh_k"] with
               | none => none
               | some b4 => checkShape b4 i.vS ["B", "S", "Dh_v"])
        | _, _ => none
      else
        match checkShape b1 i.wq ["D", "Dh_q"] with
        | none => none
        | some b2 => match checkShape b2 i.wk ["D", "Dh_k"] with
          | none => none
          | some b3 => checkShape b3 i.wv ["D", "Dh_v"]
    match b? with
    | none => fail
    | some b =>
      match lookupInt b "Dh_q", lookupInt b "Dh_k", lookupInt b "Dh_v" with
      | some dq, some dk, some dv =>
        let sumOk := i.noSlice || (match lookupInt b "Dh" with | some d => d == dq + dk + dv | none => false)
        if !sumOk then fail else
        let sc := match i.scale with | some s => s!";scale={showF s}" | none => ""
        let w := if i.noSlice then "@Concat" else "weight"
        if i.past then
          s!"count=1 Attention@com.microsoft\{num_heads={i.heads};qkv_hidden_sizes=[{dq}/{dk}/{dv}]{sc}}(input,{w},bias,_,past,_)->2"
        else
          s!"count=1 Attention@com.microsoft\{num_heads={i.heads};qkv_hidden_sizes=[{dq}/{dk}/{dv}]{sc}}(input,{w},bias,_,_,_,_)->1"
      | _, _, _ => fail

/-! ## GroupQueryAttention (`gqa.py`) on the Phi-style source graph of `gqa_test.py` -/

structure GqaIn where
  query : Option Shape
  key : Option Shape
  value : Option Shape
  pastKey : Option Shape
  pastValue : Option Shape
  q4 : Option Shape          -- query after Reshape to (B,S,H,Dh)
  k4 : Option Shape          -- key after Reshape to (B,S,Hkv,Dh)
  ilq : Int                  -- `interleaved` of the two RotaryEmbedding nodes
  ilk : Int
  maskOk : Bool              -- is the mask really the causal-mask pattern?  (NOT consulted, see below)
  /-- `true` (default) = /repo after commit 971aae6: no fusion when the head size (dim 3 of `q4`) is a known
      non-multiple of 16.  `false` = the rule before that commit (finding C19-F11). -/
  fix11 : Bool := true

def dimAt (s : Option Shape) (k : Nat) : Option Dim :=
  match s with
  | some l => l[k]?
  | none => none

/-- `GroupQueryAttention.check` + the attributes of `rewrite`.  The mask test of the code,
`_causal_mask_pattern.match(...) is None`, never fails on a structural mismatch (`match` returns a *failed
MatchResult*, not `None`), so `maskOk` does not enter the decision (finding C19-F13). -/
def gqa (i : GqaIn) : String :=
  let fail := "count=1/0"
  match checkShape [] i.query ["B", "S", "D"] with
  | none => fail
  | some b1 =>
  match checkShape b1 i.key ["B", "S", "Dkv"] with
  | none => fail
  | some b2 =>
  match checkShape b2 i.value ["B", "S", "Dkv"] with
  | none => fail
  | some b3 =>
  match checkShape b3 i.pastKey ["B", "Hkv", "P", "Dh"] with
  | none => fail
  | some b4 =>
  match checkShape b4 i.pastValue ["B", "Hkv", "P", "Dv"] with
  | none => fail
  | some _ =>
    match dimAt i.q4 2, dimAt i.k4 2 with
    | some (.int h), some (.int hkv) =>
      let badHead := match dimAt i.q4 3 with
        | some (.int dh) => dh % 16 != 0
        | _ => false
      if i.fix11 && badHead then fail else
      if i.ilq != i.ilk then fail else
      s!"count=1/1 GroupQueryAttention@com.microsoft\{do_rotary=1;kv_num_heads={hkv};num_heads={h};rotary_interleaved={i.ilq}}(query,key,value,past_key,past_value,@Cast,@Add,cos,sin)->3"
    | _, _ => fail

/-! ## Packed QKV for GQA (`gqa_packed_qkv.py`) -/

structure PqkvIn where
  packed : Option Shape
  qS : Option Shape
  kS : Option Shape
  vS : Option Shape
  h : Nat
  hkv : Nat
  il : Int
  sl : List Int       -- start1,end1,start2,end2,start3,end3
  axisOk : Bool       -- the three Slices are on axis 2 with step 1 (pattern constants)

/-- The split the check demands: `(head, q_hidden, kv_hidden)` from the packed hidden size. -/
def packedSplit (hidden h hkv : Nat) : Nat × Nat × Nat :=
  let head := hidden / (h + 2 * hkv)
  (head, head * h, head * hkv)

def pqkv (i : PqkvIn) : String :=
  let fail := "count=0"
  if !i.axisOk then fail else
  match i.packed, i.sl with
  | some [_, _, .int hidden], [s1, e1, s2, e2, s3, e3] =>
    let (_, qh, kvh) := packedSplit hidden i.h i.hkv
    if !(s1 == 0 && e1 == (qh : Int) && s2 == (qh : Int) && e2 == ((qh + kvh : Nat) : Int)
         && s3 == ((qh + kvh : Nat) : Int) && e3 ≥ (hidden : Int)) then fail else
    (match checkShape [] i.packed ["B", "S", "D"] with
     | none => fail
     | some b1 => match checkShape b1 i.qS ["B", "S", "Dq"] with
       | none => fail
       | some b2 => match checkShape b2 i.kS ["B", "S", "Dkv"] with
         | none => fail
         | some b3 => match checkShape b3 i.vS ["B", "S", "Dkv"] with
           | none => fail
           | some b4 =>
             match lookupInt b4 "D", lookupInt b4 "Dq", lookupInt b4 "Dkv" with
             | some d, some dq, some dkv =>
               if dq + 2 * dkv != d then fail else
               s!"count=1 GroupQueryAttention@com.microsoft\{do_rotary=1;kv_num_heads={i.hkv};num_heads={i.h};rotary_interleaved={i.il}}(packed,_,_,past_key,past_value,@Constant,@Constant,cos,sin)->3"
             | _, _, _ => fail)
  | _, _ => fail

/-! ## `mha_scale.py` then `mha_bias.py` on a `com.microsoft.MultiHeadAttention` node -/

structure MhabIn where
  qm : Option Shape
  km : Option Shape
  vm : Option Shape
  qbias : Option Shape     -- shape of the value added to the query projection (when `qb`)
  qmul : Option Shape := none  -- inferred shape of `Mul(query, pre)` (it stays in front of MHA when `pre` is not constant)
  dt : Nat
  qb : Bool
  kb : Bool
  vb : Bool
  biasFirst : Bool         -- the Adds are written `Add(bias, matmul)`
  heads : Nat
  pre : Option Float       -- `Mul(query, pre)` in front of the MHA node
  preConst : Bool
  ascale : Option Float    -- the node's own `scale` attribute
  mask : Bool
  /-- `true` (default, what the driver uses) = /repo after commit 639f07c: every matched bias is 1-D of its
      projection's hidden size.  `false` = the rule before that commit (finding C19-F12), kept for `…_prefix_refuted`. -/
  fix12 : Bool := true
  /-- the source MHA node already has a packed `bias` input (index 3) -/
  bias0 : Bool := false
  /-- `true` (default, what the driver uses) = /repo after commit a202620: `FuseMHAScale.check` fails when the node has
      a bias input.  `false` = the rule before that commit (finding C19-F16), kept for `…_prefix_refuted`. -/
  fix16 : Bool := true

def mhab (i : MhabIn) : String :=
  -- fuse_mha_scale: the Mul's second operand must be a one-element numeric constant; the node must have no bias input
  let c1 := i.pre.isSome && i.preConst && !(i.fix16 && i.bias0)
  let scale1 : Option Float :=
    if c1 then
      match i.pre, dimAt i.qm 2 with
      | some p, some (.int d) =>
        let orig := match i.ascale with
          | some a => a
          | none => 1.0 / Float.sqrt ((d / i.heads).toFloat)
        some (p * orig)
      | _, _ => i.ascale
    else i.ascale
  -- what the MHA node's first input is after that
  let mulLeft := i.pre.isSome && !c1
  -- fuse_mha_bias: `OrValue([Add(matmul, bias), matmul])` per projection, Add not commuted
  -- result: (bias matched?, shape bound as projection, its name, shape bound as bias)
  let pick (on : Bool) (mat bias : Option Shape) (matN biasN : String)
      : Bool × Option Shape × String × Option Shape :=
    if on then (if i.biasFirst then (true, bias, biasN, mat) else (true, mat, matN, bias))
    else (false, mat, matN, none)
  let (hq, qsh, qn, qbs) := if mulLeft then (false, i.qmul, "@Mul", none) else pick i.qb i.qm i.qbias "qm" "qbias"
  let dshape : Option Shape := match i.qm with
    | some l => l.getLast?.map (fun d => [d])
    | none => none
  let (hk, ksh, kn, kbs) := pick i.kb i.km dshape "km" "kbias"
  let (hv, vsh, vn, vbs) := pick i.vb i.vm dshape "vm" "vbias"
  let biasFits (has : Bool) (bs : Option Shape) (hidden : Option Nat) : Bool :=
    !has || (match bs, hidden with
             | some [.int n], some d => n == d
             | _, _ => false)
  let okBias :=
    !i.bias0 && (hq || hk || hv) && (i.dt == 1 || i.dt == 10) &&
    (match checkShape [] qsh ["B", "S", "D"] with
     | none => false
     | some b1 => match checkShape b1 ksh ["B", "Skv", "Dk"] with
       | none => false
       | some b2 => match checkShape b2 vsh ["B", "Skv", "Dv"] with
         | none => false
         | some b3 => (lookupInt b3 "D").isSome && (lookupInt b3 "Dk").isSome && (lookupInt b3 "Dv").isSome
             && (!i.fix12 || (biasFits hq qbs (lookupInt b3 "D") && biasFits hk kbs (lookupInt b3 "Dk")
                              && biasFits hv vbs (lookupInt b3 "Dv"))))
  let sc := match scale1 with | some s => s!";scale={showF s}" | none => ""
  let head := s!"count={if c1 then 1 else 0}/{if okBias then 1 else 0}"
  if okBias then
    s!"{head} MultiHeadAttention@com.microsoft\{num_heads={i.heads}{sc}}({qn},{kn},{vn},@Concat,_,{if i.mask then "mask" else "_"},_,_)->1"
  else if c1 then
    let q0 := if i.qb then "@Add" else "qm"
    let k0 := if i.kb then "@Add" else "km"
    let v0 := if i.vb then "@Add" else "vm"
    s!"{head} MultiHeadAttention@com.microsoft\{num_heads={i.heads}{sc}}({q0},{k0},{v0}{if i.mask then ",_,_,mask" else ""})->1"
  else head

/-! ## Pipeline level: the attention stages of `_core.fuse_xformers` on one attention block -/

structure PipeIn where
  qm : Option Shape        -- the query projection (B,S,D)
  heads : Nat
  qProj : String           -- how the query fed to attention is built from it: none | scale | bias | scale_bias | bias_scale
  kb : Bool                -- key / value projections carry a bias
  vb : Bool
  s : Float                -- the scale constant
  sdpaScale : Option Float -- `scale` of the SDPA node (`none`: default 1/√Dh)
  mask : Bool
  mask1d : Bool := false   -- the mask has rank 1: accepted by SDPA, refused by every MHA rule

/-- What sits on top of a projection on its way into attention (innermost first). -/
inductive QOp where
  | mul   -- `Mul(·, s)` with a one-element constant `s`
  | add   -- `Add(·, b)` with a 1-D bias `b`
  deriving DecidableEq, Repr

/-- `fuse_mha_scale`: only a `Mul` that feeds MHA *directly* (the outermost op) is folded. -/
def peelMul (ops : List QOp) : List QOp × Bool :=
  if ops.getLast? = some .mul then (ops.dropLast, true) else (ops, false)

/-- `fuse_mha_bias`: only an `Add` that feeds MHA directly is folded. -/
def peelAdd (ops : List QOp) : List QOp × Bool :=
  if ops.getLast? = some .add then (ops.dropLast, true) else (ops, false)

/-- **The stage order of `fuse_xformers`: `mha_scale` ONCE, then `mha_bias`** (Float-free core of `pipe`).
Result: (what is left in front of MHA's query, was the scale folded, was the query bias folded).  `otherBias`: the
key or value projection has a bias (then `mha_bias` fires even without a query bias). -/
def pipeStages (ops : List QOp) (otherBias : Bool) : List QOp × Bool × Bool :=
  let (o1, ms) := peelMul ops
  let (o2, qb) := peelAdd o1
  if qb || otherBias then (o2, ms, qb) else (o1, ms, false)

/-- The order `fuse_xformers` runs the attention stages in — `sdpa`, `mha1/mha2`, **`mha_scale` once, then
`mha_bias`**, then `attention` — on a block whose query is the projection with a `Mul` and/or an `Add` on top
(outermost last).  `mha_scale` only sees a `Mul` that feeds MHA directly; `mha_bias` then only an `Add`.  In
particular for `q = (x·Wq)·s + b` the bias is folded and the `Mul` STAYS in front of MHA: folding it into `scale`
afterwards would also scale the bias (MHA adds its packed bias before scaling the scores). -/
def pipe (i : PipeIn) : String :=
  -- `if mha1 == 0 and mha2 == 0: mha_bias = attention = 0` — the bias / attention stages are skipped altogether;
  -- `mha_scale` (which runs before that test) finds no MHA node; `replace_sdpa_by_mha` realises the SDPA at the end
  if i.mask1d then
    let sc := match i.sdpaScale with | some v => s!";scale={showF v}" | none => ""
    s!"count=1/0/0/0/0 MultiHeadAttention@com.microsoft\{num_heads={i.heads}{sc}}(*)->1"
  else
  let ops0 : List QOp := match i.qProj with
    | "scale" => [.mul]
    | "bias" => [.add]
    | "scale_bias" => [.mul, .add]
    | "bias_scale" => [.add, .mul]
    | _ => []
  let headSize : Nat := match dimAt i.qm 2 with
    | some (.int d) => d / i.heads
    | _ => 0
  let (opsF, ms, qb) := pipeStages ops0 (i.kb || i.vb)
  let mb := qb || i.kb || i.vb
  let scale : Option Float :=
    if ms then some (i.s * (i.sdpaScale.getD (1.0 / Float.sqrt headSize.toFloat))) else i.sdpaScale
  let qn := match opsF.getLast? with
    | some .mul => "@Mul"
    | some .add => "@Add"
    | none => "qm"
  let kn := if i.kb && !mb then "@Add" else "km"
  let vn := if i.vb && !mb then "@Add" else "vm"
  let sc := match scale with | some v => s!";scale={showF v}" | none => ""
  let tail := (if mb then ",@Concat" else "") ++
    (if i.mask then (if mb then ",_,mask" else ",_,_,mask") else "")
  s!"count=1/1/{if ms then 1 else 0}/{if mb then 1 else 0}/0 MultiHeadAttention@com.microsoft\{num_heads={i.heads}{sc}}({qn},{kn},{vn}{tail})->1"

/-! ## `shape_optimization.ExtractDim` (runs in `_pre_optimize` inside `fuse_xformers` / `optimize_for_ort`) -/

/-- Python `l[start:end]` (step 1) on a list of length `n`: the two clamped bounds (`PySlice_AdjustIndices`). -/
def pyBound (n : Nat) (v : Int) : Nat :=
  if v < 0 then (if v + n < 0 then 0 else (v + n).toNat) else (if v > n then n else v.toNat)

def pySlice {α : Type} (l : List α) (s e : Int) : List α :=
  (l.take (pyBound l.length e)).drop (pyBound l.length s)

structure ExtractIn where
  nSliceInputs : Nat          -- 3: Slice(shape, starts, ends); 4: + axes; 5: + steps
  start : Int
  stop : Int
  startConst : Bool           -- starts is a one-element constant (ends always is, in the generated graphs)
  allowzero : Option Int      -- attribute of the Reshape
  perm : List Int             -- attribute of the Transpose
  shapeStart : Option Int     -- attributes of the Shape node
  shapeEnd : Option Int
  dimsKnown : Bool            -- each of the four concatenated dims has the static shape [1]

/-- `ExtractDim`: pattern + `check`.  The pattern's `op.Slice(final_shape, start, end)` has exactly three inputs:
a Slice that spells out `axes` (and `steps`) does not match, so a non-unit step can never be taken for step 1. -/
def extractOk (i : ExtractIn) : Bool :=
  i.nSliceInputs == 3 && i.allowzero == some 1 && i.perm == [0, 2, 1, 3]
    && i.dimsKnown && i.shapeEnd.isNone && (i.shapeStart.isNone || i.shapeStart == some 0) && i.startConst

/-- what replaces the Slice: the dims of `Transpose(Reshape(x,[d0,d1,d2,d3]), perm=[0,2,1,3])`, Python-sliced -/
def extractDims (i : ExtractIn) : List String := pySlice ["dim0", "dim2", "dim1", "dim3"] i.start i.stop

def shapeopt (i : ExtractIn) : String :=
  if !extractOk i then "count=0" else
  match extractDims i with
  | [] => "count=1 Constant()"
  | [d] => s!"count=1 Identity({d})"
  | ds => s!"count=1 Concat({",".intercalate ds})"

end OV.C19
