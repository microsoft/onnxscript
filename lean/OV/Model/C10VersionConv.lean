/-!
# C10 — model of `onnxscript.version_converter`

Transcribes the decision logic of
* `onnxscript/version_converter/_version_converter.py` (`version_supported`, `_get_onnx_opset_version`,
  `_set_onnx_opset_version`, the three adapters, `process_node`, `visit_node`,
  `visit_graph_or_function`, `visit_model`, `convert_version`), and
* `onnxscript/version_converter/__init__.py` (`ConvertVersionPass`, `_ConvertVersionPassRequiresInline`,
  `convert_version` with its ModelProto branch) and `_c_api_utils.call_onnx_api`.

Core Lean only.  Bugs of the code are restated, not repaired.  Outside the model (contracts, A-ir):
`InlinePass`, `RemoveUnused*Pass`, `NameFixPass`, `replace_nodes_and_values`, serde, and the ONNX C-API
converter (a parameter `capi`).
-/
namespace OV.C10

/-! ## Constants read from the source (`SUPPORTED_MIN/MAX_ONNX_OPSET`) -/
def supportedMin : Nat := 18
def supportedMax : Nat := 25

/-! ## Nodes -/

/-- What an adapter can see of a shape entry: `missing` (`value.shape is None`), `symbolic`
(the dimension is not an `int`), `known`. -/
inductive Vis | missing | symbolic | known
  deriving DecidableEq, Repr, Inhabited

/-- Facts about a `GroupNormalization` node.  `c`, `sLen`, `bLen` are the run-time sizes (number of
channels, length of scale, length of bias); the `Vis` fields say what the static annotation shows of
them (annotations are truthful: A-shape). -/
structure GN where
  hasX : Bool
  hasScale : Bool
  hasBias : Bool
  groups : Option Nat
  eps : Option String
  c : Nat
  sLen : Nat
  bLen : Nat
  xVis : Vis
  sVis : Vis
  bVis : Vis
  deriving DecidableEq, Repr, Inhabited

inductive Op
  /-- any default- or custom-domain operator without an adapter (Relu, Add, If, Reshape, Expand …) -/
  | plain (name : String)
  /-- `Constant(value_int=…)` (`scalar = true`) / `Constant(value_ints=…)` emitted by adapters -/
  | const (scalar : Bool) (ints : List Int)
  | gridSample (mode : Option String) (align : Option Int) (padding : Option String)
  /-- `axis`/`inverse`/`onesided` attributes, presence of `dft_length`, constant value of the
  `axis` *input* (opset ≥ 20), run-time rank of the input -/
  | dft (axis : Option Int) (inverse onesided : Option Int) (hasLen : Bool) (axisIn : Option Int) (rank : Nat)
  | groupNorm (gn : GN)
  /-- call of model-local function number `f` (custom domain) -/
  | call (f : Nat)
  deriving DecidableEq, Repr, Inhabited

/-- A node without subgraphs (body of a subgraph, or a node emitted by an adapter). -/
structure Leaf where
  dflt : Bool            -- `node.domain == ""`
  op : Op
  version : Option Nat   -- `node.version`
  refAttr : Bool         -- some attribute is a reference attribute
  deriving DecidableEq, Repr, Inhabited

/-- A node of a graph or function; `bodies` are its graph-valued attributes in attribute order.  The nodes
of the subgraphs have type `α`: `Leaf` for innermost subgraphs, again `Node …` for subgraphs whose nodes own
subgraphs themselves (`NodeD d`: nesting depth at most `d`, every `d`). -/
structure Node (α : Type) where
  leaf : Leaf
  bodies : List (List α)
  deriving DecidableEq, Repr, Inhabited

/-- `ir.from_proto`: a `NodeProto` has no version field. -/
def eraseLeaf (l : Leaf) : Leaf := { l with version := none }

/-! ## Adapters -/

inductive AdaptRes
  | noAdapter                     -- registry lookup returned `None`
  | raised                        -- adapter raised `VersionConverterError`
  | retNone                       -- adapter returned `None`
  | replaced (news : List Op)     -- nodes recorded on the tape, in order
  deriving DecidableEq, Repr

/-- `dft_19_20` (since 765f1d4: the opset-19 default `axis = 1` is materialised when the attribute is absent) -/
def dft_19_20 : Op → AdaptRes
  | .dft axis inv one hasLen _ rank =>
    let a := axis.getD 1
    .replaced [.const true [a], .dft none (some (inv.getD 0)) (some (one.getD 0)) hasLen (some a) rank]
  | _ => .retNone

/-- `dft_19_20` before 765f1d4 (kept for the regression theorem only): nothing was done without an `axis` attribute. -/
def dft_19_20_prefix : Op → AdaptRes
  | .dft axis inv one hasLen _ rank =>
    match axis with
    | some a => .replaced [.const true [a], .dft none (some (inv.getD 0)) (some (one.getD 0)) hasLen (some a) rank]
    | none => .retNone
  | _ => .retNone

/-- `gridsample_19_20` -/
def gridsample_19_20 : Op → AdaptRes
  | .gridSample mode align padding =>
    let m := mode.getD "linear"
    if m == "bilinear" then
      .replaced [.gridSample (some "linear") (some (align.getD 0)) (some (padding.getD "zeros"))]
    else if m == "bicubic" then
      .replaced [.gridSample (some "cubic") (some (align.getD 0)) (some (padding.getD "zeros"))]
    else .retNone
  | _ => .retNone

/-- The nodes `groupnormalization_20_21` records when it rewrites (`k = int(num_channels / num_groups)`).
The new node carries `num_groups` and (since 71fb858) `epsilon`; the new scale/bias values have no
shape annotation. -/
def gnReplacement (n : GN) (g : Nat) : List Op :=
  let k := n.c / g
  [.const false [-1, 1], .const false [-1], .const false [1, (k : Int)],
   .plain "Reshape", .plain "Expand", .plain "Reshape",
   .plain "Reshape", .plain "Expand", .plain "Reshape",
   .groupNorm { n with sLen := g * k, bLen := g * k, sVis := .missing, bVis := .missing }]

/-- The rewritten node before 71fb858 (kept for the regression theorem only): `epsilon` was not copied. -/
def gnRewrittenPrefix (n : GN) (g : Nat) : Op :=
  .groupNorm { n with eps := none, sLen := g * (n.c / g), bLen := g * (n.c / g), sVis := .missing, bVis := .missing }

/-- The nodes the adapter records (since 090a933) when the layout of scale/bias cannot be decided statically:
each value is expanded by the run-time ratio `C / len(value)` (`Shape`, `Div`, `Concat` feed the same
`Reshape ; Expand ; Reshape`).  Run-time lengths afterwards: `len · (C / len)`. -/
def gnDynReplacement (n : GN) : List Op :=
  [.const false [-1, 1], .const false [-1], .const false [1], .plain "Shape",
   .plain "Shape", .plain "Div", .plain "Reshape", .plain "Concat", .plain "Expand", .plain "Reshape",
   .plain "Shape", .plain "Div", .plain "Reshape", .plain "Concat", .plain "Expand", .plain "Reshape",
   .groupNorm { n with sLen := n.sLen * (n.c / n.sLen), bLen := n.bLen * (n.c / n.bLen),
                       sVis := .missing, bVis := .missing }]

/-- `groupnormalization_20_21` (order of the tests as in the source, since 090a933) -/
def groupnormalization_20_21 : Op → AdaptRes
  | .groupNorm n =>
    if !(n.hasX && n.hasScale && n.hasBias) then .raised
    else match n.groups with
      | none => .raised
      | some g =>
        if !(n.xVis = .known && n.sVis = .known && n.bVis = .known) then .replaced (gnDynReplacement n)
        else if g ≠ n.c && g = n.sLen && g = n.bLen then .replaced (gnReplacement n g) else .retNone
  | _ => .retNone

/-- The adapter before 090a933 (kept for the regression theorems only): it raised when `x` had no shape and
returned `None` when the channel dimension or the shape of scale/bias was not static. -/
def groupnormalization_20_21_prefix : Op → AdaptRes
  | .groupNorm n =>
    if !(n.hasX && n.hasScale && n.hasBias) then .raised
    else if n.xVis = .missing then .raised
    else if n.xVis = .symbolic then .retNone
    else if n.sVis = .missing || n.bVis = .missing then .retNone
    else if n.sVis = .symbolic || n.bVis = .symbolic then .retNone
    else match n.groups with
      | none => .raised
      | some g =>
        if g ≠ n.c && g = n.sLen && g = n.bLen then .replaced (gnReplacement n g) else .retNone
  | _ => .retNone

/-- `registry.lookup_adapters("", op_type, from_version, True)` followed by the call. -/
def adapt (op : Op) (fromV : Nat) : AdaptRes :=
  match op with
  | .dft .. => if fromV = 19 then dft_19_20 op else .noAdapter
  | .gridSample .. => if fromV = 19 then gridsample_19_20 op else .noAdapter
  | .groupNorm .. => if fromV = 20 then groupnormalization_20_21 op else .noAdapter
  | _ => .noAdapter

/-! ## `visit_node` / `visit_graph_or_function` -/

inductive Err
  | noVersion      -- VersionConverterError "has no version"
  | refAttr        -- VersionConverterError "has ref attribute"
  | downgrade      -- VersionConverterError "Target opset … less than node version"
  | badTarget      -- ValueError: target outside [18, 25]
  | importClash    -- ValueError: "" and "ai.onnx" imports differ
  | inlineClash    -- PassError from InlinePass: function opset differs from the model's
  deriving DecidableEq, Repr

def newLeaf (o : Op) (v : Nat) : Leaf := { dflt := true, op := o, version := some v, refAttr := false }

/-- The `for from_version in range(node_version, target)` loop for a node without subgraphs:
`k` steps remain, the next one is `v → v+1`.  A replacement's new nodes are inserted after the node and
visited by the enclosing iteration starting from their version `v+1` — the same loop with `k` steps. -/
def leafSteps : Nat → Nat → Leaf → List Leaf
  | 0, _, l => [l]
  | k + 1, v, l =>
    match adapt l.op v with
    | .raised => leafSteps k (v + 1) l                                   -- caught, warning, next step
    | .noAdapter => leafSteps k (v + 1) { l with version := some (v + 1) }
    | .retNone => leafSteps k (v + 1) { l with version := some (v + 1) }
    | .replaced news => news.flatMap (fun o => leafSteps k (v + 1) (newLeaf o (v + 1)))

/-- One iteration of `for node in graph_or_function` for a node without subgraphs. -/
def visitLeaf (dfltV : Option Nat) (target : Nat) (l : Leaf) : List Leaf × Option Err :=
  if !l.dflt then ([l], none)
  else match l.version.or dfltV with
    | none => ([l], some .noVersion)
    | some nv =>
      if l.refAttr then ([l], some .refAttr)
      else if target < nv then ([l], some .downgrade)
      else (leafSteps (target - nv) nv l, none)

/-- `visit_graph_or_function` on a subgraph: stops at the first raising node, the rest is untouched. -/
def visitLeaves (dfltV : Option Nat) (target : Nat) : List Leaf → List Leaf × Option Err
  | [] => ([], none)
  | l :: rest =>
    match visitLeaf dfltV target l with
    | (out, some e) => (out ++ rest, some e)
    | (out, none) =>
      let (out', e) := visitLeaves dfltV target rest
      (out ++ out', e)

/-- What the converter needs to know about the nodes of a subgraph: how `visit_graph_or_function` acts on a
list of them (default version, target), how `from_proto` erases their version stamps, and which nodes they
contain (themselves and, recursively, the nodes of their subgraphs, in visiting order). -/
class Inner (α : Type) where
  vis : Option Nat → Nat → List α → List α × Option Err
  erase : α → α
  leaves : α → List Leaf

instance : Inner Leaf := ⟨visitLeaves, eraseLeaf, fun l => [l]⟩

section generic
variable {α : Type} [Inner α]

/-- `for attr in node.attributes.values(): visit_attribute(attr)` — bodies in order, stop at the first error. -/
def visitBodies (dfltV : Option Nat) (target : Nat) : List (List α) → List (List α) × Option Err
  | [] => ([], none)
  | b :: rest =>
    match Inner.vis dfltV target b with
    | (b', some e) => (b' :: rest, some e)
    | (b', none) =>
      let (rest', e) := visitBodies dfltV target rest
      (b' :: rest', e)

def newNode (o : Op) (v : Nat) : Node α := { leaf := newLeaf o v, bodies := [] }

/-- The step loop for a node that may own subgraphs.  On the no-replacement path the subgraphs are
visited *before* `node.version = to_version`; an error raised inside a subgraph is a
`VersionConverterError`, caught by the `try` around `visit_node`: the step ends without stamping. -/
def nodeSteps (dfltV : Option Nat) (target : Nat) : Nat → Nat → Node α → List (Node α)
  | 0, _, n => [n]
  | k + 1, v, n =>
    match adapt n.leaf.op v with
    | .raised => nodeSteps dfltV target k (v + 1) n
    | .replaced news => news.flatMap (fun o => nodeSteps dfltV target k (v + 1) (newNode o (v + 1)))
    | _ =>
      match visitBodies dfltV target n.bodies with
      | (bs, some _) => nodeSteps dfltV target k (v + 1) { n with bodies := bs }
      | (bs, none) =>
        nodeSteps dfltV target k (v + 1) { leaf := { n.leaf with version := some (v + 1) }, bodies := bs }

def visitNode (dfltV : Option Nat) (target : Nat) (n : Node α) : List (Node α) × Option Err :=
  if !n.leaf.dflt then ([n], none)
  else match n.leaf.version.or dfltV with
    | none => ([n], some .noVersion)
    | some nv =>
      if n.leaf.refAttr then ([n], some .refAttr)
      else if target < nv then ([n], some .downgrade)
      else (nodeSteps dfltV target (target - nv) nv n, none)

/-- `visit_graph_or_function` (the converter recurses: the same function is applied to subgraphs). -/
def visitGraph (dfltV : Option Nat) (target : Nat) : List (Node α) → List (Node α) × Option Err
  | [] => ([], none)
  | n :: rest =>
    match visitNode dfltV target n with
    | (out, some e) => (out ++ rest, some e)
    | (out, none) =>
      let (out', e) := visitGraph dfltV target rest
      (out ++ out', e)

def eraseNode (n : Node α) : Node α := { leaf := eraseLeaf n.leaf, bodies := n.bodies.map (·.map Inner.erase) }

/-- A node and the nodes of its subgraphs (recursively), in visiting order. -/
def Node.leaves (n : Node α) : List Leaf := n.leaf :: n.bodies.flatten.flatMap Inner.leaves

instance instInnerNode : Inner (Node α) := ⟨visitGraph, eraseNode, Node.leaves⟩

end generic

/-- Nodes of nesting depth at most `d`. -/
def NodeD : Nat → Type
  | 0 => Leaf
  | d + 1 => Node (NodeD d)

@[instance_reducible] def innerD : (d : Nat) → Inner (NodeD d)
  | 0 => inferInstanceAs (Inner Leaf)
  | d + 1 => @instInnerNode (NodeD d) (innerD d)

instance (d : Nat) : Inner (NodeD d) := innerD d

@[instance_reducible] def decEqD : (d : Nat) → DecidableEq (NodeD d)
  | 0 => inferInstanceAs (DecidableEq Leaf)
  | d + 1 => @instDecidableEqNode (NodeD d) (decEqD d)

instance (d : Nat) : DecidableEq (NodeD d) := decEqD d

/-! ## Model level -/

structure Func (α : Type) where
  declared : Option Nat     -- `opset_imports[""]`
  aionnx : Option Nat       -- `opset_imports["ai.onnx"]`
  nodes : List (Node α)
  deriving DecidableEq, Repr, Inhabited

structure Model (α : Type) where
  declared : Option Nat
  aionnx : Option Nat
  nodes : List (Node α)
  funcs : List (Func α)
  inputs : List String      -- graph inputs (names, in order)
  inits : List String       -- initializer names (insertion order)
  deriving DecidableEq, Repr, Inhabited

/-- `_get_onnx_opset_version`: `Except` models the `ValueError`; `v1 or v2`. -/
def getOnnxOpsetVersion (declared aionnx : Option Nat) : Except Err (Option Nat) :=
  match declared, aionnx with
  | some a, some b => if a ≠ b then .error .importClash else .ok (some a)
  | a, b => .ok (a.or b)

section modelLevel
variable {α : Type} [Inner α]

/-- `_set_onnx_opset_version` on a function -/
def Func.setOpset (f : Func α) (v : Nat) : Func α := { f with declared := some v, aionnx := none }
/-- `_set_onnx_opset_version` on the model -/
def Model.setOpset (m : Model α) (v : Nat) : Model α := { m with declared := some v, aionnx := none }

/-- The `for function in model.functions.values()` loop of `visit_model`. -/
def visitFuncs (dfltV : Option Nat) (target : Nat) : List (Func α) → List (Func α) × Option Err
  | [] => ([], none)
  | f :: rest =>
    match visitGraph dfltV target f.nodes with
    | (ns, some e) => ({ f with nodes := ns } :: rest, some e)
    | (ns, none) =>
      let (rest', e) := visitFuncs dfltV target rest
      (({ f with nodes := ns } : Func α).setOpset target :: rest', e)

/-- `_VersionConverter.visit_model` -/
def visitModel (target : Nat) (m : Model α) : Model α × Option Err :=
  match getOnnxOpsetVersion m.declared m.aionnx with
  | .error e => (m, some e)
  | .ok dfltV =>
    match visitGraph dfltV target m.nodes with
    | (ns, some e) => ({ m with nodes := ns }, some e)
    | (ns, none) =>
      match visitFuncs dfltV target m.funcs with
      | (fs, some e) => ({ m with nodes := ns, funcs := fs }, some e)
      | (fs, none) => (({ m with nodes := ns, funcs := fs } : Model α).setOpset target, none)

/-- `_version_converter.convert_version(model, target)` -/
def nativeConvert (target : Nat) (m : Model α) : Model α × Option Err :=
  if target > supportedMax || target < supportedMin then (m, some .badTarget)
  else visitModel target m

/-- `version_supported(model, target)` -/
def versionSupported (m : Model α) (target : Nat) : Bool :=
  match m.declared with
  | none => true
  | some cur => supportedMin ≤ cur && cur ≤ target && target ≤ supportedMax

/-! ## The public entry -/

inductive Entry | ir | proto | native
  deriving DecidableEq, Repr
/-- the `fallback` argument: `None`, `True`, `False` -/
inductive Fallback | none | yes | no
  deriving DecidableEq, Repr
/-- Python truthiness of the argument -/
def Fallback.truthy : Fallback → Bool
  | .yes => true
  | _ => false

/-- Contract of the ONNX C-API converter on the serialized model: `none` = it raised; `some ns` = the
nodes of the model it returned (declaring `target`). -/
abbrev CApi (α : Type) := Model α → Nat → Option (List (Node α))

/-- `InlinePass` (contract, A-ir) for call depth 1: a call of function `i` is replaced by that function's
nodes; a called function whose default-domain import differs from the model's makes the pass raise;
afterwards `RemoveUnusedFunctionsPass` leaves no function (every function is inlined or unused), and the
`ai.onnx` import key is normalised to `""`. -/
def inlineNodes (funcs : List (Func α)) : List (Node α) → List (Node α)
  | [] => []
  | n :: rest =>
    match n.leaf.op with
    | .call i =>
      match funcs[i]? with
      | some f => f.nodes ++ inlineNodes funcs rest
      | none => n :: inlineNodes funcs rest
    | _ => n :: inlineNodes funcs rest

def calledClash (m : Model α) : Bool :=
  m.nodes.any (fun n => match n.leaf.op with
    | .call i => match m.funcs[i]? with
      | some f => (match f.declared, m.declared with
                   | some a, some b => a != b
                   | _, _ => false)
      | none => false
    | _ => false)

/-- The inliner adds a called function's default-domain import when the model has none. -/
def firstCalledDecl (m : Model α) : Option Nat :=
  m.nodes.findSome? (fun n => match n.leaf.op with
    | .call i => (m.funcs[i]?).bind (·.declared)
    | _ => none)

/-- `RemoveUnusedOpsetsPass` drops the `ai.onnx` key (no node carries that domain string). -/
def inlineModel (m : Model α) : Except Err (Model α) :=
  if calledClash m then .error .inlineClash
  else .ok { m with nodes := inlineNodes m.funcs m.nodes, funcs := [],
                    declared := m.declared.or (firstCalledDecl m), aionnx := none }

def eraseVersions (m : Model α) : Model α :=
  { m with nodes := m.nodes.map eraseNode,
           funcs := m.funcs.map (fun f => { f with nodes := f.nodes.map eraseNode }) }

/-- `call_onnx_api` turns initializers that are not inputs into extra inputs (in initializer order). -/
def capiInputs (m : Model α) : List String := m.inputs ++ m.inits.filter (fun i => !m.inputs.contains i)

/-- The fallback branch after a successful C-API call: `from_proto`, initializer recovery loop (every
converted-graph input whose name is an original initializer is registered again), input truncation
`inputs[: len(model.graph.inputs)]`, `model.graph = converted_model.graph`. -/
def recoverFallback (m : Model α) (target : Nat) (convNodes : List (Node α)) : Model α :=
  let convInputs := capiInputs m                      -- C-API contract: inputs returned as given
  let recovered := convInputs.filter (fun i => m.inits.contains i)
  { m with declared := some target, aionnx := none,
           nodes := convNodes.map eraseNode,
           inputs := convInputs.take m.inputs.length,
           inits := recovered }

/-- `_ConvertVersionPassRequiresInline.call`.  Returns the model and the error. -/
def requiresInlineCall (fb : Fallback) (target : Nat) (capi : CApi α) (m : Model α) : Model α × Option Err :=
  if m.declared = some target then (m, none)
  else if !fb.truthy || versionSupported m target then nativeConvert target m
  else if !fb.truthy then (m, none)
  else match capi m target with
    | none => (m, none)
    | some ns => (recoverFallback m target ns, none)

/-- `version_converter.convert_version(model, target, fallback)` for an `ir.Model` or a `ModelProto`,
and (`Entry.native`) the inner `_version_converter.convert_version`.  For the proto entry the result is
the state of the *proto*: untouched when an exception propagates, otherwise graph, functions and
`opset_import` taken from the converted IR model (node versions do not exist in a proto). -/
def convertVersionApi (e : Entry) (fb : Fallback) (target : Nat) (capi : CApi α) (m : Model α) : Model α × Option Err :=
  match e with
  | .native => nativeConvert target m
  | .ir =>
    match inlineModel m with
    | .error er => (m, some er)
    | .ok m1 => requiresInlineCall fb target capi m1
  | .proto =>
    let m0 := eraseVersions m
    match inlineModel m0 with
    | .error er => (m0, some er)
    | .ok m1 =>
      match requiresInlineCall fb target capi m1 with
      | (_, some er) => (m0, some er)
      | (m2, none) => (eraseVersions m2, none)

end modelLevel

/-! ## The scale rewrite of `groupnormalization_20_21` at tensor level (row-major lists) -/

/-- `Reshape(s, [-1, 1])`: a column of singleton rows. -/
def reshapeCol {α} (s : List α) : List (List α) := s.map (fun x => [x])
/-- `Expand(m, [1, k])` on a `g×1` matrix: the size-1 dimension is stretched to `k`. -/
def expandRows {α} (k : Nat) (m : List (List α)) : List (List α) :=
  m.map (fun row => match row with
    | [x] => List.replicate k x
    | r => r)
/-- `Reshape(m, [-1])`: row-major flattening. -/
def flattenRows {α} (m : List (List α)) : List α := m.flatten
/-- `Reshape[-1,1] ; Expand[1,k] ; Reshape[-1]` -/
def expandScale {α} (k : Nat) (s : List α) : List α := flattenRows (expandRows k (reshapeCol s))

/-! ## Specification vocabulary (what the property says about a node) -/

/-- Normal form of what a node computes, independent of the opset it is written in. -/
inductive Sem
  | plain (name : String)
  | const (scalar : Bool) (ints : List Int)
  | call (f : Nat)
  /-- interpolation in the opset->=20 vocabulary, `align_corners`, `padding_mode` -/
  | gs (interp : String) (align : Int) (pad : String)
  /-- non-negative axis, `inverse`, `onesided`, presence of `dft_length` -/
  | dft (axis : Int) (inverse onesided : Int) (hasLen : Bool)
  /-- `num_groups`, `epsilon` (text of the attribute, default `1e-05`), channels; scale and bias are laid
  out as the declared opset requires (their *contents* are related by `expandScale`, see Props) -/
  | gn (groups : Nat) (eps : String) (c : Nat)
  deriving DecidableEq, Repr

def normAxis (a : Int) (rank : Nat) : Int := if a < 0 then a + rank else a

/-- GridSample-16 vocabulary (`bilinear`/`bicubic`/`nearest`, default `bilinear`) up to opset 19,
GridSample-20 vocabulary (`linear`/`cubic`/`nearest`, default `linear`) from 20. -/
def gsInterp (mode : Option String) (v : Nat) : Option String :=
  match mode with
  | none => some "linear"
  | some m =>
    if m == "nearest" then some "nearest"
    else if v ≤ 19 then
      (if m == "bilinear" then some "linear" else if m == "bicubic" then some "cubic" else none)
    else
      (if m == "linear" then some "linear" else if m == "cubic" then some "cubic" else none)

/-- What the node means when read at opset `v` (`none`: the form is not valid at `v`).
DFT: `axis` attribute with default 1 up to opset 19, `axis` input with default -2 from 20.
GroupNormalization: scale and bias per group up to opset 20, per channel from 21. -/
def Op.meaning : Op → Nat → Option Sem
  | .plain n, _ => some (.plain n)
  | .const s is, _ => some (.const s is)
  | .call f, _ => some (.call f)
  | .gridSample mode align pad, v => (gsInterp mode v).map (fun i => .gs i (align.getD 0) (pad.getD "zeros"))
  | .dft axis inv one hasLen axisIn rank, v =>
    if v ≤ 19 then
      (if axisIn.isSome then none else some (.dft (normAxis (axis.getD 1) rank) (inv.getD 0) (one.getD 0) hasLen))
    else
      (if axis.isSome then none else some (.dft (normAxis (axisIn.getD (-2)) rank) (inv.getD 0) (one.getD 0) hasLen))
  | .groupNorm n, v =>
    match n.groups with
    | none => none
    | some g =>
      if !(n.hasX && n.hasScale && n.hasBias) then none
      else if g * (n.c / g) ≠ n.c then none          -- the channels must split evenly into the groups
      else if v ≤ 20 then
        (if n.sLen = g ∧ n.bLen = g then some (.gn g (n.eps.getD "1e-05") n.c) else none)
      else
        (if n.sLen = n.c ∧ n.bLen = n.c then some (.gn g (n.eps.getD "1e-05") n.c) else none)

/-- Nodes an adapter inserts to feed the rewritten node (they carry no meaning of their own). -/
def Op.isAux : Op → Bool
  | .const _ _ => true
  | .plain n => n == "Reshape" || n == "Expand" || n == "Shape" || n == "Div" || n == "Concat"
  | _ => false

/-- Meanings (under `μ`, read at opset `v`) of the non-auxiliary operators of a list, in order. -/
def pmOps {β} (μ : Op → Nat → β) (v : Nat) : List Op → List β
  | [] => []
  | o :: os => if o.isAux then pmOps μ v os else μ o v :: pmOps μ v os

/-- One conversion step `v → v+1` on `op` is *good* for `μ`: the adapter does not raise, and what it
leaves (the node itself, or the replacement's non-auxiliary nodes) reads at `v+1` as `op` read at `v`. -/
def Good {β} (μ : Op → Nat → β) (op : Op) (v : Nat) : Prop :=
  match adapt op v with
  | .raised => False
  | .noAdapter => True
  | .retNone => μ op (v + 1) = μ op v
  | .replaced news => pmOps μ (v + 1) news = pmOps μ v [op]

/-- Steps without an adapter do not change the reading. -/
def Mono {β} (μ : Op → Nat → β) : Prop := ∀ op v, adapt op v = .noAdapter → μ op (v + 1) = μ op v

/-- The version a node is read at: its own stamp, else the declared opset. -/
def Leaf.eff (l : Leaf) (declared : Nat) : Nat :=
  match l.version with
  | some v => v
  | none => declared

/-- The opset a node is read at under the declared default-domain opset `d`: its effective version;
a custom-domain node is not versioned by the default-domain import at all (fixed pseudo-version 0). -/
def Leaf.readAt (l : Leaf) (d : Nat) : Nat := if l.dflt then l.eff d else 0

/-- Meanings of the non-auxiliary nodes of a list, each read at the opset it is written for. -/
def pmLeaves {β} (μ : Op → Nat → β) (d : Nat) : List Leaf → List β
  | [] => []
  | l :: ls => if l.op.isAux then pmLeaves μ d ls else μ l.op (l.readAt d) :: pmLeaves μ d ls

def pmNodes {β α} [Inner α] (μ : Op → Nat → β) (d : Nat) (ns : List (Node α)) : List β :=
  pmLeaves μ d (ns.flatMap Node.leaves)

/-- What the theorems ask of a node of a model declaring `s` that is converted to `t`:
no reference attribute, effective version at most `t`, every step from there to `t` good for `μ`. -/
structure LeafPre {β} (μ : Op → Nat → β) (s t : Nat) (l : Leaf) : Prop where
  noRef : l.dflt = true → l.refAttr = false
  le : l.dflt = true → l.eff s ≤ t
  good : l.dflt = true → ∀ v', l.eff s ≤ v' → v' < t → Good μ l.op v'

/-- Nodes with subgraphs are control-flow operators (no adapter is registered for them).  `P` is the
corresponding requirement on the nodes of the subgraphs (`LeafPre`, or `NodePre` again: `PreD`). -/
structure NodePre {β α} [Inner α] (μ : Op → Nat → β) (s t : Nat) (P : α → Prop) (n : Node α) : Prop where
  leaf : LeafPre μ s t n.leaf
  ctrl : n.bodies ≠ [] → ∃ name, n.leaf.op = .plain name
  bodies : ∀ b ∈ n.bodies, ∀ a ∈ b, P a
  /-- the converter never looks into a custom-domain node: it must not hide ONNX operators -/
  customFlat : n.leaf.dflt = false → n.bodies = []
  /-- a node and the nodes of its subgraphs (at every depth) are written for the same opset -/
  sameEff : n.leaf.dflt = true → ∀ b ∈ n.bodies, ∀ a ∈ b, ∀ l ∈ Inner.leaves a, l.dflt = true → l.eff s = n.leaf.eff s

/-- `NodePre` at every nesting depth. -/
def PreD {β} (μ : Op → Nat → β) (s t : Nat) : (d : Nat) → NodeD d → Prop
  | 0 => fun l => LeafPre μ s t l
  | d + 1 => fun n => NodePre (α := NodeD d) μ s t (PreD μ s t d) n

/-- A node of a self-consistent model declaring `s` (the inputs the property quantifies over): written
for `s` (stamp unset or `s`), no reference attribute, and every step from `s` upwards good for `μ`
(for `μ = fun _ _ => ()` this is `AdaptersTotal`: no adapter raises). -/
structure SrcLeaf {β} (μ : Op → Nat → β) (s : Nat) (l : Leaf) : Prop where
  ver : l.dflt = true → l.eff s = s
  noRef : l.dflt = true → l.refAttr = false
  good : l.dflt = true → ∀ v', s ≤ v' → Good μ l.op v'

structure SrcNode {β α} (μ : Op → Nat → β) (s : Nat) (Q : α → Prop) (n : Node α) : Prop where
  leaf : SrcLeaf μ s n.leaf
  ctrl : n.bodies ≠ [] → ∃ name, n.leaf.op = .plain name
  bodies : ∀ b ∈ n.bodies, ∀ a ∈ b, Q a
  customFlat : n.leaf.dflt = false → n.bodies = []

/-- `SrcNode` at every nesting depth. -/
def SrcD {β} (μ : Op → Nat → β) (s : Nat) : (d : Nat) → NodeD d → Prop
  | 0 => fun l => SrcLeaf μ s l
  | d + 1 => fun n => SrcNode (α := NodeD d) μ s (SrcD μ s d) n

/-- The model handed to `_ConvertVersionPassRequiresInline` (functions already inlined); its nodes own
subgraphs of nesting depth at most `d`. -/
structure SelfConsistent {β} (μ : Op → Nat → β) (s : Nat) {d : Nat} (m : Model (NodeD d)) : Prop where
  declared : m.declared = some s
  noAi : m.aionnx = none
  inlined : m.funcs = []
  nodes : ∀ n ∈ m.nodes, SrcD μ s (d + 1) n

/-- A node of a *valid* model declaring `s`: written for `s`, no reference attribute, and a valid operator
form at the opset it is read at.  Nothing is asked of the adapters. -/
structure ValidLeaf (s : Nat) (l : Leaf) : Prop where
  ver : l.dflt = true → l.eff s = s
  noRef : l.dflt = true → l.refAttr = false
  valid : (l.op.meaning (l.readAt s)).isSome

structure ValidNode {α} (s : Nat) (Q : α → Prop) (n : Node α) : Prop where
  leaf : ValidLeaf s n.leaf
  ctrl : n.bodies ≠ [] → ∃ name, n.leaf.op = .plain name
  bodies : ∀ b ∈ n.bodies, ∀ a ∈ b, Q a
  customFlat : n.leaf.dflt = false → n.bodies = []

def ValidD (s : Nat) : (d : Nat) → NodeD d → Prop
  | 0 => fun l => ValidLeaf s l
  | d + 1 => fun n => ValidNode (α := NodeD d) s (ValidD s d) n

/-- The inputs the property quantifies over: a valid, self-consistent model at opset `s` (after inlining). -/
structure ValidModel (s : Nat) {d : Nat} (m : Model (NodeD d)) : Prop where
  declared : m.declared = some s
  noAi : m.aionnx = none
  inlined : m.funcs = []
  nodes : ∀ n ∈ m.nodes, ValidD s (d + 1) n

/-- A GroupNormalization node has its three inputs and its `num_groups` attribute (the only thing an adapter
ever raises about: `adapter_raises_iff`). -/
def WellFormedGN (op : Op) : Prop :=
  ∀ n, op = .groupNorm n → (n.hasX = true ∧ n.hasScale = true ∧ n.hasBias = true) ∧ n.groups ≠ none

/-- Purely structural description of a self-consistent model: written for `s`, no reference attribute, `P` of every
default-domain operator; control-flow nodes own the subgraphs; custom-domain nodes own none. -/
structure ShapeLeaf (P : Op → Prop) (s : Nat) (l : Leaf) : Prop where
  ver : l.dflt = true → l.eff s = s
  noRef : l.dflt = true → l.refAttr = false
  op : l.dflt = true → P l.op

structure ShapeNode {α} (P : Op → Prop) (s : Nat) (Q : α → Prop) (n : Node α) : Prop where
  leaf : ShapeLeaf P s n.leaf
  ctrl : n.bodies ≠ [] → ∃ name, n.leaf.op = .plain name
  bodies : ∀ b ∈ n.bodies, ∀ a ∈ b, Q a
  customFlat : n.leaf.dflt = false → n.bodies = []

def ShapeD (P : Op → Prop) (s : Nat) : (d : Nat) → NodeD d → Prop
  | 0 => fun l => ShapeLeaf P s l
  | d + 1 => fun n => ShapeNode (α := NodeD d) P s (ShapeD P s d) n

structure ShapeModel (P : Op → Prop) (s : Nat) {d : Nat} (m : Model (NodeD d)) : Prop where
  declared : m.declared = some s
  noAi : m.aionnx = none
  inlined : m.funcs = []
  nodes : ∀ n ∈ m.nodes, ShapeD P s (d + 1) n

/-- Every default-domain node of the model (subgraphs of every depth included) is written for `t`. -/
def AllAt {α} [Inner α] (t : Nat) (ns : List (Node α)) : Prop :=
  ∀ n ∈ ns, ∀ l ∈ n.leaves, l.dflt = true → l.eff t = t

end OV.C10
