import OV.Model.C05Order
/-!
# C05 — the rule-set driver on one host: `RewriteRuleSet._apply_to_graph_or_function`

Restates the traversal of `onnxscript/rewriter/_rewrite_rule.py` (`for node in graph: for rule in self.rules: …
count += 1; break`) on hosts that are a *chain* of unary order operators
`Relu | Clip(lo?, hi?) | Min(·, c) | Max(·, c)`, with the eight rules of `_min_max_to_clip.rules` and
`_fuse_relus_clips.rules` in the order of `_DEFAULT_REWRITE_RULES`:

* nodes are visited once, in graph order; at a node the rules are tried in list order and the **first** one whose
  pattern matches and whose `check` passes rewrites (`break`): `firstMatch`;
* every pattern here is `consumer(producer(x))` rooted at the visited node; `remove_nodes=True` makes the matcher refuse
  when the producer's output has another consumer or is a graph output (`shared`);
* the replacement node is inserted after the visited node, so the iteration reaches it next: it is visited itself, and
  the node after it sees it as its producer (a whole chain collapses in one sweep): `visit`, `sweepAcc`;
* `count` is the number of rewrites.

The single-pair rules are not restated: they are `ClipClip.run`, `ReluClip.run`, `ReluClip.runReluClip`, `MinMax.run`
of `C05Order.lean` (already tied to the implementation by their own streams).  Core Lean only.
-/
namespace OV.C05.Chain
open OV.C05.Order

variable {α : Type}

/-- A `min`/`max` operand of a Clip node: what the rule sees (`bound`) and the value the runtime uses (`val?`). -/
inductive Opd (α : Type) where
  | absent
  | const (v : α)      -- initializer / Constant node
  | ginit (v : α)      -- initializer that is also a graph input; `v` = the value fed at run time
  | dyn (v : α)        -- run-time input; `v` = the value fed at run time (invisible to the rule)
  deriving Repr, DecidableEq

def Opd.bound : Opd α → Bound α
  | .absent => .absent
  | .const v => .const v
  | .ginit v => .constInput v
  | .dyn _ => .dynamic

def Opd.val? : Opd α → Option α
  | .absent => none
  | .const v => some v
  | .ginit v => some v
  | .dyn v => some v

def Opd.ofOption : Option α → Opd α
  | none => .absent
  | some v => .const v

/-- The second operand of a binary `Min`/`Max` node (rank-0): a constant or a run-time value. -/
inductive MOpd (α : Type) where
  | const (v : α)
  | dyn (v : α)
  deriving Repr, DecidableEq

def MOpd.mm : MOpd α → MMConst α
  | .const v => .const 0 [v]
  | .dyn _ => .dynamic

def MOpd.val : MOpd α → α
  | .const v => v
  | .dyn v => v

inductive COp (α : Type) where
  | relu
  | clip (lo hi : Opd α)
  | mn (c : MOpd α)     -- Min(x, c)
  | mx (c : MOpd α)     -- Max(x, c)
  deriving Repr, DecidableEq

def COp.eval [Min α] [Max α] (zero : α) : COp α → α → α
  | .relu, x => Order.relu zero x
  | .clip lo hi, x => Order.clip lo.val? hi.val? x
  | .mn c, x => min x c.val
  | .mx c, x => max x c.val

/-- A rule as the driver uses it on a chain: producer op, consumer (visited) op ↦ replacement. -/
abbrev Rule (α : Type) := COp α → COp α → Option (COp α)

def ofClipOutcome : Outcome (ClipRepl α) → Option (COp α)
  | .fire r => some (.clip (Opd.ofOption r.lo) (Opd.ofOption r.hi))
  | _ => none

/-- `max_min_rule` / `min_max_rule` emit `Clip(x, lo, hi)`; `min_min_rule` / `max_max_rule` emit the same op with the
reduced constant (rank 0 here). -/
def ofMMOutcome (k : MMKind) : Outcome (MMRepl α) → Option (COp α)
  | .fire (.clip l u) => some (.clip (.const l) (.const u))
  | .fire (.sameOp 0 [m]) =>
    (match k with
     | .minMin => some (.mn (.const m))
     | .maxMax => some (.mx (.const m))
     | _ => none)
  | _ => none

section rules
variable [Min α] [Max α] [LT α] [DecidableRel (α := α) (· < ·)]

def ruleMinMin : Rule α
  | .mn c1, .mn c2 => ofMMOutcome .minMin (MinMax.run { kind := .minMin, first := [c1.mm], second := [c2.mm], xRank := some 0 })
  | _, _ => none

def ruleMaxMax : Rule α
  | .mx c1, .mx c2 => ofMMOutcome .maxMax (MinMax.run { kind := .maxMax, first := [c1.mm], second := [c2.mm], xRank := some 0 })
  | _, _ => none

/-- `min_max_rule`: `Max(Min(x, ub), lb)`. -/
def ruleMinMax : Rule α
  | .mn ub, .mx lb => ofMMOutcome .minMax (MinMax.run { kind := .minMax, first := [ub.mm], second := [lb.mm], xRank := some 0 })
  | _, _ => none

/-- `max_min_rule`: `Min(Max(x, lb), ub)`. -/
def ruleMaxMin : Rule α
  | .mx lb, .mn ub => ofMMOutcome .maxMin (MinMax.run { kind := .maxMin, first := [lb.mm], second := [ub.mm], xRank := some 0 })
  | _, _ => none

/-- `successive_clip_relu_rule`: `Clip(Relu(x), a, b)`. -/
def ruleClipRelu (zero : α) : Rule α
  | .relu, .clip a b => ofClipOutcome (ReluClip.run zero { a := a.bound, b := b.bound })
  | _, _ => none

/-- `successive_relu_clip_rule`: `Relu(Clip(x, a, b))`. -/
def ruleReluClip (zero : α) : Rule α
  | .clip a b, .relu => ofClipOutcome (ReluClip.runReluClip zero { a := a.bound, b := b.bound })
  | _, _ => none

def ruleReluRelu : Rule α
  | .relu, .relu => some .relu
  | _, _ => none

def ruleClipClip : Rule α
  | .clip a b, .clip c d => ofClipOutcome (ClipClip.run { a := a.bound, b := b.bound, c := c.bound, d := d.bound })
  | _, _ => none

/-- The eight rules in the order of `_DEFAULT_REWRITE_RULES` (`*_min_max_to_clip.rules, *_fuse_relus_clips.rules`). -/
def chainRules (zero : α) : List (Rule α) :=
  [ruleMinMin, ruleMaxMax, ruleMinMax, ruleMaxMin, ruleClipRelu zero, ruleReluClip zero, ruleReluRelu, ruleClipClip]

end rules

/-- Which of the eight rules has a target pattern `consumer(producer(x))` with these two op types (index into `chainRules`). -/
def pairSlot : COp α → COp α → Option Nat
  | .mn _, .mn _ => some 0
  | .mx _, .mx _ => some 1
  | .mn _, .mx _ => some 2
  | .mx _, .mn _ => some 3
  | .relu, .clip _ _ => some 4
  | .clip _ _, .relu => some 5
  | .relu, .relu => some 6
  | .clip _ _, .clip _ _ => some 7
  | _, _ => none

/-- `for rule in self.rules: delta = rule.try_rewrite(…); if delta is None: continue; …; break`. -/
def firstMatch (rules : List (Rule α)) (p c : COp α) : Option (COp α) :=
  rules.findSome? (fun r => r p c)

/-- A node of the chain: its op and whether its output is also used elsewhere (graph output / second consumer). -/
structure Node (α : Type) where
  op : COp α
  shared : Bool
  deriving Repr, DecidableEq

/-- Visiting node `v` whose producer is the head of `acc` (the already visited prefix, last node first).  When a rule
fires, the replacement is inserted after the visited node and is therefore **the next node the iteration reaches**: it is
visited itself, with the node before the removed producer as its producer (observed: `Relu; Min; Max` — `(Relu, Min)` has no
rule, `Max(Min(x))` becomes a Clip, and `Clip(Relu(x))` is fused in the *same* sweep).  Returns the new prefix and the number
of rewrites. -/
def visit (rules : List (Rule α)) : List (Node α) → Node α → List (Node α) × Nat
  | [], v => ([v], 0)
  | top :: rest, v =>
    if top.shared then (v :: top :: rest, 0)
    else match firstMatch rules top.op v.op with
      | some f => let r := visit rules rest { op := f, shared := v.shared }; (r.1, r.2 + 1)
      | none => (v :: top :: rest, 0)

/-- `for node in graph_or_function: …` — one sweep; the accumulator is the visited prefix (reversed) and the count. -/
def sweepAcc (rules : List (Rule α)) (acc : List (Node α) × Nat) : List (Node α) → List (Node α) × Nat
  | [] => acc
  | n :: ns => let r := visit rules acc.1 n; sweepAcc rules (r.1, acc.2 + r.2) ns

/-- The chain after one `apply_to_model`. -/
def sweep (rules : List (Rule α)) (chain : List (Node α)) : List (Node α) :=
  (sweepAcc rules ([], 0) chain).1.reverse

/-- The `count` returned by `apply_to_model`. -/
def count (rules : List (Rule α)) (chain : List (Node α)) : Nat :=
  (sweepAcc rules ([], 0) chain).2

def run [Min α] [Max α] (zero : α) (l : List (Node α)) (x : α) : α :=
  l.foldl (fun v n => n.op.eval zero v) x

/-- The values of the shared intermediates (graph outputs / values with a second consumer), in graph order. -/
def mids [Min α] [Max α] (zero : α) : List (Node α) → α → List α
  | [], _ => []
  | n :: ns, x => (if n.shared then [n.op.eval zero x] else []) ++ mids zero ns (n.op.eval zero x)

/-- Everything observable of the host: the value of every shared intermediate, then the final value. -/
def outs [Min α] [Max α] (zero : α) (l : List (Node α)) (x : α) : List α :=
  mids zero l x ++ [run zero l x]

/-- A rule is sound when its replacement computes what consumer ∘ producer computed, for every input. -/
def RuleSound [Min α] [Max α] (zero : α) (r : Rule α) : Prop :=
  ∀ p c f, r p c = some f → ∀ x, f.eval zero x = c.eval zero (p.eval zero x)

end OV.C05.Chain
