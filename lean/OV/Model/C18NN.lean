/-!
# C18 — model of `onnxscript.nn` naming (Module / ModuleList / Sequential / Parameter)

Core Lean only (the driver `drv_c18` is compiled from this file).

What is restated here, and from where (`/repo/onnxscript/nn/`):

* `Mod` — one module object after construction: its class family (`Kind`: plain `Module`
  subclass, `ModuleList`, `Sequential`), the stored `_name`, the `_parameters` dict
  (`attr ↦ Parameter`, each with its *stored* `name` and an identity `pid`) and the
  `_modules` dict (`key ↦ child`), both in insertion order.
* `setName` — the three `_set_name` overrides (`_module.py:52`, `_module_list.py:41`,
  `_sequential.py:37`): `Module` stores the name; `ModuleList` stores it and renames every child
  to `name.key` (recursively through the child's own `_set_name`); `Sequential` stores it and
  renames every child to its bare key.
* `setParam` / `setChild` — `Module.__setattr__` (`_module.py:56-71`): a `Parameter` without a
  name takes the attribute name; a child module without a name gets `_set_name(attr)`; an
  explicitly named one keeps its name.  Dict assignment replaces in place.
* `regChildList` / `regChildSeq` — the two `_register_child` (`_module_list.py:47`,
  `_sequential.py:49`): unnamed child of a *named* list → `_set_name(name.key)`; unnamed child of
  an unnamed list or of a Sequential → the bare key is stored **directly** (no propagation).
* `mkList`, `mkSeq`, `append`, `extend`, `slice` — constructors, `append`/`extend`
  (`key = str(len(_modules))`) and `__getitem__(slice)` (a fresh plain `ModuleList` whose children are
  re-registered under `0,1,…`; they keep their names).
* `realize` — what `Module.__call__` (`_module.py:73-86`) + `Parameter._realize`
  (`_parameter.py:60-88`) + `GraphBuilder._qualify_initializer_name` (`builder.py:888`) do when the
  root is called and every `forward` calls its registered children once, in order (`Sequential.forward`
  does exactly that; a `ModuleList` is iterated, never called): push `_name or ""`, name every own
  parameter `".".join(non-empty scope names) + "." + param.name`, idempotent per `Parameter` object.
* `stateDict`, `namedParams` — `Module.state_dict` (`_module.py:144`) and `named_parameters`
  (`_module.py:107`), transcribed separately.

Value semantics: a `Mod` is a tree; an object used in two places is two copies.  The real objects are
shared and mutable, so this model is faithful for *linear* construction programs (every object attached
at most once) — `TreeNotDag` in the theorems.
-/
namespace OV.C18

inductive Kind
  | module | list | seq
  deriving DecidableEq, Repr, BEq

structure Param where
  attr : String
  name : String
  pid : Nat
  deriving DecidableEq, Repr

mutual
  inductive Mod
    | mk (kind : Kind) (name : Option String) (params : List Param) (children : Mods)
  inductive Mods
    | nil
    | cons (key : String) (m : Mod) (rest : Mods)
end

namespace Mod
def kind : Mod → Kind | .mk k _ _ _ => k
def name : Mod → Option String | .mk _ n _ _ => n
def params : Mod → List Param | .mk _ _ p _ => p
def children : Mod → Mods | .mk _ _ _ c => c
/-- `object.__setattr__(m, "_name", n)`: the name is stored, nothing is propagated. -/
def rawName : Mod → String → Mod | .mk k _ p c, n => .mk k (some n) p c
end Mod

namespace Mods
def length : Mods → Nat
  | .nil => 0
  | .cons _ _ r => r.length + 1
def snoc : Mods → String → Mod → Mods
  | .nil, k, m => .cons k m .nil
  | .cons k' m' r, k, m => .cons k' m' (snoc r k m)
/-- dict assignment `d[k] = m`: replace in place, else append. -/
def insert : Mods → String → Mod → Mods
  | .nil, k, m => .cons k m .nil
  | .cons k' m' r, k, m => if k' = k then .cons k m r else .cons k' m' (insert r k m)
def toList : Mods → List (String × Mod)
  | .nil => []
  | .cons k m r => (k, m) :: r.toList
def ofList : List (String × Mod) → Mods
  | [] => .nil
  | (k, m) :: r => .cons k m (ofList r)
def find? : Mods → String → Option Mod
  | .nil, _ => none
  | .cons k m r, k' => if k = k' then some m else r.find? k'
end Mods

/-! ## `_set_name` (three overrides) -/

mutual
  def setName : Mod → String → Mod
    | .mk .module _ ps cs, n => .mk .module (some n) ps cs
    | .mk .list _ ps cs, n => .mk .list (some n) ps (setNamesQual cs n)
    | .mk .seq _ ps cs, n => .mk .seq (some n) ps (setNamesKey cs)
  /-- `ModuleList._set_name`: `child._set_name(f"{name}.{key}")`. -/
  def setNamesQual : Mods → String → Mods
    | .nil, _ => .nil
    | .cons k m r, n => .cons k (setName m (n ++ "." ++ k)) (setNamesQual r n)
  /-- `Sequential._set_name`: `child._set_name(key)`. -/
  def setNamesKey : Mods → Mods
    | .nil => .nil
    | .cons k m r => .cons k (setName m k) (setNamesKey r)
end

/-! ## construction operations -/

def mkModule (name : Option String) : Mod := .mk .module name [] .nil

def insertParam : List Param → Param → List Param
  | [], p => [p]
  | q :: r, p => if q.attr = p.attr then p :: r else q :: insertParam r p

/-- `self.<attr> = Parameter(..., name=pname)`. -/
def setParam (m : Mod) (attr : String) (pname : Option String) (pid : Nat) : Mod :=
  match m with
  | .mk k n ps cs => .mk k n (insertParam ps ⟨attr, pname.getD attr, pid⟩) cs

/-- the object stored by `self.<attr> = child`: an unnamed child gets `_set_name(attr)`. -/
def attrChild (attr : String) (c : Mod) : Mod :=
  match c.name with
  | none => setName c attr
  | some _ => c

/-- `self.<attr> = child` (child a Module instance). -/
def setChild (m : Mod) (attr : String) (c : Mod) : Mod :=
  match m with
  | .mk k n ps cs => .mk k n ps (cs.insert attr (attrChild attr c))

/-- the object stored by `ModuleList._register_child(key, module)` of a list named `ln`. -/
def listChild (ln : Option String) (key : String) (c : Mod) : Mod :=
  match c.name with
  | none =>
    match ln with
    | some ln => setName c (ln ++ "." ++ key)
    | none => c.rawName key
  | some _ => c

/-- `ModuleList._register_child(key, module)`. -/
def regChildList (l : Mod) (key : String) (c : Mod) : Mod :=
  match l with
  | .mk k n ps cs => .mk k n ps (cs.insert key (listChild n key c))

/-- the object stored by `Sequential._register_child(key, module)`. -/
def seqChild (key : String) (c : Mod) : Mod :=
  match c.name with
  | none => c.rawName key
  | some _ => c

/-- `Sequential._register_child(key, module)`. -/
def regChildSeq (l : Mod) (key : String) (c : Mod) : Mod :=
  match l with
  | .mk k n ps cs => .mk k n ps (cs.insert key (seqChild key c))

def regChild (l : Mod) (key : String) (c : Mod) : Mod :=
  match l.kind with
  | .seq => regChildSeq l key c
  | _ => regChildList l key c

/-- `append`: `key = str(len(self._modules))`. -/
def append (l : Mod) (c : Mod) : Mod := regChild l (toString l.children.length) c

def extend (l : Mod) (cs : List Mod) : Mod := cs.foldl append l

def mkList (cs : List Mod) : Mod := extend (.mk .list none [] .nil) cs
def mkSeq (cs : List Mod) : Mod := extend (.mk .seq none [] .nil) cs

def regAll : Mod → Nat → List Mod → Mod
  | l, _, [] => l
  | l, i, c :: r => regAll (regChildList l (toString i) c) (i + 1) r

/-- `self[a:b:c]`: `idxs` are the positions CPython's slice selects (computed by the caller). -/
def slice (l : Mod) (idxs : List Nat) : Mod :=
  let kids := l.children.toList
  regAll (.mk .list none [] .nil) 0 (idxs.filterMap (fun i => (kids[i]?).map (·.2)))

/-- apply `f` to the descendant reached by following child keys. -/
def modifyAt : List String → (Mod → Mod) → Mod → Mod
  | [], f, m => f m
  | k :: ks, f, .mk kd n ps cs => .mk kd n ps (go k ks f cs)
where
  go (k : String) (ks : List String) (f : Mod → Mod) : Mods → Mods
    | .nil => .nil
    | .cons k' m r => if k' = k then .cons k' (modifyAt ks f m) r else .cons k' m (go k ks f r)

/-- the descendant reached by following child keys (what a statement like `self.blocks[0].layers.append(m)`
    in an `__init__` acts on). -/
def nodeAt : List String → Mod → Option Mod
  | [], m => some m
  | k :: ks, .mk _ _ _ cs => (cs.find? k).bind (nodeAt ks)

/-! ## realisation (`Module.__call__` → `Parameter._realize`) -/

/-- `sep.join(parts)` (own recursion: core's `String.intercalate` hides an accumulator). -/
def joinWith (sep : String) : List String → String
  | [] => ""
  | [a] => a
  | a :: b :: r => a ++ sep ++ joinWith sep (b :: r)

/-- `_qualify_initializer_name` on a scope stack (outermost first). -/
def qualifyInit (scope : List String) (name : String) : String :=
  let parts := scope.filter (· ≠ "")
  if parts.isEmpty then name else joinWith "." parts ++ "." ++ name

mutual
  /-- visit a registered child from its parent's `forward`: a `ModuleList` is iterated, anything
      else is called. -/
  def visit (scope : List String) : Mod → List (String × Nat)
    | .mk .list _ _ cs => visitAll scope cs
    | .mk _ n ps cs =>
      let scope' := scope ++ [n.getD ""]
      ps.map (fun p => (qualifyInit scope' p.name, p.pid)) ++ visitAll scope' cs
  def visitAll (scope : List String) : Mods → List (String × Nat)
    | .nil => []
    | .cons _ m r => visit scope m ++ visitAll scope r
end

/-- keep the first entry per `pid` (`Parameter._realize` is idempotent per object). -/
def dedupPid : List (String × Nat) → List Nat → List (String × Nat)
  | [], _ => []
  | (n, p) :: r, seen => if p ∈ seen then dedupPid r seen else (n, p) :: dedupPid r (p :: seen)

/-- the root is *called* (whatever its kind; calling a bare ModuleList raises in the real code). -/
def callRoot : Mod → List (String × Nat)
  | .mk _ n ps cs =>
    let scope' := [n.getD ""]
    ps.map (fun p => (qualifyInit scope' p.name, p.pid)) ++ visitAll scope' cs

/-- realised parameters in realisation order: `(final name, pid)`. -/
def realize (root : Mod) : List (String × Nat) := dedupPid (callRoot root) []

/-- `graph.initializers` keys: `initializers[name] = param` keeps the first position of a name. -/
def initKeys (l : List (String × Nat)) : List String :=
  l.foldl (fun acc x => if x.1 ∈ acc then acc else acc ++ [x.1]) []

/- a `Sequential` with a `ModuleList` child cannot be called (`ModuleList.forward` raises). -/
mutual
  def callable : Mod → Bool
    | .mk .seq _ _ cs => noListChild cs && callableAll cs
    | .mk _ _ _ cs => callableAll cs
  def callableAll : Mods → Bool
    | .nil => true
    | .cons _ m r => callable m && callableAll r
  def noListChild : Mods → Bool
    | .nil => true
    | .cons _ (.mk .list _ _ _) _ => false
    | .cons _ _ r => noListChild r
end

/-! ## `state_dict()` / `named_parameters()` -/

def pfx (p k : String) : String := if p = "" then k else p ++ "." ++ k

mutual
  def stateDict (p : String) : Mod → List (String × Nat)
    | .mk _ _ ps cs => ps.map (fun q => (pfx p q.attr, q.pid)) ++ stateDictAll p cs
  def stateDictAll (p : String) : Mods → List (String × Nat)
    | .nil => []
    | .cons k m r => stateDict (pfx p k) m ++ stateDictAll p r
end

mutual
  def namedParams (p : String) : Mod → List (String × Nat)
    | .mk _ _ ps cs => ps.map (fun q => (pfx p q.attr, q.pid)) ++ namedParamsAll p cs
  def namedParamsAll (p : String) : Mods → List (String × Nat)
    | .nil => []
    | .cons k m r => namedParams (pfx p k) m ++ namedParamsAll p r
end

/-- `state_dict()` is a dict: a repeated key keeps its first position. -/
def dictKeys (l : List (String × Nat)) : List String := initKeys l

mutual
  def pids : Mod → List Nat
    | .mk _ _ ps cs => ps.map (·.pid) ++ pidsAll cs
  def pidsAll : Mods → List Nat
    | .nil => []
    | .cons _ m r => pids m ++ pidsAll r
end

/-- expected initializer name for a `state_dict` key: prefixed with the root's name (if it has one). -/
def rootKey (root : Mod) (k : String) : String := qualifyInit [root.name.getD ""] k

/-! ## realisation when `forward`s build subgraphs

A module's `forward` may call its children from inside the trace function of `GraphBuilder.subgraph`
(an `If`/`Loop`/`Scan` body), to any nesting depth.  The builders then form a stack: `Module.__call__` pushes the
module's name on the builder it is called with (the innermost one), `build_graph` (`builder.py:212`) gives the
sub-builder a **copy of its parent's** scope stack, `Parameter._realize` (`_parameter.py:60`, since commit
77b0052) qualifies with the scope of the builder the module is called with and registers in the root graph.
`ctl` lists the paths (child keys from the root) of the modules whose `forward` runs the children in a
sub-builder.  The two policies make the earlier / mutated behaviours expressible for the refutation witnesses. -/

structure SubPolicy where
  /-- sub-builder scope := copy of the *parent's* scope (`false`: of the root's). -/
  inheritParent : Bool
  /-- parameters are qualified with the *current* builder's scope (`false`: with the root builder's). -/
  qualifyCurrent : Bool
  deriving DecidableEq, Repr

/-- the code: `list(parent._scope_stack)` and `builder._qualify_initializer_name`. -/
def SubPolicy.code : SubPolicy := ⟨true, true⟩

/-- scope of the root builder = last element of the builder stack. -/
def rootScope (top : List String) (rest : List (List String)) : List String := (top :: rest).getLast (by simp)

mutual
  def visitB (pol : SubPolicy) (ctl : List (List String)) (path : List String) (top : List String)
      (rest : List (List String)) : Mod → List (String × Nat)
    | .mk .list _ _ cs => visitAllB pol ctl path top rest cs
    | .mk _ n ps cs =>
      let top' := top ++ [n.getD ""]
      -- the push goes to the current builder; the root builder's own scope only changes when it *is* the current one
      let rest' := rest
      let q := if pol.qualifyCurrent then top' else rootScope top' rest'
      ps.map (fun p => (qualifyInit q p.name, p.pid)) ++
        (if ctl.contains path then
          let sub := if pol.inheritParent then top' else rootScope top' rest'
          visitAllB pol ctl path sub (top' :: rest') cs
        else visitAllB pol ctl path top' rest' cs)
  def visitAllB (pol : SubPolicy) (ctl : List (List String)) (path : List String) (top : List String)
      (rest : List (List String)) : Mods → List (String × Nat)
    | .nil => []
    | .cons k m r => visitB pol ctl (path ++ [k]) top rest m ++ visitAllB pol ctl path top rest r
end

/-- the root is called on the root builder (empty scope, no enclosing builders). -/
def realizeB (pol : SubPolicy) (ctl : List (List String)) (root : Mod) : List (String × Nat) :=
  match root with
  | .mk _ n ps cs =>
    let top' := [n.getD ""]
    dedupPid (ps.map (fun p => (qualifyInit top' p.name, p.pid)) ++
      (if ctl.contains [] then visitAllB pol ctl [] top' [top'] cs else visitAllB pol ctl [] top' [] cs)) []

end OV.C18
