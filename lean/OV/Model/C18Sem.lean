import OV.Model.C18Builder
/-!
# C18 — meaning of a built graph and of a trace, over uninterpreted operators

Core Lean only.  Used by the theorems `build_computes_trace_partial` and `inline_eq_call_partial`.

* `OpSem α` — assumption A-op: an operator (domain, op type, overload) is *a function* of its input values
  (attributes are not modelled: they are part of the operator's identity here); a promoted literal's value is
  a function of its cache key `(repr, dtype)`.
* `evalNodes` — the meaning of a node list: nodes in order, each binding its output ids.
* `replay` — the trace's own meaning: every `op`/`call` item applies the operator to the values of its
  operands (handles, literals, `None`) and yields the values of its new handles.
* `evalBody` — the meaning of a function body over value *names* (what a call node denotes when the function
  is expanded).
-/
namespace OV.C18

structure OpSem (α : Type) where
  /-- (domain, op type, overload, attributes) applied to the input values. -/
  op : String → String → String → List (String × AVal) → List (Option α) → List α
  lit : CKey → α

abbrev Env (α : Type) := Nat → Option α

def Env.set {α : Type} (e : Env α) (i : Nat) (v : Option α) : Env α := fun j => if j = i then v else e j

/-- bind output ids to results, position by position (a missing result leaves `none`). -/
def bindOuts {α : Type} (e : Env α) : List Nat → List α → Env α
  | [], _ => e
  | o :: os, vs => bindOuts (e.set o vs.head?) os vs.tail

def evalNode {α : Type} (S : OpSem α) (e : Env α) (n : Node) : Env α :=
  bindOuts e n.outs (S.op n.domain n.op n.overload n.attrs (n.ins.map (fun i => i.bind e)))

def evalNodes {α : Type} (S : OpSem α) (e : Env α) (ns : List Node) : Env α := ns.foldl (evalNode S) e

/-- position of `i` in a list of ids. -/
def posOf (i : Nat) : List Nat → Option Nat
  | [] => none
  | x :: xs => if x = i then some 0 else (posOf i xs).map (· + 1)

/-- the environment a graph starts from: root initializers hold their literal's value, the current graph's
    inputs hold the arguments in order. -/
def baseOf {α : Type} (S : OpSem α) (cache : List (CKey × Nat)) (inputs : List Nat) (args : List α) : Env α :=
  fun i =>
    match cache.find? (fun e => e.2 = i) with
    | some e => some (S.lit e.1)
    | none =>
      match posOf i inputs with
      | some k => args[k]?
      | none => none

def baseEnv {α : Type} (S : OpSem α) (st : St) (args : List α) : Env α := baseOf S st.cache st.cur.inputs args

/-- the meaning of the (root) graph of a state on `args`. -/
def evalGraph {α : Type} (S : OpSem α) (st : St) (args : List α) : Env α :=
  evalNodes S (baseEnv S st args) st.cur.nodes

/-! ## function bodies over names -/

abbrev NEnv (α : Type) := String → Option α

def NEnv.set {α : Type} (e : NEnv α) (k : String) (v : Option α) : NEnv α := fun j => if j = k then v else e j

def bindNames {α : Type} (e : NEnv α) : List String → List α → NEnv α
  | [], _ => e
  | o :: os, vs => bindNames (e.set o vs.head?) os vs.tail

def evalFNode {α : Type} (S : OpSem α) (e : NEnv α) (n : FNode) : NEnv α :=
  bindNames e n.outs (S.op n.domain n.op "" (plainAttrs n.attrs) (n.ins.map (fun i => i.bind e)))

def bindFormals {α : Type} : List String → List (Option α) → NEnv α
  | f :: fs, v :: vs => (bindFormals fs vs).set f v
  | _, _ => fun _ => none

/-- the values of a function's outputs on given actual values (the body's attributes as they stand: a
    reference attribute that is still unresolved is absent). -/
def evalBody {α : Type} (S : OpSem α) (f : Fn) (actuals : List (Option α)) : List (Option α) :=
  let e := f.nodes.foldl (evalFNode S) (bindFormals f.formals actuals)
  f.outputs.map e

/-- what a function-call node with the attributes `passed` denotes (ONNX function semantics): the body with
    every reference attribute bound to the passed value, else to the parameter's declared default. -/
def callMeaning {α : Type} (S : OpSem α) (f : Fn) (passed : List (String × AVal)) (actuals : List (Option α)) :
    List (Option α) :=
  evalBody S (resolveFn (effectiveAttrs true f passed) f) actuals

/-! ## the trace's own meaning -/

structure RSt (α : Type) where
  henv : List (Option α)
  nin : Nat

def argVal {α : Type} (S : OpSem α) (henv : List (Option α)) : Arg → Option α
  | .ref h => henv.getD h none
  | .lit l => some (S.lit (litKey l))
  | .none => none

def outCount : Outs → Nat
  | .auto n => n
  | .named ns => ns.length

def takeN {α : Type} (vs : List α) : Nat → List (Option α)
  | 0 => []
  | n + 1 => vs.head? :: takeN vs.tail n

def replayStep {α : Type} (S : OpSem α) (fns : List Fn) (args : List α) (r : RSt α) : Item → RSt α
  | .input _ => ⟨r.henv ++ [args[r.nin]?], r.nin + 1⟩
  | .op t a o _ _ as =>
    let vs := S.op "" t "" as (a.map (argVal S r.henv))
    ⟨r.henv ++ takeN vs (outCount o), r.nin⟩
  | .call fi a o as =>
    match fns[fi]? with
    | none => r
    | some f =>
      let vs := S.op f.domain f.name f.overload as (a.map (argVal S r.henv))
      ⟨r.henv ++ takeN vs (outCount (o.getD (.auto f.outputs.length))), r.nin⟩
  | .inline fi a o _ as =>
    -- inlining a function means what calling it means (ONNX function semantics); where `call_inline` refuses
    -- (unknown function, too many operands, wrong number of `_outputs`; before 06b8334 also a literal operand) nothing is traced
    match fns[fi]? with
    | none => r
    | some f =>
      if (!inlineAdapts && !(a.all isRef)) || decide (a.length > f.formals.length) || outsMismatch o f then r
      else ⟨r.henv ++ callMeaning S f as (a.map (argVal S r.henv)), r.nin⟩
  | _ => r

def replay {α : Type} (S : OpSem α) (fns : List Fn) (args : List α) (tr : List Item) : RSt α :=
  tr.foldl (replayStep S fns args) ⟨[], 0⟩


end OV.C18
