import OV.Model.C18NN
/-!
# C18 — model of `GraphBuilder` / `OpBuilder` naming and structure

Core Lean only (the driver `drv_c18` is compiled from this file).

What is restated here, and from where (`/repo/onnxscript/_internal/`):

* A *trace* (`List Item`) is what a user program does to one root `GraphBuilder`: declare an input
  (`GraphBuilder.input`), call an operator (`OpBuilder.__getattr__` → `BuilderBase.call_op`,
  `tape_builder.py:333`), push/pop a module scope, call a function as a node (`GraphBuilder.call`,
  `builder.py:726`), inline it (`call_inline`, `builder.py:773` + `_inliner.instantiate`), open and
  close a subgraph (`GraphBuilder.subgraph` → `build_graph`, `builder.py:212`: the trace function runs
  against a *child* builder whose scope stack is a copy of the parent's), declare an output
  (`add_output`).
* Values are objects with a mutable `name` (`ir.Value`): the state keeps `vnames : id ↦ name`;
  nodes refer to value ids, so a later rename (declared subgraph output, `_outputs=` of
  `call_inline`, the re-qualification of inlined outputs) is seen by every use — as in Python.
* `outKeys` — `GraphBuilder._adapt_outputs` (`builder.py:505`): `count = self._node_count()` = nodes of the root graph
  **and of all subgraphs of the builder tree** (commit e9794aa; before it the builder's own graph only); one output `"{op}_{count}"`, several `"{op}_{i}_{count}"` (see `countLast`), explicit strings as
  given; all passed through `_qualify_value_name` (`"v_" + ".".join(non-empty scopes) + "." + name`).
* node names — `_generate_node_name` (`"{op}_node_{count}"` through `_qualify_node_name`, `/`-joined),
  an explicit `_name=` is taken as is.
* literals — `_get_or_create_constant` (`builder.py:614`): root-owned cache keyed by `(repr(value), dtype)` (commit 610a39a),
  names `const_{value}_{dtype}` / `const_1d_{len(cache)}` (`tape_builder._constant_name`), registered as
  initializers of the **root** graph, never scope-qualified.  *Which* dtype a literal gets is C12's
  business: the trace carries the resolved dtype suffix and the numeric identity of the value
  (kept in the wire format; unused since the key is the `repr`).  List literals here are homogeneous
  `int` lists (`Lit.ints`); lists mixing Python types (commit fa769b8: cached with dtype `None`, element type left to
  NumPy) are C12's subject and are not generated.
* `doInline` — `_inliner.instantiate` (`prefix + node.name`, `prefix + output.name`, formals ↦ actuals)
  followed by `call_inline`'s renaming: non-final outputs `_qualify_value_name(name)`, final outputs the
  qualified `_outputs` names or `_qualify_value_name(current name)` — only for values produced by the
  inlined nodes (commit e7b46e0; before it a function output that is one of the caller's own values, a
  function returning its input, was renamed in place).
-/
namespace OV.C18

inductive Lit
  | num (repr : String) (key : Int) (dt : String)
  | ints (vals : List Int) (dt : String)
  deriving DecidableEq, Repr

inductive Arg
  | ref (h : Nat)
  | lit (l : Lit)
  | none
  deriving DecidableEq, Repr

inductive Outs
  | auto (n : Nat)
  | named (ns : List String)
  deriving DecidableEq, Repr

/-- attribute values are carried as canonical text (`i:0`, `f:0.5`, `is:1;2`, `s:…`, `t` for a tensor). -/
abbrev AVal := String

/-- an attribute of a body node: a value, or a reference to an attribute parameter of the function. -/
inductive FAttr
  | val (v : AVal)
  | ref (param : String)
  deriving DecidableEq, Repr

/-- a node of a function body, over value *names* local to the body. -/
structure FNode where
  name : String
  domain : String
  op : String
  ins : List (Option String)
  outs : List String
  attrs : List (String × FAttr)
  deriving DecidableEq, Repr

structure Fn where
  name : String
  domain : String
  overload : String
  formals : List String
  nodes : List FNode
  outputs : List String
  /-- declared attribute parameters with their default (`none`: required). -/
  attrParams : List (String × Option AVal)
  deriving DecidableEq, Repr

inductive Item
  | input (name : String)
  | op (opType : String) (args : List Arg) (outs : Outs) (nodeName : Option String) (graphs : List Nat)
      (attrs : List (String × AVal))
  | push (name : String)
  | pop
  | call (f : Nat) (args : List Arg) (outs : Option Outs) (attrs : List (String × AVal))
  | inline (f : Nat) (args : List Arg) (outs : Option (List String)) (pfx : String) (attrs : List (String × AVal))
  | beginSub (gname : String) (inputs : List String)
  | endSub (rets : List Nat) (declared : List String)
  | output (h : Nat) (name : Option String)
  /-- the trace function of the innermost open `subgraph(...)` raises; the caller catches the exception outside
      `subgraph` and goes on using the enclosing builder. -/
  | abortSub
  deriving DecidableEq, Repr

structure Node where
  name : String
  domain : String
  op : String
  ins : List (Option Nat)
  outs : List Nat
  graphs : List Nat
  overload : String
  attrs : List (String × AVal)
  deriving DecidableEq, Repr

/-- one `GraphBuilder` with its `ir.Graph`. -/
structure Frame where
  gname : String
  inputs : List Nat
  nodes : List Node
  scope : List String
  outputs : List Nat
  deriving DecidableEq, Repr

/-- cache key `(repr(value), dtype)` (commit 610a39a; before it `(value, dtype)`, under which
    `2 == 2.0 == True·2` shared an entry). -/
inductive CKey
  | num (repr : String) (dt : String)
  | ints (vals : List Int) (dt : String)
  deriving DecidableEq, Repr

/-- how a value's name was made: automatically from (scope, op, node count, output index), or
    any other way (`raw`: user-given, constant, inlined). -/
inductive VKey
  | raw (s : String)
  | auto (parts : List String) (op : String) (count : Nat) (idx : Option Nat)
  deriving DecidableEq, Repr

structure St where
  vnames : List String
  vkeys : List VKey
  handles : List (Option Nat)
  cur : Frame
  stack : List Frame
  cache : List (CKey × Nat)
  inits : List Nat
  done : List Frame
  funcs : List String
  err : Option String
  deriving Repr

def St.init : St :=
  { vnames := [], vkeys := [], handles := [], cur := ⟨"main", [], [], [], []⟩, stack := [], cache := [],
    inits := [], done := [], funcs := [], err := none }

/-! ## qualification -/

def scopeParts (f : Frame) : List String := f.scope.filter (· ≠ "")

def qualifyParts (parts : List String) (n : String) : String :=
  if parts.isEmpty then "v_" ++ n else "v_" ++ joinWith "." parts ++ "." ++ n

def qualifyValue (f : Frame) (n : String) : String := qualifyParts (scopeParts f) n

def qualifyNode (f : Frame) (n : String) : String :=
  let parts := scopeParts f
  if parts.isEmpty then n else joinWith "/" parts ++ "/" ++ n

/-! ## values -/

def autoBase (op : String) (count : Nat) : String :=
  if op = "" then toString count else op ++ "_" ++ toString count

/-- the rendering with the output index last (`{op}_{count}_{i}`): /repo before the fix C18-D20f. -/
def VKey.renderOld : VKey → String
  | .raw s => s
  | .auto parts op c none => qualifyParts parts (autoBase op c)
  | .auto parts op c (some i) => qualifyParts parts (autoBase op c ++ "_" ++ toString i)

/-- `"v_"` + the dotted scope + `"."` (what `_qualify_value_name` puts in front of a name). -/
def qualifyHead (parts : List String) : String :=
  if parts.isEmpty then "v_" else "v_" ++ joinWith "." parts ++ "."

/-- `"{op}_"` (nothing for an empty op type). -/
def opHead (op : String) : String := if op = "" then "" else op ++ "_"

/-- the rendering with the node count **last** (`{op}_{count}`, `{op}_{i}_{count}`; proposed fix C18-D20f). -/
def VKey.renderNew : VKey → String
  | .raw s => s
  | .auto parts op c none => qualifyHead parts ++ opHead op ++ toString c
  | .auto parts op c (some i) => qualifyHead parts ++ opHead op ++ toString i ++ "_" ++ toString c

/-- which order `_adapt_outputs` of the pinned /repo uses for multi-output names (`true`: count last). -/
def countLast : Bool := true

def VKey.render (k : VKey) : String := if countLast then k.renderNew else k.renderOld

def newValueK (st : St) (k : VKey) : St × Nat :=
  ({ st with vnames := st.vnames ++ [k.render], vkeys := st.vkeys ++ [k] }, st.vnames.length)

def newValue (st : St) (name : String) : St × Nat := newValueK st (.raw name)

def newValuesK (st : St) : List VKey → St × List Nat
  | [] => (st, [])
  | k :: r =>
    let (st1, id) := newValueK st k
    let (st2, ids) := newValuesK st1 r
    (st2, id :: ids)

def newValues (st : St) (names : List String) : St × List Nat := newValuesK st (names.map .raw)

def renameValue (st : St) (id : Nat) (f : String → String) : St :=
  { st with vnames := st.vnames.modify id f }

def nameOf (st : St) (id : Nat) : String := st.vnames.getD id ""

/-! ## literals -/

def litKey : Lit → CKey
  | .num r _ dt => .num r dt
  | .ints v dt => .ints v dt

def constName (l : Lit) (cacheLen : Nat) : String :=
  match l with
  | .num r _ dt => if dt = "" then "const_" ++ r else "const_" ++ r ++ "_" ++ dt
  | .ints _ _ => "const_1d_" ++ toString cacheLen

def cacheFind (c : List (CKey × Nat)) (k : CKey) : Option Nat :=
  (c.find? (fun e => e.1 = k)).map (·.2)

def promote (st : St) (l : Lit) : St × Nat :=
  match cacheFind st.cache (litKey l) with
  | some id => (st, id)
  | none =>
    let (st1, id) := newValue st (constName l st.cache.length)
    ({ st1 with cache := st1.cache ++ [(litKey l, id)], inits := st1.inits ++ [id] }, id)

def resolveArgs (st : St) : List Arg → St × List (Option Nat)
  | [] => (st, [])
  | .ref h :: r =>
    let (st1, ins) := resolveArgs st r
    (st1, (st.handles.getD h none) :: ins)
  | .none :: r =>
    let (st1, ins) := resolveArgs st r
    (st1, none :: ins)
  | .lit l :: r =>
    let (st1, id) := promote st l
    let (st2, ins) := resolveArgs st1 r
    (st2, some id :: ins)

/-! ## outputs and node names -/

/-- `_adapt_outputs`: one automatic output `{op}_{count}`, several `{op}_{i}_{count}` (`VKey.render`), explicit
    names qualified; `count` is what the caller passes: `nodeCount`, for `build` the count over the whole builder tree. -/
def outKeys (f : Frame) (count : Nat) (op : String) : Outs → List VKey
  | .auto n =>
    if n = 1 then [.auto (scopeParts f) op count none]
    else (List.range n).map (fun i => .auto (scopeParts f) op count (some i))
  | .named ns => ns.map (fun s => .raw (qualifyValue f s))

def autoNodeName (f : Frame) (count : Nat) (op : String) : String :=
  qualifyNode f (op ++ "_node_" ++ toString count)

def sumNodes (fs : List Frame) : Nat := (fs.map (·.nodes.length)).sum

/-- `GraphBuilder._node_count` (commit e9794aa): nodes of the root graph and of every subgraph built
    through this builder tree so far.  `total = false` is the behaviour before that commit
    (`self.graph.num_nodes()`, the builder's own graph only), kept for the refutation witnesses; the same
    flag also selects the `call_inline` output renaming before commit e7b46e0 (see `renameFinals`). -/
def nodeCount (total : Bool) (st : St) : Nat :=
  if total then st.cur.nodes.length + sumNodes st.stack + sumNodes st.done else st.cur.nodes.length

def addNode (st : St) (n : Node) : St :=
  { st with cur := { st.cur with nodes := st.cur.nodes ++ [n] } }

/-- a refusal (the builder raises).  The caller may catch the exception and go on: the trace continues on the
    state the raising call left behind; `err` lists the refusals in order. -/
def fail (st : St) (e : String) : St :=
  match st.err with
  | some p => { st with err := some (p ++ "," ++ e) }
  | none => { st with err := some e }

/-! ## the operations -/

def doOp (total : Bool) (st : St) (opType : String) (args : List Arg) (outs : Outs) (nodeName : Option String)
    (graphs : List Nat) (attrs : List (String × AVal)) : St :=
  let (st1, ins) := resolveArgs st args
  let keys := outKeys st1.cur (nodeCount total st1) opType outs
  let nname := nodeName.getD (autoNodeName st1.cur (nodeCount total st1) opType)
  let (st2, ids) := newValuesK st1 keys
  let st3 := addNode st2 ⟨nname, "", opType, ins, ids, graphs, "", attrs⟩
  { st3 with handles := st3.handles ++ ids.map some }

def doCall (total : Bool) (fns : List Fn) (st : St) (fi : Nat) (args : List Arg) (outs : Option Outs)
    (attrs : List (String × AVal)) : St :=
  match fns[fi]? with
  | none => fail st "no-such-function"
  | some f =>
    let keys := outKeys st.cur (nodeCount total st) f.name (outs.getD (.auto f.outputs.length))
    let (st1, ids) := newValuesK st keys
    let (st2, ins) := resolveArgs st1 args
    let nname := autoNodeName st2.cur (nodeCount total st2) f.name
    let st3 := addNode st2 ⟨nname, f.domain, f.name, ins, ids, [], f.overload, attrs⟩
    let fid := f.domain ++ ":" ++ f.name ++ ":" ++ f.overload
    { st3 with handles := st3.handles ++ ids.map some,
               funcs := if fid ∈ st3.funcs then st3.funcs else st3.funcs ++ [fid] }

abbrev VMap := List (String × Option Nat)

def vmapGet (m : VMap) (n : String) : Option Nat :=
  match m.find? (fun e => e.1 = n) with
  | some e => e.2
  | none => none

/-- an input of a body node through the value map (`Cloner`: a mapped value, else absent). -/
def mapIn (m : VMap) : Option String → Option Nat
  | some x => vmapGet m x
  | none => none

/-! ### attributes of an inlined body -/

def attrGet (am : List (String × AVal)) (p : String) : Option AVal :=
  (am.find? (fun e => e.1 = p)).map (·.2)

/-- `Cloner.clone_attr` with `resolve_ref_attrs=True`: a reference attribute takes the mapped value under the
    node's own attribute name; an unmapped reference is dropped. -/
def resolveAttr (am : List (String × AVal)) : String × FAttr → Option (String × FAttr)
  | (k, .val v) => some (k, .val v)
  | (k, .ref p) => (attrGet am p).map (fun v => (k, .val v))

def resolveNode (am : List (String × AVal)) (n : FNode) : FNode :=
  { n with attrs := n.attrs.filterMap (resolveAttr am) }

/-- the function with every reference attribute of its body resolved under `am`. -/
def resolveFn (am : List (String × AVal)) (f : Fn) : Fn :=
  { f with nodes := f.nodes.map (resolveNode am) }

/-- the attributes a cloned node carries: the (resolved) values. -/
def plainAttrs (as : List (String × FAttr)) : List (String × AVal) :=
  as.filterMap (fun e => match e.2 with
    | .val v => some (e.1, v)
    | .ref _ => none)

/-- the attribute map `call_inline` hands to the inliner (commit 1ed6700): the passed values, then the declared
    default of every attribute parameter that was not passed and *has* a default — whatever its value (a default
    of `0`, `0.0`, `""` or `[]` counts).  Before that commit (`total = false`): the passed values only. -/
def effectiveAttrs (total : Bool) (f : Fn) (passed : List (String × AVal)) : List (String × AVal) :=
  passed ++ (if total then
    f.attrParams.filterMap (fun e => if (attrGet passed e.1).isSome then none else e.2.map (fun v => (e.1, v)))
  else [])

/-- clone one body node (`Cloner.clone_node` + `rename`): inputs through the value map, fresh outputs
    named `prefix + name`, node name `prefix + name`. -/
def cloneNode (st : St) (m : VMap) (np : String) (n : FNode) : St × VMap × Node :=
  let ins := n.ins.map (mapIn m)
  let (st1, ids) := newValues st (n.outs.map (fun o => if o = "" then "" else np ++ o))
  let m1 := (n.outs.zip (ids.map some)) ++ m
  (st1, m1, ⟨if n.name = "" then "" else np ++ n.name, n.domain, n.op, ins, ids, [], "", plainAttrs n.attrs⟩)

def cloneNodes (st : St) (m : VMap) (np : String) : List FNode → St × VMap × List Node
  | [] => (st, m, [])
  | n :: r =>
    let (st1, m1, nd) := cloneNode st m np n
    let (st2, m2, nds) := cloneNodes st1 m1 np r
    (st2, m2, nd :: nds)

/-- the loop of `call_inline` over the cloned nodes: re-qualify non-final outputs, append the node. -/
def addInlined (st : St) (finals : List Nat) : List Node → St
  | [] => st
  | n :: r =>
    let st1 := n.outs.foldl (fun s o =>
      if nameOf s o ≠ "" ∧ o ∉ finals then renameValue s o (qualifyValue s.cur) else s) st
    addInlined (addNode st1 n) finals r

/-- final outputs of `call_inline`: the qualified `_outputs` names, or the re-qualified current name.
    `guard id` = "the value was produced by the inlined nodes" (commit e7b46e0): a function output that is
    one of the caller's own values keeps its name.  Before that commit every final output was renamed. -/
def renameFinals (guard : Nat → Bool) (st : St) : List (Option Nat) → Option (List String) → St
  | outs, some desired =>
    (outs.zip desired).foldl (fun s x => match x.1 with
      | some id => if guard id then renameValue s id (fun _ => x.2) else s
      | none => s) st
  | outs, none =>
    outs.foldl (fun s o => match o with
      | some id => if guard id && (nameOf s id != "") then renameValue s id (qualifyValue s.cur) else s
      | none => s) st

def pushScope (st : St) (n : String) : St := { st with cur := { st.cur with scope := st.cur.scope ++ [n] } }
def popScope (st : St) : St :=
  if st.cur.scope.isEmpty then fail st "pop-empty"
  else { st with cur := { st.cur with scope := st.cur.scope.dropLast } }

def isRef : Arg → Bool
  | .lit _ => false
  | _ => true

/-- the clones `call_inline` makes of the body of `f` (formals ↦ actuals, names prefixed with the qualified
    `"{f}_node_{count}/"`), with the state and the value map after cloning. -/
def inlineClones (total : Bool) (st0 : St) (f : Fn) (actuals : List (Option Nat)) : St × VMap × List Node :=
  cloneNodes st0 (f.formals.zip actuals) (autoNodeName st0.cur (nodeCount total st0) f.name ++ "/") f.nodes

/-- `_outputs=` given with the wrong number of names. -/
def outsMismatch (outs : Option (List String)) (f : Fn) : Bool :=
  match outs with
  | some o => o.length != f.outputs.length
  | none => false

/-- clone the body, append the clones (re-qualifying non-final outputs), rename the final outputs; returns
    the state and the values the function's outputs are mapped to. -/
def inlineRun (total : Bool) (st0 : St) (f : Fn) (actuals : List (Option Nat)) (desired : Option (List String)) :
    St × List (Option Nat) :=
  let c := inlineClones total st0 f actuals
  let finalsO := f.outputs.map (vmapGet c.2.1)
  let st2 := addInlined c.1 (finalsO.filterMap id) c.2.2
  let produced := c.2.2.flatMap (·.outs)
  (renameFinals (fun id => !total || produced.contains id) st2 finalsO desired, finalsO)

/-- does `call_inline` adapt its operands like `call` (`_input_to_ir_value`: literals become initializers)?
    Pinned /repo: yes (commit 06b8334); before it a literal operand made the cloner raise (finding D20i). -/
def inlineAdapts : Bool := true

/-- is the `_prefix` scope of `call_inline` left on the scope stack when `_inliner.instantiate` raises
    ("Too many inputs")?  Pinned /repo: **no** — the pushed section runs under `try/finally` (commit 15c1bb3).
    `true` = the code before that commit (`push_module(_prefix)` … `pop_module()` on the success path only;
    finding D20j), kept for the regression statement `scopes_kept_prefix_refuted`. -/
def prefixLeaks : Bool := false

def doInlineWith (leak : Bool) (total : Bool) (fns : List Fn) (st : St) (fi : Nat) (args : List Arg)
    (outs : Option (List String)) (pfx : String) (attrs : List (String × AVal)) : St :=
  match fns[fi]? with
  | none => fail st "no-such-function"
  | some f =>
    if !inlineAdapts && !(args.all isRef) then fail st "inline-literal-arg"
    else if outsMismatch outs f then
      -- raised before anything is touched (`builder.py:801-806`)
      fail st "outputs-mismatch"
    else
      let desired := outs.map (fun o => o.map (qualifyValue st.cur))
      let st0 := if pfx = "" then st else pushScope st pfx
      -- operands: values as they are; Python literals promoted to initializers when `inlineAdapts`
      -- (`resolveArgs` leaves the state alone when every operand is a value)
      let ra := resolveArgs st0 args
      if args.length > f.formals.length then
        -- `_inliner.instantiate` raises *after* the prefix was pushed and the operands were adapted: the promoted
        -- literals stay (harmless); the prefix scope is popped by the `finally` (15c1bb3) — before it (`leak`) it stayed
        fail (if leak || pfx = "" then ra.1 else popScope ra.1) "too-many-inputs"
      else
        let rr := inlineRun total ra.1 (resolveFn (effectiveAttrs total f attrs) f) ra.2 desired
        let st4 := if pfx = "" then rr.1 else popScope rr.1
        { st4 with handles := st4.handles ++ rr.2 }

def doInline (total : Bool) (fns : List Fn) (st : St) (fi : Nat) (args : List Arg) (outs : Option (List String))
    (pfx : String) (attrs : List (String × AVal)) : St :=
  doInlineWith prefixLeaks total fns st fi args outs pfx attrs

def doBeginSub (st : St) (gname : String) (inputs : List String) : St :=
  let (st1, ids) := newValues st inputs
  { st1 with cur := ⟨gname, ids, [], st.cur.scope, []⟩, stack := st.cur :: st.stack,
             handles := st1.handles ++ ids.map some }

/-- the sub-builder is dropped (its trace function raised, or `build_graph` raised after it returned): back in the
    enclosing builder, whose scope stack was never touched (the sub-builder worked on a *copy*).  The dropped graph
    stays in `_root._all_graphs` — its nodes keep counting for `_node_count()` — so it joins `done` (never attached
    to a node). -/
def abandon (st : St) : St :=
  match st.stack with
  | [] => st
  | parent :: rest => { st with done := st.done ++ [st.cur], cur := parent, stack := rest }

def doAbortSub (st : St) : St :=
  match st.stack with
  | [] => fail st "abort-at-root"
  | _ :: _ => abandon st

def doEndSub (st : St) (rets : List Nat) (declared : List String) : St :=
  match st.stack with
  | [] => fail st "endsub-at-root"
  | parent :: rest =>
    if rets.length ≠ declared.length then
      -- `build_graph` raises ValueError *after* the trace function ran (`builder.py:281-285`): the sub-builder is dropped
      fail (abandon st) "outputs-mismatch"
    else
      let ids := rets.filterMap (fun h => st.handles.getD h none)
      let st1 := (ids.zip declared).foldl (fun s (id, d) =>
        if d = "" then s else renameValue s id (fun _ => d)) st
      { st1 with done := st1.done ++ [{ st1.cur with outputs := ids }], cur := parent, stack := rest }

def doOutput (st : St) (h : Nat) (name : Option String) : St :=
  match st.handles.getD h none with
  | none => fail st "output-none"
  | some id =>
    let st1 := match name with
      | some n => if n = "" then st else renameValue st id (fun _ => n)
      | none => st
    { st1 with cur := { st1.cur with outputs := st1.cur.outputs ++ [id] } }

def doInput (st : St) (name : String) : St :=
  let (st1, id) := newValue st name
  { st1 with cur := { st1.cur with inputs := st1.cur.inputs ++ [id] }, handles := st1.handles ++ [some id] }

def step (total : Bool) (fns : List Fn) (st : St) : Item → St
  | .input n => doInput st n
  | .op t a o nn g as => doOp total st t a o nn g as
  | .push n => pushScope st n
  | .pop => popScope st
  | .call f a o as => doCall total fns st f a o as
  | .inline f a o p as => doInline total fns st f a o p as
  | .beginSub g i => doBeginSub st g i
  | .endSub r d => doEndSub st r d
  | .output h n => doOutput st h n
  | .abortSub => doAbortSub st

/-- the state after the whole trace; the root graph is `cur` when every `beginSub` was closed. -/
def buildWith (total : Bool) (fns : List Fn) (tr : List Item) : St := tr.foldl (step total fns) St.init

/-- the current code (names count nodes across the whole builder tree). -/
def build (fns : List Fn) (tr : List Item) : St := buildWith true fns tr

/-- the code before commits e9794aa (per-graph counter) and e7b46e0 (pass-through outputs renamed). -/
def buildPrefix (fns : List Fn) (tr : List Item) : St := buildWith false fns tr

/-! ## observations -/

/-- all graphs: the root first, then finished subgraphs in completion order. -/
def St.graphs (st : St) : List Frame := st.cur :: st.done

/-- names of all values ever created (each is defined at exactly one site: a graph input, a root
    initializer or one node output). -/
def St.valueNames (st : St) : List String := st.vnames

def St.nodeNames (st : St) : List String :=
  (st.graphs.flatMap (·.nodes)).map (·.name)

def isSub : Item → Bool
  | .beginSub _ _ => true
  | .endSub _ _ => true
  | .abortSub => true
  | _ => false

end OV.C18
