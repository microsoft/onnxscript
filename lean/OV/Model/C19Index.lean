import OV.Model.C19Fusions
/-!
# C19 — index bookkeeping of the fusions (core Lean; theorems in `OV.Props.C19`)

* `effAxis`: which input axis a `FusedMatMul` operand with flags `(transBatch, trans)` reads for each axis of
  the logical `[batch…, M, K]` operand (the docstring of `_TransposeFusedMatMulBaseWithBatch`).
* row-major flat indices of the `Reshape`/`Transpose` layouts used by the attention fusions.
-/
namespace OV.C19

/-- Source axis read for logical axis `k` by a FusedMatMul operand of rank `n` with `(transBatch, trans)`. -/
def effAxis (n : Nat) (tb t : Bool) (k : Nat) : Nat :=
  match tb, t with
  | false, false => k
  | false, true => axSwap n k
  | true, false => axBatch n k
  | true, true => axRotL n k

/-- Row-major flat index in shape `(B,S,H,D)`. -/
def flat4 (S H D : Nat) (b s h d : Nat) : Nat := ((b * S + s) * H + h) * D + d
/-- Row-major flat index in shape `(B,S,Dm)`. -/
def flat3 (S Dm : Nat) (b s c : Nat) : Nat := (b * S + s) * Dm + c

end OV.C19
