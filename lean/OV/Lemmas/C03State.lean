import OV.Lemmas.C03Env
/-!
`process_node` is a cascade of stages (alias substitution, const marking, partial evaluator, gate cascade,
`emitFold`), each of which leaves most of the state alone.  What a stage writes is stated once, as an equation
`st' = { st with … }`; the relations "same annotations" (`SameIS`) and "same bookkeeping" (`SameBk`) between the
states before and after, and the preservation of `Kept`, are read off it.

`Kept`: `gins` (formal inputs of all graphs) is written once by `initialState`; `removed` grows only in
`applyRepl` (`_clear_unused_initializers`) and only by names that are not graph inputs.

The output loop of `visit_graph` is specified once (`replaceOutputs_spec`), and `visitGraph_succ` gives `visitGraph`
in terms of its node loop; the graph-level theorems of the invariants start from these two.
-/
namespace OV.C03

def SameIS (st st' : St) : Prop := st'.info = st.info ∧ st'.sym = st.sym

theorem SameIS.refl (st : St) : SameIS st st := ⟨rfl, rfl⟩
theorem SameIS.trans {a b c : St} (h1 : SameIS a b) (h2 : SameIS b c) : SameIS a c :=
  ⟨h2.1.trans h1.1, h2.2.trans h1.2⟩
theorem SameIS.constOf {st st' : St} (h : SameIS st st') (x : Name) : st'.constOf x = st.constOf x := by
  simp only [St.constOf, St.getInfo, h.1]

def SameBk (st st' : St) : Prop :=
  st'.uses = st.uses ∧ st'.gins = st.gins ∧ st'.gouts = st.gouts ∧ st'.removed = st.removed

theorem SameBk.usesOf {st st' : St} (h : SameBk st st') (x : Name) : st'.usesOf x = st.usesOf x := by
  simp only [St.usesOf, h.1]

def Kept (G : List Name) (st : St) : Prop := st.gins = G ∧ ∀ y, y ∈ st.removed → G.contains y = false

theorem Kept.of_frame {G : List Name} {st st' : St} (h : Kept G st) (h1 : st'.gins = st.gins)
    (h2 : st'.removed = st.removed) : Kept G st' := by
  refine ⟨h1.trans h.1, ?_⟩
  rw [h2]
  exact h.2

/-- the name the next `freshName` call returns -/
def freshOf (st : St) : Name := "%" ++ toString st.fresh

theorem fresh_ne_of_head (k : Nat) (s : String) (hs : s.toList.head? ≠ some '%') : "%" ++ toString k ≠ s := by
  intro h
  apply hs
  rw [← h]
  simp [String.toList_append]

/-- the annotation of a folded value -/
def foldInfo (c : CInfo) : VInfo :=
  { dtype := some c.dtype, shape := some (c.shape.map fun (d : Nat) => Dim.known (Int.ofNat d)), const := some c }

theorem substInputs_writes (st : St) (n : Node) :
    ∃ u m h, (substInputs st n).2 = { st with uses := u, modified := m, hist := h } := by
  unfold substInputs
  suffices h : ∀ (l : List (Option Name)) (acc : List (Option Name) × St),
      (∃ u m h, acc.2 = { st with uses := u, modified := m, hist := h }) →
      ∃ u m h, (l.foldl substStep acc).2 = { st with uses := u, modified := m, hist := h } from h _ _ ⟨_, _, _, rfl⟩
  intro l
  induction l with
  | nil => exact fun _ h => h
  | cons x xs ih =>
    intro acc hacc
    apply ih
    obtain ⟨a, s⟩ := acc
    obtain ⟨u, m, h, rfl⟩ := hacc
    unfold substStep
    cases x with
    | none => exact ⟨_, _, _, rfl⟩
    | some y =>
      dsimp only
      split <;> exact ⟨_, _, _, rfl⟩

theorem processConstant_eq (ctx : Ctx) (st : St) (n : Node) :
    processConstant ctx st n = st ∨ ∃ o c, n.outputs = [o] ∧ processConstant ctx st n = st.setInfo o (foldInfo c) := by
  unfold processConstant
  split
  · exact Or.inl rfl
  · split
    · exact Or.inl rfl
    · split
      · rename_i o k a ho _
        -- the scrutinee (a match on the attribute) is generalised, so that `split` does not descend into it
        have key : ∀ c? : Option CInfo,
            (match c? with
              | none => st
              | some c => st.setInfo o (foldInfo c)) = st ∨
            ∃ o' c, n.outputs = [o'] ∧ (match c? with
              | none => st
              | some c => st.setInfo o (foldInfo c)) = st.setInfo o' (foldInfo c) := fun c? => by
          cases c? with
          | none => exact Or.inl rfl
          | some c => exact Or.inr ⟨o, c, ho, rfl⟩
        exact key _
      · exact Or.inl rfl

theorem processConstant_writes (ctx : Ctx) (st : St) (n : Node) : ∃ i, processConstant ctx st n = { st with info := i } := by
  rcases processConstant_eq ctx st n with h | ⟨o, c, _, h⟩ <;> rw [h] <;> exact ⟨_, rfl⟩

theorem constMark_writes (ctx : Ctx) (b : Bool) (st : St) (n : Node) :
    ∃ i, (if b then processConstant ctx st n else st) = { st with info := i } := by
  split
  · exact processConstant_writes ctx st n
  · exact ⟨_, rfl⟩

theorem evalPartial_writes (n : Node) (v : Nat) (st : St) :
    ∃ i s fr h dn, (evalPartial n v st).2 = { st with info := i, sym := s, fresh := fr, hist := h, dname := dn } := by
  unfold evalPartial
  split <;> exact ⟨_, _, _, _, _, rfl⟩

theorem gateProceed_writes (ctx : Ctx) (st : St) (n : Node) : ∃ h, (gateProceed ctx st n).2 = { st with hist := h } := by
  unfold gateProceed
  split
  · exact ⟨_, rfl⟩
  · exact ⟨_, rfl⟩
  · split
    · exact ⟨_, rfl⟩
    · dsimp only
      split
      · split <;> exact ⟨_, rfl⟩
      · exact ⟨_, rfl⟩

/-- `emitFold` by outcome: the node is kept; or (function bodies) one new `Constant` node; or (graphs) one new initializer. -/
theorem emitFold_eq (ctx : Ctx) (st : St) (n : Node) (c : CInfo) :
    (∃ h, emitFold ctx st n c = (.keep n, { st with hist := h })) ∨
    (ctx.isFunction = true ∧ ∃ h, emitFold ctx st n c =
      (.repl n { newNodes := [mkNode "Constant" [] [freshOf st] [("value", .tensor c.tok)]], newOuts := [freshOf st] },
       { st with info := insertA (insertA st.info (freshOf st) (foldInfo c)) (freshOf st) {}, fresh := st.fresh + 1,
                 hist := h })) ∨
    (ctx.isFunction = false ∧ ∃ o h, n.outputs = [o] ∧ emitFold ctx st n c =
      (.repl n { newNodes := [], newOuts := [freshOf st], inits := [(freshOf st, c.tok)] },
       { st with info := insertA st.info (freshOf st) (foldInfo c), fresh := st.fresh + 1, hist := h,
                 dname := (makeRoom st o).dname,
                 initDisplay := (makeRoom st o).display o :: (makeRoom st o).initDisplay })) := by
  -- one copy of the unfolded body, in `hE`, instead of one per alternative of the goal
  generalize hE : emitFold ctx st n c = r
  unfold emitFold at hE
  simp only [] at hE
  split at hE
  · exact Or.inl ⟨_, hE.symm⟩
  · rename_i hlen
    split at hE
    · exact Or.inl ⟨_, hE.symm⟩
    · obtain ⟨o, ho⟩ : ∃ o, n.outputs = [o] := by
        match hn : n.outputs, (show n.outputs.length = 1 by simpa using hlen) with
        | [o], _ => exact ⟨o, rfl⟩
      obtain ⟨h0, hN⟩ : ∃ h, (if c.size > ctx.outLimit then st.note "gate:outputsize_compensated" else st) =
          { st with hist := h } := by
        split <;> exact ⟨_, rfl⟩
      rw [hN] at hE
      cases hf : ctx.isFunction with
      | true =>
        rw [hf] at hE
        exact Or.inr (Or.inl ⟨rfl, _, hE.symm⟩)
      | false =>
        rw [hf, ho] at hE
        exact Or.inr (Or.inr ⟨rfl, o, _, ho, hE.symm⟩)

/-- The gate cascade by outcome: the node is kept; or all gates are passed and the reference evaluator's answer `c` goes to
`emitFold`. -/
theorem gateCascade_eq (ctx : Ctx) (st : St) (n : Node) (v : Nat) :
    (∃ h nd, gateCascade ctx st n v = (.keep n, { st with hist := h, need := nd })) ∨
    (∃ h c, n.isOp "Constant" = false ∧ n.subs = [] ∧ (∀ x, some x ∈ n.inputs → st.isGraphInput x = false) ∧
      (∀ x, some x ∈ n.inputs → (st.constOf x).isSome = true) ∧
      lookupA ctx.oracle (oracleKey st n v) = some (.single c) ∧
      gateCascade ctx st n v = emitFold ctx { st with hist := h } n c) := by
  generalize hG : gateCascade ctx st n v = r
  unfold gateCascade at hG
  split at hG
  · exact Or.inl ⟨_, _, hG.symm⟩
  · rename_i hconst
    split at hG
    · exact Or.inl ⟨_, _, hG.symm⟩
    · rename_i hcf
      split at hG
      · exact Or.inl ⟨_, _, hG.symm⟩
      · split at hG
        · exact Or.inl ⟨_, _, hG.symm⟩
        · rename_i hgi
          split at hG
          · exact Or.inl ⟨_, _, hG.symm⟩
          · rename_i hnc
            obtain ⟨h, hp⟩ := gateProceed_writes ctx st n
            split at hG
            · rename_i st2 heq
              rw [heq] at hp
              subst hp
              exact Or.inl ⟨_, _, hG.symm⟩
            · rename_i st2 heq
              rw [heq] at hp
              subst hp
              split at hG
              · exact Or.inl ⟨_, _, hG.symm⟩
              · exact Or.inl ⟨_, _, hG.symm⟩
              · rename_i c hor0
                have hmem : ∀ x, some x ∈ n.inputs → x ∈ n.inputs.filterMap id := fun x hx =>
                  List.mem_filterMap.mpr ⟨some x, hx, rfl⟩
                refine Or.inr ⟨h, c, by simpa using hconst, by simpa [isControlFlow] using hcf, ?_, ?_, ?_, hG.symm⟩
                · intro x hx
                  simpa using List.any_eq_false.mp (by simpa using hgi) x (hmem x hx)
                · intro x hx
                  have hm : x ∈ n.inputs.filterMap id := List.mem_filterMap.mpr ⟨some x, hx, rfl⟩
                  have := List.any_eq_false.mp (by simpa using hnc) x hm
                  simpa [Option.isNone_iff_eq_none, Option.isSome_iff_ne_none] using this
                · unfold oracleAnswer at hor0
                  split at hor0
                  · simp at hor0
                  · exact hor0

theorem emitFold_writes (ctx : Ctx) (st : St) (n : Node) (c : CInfo) :
    ∃ i fr h dn idp, (emitFold ctx st n c).2 = { st with info := i, fresh := fr, hist := h, dname := dn, initDisplay := idp } := by
  rcases emitFold_eq ctx st n c with ⟨h, he⟩ | ⟨_, h, he⟩ | ⟨_, o, h, _, he⟩ <;> rw [he] <;>
    exact ⟨_, _, _, _, _, rfl⟩

theorem gateCascade_writes (ctx : Ctx) (st : St) (n : Node) (v : Nat) :
    ∃ i fr nd h dn idp, (gateCascade ctx st n v).2 =
      { st with info := i, fresh := fr, need := nd, hist := h, dname := dn, initDisplay := idp } := by
  rcases gateCascade_eq ctx st n v with ⟨h, nd, he⟩ | ⟨h, c, _, _, _, _, _, he⟩
  · rw [he]
    exact ⟨_, _, _, _, _, _, rfl⟩
  · obtain ⟨i, fr, h', dn, idp, hw⟩ := emitFold_writes ctx { st with hist := h } n c
    rw [he, hw]
    exact ⟨_, _, _, _, _, _, rfl⟩

theorem emitFold_ne_error (ctx : Ctx) (st : St) (n : Node) (c : CInfo) (m : String) :
    (emitFold ctx st n c).1 ≠ PRes.error m := by
  rcases emitFold_eq ctx st n c with ⟨h, he⟩ | ⟨_, h, he⟩ | ⟨_, o, h, _, he⟩ <;> rw [he] <;> exact fun e => nomatch e

theorem gateCascade_ne_error (ctx : Ctx) (st : St) (n : Node) (v : Nat) (m : String) :
    (gateCascade ctx st n v).1 ≠ PRes.error m := by
  rcases gateCascade_eq ctx st n v with ⟨h, nd, he⟩ | ⟨h, c, _, _, _, _, _, he⟩
  · rw [he]
    exact fun e => nomatch e
  · rw [he]
    exact emitFold_ne_error ctx _ n c m

theorem decUses_writes (xs : List (Option Name)) : ∀ (st : St), ∃ u, st.decUses xs = { st with uses := u } := by
  induction xs with
  | nil => exact fun st => ⟨_, rfl⟩
  | cons x xs ih =>
    intro st
    simp only [St.decUses, List.foldl_cons] at ih ⊢
    cases x with
    | none => exact ih st
    | some y =>
      obtain ⟨u, e⟩ := ih (st.decUse y)
      exact ⟨u, e⟩

theorem incUses_writes (xs : List (Option Name)) : ∀ (st : St), ∃ u, st.incUses xs = { st with uses := u } := by
  induction xs with
  | nil => exact fun st => ⟨_, rfl⟩
  | cons x xs ih =>
    intro st
    simp only [St.incUses, List.foldl_cons] at ih ⊢
    cases x with
    | none => exact ih st
    | some y =>
      obtain ⟨u, e⟩ := ih (st.incUse y)
      exact ⟨u, e⟩

theorem countNewUses_writes (ns : List Node) : ∀ (st : St), ∃ u, countNewUses st ns = { st with uses := u } := by
  induction ns with
  | nil => exact fun st => ⟨_, rfl⟩
  | cons m ms ih =>
    intro st
    simp only [countNewUses, List.foldl_cons] at ih ⊢
    obtain ⟨u1, e1⟩ := incUses_writes m.inputs st
    obtain ⟨u, e⟩ := ih (st.incUses m.inputs)
    rw [e, e1]
    exact ⟨u, rfl⟩

theorem clearUnused_writes (ins : List Name) : ∀ (st : St),
    ∃ r idp h, clearUnused st ins = { st with removed := r, initDisplay := idp, hist := h } := by
  induction ins with
  | nil => exact fun st => ⟨_, _, _, rfl⟩
  | cons x xs ih =>
    intro st
    simp only [clearUnused, List.foldl_cons] at ih ⊢
    split
    · exact (ih _).elim fun r hr => hr.elim fun idp hi => hi.elim fun h e => ⟨r, idp, h, e⟩
    · exact ih st

theorem sameIS_substInputs (st : St) (n : Node) : SameIS st (substInputs st n).2 := by
  obtain ⟨u, m, h, e⟩ := substInputs_writes st n
  rw [e]
  exact ⟨rfl, rfl⟩

/-- `process_node` as a whole leaves `gins`, `gouts`, `initNames`, `removed` and `err` alone -/
theorem processNode_writes (ctx : Ctx) (st : St) (n : Node) :
    ∃ i s u fr m nd h dn idp, (processNode ctx st n).2 =
      { st with info := i, sym := s, uses := u, fresh := fr, modified := m, need := nd, hist := h, dname := dn,
                initDisplay := idp } := by
  obtain ⟨u, m, h, e1⟩ := substInputs_writes st n
  unfold processNode
  generalize substInputs st n = p at e1 ⊢
  obtain ⟨n1, s1⟩ := p
  dsimp only at e1 ⊢
  subst e1
  split
  · exact ⟨_, _, _, _, _, _, _, _, _, rfl⟩
  obtain ⟨i, e2⟩ := constMark_writes ctx (n1.isOp "Constant") { st with uses := u, modified := m, hist := h } n1
  generalize (if n1.isOp "Constant" then processConstant ctx { st with uses := u, modified := m, hist := h } n1
    else { st with uses := u, modified := m, hist := h }) = s2 at e2 ⊢
  subst e2
  split
  · exact ⟨_, _, _, _, _, _, _, _, _, rfl⟩
  · rename_i v _
    obtain ⟨i', s, fr, h', dn, e3⟩ := evalPartial_writes n1 v { st with info := i, uses := u, modified := m, hist := h }
    generalize evalPartial n1 v _ = ev at e3 ⊢
    obtain ⟨res, st3⟩ := ev
    dsimp only at e3
    subst e3
    cases res with
    | none =>
      obtain ⟨i'', fr', nd, h'', dn', idp, e4⟩ := gateCascade_writes ctx
        { st with info := i', sym := s, uses := u, fresh := fr, modified := m, hist := h', dname := dn } n1 v
      simp only [finishNode]
      rw [e4]
      exact ⟨_, _, _, _, _, _, _, _, _, rfl⟩
    | repl r => exact ⟨_, _, _, _, _, _, _, _, _, rfl⟩
    | error msg => exact ⟨_, _, _, _, _, _, _, _, _, rfl⟩

theorem kept_inheritInfo {G : List Name} (pairs : List (Name × Name)) : ∀ (st : St), Kept G st → Kept G (inheritInfo st pairs) := by
  induction pairs with
  | nil => exact fun _ h => h
  | cons p ps ih =>
    intro st h
    simp only [inheritInfo, List.foldl_cons] at ih ⊢
    exact ih _ (h.of_frame rfl rfl)

theorem kept_clearUnused {G : List Name} (ins : List Name) : ∀ (st : St), Kept G st → Kept G (clearUnused st ins) := by
  induction ins with
  | nil => intro st h; exact h
  | cons x xs ih =>
    intro st h
    simp only [clearUnused, List.foldl_cons] at ih ⊢
    apply ih
    split
    · rename_i hc
      simp only [Bool.and_eq_true, Bool.not_eq_true', St.isGraphInput] at hc
      refine ⟨h.1, ?_⟩
      intro y hy
      simp only [St.note, List.mem_cons] at hy
      rcases hy with rfl | hy
      · rw [← h.1]; exact hc.2
      · exact h.2 y hy
    · exact h

theorem kept_applyRepl {G : List Name} (ctx : Ctx) (st st' : St) (n : Node) (r : Repl) (ns : List Node)
    (is : List (Name × String)) (h : Kept G st) (hr : applyRepl ctx st n r = .ok (ns, is, st')) : Kept G st' := by
  unfold applyRepl at hr
  split at hr
  · simp at hr
  · simp only [Except.ok.injEq, Prod.mk.injEq] at hr
    obtain ⟨_, _, hst⟩ := hr
    subst hst
    have k1 : Kept G (inheritInfo st (List.zip n.outputs r.newOuts)) := kept_inheritInfo _ st h
    have k2 : Kept G ((inheritInfo st (List.zip n.outputs r.newOuts)).decUses n.inputs) := by
      obtain ⟨u, e⟩ := decUses_writes n.inputs (inheritInfo st (List.zip n.outputs r.newOuts))
      rw [e]
      exact k1.of_frame rfl rfl
    generalize (inheritInfo st (List.zip n.outputs r.newOuts)).decUses n.inputs = s2 at k2 ⊢
    have k3 : Kept G (if r.inlinedIf then
        { s2 with gouts := s2.gouts.filter (fun x => !(r.newOuts.contains x) || n.outputs.contains x) }
      else countNewUses s2 (r.newNodes.map (renNode maxDepth ((List.zip n.outputs r.newOuts).map fun (o, v) => (v, o))))) := by
      split
      · exact k2.of_frame rfl rfl
      · obtain ⟨u, e⟩ := countNewUses_writes
          (r.newNodes.map (renNode maxDepth ((List.zip n.outputs r.newOuts).map fun (o, v) => (v, o)))) s2
        rw [e]
        exact k2.of_frame rfl rfl
    generalize (if r.inlinedIf then
        { s2 with gouts := s2.gouts.filter (fun x => !(r.newOuts.contains x) || n.outputs.contains x) }
      else countNewUses s2 (r.newNodes.map (renNode maxDepth ((List.zip n.outputs r.newOuts).map fun (o, v) => (v, o))))) = s3 at k3 ⊢
    split
    · exact ⟨k3.1, k3.2⟩
    · have key : ∀ Y : St, Kept G Y → Kept G { (clearUnused Y (List.filterMap id n.inputs)) with modified := true } :=
        fun Y hY => ⟨(kept_clearUnused _ Y hY).1, (kept_clearUnused _ Y hY).2⟩
      exact key _ ⟨k3.1, k3.2⟩

theorem kept_visitSubs {G : List Name} (vg : St → Graph → St × Graph) (hvg : ∀ st g, Kept G st → Kept G (vg st g).1) :
    ∀ (subs : List (String × Graph)) (st : St), Kept G st → Kept G (visitSubs vg st subs).1
  | [], _, h => h
  | (k, g) :: rest, st, h => by
    simp only [visitSubs]
    exact kept_visitSubs vg hvg rest _ (hvg st g h)

theorem kept_visitNodes {G : List Name} (ctx : Ctx) (vg : St → Graph → St × Graph)
    (hvg : ∀ st g, Kept G st → Kept G (vg st g).1) :
    ∀ (f : Nat) (st : St) (todo acc : List Node) (ai : List (Name × String)), Kept G st →
      Kept G (visitNodes ctx vg f st todo acc ai).1
  | 0, st, _, _, _, h => h.of_frame rfl rfl
  | _ + 1, _, [], _, _, h => h
  | f + 1, st, n :: rest, acc, ai, h => by
    simp only [visitNodes]
    split
    · exact h
    · have hp : Kept G (processNode ctx st n).2 := by
        obtain ⟨i, s, u, fr, m, nd, hh, dn, idp, e⟩ := processNode_writes ctx st n
        rw [e]
        exact h.of_frame rfl rfl
      split
      · rename_i m st1 heq
        rw [heq] at hp
        exact hp.of_frame rfl rfl
      · rename_i n' st1 heq
        rw [heq] at hp
        exact kept_visitNodes ctx vg hvg f _ _ _ _ (kept_visitSubs vg hvg _ _ hp)
      · rename_i n' r st1 heq
        rw [heq] at hp
        split
        · exact hp.of_frame rfl rfl
        · rename_i ns is st2 hr
          exact kept_visitNodes ctx vg hvg f _ _ _ _ (kept_applyRepl ctx st1 st2 n' r ns is hp hr)

/-- one round of the output loop of `visit_graph`: the output is kept, or redirected to its recorded alias `o'` -/
theorem replaceOutputs_cons (st : St) (nodes : List Node) (o : Name) (rest : List Name) :
    ∃ st1 o', replaceOutputs st nodes (o :: rest) =
        ((replaceOutputs st1 nodes rest).1, o' :: (replaceOutputs st1 nodes rest).2) ∧
      ((o' = o ∧ ∃ h, st1 = { st with hist := h }) ∨
       (st.getSym (some o) = some (.alias o') ∧ nodes.any (·.outputs.contains o') = true ∧ st.gouts.contains o' = false ∧
        ∃ h, st1 = { st with gouts := o' :: st.gouts.erase o, modified := true, hist := h })) := by
  generalize hR : replaceOutputs st nodes (o :: rest) = R
  simp only [replaceOutputs] at hR
  split at hR
  · rename_i y hy
    split at hR
    · exact ⟨_, _, hR.symm, Or.inl ⟨rfl, _, rfl⟩⟩
    · rename_i hprod
      split at hR
      · exact ⟨_, _, hR.symm, Or.inl ⟨rfl, _, rfl⟩⟩
      · rename_i hg
        exact ⟨_, _, hR.symm, Or.inr ⟨hy, by simpa using hprod, by simpa using hg, _, rfl⟩⟩
  · exact ⟨st, o, hR.symm, Or.inl ⟨rfl, _, rfl⟩⟩

/-- `o'` may stand where output `o` stood: `o` itself, or its recorded alias, produced by a node of the graph.  (`OutOk` of
Props/C04 has this body; `replaceOutputs_only_aliases` there is `replaceOutputs_spec` read through that.) -/
def OutAlias (sym : List (Name × SymVal)) (nodes : List Node) (o o' : Name) : Prop :=
  o' = o ∨ (lookupA sym o = some (.alias o') ∧ nodes.any (·.outputs.contains o') = true)

theorem replaceOutputs_spec (nodes : List Node) : ∀ (outs : List Name) (st : St),
    Forall2 (OutAlias st.sym nodes) outs (replaceOutputs st nodes outs).2 ∧
    ∃ go m h, (replaceOutputs st nodes outs).1 = { st with gouts := go, modified := m, hist := h }
  | [], st => ⟨Forall2.nil, _, _, _, rfl⟩
  | o :: rest, st => by
    obtain ⟨st1, o', e, h⟩ := replaceOutputs_cons st nodes o rest
    obtain ⟨ih, go, m, hh, ew⟩ := replaceOutputs_spec nodes rest st1
    rw [e]
    rcases h with ⟨rfl, _, rfl⟩ | ⟨hy, hprod, _, _, rfl⟩
    · exact ⟨Forall2.cons (Or.inl rfl) ih, _, _, _, ew⟩
    · exact ⟨Forall2.cons (Or.inr ⟨by simpa [St.getSym] using hy, hprod⟩) ih, _, _, _, ew⟩

theorem replaceOutputs_distinct (nodes : List Node) : ∀ (outs : List Name) (st : St),
    outs.Nodup → (∀ o, o ∈ outs → o ∈ st.gouts) →
    (replaceOutputs st nodes outs).2.Nodup ∧
    ∀ o', o' ∈ (replaceOutputs st nodes outs).2 → o' ∈ outs ∨ o' ∉ st.gouts
  | [], _, _, _ => ⟨List.nodup_nil, fun _ h => absurd h (by simp [replaceOutputs])⟩
  | o :: rest, st, hnd, hin => by
    obtain ⟨hno, hrest⟩ := List.nodup_cons.mp hnd
    obtain ⟨st1, o', e, h⟩ := replaceOutputs_cons st nodes o rest
    rw [e]
    rcases h with ⟨rfl, _, hst1⟩ | ⟨_, _, hgo, _, hst1⟩
    · -- `o` is kept; the graph-output set is the same
      have hg1 : st1.gouts = st.gouts := by rw [hst1]
      obtain ⟨ih1, ih2⟩ := replaceOutputs_distinct nodes rest st1 hrest
        (fun r hr => hg1 ▸ hin r (List.mem_cons_of_mem _ hr))
      rw [hg1] at ih2
      refine ⟨List.nodup_cons.mpr ⟨fun hmem => (ih2 _ hmem).elim hno (fun h => h (hin _ List.mem_cons_self)), ih1⟩, ?_⟩
      intro x hx
      rcases List.mem_cons.mp hx with rfl | hx
      · exact Or.inl List.mem_cons_self
      · exact (ih2 x hx).imp (List.mem_cons_of_mem _) id
    · -- `o` is redirected to `o'`, which was not a graph output and now is one in place of `o`
      have hg1 : st1.gouts = o' :: st.gouts.erase o := by rw [hst1]
      have hyg : o' ∉ st.gouts := fun h => by rw [List.contains_iff_mem.mpr h] at hgo; cases hgo
      obtain ⟨ih1, ih2⟩ := replaceOutputs_distinct nodes rest st1 hrest (fun r hr => by
        rw [hg1]
        exact List.mem_cons_of_mem _ ((List.mem_erase_of_ne (fun (e : r = o) => hno (e ▸ hr))).mpr (hin r (List.mem_cons_of_mem _ hr))))
      rw [hg1] at ih2
      refine ⟨List.nodup_cons.mpr ⟨fun hmem => (ih2 _ hmem).elim (fun h => hyg (hin _ (List.mem_cons_of_mem _ h)))
        (fun h => h List.mem_cons_self), ih1⟩, ?_⟩
      intro x hx
      rcases List.mem_cons.mp hx with rfl | hx
      · exact Or.inr hyg
      · rcases ih2 x hx with h1 | h1
        · exact Or.inl (List.mem_cons_of_mem _ h1)
        · by_cases e : x = o
          · exact Or.inl (e ▸ List.mem_cons_self)
          · exact Or.inr fun hg => h1 (List.mem_cons_of_mem _ ((List.mem_erase_of_ne e).mpr hg))

theorem visitGraph_succ (ctx : Ctx) (k : Nat) (st : St) (g : Graph) :
    ∃ stN L added st' outs go m h,
      visitNodes ctx (visitGraph ctx k) (stepFuel g + 16 * st.uses.length) st g.nodes [] [] = (stN, L, added) ∧
      visitGraph ctx (k + 1) st g = (st', Graph.mk g.inputs (g.inits ++ added) L outs) ∧
      st' = { stN with gouts := go, modified := m, hist := h } ∧
      ((stN.err.isSome = true ∧ st' = stN ∧ outs = g.outputs) ∨
       (stN.err.isSome = false ∧ st' = (replaceOutputs stN L g.outputs).1 ∧ outs = (replaceOutputs stN L g.outputs).2)) := by
  generalize hR : visitNodes ctx (visitGraph ctx k) (stepFuel g + 16 * st.uses.length) st g.nodes [] [] = r
  obtain ⟨stN, L, added⟩ := r
  simp only [visitGraph, hR]
  split
  · rename_i herr
    exact ⟨_, _, _, _, _, _, _, _, rfl, rfl, rfl, Or.inl ⟨herr, rfl, rfl⟩⟩
  · rename_i herr
    obtain ⟨_, go, m, h, e⟩ := replaceOutputs_spec L g.outputs stN
    exact ⟨_, _, _, _, _, go, m, h, rfl, rfl, e, Or.inr ⟨by simpa using herr, rfl, rfl⟩⟩

theorem kept_visitGraph {G : List Name} (ctx : Ctx) : ∀ (d : Nat) (st : St) (g : Graph), Kept G st →
    Kept G (visitGraph ctx d st g).1
  | 0, _, _, h => h.of_frame rfl rfl
  | d + 1, st, g, h => by
    have hv := kept_visitNodes ctx (visitGraph ctx d) (fun st g h => kept_visitGraph ctx d st g h)
      (stepFuel g + 16 * st.uses.length) st g.nodes [] [] h
    obtain ⟨stN, L, added, st', outs, go, m, hh, hR, hvg, rfl, _⟩ := visitGraph_succ ctx d st g
    rw [hR] at hv
    rw [hvg]
    exact hv.of_frame rfl rfl

theorem initialState_writes (g : Graph) (info : List (Name × VInfo)) :
    ∃ u, initialState g info =
      { info := info, gins := collect Graph.inputs maxDepth g, gouts := collect Graph.outputs maxDepth g,
        initNames := collect (fun g => g.inits.map (·.1)) maxDepth g,
        initDisplay := collect (fun g => g.inits.map (·.1)) maxDepth g, uses := u } := by
  unfold initialState
  suffices h : ∀ (l : List Name) (st : St), ∃ u, l.foldl (fun st x => st.incUse x) st = { st with uses := u } from h _ _
  intro l
  induction l with
  | nil => exact fun st => ⟨_, rfl⟩
  | cons x xs ih =>
    intro st
    obtain ⟨u, e⟩ := ih (st.incUse x)
    exact ⟨u, e⟩

theorem initialState_kept (g : Graph) (info : List (Name × VInfo)) :
    Kept (collect Graph.inputs maxDepth g) (initialState g info) := by
  obtain ⟨u, e⟩ := initialState_writes g info
  rw [e]
  exact ⟨rfl, fun y hy => nomatch hy⟩

theorem initialState_sym (g : Graph) (info : List (Name × VInfo)) : (initialState g info).sym = [] ∧
    (initialState g info).info = info := by
  obtain ⟨u, e⟩ := initialState_writes g info
  rw [e]
  exact ⟨rfl, rfl⟩

theorem visitGraph_inits (ctx : Ctx) (d : Nat) (st : St) (g : Graph) :
    ∃ added, (visitGraph ctx (d + 1) st g).2.inits = g.inits ++ added := by
  simp only [visitGraph]
  split
  · exact ⟨_, rfl⟩
  · exact ⟨_, rfl⟩

/-! ### `foldGraph`, without evaluating it -/

theorem maxDepth_succ : maxDepth = 7 + 1 := rfl

theorem foldGraph_fst (ctx : Ctx) (info : List (Name × VInfo)) (g : Graph) :
    (foldGraph ctx info g).1 = (visitGraph ctx maxDepth (initialState g info) g).1 := by
  simp only [foldGraph]

theorem foldGraph_snd (ctx : Ctx) (info : List (Name × VInfo)) (g : Graph) :
    (foldGraph ctx info g).2 = pruneInits (visitGraph ctx maxDepth (initialState g info) g).1.removed maxDepth
      (visitGraph ctx maxDepth (initialState g info) g).2 := by
  simp only [foldGraph]

end OV.C03
