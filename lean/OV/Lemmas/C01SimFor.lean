import OV.Lemmas.C01SimIf
/-!
# Lemmas for C01: forward simulation for `for i in range(n)` and `while t` loops

* evaluation of node lists is monotone in the fuel (`evalNodes_mono`), so "evaluates at every large enough fuel"
  (`EvFrom`) is closed under sequencing;
* the ONNX `Loop` iteration follows a run of a Python loop (`LoopRun`, which both `iterFor` and `iterWhile` are) when
  one run of its body follows one run of the Python body and the condition it computes says whether Python goes on
  (`loopIter_sim`);
* one run of the emitted body graph does follow one run of the Python body (`loopBody_step`), for a body that is
  any block with `BodyFacts`, optionally followed by `if t: break`, and for each of the four shapes of the
  condition output (`condNodes_sim`);
* `loop_sim`: the `Loop` node simulates the loop, the invariant being re-established at the head of every iteration
  and after the loop by `Inv.rebind`; `for_step`, `while_step` supply the trip count resp. the first condition.
-/
namespace OV.C01

variable {V : Type}

theorem loopIter_mono (S : Sem V) {body body' : Nat → V → List V → Option (V × List V)}
    (hb : ∀ i c st x, body i c st = some x → body' i c st = some x) :
    ∀ (a a' : Nat), a ≤ a' → ∀ (left : Option Nat) (k : Nat) (c : V) (st r : List V),
      loopIter S body a left k c st = some r → loopIter S body' a' left k c st = some r
  | 0, _, _, _, _, _, _, _, h => by simp [loopIter] at h
  | n + 1, a', hle, left, k, c, st, r, h => by
    obtain ⟨n', rfl⟩ : ∃ n', a' = n' + 1 := ⟨a' - 1, by omega⟩
    unfold loopIter at h ⊢
    obtain _ | _ | l := left
    case some.zero => simpa using h
    -- the trip count is not exhausted: one round
    all_goals
      simp only at h ⊢
      cases ht : S.truth c with
      | none => simp [ht] at h
      | some b =>
        cases b with
        | false => simpa [ht] using h
        | true =>
          simp only [ht] at h ⊢
          cases hbd : body k c st with
          | none => simp [hbd] at h
          | some x =>
            obtain ⟨c', st'⟩ := x
            rw [hb _ _ _ _ hbd]
            simp only [hbd] at h
            exact loopIter_mono S hb n n' (by omega) _ _ _ _ _ h

theorem loopResult_mono (S : Sem V) {body body' : Nat → V → List V → Option (V × List V)}
    (hb : ∀ i c st x, body i c st = some x → body' i c st = some x) (a a' : Nat) (hle : a ≤ a')
    (bv cv : Option V) (st0 r : List V) (h : loopResult S body a bv cv st0 = some r) :
    loopResult S body' a' bv cv st0 = some r := by
  unfold loopResult at h ⊢
  cases ht : loopTrip S bv with
  | none => simp [ht] at h
  | some left =>
    simp only [ht] at h ⊢
    exact loopIter_mono S hb a a' hle left 0 _ st0 r h

theorem loopBodyFn_mono (S : Sem V) {ev ev' : Env V → Option (Env V)}
    (he : ∀ e r, ev e = some r → ev' e = some r) (ρ : Env V) (bi bo : List Name) :
    ∀ i c st x, loopBodyFn S ev ρ bi bo i c st = some x → loopBodyFn S ev' ρ bi bo i c st = some x := by
  intro i c st x h
  unfold loopBodyFn at h ⊢
  cases hv : ev (ρ.setMany bi (S.ofNat i :: c :: st)) with
  | none => simp [hv] at h
  | some ρ' =>
    rw [he _ _ hv]
    simpa [hv] using h

theorem eval_mono_both (S : Sem V) :
    (∀ (n : Node) (f f' : Nat) (ρ r : Env V), f ≤ f' → evalNode S f ρ n = some r → evalNode S f' ρ n = some r) ∧
    (∀ (ns : List Node) (f f' : Nat) (ρ r : Env V), f ≤ f' →
      evalNodes S f ρ ns = some r → evalNodes S f' ρ ns = some r) := by
  apply node_induct
  case op =>
    intro dom name ins outs attrs f f' ρ r _ h
    simpa [evalNode] using h
  case ifN =>
    intro c outs tn to en eo iht ihe f f' ρ r hle h
    unfold evalNode at h ⊢
    cases hc : ρ c with
    | none => simp [hc] at h
    | some cv =>
      simp only [hc] at h ⊢
      cases ht : S.truth cv with
      | none => simp [ht] at h
      | some b =>
        cases b with
        | true =>
          simp only [ht] at h ⊢
          cases he : evalNodes S f ρ tn with
          | none => simp [he] at h
          | some ρ' =>
            rw [iht f f' ρ ρ' hle he]
            simpa [he] using h
        | false =>
          simp only [ht] at h ⊢
          cases he : evalNodes S f ρ en with
          | none => simp [he] at h
          | some ρ' =>
            rw [ihe f f' ρ ρ' hle he]
            simpa [he] using h
  case loop =>
    intro b c inits outs bi bn bo ih f f' ρ r hle h
    cases f with
    | zero => simp [evalNode] at h
    | succ a =>
      cases f' with
      | zero => omega
      | succ a' =>
        unfold evalNode at h ⊢
        simp only at h ⊢
        cases hb : ρ.getOpt b with
        | none => simp [hb] at h
        | some bv =>
          cases hc : ρ.getOpt c with
          | none => simp [hb, hc] at h
          | some cv =>
            cases hi : ρ.getMany inits with
            | none => simp [hb, hc, hi] at h
            | some st0 =>
              simp only [hb, hc, hi] at h ⊢
              cases hl : loopResult S (loopBodyFn S (fun e => evalNodes S a e bn) ρ bi bo) a bv cv st0 with
              | none => simp [hl] at h
              | some rs =>
                rw [loopResult_mono S (loopBodyFn_mono S (fun e r he => ih a a' e r (by omega) he)
                  ρ bi bo) a a' (by omega) bv cv st0 rs hl]
                simpa [hl] using h
  case nil =>
    intro f f' ρ r _ h
    simpa [evalNodes] using h
  case cons =>
    intro n ns ihn ihns f f' ρ r hle h
    unfold evalNodes at h ⊢
    cases he : evalNode S f ρ n with
    | none => simp [he] at h
    | some ρ' =>
      rw [ihn f f' ρ ρ' hle he]
      simp only [he] at h
      exact ihns f f' ρ' r hle h

theorem evalNode_mono (S : Sem V) : ∀ (n : Node) (f f' : Nat) (ρ r : Env V), f ≤ f' →
    evalNode S f ρ n = some r → evalNode S f' ρ n = some r :=
  (eval_mono_both S).1

theorem evalNodes_mono (S : Sem V) : ∀ (ns : List Node) (f f' : Nat) (ρ r : Env V), f ≤ f' →
    evalNodes S f ρ ns = some r → evalNodes S f' ρ ns = some r :=
  (eval_mono_both S).2

theorem evalNodes_opsOnly_fuel {V : Type} (S : Sem V) (f1 f2 : Nat) :
    ∀ (ns : List Node) (ρ : Env V), opsOnly ns = true → evalNodes S f1 ρ ns = evalNodes S f2 ρ ns := by
  intro ns
  induction ns with
  | nil => intro ρ _; simp [evalNodes]
  | cons n ns ih =>
    intro ρ h
    cases n with
    | op dom name ins outs attrs =>
      simp only [opsOnly] at h
      simp only [evalNodes, evalNode]
      cases ins.mapM ρ.getOpt with
      | none => rfl
      | some vs =>
        simp only
        cases S.op dom name vs attrs with
        | none => rfl
        | some rs =>
          simp only
          by_cases hl : rs.length = outs.length
          · simp only [hl, if_true]; exact ih _ h
          · simp only [hl, if_false]
    | ifN c outs tn to en eo => exact Bool.noConfusion (show false = true from h)
    | loop b c inits outs bi bn bo => exact Bool.noConfusion (show false = true from h)

def EvFrom (S : Sem V) (env : Env V) (ns : List Node) (env' : Env V) : Prop :=
  ∃ G0, ∀ G, G0 ≤ G → evalNodes S G env ns = some env'

theorem EvFrom.of_eval {S : Sem V} {env env' : Env V} {ns : List Node} {G : Nat}
    (h : evalNodes S G env ns = some env') : EvFrom S env ns env' :=
  ⟨G, fun G' hG' => evalNodes_mono S ns G G' _ _ hG' h⟩

theorem EvFrom.seq {S : Sem V} {env env1 env2 : Env V} {a b : List Node}
    (h1 : EvFrom S env a env1) (h2 : EvFrom S env1 b env2) : EvFrom S env (a ++ b) env2 := by
  obtain ⟨G1, e1⟩ := h1
  obtain ⟨G2, e2⟩ := h2
  exact ⟨max G1 G2, fun G hG => evalNodes_seq (e1 G (by omega)) (e2 G (by omega))⟩

theorem EvalRel.evFrom (S : Sem V) (fuel : Nat) : EvalRel S fuel (EvFrom S) :=
  ⟨EvFrom.of_eval, EvFrom.seq, fun hc hb ⟨G0, hB⟩ hrs hl => ⟨G0, fun G hG => evalNodes_ifN hc hb (hB G hG) hrs hl⟩⟩

theorem convLoopBody_split (bt : Option Name) : ∀ (pre : List Stmt) (L : Locals) (lo : VSet) {L' : Locals}
    {ns : List Node} {bc : Option Name} {s s' : St}, (∀ st, st ∈ pre → ∀ c, st ≠ .brk c) →
    convLoopBody L (pre ++ brkTail bt) lo s = .ok ((L', ns, bc), s') →
    convStmts L pre (brkLive bt lo) s = .ok ((L', ns), s') ∧ (bt = none → bc = none) ∧
      ∀ t, bt = some t → ∃ n, bc = some n ∧ currentScopeFind L' t = some (.val n)
  | [], L, lo, L', ns, bc, s, s', _, h => by
    have hnil : convStmts L [] (brkLive bt lo) s = .ok ((L, []), s) := by simp [convStmts, pure, M.pure]
    cases bt with
    | none =>
      obtain ⟨rfl, rfl, rfl, rfl⟩ := convLoopBody_nil_ok h
      exact ⟨hnil, (fun _ => rfl), (fun _ hc => by cases hc)⟩
    | some t =>
      obtain ⟨t', n, ht, _, hc, rfl, rfl, rfl, rfl⟩ := convLoopBody_brk_ok h
      cases ht
      exact ⟨hnil, (fun hc' => by cases hc'), (fun t' ht => by cases ht; exact ⟨n, rfl, hc⟩)⟩
  | st :: ss, L, lo, L', ns, bc, s, s', hnb, h => by
    simp only [List.cons_append] at h
    obtain ⟨L1, ns1, s1, ns2, h1, h2, rfl⟩ := convLoopBody_cons_ok (hnb st List.mem_cons_self) h
    obtain ⟨h2', hbc⟩ := convLoopBody_split bt ss L1 lo (fun st' hs' => hnb st' (List.mem_cons_of_mem _ hs')) h2
    rw [live_brk] at h1
    exact ⟨convStmts_cons_ok.mpr ⟨L1, ns1, s1, ns2, h1, h2', rfl⟩, hbc⟩

theorem convLoopBody_ifBlock : ∀ (ss : List Stmt) (L : Locals) (lo : VSet) {L' : Locals} {ns : List Node}
    {bc : Option Name} {s s' : St}, ifBlock ss = true →
    convLoopBody L ss lo s = .ok ((L', ns, bc), s') → convStmts L ss lo s = .ok ((L', ns), s') ∧ bc = none := by
  intro ss L lo L' ns bc s s' hi h
  have := convLoopBody_split none ss L lo (nestBlock_nobrk ss lo (ifBlock_nest ss lo hi))
    (by simpa [brkTail] using h)
  exact ⟨by simpa [brkLive_none] using this.1, this.2.1 rfl⟩

theorem loopInits_sim {S : Sem V} {ρ : Store V} {env : Env V} (L : Locals) (state : List Name)
    {inits : List Name} {ns : List Node} {s s' : St} (hA : FreeOf S L state)
    (hf : ∀ x, x ∈ state → ∀ n, lookup L x = some (.val n) → ∃ v, env n = some v ∧ ρ x = some (PV.t v))
    (h : loopInits L state s = .ok ((inits, ns), s')) :
    ns = [] ∧ s' = s ∧ ∃ st0, inits.mapM env = some st0 ∧ All2 (fun v x => ρ x = some (PV.t v)) st0 state := by
  refine loopInits_induct (L := L) (P := fun state s inits ns s' => FreeOf S L state →
      (∀ x, x ∈ state → ∀ n, lookup L x = some (.val n) → ∃ v, env n = some v ∧ ρ x = some (PV.t v)) →
      ns = [] ∧ s' = s ∧ ∃ st0, inits.mapM env = some st0 ∧ All2 (fun v x => ρ x = some (PV.t v)) st0 state)
    (fun _ _ => ⟨rfl, rfl, [], rfl, All2.nil⟩) ?_ h hA hf
  intro x xs s o ns1 s1 os ns2 s' h1 _ ih hA hf
  obtain ⟨b, hl, hb⟩ := pyVar_ok h1
  cases b with
  | attr p ty => exact absurd hl ((hA x List.mem_cons_self).1 p ty)
  | val n =>
    obtain ⟨rfl, rfl, rfl⟩ := toOnnxVar_val_ok hb
    obtain ⟨v, hv, hρ⟩ := hf x List.mem_cons_self _ hl
    obtain ⟨rfl, rfl, st, hm, ha⟩ := ih (hA.sub (fun y hy => List.mem_cons_of_mem _ hy))
      (fun y hy => hf y (List.mem_cons_of_mem _ hy))
    exact ⟨rfl, rfl, v :: st, by simp [List.mapM_cons, hv, hm], All2.cons _ _ _ _ hρ ha⟩

theorem loopOutputs_sim (S : Sem V) (fuel : Nat) (hId : ∀ v, S.op "" "Identity" [some v] [] = some [v])
    {ρ' : Store V} (L2 : Locals) (vs : List Name) (sofar : List Node) (outs : List Name) {env : Env V} {s s' : St}
    {os : List Name} {ns : List Node} (hL : VisOK s.used L2) (hA : FreeOf S L2 vs)
    (hf : ∀ pv, pv ∈ vs → ∀ n, lookup L2 pv = some (.val n) → ∃ v, env n = some v ∧ ρ' pv = some (.t v))
    (h : loopOutputs L2 vs sofar outs s = .ok ((os, ns), s')) : OutsSim S fuel ρ' env os ns vs :=
  (loopOutputs_outs L2 vs sofar outs h).sim S fuel hId hL hA hf

theorem mem_loopState {body : List Stmt} {lo d state : VSet} (hs : loopState body lo = some state)
    (hd : assignedBlock body = some d) {x : Name} :
    x ∈ state ↔ x ∈ d ∧ (x ∈ exposedBlock body [] ∨ x ∈ lo) := by
  unfold loopState at hs
  rw [hd] at hs
  cases hs
  rw [mem_vinter, mem_vunion]
  rfl

/-- The facts about a block `body`, translated with live-out `F`, that the simulation of a loop around it uses. -/
structure BodyFacts (S : Sem V) (fuel : Nat) (body : List Stmt) (F : VSet) : Prop where
  run : ∀ {ρ : Store V} {o : Outcome V}, AllT S ρ → evalBlock S fuel body ρ = some o →
    ∃ ρ1, o = .normal ρ1 ∧ RunOK S ρ ρ1 (assignedBlock body)
  sim : ∀ {L L' : Locals} {ρ ρ1 : Store V} {env : Env V} {s s' : St} {ns : List Node},
    FreeOf S L (targetsBlock body) → Inv S (liveInBlock body F) ρ L env s →
    evalBlock S fuel body ρ = some (.normal ρ1) →
    convStmts L body F s = .ok ((L', ns), s') →
    ∃ env', EvFrom S env ns env' ∧ Inv S F ρ1 L' env' s'
  nobrk : ∀ st, st ∈ body → ∀ c, st ≠ .brk c
  live : LiveFacts body F

theorem bodyFacts_of_nest (S : Sem V) (fuel : Nat) {body : List Stmt} {F : VSet} (hbody : nestBlock body F = true)
    (hF : TFree S (targetsBlock body))
    (hsim : ∀ {L L' : Locals} {ρ ρ1 : Store V} {env : Env V} {s s' : St} {ns : List Node},
      FreeOf S L (targetsBlock body) →
      Inv S (liveInBlock body F) ρ L env s → evalBlock S fuel body ρ = some (.normal ρ1) →
      convStmts L body F s = .ok ((L', ns), s') →
      ∃ env', EvFrom S env ns env' ∧ Inv S F ρ1 L' env' s') :
    BodyFacts S fuel body F :=
  ⟨fun hρ he => (nestRules_run S fuel).block body F hbody hF hρ he, hsim, nestBlock_nobrk body F hbody,
    liveFacts_of_nest hbody⟩

theorem bodyFacts_of_ifBlock (S : Sem V) (fuel : Nat) (hConst : ∀ l, ∃ c, constOf S l = some c)
    (hId : ∀ v, S.op "" "Identity" [some v] [] = some [v])
    (hTL : ∀ l c b, constOf S l = some c → truthPV S (.py l) = some b → S.truth c = some b) {body : List Stmt} (F : VSet)
    (h : ifBlock body = true) (hF : TFree S (targetsBlock body)) : BodyFacts S fuel body F :=
  bodyFacts_of_nest S fuel (ifBlock_nest body F h) hF fun hfree hinv he hc => by
    obtain ⟨env', ev, inv⟩ := (ifRules_sim S fuel hConst hId hTL).block body F (ifBlock_nest body F h) h hfree hinv he hc
    exact ⟨env', EvFrom.of_eval ev, inv⟩

theorem loopIter_round (S : Sem V) {body : Nat → V → List V → Option (V × List V)} {left : Option Nat}
    (hl : left ≠ some 0) {a k : Nat} {cnd c' : V} {st rs : List V} (hc : S.truth cnd = some true)
    (hb : body k cnd st = some (c', rs)) :
    loopIter S body (a + 1) left k cnd st = loopIter S body a (left.map (· - 1)) (k + 1) c' rs := by
  obtain _ | _ | l := left
  case some.zero => exact absurd rfl hl
  all_goals simp [loopIter, hc, hb]

theorem loopIter_false (S : Sem V) {body : Nat → V → List V → Option (V × List V)} (a : Nat) (left : Option Nat)
    (k : Nat) {cnd : V} (st : List V) (h : S.truth cnd = some false) :
    loopIter S body (a + 1) left k cnd st = some st := by
  unfold loopIter
  split <;> simp [h]

/-- `loopIter` follows a Python loop, given that one run of the ONNX body follows one run of the Python body
(`hstep`: related states `R` stay related, and the condition output is false after a `break`, else as true as Python
finds the test at the head of the next round).  After a `break` ONNX makes one more round, which stops on the false
condition with the state unchanged. -/
theorem loopIter_sim (S : Sem V) {cont : Store V → Option Bool} {body : Nat → Store V → Option (Outcome V)}
    {bodyFn : Nat → Nat → V → List V → Option (V × List V)} {R : Store V → List V → Prop} {ρf : Store V}
    (hstep : ∀ (k : Nat) (ρk : Store V) (st : List V) (cnd : V) (o : Outcome V), S.truth cnd = some true → R ρk st →
      body k ρk = some o →
      ∃ (ρ1 : Store V) (bk : Bool) (c' : V) (rs : List V), o = (if bk then .broke ρ1 else .normal ρ1) ∧ R ρ1 rs ∧
        S.truth c' = (if bk then some false else cont ρ1) ∧ ∃ G1, ∀ G, G1 ≤ G → bodyFn G k cnd st = some (c', rs))
    {left : Option Nat} {k : Nat} {ρk : Store V} (h : LoopRun cont body (.normal ρf) left k ρk) :
    ∀ (st : List V) (cnd : V), S.truth cnd = cont ρk → R ρk st →
      ∃ stf, R ρf stf ∧ ∃ G0, ∀ G a, G0 ≤ G → G0 ≤ a → loopIter S (bodyFn G) a left k cnd st = some stf := by
  generalize hf : Outcome.normal ρf = o at h
  induction h with
  | trip k =>
    cases hf
    intro st cnd _ hR
    refine ⟨st, hR, 1, fun G a _ ha => ?_⟩
    obtain ⟨a', rfl⟩ : ∃ a', a = a' + 1 := ⟨a - 1, by omega⟩
    simp [loopIter]
  | stop k hc =>
    cases hf
    intro st cnd hcnd hR
    refine ⟨st, hR, 1, fun G a _ ha => ?_⟩
    obtain ⟨a', rfl⟩ : ∃ a', a = a' + 1 := ⟨a - 1, by omega⟩
    exact loopIter_false S a' _ k st (hcnd.trans hc)
  | @brk left k ρk _ hl hc hb =>
    cases hf
    intro st cnd hcnd hR
    rw [hc] at hcnd
    obtain ⟨ρ1, bk, c', rs, ho, hR1, hc', G1, hfn⟩ := hstep k ρk st cnd _ hcnd hR hb
    cases bk with
    | false => simp at ho
    | true =>
      simp only [if_true] at ho hc'
      cases ho
      refine ⟨rs, hR1, G1 + 2, fun G a hG ha => ?_⟩
      obtain ⟨a', rfl⟩ : ∃ a', a = a' + 1 + 1 := ⟨a - 2, by omega⟩
      rw [loopIter_round S hl hcnd (hfn G (by omega))]
      exact loopIter_false S a' _ (k + 1) rs hc'
  | ret => cases hf
  | @next _ left k ρk ρ1 hl hc hb _ ih =>
    intro st cnd hcnd hR
    rw [hc] at hcnd
    obtain ⟨ρ1', bk, c', rs, ho, hR1, hc', G1, hfn⟩ := hstep k ρk st cnd _ hcnd hR hb
    cases bk with
    | true => simp at ho
    | false =>
      simp only [Bool.false_eq_true, if_false] at ho hc'
      cases ho
      obtain ⟨stf, hRf, G0, hih⟩ := ih hf rs c' hc' hR1
      refine ⟨stf, hRf, max G1 G0 + 1, fun G a hG ha => ?_⟩
      obtain ⟨a', rfl⟩ : ∃ a', a = a' + 1 := ⟨a - 1, by omega⟩
      rw [loopIter_round S hl hcnd (hfn G (by omega))]
      exact hih G a' (by omega) (by omega)

theorem evalBlock_append (S : Sem V) (fuel : Nat) : ∀ (a b : List Stmt) (ρ : Store V),
    evalBlock S fuel (a ++ b) ρ =
      match evalBlock S fuel a ρ with
      | some (.normal ρ') => evalBlock S fuel b ρ'
      | other => other
  | [], b, ρ => by simp [evalBlock]
  | st :: ss, b, ρ => by
    simp only [List.cons_append]
    rw [evalBlock, evalBlock]
    cases hs : evalStmt S fuel st ρ with
    | none => rfl
    | some o =>
      cases o with
      | normal ρ1 => simp only []; exact evalBlock_append S fuel ss b ρ1
      | broke ρ1 => rfl
      | returned vs => rfl

theorem evalExpr_var_of_none {S : Sem V} {t : Name} (h : S.attrLit t = none) (ρ : Store V) :
    evalExpr S ρ (.var t) = ρ t := by
  unfold evalExpr
  cases ρ t <;> simp [h]

theorem brkTail_run (S : Sem V) (fuel : Nat) {bt : Option Name} {ρ1 : Store V} {o : Outcome V}
    (hbt : ∀ t, bt = some t → S.attrLit t = none ∧ t ∉ S.pyVars) (hρ : AllT S ρ1)
    (h : evalBlock S fuel (brkTail bt) ρ1 = some o) :
    ∃ bk : Bool, o = (if bk then .broke ρ1 else .normal ρ1) ∧ (bt = none → bk = false) ∧
      ∀ t, bt = some t → ∃ v, ρ1 t = some (.t v) ∧ S.truth v = some bk := by
  cases bt with
  | none =>
    simp only [brkTail, evalBlock] at h
    cases h
    exact ⟨false, rfl, (fun _ => rfl), (fun _ hc => by cases hc)⟩
  | some t =>
    obtain ⟨htl, htP⟩ := hbt t rfl
    simp only [brkTail, evalBlock, evalStmt, evalExpr_var_of_none htl] at h
    cases ht : ρ1 t with
    | none => simp [ht] at h
    | some cv =>
      obtain ⟨v, rfl⟩ := hρ t cv ht htP
      simp only [ht, truthPV] at h
      cases hv : S.truth v with
      | none => simp [hv] at h
      | some bk =>
        simp only [hv] at h
        refine ⟨bk, ?_, (fun hc => by cases hc), (fun t' ht' => by cases ht'; exact ⟨v, ht, hv⟩)⟩
        cases bk <;> simp at h ⊢ <;> exact h.symm

theorem brkBody_run (S : Sem V) (fuel : Nat) {pre : List Stmt} {bt : Option Name}
    (hrun : ∀ {ρ : Store V} {o : Outcome V}, AllT S ρ → evalBlock S fuel pre ρ = some o →
      ∃ ρ1, o = .normal ρ1 ∧ RunOK S ρ ρ1 (assignedBlock pre))
    (hbt : ∀ t, bt = some t → S.attrLit t = none ∧ t ∉ S.pyVars) {ρ : Store V} {o : Outcome V} (hρ : AllT S ρ)
    (h : evalBlock S fuel (pre ++ brkTail bt) ρ = some o) :
    ∃ (ρ1 : Store V) (bk : Bool), evalBlock S fuel pre ρ = some (.normal ρ1) ∧ RunOK S ρ ρ1 (assignedBlock pre) ∧
      o = (if bk then .broke ρ1 else .normal ρ1) ∧ (bt = none → bk = false) ∧
      ∀ t, bt = some t → ∃ v, ρ1 t = some (.t v) ∧ S.truth v = some bk := by
  rw [evalBlock_append] at h
  cases hpre : evalBlock S fuel pre ρ with
  | none => simp [hpre] at h
  | some o1 =>
    obtain ⟨ρ1, rfl, run1⟩ := hrun hρ hpre
    simp only [hpre] at h
    obtain ⟨bk, ho, hbk⟩ := brkTail_run S fuel hbt run1.allT h
    exact ⟨ρ1, bk, rfl, run1, ho, hbk⟩

/-- How true Python finds the loop condition at the head of the next iteration, in the store `ρ1` the body ended
with: a `for` loop goes on (as true as its `cond_in` value `cnd`, which is true), a `while w` loop reads `w`. -/
def contTruth (S : Sem V) (whileVar : Option Name) (cnd : V) (ρ1 : Store V) : Option Bool :=
  match whileVar with
  | none => S.truth cnd
  | some w => (ρ1 w).bind (truthPV S)

/-- What the loop simulations assume of `Not` and `And` when a loop body ends in `if b: break`. -/
def BrkOps (S : Sem V) : Prop :=
  (∀ v bk, S.truth v = some bk → ∃ w, S.op "" "Not" [some v] [] = some [w] ∧ S.truth w = some (!bk)) ∧
  (∀ x y yb, S.truth y = some yb → ∃ w, S.op "" "And" [some x, some y] [] = some [w] ∧
    (yb = false → S.truth w = some false) ∧ (yb = true → S.truth w = S.truth x))

/-- Whichever of its four shapes `condNodes` emits — `Identity(cond_in)` (`for`), `Not(b)` (`for` with break),
`Identity(t)` (`while`), `And(t, Not(b))` (`while` with break) — the condition output says whether Python goes on:
false after a `break` (`bk`), else `contTruth`. -/
theorem condNodes_sim (S : Sem V) (hId : ∀ v, S.op "" "Identity" [some v] [] = some [v]) {bt : Option Name}
    (hOps : bt = none ∨ BrkOps S) (G : Nat) {whileVar bc : Option Name} {L2 : Locals} {condIn oc condOut : Name}
    {cns : List Node} {s s1 : St} {Lv : VSet} {ρ1 : Store V} {envB : Env V} {cnd : V} {bk : Bool}
    (invB : Inv S Lv ρ1 L2 envB s) (hcn : loopCondName L2 whileVar condIn = some oc)
    (h : condNodes whileVar bc oc s = .ok ((condOut, cns), s1))
    (hcin : envB condIn = some cnd) (hcinu : condIn ∈ s.used) (hcnd : whileVar = none → S.truth cnd = some true)
    (hw : ∀ w, whileVar = some w → w ∈ Lv ∧ w ∉ S.pyVars)
    (hbk0 : bt = none → bk = false ∧ bc = none)
    (hbk1 : ∀ t, bt = some t → ∃ nb vb, bc = some nb ∧ envB nb = some vb ∧ S.truth vb = some bk) :
    ∃ envC c', evalNodes S G envB cns = some envC ∧ envC condOut = some c' ∧
      condOut ∈ s1.used ∧ S.truth c' = (if bk then some false else contTruth S whileVar cnd ρ1) := by
  -- the value the condition is read from, and what Python makes of it
  obtain ⟨v, hv, hvt, hocu⟩ : ∃ v, envB oc = some v ∧ oc ∈ s.used ∧ contTruth S whileVar cnd ρ1 = S.truth v := by
    rcases loopCondName_ok hcn with ⟨rfl, rfl⟩ | ⟨w, rfl, hf⟩
    · exact ⟨cnd, hcin, hcinu, rfl⟩
    · have hl := lookup_of_currentScopeFind hf
      obtain ⟨v, hev, hρ⟩ := invB.val_of_live (hw w rfl).1 (hw w rfl).2 hl
      exact ⟨v, hev, invB.vis.lookup hl, by simp [contTruth, hρ, truthPV]⟩
  rw [hocu]
  rcases condNodes_ok h with ⟨hguard, hg, rfl⟩ | ⟨w, nb, notb, s2, rfl, rfl, h2, h3, rfl⟩
  · -- a single node writing `cond_out`
    obtain ⟨hfresh, hu, _⟩ := genUnique_spec hg
    have one : ∀ {name : String} {ins : List (Option Name)} {vs : List (Option V)} {c' : V},
        ins.mapM envB.getOpt = some vs → S.op "" name vs [] = some [c'] →
        ∃ envC, evalNodes S G envB [Node.op "" name ins [condOut] []] = some envC ∧ envC condOut = some c' ∧
          condOut ∈ s1.used := fun hins hop =>
      ⟨_, evalNodes_op1 hins hop, Env.set_same _ _ _, by rw [hu]; exact List.mem_cons_self⟩
    cases bt with
    | none =>
      obtain ⟨rfl, rfl⟩ := hbk0 rfl
      obtain ⟨envC, a, b, d⟩ := one (name := "Identity") (ins := [some oc]) (vs := [some v])
        (by simp [List.mapM_cons, Env.getOpt, hv]) (hId v)
      exact ⟨envC, v, a, b, d, by simp⟩
    | some t =>
      obtain ⟨nb, vb, rfl, hnb, hvb⟩ := hbk1 t rfl
      obtain rfl : whileVar = none := hguard.resolve_right (by simp)
      obtain ⟨wn, hopn, hwn⟩ := (hOps.resolve_left (by simp)).1 vb bk hvb
      obtain ⟨envC, a, b, d⟩ := one (name := "Not") (ins := [some nb]) (vs := [some vb])
        (by simp [List.mapM_cons, Env.getOpt, hnb]) hopn
      refine ⟨envC, wn, a, b, d, ?_⟩
      have : S.truth v = some true := by rw [← hocu]; exact hcnd rfl
      rw [hwn, this]
      cases bk <;> rfl
  · -- `while w: …; if b: break`: `not_break = Not(b)`, `cond_out = And(w, not_break)`
    obtain ⟨t, rfl⟩ : ∃ t, bt = some t := by
      cases bt with
      | none => exact absurd (hbk0 rfl).2 (by simp)
      | some t => exact ⟨t, rfl⟩
    obtain ⟨nb', vb, hnb', hnb, hvb⟩ := hbk1 t rfl
    cases hnb'
    obtain ⟨hNot, hAnd⟩ := hOps.resolve_left (by simp)
    obtain ⟨wn, hopn, hwn⟩ := hNot vb bk hvb
    obtain ⟨wa, hopa, hwf, hwt⟩ := hAnd v wn (!bk) hwn
    obtain ⟨hnfresh, hnu, _⟩ := genUnique_spec h2
    obtain ⟨_, hou, _⟩ := genUnique_spec h3
    refine ⟨(envB.set notb wn).set condOut wa, wa, ?_, Env.set_same _ _ _,
      by rw [hou]; exact List.mem_cons_self, ?_⟩
    · exact evalNodes_seq (a := [_]) (b := [_])
        (evalNodes_op1 (vs := [some vb]) (by simp [List.mapM_cons, Env.getOpt, hnb]) hopn)
        (evalNodes_op1 (vs := [some v, some wn]) (by
          simp [List.mapM_cons, Env.getOpt, Env.set_same,
            Env.set_other _ _ (fun he : oc = notb => hnfresh (he ▸ hvt)), hv]) hopa)
    · cases bk
      · exact hwt rfl
      · exact hwf rfl

theorem loopBodyFn_of_eval {S : Sem V} {ev : Env V → Option (Env V)} {ρ envD : Env V} {bi bo : List Name}
    {i : Nat} {cnd c' : V} {st rs : List V} (hev : ev (ρ.setMany bi (S.ofNat i :: cnd :: st)) = some envD)
    (hout : bo.mapM envD = some (c' :: rs)) : loopBodyFn S ev ρ bi bo i cnd st = some (c', rs) := by
  unfold loopBodyFn
  simp [hev, Env.getMany, hout]

theorem loopBody_step (S : Sem V) (fuel : Nat) (hId : ∀ v, S.op "" "Identity" [some v] [] = some [v])
    {pre : List Stmt} {bt : Option Name} (hOps : bt = none ∨ BrkOps S) {F : VSet} {state : List Name}
    {whileVar bc : Option Name} {L1 L2 : Locals} {condIn oc condOut : Name} {bn cns ns3 : List Node}
    {os : List Name} {s3 s4 s4a s4b : St}
    (hB : BodyFacts S fuel pre (brkLive bt F))
    (hbt : ∀ t, bt = some t → S.attrLit t = none ∧ t ∉ S.pyVars)
    (hfree1 : FreeOf S L1 (targetsBlock pre)) (hstF : ∀ x, x ∈ state → x ∈ F) (hfreeS : FreeOf S L1 state)
    (hw : ∀ w, whileVar = some w → w ∈ F ∧ w ∉ S.pyVars)
    (h4 : convLoopBody L1 (pre ++ brkTail bt) F s3 = .ok ((L2, bn, bc), s4))
    (hcn : loopCondName L2 whileVar condIn = some oc)
    (h5a : condNodes whileVar bc oc s4 = .ok ((condOut, cns), s4a))
    (h5b : loopOutputs L2 state (bn ++ cns) [condOut] s4a = .ok ((os, ns3), s4b))
    {ρh : Store V} {envh : Env V} {cnd : V} {o : Outcome V}
    (hinv : Inv S (liveInBlock (pre ++ brkTail bt) F) ρh L1 envh s3)
    (hcin : envh condIn = some cnd) (hcinu : condIn ∈ s3.used) (hcnd : whileVar = none → S.truth cnd = some true)
    (he : evalBlock S fuel (pre ++ brkTail bt) ρh = some o) :
    ∃ (ρ1 : Store V) (bk : Bool) (c' : V) (rs : List V), o = (if bk then .broke ρ1 else .normal ρ1) ∧
      RunOK S ρh ρ1 (assignedBlock pre) ∧ All2 (fun r x => ρ1 x = some (PV.t r)) rs state ∧
      S.truth c' = (if bk then some false else contTruth S whileVar cnd ρ1) ∧
      ∃ G1, ∀ G, G1 ≤ G → ∃ envD, evalNodes S G envh (bn ++ (cns ++ ns3)) = some envD ∧
        (condOut :: os).mapM envD = some (c' :: rs) := by
  obtain ⟨ρ1, bk, hpre, run1, rfl, hbk0, hbk1⟩ := brkBody_run S fuel hB.run hbt hinv.allT he
  obtain ⟨h4', hbc0, hbc1⟩ := convLoopBody_split bt pre L1 F hB.nobrk h4
  rw [live_brk] at hinv
  obtain ⟨envB, ⟨G1, evB⟩, invB⟩ := hB.sim hfree1 hinv hpre h4'
  have fB := convStmts_fresh _ pre _ h4'
  have hAM := convStmts_attrMono _ _ _ h4'
  obtain ⟨envC, c', evC, hcC, hcu, hspec⟩ := condNodes_sim S hId hOps 0 (bk := bk) invB hcn h5a
    (by rw [(fB.ext (evB G1 (Nat.le_refl _))).envSame condIn hcinu]; exact hcin) (fB.1.mono _ hcinu) hcnd
    (fun w hw' => ⟨mem_brkLive.mpr (Or.inl (hw w hw').1), (hw w hw').2⟩)
    (fun hn => ⟨hbk0 hn, hbc0 hn⟩)
    (fun t ht => by
      obtain ⟨nb, rfl, hcur⟩ := hbc1 t ht
      obtain ⟨v, hρt, hv⟩ := hbk1 t ht
      obtain ⟨v', hev, hρ⟩ := invB.val_of_live (mem_brkLive.mpr (Or.inr ht)) (hbt t ht).2 (lookup_of_currentScopeFind hcur)
      rw [hρt] at hρ
      cases hρ
      exact ⟨nb, v, rfl, hev, hv⟩)
  have invC := invB.step (condNodes_fresh h5a) evC
  have hfreeS2 := hfreeS.mono hAM
  obtain ⟨envD, rs, evD, hrs, hall⟩ := loopOutputs_sim S 0 hId L2 state _ _ invC.vis hfreeS2
    (invC.vals (fun x hx => mem_brkLive.mpr (Or.inl (hstF x hx))) hfreeS2) h5b
  refine ⟨ρ1, bk, c', rs, rfl, run1, hall, hspec, G1, fun G hG => ⟨envD, ?_, ?_⟩⟩
  · exact evalNodes_seq (evB G hG) (evalNodes_seq (evalNodes_mono S cns 0 G _ _ (Nat.zero_le G) evC)
      (evalNodes_mono S ns3 0 G _ _ (Nat.zero_le G) evD))
  · simp [List.mapM_cons, ((loopOutputs_outs _ _ _ _ h5b).fresh.ext evD).envSame condOut hcu, hcC, hrs]

/-- The head of a loop iteration: the body scope binds the state variables (and the loop variable of a `for`) to the
inputs of the body graph; with the values of iteration `k` the invariant holds for the live-in `LvB` of the body. -/
theorem loop_head {S : Sem V} {Lv LvB : VSet} {ρ ρk : Store V} {L L1 : Locals} {env : Env V} {s s2 s3 : St}
    {c v condIn iv : Name} {bindIt : Bool} {state ps dd : List Name} {st : List V} (cnd : V) (k : Nat)
    (hinv : Inv S Lv ρ L env s)
    (h2 : genUnique c s = .ok (condIn, s2)) (h3 : loopEnter L v bindIt state s2 = .ok ((L1, iv, ps), s3))
    (hv : bindIt = true → S.attrLit v = none ∧ v ∉ state) (hfreeS : FreeOf S L state)
    (hrun : RunOK S ρ ρk (some dd)) (hR : All2 (fun r x => ρk x = some (PV.t r)) st state)
    (hold : ∀ y, y ∈ LvB → y ∉ state → (bindIt = true → y ≠ v) → y ∈ Lv ∧ y ∉ dd) :
    Inv S LvB (if bindIt then ρk.set v (.t (S.ofNat k)) else ρk) L1
        (env.setMany (iv :: condIn :: ps) (S.ofNat k :: cnd :: st)) s3 ∧
      (env.setMany (iv :: condIn :: ps) (S.ofNat k :: cnd :: st)) condIn = some cnd ∧ condIn ∈ s3.used := by
  obtain ⟨hcfresh, hcused, hccast⟩ := genUnique_spec h2
  have k2 := (genUnique_fresh h2).1
  have k03 : CastOK s s3 := k2.trans ((loopEnter_fresh h3).1)
  obtain ⟨hL1eq, hpslen, hc3⟩ := loopEnter_parts h3
  obtain ⟨m3, f3⟩ := loopEnter_fresh h3
  obtain ⟨hiv_ps, hps_nodup⟩ := List.nodup_cons.mp f3.1
  have hcondIn2 : condIn ∈ s2.used := by rw [hcused]; exact List.mem_cons_self
  have hcond_ps : condIn ∉ ps := fun hm => (f3.2 condIn (List.mem_cons_of_mem _ hm)).1 hcondIn2
  have hiv_cond : iv ≠ condIn := fun he' => (f3.2 iv List.mem_cons_self).1 (he' ▸ hcondIn2)
  have hbi_fresh : ∀ n, n ∈ s.used → n ∉ iv :: condIn :: ps := by
    intro n hn hm
    rcases List.mem_cons.mp hm with rfl | hm
    · exact (f3.2 _ List.mem_cons_self).1 (k2.mono _ hn)
    · rcases List.mem_cons.mp hm with rfl | hm
      · exact hcfresh hn
      · exact (f3.2 n (List.mem_cons_of_mem _ hm)).1 (k2.mono _ hn)
  have hnotcast3 : ∀ r, r ∈ iv :: condIn :: ps → r ∉ s3.castable := by
    intro r hr hc
    rw [hc3, hccast] at hc
    exact hbi_fresh r (hinv.cast r hc) hr
  obtain ⟨hvis1, _⟩ := loopEnter_scope (vis := s3.used) h3 (hinv.vis.mono k03.mono) (f3.2 iv List.mem_cons_self).2
    (fun p hp => (f3.2 p (List.mem_cons_of_mem _ hp)).2)
  have henvh : ∀ n, n ∈ s.used → (env.setMany (iv :: condIn :: ps) (S.ofNat k :: cnd :: st)) n = env n :=
    fun n hn => envSetMany_frame _ _ _ n (hbi_fresh n hn)
  have hnewS := rebind_new (ρ' := ρk) (bindVar ([] :: L) v (.val iv)) ((env.set iv (S.ofNat k)).set condIn cnd)
    hps_nodup hpslen hR (fun r hr => hnotcast3 r (List.mem_cons_of_mem _ (List.mem_cons_of_mem _ hr)))
  have hTS := TFree.of_free hinv.noattr hfreeS
  refine ⟨?_, ?_, m3.mono _ hcondIn2⟩
  · subst hL1eq
    cases bindIt with
    | false =>
      simp only [loopScope, Bool.false_eq_true, if_false] at hvis1 ⊢
      exact (hinv.push.rebind k03 henvh hvis1 (fun x hx => (hTS x hx).1) hrun
        (rebind_new ([] :: L) ((env.set iv (S.ofNat k)).set condIn cnd) hps_nodup hpslen hR
          (fun r hr => hnotcast3 r (List.mem_cons_of_mem _ (List.mem_cons_of_mem _ hr))))
        (fun y hy hys => hold y hy hys (fun hc => by cases hc)))
    | true =>
      obtain ⟨hvl, hvs⟩ := hv rfl
      simp only [loopScope, if_true] at hvis1 ⊢
      refine hinv.push.rebind (xs := v :: state) (outs := iv :: ps) (d := v :: dd) k03 henvh hvis1 ?_
        (hrun.trans (RunOK.set hrun.allT v (S.ofNat k)) (fun x hx => List.mem_cons_of_mem _ hx) (by simp)) ?_ ?_
      · intro x hx
        rcases List.mem_cons.mp hx with rfl | hx
        · exact hvl
        · exact (hTS x hx).1
      · intro x hx
        by_cases hxs : x ∈ state
        · obtain ⟨r, w, h1, h2, h3, h4⟩ := hnewS x hxs
          refine ⟨r, w, h1, h2, ?_, h4⟩
          unfold Store.set
          rw [if_neg (fun he : x = v => hvs (he ▸ hxs))]
          exact h3
        · obtain rfl : x = v := (List.mem_cons.mp hx).resolve_right hxs
          refine ⟨iv, S.ofNat k, ?_, ?_, by simp [Store.set], hnotcast3 iv List.mem_cons_self⟩
          · show lookup (bindVals (bindVar ([] :: L) x (.val iv)) state ps) x = _
            rw [lookup_bindVals_notin _ _ _ hxs, lookup_bindVar_same]
          · show (Env.setMany (env.set iv (S.ofNat k)) (condIn :: ps) (cnd :: st)) iv = _
            rw [envSetMany_frame _ _ _ iv (by
              intro hm
              rcases List.mem_cons.mp hm with h' | h'
              · exact hiv_cond h'
              · exact hiv_ps h')]
            exact Env.set_same _ _ _
      · intro y hy hys
        have hyv : y ≠ v := fun he => hys (he ▸ List.mem_cons_self)
        obtain ⟨h1, h2⟩ := hold y hy (fun hm => hys (List.mem_cons_of_mem _ hm)) (fun _ => hyv)
        exact ⟨h1, fun hm => (List.mem_cons.mp hm).elim hyv h2⟩
  · show (Env.setMany ((env.set iv (S.ofNat k)).set condIn cnd) ps st) condIn = _
    rw [envSetMany_frame _ _ _ condIn hcond_ps]
    exact Env.set_same _ _ _

theorem evalNodes_loop {S : Sem V} {G : Nat} {env : Env V} {b c : Option Name} {bv cv : Option V}
    {inits outs bi bo : List Name} {bn : List Node} {st0 stf : List V}
    (hb : env.getOpt b = some bv) (hc : env.getOpt c = some cv) (hi : inits.mapM env = some st0)
    (hr : loopResult S (loopBodyFn S (fun e => evalNodes S G e bn) env bi bo) G bv cv st0 = some stf)
    (hl : stf.length = outs.length) :
    evalNodes S (G + 1) env [.loop b c inits outs bi bn bo] = some (env.setMany outs stf) := by
  simp [evalNodes, evalNode, hb, hc, Env.getMany, hi, hr, hl]

theorem RunOK.round {S : Sem V} {ρ ρk ρ1 : Store V} {v : Name} {bindIt : Bool} {d : VSet} (x : V)
    (h0 : RunOK S ρ ρk (some (if bindIt then v :: d else d)))
    (h1 : RunOK S (if bindIt then ρk.set v (.t x) else ρk) ρ1 (some d)) :
    RunOK S ρ ρ1 (some (if bindIt then v :: d else d)) := by
  cases bindIt with
  | false => exact h0.trans h1 (fun _ hy => hy) (fun _ hy => hy)
  | true =>
    exact h0.trans ((RunOK.set h0.allT v x).trans h1 (by simp) (fun y hy => List.mem_cons_of_mem _ hy))
      (fun _ hy => hy) (fun _ hy => hy)

/-- A translated loop after its bound or condition: `for v in range(…)` (`bindIt`) or `while w` (`whileVar`)
around `pre [; if t: break]`, given the facts `BodyFacts` about `pre`.  `hinv` is the invariant where `cond_in` is
generated, for the live-out `F` the body is translated with; `bv`, `cv` are what the `Loop` node reads as its trip
count and first condition, `he` is Python's run of the loop.  Of liveness it takes: what is live after the loop is in
`F`; so is what is live at the head of the body, the loop variable apart (`hback`); and what of `F` is live there is
an exposed use of the body, live after the loop, or carried (`hexp`). -/
theorem loop_sim (S : Sem V) (fuel : Nat) (hId : ∀ v, S.op "" "Identity" [some v] [] = some [v])
    {pre : List Stmt} {bt : Option Name} (hOps : bt = none ∨ BrkOps S)
    {v c condIn iv : Name} {bindIt : Bool} {whileVar bound cond bc : Option Name} {lo F d state : VSet}
    {ps : List Name} {bn nl : List Node} {ρ ρ' : Store V} {L L1 L2 L' : Locals} {env : Env V} {s s2 s3 s4 s' : St}
    {bv cv : Option V} {left : Option Nat} {cont : Store V → Option Bool}
    (hB : BodyFacts S fuel pre (brkLive bt F))
    (hbt : ∀ t, bt = some t → S.attrLit t = none ∧ t ∉ S.pyVars)
    (hd : assignedBlock pre = some d) (hs : loopState (pre ++ brkTail bt) lo = some state)
    (hfree : FreeOf S L (targetsBlock pre))
    (hv : bindIt = true → S.attrLit v = none ∧ v ∉ d ∧ v ∉ lo)
    (hw : ∀ w, whileVar = some w → w ∈ F ∧ w ∉ S.pyVars)
    (hlo : ∀ y, y ∈ lo → y ∈ F)
    (hback : ∀ y, y ∈ liveInBlock (pre ++ brkTail bt) F → (bindIt = true → y ≠ v) → y ∈ F)
    (hexp : ∀ y, y ∈ F → y ∈ liveInBlock (pre ++ brkTail bt) F →
      y ∈ exposedBlock (pre ++ brkTail bt) [] ∨ y ∈ lo ∨ y ∈ state)
    (hinv : Inv S F ρ L env s)
    (h2 : genUnique c s = .ok (condIn, s2)) (h3 : loopEnter L v bindIt state s2 = .ok ((L1, iv, ps), s3))
    (h4 : convLoopBody L1 (pre ++ brkTail bt) F s3 = .ok ((L2, bn, bc), s4))
    (h5 : loopFinish L L2 state bound cond condIn iv ps whileVar bn bc s4 = .ok ((L', nl), s'))
    (hvis' : VisOK s'.used L')
    (hbv : env.getOpt bound = some bv) (hcv : env.getOpt cond = some cv) (hleft : loopTrip S bv = some left)
    (hcont : ∀ cnd ρ1, S.truth cnd = some true → contTruth S whileVar cnd ρ1 = cont ρ1)
    (hc0 : S.truth (loopCond0 S cv) = cont ρ)
    (he : LoopRun cont
      (fun k ρk => evalBlock S fuel (pre ++ brkTail bt) (if bindIt then ρk.set v (.t (S.ofNat k)) else ρk))
      (.normal ρ') left 0 ρ) :
    ∃ G env', evalNodes S G env nl = some env' ∧ Inv S lo ρ' L' env' s' := by
  obtain ⟨oc, condOut, cns, s4a, os, ns3, s4b, inits, ns4, s4c, outs, hcn, h5a, h5b, h5c, h5d, rfl, rfl⟩ :=
    loopFinish_ok h5
  have hstate := fun x => mem_loopState (x := x) hs ((assigned_brk pre bt).trans hd)
  have hfreeS : FreeOf S L state := fun x hx => hfree x (assignedBlock_sub_targets pre hd x ((hstate x).mp hx).1)
  have hstF : ∀ x, x ∈ state → x ∈ F := fun x hx => by
    obtain ⟨hxd, hx'⟩ := (hstate x).mp hx
    exact hx'.elim (fun h' => hback x (hB.live.brk.ofExp (fun _ hz => by cases hz) h')
      (fun hb he' => (hv hb).2.1 (he' ▸ hxd))) (hlo x)
  have hcarry : ∀ y, y ∈ liveInBlock (pre ++ brkTail bt) F → y ∈ d → y ∈ state := fun y hyL hyd => by
    rcases (hB.live.brk.toExp (A := []) (fun z hz => hz) (fun z hz => Or.inr hz) hyL).elim Or.inl
      (fun hyF => hexp y hyF hyL) with h' | h' | h'
    · exact (hstate y).mpr ⟨hyd, Or.inl h'⟩
    · exact (hstate y).mpr ⟨hyd, Or.inr h'⟩
    · exact h'
  have hdd : ∀ y, y ∈ (if bindIt then v :: d else d) → y ∈ d ∨ (bindIt = true ∧ y = v) := fun y hy => by
    cases bindIt
    · exact Or.inl hy
    · exact (List.mem_cons.mp hy).elim (fun e => Or.inr ⟨rfl, e⟩) Or.inl
  have hAM1 := loopEnter_attrMono h3
  have hstep : ∀ (k : Nat) (ρk : Store V) (st : List V) (cnd : V) (o : Outcome V), S.truth cnd = some true →
      (RunOK S ρ ρk (some (if bindIt then v :: d else d)) ∧ All2 (fun r x => ρk x = some (PV.t r)) st state) →
      evalBlock S fuel (pre ++ brkTail bt) (if bindIt then ρk.set v (.t (S.ofNat k)) else ρk) = some o →
      ∃ (ρ1 : Store V) (bk : Bool) (c' : V) (rs : List V), o = (if bk then .broke ρ1 else .normal ρ1) ∧
        (RunOK S ρ ρ1 (some (if bindIt then v :: d else d)) ∧ All2 (fun r x => ρ1 x = some (PV.t r)) rs state) ∧
        S.truth c' = (if bk then some false else cont ρ1) ∧
        ∃ G1, ∀ G, G1 ≤ G → loopBodyFn S (fun e => evalNodes S G e (bn ++ (cns ++ ns3))) env
          (iv :: condIn :: ps) (condOut :: os) k cnd st = some (c', rs) := by
    intro k ρk st cnd o hcnd ⟨hrun, hR⟩ hbk
    obtain ⟨invh, hcin, hcinu⟩ := loop_head (LvB := liveInBlock (pre ++ brkTail bt) F) cnd k hinv h2 h3
      (fun hb => ⟨(hv hb).1, fun hm => (hv hb).2.1 ((hstate v).mp hm).1⟩) hfreeS hrun hR
      (fun y hyL hys hyv => ⟨hback y hyL hyv, fun hm =>
        (hdd y hm).elim (fun hdm => hys (hcarry y hyL hdm)) (fun hb => hyv hb.1 hb.2)⟩)
    obtain ⟨ρ1, bk, c', rs, ho, run1, hall, hspec, G1, hev⟩ := loopBody_step S fuel hId hOps hB hbt (hfree.mono hAM1)
      hstF (hfreeS.mono hAM1) hw h4 hcn h5a h5b invh hcin hcinu (fun _ => hcnd) hbk
    refine ⟨ρ1, bk, c', rs, ho, ⟨hrun.round _ (hd ▸ run1), hall⟩, by rw [hspec, hcont cnd ρ1 hcnd], G1, fun G hG => ?_⟩
    obtain ⟨envD, e1, e2⟩ := hev G hG
    exact loopBodyFn_of_eval e1 e2
  obtain ⟨rfl, rfl, st0, hst0, hR0⟩ := loopInits_sim L state hfreeS
    (hinv.vals hstF hfreeS) h5c
  obtain ⟨stf, ⟨runF, hRf⟩, Gi, hiter⟩ := loopIter_sim S hstep he st0 (loopCond0 S cv) hc0
    ⟨RunOK.refl hinv.allT _, hR0⟩
  have k04 : CastOK s s4c := ((genUnique_fresh h2).1).trans (((loopEnter_fresh h3).1).trans
    (((convLoopBody_fresh _ _ _ h4).1).trans (((condNodes_fresh h5a).1).trans ((loopOutputs_outs _ _ _ _ h5b).fresh.1))))
  obtain ⟨inv', hlen⟩ := Inv.rebind_fresh (lo := lo) hinv k04 h5d (fun _ _ => rfl) hvis' hfreeS runF hRf
    (fun y hy hys => ⟨hlo y hy, fun hm => (hdd y hm).elim
      (fun hdm => hys ((hstate y).mpr ⟨hdm, Or.inr hy⟩)) (fun hb => (hv hb.1).2.2 (hb.2 ▸ hy))⟩)
  refine ⟨Gi + 1, env.setMany outs stf, ?_, inv'⟩
  simpa using evalNodes_loop hbv hcv hst0
    (by simp [loopResult, hleft, hiter Gi Gi (Nat.le_refl _) (Nat.le_refl _)]) hlen

theorem for_step (S : Sem V) (fuel : Nat) (hConst : ∀ l, ∃ c, constOf S l = some c)
    (hId : ∀ v, S.op "" "Identity" [some v] [] = some [v]) (hT : S.truth (S.ofBool true) = some true)
    (hNat : ∀ k c, constOf S (.int k) = some c → S.natOf c = some k.toNat)
    {pre body : List Stmt} {bt : Option Name} (hbody : body = pre ++ brkTail bt) (hOps : bt = none ∨ BrkOps S)
    {i : Name} {b : Expr} {lo d : VSet} {ρ ρ' : Store V} {L L' : Locals} {env : Env V} {s s' : St} {ns : List Node}
    (hB : BodyFacts S fuel pre (brkLive bt (loopBodyLo (.for_ i true b body) lo)))
    (hbt : ∀ t, bt = some t → S.attrLit t = none ∧ t ∉ S.pyVars)
    (hd : assignedBlock pre = some d) (hid : i ∉ d) (hiF : S.attrLit i = none ∧ i ∉ S.pyVars)
    (hfree : FreeOf S L (targetsBlock pre))
    (hst : stableStmt (.for_ i true b body) lo = true)
    (hinv : Inv S (liveInStmt (.for_ i true b body) lo) ρ L env s)
    (he : evalStmt S fuel (.for_ i true b body) ρ = some (.normal ρ'))
    (h : convStmt L (.for_ i true b body) lo s = .ok ((L', ns), s')) :
    ∃ G env', evalNodes S G env ns = some env' ∧ Inv S lo ρ' L' env' s' := by
  subst hbody
  have hvis' := convStmt_vis hinv.vis h
  have hF := forLiveE_of_stable hB.live.brk hst
  obtain ⟨bv, n, hbe, hn, he⟩ := evalStmt_for_some he
  obtain ⟨_, hilo, state, ob, ns0, s1, condIn, s2, L1, iv, ps, s3, L2, bn, bc, s4, nl,
    hs, _, h1, h2, h3, h4, h5, rfl⟩ := convStmt_for_ok h
  rw [liveIn_for_eq] at hinv
  generalize loopBodyLo (.for_ i true b (pre ++ brkTail bt)) lo = F at hF hB h4 hinv
  -- the trip count: a tensor, or the constant of an integer literal
  have hbe' : evalExpr S (restrict ρ (vunion F (usedVars b))) b = some bv := by
    rw [evalExpr_restrict S ρ _ b (fun y hy => mem_vunion.mpr (Or.inr hy))]; exact hbe
  obtain ⟨env1, ev1, r1⟩ := convExpr_sim S fuel hConst _ L b _ hinv.simAt hbe' h1
  obtain ⟨bvv, hob, hnc⟩ : ∃ c, env1 ob = some c ∧ S.natOf c = some n := by
    cases bv with
    | t v => exact ⟨v, r1.1, hn⟩
    | py l =>
      obtain ⟨⟨c, hc, hev⟩, _⟩ := r1
      cases l with
      | int k => simp only [natPV] at hn; cases hn; exact ⟨c, hev, hNat k c hc⟩
      | _ => simp [natPV] at hn
  -- no condition input: `cond_in` starts true and stays so until a `break`
  obtain ⟨G, env', ev, inv'⟩ := loop_sim S fuel hId hOps hB hbt hd hs hfree (bindIt := true) (whileVar := none)
    (hv := fun _ => ⟨hiF.1, hid, hilo⟩) (hw := fun w hw => by cases hw)
    (hlo := hF.lo_sub)
    (hback := fun y hy hyi => hF.back y hy (hyi rfl)) (hexp := fun y hy _ => (hF.sub_exposed y hy).imp_right Or.inl)
    ((hinv.step (convExpr_fresh L b _ h1) ev1).mono fun y hy => mem_vunion.mpr (Or.inl hy)) h2 h3 h4 h5 hvis'
    (bv := some bvv) (cv := none) (hbv := by simp [Env.getOpt, hob]) (hcv := rfl) (hleft := by simp [loopTrip, hnc])
    (cont := fun _ => some true) (hcont := fun _ _ hc => hc) (hc0 := hT) (iterFor_loopRun S n 0 ρ he)
  exact ⟨max fuel G, env', evalNodes_seq (evalNodes_mono S ns0 fuel _ _ _ (Nat.le_max_left _ _) ev1)
    (evalNodes_mono S nl G _ _ _ (Nat.le_max_right _ _) ev), inv'⟩

/-- `hside`: the condition variable is loop-carried, or recomputed in the body before anything reads it. -/
theorem while_step (S : Sem V) (fuel : Nat) (hId : ∀ v, S.op "" "Identity" [some v] [] = some [v])
    {pre body : List Stmt} {bt : Option Name} (hbody : body = pre ++ brkTail bt) (hOps : bt = none ∨ BrkOps S)
    {t : Name} {lo d state : VSet} {ρ ρ' : Store V} {L L' : Locals} {env : Env V} {s s' : St} {ns : List Node}
    (hB : BodyFacts S fuel pre (brkLive bt (loopBodyLo (.while_ (.var t) body) lo)))
    (hbt : ∀ b, bt = some b → S.attrLit b = none ∧ b ∉ S.pyVars)
    (hd : assignedBlock pre = some d) (hs : loopState body lo = some state)
    (hside : t ∈ state ∨ t ∉ liveInBlock body (loopBodyLo (.while_ (.var t) body) lo))
    (hst : stableStmt (.while_ (.var t) body) lo = true) (htl : S.attrLit t = none ∧ t ∉ S.pyVars)
    (hfree : FreeOf S L (targetsBlock pre))
    (hinv : Inv S (liveInStmt (.while_ (.var t) body) lo) ρ L env s)
    (he : evalStmt S fuel (.while_ (.var t) body) ρ = some (.normal ρ'))
    (h : convStmt L (.while_ (.var t) body) lo s = .ok ((L', ns), s')) :
    ∃ G env', evalNodes S G env ns = some env' ∧ Inv S lo ρ' L' env' s' := by
  subst hbody
  have hvis' := convStmt_vis hinv.vis h
  have hW := whileLiveE_of_stable hB.live.brk hst
  unfold evalStmt at he
  simp only [evalExpr_var_of_none htl.1] at he
  obtain ⟨t', state', condIn, s2, oc, ns0, s2', L1, iv, ps, s3, L2, bn, bc, s4, nl,
    ht', hs', _, h2, h1, h3, h4, h5, rfl⟩ := convStmt_while_ok h
  cases ht'
  rw [hs] at hs'
  cases hs'
  rw [liveIn_while_eq] at hinv
  generalize loopBodyLo (.while_ (.var t) (pre ++ brkTail bt)) lo = F at hW hB h4 hinv hside
  obtain ⟨v0, hρt, hoc⟩ : ∃ v0, ρ t = some (.t v0) ∧ env oc = some v0 ∧ ns0 = [] ∧ s2' = s2 := by
    cases hq : ρ t with
    | none => cases fuel <;> simp [iterWhile, hq] at he
    | some q0 =>
      obtain ⟨v0, rfl⟩ := hinv.allT t q0 hq htl.2
      obtain ⟨n, hl, hr⟩ := hinv.rel t _ (restrict_some.mpr ⟨hW.cond_in, hq⟩)
      obtain ⟨b, hl', h1⟩ := pyVar_ok h1
      rw [hl] at hl'
      cases hl'
      obtain ⟨rfl, rfl, rfl⟩ := toOnnxVar_val_ok h1
      exact ⟨v0, rfl, hr.1, rfl, rfl⟩
  obtain ⟨hoc, rfl, rfl⟩ := hoc
  -- no trip count: the condition input is `t`, re-read by Python at the head of every round
  obtain ⟨G, env', ev, inv'⟩ := loop_sim S fuel hId hOps hB hbt hd hs hfree (bindIt := false) (whileVar := some t)
    (hv := fun hc => by cases hc) (hw := fun w hw => by cases hw; exact ⟨hW.cond_in, htl.2⟩)
    (hlo := hW.lo_sub) (hback := fun y hy _ => hW.back y hy)
    (hexp := fun y hy hyL => (hW.sub_exposed y hy).imp_right (.imp_right fun (e : y = t) =>
      e ▸ hside.resolve_right fun hn => hn (e ▸ hyL)))
    hinv h2 h3 h4 h5 hvis'
    (bv := none) (cv := some v0) (hbv := rfl) (hcv := by simp [Env.getOpt, hoc]) (hleft := rfl)
    (hcont := fun cnd ρ1 _ => by simp only [contTruth]; cases ρ1 t <;> rfl) (hc0 := by simp [loopCond0, hρt, truthPV])
    (iterWhile_loopRun fuel 0 ρ he)
  exact ⟨G, env', by simpa using ev, inv'⟩

theorem forLine_cons {st : Stmt} {ss : List Stmt} (h : forLine (st :: ss) = true) :
    (∃ es, st = .ret es false ∧ ss = []) ∨
      (forTopStmt st (liveInBlock ss []) = true ∧ forLine ss = true) := by
  unfold forLine at h
  cases st with
  | ret es bare =>
    cases ss with
    | nil =>
      simp only [Bool.not_eq_true'] at h
      subst h
      exact Or.inl ⟨es, rfl, rfl⟩
    | cons s2 ss2 => simp [forTopStmt, ifStmt] at h
  | _ => right; simpa using h

theorem loopBodyOK_split {body : List Stmt} (h : loopBodyOK body = true) :
    ∃ pre bt, body = pre ++ brkTail bt ∧ ifBlock pre = true := by
  unfold loopBodyOK at h
  rcases Bool.or_eq_true_iff.mp h with h | h
  · exact ⟨body, none, by simp [brkTail], h⟩
  · unfold splitBrk at h
    cases hl : body.getLast? with
    | none => simp [hl] at h
    | some st =>
      have hne : body ≠ [] := by intro hc; subst hc; simp at hl
      have hbody : body.dropLast ++ [st] = body := by
        have h2 := List.getLast?_eq_some_getLast hne
        rw [hl] at h2
        injection h2 with h2
        rw [h2]; exact List.dropLast_concat_getLast hne
      cases st with
      | brk c =>
        cases c with
        | var t => simp only [hl] at h; exact ⟨body.dropLast, some t, hbody.symm, h⟩
        | _ => simp [hl] at h
      | _ => simp [hl] at h

theorem top_step (S : Sem V) (fuel : Nat) (hConst : ∀ l, ∃ c, constOf S l = some c)
    (hId : ∀ v, S.op "" "Identity" [some v] [] = some [v])
    (hTL : ∀ l c b, constOf S l = some c → truthPV S (.py l) = some b → S.truth c = some b) (hT : S.truth (S.ofBool true) = some true)
    (hNat : ∀ k c, constOf S (.int k) = some c → S.natOf c = some k.toNat) (hOps : BrkOps S)
    (st : Stmt) (lo : VSet) {ρ : Store V} {o : Outcome V} {L L' : Locals} {env : Env V} {s s' : St}
    {ns : List Node} (hst : forTopStmt st lo = true) (hfree : FreeOf S L (targetsStmt st))
    (hinv : Inv S (liveInStmt st lo) ρ L env s)
    (he : evalStmt S fuel st ρ = some o) (h : convStmt L st lo s = .ok ((L', ns), s')) :
    ∃ ρ1, o = .normal ρ1 ∧ ∃ G env', evalNodes S G env ns = some env' ∧ Inv S lo ρ1 L' env' s' := by
  have hTF : TFree S (targetsStmt st) := TFree.of_free hinv.noattr hfree
  have body_facts : ∀ {pre : List Stmt} {bt : Option Name} (F : VSet), ifBlock pre = true →
      TFree S (targetsBlock (pre ++ brkTail bt)) → FreeOf S L (targetsBlock (pre ++ brkTail bt)) →
      BodyFacts S fuel pre F ∧ (∀ t, bt = some t → S.attrLit t = none ∧ t ∉ S.pyVars) ∧
        FreeOf S L (targetsBlock pre) := by
    intro pre bt F hpre hTFb hfb
    rw [targets_brk] at hTFb hfb
    exact ⟨bodyFacts_of_ifBlock S fuel hConst hId hTL F hpre (hTFb.sub (fun x hx => List.mem_append_left _ hx)),
      fun t ht => hTFb t (by simp [ht]), hfb.sub (fun x hx => List.mem_append_left _ hx)⟩
  have top_if : ∀ {st : Stmt}, FreeOf S L (targetsStmt st) → Inv S (liveInStmt st lo) ρ L env s →
      evalStmt S fuel st ρ = some o → convStmt L st lo s = .ok ((L', ns), s') → ifStmt st = true →
      ∃ ρ1, o = .normal ρ1 ∧ ∃ G env', evalNodes S G env ns = some env' ∧ Inv S lo ρ1 L' env' s' := by
    intro st hfree hinv he h hif
    obtain ⟨ρ1, rfl, _⟩ := ifStmt_run S fuel st hif (TFree.of_free hinv.noattr hfree) hinv.allT he
    obtain ⟨env1, ev1, inv1⟩ := (ifRules_sim S fuel hConst hId hTL).stmt st _ (ifStmt_nest st _ hif) hif hfree hinv he h
    exact ⟨ρ1, rfl, fuel, env1, ev1, inv1⟩
  cases st with
  | for_ i ok b body =>
    simp only [forTopStmt, forOK, Bool.and_eq_true] at hst
    obtain ⟨rfl, ⟨hbody, hdd⟩, hstab⟩ := hst
    obtain ⟨pre, bt, rfl, hpre⟩ := loopBodyOK_split hbody
    obtain ⟨hB, hbt, hfp⟩ := body_facts (bt := bt) (brkLive bt (loopBodyLo (.for_ i true b (pre ++ brkTail bt)) lo))
      hpre (hTF.sub (fun x hx => by simp [targetsStmt, hx])) (hfree.sub (fun x hx => by simp [targetsStmt, hx]))
    rw [assigned_brk] at hdd
    cases hd : assignedBlock pre with
    | none => simp [hd] at hdd
    | some d =>
      simp only [hd] at hdd
      obtain ⟨_, n, _, _, hit⟩ := evalStmt_for_some he
      obtain ⟨ρ1, rfl, _⟩ := iterFor_run S i (fun hρ0 hb0 => by
        obtain ⟨ρ1, bk, _, run1, rfl, _⟩ := brkBody_run S fuel hB.run hbt hρ0 hb0
        exact ⟨ρ1, by cases bk <;> simp, hd ▸ run1⟩) n 0 hinv.allT hit
      exact ⟨ρ1, rfl, for_step S fuel hConst hId hT hNat rfl (Or.inr hOps) hB hbt hd
        (not_mem_of_contains hdd) (hTF i (by simp [targetsStmt])) hfp hstab hinv he h⟩
  | while_ c body =>
    cases c with
    | var t =>
      simp only [forTopStmt, whileOK, Bool.and_eq_true] at hst
      obtain ⟨⟨hbody, hside⟩, hstab⟩ := hst
      obtain ⟨pre, bt, rfl, hpre⟩ := loopBodyOK_split hbody
      obtain ⟨hB, hbt, hfp⟩ := body_facts (bt := bt)
        (brkLive bt (loopBodyLo (.while_ (.var t) (pre ++ brkTail bt)) lo)) hpre
        (hTF.sub (fun x hx => by simp [targetsStmt, hx])) (hfree.sub (fun x hx => by simp [targetsStmt, hx]))
      rw [assigned_brk] at hside
      cases hd : assignedBlock pre with
      | none => simp [hd] at hside
      | some d =>
        cases hs : loopState (pre ++ brkTail bt) lo with
        | none => simp [hd, hs] at hside
        | some state =>
          simp only [hd, hs, Bool.or_eq_true, List.contains_iff_mem] at hside
          have htl := hTF t (by simp [targetsStmt, bareVar])
          obtain ⟨ρ1, rfl, _⟩ : ∃ ρ1, o = .normal ρ1 ∧ RunOK S ρ ρ1 (some d) := by
            unfold evalStmt at he
            exact iterWhile_run S (fun hρ0 hb0 => by
              obtain ⟨ρ1, bk, _, run1, rfl, _⟩ := brkBody_run S fuel hB.run hbt hρ0 hb0
              exact ⟨ρ1, by cases bk <;> simp, hd ▸ run1⟩) fuel hinv.allT he
          exact ⟨ρ1, rfl, while_step S fuel hId rfl (Or.inr hOps) hB hbt hd hs
            (hside.imp_right not_mem_of_contains) hstab htl hfp hinv he h⟩
    | _ => simp [forTopStmt, ifStmt] at hst
  | _ => exact top_if hfree hinv he h hst

end OV.C01
