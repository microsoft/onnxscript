import OV.Model.C10Names
import OV.Lemmas.Util
namespace OV.C10.Names

theorem firstFresh_none (used : List VName) : ∀ (fuel c : Nat), firstFresh used fuel c = none →
    ∀ j, c ≤ j → j < c + fuel → VName.val j ∈ used := by
  intro fuel
  induction fuel with
  | zero => intro c _ j h1 h2; omega
  | succ fuel ih =>
    intro c h j h1 h2
    unfold firstFresh at h
    by_cases hc : used.contains (.val c) = true
    · rw [if_pos hc] at h
      by_cases hj : j = c
      · subst hj; simpa using hc
      · exact ih (c + 1) h j (by omega) (by omega)
    · rw [if_neg hc] at h; cases h

/-- `used.length + 1` rounds suffice: of that many distinct candidates one is unused (pigeonhole). -/
theorem firstFresh_total (used : List VName) (c : Nat) : ∃ k, firstFresh used (used.length + 1) c = some k := by
  cases h : firstFresh used (used.length + 1) c with
  | some k => exact ⟨k, rfl⟩
  | none =>
    obtain ⟨i, h1, h2, h3⟩ := List.exists_cand_not_mem (cand := VName.val) (fun i j h => by cases h; rfl) used c
    exact absurd (firstFresh_none used _ c h i h1 (by omega)) h3

theorem firstFresh_spec (used : List VName) : ∀ (fuel c k : Nat), firstFresh used fuel c = some k →
    c ≤ k ∧ VName.val k ∉ used ∧ ∀ j, c ≤ j → j < k → VName.val j ∈ used := by
  intro fuel
  induction fuel with
  | zero => intro c k h; simp [firstFresh] at h
  | succ fuel ih =>
    intro c k h
    unfold firstFresh at h
    by_cases hc : used.contains (.val c) = true
    · simp only [hc, if_true] at h
      obtain ⟨a, b, d⟩ := ih (c + 1) k h
      refine ⟨by omega, b, fun j h1 h2 => ?_⟩
      by_cases hj : j = c
      · subst hj; simpa using hc
      · exact d j (by omega) h2
    · simp only [hc] at h
      injection h with h; subst h
      exact ⟨Nat.le_refl _, by simpa using hc, fun j h1 h2 => by omega⟩

theorem nameMany_spec : ∀ (n : Nat) (st : St), ∃ ks st', nameMany n st = some (ks, st') ∧ ks.length = n ∧
    List.Pairwise (· < ·) ks ∧ (∀ k ∈ ks, st.ctr ≤ k ∧ k < st'.ctr ∧ VName.val k ∉ st.used) ∧
    st.ctr ≤ st'.ctr ∧ (∀ x, x ∈ st.used → x ∈ st'.used) := by
  intro n
  induction n with
  | zero => intro st; exact ⟨[], st, rfl, rfl, List.Pairwise.nil, fun k h => by simp at h, Nat.le_refl _, fun x h => h⟩
  | succ n ih =>
    intro st
    obtain ⟨k, hk⟩ := firstFresh_total st.used st.ctr
    obtain ⟨h1, h2, _⟩ := firstFresh_spec st.used _ st.ctr k hk
    obtain ⟨ks, st', e, hl, hp, hall, hc, hu⟩ := ih { used := .val k :: st.used, ctr := k + 1 }
    refine ⟨k :: ks, st', ?_, by simp [hl], ?_, ?_, ?_, ?_⟩
    · simp only [nameMany, nameOne, hk, Option.map_some, e]
    · refine List.Pairwise.cons (fun j hj => ?_) hp
      have := (hall j hj).1; simp only at this; omega
    · intro j hj
      rcases List.mem_cons.mp hj with h | h
      · subst h; simp only at hc; exact ⟨h1, by omega, h2⟩
      · obtain ⟨a, b, c⟩ := hall j h
        simp only at a
        exact ⟨by omega, b, fun hm => c (List.mem_cons_of_mem _ hm)⟩
    · simp only at hc; omega
    · intro x hx; exact hu x (List.mem_cons_of_mem _ hx)

end OV.C10.Names
