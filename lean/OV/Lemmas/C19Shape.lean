import OV.Model.C19Fusions
/-! `check_shape` as a unifier: `unify` only ever extends the bindings, and every position it has walked over is
bound to a dim that `pyEq`s the actual one. -/
namespace OV.C19

theorem unify_mono : ∀ (l : List (Dim × String)) (b b' : Bindings), unify b l = some b' →
    ∀ n d, b.lookup n = some d → b'.lookup n = some d := by
  intro l
  induction l with
  | nil => intro b b' h n d hd; cases h; exact hd
  | cons p rest ih =>
    intro b b' h n d hd
    obtain ⟨dm, nm⟩ := p
    simp only [unify] at h
    split at h
    · rename_i hl
      have hne : n ≠ nm := fun e => by rw [e, hl] at hd; cases hd
      exact ih _ _ h n d (by rw [List.lookup_cons, beq_false_of_ne hne]; exact hd)
    · split at h
      · exact ih _ _ h n d hd
      · cases h

theorem unify_bound : ∀ (l : List (Dim × String)) (b b' : Bindings), unify b l = some b' →
    ∀ p ∈ l, ∃ e, b'.lookup p.2 = some e ∧ p.1.pyEq e = true := by
  intro l
  induction l with
  | nil => intro b b' _ p hp; cases hp
  | cons q rest ih =>
    intro b b' h p hp
    obtain ⟨dm, nm⟩ := q
    simp only [unify] at h
    rcases List.mem_cons.mp hp with rfl | hin
    · split at h
      · exact ⟨dm, unify_mono _ _ _ h nm dm List.lookup_cons_self, by cases dm <;> simp [Dim.pyEq]⟩
      · rename_i d' hl
        split at h
        · rename_i hpe; exact ⟨d', unify_mono _ _ _ h nm d' hl, hpe⟩
        · cases h
    · split at h
      · exact ih _ _ h p hin
      · split at h
        · exact ih _ _ h p hin
        · cases h

theorem checkShape_some {b b' : Bindings} {sh : Shape} {names : List String}
    (h : checkShape b (some sh) names = some b') :
    sh.length = names.length ∧ unify b (sh.zip names) = some b' := by
  simp only [checkShape] at h
  split at h
  · cases h
  · rename_i hl; exact ⟨by simpa using hl, h⟩

theorem checkShape_bound {b b' : Bindings} {sh : Shape} {names : List String}
    (h : checkShape b (some sh) names = some b') (i : Nat) (hi : i < sh.length) (hn : i < names.length) :
    ∃ e, b'.lookup names[i] = some e ∧ sh[i].pyEq e = true :=
  unify_bound _ _ _ (checkShape_some h).2 (sh[i], names[i])
    (List.mem_of_getElem? (List.getElem?_zip_eq_some.mpr ⟨List.getElem?_eq_getElem hi, List.getElem?_eq_getElem hn⟩))

end OV.C19
