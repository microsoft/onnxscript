import OV.Lemmas.C03Frag
/-!
Use counts (`cnt`: occurrences among the top-level inputs of a node list; `usesOf`: what the state records) through
`_clear_unused_initializers` and `replace_node`; dropping initializers nobody mentions (`prune_sound`).
-/
namespace OV.C03

variable {V : Type}

def cnt (x : Name) (l : List Node) : Nat := (l.flatMap fun n => n.inputs).count (some x)

theorem cnt_nil (x : Name) : cnt x [] = 0 := rfl
theorem cnt_cons (x : Name) (n : Node) (l : List Node) : cnt x (n :: l) = n.inputs.count (some x) + cnt x l := by
  simp [cnt, List.flatMap_cons, List.count_append]
theorem cnt_append (x : Name) (a b : List Node) : cnt x (a ++ b) = cnt x a + cnt x b := by
  simp [cnt, List.flatMap_append, List.count_append]

theorem cnt_reverse (x : Name) (l : List Node) : cnt x l.reverse = cnt x l := by
  induction l with
  | nil => rfl
  | cons n r ih => rw [List.reverse_cons, cnt_append, cnt_cons, cnt_cons, cnt_nil, ih]; omega

theorem count_filterMap_id (x : Name) : ∀ (l : List (Option Name)), (l.filterMap id).count x = l.count (some x)
  | [] => rfl
  | none :: r => by
    simp only [List.filterMap_cons, id]
    rw [count_filterMap_id x r]
    simp
  | some y :: r => by
    simp only [List.filterMap_cons, id, List.count_cons]
    rw [count_filterMap_id x r]
    by_cases h : y = x
    · subst h; simp
    · have h1 : (y == x) = false := by simpa using h
      have h2 : (some y == some x) = false := by simpa using h
      simp [h1, h2]

theorem cnt_eq_flat (x : Name) : ∀ (l : List Node),
    cnt x l = (l.flatMap fun n => n.inputs.filterMap id).count x
  | [] => rfl
  | n :: r => by
    rw [cnt_cons, List.flatMap_cons, List.count_append, count_filterMap_id, cnt_eq_flat x r]

theorem usesOf_incUse (st : St) (y x : Name) : (st.incUse y).usesOf x = if x = y then st.usesOf x + 1 else st.usesOf x := by
  simp only [St.usesOf, St.incUse, lookupA_insert]
  by_cases h : x = y
  · subst h; simp
  · simp [h]

theorem usesOf_decUse (st : St) (y x : Name) : (st.decUse y).usesOf x = if x = y then st.usesOf x - 1 else st.usesOf x := by
  simp only [St.usesOf, St.decUse, lookupA_insert]
  by_cases h : x = y
  · subst h; simp
  · simp [h]

theorem usesOf_decUses (x : Name) : ∀ (xs : List (Option Name)) (st : St),
    (st.decUses xs).usesOf x = st.usesOf x - xs.count (some x) := by
  intro xs
  induction xs with
  | nil => intro st; simp [St.decUses]
  | cons y ys ih =>
    intro st
    simp only [St.decUses, List.foldl_cons] at ih ⊢
    cases y with
    | none =>
      rw [ih st]
      simp
    | some z =>
      rw [ih (st.decUse z), usesOf_decUse]
      by_cases h : x = z
      · subst h
        simp only [if_true, List.count_cons_self]
        omega
      · have : (some z == some x) = false := by simpa using fun e => h e.symm
        simp only [h, if_false, List.count_cons, this]
        simp

theorem usesOf_incUses (x : Name) : ∀ (xs : List (Option Name)) (st : St),
    (st.incUses xs).usesOf x = st.usesOf x + xs.count (some x) := by
  intro xs
  induction xs with
  | nil => intro st; simp [St.incUses]
  | cons y ys ih =>
    intro st
    simp only [St.incUses, List.foldl_cons] at ih ⊢
    cases y with
    | none =>
      rw [ih st]
      simp
    | some z =>
      rw [ih (st.incUse z), usesOf_incUse, List.count_cons]
      by_cases h : x = z
      · subst h; simp; omega
      · have : (some z == some x) = false := by simp; exact fun e => h e.symm
        simp [h, this]

theorem usesOf_countNewUses (x : Name) : ∀ (ms : List Node) (st : St),
    (countNewUses st ms).usesOf x = st.usesOf x + cnt x ms := by
  intro ms
  induction ms with
  | nil => intro st; rfl
  | cons m ms ih =>
    intro st
    simp only [countNewUses, List.foldl_cons] at ih ⊢
    rw [ih, usesOf_incUses, cnt_cons]
    omega

theorem usesOf_foldl_incUse (x : Name) : ∀ (l : List Name) (st : St),
    (l.foldl (fun st y => st.incUse y) st).usesOf x = st.usesOf x + l.count x := by
  intro l
  induction l with
  | nil => intro st; simp
  | cons y ys ih =>
    intro st
    simp only [List.foldl_cons]
    rw [ih, usesOf_incUse]
    by_cases h : x = y
    · subst h; simp; omega
    · have : (y == x) = false := by simpa using fun e => h e.symm
      simp [h, List.count_cons, this]

theorem clearUnused_spec (ins : List Name) : ∀ (st : St),
    (clearUnused st ins).uses = st.uses ∧ (clearUnused st ins).gins = st.gins ∧ (clearUnused st ins).gouts = st.gouts ∧
    ∀ x, x ∈ (clearUnused st ins).removed → x ∈ st.removed ∨
      (st.usesOf x = 0 ∧ st.gouts.contains x = false ∧ st.gins.contains x = false) := by
  induction ins with
  | nil => intro st; exact ⟨rfl, rfl, rfl, fun x hx => Or.inl hx⟩
  | cons y ys ih =>
    intro st
    simp only [clearUnused, List.foldl_cons] at ih ⊢
    split
    · rename_i hc
      simp only [Bool.and_eq_true, Bool.not_eq_true', St.isGraphInput, beq_iff_eq] at hc
      obtain ⟨h1, h2, h3, h4⟩ := ih ({ st with removed := y :: st.removed, initDisplay := st.initDisplay.erase (st.display y) }.note "clear:initializer")
      refine ⟨h1, h2, h3, ?_⟩
      intro x hx
      rcases h4 x hx with h | h
      · simp only [St.note, List.mem_cons] at h
        rcases h with rfl | h
        · exact Or.inr ⟨hc.1.1.2, hc.1.2, hc.2⟩
        · exact Or.inl h
      · exact Or.inr h
    · exact ih st

theorem usesOf_inheritInfo (st3 : St) (o fv x : Name) (hx : x ≠ fv) :
    st3.usesOf x ≤ (inheritInfo st3 [(o, fv)]).usesOf x := by
  simp only [inheritInfo, List.foldl_cons, List.foldl_nil, St.usesOf, St.setInfo, St.clearSym, lookupA_insert, lookupA_erase]
  by_cases h : x = o
  · subst h; simp
  · simp [h, hx]

theorem afterRepl_parts (st3 : St) (n : Node) (o fv : Name) (ms : List Node) (l : List Name) :
    (afterRepl st3 n o fv ms l).gins = st3.gins ∧ (afterRepl st3 n o fv ms l).gouts = st3.gouts ∧
    (∀ x, (afterRepl st3 n o fv ms l).usesOf x =
      (inheritInfo st3 [(o, fv)]).usesOf x - n.inputs.count (some x) + cnt x ms) ∧
    (∀ x, x ∈ (afterRepl st3 n o fv ms l).removed → x ∈ st3.removed ∨
      ((afterRepl st3 n o fv ms l).usesOf x = 0 ∧ st3.gouts.contains x = false ∧ st3.gins.contains x = false)) := by
  obtain ⟨u1, e1⟩ := decUses_writes n.inputs (inheritInfo st3 [(o, fv)])
  obtain ⟨u2, e2⟩ := countNewUses_writes ms ((inheritInfo st3 [(o, fv)]).decUses n.inputs)
  unfold afterRepl
  generalize hA : countNewUses ((inheritInfo st3 [(o, fv)]).decUses n.inputs) ms = A
  -- counting does not touch `gins`, `gouts`, `removed`
  have hf : A.gins = st3.gins ∧ A.gouts = st3.gouts ∧ A.removed = st3.removed := by
    rw [← hA, e2, e1]
    exact ⟨rfl, rfl, rfl⟩
  have hu : ∀ x, A.usesOf x = (inheritInfo st3 [(o, fv)]).usesOf x - n.inputs.count (some x) + cnt x ms := by
    intro x
    rw [← hA, usesOf_countNewUses, usesOf_decUses]
  obtain ⟨h1, h2, h3, h4⟩ := clearUnused_spec (n.inputs.filterMap id) { A with initNames := l }
  have huses : ∀ x, ({ (clearUnused { A with initNames := l } (n.inputs.filterMap id)) with modified := true } : St).usesOf x =
      A.usesOf x := by
    intro x
    simp only [St.usesOf, h1]
  refine ⟨h2.trans hf.1, h3.trans hf.2.1, fun x => (huses x).trans (hu x), ?_⟩
  intro x hx
  rcases h4 x hx with h | ⟨hu0, hg, hi⟩
  · exact Or.inl (hf.2.2 ▸ h)
  · exact Or.inr ⟨(huses x).trans hu0, hf.2.1 ▸ hg, hf.1 ▸ hi⟩

def EqOff (R : List Name) (ρ ρ' : Env V) : Prop := ∀ y, R.contains y = false → ρ y = ρ' y

theorem EqOff.set {R : List Name} {ρ ρ' : Env V} (h : EqOff R ρ ρ') (x : Name) (v : V) : EqOff R (ρ.set x v) (ρ'.set x v) := by
  intro y hy
  simp only [Env.set]
  split
  · rfl
  · exact h y hy

/-! Two evaluations from environments equal off `R` fail together or end in environments equal off `R`: `Option.Rel (EqOff R)`. -/

theorem bindOuts_eqOff {R : List Name} : ∀ (xs : List Name) (vs : List V) (ρ ρ' : Env V), EqOff R ρ ρ' →
    Option.Rel (EqOff R) (bindOuts ρ xs vs) (bindOuts ρ' xs vs)
  | [], _, _, _, h => .some h
  | _ :: _, [], _, _, _ => .none
  | x :: xs, v :: vs, _, _, h => bindOuts_eqOff xs vs _ _ (h.set x v)

theorem lookupAll_eqOff {R : List Name} {ρ ρ' : Env V} (h : EqOff R ρ ρ') (xs : List (Option Name))
    (hx : ∀ x, some x ∈ xs → R.contains x = false) : lookupAll ρ xs = lookupAll ρ' xs :=
  lookupAll_congr (fun x hxm => h x (hx x hxm))

theorem evalNode_eqOff (sem : Sem V) {sub} {R : List Name} {ρ ρ' : Env V} (h : EqOff R ρ ρ') (n : Node)
    (hs : n.subs = []) (hx : ∀ x, some x ∈ n.inputs → R.contains x = false) :
    Option.Rel (EqOff R) (evalNode sem sub ρ n) (evalNode sem sub ρ' n) := by
  unfold evalNode
  rw [lookupAll_eqOff h n.inputs hx]
  cases lookupAll ρ' n.inputs with
  | none => exact .none
  | some args =>
    have hno : nodeOutputs sem sub ρ n args = nodeOutputs sem sub ρ' n args := by
      simp only [nodeOutputs, hs, List.isEmpty_nil, if_true]
    simp only [Option.bind, hno]
    cases nodeOutputs sem sub ρ' n args with
    | none => exact .none
    | some vs => exact bindOuts_eqOff n.outputs vs ρ ρ' h

theorem evalNodes_eqOff (sem : Sem V) {sub} {R : List Name} : ∀ (ns : List Node) (ρ ρ' : Env V), EqOff R ρ ρ' →
    (∀ n ∈ ns, n.subs = [] ∧ ∀ x, some x ∈ n.inputs → R.contains x = false) →
    Option.Rel (EqOff R) (evalNodes (evalNode sem sub) ρ ns) (evalNodes (evalNode sem sub) ρ' ns)
  | [], _, _, h, _ => .some h
  | n :: ns, _, _, h, hn =>
    (evalNode_eqOff sem h n (hn n List.mem_cons_self).1 (hn n List.mem_cons_self).2).bind fun a b hab =>
      evalNodes_eqOff sem ns a b hab fun m hm => hn m (List.mem_cons_of_mem _ hm)

theorem lookupOuts_eqOff {R : List Name} {ρ ρ' : Env V} (h : EqOff R ρ ρ') (xs : List Name)
    (hx : ∀ x ∈ xs, R.contains x = false) : lookupOuts ρ xs = lookupOuts ρ' xs :=
  lookupOuts_congr fun x hm => h x (hx x hm)

theorem bindInits_filter_eqOff (sem : Sem V) (R : List Name) : ∀ (inits : List (Name × String)) (ρ ρ' : Env V), EqOff R ρ ρ' →
    EqOff R (bindInits sem ρ (inits.filter fun p => !R.contains p.1)) (bindInits sem ρ' inits)
  | [], _, _, h => h
  | (x, t) :: r, ρ, ρ', h => by
    simp only [List.filter]
    cases hc : R.contains x with
    | true =>
      simp only [Bool.not_true, bindInits]
      apply bindInits_filter_eqOff sem R r
      intro y hy
      have : y ≠ x := by
        intro e; subst e; rw [hc] at hy; exact absurd hy (by decide)
      rw [Env.set_get_ne ρ' _ this]
      exact h y hy
    | false =>
      simp only [Bool.not_false, bindInits]
      exact bindInits_filter_eqOff sem R r _ _ (h.set x _)

theorem bindInputs_eqOff {R : List Name} (hd hd' : Name → Bool) : ∀ (xs : List Name) (as : List (Option V)) (ρ ρ' : Env V),
    EqOff R ρ ρ' → (∀ x ∈ xs, hd x = hd' x) → Option.Rel (EqOff R) (bindInputs hd ρ xs as) (bindInputs hd' ρ' xs as)
  | [], [], _, _, h, _ => .some h
  | [], _ :: _, _, _, _, _ => .none
  | _ :: _, [], _, _, _, _ => .none
  | x :: xs, some w :: as, _, _, h, hh =>
    bindInputs_eqOff hd hd' xs as _ _ (h.set x w) fun y hy => hh y (List.mem_cons_of_mem _ hy)
  | x :: xs, none :: as, ρ, ρ', h, hh => by
    simp only [bindInputs, hh x List.mem_cons_self]
    split
    · exact bindInputs_eqOff hd hd' xs as _ _ h (fun y hy => hh y (List.mem_cons_of_mem _ hy))
    · exact .none

theorem find_filter_notin {R : List Name} {inits : List (Name × String)} {x : Name} (hx : R.contains x = false) :
    ((inits.filter fun p => !R.contains p.1).find? (fun p => p.1 == x)) = (inits.find? (fun p => p.1 == x)) := by
  induction inits with
  | nil => rfl
  | cons p r ih =>
    simp only [List.filter]
    cases hc : R.contains p.1 with
    | true =>
      simp only [Bool.not_true, List.find?]
      have : (p.1 == x) = false := by
        cases hpx : p.1 == x with
        | false => rfl
        | true =>
          have e : p.1 = x := by simpa using hpx
          rw [e, hx] at hc
          exact absurd hc (by decide)
      rw [this]
      exact ih
    | false =>
      simp only [Bool.not_false, List.find?]
      cases p.1 == x
      · exact ih
      · rfl

theorem prune_sound (sem : Sem V) (R : List Name) (ins : List Name) (inits : List (Name × String)) (nodes : List Node)
    (outs : List Name) (d : Nat) (outer : Env V) (args : List (Option V))
    (hplain : ∀ n ∈ nodes, n.subs = [])
    (hin : ∀ x ∈ ins, R.contains x = false) (hout : ∀ x ∈ outs, R.contains x = false)
    (hnodes : ∀ n ∈ nodes, ∀ x, some x ∈ n.inputs → R.contains x = false) :
    evalGraph sem (d + 1) outer (Graph.mk ins (inits.filter fun p => !R.contains p.1) nodes outs) args =
      evalGraph sem (d + 1) outer (Graph.mk ins inits nodes outs) args := by
  simp only [evalGraph, startEnv, Graph.inits, Graph.inputs, Graph.nodes, Graph.outputs, Graph.initTok]
  have h0 : EqOff R (bindInits sem outer (inits.filter fun p => !R.contains p.1)) (bindInits sem outer inits) :=
    bindInits_filter_eqOff sem R inits outer outer (fun _ _ => rfl)
  refine (bindInputs_eqOff _ _ ins args _ _ h0 fun x hx => ?_).bind_eq fun a b hab => ?_
  · simp only [find_filter_notin (hin x hx)]
  · exact (evalNodes_eqOff sem nodes a b hab fun n hn => ⟨hplain n hn, hnodes n hn⟩).bind_eq
      fun _ _ hab' => lookupOuts_eqOff hab' outs hout

theorem pruneInits_plain (R : List Name) (k : Nat) (ins : List Name) (inits : List (Name × String)) (nodes : List Node)
    (outs : List Name) (hp : ∀ n ∈ nodes, n.subs = []) :
    pruneInits R (k + 1) (Graph.mk ins inits nodes outs) =
      Graph.mk ins (inits.filter fun p => !R.contains p.1) nodes outs := by
  simp only [pruneInits, Graph.inputs, Graph.inits, Graph.nodes, Graph.outputs]
  congr 1
  have : ∀ (l : List Node), (∀ n ∈ l, n.subs = []) →
      l.map (fun n => n.setSubs (n.subs.map fun (p : String × Graph) => (p.1, pruneInits R k p.2))) = l := by
    intro l
    induction l with
    | nil => intro _; rfl
    | cons n r ih =>
      intro h
      have hn := h n List.mem_cons_self
      simp only [List.map_cons, hn, List.map_nil, setSubs_nil n hn]
      rw [ih (fun m hm => h m (List.mem_cons_of_mem _ hm))]
  exact this nodes hp

end OV.C03
