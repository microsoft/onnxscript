import OV.Model.C17OpsetGen
/-! Lemmas for C17, the registry and the classes: `get_schema` and attribute resolution as list operations, the alignment
that the table check `classOk` establishes, strictly increasing codes (name set, registry keys), the rule `mirrors`. -/
namespace OV.C17

theorem selectS_eq {β} (d n : Nat) (l acc : List Schema) (k : List Schema → β) :
    selectS d n l acc k = k ((l.filter fun s => s.domain == d && s.name == n).reverse ++ acc) := by
  induction l generalizing acc with
  | nil => rfl
  | cons s ss ih => simp only [selectS, List.filter_cons]; split <;> simp [ih]

def ownDef (d n : Nat) (c : Cls) : Option (Nat × Method) :=
  if c.domain == d then (c.methods.find? fun m => m.name == n).map (c.version, ·) else none

theorem selectM_eq {β} (d n : Nat) (l : List Cls) (acc : List (Nat × Method)) (k : List (Nat × Method) → β) :
    selectM d n l acc k = k ((l.filterMap (ownDef d n)).reverse ++ acc) := by
  induction l generalizing acc with
  | nil => rfl
  | cons c cs ih =>
    simp only [selectM, List.filterMap_cons, ownDef]
    split
    · cases c.methods.find? fun m => m.name == n <;> simp [ih]
    · simp [ih]

theorem lookup_eq (reg : List Schema) (d N n : Nat) :
    lookup reg d N n =
      pick Schema.since N (reg.filter fun s => s.domain == d && s.name == n).reverse none := by
  rw [lookup, selectS_eq, List.append_nil]

theorem resolve_eq (classes : List Cls) (d N n : Nat) :
    resolve classes d N n =
      (pick Prod.fst N (classes.filterMap (ownDef d n)).reverse none).map Prod.snd := by
  rw [resolve, selectM_eq, List.append_nil]

theorem mem_ownDef {d n : Nat} {classes : List Cls} {p : Nat × Method} :
    p ∈ classes.filterMap (ownDef d n) ↔
      ∃ c ∈ classes, c.domain = d ∧ c.version = p.1 ∧ c.methods.find? (fun m => m.name == n) = some p.2 := by
  simp only [List.mem_filterMap, ownDef]
  constructor
  · rintro ⟨c, hc, h⟩
    split at h
    · next hd =>
      obtain ⟨m, hm, rfl⟩ := Option.map_eq_some_iff.mp h
      exact ⟨c, hc, beq_iff_eq.mp hd, rfl, hm⟩
    · cases h
  · rintro ⟨c, hc, rfl, hv, hm⟩
    exact ⟨c, hc, by simp [hm, hv]⟩

theorem pick_spec {α} {ver : α → Nat} {N : Nat} {l : List α} {best : Option α} {x : α}
    (hb : ∀ b, best = some b → ver b ≤ N) (h : pick ver N l best = some x) :
    (x ∈ l ∨ best = some x) ∧ ver x ≤ N ∧ (∀ y ∈ l, ver y ≤ N → ver y ≤ ver x) ∧
      ∀ b, best = some b → ver b ≤ ver x := by
  induction l generalizing best with
  | nil => cases h; exact ⟨.inr rfl, hb x rfl, nofun, fun b hb' => by cases hb'; exact Nat.le_refl _⟩
  | cons z zs ih =>
    -- `pick` goes on either with `z`, in force and no older than `best`, or with `best`, no older than `z` if that is in force
    have next : ∀ best', pick ver N zs best' = some x →
        (best' = some z ∧ ver z ≤ N ∧ (∀ b, best = some b → ver b ≤ ver z)) ∨
          (best' = best ∧ (ver z ≤ N → ∃ b, best = some b ∧ ver z ≤ ver b)) →
        (x ∈ z :: zs ∨ best = some x) ∧ ver x ≤ N ∧ (∀ y ∈ z :: zs, ver y ≤ N → ver y ≤ ver x) ∧
          ∀ b, best = some b → ver b ≤ ver x := by
      rintro best' h' (⟨rfl, hz, hbz⟩ | ⟨rfl, hz⟩)
      · obtain ⟨hm, hN, hmax, hbest⟩ := ih (by rintro b ⟨⟩; exact hz) h'
        refine ⟨.inl (hm.elim (List.mem_cons_of_mem _) (by rintro ⟨⟩; exact List.mem_cons_self)), hN, ?_,
          fun b hb' => Nat.le_trans (hbz b hb') (hbest z rfl)⟩
        rintro y (_ | ⟨_, hy⟩) hyN
        · exact hbest z rfl
        · exact hmax y hy hyN
      · obtain ⟨hm, hN, hmax, hbest⟩ := ih hb h'
        refine ⟨hm.imp_left (List.mem_cons_of_mem _), hN, ?_, hbest⟩
        rintro y (_ | ⟨_, hy⟩) hyN
        · obtain ⟨b, hb', hzb⟩ := hz hyN
          exact Nat.le_trans hzb (hbest b hb')
        · exact hmax y hy hyN
    simp only [pick] at h
    split at h
    · next hz =>
      split at h
      · exact next _ h (.inl ⟨rfl, hz, nofun⟩)
      · next b =>
        split at h
        · next hlt => exact next _ h (.inl ⟨rfl, hz, by rintro _ ⟨⟩; exact Nat.le_of_lt hlt⟩)
        · next hlt => exact next _ h (.inr ⟨rfl, fun _ => ⟨b, rfl, Nat.le_of_not_lt hlt⟩⟩)
    · next hz => exact next _ h (.inr ⟨rfl, fun h => absurd h hz⟩)

theorem pick_none_spec {α} {ver : α → Nat} {N : Nat} {l : List α} {x : α}
    (h : pick ver N l none = some x) : x ∈ l ∧ ver x ≤ N ∧ ∀ y ∈ l, ver y ≤ N → ver y ≤ ver x := by
  simpa using pick_spec (by simp) h

theorem pick_isSome {α} {ver : α → Nat} {N : Nat} {l : List α} {best : Option α}
    (h : (∃ x ∈ l, ver x ≤ N) ∨ best.isSome = true) : (pick ver N l best).isSome = true := by
  induction l generalizing best with
  | nil => simpa [pick] using h
  | cons z zs ih =>
    simp only [pick]
    split
    · split
      · exact ih (.inr rfl)
      · split <;> exact ih (.inr rfl)
    · exact ih (by grind)

theorem pick_congr {α} {ver : α → Nat} {N K : Nat} {l : List α} (best : Option α)
    (h : ∀ x ∈ l, ver x ≤ N ↔ ver x ≤ K) : pick ver N l best = pick ver K l best := by
  induction l generalizing best with
  | nil => rfl
  | cons z zs ih =>
    have hz := h z List.mem_cons_self
    have ih' := fun b => ih b fun x hx => h x (List.mem_cons_of_mem _ hx)
    simp only [pick, hz, ih']

theorem lookup_some {schemas : List Schema} {d N n : Nat} {s : Schema}
    (h : lookup schemas d N n = some s) : s ∈ schemas ∧ s.domain = d ∧ s.name = n ∧ s.since ≤ N := by
  rw [lookup_eq] at h
  obtain ⟨hs, hN, -⟩ := pick_none_spec h
  simp only [List.mem_reverse, List.mem_filter, Bool.and_eq_true, beq_iff_eq] at hs
  exact ⟨hs.1, hs.2.1, hs.2.2, hN⟩

theorem resolve_some {classes : List Cls} {d N n : Nat} {m : Method}
    (h : resolve classes d N n = some m) :
    ∃ c ∈ classes, c.domain = d ∧ c.version ≤ N ∧ m ∈ c.methods ∧ m.name = n := by
  rw [resolve_eq] at h
  obtain ⟨p, hp, rfl⟩ := Option.map_eq_some_iff.mp h
  obtain ⟨hpM, hN, -⟩ := pick_none_spec hp
  obtain ⟨c, hc, hd, hv, hf⟩ := mem_ownDef.mp (List.mem_reverse.mp hpM)
  exact ⟨c, hc, hd, hv ▸ hN, List.mem_of_find?_eq_some hf, by simpa using List.find?_some hf⟩

/-- A model that imports the domain at a schema's own since_version (as the one-node model of an eager call does,
`modelOf`) denotes exactly that schema. -/
theorem lookup_at_since {reg : List Schema} (hkeys : ∀ s ∈ reg, ∀ s' ∈ reg, s.key = s'.key → s = s')
    {d N n : Nat} {s : Schema} (h : lookup reg d N n = some s) : lookup reg d s.since n = some s := by
  have hs := lookup_some h
  rw [lookup_eq] at h ⊢
  obtain ⟨hmem, -, -⟩ := pick_none_spec h
  obtain ⟨s', hs'⟩ := Option.isSome_iff_exists.mp
    (pick_isSome (best := none) (.inl ⟨s, hmem, Nat.le_refl _⟩))
  obtain ⟨hmem', hle, hmax⟩ := pick_none_spec hs'
  have h' := lookup_some ((lookup_eq ..).trans hs')
  -- `s'`, the newest schema in force at `s.since`, is no older than `s`: it has the key of `s`
  have hk : s'.key = s.key := by
    simp [Schema.key, h'.2.1, h'.2.2.1, hs.2.1, hs.2.2.1, Nat.le_antisymm hle (hmax s hmem (Nat.le_refl _))]
  rw [hs', hkeys s' h'.1 s hs.1 hk]

/-- `ss`: the schemas registered at one class's (domain, version), `ms`: the class's own methods.  In order, each
schema is the one of the next method (same name, and the two pair), or is skipped — then `skipped` has to accept
it.  Every method has to be used up.  (Both lists are sorted by name in the tables; soundness does not need it.) -/
def aligned (skipped : Schema → Bool) : List Schema → List Method → Bool
  | [], ms => ms.isEmpty
  | s :: ss, [] => skipped s && aligned skipped ss []
  | s :: ss, m :: ms =>
    if s.name == m.name then cellOk false (some s) (some m) && aligned skipped ss ms
    else skipped s && aligned skipped ss (m :: ms)

theorem aligned_sound {skipped : Schema → Bool} {ss : List Schema} {ms : List Method}
    (h : aligned skipped ss ms = true) :
    (∀ m ∈ ms, ∃ s ∈ ss, s.name = m.name ∧ cellOk false (some s) (some m) = true) ∧
      ∀ s ∈ ss, (∃ m ∈ ms, m.name = s.name) ∨ skipped s = true := by
  induction ss generalizing ms with
  | nil => cases ms <;> simp_all [aligned]
  | cons s ss ih =>
    have skip : ∀ {ms}, skipped s = true → aligned skipped ss ms = true →
        (∀ m ∈ ms, ∃ t ∈ s :: ss, t.name = m.name ∧ cellOk false (some t) (some m) = true) ∧
          ∀ t ∈ s :: ss, (∃ m ∈ ms, m.name = t.name) ∨ skipped t = true := by
      intro ms hs h
      refine ⟨fun m hm => ?_, ?_⟩
      · obtain ⟨t, ht, h'⟩ := (ih h).1 m hm
        exact ⟨t, List.mem_cons_of_mem _ ht, h'⟩
      · rintro t (_ | ⟨_, ht⟩)
        · exact .inr hs
        · exact (ih h).2 t ht
    cases ms with
    | nil =>
      simp only [aligned, Bool.and_eq_true] at h
      exact skip h.1 h.2
    | cons m ms =>
      simp only [aligned] at h
      split at h <;> simp only [Bool.and_eq_true] at h
      · next hn =>
        have hn := beq_iff_eq.mp hn
        refine ⟨?_, ?_⟩
        · rintro m' (_ | ⟨_, hm'⟩)
          · exact ⟨s, List.mem_cons_self, hn, h.1⟩
          · obtain ⟨t, ht, h'⟩ := (ih h.2).1 m' hm'
            exact ⟨t, List.mem_cons_of_mem _ ht, h'⟩
        · rintro t (_ | ⟨_, ht⟩)
          · exact .inl ⟨m, List.mem_cons_self, hn.symm⟩
          · exact ((ih h.2).2 t ht).imp_left fun ⟨m', hm', h'⟩ => ⟨m', List.mem_cons_of_mem _ hm', h'⟩
      · exact skip h.1 h.2

/-- Class `c` defines exactly what the registry introduces at `c`'s (domain, version): this is what `opgen` does,
one method per schema whose since_version is the class version.  For a schema there that `c` does not define
(`GroupNormalization(18)`: deprecated, nothing older to shadow) the cell of `c` itself is evaluated as it stands.
The kernel evaluates this once per class: one scan of the registry (with `Nat.beq`, which it computes directly, where
`==` would first be unfolded to it at every step) and one `mirrors` per method. -/
def classOk (reg : List Schema) (classes : List Cls) (c : Cls) : Bool :=
  aligned (fun s => cellOk false (some s) (resolve classes c.domain c.version s.name))
    (reg.filter fun s => Nat.beq s.since c.version && Nat.beq s.domain c.domain) c.methods

theorem classOk_spec {reg : List Schema} {classes : List Cls} {c : Cls} (h : classOk reg classes c = true) :
    (∀ m ∈ c.methods, ∃ s ∈ reg, s.domain = c.domain ∧ s.since = c.version ∧ s.name = m.name ∧
      cellOk false (some s) (some m) = true) ∧
    ∀ s ∈ reg, s.domain = c.domain → s.since = c.version → (∃ m ∈ c.methods, m.name = s.name) ∨
      cellOk false (some s) (resolve classes c.domain c.version s.name) = true := by
  obtain ⟨hm, hs⟩ := aligned_sound h
  simp only [List.mem_filter, Bool.and_eq_true, Nat.beq_eq] at hm hs
  exact ⟨fun m hmem => let ⟨s, ⟨hr, hv, hd⟩, hn, hc⟩ := hm m hmem; ⟨s, hr, hd, hv, hn, hc⟩,
    fun s hr hd hv => hs s ⟨hr, hv, hd⟩⟩

/-- `S`: the schemas of one (domain, name); `M`: the own definitions of that name in the classes of the domain, by
class version.  With a definition at every schema's since_version (first disjunct of `hS`) and none elsewhere (`hM`), the
newest schema `≤ N` and the newest definition `≤ N` sit at the same version, at every `N`.  The second disjunct of `hS`
(no definition at the schema's since_version, the cell there is fine as it stands) is the rare case: on the tables it
serves one schema of 639, `GroupNormalization(18)`, see `classOk`. -/
theorem cell_of_column {S : List Schema} {M : List (Nat × Method)}
    (huniq : ∀ s ∈ S, ∀ s' ∈ S, s.since = s'.since → s = s')
    (hM : ∀ p ∈ M, ∃ s ∈ S, s.since = p.1 ∧ cellOk false (some s) (some p.2) = true)
    (hS : ∀ s ∈ S, (∃ p ∈ M, p.1 = s.since) ∨
      cellOk false (some s) ((pick Prod.fst s.since M none).map Prod.snd) = true) (N : Nat) :
    cellOk false (pick Schema.since N S none) ((pick Prod.fst N M none).map Prod.snd) = true := by
  cases hs : pick Schema.since N S none with
  | none =>
    -- no schema in force, so no definition either
    cases hp : pick Prod.fst N M none with
    | none => rfl
    | some p =>
      obtain ⟨hpM, hpN, -⟩ := pick_none_spec hp
      obtain ⟨s, hsS, hsp, -⟩ := hM p hpM
      have := pick_isSome (best := none) (.inl ⟨s, hsS, hsp ▸ hpN⟩)
      simp [hs] at this
  | some s =>
    obtain ⟨hsS, hsN, hmax⟩ := pick_none_spec hs
    have hle : ∀ q ∈ M, q.1 ≤ N → q.1 ≤ s.since := fun q hq hqN => by
      obtain ⟨t, htS, htq, -⟩ := hM q hq
      exact htq ▸ hmax t htS (htq ▸ hqN)
    rcases hS s hsS with ⟨q, hqM, hq⟩ | h
    · have := pick_isSome (best := none) (.inl ⟨q, hqM, hq ▸ hsN⟩)
      obtain ⟨p, hp⟩ := Option.isSome_iff_exists.mp this
      obtain ⟨hpM, hpN, hpmax⟩ := pick_none_spec hp
      obtain ⟨t, htS, htp, hcell⟩ := hM p hpM
      -- the newest definition in force sits at `s.since`: no older than `q`, and by `hle` no newer
      have : t = s := huniq t htS s hsS (by have := hpmax q hqM (hq ▸ hsN); have := hle p hpM hpN; omega)
      rw [hp, ← this]; exact hcell
    · rw [pick_congr none fun q hq => ⟨hle q hq, fun h => Nat.le_trans h hsN⟩]; exact h

theorem cell_of_classOk {reg : List Schema} {classes : List Cls} {d : Nat}
    (hkeys : ∀ s ∈ reg, ∀ s' ∈ reg, s.key = s'.key → s = s')
    (hok : ∀ c ∈ classes, classOk reg classes c = true)
    (hcls : ∀ s ∈ reg, s.domain = d → ∃ c ∈ classes, c.domain = d ∧ c.version = s.since) (N n : Nat) :
    cellOk false (lookup reg d N n) (resolve classes d N n) = true := by
  rw [lookup_eq, resolve_eq]
  refine cell_of_column ?_ ?_ ?_ N
  · intro s hs s' hs' he
    simp only [List.mem_reverse, List.mem_filter, Bool.and_eq_true, beq_iff_eq] at hs hs'
    exact hkeys s hs.1 s' hs'.1 (by simp [Schema.key, hs.2, hs'.2, he])
  · intro p hp
    obtain ⟨c, hc, hd, hv, hf⟩ := mem_ownDef.mp (List.mem_reverse.mp hp)
    obtain ⟨s, hs, hsd, hsv, hsn, hcell⟩ := (classOk_spec (hok c hc)).1 p.2 (List.mem_of_find?_eq_some hf)
    have hpn : p.2.name = n := by simpa using List.find?_some hf
    exact ⟨s, by simp [hs, hsd, hd, hsn, hpn], hsv.trans hv, hcell⟩
  · intro s hs
    simp only [List.mem_reverse, List.mem_filter, Bool.and_eq_true, beq_iff_eq] at hs
    obtain ⟨c, hc, hd, hv⟩ := hcls s hs.1 hs.2.1
    rcases (classOk_spec (hok c hc)).2 s hs.1 (hs.2.1.trans hd.symm) hv.symm with ⟨m, hm, hmn⟩ | h
    · left
      have : (c.methods.find? fun m => m.name == n).isSome = true :=
        List.find?_isSome.mpr ⟨m, hm, by simp [hmn, hs.2.2]⟩
      obtain ⟨m', hm'⟩ := Option.isSome_iff_exists.mp this
      exact ⟨(c.version, m'), List.mem_reverse.mpr (mem_ownDef.mpr ⟨c, hc, hd, rfl, hm'⟩), hv⟩
    · right
      rw [hd, hv, hs.2.2, resolve_eq] at h; exact h

/-- "class `c` stands at the (domain, since_version) of schema `s`", in the form the kernel evaluates directly -/
theorem classAt_beq (c : Cls) (s : Schema) :
    (c.domain == s.domain && c.version == s.since) = (Nat.beq c.version s.since && Nat.beq c.domain s.domain) := by
  have e (a b : Nat) : (a == b) = Nat.beq a b := by rw [Bool.eq_iff_iff, beq_iff_eq, Nat.beq_eq]
  rw [Bool.and_comm, e, e]

theorem increasing_head_lt {a : Nat} {r : List Nat} (h : increasing (a :: r) = true) : ∀ x ∈ r, a < x := by
  induction r generalizing a with
  | nil => nofun
  | cons b r ih =>
    simp only [increasing, Bool.and_eq_true, decide_eq_true_eq] at h
    intro x hx
    rcases List.mem_cons.mp hx with rfl | hx
    · exact h.1
    · exact Nat.lt_trans h.1 (ih h.2 x hx)

theorem increasing_tail {a : Nat} {r : List Nat} (h : increasing (a :: r) = true) : increasing r = true := by
  cases r with
  | nil => rfl
  | cons b r => simp only [increasing, Bool.and_eq_true] at h; exact h.2

theorem increasing_inj {α} {f : α → Nat} {l : List α} (h : increasing (l.map f) = true) {p q : α}
    (hp : p ∈ l) (hq : q ∈ l) (he : f p = f q) : p = q := by
  induction l with
  | nil => cases hp
  | cons z zs ih =>
    simp only [List.map_cons] at h
    have hlt := increasing_head_lt h
    rcases List.mem_cons.mp hp with rfl | hp' <;> rcases List.mem_cons.mp hq with rfl | hq'
    · rfl
    · have := hlt (f q) (List.mem_map_of_mem hq'); omega
    · have := hlt (f p) (List.mem_map_of_mem hp'); omega
    · exact ih (increasing_tail h) hp' hq'

/-- the index loop behind `ByteArray.foldl`, from position `j` with enough fuel, is a fold over the remaining bytes -/
theorem foldlM_loop_eq {β} (f : β → UInt8 → β) (as : ByteArray) (i j : Nat) (b : β) (hij : as.size ≤ i + j) :
    ByteArray.foldlM.loop (m := Id) (pure <| f · ·) as as.size (Nat.le_refl _) i j b =
      (as.data.toList.drop j).foldl f b := by
  have hlen : as.data.toList.length = as.size := by rw [Array.length_toList, ByteArray.size_data]
  induction i generalizing j b with
  | zero =>
    unfold ByteArray.foldlM.loop
    rw [List.drop_of_length_le (by omega)]
    split <;> rfl
  | succ i ih =>
    unfold ByteArray.foldlM.loop
    split
    · rw [List.drop_eq_getElem_cons (by omega), List.foldl_cons]
      exact ih (j + 1) _ (by omega)
    · rw [List.drop_of_length_le (by omega)]; rfl

/-- `enc` as a fold over the list of bytes.  The kernel evaluates this form on the name set: `ByteArray.foldl`
reads byte `j` by walking to it, which is quadratic in the length of the text. -/
theorem enc_eq (s : String) : enc s = s.toByteArray.data.toList.foldl (fun a b => a * 256 + b.toNat) 1 := by
  unfold enc ByteArray.foldl ByteArray.foldlM
  simp only [String.toUTF8_eq_toByteArray, Nat.le_refl, dite_true, Nat.sub_zero]
  exact foldlM_loop_eq _ _ _ 0 1 (Nat.le_refl _)

/-- The bytes of a code moved to the front of a 64-byte word.  As numbers the codes of `enc` compare by length first (a
longer text has the larger code); left-aligned, they compare like the texts in a dictionary. -/
def leftAligned (a : Nat) : Nat := a <<< (8 * (63 - a.log2 / 8))

/-- A number for the key (domain, name, since_version) that grows along the registry table, which
`extract_schemas` sorts by domain and name as texts, then by since_version.  What follows uses only that it is
a function of the key. -/
def Schema.rank (s : Schema) : Nat :=
  (((leftAligned s.domain <<< 512) + leftAligned s.name) <<< 16) + s.since

theorem keys_unique_of_ranks {reg : List Schema} (h : increasing (reg.map Schema.rank) = true)
    (s : Schema) (hs : s ∈ reg) (s' : Schema) (hs' : s' ∈ reg) (hk : s.key = s'.key) : s = s' := by
  simp only [Schema.key, Prod.mk.injEq] at hk
  exact increasing_inj h hs hs' (by simp [Schema.rank, hk])

theorem sc_beq_eq {a b : Sc} (h : a.beq b = true) : a = b := by
  cases a <;> cases b <;> simp [Sc.beq] at h <;> simp [h]

theorem scList_beq_eq {a b : List Sc} (h : scListBeq a b = true) : a = b := by
  induction a generalizing b with
  | nil => cases b <;> simp [scListBeq] at h ⊢
  | cons x xs ih =>
    cases b with
    | nil => simp [scListBeq] at h
    | cons y ys =>
      simp only [scListBeq, Bool.and_eq_true] at h
      rw [sc_beq_eq h.1, ih h.2]

theorem dflt_beq_eq {a b : Dflt} (h : a.beq b = true) : a = b := by
  cases a <;> cases b <;> simp [Dflt.beq] at h
  · rfl
  · rfl
  · rw [sc_beq_eq h]
  · rw [scList_beq_eq h]
  · rw [h]

theorem natPairList_beq_eq {a b : List (Nat × Nat)} (h : natPairListBeq a b = true) : a = b := by
  induction a generalizing b with
  | nil => cases b <;> simp [natPairListBeq] at h ⊢
  | cons x xs ih =>
    cases b with
    | nil => simp [natPairListBeq] at h
    | cons y ys =>
      simp only [natPairListBeq, Bool.and_eq_true, beq_iff_eq] at h
      rw [ih h.2, Prod.ext h.1.1 h.1.2]

theorem natBoolList_beq_eq {a b : List (Nat × Bool)} (h : natBoolListBeq a b = true) : a = b := by
  induction a generalizing b with
  | nil => cases b <;> simp [natBoolListBeq] at h ⊢
  | cons x xs ih =>
    cases b with
    | nil => simp [natBoolListBeq] at h
    | cons y ys =>
      simp only [natBoolListBeq, Bool.and_eq_true, beq_iff_eq] at h
      rw [ih h.2, Prod.ext h.1.1 h.1.2]

/-- what the proofs use of the rule -/
theorem mirrors_spec {m : Method} {s : Schema} (h : mirrors m s = true) :
    m.call = s.key ∧ attrsOk s m.kwonly = true ∧ m.fwdInputs = expectedFwdInputs m ∧
      (m.usesPrepare = true ∨ m.fwdInputs = []) ∧ m.fwdAttrs = m.kwonly.map (fun p => (p.1, p.1)) := by
  simp only [mirrors, Bool.and_eq_true, beq_iff_eq, Bool.or_eq_true, List.isEmpty_iff] at h
  obtain ⟨⟨⟨⟨⟨⟨⟨⟨⟨⟨⟨⟨-, -⟩, -⟩, h1⟩, h2⟩, h3⟩, -⟩, -⟩, -⟩, hattrs⟩, hfi⟩, hup⟩, hfa⟩ := h
  exact ⟨Prod.ext h1 (Prod.ext h2 h3), hattrs, natBoolList_beq_eq hfi, hup, natPairList_beq_eq hfa⟩

theorem cellOk_live {u : Bool} {s : Schema} {m : Method} (h : cellOk u (some s) (some m) = true)
    (hd : s.deprecated = false) : m.stub = false ∧ mirrors m s = true := by
  simpa [cellOk, hd] using h

theorem cellOk_deprecated {u : Bool} {s : Schema} {m : Method} (h : cellOk u (some s) (some m) = true)
    (hd : s.deprecated = true) : m.stub = true := by
  simpa [cellOk, hd] using h

theorem forwards_of_classOk {reg : List Schema} {classes : List Cls} (hok : classes.all (classOk reg classes) = true) :
    classes.all (fun c => c.methods.all forwardsOwnParams) = true := by
  simp only [List.all_eq_true] at hok ⊢
  intro c hc m hm
  obtain ⟨s, -, -, -, -, hcell⟩ := (classOk_spec (hok c hc)).1 m hm
  cases hd : s.deprecated with
  | true => simp [forwardsOwnParams, cellOk_deprecated hcell hd]
  | false =>
    have hmir := (cellOk_live hcell hd).2
    simp only [mirrors, Bool.and_eq_true] at hmir
    simp [forwardsOwnParams, hmir]

theorem agrees_of_cellOk {a : Option Schema} {b : Option Method} (h : cellOk false a b = true) :
    agrees a b = true := by
  match a, b with
  | none, none => rfl
  | none, some _ => cases h
  | some s, none => simpa [cellOk, agrees] using h
  | some s, some m =>
    cases hd : s.deprecated with
    | true => simpa [agrees, hd] using cellOk_deprecated h hd
    | false =>
      obtain ⟨hstub, hmir⟩ := cellOk_live h hd
      have hcall := (mirrors_spec hmir).1
      simp [agrees, hd, hstub, hcall, Schema.key]

end OV.C17
