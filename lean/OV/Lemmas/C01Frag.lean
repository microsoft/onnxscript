import OV.Lemmas.C01Sim
import OV.Lemmas.C01Induct
/-!
The fragments of the refinement theorems, on the source side.  The `if` fragment (`ifStmt`) is part of the
nested-loop fragment (`nestStmt`, at any live-out set), so what is needed of the source is proved for the latter and
specialised.  The nested fragment is a rule system (`NestRules`: a fact holds of every statement and block of it if
each of its nine rules preserves it); each fact below is an instance:

* how a statement of the fragment runs (`nestRules_run`): it ends normally, keeps every variable a tensor, keeps
  defined variables defined, and changes only what the analyser reports as assigned (`RunOK`);
* liveness below the live-out sets at which the analysis' fixpoints were reached: tied to the exposed uses from
  which `loop_state_vars` is computed (`nestStmt_toExp`, `nestStmt_ofExp`; by induction on the analysis' own
  fixpoint iterations, `fixIter_inv`), hence monotone (`nestBlock_mono`), and passing over statements that do not
  assign (`nestStmt_pass`);
* what a loop simulation needs of the live-out set its body is translated with (`ForLiveE`, `WhileLiveE`), from
  `stableStmt` and the liveness facts of the body (`LiveFacts`), also for a body that ends in `if t: break`.
-/
namespace OV.C01

variable {V : Type}

theorem tensorRhs_result {S : Sem V} {ρ : Store V} (hρ : AllT S ρ) {e : Expr} (hb : TFree S (bareVar e))
    (ht : tensorRhs e = true)
    {pv : PV V} (he : evalExpr S ρ e = some pv) : ∃ v, pv = PV.t v := by
  have of_single : ∀ {r : Option (List V)}, single r = some pv → ∃ v, pv = PV.t v :=
    fun h => (single_some h).imp fun _ h => h.2
  cases e with
  | var x =>
    unfold evalExpr at he
    cases hρx : ρ x with
    | some pv0 => simp only [hρx] at he; cases he; exact hρ x pv hρx (hb x (by simp [bareVar])).2
    | none =>
      simp only [hρx, (hb x (by simp [bareVar])).1] at he
      cases he
  | lit l => simp [tensorRhs] at ht
  | call dom op sig args attrs => obtain ⟨_, _, h⟩ := evalExpr_call_some he; exact of_single h
  | binop o a b => obtain ⟨_, _, _, _, _, _, h⟩ := evalExpr_binop_some he; exact of_single h
  | unop o a =>
    simp only [tensorRhs, Option.isNone_iff_eq_none] at ht
    obtain ⟨_, _, _, _, h⟩ := evalExpr_unop_some ht he
    exact of_single h
  | cmp o a b =>
    obtain ⟨_, _, _, _, _, _, h⟩ := evalExpr_cmp_some he
    split at h
    · obtain ⟨_, _, h⟩ := h; exact of_single h
    · exact of_single h
  | subscript base idx => unfold evalExpr at he; cases he
  | other us => unfold evalExpr at he; cases he

theorem tensorRhs_results {S : Sem V} {ρ : Store V} (hρ : AllT S ρ) : ∀ {es : List Expr} {pvs : List (PV V)},
    TFree S (bareVarL es) →
    es.all tensorRhs = true → evalExprs S ρ es = some pvs → ∀ pv, pv ∈ pvs → ∃ v, pv = PV.t v
  | [], pvs, _, _, he, pv, hp => by unfold evalExprs at he; cases he; cases hp
  | e :: es, pvs, hb, ht, he, pv, hp => by
    simp only [List.all_cons, Bool.and_eq_true] at ht
    obtain ⟨pa, prest, hea, hes, rfl⟩ := evalExprs_cons_some he
    rcases List.mem_cons.mp hp with rfl | hp
    · exact tensorRhs_result hρ (hb.sub (fun x hx => by simp [bareVarL, hx])) ht.1 hea
    · exact tensorRhs_results hρ (hb.sub (fun x hx => by simp [bareVarL, hx])) ht.2 hes pv hp

theorem AllT.set {S : Sem V} {ρ : Store V} (h : AllT S ρ) (x : Name) (v : V) : AllT S (ρ.set x (.t v)) := by
  intro y pv hy
  unfold Store.set at hy
  by_cases hyx : y = x
  · simp only [hyx, if_true] at hy; cases hy; exact fun _ => ⟨v, rfl⟩
  · simp only [hyx, if_false] at hy; exact h y pv hy

theorem AllT.setMany {S : Sem V} : ∀ (xs : List Name) (pvs : List (PV V)) {ρ : Store V}, AllT S ρ →
    (∀ pv, pv ∈ pvs → ∃ v, pv = PV.t v) → AllT S (ρ.setMany xs pvs)
  | [], pvs, ρ, h, _ => by cases pvs <;> exact h
  | _ :: _, [], ρ, h, _ => h
  | x :: xs, pv :: pvs, ρ, h, hp => by
    obtain ⟨v, rfl⟩ := hp pv List.mem_cons_self
    exact AllT.setMany xs pvs (h.set x v) (fun q hq => hp q (List.mem_cons_of_mem _ hq))

theorem set_dom_mono (ρ : Store V) (x : Name) (pv : PV V) (y : Name) (h : ρ y ≠ none) : (ρ.set x pv) y ≠ none := by
  unfold Store.set
  by_cases hyx : y = x
  · simp [hyx]
  · simp only [hyx, if_false]; exact h

theorem setMany_dom_mono : ∀ (xs : List Name) (pvs : List (PV V)) (ρ : Store V) (y : Name),
    ρ y ≠ none → (ρ.setMany xs pvs) y ≠ none
  | [], pvs, ρ, y, h => by cases pvs <;> exact h
  | _ :: _, [], ρ, y, h => h
  | x :: xs, pv :: pvs, ρ, y, h => setMany_dom_mono xs pvs _ y (set_dom_mono ρ x pv y h)

theorem setMany_frame : ∀ (xs : List Name) (pvs : List (PV V)) (ρ : Store V) (y : Name),
    y ∉ xs → (ρ.setMany xs pvs) y = ρ y
  | [], pvs, ρ, y, _ => by cases pvs <;> rfl
  | _ :: _, [], ρ, y, _ => rfl
  | x :: xs, pv :: pvs, ρ, y, hy => by
    simp only [Store.setMany]
    rw [setMany_frame xs pvs _ y (fun hm => hy (List.mem_cons_of_mem _ hm))]
    unfold Store.set
    simp [show y ≠ x from fun he => hy (he ▸ List.mem_cons_self)]

theorem setMany_same : ∀ (xs : List Name) (pvs : List (PV V)) (ρa ρb : Store V) (y : Name),
    xs.length = pvs.length → y ∈ xs → (ρa.setMany xs pvs) y = (ρb.setMany xs pvs) y ∧ (ρa.setMany xs pvs) y ≠ none
  | [], _, _, _, y, _, hy => by cases hy
  | _ :: _, [], _, _, _, hl, _ => by simp at hl
  | x :: xs, pv :: pvs, ρa, ρb, y, hl, hy => by
    simp only [Store.setMany]
    by_cases hm : y ∈ xs
    · exact setMany_same xs pvs _ _ y (by simpa using hl) hm
    · rcases List.mem_cons.mp hy with rfl | hy'
      · rw [setMany_frame xs pvs _ y hm, setMany_frame xs pvs _ y hm]
        simp [Store.set]
      · exact absurd hy' hm

/-- What running statements of the fragment does to the store: every variable stays a tensor, defined variables
stay defined, and only the names `d` change. -/
structure RunOK (S : Sem V) (ρ ρ' : Store V) (d : Option VSet) : Prop where
  allT : AllT S ρ'
  dom : ∀ x, ρ x ≠ none → ρ' x ≠ none
  frame : ∀ dd, d = some dd → ∀ x, x ∉ dd → ρ' x = ρ x

theorem RunOK.refl {S : Sem V} {ρ : Store V} (h : AllT S ρ) (d : Option VSet) : RunOK S ρ ρ d :=
  ⟨h, fun _ hx => hx, fun _ _ _ _ => rfl⟩

theorem RunOK.trans {S : Sem V} {ρ ρ1 ρ2 : Store V} {a b c : VSet} (h1 : RunOK S ρ ρ1 (some a))
    (h2 : RunOK S ρ1 ρ2 (some b)) (ha : ∀ x, x ∈ a → x ∈ c) (hb : ∀ x, x ∈ b → x ∈ c) : RunOK S ρ ρ2 (some c) :=
  ⟨h2.allT, fun x hx => h2.dom x (h1.dom x hx), fun dd hd x hx => by
    cases hd
    rw [h2.frame b rfl x (fun hm => hx (hb x hm)), h1.frame a rfl x (fun hm => hx (ha x hm))]⟩

theorem RunOK.set {S : Sem V} {ρ : Store V} (h : AllT S ρ) (i : Name) (v : V) :
    RunOK S ρ (ρ.set i (.t v)) (some [i]) :=
  ⟨h.set i v, set_dom_mono ρ i _, fun dd hd x hx => by
    cases hd
    unfold Store.set
    simp [show x ≠ i from by simpa using hx]⟩

theorem not_mem_of_contains {l : List Name} {x : Name} (h : (!l.contains x) = true) : x ∉ l := fun hm => by
  rw [List.contains_iff_mem.mpr hm] at h
  cases h

theorem nestStmt_tuple {xs : List Name} {e : Expr} {lo : VSet} (h : nestStmt (.tuple xs e) lo = true) :
    (∃ dom op sig args attrs, e = .call dom op sig args attrs) ∧ xs.Nodup := by
  cases e with
  | call dom op sig args attrs =>
    simp only [nestStmt] at h
    exact ⟨⟨dom, op, sig, args, attrs, rfl⟩, nodup_of_nodupB xs h⟩
  | _ => simp [nestStmt] at h

/-- What `nestStmt` says of a `for` loop over `range(b)` (`nestStmt_for`). -/
structure NestFor (i : Name) (b : Expr) (body : List Stmt) (lo d : VSet) : Prop where
  nest : nestStmt (.for_ i true b body) lo = true
  dead : i ∉ lo
  assigned : assignedBlock body = some d
  fresh : i ∉ d
  stable : stableStmt (.for_ i true b body) lo = true
  body : nestBlock body (loopBodyLo (.for_ i true b body) lo) = true

theorem nestStmt_for {i : Name} {ok : Bool} {b : Expr} {body : List Stmt} {lo : VSet}
    (h : nestStmt (.for_ i ok b body) lo = true) : ok = true ∧ ∃ d, NestFor i b body lo d := by
  have h' := h
  simp only [nestStmt, Bool.and_eq_true] at h'
  obtain ⟨⟨⟨⟨rfl, h3⟩, h4⟩, h5⟩, h6⟩ := h'
  cases hd : assignedBlock body with
  | none => simp [hd] at h4
  | some d =>
    simp only [hd] at h4
    exact ⟨rfl, d, h, not_mem_of_contains h3, hd, not_mem_of_contains h4, h5, h6⟩

/-- What `nestStmt` says of a `while t` loop (`nestStmt_while`); `cond`: the condition variable is loop-carried or
recomputed in the body before anything reads it. -/
structure NestWhile (t : Name) (body : List Stmt) (lo d state : VSet) : Prop where
  nest : nestStmt (.while_ (.var t) body) lo = true
  assigned : assignedBlock body = some d
  carried : loopState body lo = some state
  cond : t ∈ state ∨ t ∉ liveInBlock body (loopBodyLo (.while_ (.var t) body) lo)
  stable : stableStmt (.while_ (.var t) body) lo = true
  body : nestBlock body (loopBodyLo (.while_ (.var t) body) lo) = true

theorem nestStmt_while {c : Expr} {body : List Stmt} {lo : VSet} (h : nestStmt (.while_ c body) lo = true) :
    ∃ t d state, c = .var t ∧ NestWhile t body lo d state := by
  cases c with
  | var t =>
    have h' := h
    simp only [nestStmt, Bool.and_eq_true] at h'
    obtain ⟨⟨h1, h2⟩, h3⟩ := h'
    cases hd : assignedBlock body with
    | none => simp [hd] at h1
    | some d =>
      cases hs : loopState body lo with
      | none => simp [hd, hs] at h1
      | some state =>
        simp only [hd, hs, Bool.or_eq_true, List.contains_iff_mem] at h1
        exact ⟨t, d, state, rfl, h, hd, hs, h1.imp_right not_mem_of_contains, h2, h3⟩
  | _ => simp [nestStmt] at h

/-- The rules by which `nestStmt` / `nestBlock` accept a statement / a block at a live-out set, as premises of an
induction: `PS`, `PB` hold of the whole fragment if they are preserved by each rule (`NestRules.stmt`,
`NestRules.block`). -/
structure NestRules (PS : Stmt → VSet → Prop) (PB : List Stmt → VSet → Prop) : Prop where
  assign : ∀ {x e lo}, tensorRhs e = true → PS (Stmt.assign x e) lo
  par : ∀ {xs es lo}, es.all tensorRhs = true → PS (Stmt.par xs es) lo
  tuple : ∀ {xs dom op sig args attrs lo}, xs.Nodup → PS (Stmt.tuple xs (Expr.call dom op sig args attrs)) lo
  skip : ∀ {lo}, PS Stmt.skip lo
  ite : ∀ {c t e lo}, nestStmt (Stmt.ite c t e) lo = true → PB t lo → PB e lo → PS (Stmt.ite c t e) lo
  for_ : ∀ {i b body lo d}, NestFor i b body lo d → PB body (loopBodyLo (Stmt.for_ i true b body) lo) →
    PS (Stmt.for_ i true b body) lo
  while_ : ∀ {t body lo d state}, NestWhile t body lo d state →
    PB body (loopBodyLo (Stmt.while_ (Expr.var t) body) lo) → PS (Stmt.while_ (Expr.var t) body) lo
  nil : ∀ {lo}, PB [] lo
  cons : ∀ {st ss lo}, nestStmt st (liveInBlock ss lo) = true → PS st (liveInBlock ss lo) →
    nestBlock ss lo = true → PB ss lo → PB (st :: ss) lo

theorem NestRules.both {PS PB} (R : NestRules PS PB) :
    (∀ st lo, nestStmt st lo = true → PS st lo) ∧ (∀ ss lo, nestBlock ss lo = true → PB ss lo) := by
  apply stmt_block_induct
  case hleaf =>
    intro st hl lo h
    cases st with
    | assign x e => exact R.assign (by simpa only [nestStmt] using h)
    | par xs es => exact R.par (by simpa only [nestStmt] using h)
    | tuple xs e =>
      obtain ⟨⟨dom, op, sig, args, attrs, rfl⟩, hn⟩ := nestStmt_tuple h
      exact R.tuple hn
    | skip => exact R.skip
    | ite _ _ _ => cases hl
    | for_ _ _ _ _ => cases hl
    | while_ _ _ => cases hl
    | _ => simp [nestStmt] at h
  case hite =>
    intro c t e iht ihe lo h
    have h' := h
    simp only [nestStmt, Bool.and_eq_true] at h'
    exact R.ite h (iht lo h'.1.2) (ihe lo h'.2)
  case hfor =>
    intro i ok b body ih lo h
    obtain ⟨rfl, d, hf⟩ := nestStmt_for h
    exact R.for_ hf (ih _ hf.body)
  case hwhile =>
    intro c body ih lo h
    obtain ⟨t, d, state, rfl, hw⟩ := nestStmt_while h
    exact R.while_ hw (ih _ hw.body)
  case hnil => exact fun _ _ => R.nil
  case hcons =>
    intro st ss ih1 ih2 lo h
    simp only [nestBlock, Bool.and_eq_true] at h
    exact R.cons h.1 (ih1 _ h.1) h.2 (ih2 lo h.2)

theorem NestRules.stmt {PS PB} (R : NestRules PS PB) (st : Stmt) (lo : VSet) (h : nestStmt st lo = true) : PS st lo :=
  R.both.1 st lo h

theorem NestRules.block {PS PB} (R : NestRules PS PB) (ss : List Stmt) (lo : VSet) (h : nestBlock ss lo = true) :
    PB ss lo :=
  R.both.2 ss lo h

theorem nestBlock_nobrk : ∀ (ss : List Stmt) (lo : VSet), nestBlock ss lo = true →
    ∀ st, st ∈ ss → ∀ c, st ≠ .brk c
  | [], _, _, st, hst => by cases hst
  | s :: ss, lo, h, st, hst => by
    simp only [nestBlock, Bool.and_eq_true] at h
    rcases List.mem_cons.mp hst with rfl | hm
    · intro c hc; subst hc; simp [nestStmt] at h
    · exact nestBlock_nobrk ss lo h.2 st hm

theorem if_nest : (∀ (st : Stmt), ifStmt st = true → ∀ lo, nestStmt st lo = true) ∧
    (∀ (ss : List Stmt), ifBlock ss = true → ∀ lo, nestBlock ss lo = true) := by
  apply stmt_block_induct
  case hleaf => intro st hl h lo; cases st <;> simp_all [leaf, ifStmt, nestStmt]
  case hite =>
    intro c t e iht ihe h lo
    simp only [ifStmt, Bool.and_eq_true] at h
    simp only [nestStmt, Bool.and_eq_true]
    exact ⟨⟨h.1.1, iht h.1.2 lo⟩, ihe h.2 lo⟩
  case hfor => intro _ _ _ _ _ h; simp [ifStmt] at h
  case hwhile => intro _ _ _ h; simp [ifStmt] at h
  case hnil => intro _ _; simp [nestBlock]
  case hcons =>
    intro st ss ih1 ih2 h lo
    simp only [ifBlock, Bool.and_eq_true] at h
    simp only [nestBlock, Bool.and_eq_true]
    exact ⟨ih1 h.1 _, ih2 h.2 lo⟩

theorem ifStmt_nest (st : Stmt) (lo : VSet) (h : ifStmt st = true) : nestStmt st lo = true := if_nest.1 st h lo

theorem ifBlock_nest (ss : List Stmt) (lo : VSet) (h : ifBlock ss = true) : nestBlock ss lo = true := if_nest.2 ss h lo

theorem LoopRun.run {S : Sem V} {cont : Store V → Option Bool} {body : Nat → Store V → Option (Outcome V)} {d : VSet}
    (hrun : ∀ {k : Nat} {ρ : Store V} {o : Outcome V}, AllT S ρ → body k ρ = some o →
      ∃ ρ1, (o = .normal ρ1 ∨ o = .broke ρ1) ∧ RunOK S ρ ρ1 (some d))
    {o : Outcome V} {left : Option Nat} {k : Nat} {ρ : Store V} (h : LoopRun cont body o left k ρ) (hρ : AllT S ρ) :
    ∃ ρ', o = .normal ρ' ∧ RunOK S ρ ρ' (some d) := by
  induction h with
  | trip k ρ => exact ⟨ρ, rfl, RunOK.refl hρ _⟩
  | stop k _ => exact ⟨_, rfl, RunOK.refl hρ _⟩
  | brk _ _ hb =>
    obtain ⟨ρ1, ho | ho, r⟩ := hrun hρ hb <;> cases ho
    exact ⟨_, rfl, r⟩
  | ret _ _ hb => obtain ⟨_, ho | ho, _⟩ := hrun hρ hb <;> cases ho
  | next _ _ hb _ ih =>
    obtain ⟨ρ1, ho | ho, r1⟩ := hrun hρ hb <;> cases ho
    obtain ⟨ρ2, ho, r2⟩ := ih r1.allT
    exact ⟨ρ2, ho, r1.trans r2 (fun _ hx => hx) (fun _ hx => hx)⟩

/-- A round of `for i in …` sets `i`, then runs the body: hence `i :: d`. -/
theorem iterFor_run (S : Sem V) (i : Name) {body : Store V → Option (Outcome V)} {d : VSet}
    (hrun : ∀ {ρ : Store V} {o : Outcome V}, AllT S ρ → body ρ = some o →
      ∃ ρ1, (o = .normal ρ1 ∨ o = .broke ρ1) ∧ RunOK S ρ ρ1 (some d))
    (left k : Nat) {ρ : Store V} {o : Outcome V} (hρ : AllT S ρ) (h : iterFor S i body left k ρ = some o) :
    ∃ ρ', o = .normal ρ' ∧ RunOK S ρ ρ' (some (i :: d)) :=
  (iterFor_loopRun S left k ρ h).run (fun hρ0 hb => by
    obtain ⟨ρ1, ho, r1⟩ := hrun (hρ0.set i _) hb
    exact ⟨ρ1, ho, (RunOK.set hρ0 i _).trans r1 (by simp) (fun x hx => List.mem_cons_of_mem _ hx)⟩) hρ

theorem iterWhile_run (S : Sem V) {body : Store V → Option (Outcome V)} {d : VSet} {cond : Store V → Option Bool}
    (hrun : ∀ {ρ : Store V} {o : Outcome V}, AllT S ρ → body ρ = some o →
      ∃ ρ1, (o = .normal ρ1 ∨ o = .broke ρ1) ∧ RunOK S ρ ρ1 (some d))
    (fl : Nat) {ρ : Store V} {o : Outcome V} (hρ : AllT S ρ) (h : iterWhile cond body fl ρ = some o) :
    ∃ ρ', o = .normal ρ' ∧ RunOK S ρ ρ' (some d) :=
  (iterWhile_loopRun fl 0 ρ h).run hrun hρ

theorem run_normal_or {S : Sem V} {ρ : Store V} {o : Outcome V} {d : Option VSet} {dd : VSet} (hd : d = some dd)
    (h : ∃ ρ1, o = .normal ρ1 ∧ RunOK S ρ ρ1 d) : ∃ ρ1, (o = .normal ρ1 ∨ o = .broke ρ1) ∧ RunOK S ρ ρ1 (some dd) := by
  obtain ⟨ρ1, ho, r⟩ := h
  exact ⟨ρ1, Or.inl ho, hd ▸ r⟩

theorem nestRules_run (S : Sem V) (fuel : Nat) : NestRules
    (fun st _ => ∀ {ρ : Store V} {o : Outcome V}, TFree S (targetsStmt st) → AllT S ρ → evalStmt S fuel st ρ = some o →
      ∃ ρ', o = .normal ρ' ∧ RunOK S ρ ρ' (assignedStmt st))
    (fun ss _ => ∀ {ρ : Store V} {o : Outcome V}, TFree S (targetsBlock ss) → AllT S ρ →
      evalBlock S fuel ss ρ = some o → ∃ ρ', o = .normal ρ' ∧ RunOK S ρ ρ' (assignedBlock ss)) where
  assign := @fun x e lo hi ρ o hF hρ h => by
    obtain ⟨pv, he, rfl⟩ := evalStmt_assign_some h
    obtain ⟨v, rfl⟩ := tensorRhs_result hρ (hF.sub (fun y hy => by simp [targetsStmt, hy])) hi he
    exact ⟨_, rfl, RunOK.set hρ x v⟩
  par := @fun xs es lo hi ρ o hF hρ h => by
    obtain ⟨pvs, he, _, rfl⟩ := evalStmt_par_some h
    refine ⟨_, rfl, AllT.setMany xs pvs hρ (tensorRhs_results hρ (hF.sub (fun y hy => by simp [targetsStmt, hy])) hi he),
      setMany_dom_mono xs pvs ρ, fun dd hd y hy => ?_⟩
    cases hd
    exact setMany_frame xs pvs ρ y (fun hm => hy (mem_vofList.mpr hm))
  tuple := @fun xs dom op sig args attrs lo _ ρ o hF hρ h => by
    obtain ⟨pvs, rs, _, _, _, rfl⟩ := evalStmt_tuple_some h
    refine ⟨_, rfl, AllT.setMany xs _ hρ (fun pv hpv => ?_), setMany_dom_mono xs _ ρ, fun dd hd y hy => ?_⟩
    · obtain ⟨v, _, rfl⟩ := List.mem_map.mp hpv
      exact ⟨v, rfl⟩
    · cases hd
      exact setMany_frame xs _ ρ y (fun hm => hy (mem_vofList.mpr hm))
  skip := @fun lo ρ o hF hρ h => by
    unfold evalStmt at h
    cases h
    exact ⟨ρ, rfl, RunOK.refl hρ _⟩
  ite := @fun c t e lo _ iht ihe ρ o hF hρ h => by
    obtain ⟨cv, b, _, _, h⟩ := evalStmt_ite_some h
    cases b with
    | true =>
      obtain ⟨ρ', ho, r⟩ := iht (hF.sub (fun y hy => by simp [targetsStmt, hy])) hρ h
      refine ⟨ρ', ho, r.allT, r.dom, fun dd hd y hy => ?_⟩
      obtain ⟨a, b, hta, _, rfl⟩ := assignedStmt_ite_some hd
      exact r.frame a hta y (fun hm => hy (mem_vunion.mpr (Or.inl hm)))
    | false =>
      obtain ⟨ρ', ho, r⟩ := ihe (hF.sub (fun y hy => by simp [targetsStmt, hy])) hρ h
      refine ⟨ρ', ho, r.allT, r.dom, fun dd hd y hy => ?_⟩
      obtain ⟨a, b, _, hea, rfl⟩ := assignedStmt_ite_some hd
      exact r.frame b hea y (fun hm => hy (mem_vunion.mpr (Or.inr hm)))
  for_ := @fun i b body lo d hf ih ρ o hF hρ h => by
    obtain ⟨_, n, _, _, h⟩ := evalStmt_for_some h
    obtain ⟨ρ', ho, r⟩ := iterFor_run S i
      (fun hρ0 hb0 => run_normal_or hf.assigned
        (ih (hF.sub (fun y hy => by simp [targetsStmt, hy])) hρ0 hb0)) n 0 hρ h
    refine ⟨ρ', ho, r.allT, r.dom, fun dd hdd y hy => ?_⟩
    simp only [assignedStmt, hf.assigned] at hdd
    cases hdd
    refine r.frame _ rfl y (fun hm => hy (mem_vunion.mpr ?_))
    rcases List.mem_cons.mp hm with rfl | hm
    · exact Or.inr (by simp)
    · exact Or.inl hm
  while_ := @fun t body lo d state hw ih ρ o hF hρ h => by
    unfold evalStmt at h
    obtain ⟨ρ', ho, r⟩ := iterWhile_run S
      (fun hρ0 hb0 => run_normal_or hw.assigned
        (ih (hF.sub (fun y hy => by simp [targetsStmt, hy])) hρ0 hb0)) fuel hρ h
    exact ⟨ρ', ho, by simp only [assignedStmt, hw.assigned]; exact r⟩
  nil := @fun lo ρ o hF hρ h => by
    unfold evalBlock at h
    cases h
    exact ⟨ρ, rfl, RunOK.refl hρ _⟩
  cons := @fun st ss lo _ ih1 _ ih2 ρ o hF hρ h => by
    obtain ⟨o1, hs, h⟩ := evalBlock_cons_some h
    obtain ⟨ρ1, rfl, r1⟩ := ih1 hF.head.1 hρ hs
    obtain ⟨ρ2, ho, r2⟩ := ih2 hF.head.2 r1.allT h
    refine ⟨ρ2, ho, r2.allT, fun x hx => r2.dom x (r1.dom x hx), fun dd hd y hy => ?_⟩
    obtain ⟨a, b, ha, hb, rfl⟩ := assignedBlock_cons_some hd
    rw [r2.frame b hb y (fun hm => hy (mem_vunion.mpr (Or.inr hm))),
        r1.frame a ha y (fun hm => hy (mem_vunion.mpr (Or.inl hm)))]

theorem ifStmt_run (S : Sem V) (fuel : Nat) (st : Stmt) {ρ : Store V} {o : Outcome V}
    (hi : ifStmt st = true) (hF : TFree S (targetsStmt st)) (hρ : AllT S ρ) (h : evalStmt S fuel st ρ = some o) :
    ∃ ρ', o = .normal ρ' ∧ RunOK S ρ ρ' (assignedStmt st) :=
  (nestRules_run S fuel).stmt st [] (ifStmt_nest st [] hi) hF hρ h

theorem fixIter_inv (P : VSet → Prop) (step : VSet → VSet) (hstep : ∀ X, P X → P (step X)) :
    ∀ (n : Nat) (X : VSet), P X → P (fixIter step n X)
  | 0, X, h => by simpa [fixIter] using h
  | n + 1, X, h => by
    unfold fixIter
    simp only
    by_cases he : (step X == X) = true
    · simp only [he, if_true]; exact h
    · simp only [he]; exact fixIter_inv P step hstep n _ (hstep X h)

/-- The liveness iteration of a loop, started at a set `S` inside the live-out `F` for which the body's facts `toExp`,
`mono` are known and into which `back` (from `stableStmt`) leads the body's live-ins.  If a step adds to `S` only
live-ins of the body that satisfy `K` (are not the loop variable), then whatever the iteration reaches is in `S` or
is an exposed use of the body satisfying `K`.  The invariant of the iterations is this together with "inside `F`",
which is what lets `toExp` and `mono` be used. -/
theorem fixIter_exposed {body : List Stmt} {F S : VSet} {K : Name → Prop} {step : VSet → VSet}
    (toExp : ∀ {Z A X : VSet} {y : Name}, (∀ z, z ∈ Z → z ∈ F) → (∀ z, z ∈ Z → z ∈ A ∨ z ∈ X) →
      y ∈ liveInBlock body Z → y ∈ exposedBlock body A ∨ y ∈ X)
    (mono : ∀ {Z : VSet} {y : Name}, (∀ z, z ∈ Z → z ∈ F) → y ∈ liveInBlock body Z → y ∈ liveInBlock body F)
    (back : ∀ y, y ∈ liveInBlock body F → K y → y ∈ F) (hS : ∀ y, y ∈ S → y ∈ F)
    (hstep : ∀ prev y, y ∈ step prev → (y ∈ liveInBlock body prev ∧ K y) ∨ y ∈ S) (n : Nat) {y : Name}
    (hy : y ∈ fixIter step n S) : (y ∈ exposedBlock body [] ∧ K y) ∨ y ∈ S := by
  have key := fixIter_inv (fun W => ∀ y, y ∈ W → y ∈ F ∧ ((y ∈ exposedBlock body [] ∧ K y) ∨ y ∈ S)) step
    (fun W hW y hy => by
      rcases hstep W y hy with ⟨h, hk⟩ | h
      · refine ⟨back y (mono (fun z hz => (hW z hz).1) h) hk, ?_⟩
        exact (toExp (A := []) (fun z hz => (hW z hz).1) (fun z hz => Or.inr hz) h).elim (fun h' => Or.inl ⟨h', hk⟩)
          (fun h' => (hW y h').2)
      · exact ⟨hS y h, Or.inr h⟩) n S (fun y hy => ⟨hS y hy, Or.inr hy⟩)
  exact (key y hy).2

theorem stable_for {i : Name} {ok : Bool} {b : Expr} {body : List Stmt} {lo : VSet}
    (h : stableStmt (.for_ i ok b body) lo = true) :
    (∀ y, y ∈ lo → y ∈ loopBodyLo (.for_ i ok b body) lo) ∧
    (∀ y, y ∈ liveInBlock body (loopBodyLo (.for_ i ok b body) lo) → y ≠ i →
      y ∈ loopBodyLo (.for_ i ok b body) lo) := by
  unfold stableStmt at h
  simp only [Bool.and_eq_true] at h
  obtain ⟨⟨h1, h2⟩, _⟩ := h
  exact ⟨vsubset_mem h1, fun y hy hne => vsubset_mem h2 y (mem_vdiff.mpr ⟨hy, by simpa using hne⟩)⟩

theorem stable_while {t : Name} {body : List Stmt} {lo : VSet}
    (h : stableStmt (.while_ (.var t) body) lo = true) :
    (∀ y, y ∈ lo → y ∈ loopBodyLo (.while_ (.var t) body) lo) ∧
    t ∈ loopBodyLo (.while_ (.var t) body) lo ∧
    (∀ y, y ∈ liveInBlock body (loopBodyLo (.while_ (.var t) body) lo) →
      y ∈ loopBodyLo (.while_ (.var t) body) lo) := by
  unfold stableStmt at h
  simp only [Bool.and_eq_true] at h
  obtain ⟨⟨⟨h1, h2⟩, h3⟩, _⟩ := h
  exact ⟨vsubset_mem h1, vsubset_mem h2 t (by simp [usedVars]), vsubset_mem h3⟩

theorem liveIn_for_eq (i : Name) (ok : Bool) (b : Expr) (body : List Stmt) (lo : VSet) :
    liveInStmt (.for_ i ok b body) lo = vunion (loopBodyLo (.for_ i ok b body) lo) (usedVars b) := by
  simp [liveInStmt, loopBodyLo]

theorem liveIn_while_eq (c : Expr) (body : List Stmt) (lo : VSet) :
    liveInStmt (.while_ c body) lo = loopBodyLo (.while_ c body) lo := by
  simp [liveInStmt, loopBodyLo]

theorem mem_liveIn_assign {lo xs U : VSet} {y : Name} :
    y ∈ vunion (vdiff lo xs) U ↔ (y ∈ lo ∧ y ∉ xs) ∨ y ∈ U := by
  rw [mem_vunion, mem_vdiff]

theorem nestRules_ofExp : NestRules
    (fun st lo => ∀ {A : VSet} {y : Name}, (∀ z, z ∈ A → z ∈ lo) → y ∈ exposedStmt st A → y ∈ liveInStmt st lo)
    (fun ss lo => ∀ {A : VSet} {y : Name}, (∀ z, z ∈ A → z ∈ lo) → y ∈ exposedBlock ss A → y ∈ liveInBlock ss lo) where
  assign := @fun x e lo _ A y hz hy => by
    unfold exposedStmt at hy
    unfold liveInStmt
    rcases mem_vunion.mp hy with h | h
    · obtain ⟨h1, h2⟩ := mem_vdiff.mp h
      exact mem_vunion.mpr (Or.inl (mem_vdiff.mpr ⟨hz y h1, h2⟩))
    · exact mem_vunion.mpr (Or.inr h)
  par := @fun xs es lo _ A y hz hy => by
    unfold exposedStmt at hy
    unfold liveInStmt
    exact mem_liveIn_assign.mpr ((mem_liveIn_assign.mp hy).imp_left (fun h => ⟨hz y h.1, h.2⟩))
  tuple := @fun xs dom op sig args attrs lo _ A y hz hy => by
    unfold exposedStmt at hy
    unfold liveInStmt
    exact mem_liveIn_assign.mpr ((mem_liveIn_assign.mp hy).imp_left (fun h => ⟨hz y h.1, h.2⟩))
  skip := @fun lo A y hz hy => by
    unfold exposedStmt at hy
    unfold liveInStmt
    exact hz y hy
  ite := @fun c t e lo _ iht ihe A y hz hy => by
    unfold exposedStmt at hy
    unfold liveInStmt
    rcases mem_vunion.mp hy with h | h
    · rcases mem_vunion.mp h with h | h
      · exact mem_vunion.mpr (Or.inl (mem_vunion.mpr (Or.inl (iht hz h))))
      · exact mem_vunion.mpr (Or.inl (mem_vunion.mpr (Or.inr (ihe hz h))))
    · exact mem_vunion.mpr (Or.inr h)
  for_ := @fun i b body lo d hf ih A y hz hy => by
    obtain ⟨hlo, hback⟩ := stable_for hf.stable
    rw [liveIn_for_eq]
    unfold exposedStmt at hy
    rcases mem_vunion.mp hy with h | h
    · rcases mem_vunion.mp h with h | h
      · obtain ⟨h1, h2⟩ := mem_vdiff.mp h
        exact mem_vunion.mpr (Or.inl (hback y (ih (fun _ hz' => by cases hz') h1)
          (by simpa using h2)))
      · exact mem_vunion.mpr (Or.inr h)
    · exact mem_vunion.mpr (Or.inl (hlo y (hz y (mem_vdiff.mp h).1)))
  while_ := @fun t body lo d state hw ih A y hz hy => by
    obtain ⟨hlo, ht, hback⟩ := stable_while hw.stable
    rw [liveIn_while_eq]
    unfold exposedStmt at hy
    rcases mem_vunion.mp hy with h | h
    · rcases mem_vunion.mp h with h | h
      · exact hback y (ih (fun _ hz' => by cases hz') h)
      · simp only [usedVars, List.mem_singleton] at h; subst h; exact ht
    · exact hlo y (hz y h)
  nil := @fun lo A y hz hy => by
    unfold exposedBlock at hy
    unfold liveInBlock
    exact hz y hy
  cons := @fun st ss lo _ ih1 _ ih2 A y hz hy => by
    unfold exposedBlock at hy
    unfold liveInBlock
    exact ih1 (fun z hz' => ih2 hz hz') hy

theorem nestStmt_ofExp : ∀ (st : Stmt) (lo : VSet) {A : VSet} {y : Name}, nestStmt st lo = true →
    (∀ z, z ∈ A → z ∈ lo) → y ∈ exposedStmt st A → y ∈ liveInStmt st lo :=
  fun st lo _ _ h => nestRules_ofExp.stmt st lo h

/-- Liveness is monotone below `lo`, from the two facts about exposed uses: `hto` is what `toExp` concludes at
`A := lo`, `X := []`, and `ofExp` takes it back. -/
theorem live_mono_of {ss : List Stmt} {lo : VSet} {y : Name} (h : nestBlock ss lo = true)
    (hto : y ∈ exposedBlock ss lo ∨ y ∈ ([] : VSet)) : y ∈ liveInBlock ss lo :=
  nestRules_ofExp.block ss lo h (fun _ hz => hz) (hto.resolve_right (by simp))

theorem assign_toExp {Z A X xs U : VSet} {y : Name} (hza : ∀ z, z ∈ Z → z ∈ A ∨ z ∈ X)
    (hy : y ∈ vunion (vdiff Z xs) U) : y ∈ vunion (vdiff A xs) U ∨ y ∈ X := by
  rcases mem_liveIn_assign.mp hy with ⟨h1, h2⟩ | h
  · exact (hza y h1).imp_left (fun h' => mem_liveIn_assign.mpr (Or.inl ⟨h', h2⟩))
  · exact Or.inl (mem_liveIn_assign.mpr (Or.inr h))

theorem nestRules_toExp : NestRules
    (fun st lo => ∀ {Z A X : VSet} {y : Name}, (∀ z, z ∈ Z → z ∈ lo) → (∀ z, z ∈ Z → z ∈ A ∨ z ∈ X) →
      y ∈ liveInStmt st Z → y ∈ exposedStmt st A ∨ y ∈ X)
    (fun ss lo => ∀ {Z A X : VSet} {y : Name}, (∀ z, z ∈ Z → z ∈ lo) → (∀ z, z ∈ Z → z ∈ A ∨ z ∈ X) →
      y ∈ liveInBlock ss Z → y ∈ exposedBlock ss A ∨ y ∈ X) where
  assign := @fun x e lo _ Z A X y _ hza hy => by
    unfold liveInStmt at hy
    unfold exposedStmt
    rcases mem_vunion.mp hy with h | h
    · obtain ⟨h1, h2⟩ := mem_vdiff.mp h
      rcases hza y h1 with h' | h'
      · exact Or.inl (mem_vunion.mpr (Or.inl (mem_vdiff.mpr ⟨h', h2⟩)))
      · exact Or.inr h'
    · exact Or.inl (mem_vunion.mpr (Or.inr h))
  par := @fun xs es lo _ Z A X y _ hza hy => by
    unfold liveInStmt at hy
    unfold exposedStmt
    exact assign_toExp hza hy
  tuple := @fun xs dom op sig args attrs lo _ Z A X y _ hza hy => by
    unfold liveInStmt at hy
    unfold exposedStmt
    exact assign_toExp hza hy
  skip := @fun lo Z A X y _ hza hy => by
    unfold liveInStmt at hy
    unfold exposedStmt
    exact hza y hy
  ite := @fun c t e lo _ iht ihe Z A X y hz hza hy => by
    unfold liveInStmt at hy
    unfold exposedStmt
    rcases mem_vunion.mp hy with h | h
    · rcases mem_vunion.mp h with h | h
      · exact (iht hz hza h).imp_left
          (fun h' => mem_vunion.mpr (Or.inl (mem_vunion.mpr (Or.inl h'))))
      · exact (ihe hz hza h).imp_left
          (fun h' => mem_vunion.mpr (Or.inl (mem_vunion.mpr (Or.inr h'))))
    · exact Or.inl (mem_vunion.mpr (Or.inr h))
  for_ := @fun i b body lo d hb ih Z A X y hz hza hy => by
    obtain ⟨hlo, hback⟩ := stable_for hb.stable
    unfold liveInStmt at hy
    unfold exposedStmt
    rcases mem_vunion.mp hy with h | h
    · rcases fixIter_exposed (K := (· ≠ i)) (toExp := ih) (back := hback) (hS := fun z hz' => hlo z (hz z hz'))
          (mono := fun hz' hy' => live_mono_of hb.body (ih hz' (fun z h => Or.inl (hz' z h)) hy'))
          (hstep := fun _ y hy => by simpa [mem_vunion, mem_vdiff] using hy) fixFuel h with ⟨h1, h2⟩ | h'
      · exact Or.inl (mem_vunion.mpr (Or.inl (mem_vunion.mpr (Or.inl (mem_vdiff.mpr ⟨h1, by simpa using h2⟩)))))
      · -- what came in from `Z` is not the loop variable
        have hne : y ≠ i := fun he => hb.dead (he ▸ hz y h')
        exact (hza y h').imp_left (fun h'' => mem_vunion.mpr (Or.inr (mem_vdiff.mpr ⟨h'', by simpa using hne⟩)))
    · exact Or.inl (mem_vunion.mpr (Or.inl (mem_vunion.mpr (Or.inr h))))
  while_ := @fun t body lo d state hb ih Z A X y hz hza hy => by
    obtain ⟨hlo, ht, hback⟩ := stable_while hb.stable
    unfold liveInStmt at hy
    unfold exposedStmt
    rcases fixIter_exposed (K := fun _ => True) (toExp := ih) (back := fun y h _ => hback y h)
        (mono := fun hz' hy' => live_mono_of hb.body (ih hz' (fun z h => Or.inl (hz' z h)) hy'))
        (hS := fun z hz' => (mem_vunion.mp hz').elim (fun h => hlo z (hz z h)) (fun h => by
          simp only [usedVars, List.mem_singleton] at h
          exact h ▸ ht))
        (hstep := fun _ y hy => by
          simp only [mem_vunion, and_true] at hy ⊢
          exact hy.elim (Or.imp_right Or.inr) (fun h => Or.inr (Or.inl h))) fixFuel hy with h | h
    · exact Or.inl (mem_vunion.mpr (Or.inl (mem_vunion.mpr (Or.inl h.1))))
    · rcases mem_vunion.mp h with h | h
      · exact (hza y h).imp_left (fun h' => mem_vunion.mpr (Or.inr h'))
      · exact Or.inl (mem_vunion.mpr (Or.inl (mem_vunion.mpr (Or.inr h))))
  nil := @fun lo Z A X y _ hza hy => by
    unfold liveInBlock at hy
    unfold exposedBlock
    exact hza y hy
  cons := @fun st ss lo _ ih1 hss ih2 Z A X y hz hza hy => by
    unfold liveInBlock at hy
    unfold exposedBlock
    exact ih1 (fun z hz' => live_mono_of hss (ih2 hz (fun z hz'' => Or.inl (hz z hz'')) hz'))
      (fun z hz' => ih2 hz hza hz') hy

theorem nestStmt_toExp : ∀ (st : Stmt) (lo : VSet) {Z A X : VSet} {y : Name}, nestStmt st lo = true →
    (∀ z, z ∈ Z → z ∈ lo) → (∀ z, z ∈ Z → z ∈ A ∨ z ∈ X) → y ∈ liveInStmt st Z → y ∈ exposedStmt st A ∨ y ∈ X :=
  fun st lo _ _ _ _ h => nestRules_toExp.stmt st lo h

theorem nestBlock_mono (ss : List Stmt) (lo : VSet) {Z : VSet} {y : Name} (h : nestBlock ss lo = true)
    (hz : ∀ z, z ∈ Z → z ∈ lo) (hy : y ∈ liveInBlock ss Z) : y ∈ liveInBlock ss lo :=
  live_mono_of h (nestRules_toExp.block ss lo h hz (fun z hz' => Or.inl (hz z hz')) hy)

theorem nestRules_pass : NestRules
    (fun st lo => ∀ {d : VSet} {x : Name}, assignedStmt st = some d → x ∈ lo → x ∉ d → x ∈ liveInStmt st lo)
    (fun ss lo => ∀ {d : VSet} {x : Name}, assignedBlock ss = some d → x ∈ lo → x ∉ d → x ∈ liveInBlock ss lo) where
  assign := @fun y e lo _ d x hd hx hn => by
    simp only [assignedStmt] at hd; cases hd
    unfold liveInStmt
    exact mem_liveIn_assign.mpr (Or.inl ⟨hx, hn⟩)
  par := @fun ys es lo _ d x hd hx hn => by
    simp only [assignedStmt] at hd; cases hd
    unfold liveInStmt
    exact mem_liveIn_assign.mpr (Or.inl ⟨hx, hn⟩)
  tuple := @fun xs dom op sig args attrs lo _ d x hd hx hn => by
    simp only [assignedStmt] at hd; cases hd
    unfold liveInStmt
    exact mem_liveIn_assign.mpr (Or.inl ⟨hx, hn⟩)
  skip := @fun lo d x _ hx _ => by unfold liveInStmt; exact hx
  ite := @fun c t e lo _ iht _ d x hd hx hn => by
    obtain ⟨a, b, hta, _, rfl⟩ := assignedStmt_ite_some hd
    unfold liveInStmt
    exact mem_vunion.mpr (Or.inl (mem_vunion.mpr (Or.inl (iht hta hx (fun hm => hn (mem_vunion.mpr (Or.inl hm)))))))
  for_ := @fun i b body lo _ hf _ d x _ hx _ => by
    rw [liveIn_for_eq]
    exact mem_vunion.mpr (Or.inl ((stable_for hf.stable).1 x hx))
  while_ := @fun t body lo _ _ hw _ d x _ hx _ => by
    rw [liveIn_while_eq]
    exact (stable_while hw.stable).1 x hx
  nil := @fun lo d x _ hx _ => by unfold liveInBlock; exact hx
  cons := @fun st ss lo _ ih1 _ ih2 d x hd hx hn => by
    obtain ⟨a, b, ha, hb, rfl⟩ := assignedBlock_cons_some hd
    unfold liveInBlock
    exact ih1 ha (ih2 hb hx (fun hm => hn (mem_vunion.mpr (Or.inr hm)))) (fun hm => hn (mem_vunion.mpr (Or.inl hm)))

theorem nestStmt_pass (st : Stmt) (lo : VSet) {d : VSet} {x : Name} (h : nestStmt st lo = true) :
    assignedStmt st = some d → x ∈ lo → x ∉ d → x ∈ liveInStmt st lo :=
  nestRules_pass.stmt st lo h

theorem nestBlock_pass : ∀ (ss : List Stmt) (lo : VSet) {d : VSet} {x : Name}, nestBlock ss lo = true →
    assignedBlock ss = some d → x ∈ lo → x ∉ d → x ∈ liveInBlock ss lo :=
  fun ss lo _ _ h => nestRules_pass.block ss lo h

theorem exposed_eq_live : (∀ (st : Stmt), ifStmt st = true → ∀ X, exposedStmt st X = liveInStmt st X) ∧
    (∀ (ss : List Stmt), ifBlock ss = true → ∀ X, exposedBlock ss X = liveInBlock ss X) := by
  apply stmt_block_induct
  case hleaf => intro st hl h X; cases st <;> simp_all [leaf, ifStmt, exposedStmt, liveInStmt]
  case hite =>
    intro c t e iht ihe hi X
    simp only [ifStmt, Bool.and_eq_true] at hi
    simp only [exposedStmt, liveInStmt, iht hi.1.2 X, ihe hi.2 X]
  case hfor => intro _ _ _ _ _ h; simp [ifStmt] at h
  case hwhile => intro _ _ _ h; simp [ifStmt] at h
  case hnil => intro _ X; simp [exposedBlock, liveInBlock]
  case hcons =>
    intro st ss ih1 ih2 hi X
    simp only [ifBlock, Bool.and_eq_true] at hi
    simp only [exposedBlock, liveInBlock, ih2 hi.2 X, ih1 hi.1 _]

theorem exposed_eq_live_stmt : ∀ (st : Stmt) (X : VSet), ifStmt st = true → exposedStmt st X = liveInStmt st X :=
  fun st X hi => exposed_eq_live.1 st hi X

theorem live_rel_stmt : ∀ (st : Stmt) {Z A X : VSet} {x : Name}, ifStmt st = true →
    (∀ y, y ∈ Z → y ∈ A ∨ y ∈ X) → x ∈ liveInStmt st Z → x ∈ liveInStmt st A ∨ x ∈ X
  | st, Z, A, _, _, hi, hz, hx => by
    rw [← exposed_eq_live_stmt st A hi]
    exact nestStmt_toExp st Z (ifStmt_nest st Z hi) (fun _ h => h) hz hx

theorem live_pass_block : ∀ (ss : List Stmt) (lo : VSet) {d : VSet} {x : Name}, ifBlock ss = true →
    assignedBlock ss = some d → x ∈ lo → x ∉ d → x ∈ liveInBlock ss lo
  | ss, lo, _, _, hi, hd, hx, hn => nestBlock_pass ss lo (ifBlock_nest ss lo hi) hd hx hn

/-- The liveness facts about a loop body translated with live-out `F`, relative to the *exposed uses* of the body
from which `loop_state_vars` is computed. -/
structure LiveFacts (body : List Stmt) (F : VSet) : Prop where
  /-- a live-in of the body from a live-out inside `F` is an exposed use of the body or comes from that live-out -/
  toExp : ∀ {Z A X : VSet} {y : Name}, (∀ z, z ∈ Z → z ∈ F) → (∀ z, z ∈ Z → z ∈ A ∨ z ∈ X) →
    y ∈ liveInBlock body Z → y ∈ exposedBlock body A ∨ y ∈ X
  /-- an exposed use of the body is live at its head -/
  ofExp : ∀ {A : VSet} {y : Name}, (∀ z, z ∈ A → z ∈ F) → y ∈ exposedBlock body A → y ∈ liveInBlock body F
  /-- liveness of the body is monotone below `F` -/
  mono : ∀ {Z : VSet} {y : Name}, (∀ z, z ∈ Z → z ∈ F) → y ∈ liveInBlock body Z → y ∈ liveInBlock body F

theorem liveFacts_of_nest {body : List Stmt} {F : VSet} (h : nestBlock body F = true) : LiveFacts body F :=
  ⟨fun hz hza hy => nestRules_toExp.block body F h hz hza hy, fun hz hy => nestRules_ofExp.block body F h hz hy,
   fun hz hy => nestBlock_mono body F h hz hy⟩

theorem liveInBlock_append : ∀ (a b : List Stmt) (X : VSet),
    liveInBlock (a ++ b) X = liveInBlock a (liveInBlock b X)
  | [], b, X => by simp [liveInBlock]
  | st :: ss, b, X => by simp only [List.cons_append, liveInBlock, liveInBlock_append ss b X]

theorem exposedBlock_append : ∀ (a b : List Stmt) (X : VSet),
    exposedBlock (a ++ b) X = exposedBlock a (exposedBlock b X)
  | [], b, X => by simp [exposedBlock]
  | st :: ss, b, X => by simp only [List.cons_append, exposedBlock, exposedBlock_append ss b X]

def brkTail : Option Name → List Stmt
  | none => []
  | some t => [.brk (.var t)]

/-- The live-out set of the statements before the trailing break. -/
def brkLive (bt : Option Name) (X : VSet) : VSet := liveInBlock (brkTail bt) X

theorem brkLive_none (X : VSet) : brkLive none X = X := by simp [brkLive, brkTail, liveInBlock]

theorem mem_brkLive {bt : Option Name} {X : VSet} {y : Name} : y ∈ brkLive bt X ↔ y ∈ X ∨ bt = some y := by
  cases bt with
  | none => simp [brkLive_none]
  | some t =>
    simp only [brkLive, brkTail, liveInBlock, liveInStmt, usedVars, mem_vunion, List.mem_singleton,
      Option.some.injEq]
    exact or_congr_right eq_comm

theorem live_brk (pre : List Stmt) (bt : Option Name) (X : VSet) :
    liveInBlock (pre ++ brkTail bt) X = liveInBlock pre (brkLive bt X) := liveInBlock_append _ _ _

theorem exposed_brk (pre : List Stmt) (bt : Option Name) (X : VSet) :
    exposedBlock (pre ++ brkTail bt) X = exposedBlock pre (brkLive bt X) := by
  rw [exposedBlock_append]
  cases bt <;> simp [brkLive, brkTail, exposedBlock, exposedStmt, liveInBlock, liveInStmt]

theorem assigned_brk : ∀ (pre : List Stmt) (bt : Option Name),
    assignedBlock (pre ++ brkTail bt) = assignedBlock pre
  | [], bt => by cases bt <;> simp [brkTail, assignedBlock, assignedStmt, vunion]
  | st :: ss, bt => by simp only [List.cons_append, assignedBlock, assigned_brk ss bt]

theorem targets_brk : ∀ (pre : List Stmt) (bt : Option Name),
    targetsBlock (pre ++ brkTail bt) = targetsBlock pre ++ bt.toList
  | [], bt => by cases bt <;> simp [brkTail, targetsBlock, targetsStmt, bareVar]
  | st :: ss, bt => by simp only [List.cons_append, targetsBlock, targets_brk ss bt, List.append_assoc]

theorem LiveFacts.brk {pre : List Stmt} {bt : Option Name} {F : VSet} (h : LiveFacts pre (brkLive bt F)) :
    LiveFacts (pre ++ brkTail bt) F := by
  have up : ∀ {Z : VSet}, (∀ z, z ∈ Z → z ∈ F) → ∀ z, z ∈ brkLive bt Z → z ∈ brkLive bt F :=
    fun hz z hm => mem_brkLive.mpr ((mem_brkLive.mp hm).imp_left (hz z))
  refine ⟨fun {Z A X y} hz hza hy => ?_, fun {A y} hz hy => ?_, fun hz hy => ?_⟩
  · rw [live_brk] at hy
    rw [exposed_brk]
    exact h.toExp (up hz) (fun z hm => by
      rcases mem_brkLive.mp hm with h' | h'
      · exact (hza z h').imp_left (fun h'' => mem_brkLive.mpr (Or.inl h''))
      · exact Or.inl (mem_brkLive.mpr (Or.inr h'))) hy
  · rw [exposed_brk] at hy
    rw [live_brk]
    exact h.ofExp (up hz) hy
  · rw [live_brk] at hy ⊢
    exact h.mono (up hz) hy

/-- What is needed of the live-out set `F` the body of `for i in range(b): body` is translated with, in terms of
the exposed uses of the body. -/
structure ForLiveE (i : Name) (body : List Stmt) (lo F : VSet) : Prop where
  lo_sub : ∀ y, y ∈ lo → y ∈ F
  back : ∀ y, y ∈ liveInBlock body F → y ≠ i → y ∈ F
  sub_exposed : ∀ y, y ∈ F → y ∈ exposedBlock body [] ∨ y ∈ lo

theorem forLiveE_of_stable {i : Name} {ok : Bool} {b : Expr} {body : List Stmt} {lo : VSet}
    (hB : LiveFacts body (loopBodyLo (.for_ i ok b body) lo))
    (hst : stableStmt (.for_ i ok b body) lo = true) :
    ForLiveE i body lo (loopBodyLo (.for_ i ok b body) lo) := by
  obtain ⟨hlo, hback⟩ := stable_for hst
  refine ⟨hlo, hback, fun y hy => ?_⟩
  unfold loopBodyLo at hy
  exact Or.imp_left And.left (fixIter_exposed (K := (· ≠ i)) (toExp := hB.toExp) (mono := hB.mono) (back := hback)
    (hS := hlo) (hstep := fun _ y hy => by simpa [mem_vunion, mem_vdiff] using hy) fixFuel hy)

/-- What is needed of the live-out set `F` the body of `while t: body` is translated with (`F` is also the
live-in of the loop). -/
structure WhileLive (t : Name) (body : List Stmt) (lo F : VSet) : Prop where
  lo_sub : ∀ y, y ∈ lo → y ∈ F
  cond_in : t ∈ F
  back : ∀ y, y ∈ liveInBlock body F → y ∈ F
  sub_exposed : ∀ y, y ∈ F → y ∈ liveInBlock body [] ∨ y ∈ lo ∨ y = t

/-- What is needed of the live-out set `F` the body of `while t: body` is translated with (`F` is also the live-in of
the loop), in terms of the exposed uses of the body. -/
structure WhileLiveE (t : Name) (body : List Stmt) (lo F : VSet) : Prop where
  lo_sub : ∀ y, y ∈ lo → y ∈ F
  cond_in : t ∈ F
  back : ∀ y, y ∈ liveInBlock body F → y ∈ F
  sub_exposed : ∀ y, y ∈ F → y ∈ exposedBlock body [] ∨ y ∈ lo ∨ y = t

theorem whileLiveE_of_stable {t : Name} {body : List Stmt} {lo : VSet}
    (hB : LiveFacts body (loopBodyLo (.while_ (.var t) body) lo))
    (hst : stableStmt (.while_ (.var t) body) lo = true) :
    WhileLiveE t body lo (loopBodyLo (.while_ (.var t) body) lo) := by
  obtain ⟨hlo, ht, hback⟩ := stable_while hst
  refine ⟨hlo, ht, hback, fun y hy => ?_⟩
  unfold loopBodyLo at hy
  rcases fixIter_exposed (K := fun _ => True) (toExp := hB.toExp) (mono := hB.mono) (back := fun y h _ => hback y h)
      (hS := fun y hy => (mem_vunion.mp hy).elim (hlo y) (fun h => by
        simp only [usedVars, List.mem_singleton] at h
        exact h ▸ ht))
      (hstep := fun _ y hy => by
        simp only [mem_vunion, and_true] at hy ⊢
        exact hy.elim (Or.imp_right Or.inr) (fun h => Or.inr (Or.inl h))) fixFuel hy with h | h
  · exact Or.inl h.1
  · exact Or.inr (by simpa [mem_vunion, usedVars] using h)

end OV.C01
