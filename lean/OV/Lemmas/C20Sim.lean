import OV.Model.C20Save
import OV.Lemmas.C20Save
/-!
# C20 — simulation between two runs of the save

`er ek ecb` erases the fault plan (`ek`) and/or the progress-callback log (`ecb`) of a state.  `Sim ek ecb f g`: from the
erased state `g` produces the outcome of `f` — normal value or exception alike — and ends in the erased end state of
`f`; while the fault plan is kept this holds for every run of `f`, once it is erased for the runs that return normally
(erasing the plan changes which runs fail).  Instances: (`ek`) a run that returns normally under a fault plan *is* the
fault-free run; (`ecb`) the verbose/tqdm branch and the plain branch differ only in the callback log, whatever the
outcome.

Second half: the walk over the functions of the model, for `Tri` (`OV.Lemmas.C20Save`) and `Sim` together (`Both`), with
`tri_save` and `sim_save` at its end.
-/
namespace OV.C20

def er (ek ecb : Bool) (s : St) : St :=
  { s with k := if ek then none else s.k, cb := if ecb then [] else s.cb, cbTotal := if ecb then none else s.cbTotal }

def Sim (ek ecb : Bool) (f g : M α) : Prop :=
  ∀ s, (ek = true → ∃ a, (f s).1 = .ok a) → g (er ek ecb s) = ((f s).1, er ek ecb (f s).2)

variable {ek ecb : Bool}

theorem er_heap (s : St) : (er ek ecb s).heap = s.heap := rfl
theorem er_cv (s : St) : (er ek ecb s).cv = s.cv := rfl
theorem er_fs (s : St) : (er ek ecb s).fs = s.fs := rfl
theorem er_tn (s : St) : (er ek ecb s).tn = s.tn := rfl

theorem sim_pure (a : α) : Sim ek ecb (pure a : M α) (pure a) := fun _ _ => rfl

theorem sim_bind {f1 f2 : M α} {g1 g2 : α → M β} (hf : Sim ek ecb f1 f2) (hg : ∀ a, Sim ek ecb (g1 a) (g2 a)) :
    Sim ek ecb (f1 >>= g1) (f2 >>= g2) := by
  intro s h
  change ek = true → ∃ b, (M.bind f1 g1 s).1 = .ok b at h
  show M.bind f2 g2 _ = ((M.bind f1 g1 s).1, er ek ecb (M.bind f1 g1 s).2)
  unfold M.bind at h ⊢
  cases hfs : f1 s with
  | mk r s1 =>
    rw [hfs] at h
    cases r with
    | ok a =>
      rw [hf s (fun _ => ⟨a, by rw [hfs]⟩), hfs]
      exact hg a s1 h
    | error e =>
      -- an exception of `f1` is an exception of the whole: the plan is kept
      rw [hf s (fun hk => (h hk).elim (fun b hb => by cases hb)), hfs]

theorem sim_modify {g1 g2 : St → St} (h : ∀ s, g2 (er ek ecb s) = er ek ecb (g1 s)) : Sim ek ecb (modify g1) (modify g2) := by
  intro s _
  show (Except.ok (), g2 (er ek ecb s)) = _
  rw [h]
  rfl

theorem sim_tick (op : Op) : Sim ek ecb (tick op) (tick op) := by
  intro s h
  by_cases hk : s.k = some s.calls
  · -- the planned call: raises on both sides when the plan is kept, and is no normal return
    rw [tick_fault op s hk] at h ⊢
    cases ek with
    | true => obtain ⟨a, ha⟩ := h rfl; cases ha
    | false => exact tick_fault op _ hk
  · rw [tick_pass op s hk]
    refine tick_pass op _ ?_
    cases ek
    · exact hk
    · exact fun h => by cases h

theorem sim_tryFinally {b1 b2 : M α} {fin1 fin2 : St → St} (hb : Sim ek ecb b1 b2)
    (hf : ∀ s, fin2 (er ek ecb s) = er ek ecb (fin1 s)) : Sim ek ecb (tryFinally b1 fin1) (tryFinally b2 fin2) := by
  intro s h
  unfold tryFinally
  rw [hb s h]
  show ((b1 s).1, fin2 (er ek ecb (b1 s).2)) = ((b1 s).1, er ek ecb (fin1 (b1 s).2))
  rw [hf]

theorem sim_withClose {b1 b2 : M α} (f : String) (hb : Sim ek ecb b1 b2) :
    Sim ek ecb (withClose f b1) (withClose f b2) := by
  intro s h
  cases hbs : b1 s with
  | mk r s1 =>
    cases r with
    | ok a =>
      have h2 := hb s (fun _ => ⟨a, by rw [hbs]⟩)
      rw [hbs] at h2
      rw [withClose_ok hbs] at h ⊢
      rw [withClose_ok h2]
      exact sim_bind (sim_tick _) (fun _ => sim_pure a) s1 h
    | error e =>
      rw [withClose_error hbs] at h ⊢
      cases ek with
      | true => obtain ⟨b, hb'⟩ := h rfl; cases hb'
      | false =>
        have h2 := hb s (fun hk => by cases hk)
        rw [hbs] at h2
        rw [withClose_error h2]
        rfl

theorem sim_needHandle (f : String) : Sim ek ecb (needHandle f) (needHandle f) := by
  intro s _
  unfold needHandle
  show (if s.wopened.contains f = true then _ else _) = _
  split <;> rfl

theorem sim_fsOpenW (f : String) : Sim ek ecb (fsOpenW f) (fsOpenW f) := by
  unfold fsOpenW
  exact sim_bind (sim_tick _) (fun _ => sim_modify (fun _ => rfl))

/-! ## One walk for both judgements

`Tri` and `Sim` are both closed under the way the model's functions are put together, so a function is taken apart along
its text once.  On the right the run is silent when the callback log is erased and as verbose as the left one otherwise. -/

def Both (ek ecb : Bool) (I E : St → Prop) (f g : M α) : Prop := Tri I E f ∧ Sim ek ecb f g

section
variable {I E : St → Prop}

theorem Both.ret (a : α) : Both ek ecb I E (pure a : M α) (pure a) := ⟨tri_pure a, sim_pure a⟩

theorem Both.bind {f1 f2 : M α} {g1 g2 : α → M β} (hf : Both ek ecb I E f1 f2) (hg : ∀ a, Both ek ecb I E (g1 a) (g2 a)) :
    Both ek ecb I E (f1 >>= g1) (f2 >>= g2) :=
  ⟨tri_bind hf.1 fun a => (hg a).1, sim_bind hf.2 fun a => (hg a).2⟩

theorem Both.getBind {g1 g2 : St → M β} (hg : ∀ s0, Both ek ecb I E (g1 s0) (g2 (er ek ecb s0))) :
    Both ek ecb I E (get >>= g1) (get >>= g2) :=
  ⟨tri_bind (fun _ h => h) fun s => (hg s).1, fun s h => (hg s).2 s h⟩

theorem Both.mapM {f1 f2 : α → M β} (hf : ∀ a, Both ek ecb I E (f1 a) (f2 a)) :
    ∀ l, Both ek ecb I E (mapM' f1 l) (mapM' f2 l)
  | [] => .ret _
  | a :: as => by
    unfold mapM'
    exact .bind (hf a) (fun _ => .bind (Both.mapM hf as) (fun _ => .ret _))

theorem Both.forM {f1 f2 : α → M Unit} (hf : ∀ a, Both ek ecb I E (f1 a) (f2 a)) :
    ∀ l, Both ek ecb I E (forM' f1 l) (forM' f2 l)
  | [] => .ret _
  | a :: as => by
    unfold forM'
    exact .bind (hf a) (fun _ => Both.forM hf as)

theorem Both.fin {b1 b2 : M α} {fin1 fin2 : St → St} (hb : Both ek ecb I E b1 b2) (hI : ∀ s, I s → I (fin1 s))
    (hE : ∀ s, E s → E (fin1 s)) (hf : ∀ s, fin2 (er ek ecb s) = er ek ecb (fin1 s)) :
    Both ek ecb I E (tryFinally b1 fin1) (tryFinally b2 fin2) :=
  ⟨tri_tryFinally hb.1 hI hE, sim_tryFinally hb.2 hf⟩

/-- A callback-log update before `r`: on both sides, or (log erased) on the left only. -/
theorem Both.log {u : St → St} {r1 r2 : M β} (hI : ∀ s, I s → I (u s)) (hu : ∀ s, er ek true (u s) = er ek true s)
    (hu' : ∀ s, u (er ek false s) = er ek false (u s)) (v : Bool) (hr : Both ek ecb I E r1 r2) :
    Both ek ecb I E (if v then modify u >>= fun _ => r1 else r1) (if (v && !ecb) then modify u >>= fun _ => r2 else r2) := by
  cases v with
  | false => exact hr
  | true =>
    cases ecb with
    | false => exact ⟨tri_bind (tri_modify hI) fun _ => hr.1, sim_bind (sim_modify hu') fun _ => hr.2⟩
    | true =>
      refine ⟨tri_bind (tri_modify hI) fun _ => hr.1, fun s hh => ?_⟩
      have := hr.2 (u s) hh
      rw [hu] at this
      exact this

theorem Both.ite {c : Prop} [Decidable c] {a1 a2 b1 b2 : M α} (ht : Both ek ecb I E a1 a2) (he : Both ek ecb I E b1 b2) :
    Both ek ecb I E (if c then a1 else b1) (if c then a2 else b2) := by
  split <;> assumption

theorem Both.upd {g1 g2 : St → St} (hI : ∀ s, I s → I (g1 s)) (h : ∀ s, g2 (er ek ecb s) = er ek ecb (g1 s)) :
    Both ek ecb I E (modify g1) (modify g2) := ⟨tri_modify hI, sim_modify h⟩

theorem both_fileLen (f : String) : Both ek ecb I E (fileLen f) (fileLen f) := by
  unfold fileLen
  refine .getBind (fun s0 => ?_)
  show Both ek ecb I E _ (match s0.fs.get? f with
    | some (.data b) => pure b.length
    | _ => pure 0)
  generalize s0.fs.get? f = x
  rcases x with _ | (b | p) <;> exact .ret _

end

section
variable {I E : St → Prop} {dest mp : String} (S : Stable0 dest mp I E)
include S

theorem Both.raise (e : Err) : Both ek ecb I E (throw e : M α) (throw e) := ⟨fun s hs => S.err s hs, fun _ _ => rfl⟩

theorem Both.call (op : Op) : Both ek ecb I E (tick op) (tick op) := ⟨tri_tick S op, sim_tick op⟩

theorem Both.close {b1 b2 : M α} (f : String) (hb : Both ek ecb I E b1 b2) :
    Both ek ecb I E (withClose f b1) (withClose f b2) := ⟨tri_withClose S f hb.1, sim_withClose f hb.2⟩

theorem Both.new (t : TRef) : Both ek ecb I E (newObj t) (newObj t) := ⟨fun s hs => S.new s t hs, fun _ _ => rfl⟩

theorem Both.openW (f : String) (hf : f = dest ∨ f = mp) : Both ek ecb I E (fsOpenW f) (fsOpenW f) :=
  ⟨tri_fsOpenW S f hf, sim_fsOpenW f⟩

/-- Every write of the model (`tri_write`), on both sides. -/
theorem Both.put (f : String) (hf : f = dest ∨ f = mp) {counted : M Unit} (hc : Both ek ecb I E counted counted)
    (hw : ∀ s s', counted s = (.ok (), s') → s'.wopened = s.wopened) (g : FS → FS)
    (hg : ∀ fs p, p ≠ f → FS.get? (g fs) p = FS.get? fs p) :
    Both ek ecb I E (do needHandle f; counted; modify fun s => { s with fs := g s.fs })
      (do needHandle f; counted; modify fun s => { s with fs := g s.fs }) :=
  ⟨tri_write S f hf counted hc.1 hw g hg,
    sim_bind (sim_needHandle f) fun _ => sim_bind hc.2 fun _ => sim_modify fun _ => rfl⟩

theorem Both.write (f : String) (b : Bytes) (hf : f = dest ∨ f = mp) : Both ek ecb I E (fsWrite f b) (fsWrite f b) :=
  Both.put S f hf (.call S _) (tick_wopened _) (fun fs => fs.append f b) (fun _ _ h => get?_append_ne _ _ _ _ h)

theorem Both.proto (f : String) (p : Proto) (hf : f = dest ∨ f = mp) :
    Both ek ecb I E (fsWriteProto f p) (fsWriteProto f p) :=
  Both.put S f hf (.call S _) (tick_wopened _) (fun fs => fs.set f (.proto p)) (fun _ _ h => get?_set_ne _ _ _ _ h)

theorem Both.cwrite (f : String) (b : Bytes) (hf : f = dest ∨ f = mp) : Both ek ecb I E (fsCWrite f b) (fsCWrite f b) :=
  Both.put S f hf (.ret ()) (fun _ _ h => by cases h; rfl) (fun fs => fs.append f b)
    (fun _ _ h => get?_append_ne _ _ _ _ h)

theorem both_fsOpenR (f : String) : Both ek ecb I E (fsOpenR f) (fsOpenR f) := by
  unfold fsOpenR
  refine .bind (.call S _) (fun _ => .getBind (fun s0 => ?_))
  show Both ek ecb I E _ (match s0.fs.get? f with
    | some (.data b) => pure b
    | some (.proto _) => throw .valueError
    | none => throw .osError)
  generalize s0.fs.get? f = x
  rcases x with _ | (b | p)
  · exact .raise S _
  · exact .ret _
  · exact .raise S _

theorem both_getObj (id : Nat) : Both ek ecb I E (getObj id) (getObj id) := by
  unfold getObj
  refine .getBind (fun s0 => ?_)
  show Both ek ecb I E _ (match s0.heap[id]? with
    | some t => pure t
    | none => throw .typeError)
  generalize s0.heap[id]? = x
  rcases x with _ | t
  · exact .raise S _
  · exact .ret _

theorem both_extToMem (id : Nat) : Both ek ecb I E (extToMem id) (extToMem id) := by
  unfold extToMem
  refine .bind (both_getObj S id) (fun t => ?_)
  cases t with
  | mem b np => exact .raise S _
  | ext f off len valid =>
    cases valid with
    | false => exact .raise S _
    | true =>
      show Both ek ecb I E (if len = 0 then _ else _) (if len = 0 then _ else _)
      split
      · exact .new S _
      · refine .bind (both_fsOpenR S _) (fun whole => .bind (.close S _ ?_) (fun _ => ?_))
        · split
          · exact .raise S _
          · exact .ret _
        · split
          · exact .new S _
          · exact .raise S _

/-! From here on `dest` is the data file. -/

theorem both_tofile (id : Nat) : Both ek ecb I E (tofile dest id) (tofile dest id) := by
  unfold tofile
  refine .bind (both_getObj S id) (fun t => ?_)
  cases t with
  | mem b np =>
    cases np with
    | true =>
      refine .bind (.call S _) (fun _ => .bind (.cwrite S _ _ (Or.inl rfl)) (fun _ => ?_))
      exact .bind (both_fileLen _) (fun _ => .call S _)
    | false => exact .write S _ _ (Or.inl rfl)
  | ext f off len valid =>
    cases valid with
    | false => exact .raise S _
    | true =>
      refine .bind (both_fsOpenR S _) (fun whole => .close S _ (.bind (.call S _) (fun _ => ?_)))
      refine .bind (.forM (fun c => .bind (.call S _) (fun _ => .write S _ _ (Or.inl rfl))) _)
        (fun _ => ?_)
      split
      · exact .bind (.call S _) (fun _ => .raise S _)
      · exact .ret _

theorem both_writeOne (v : Bool) (item : String × Nat × Nat) :
    Both ek ecb I E (writeOne dest v item) (writeOne dest (v && !ecb) item) := by
  unfold writeOne
  obtain ⟨name, id, off⟩ := item
  refine Both.log (u := fun s => { s with cb := s.cb ++ [(name, off)] }) (fun s hs => S.cb s _ _ hs) (fun _ => rfl)
    (fun _ => rfl) v (.bind (both_fileLen _) (fun size => ?_))
  split
  · exact .bind (.write S _ _ (Or.inl rfl)) (fun _ => both_tofile S id)
  · exact both_tofile S id

theorem both_writeExternalData (v : Bool) (items : List (String × Nat × Nat)) :
    Both ek ecb I E (writeExternalData dest v items) (writeExternalData dest (v && !ecb) items) := by
  unfold writeExternalData
  refine .bind (.openW S _ (Or.inl rfl)) (fun _ => .close S _ ?_)
  have loop := Both.forM (fun it => both_writeOne (ek := ek) (ecb := ecb) S v it) items
  cases items.isEmpty with
  | true =>
    simp only [Bool.not_true, Bool.and_false]
    exact loop
  | false =>
    simp only [Bool.not_false, Bool.and_true]
    exact Both.log (u := fun s => { s with cbTotal := some items.length }) (fun s hs => S.cb s _ _ hs) (fun _ => rfl)
      (fun _ => rfl) v loop

theorem both_placeAndWrite (v : Bool) (names : List String) (ids : List Nat) :
    Both ek ecb I E (placeAndWrite dest v names ids) (placeAndWrite dest (v && !ecb) names ids) := by
  unfold placeAndWrite
  refine .bind (.mapM (fun id => .bind (both_getObj S id) (fun _ => .ret _)) _) (fun sizes => ?_)
  refine .bind (both_writeExternalData S v _) (fun _ => ?_)
  refine .bind (.mapM (fun p => .bind (.new S _) (fun _ => .ret _)) _) (fun made => ?_)
  split
  · exact .ret _
  · exact .raise S _

end

section
variable {I E : St → Prop} {dest mp : String} (S : Stable dest mp I E)
include S

/-- The simulation goes along the text; for the invariant the step is looked at as a whole: `extToMem` leaves the
original object in place, which is what `Stable.inval` asks for. -/
theorem both_materializeOne (exists_ : Bool) (p : String × Nat) :
    Both ek ecb I E (materializeOne dest exists_ p) (materializeOne dest exists_ p) := by
  constructor
  · intro s hs
    unfold materializeOne
    split
    · exact hs
    · show Exit I E (M.bind (getObj p.2) _ s).1 (M.bind (getObj p.2) _ s).2
      unfold M.bind
      cases ht : s.heap[p.2]? with
      | none => rw [getObj_none _ s ht]; exact S.err s hs
      | some t =>
        rw [getObj_ok _ t s ht]
        simp only []
        cases t with
        | mem b np => exact hs
        | ext f o l v =>
          simp only []
          split
          · next hfd =>
            show Exit I E (M.bind (extToMem p.2) _ s).1 (M.bind (extToMem p.2) _ s).2
            unfold M.bind
            have h1 := (both_extToMem (ek := ek) (ecb := ecb) S.toStable0 p.2).1 s hs
            have hkeep := (both_extToMem (ek := ek) (ecb := ecb) (stable0_objAt dest mp p.2 (.ext f o l v)) p.2).1 s ht
            cases h : extToMem p.2 s with
            | mk r s1 =>
              rw [h] at h1 hkeep
              cases r with
              | error e => exact h1
              | ok nid => exact S.inval s1 p.2 f o l v h1 hkeep hfd
          · exact hs
  · unfold materializeOne
    cases exists_ with
    | false => exact sim_pure _
    | true =>
      refine sim_bind (both_getObj S.toStable0 _).2 (fun t => ?_)
      cases t with
      | mem b np => exact sim_pure _
      | ext f o l v =>
        show Sim ek ecb (if f = dest then _ else _) (if f = dest then _ else _)
        split
        · refine sim_bind (both_extToMem S.toStable0 _).2 (fun nid => sim_bind ?_ (fun _ => sim_pure _))
          unfold invalidate
          exact sim_modify (fun _ => rfl)
        · exact sim_pure _

theorem both_convertToExternal (v : Bool) (inp : List (String × Nat)) :
    Both ek ecb I E (convertToExternal dest v inp) (convertToExternal dest (v && !ecb) inp) := by
  unfold convertToExternal
  refine .getBind (fun s0 => ?_)
  exact .bind (.mapM (fun p => both_materializeOne S _ p) _) (fun ids => both_placeAndWrite S.toStable0 v _ ids)

theorem both_unload {thr : Nat} (tnames : List String) (v : Bool) :
    Both ek ecb I E (unload thr tnames dest v) (unload thr tnames dest (v && !ecb)) := by
  unfold unload
  refine .getBind (fun s0 => ?_)
  refine .bind (.mapM (fun i => both_extToMem S.toStable0 _) _) (fun memIds => ?_)
  refine .bind (both_convertToExternal S v _) (fun extIds => ?_)
  exact .upd (fun s' hs => S.cv s' _ hs) (fun _ => rfl)

end

theorem both_irSave {I E : St → Prop} {thr : Nat} (sig : List (String × Bool)) (tnames : List String) (dir name rel : String)
    (v : Bool) (S : Stable (joinPath dir rel) (joinPath dir name) I E) :
    Both ek ecb I E (irSave thr sig tnames dir name rel v) (irSave thr sig tnames dir name rel (v && !ecb)) := by
  unfold irSave
  refine .getBind (fun s0 => ?_)
  refine .fin ?_ (fun s hs => S.cv s _ hs) (fun s hs => S.cvE s _ hs) (fun _ => rfl)
  refine .bind (both_unload S tnames v) (fun _ => ?_)
  refine .bind (.upd (fun s' hs => S.tn s' _ hs) (fun _ => rfl)) (fun _ => ?_)
  refine .getBind (fun s1 => ?_)
  show Both ek ecb I E _ (match serialize sig s1 with
    | .error e => throw e
    | .ok p => _)
  generalize serialize sig s1 = x
  rcases x with e | p
  · exact .raise S.toStable0 _
  · refine .bind (.openW S.toStable0 _ (Or.inr rfl)) (fun _ => ?_)
    exact .close S.toStable0 _ (.proto S.toStable0 _ _ (Or.inr rfl))

theorem both_save {I E : St → Prop} (cfg : Cfg) (sig : List (String × Bool)) (tnames : List String) (dir name : String)
    (v : Bool) (S : Stable (joinPath dir (name ++ ".data")) (joinPath dir name) I E) :
    Both ek ecb I E (save cfg sig tnames dir name v) (save cfg sig tnames dir name (v && !ecb)) := by
  unfold save
  refine .getBind (fun s0 => ?_)
  -- the guards look at pointers and heap, which the erasure leaves alone
  simp only [er_cv, er_heap, er_tn]
  exact .ite (.raise S.toStable0 _) (.ite (.raise S.toStable0 _)
    (.ite (.fin (both_irSave sig tnames dir name _ v S) (fun s' hs => S.tn s' _ hs) (fun s' hs => S.tnE s' _ hs) (fun _ => rfl))
      (both_irSave sig tnames dir name _ v S)))

theorem tri_save {I E : St → Prop} (cfg : Cfg) (sig : List (String × Bool)) (tnames : List String) (dir name : String)
    (verbose : Bool) (S : Stable (joinPath dir (name ++ ".data")) (joinPath dir name) I E) :
    Tri I E (save cfg sig tnames dir name verbose) :=
  (both_save (ek := false) (ecb := false) cfg sig tnames dir name verbose S).1

theorem inv_save {I : St → Prop} (cfg : Cfg) (sig : List (String × Bool)) (tnames : List String) (dir name : String)
    (verbose : Bool) (S : Stable (joinPath dir (name ++ ".data")) (joinPath dir name) I I) :
    Inv I (save cfg sig tnames dir name verbose) :=
  inv_iff_tri.2 (tri_save cfg sig tnames dir name verbose S)

theorem runSave_frame (cfg : Cfg) (m : Model) (dir name : String) (verbose : Bool) (fs : FS) (k : Option Nat)
    (p : String) (h1 : p ≠ joinPath dir (name ++ ".data")) (h2 : p ≠ joinPath dir name) :
    FS.get? (runSave cfg m dir name verbose fs k).st.fs p = FS.get? fs p :=
  inv_save cfg m.sig m.tnames dir name (verbose && cfg.tqdm)
    (stable_frame fs (joinPath dir (name ++ ".data")) (joinPath dir name)) (init m fs k) (fun _ _ _ => rfl) p h1 h2

theorem sim_save (cfg : Cfg) (sig : List (String × Bool)) (tnames : List String) (dir name : String) (v : Bool) :
    Sim ek ecb (save cfg sig tnames dir name v) (save cfg sig tnames dir name (v && !ecb)) :=
  (both_save (I := fun _ => True) (E := fun _ => True) cfg sig tnames dir name v {}).2

end OV.C20
