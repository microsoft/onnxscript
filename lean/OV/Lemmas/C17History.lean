import OV.Model.C17OpsetGen
/-! Lemmas for C17: histories of `Opset.__new__` and of dynamic lookups. -/
namespace OV.C17

/-- every cached key points at an instance carrying exactly the key's class, domain and version -/
def WF (st : OState) : Prop :=
  ∀ e ∈ st.cache, st.insts[e.2]? = some ⟨e.1.1, e.1.2.1, e.1.2.2⟩

theorem WF_empty : WF OState.empty := nofun

theorem cacheGet_mem {k : Nat × Nat × Nat} {l : List ((Nat × Nat × Nat) × Nat)} {i : Nat}
    (h : cacheGet k l = some i) : (k, i) ∈ l := by
  induction l with
  | nil => cases h
  | cons e es ih =>
    simp only [cacheGet] at h
    split at h
    · next he => cases h; exact beq_iff_eq.mp he ▸ List.mem_cons_self
    · exact List.mem_cons_of_mem _ (ih h)

theorem step_state (reg : List Schema) (st : OState) (c : Cmd) :
    (step reg st c).1 = st ∨ ∃ k, cacheGet k st.cache = none ∧
      (step reg st c).1 = ⟨(k, st.insts.length) :: st.cache, st.insts ++ [⟨k.1, k.2.1, k.2.2⟩]⟩ := by
  cases c with
  | new cl d v =>
    simp only [step]
    split
    · split <;> exact .inl rfl
    · next h => exact .inr ⟨(cl, d, v), h, rfl⟩
  | getattr j n =>
    simp only [step]
    split
    · split <;> exact .inl rfl
    · exact .inl rfl
  | _ => simp only [step]; split <;> exact .inl rfl

/-- what later steps rely on: instances stay, cached keys keep pointing where they did, well-formedness -/
def Keeps (st st' : OState) : Prop :=
  (∀ (i : Nat) x, st.insts[i]? = some x → st'.insts[i]? = some x) ∧
    (∀ k i, cacheGet k st.cache = some i → cacheGet k st'.cache = some i) ∧ (WF st → WF st')

theorem step_keeps (reg : List Schema) (st : OState) (c : Cmd) : Keeps st (step reg st c).1 := by
  rcases step_state reg st c with h | ⟨k, hk, h⟩ <;> rw [h]
  · exact ⟨fun _ _ h => h, fun _ _ h => h, id⟩
  · have grow : ∀ (i : Nat) x, st.insts[i]? = some x → (st.insts ++ [⟨k.1, k.2.1, k.2.2⟩])[i]? = some x :=
      fun i x hx => by rw [List.getElem?_append_left (List.getElem?_eq_some_iff.mp hx).1]; exact hx
    refine ⟨grow, fun k' i hk' => ?_, fun hwf e he => ?_⟩
    · simp only [cacheGet]
      split
      · next heq => rw [beq_iff_eq.mp heq, hk'] at hk; cases hk
      · exact hk'
    · rcases List.mem_cons.mp he with rfl | he
      · simp
      · exact grow _ _ (hwf e he)

theorem run_keeps (reg : List Schema) (st : OState) (cs : List Cmd) : Keeps st (run reg st cs).1 := by
  induction cs generalizing st with
  | nil => exact ⟨fun _ _ h => h, fun _ _ h => h, id⟩
  | cons c cs ih =>
    have h1 := step_keeps reg st c
    have h2 := ih (step reg st c).1
    exact ⟨fun i x h => h2.1 i x (h1.1 i x h), fun k i h => h2.2.1 k i (h1.2.1 k i h), fun h => h2.2.2 (h1.2.2 h)⟩

theorem new_gives (schemas : List Schema) (st : OState) (h : WF st) (c d v : Nat) :
    ∃ i, (step schemas st (.new c d v)).2 = .inst i d v ∧
      (step schemas st (.new c d v)).1.insts[i]? = some ⟨c, d, v⟩ ∧
      cacheGet (c, d, v) (step schemas st (.new c d v)).1.cache = some i := by
  simp only [step]
  cases hg : cacheGet (c, d, v) st.cache with
  | some i =>
    have := h _ (cacheGet_mem hg)
    simp only at this
    exact ⟨i, by simp only [this], by simp only [this], by simp only [this]; exact hg⟩
  | none => exact ⟨st.insts.length, rfl, by simp, by simp [cacheGet]⟩

end OV.C17
