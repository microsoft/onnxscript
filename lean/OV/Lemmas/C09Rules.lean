import OV.Lemmas.C09Shape
/-! Lemmas for the rules and evaluators that read single entries: `sliceRange1`, `gather` and `concat` on shape values,
what `add` records, the invariant `UnnamedNonneg`. -/
namespace OV.C09

theorem sliceRange1_bounds {d : Int} (hd : 0 ≤ d) (st en : Int) :
    (0 ≤ (sliceRange1 d st en).1 ∧ (sliceRange1 d st en).1 ≤ d) ∧
    (0 ≤ (sliceRange1 d st en).2 ∧ (sliceRange1 d st en).2 ≤ d) := by
  have clamp : ∀ x : Int, 0 ≤ max 0 (min d x) ∧ max 0 (min d x) ≤ d := fun x => by omega
  exact ⟨clamp _, clamp _⟩

/-- two points of `[0, d]` at distance `d` are its ends -/
theorem sliceRange1_full_of_length (d st en : Int) (hd : 0 ≤ d)
    (h : max 0 ((sliceRange1 d st en).2 - (sliceRange1 d st en).1) = d) :
    d = 0 ∨ sliceRange1 d st en = (0, d) := by
  have hb := sliceRange1_bounds hd st en
  generalize sliceRange1 d st en = p at h hb
  rw [Prod.ext_iff]
  omega

theorem sliceRange1_zero_big (d en : Int) (hd : 0 ≤ d) (he : d ≤ en) : sliceRange1 d 0 en = (0, d) := by
  simp only [sliceRange1, Prod.mk.injEq]
  omega

theorem onnxGatherAxis0_eq (l idx : List Int) : onnxGatherAxis0 l idx = seqOpt (idx.map (pyIndex l)) :=
  congrArg seqOpt (List.map_congr_left fun i _ => (pyIndex_eq_onnx l i).symm)

theorem evalGather_axis0 (s : Shape) (idx : List Int) : evalGather (some s) (some 0) (some idx) =
    match seqOpt (idx.map (pyIndex s)) with
    | none => .raised
    | some g => .ret (some { sym := some g, const := allInts g }) := by
  simp only [evalGather, ne_eq, not_true_eq_false, if_false]
  cases seqOpt (idx.map (pyIndex s)) <;> rfl

/-- Two lists of one length gathered through one index list.  The property theorems take `Admits σ`, `UnnamedNonneg`
and `fun _ _ => True` for `P`. -/
theorem gather_both {α β} {a : List α} {b : List β} (h : a.length = b.length) {P : List α → List β → Prop}
    (nil : P [] [])
    (cons : ∀ {n : Nat} {x y xs ys}, a[n]? = some x → b[n]? = some y → P xs ys → P (x :: xs) (y :: ys)) :
    ∀ idx : List Int, (seqOpt (idx.map (pyIndex a)) = none ∧ seqOpt (idx.map (pyIndex b)) = none) ∨
      ∃ ga gb, seqOpt (idx.map (pyIndex a)) = some ga ∧ seqOpt (idx.map (pyIndex b)) = some gb ∧ P ga gb
  | [] => .inr ⟨[], [], rfl, rfl, nil⟩
  | i :: idx => by
    rw [List.map_cons, List.map_cons, seqOpt_cons, seqOpt_cons]
    rcases pyIndex_of_length h i with ⟨e1, e2⟩ | ⟨n, x, y, hx, hy, e1, e2⟩
    · rw [e1, e2]; exact .inl ⟨rfl, rfl⟩
    · rw [e1, e2]
      rcases gather_both h nil cons idx with ⟨r1, r2⟩ | ⟨ga, gb, r1, r2, hp⟩
      · rw [r1, r2]; exact .inl ⟨rfl, rfl⟩
      · rw [r1, r2]; exact .inr ⟨_, _, rfl, rfl, cons hx hy hp⟩

theorem flatten_rel {R : Shape → List Int → Prop} (nil : R [] [])
    (append : ∀ {s l s' l'}, R s l → R s' l' → R (s ++ s') (l ++ l')) :
    ∀ (ss : List Shape) (ls : List (List Int)) (h : ss.length = ls.length),
      (∀ k (hk : k < ss.length), R ss[k] (ls[k]'(h ▸ hk))) → R ss.flatten ls.flatten
  | [], [], _, _ => nil
  | [], _ :: _, h, _ => by cases h
  | _ :: _, [], h, _ => by cases h
  | s :: ss, l :: ls, h, hk =>
    append (hk 0 (Nat.succ_pos _))
      (flatten_rel nil append ss ls (Nat.succ.inj h) fun k hk' => hk (k + 1) (Nat.succ_lt_succ hk'))

theorem Dim.render_isSome {d : Dim} {r : String} (h : d.render = some r) : d.isUnknown = false := by
  cases d with
  | unknown => cases h
  | _ => rfl

theorem Dim.nonneg_of_admits {σ : String → Nat} {d : Dim} {v : Int} (hu : d.isUnknown = false)
    (hn : d.isNegInt = false) (h : d.Admits σ v) : 0 ≤ v := by
  cases d with
  | known n => have := of_decide_eq_false hn; have : n = v := h; omega
  | sym a => have : (σ a : Int) = v := h; omega
  | unknown => cases hu

theorem evalAdd_eq_some {a b : Option Shape} {r : Shape} (h : evalAdd a b = some r) :
    ∃ d₀ d₁, a = some [d₀] ∧ b = some [d₁] ∧
      ((∃ x y, d₀ = .known x ∧ d₁ = .known y ∧ r = [.known (x + y)]) ∨
       (∃ nm, r = [.sym nm] ∧ d₀.isUnknown = false ∧ d₁.isUnknown = false ∧
          d₀.isNegInt = false ∧ d₁.isNegInt = false)) := by
  unfold evalAdd at h
  split at h
  · split at h
    · cases h; exact ⟨_, _, rfl, rfl, .inl ⟨_, _, rfl, rfl, rfl⟩⟩
    · split at h
      · next h0 h1 =>
        split at h
        · cases h
        · next hneg =>
          cases h
          rw [Bool.or_eq_true, not_or, Bool.not_eq_true, Bool.not_eq_true] at hneg
          exact ⟨_, _, rfl, rfl, .inr ⟨_, rfl, Dim.render_isSome h0, Dim.render_isSome h1, hneg.1, hneg.2⟩⟩
      · cases h
  · cases h

/-- the invariant entry by entry: it speaks of the positions both lists have -/
theorem unnamedNonneg_iff : ∀ {s : Shape} {l : List Int},
    UnnamedNonneg s l ↔ ∀ p ∈ s.zip l, p.1 = .unknown → 0 ≤ p.2
  | [], _ => ⟨fun _ _ hp => (nomatch hp), fun _ => trivial⟩
  | _ :: _, [] => ⟨fun _ _ hp => (nomatch hp), fun _ => trivial⟩
  | _ :: _, _ :: _ => by
    rw [List.zip_cons_cons, List.forall_mem_cons]
    exact and_congr_right fun _ => unnamedNonneg_iff

theorem unnamedNonneg_of_nonneg (s : Shape) (l : List Int) (h : ∀ v ∈ l, 0 ≤ v) : UnnamedNonneg s l :=
  unnamedNonneg_iff.mpr fun p hp _ => h p.2 (List.of_mem_zip hp).2

theorem unnamedNonneg_append {s1 s2 : Shape} {l1 l2 : List Int} (hl : s1.length = l1.length)
    (h1 : UnnamedNonneg s1 l1) (h2 : UnnamedNonneg s2 l2) : UnnamedNonneg (s1 ++ s2) (l1 ++ l2) := by
  rw [unnamedNonneg_iff, List.zip_append hl] at *
  exact fun p hp => (List.mem_append.mp hp).elim (h1 p) (h2 p)

theorem unnamedNonneg_getElem? (n : Nat) {s : Shape} {l : List Int} {v : Int} (hu : UnnamedNonneg s l)
    (hd : s[n]? = some .unknown) (hv : l[n]? = some v) : 0 ≤ v :=
  unnamedNonneg_iff.mp hu (.unknown, v) (List.mem_of_getElem? (List.getElem?_zip_eq_some.mpr ⟨hd, hv⟩)) rfl

end OV.C09
