import OV.Model.C10VersionConv
/-! The adapter table (`Adapts`), the invariant of the conversion loop at every nesting depth (`Leafwise`: a visit that
raises nothing acts leaf by leaf; readings enter at the leaf only), `nativeConvert` and the pass around it on a
self-consistent model. -/
namespace OV.C10

universe u

/-- The step at which the registry holds an adapter for the operator. -/
def Op.adapterAt : Op → Option Nat
  | .dft .. => some 19
  | .gridSample .. => some 19
  | .groupNorm .. => some 20
  | _ => none

/-- The vis test of `groupnormalization_20_21` as a proposition. -/
def GN.static (n : GN) : Prop := n.xVis = .known ∧ n.sVis = .known ∧ n.bVis = .known

/-- What `adapt op v` returns, row by row (`adapts`); the facts about the adapters are case analyses of this table. -/
inductive Adapts : Op → Nat → AdaptRes → Prop
  | unregistered {op v} : op.adapterAt ≠ some v → Adapts op v .noAdapter
  | gsRename {m a p m'} :
      (m.getD "linear" = "bilinear" ∧ m' = "linear") ∨ (m.getD "linear" = "bicubic" ∧ m' = "cubic") →
      Adapts (.gridSample m a p) 19 (.replaced [.gridSample (some m') (some (a.getD 0)) (some (p.getD "zeros"))])
  | gsKeep {m a p} : m.getD "linear" ≠ "bilinear" → m.getD "linear" ≠ "bicubic" → Adapts (.gridSample m a p) 19 .retNone
  | dft {a i o l ai r} :
      Adapts (.dft a i o l ai r) 19
        (.replaced [.const true [a.getD 1], .dft none (some (i.getD 0)) (some (o.getD 0)) l (some (a.getD 1)) r])
  | gnRaised {n} : (n.hasX && n.hasScale && n.hasBias) = false ∨ n.groups = none → Adapts (.groupNorm n) 20 .raised
  | gnDyn {n g} : (n.hasX && n.hasScale && n.hasBias) = true → n.groups = some g → ¬ n.static →
      Adapts (.groupNorm n) 20 (.replaced (gnDynReplacement n))
  | gnStatic {n g} : (n.hasX && n.hasScale && n.hasBias) = true → n.groups = some g → n.static →
      g ≠ n.c → g = n.sLen → g = n.bLen → Adapts (.groupNorm n) 20 (.replaced (gnReplacement n g))
  | gnKeep {n g} : (n.hasX && n.hasScale && n.hasBias) = true → n.groups = some g → n.static →
      ¬ (g ≠ n.c ∧ g = n.sLen ∧ g = n.bLen) → Adapts (.groupNorm n) 20 .retNone

theorem adapt_unregistered {op : Op} {v : Nat} (h : op.adapterAt ≠ some v) : adapt op v = .noAdapter := by
  cases op <;> first | rfl | exact if_neg (fun hv => h (by rw [hv]; rfl))

theorem gn_static_iff (n : GN) : (n.xVis = .known && n.sVis = .known && n.bVis = .known) = true ↔ n.static := by
  simp [GN.static, and_assoc]

theorem adapts (op : Op) (v : Nat) : Adapts op v (adapt op v) := by
  by_cases hr : op.adapterAt = some v
  · cases op with
    | plain _ => cases hr
    | const _ _ => cases hr
    | call _ => cases hr
    | gridSample m a p =>
      cases hr
      simp only [adapt, if_true, gridsample_19_20, beq_iff_eq]
      split
      · exact .gsRename (.inl ⟨‹_›, rfl⟩)
      · split
        · exact .gsRename (.inr ⟨‹_›, rfl⟩)
        · exact .gsKeep ‹_› ‹_›
    | dft a i o l ai r => cases hr; exact .dft
    | groupNorm n =>
      cases hr
      simp only [adapt, if_true, groupnormalization_20_21]
      cases hin : (n.hasX && n.hasScale && n.hasBias) with
      | false => exact .gnRaised (.inl hin)
      | true =>
        cases hg : n.groups with
        | none => exact .gnRaised (.inr hg)
        | some g =>
          by_cases hs : n.static
          · simp only [(gn_static_iff n).mpr hs, Bool.not_true, Bool.false_eq_true, if_false,
              Bool.and_eq_true, decide_eq_true_eq, and_assoc]
            split
            · rename_i h; exact .gnStatic hin hg hs h.1 h.2.1 h.2.2
            · exact .gnKeep hin hg hs ‹_›
          · simp only [Bool.not_true, Bool.false_eq_true, if_false, mt (gn_static_iff n).mp hs,
              Bool.not_false, if_true]
            exact .gnDyn hin hg hs
  · rw [adapt_unregistered hr]; exact .unregistered hr

theorem adapts_of_eq {op : Op} {v : Nat} {r : AdaptRes} (h : adapt op v = r) : Adapts op v r := h ▸ adapts op v

theorem adapt_ne_noAdapter_iff {op : Op} {v : Nat} : adapt op v ≠ .noAdapter ↔ op.adapterAt = some v := by
  refine ⟨fun h => Classical.byContradiction fun hr => h (adapt_unregistered hr), fun hr h => ?_⟩
  cases adapts_of_eq h with
  | unregistered hn => exact hn hr

/-- The `gnRaised` row excludes the three other GroupNormalization rows. -/
theorem gn_not_raised {n : GN} {g : Nat} (hin : (n.hasX && n.hasScale && n.hasBias) = true) (hg : n.groups = some g) :
    ¬ ((n.hasX && n.hasScale && n.hasBias) = false ∨ n.groups = none) :=
  fun hc => hc.elim (fun h => nomatch hin.symm.trans h) (fun h => nomatch hg.symm.trans h)

theorem adapt_raised_iff (op : Op) (v : Nat) :
    adapt op v = .raised ↔
      ∃ n, op = .groupNorm n ∧ v = 20 ∧ ((n.hasX && n.hasScale && n.hasBias) = false ∨ n.groups = none) := by
  constructor
  · intro h
    cases adapts_of_eq h with
    | gnRaised hc => exact ⟨_, rfl, rfl, hc⟩
  · rintro ⟨n, rfl, rfl, hc⟩
    have h := adapts (.groupNorm n) 20
    generalize adapt (.groupNorm n) 20 = r at h
    cases h with
    | unregistered h => exact absurd rfl h
    | gnRaised => rfl
    | gnDyn hin hg | gnStatic hin hg | gnKeep hin hg => exact absurd hc (gn_not_raised hin hg)

/-- Every replacement keeps exactly one non-auxiliary node (the rewritten operator). -/
theorem replaced_one_principal {op : Op} {v : Nat} {news : List Op} (h : adapt op v = .replaced news) :
    pmOps (fun _ _ => ()) (v + 1) news = pmOps (fun _ _ => ()) v [op] := by
  cases adapts_of_eq h <;> rfl

theorem children_quiet {op : Op} {v : Nat} {news : List Op} (h : adapt op v = .replaced news) :
    ∀ o ∈ news, ∀ v', v < v' → adapt o v' = .noAdapter := by
  -- row by row, the new nodes are auxiliary or of the operator's own kind
  have key : news.all (fun o => o.adapterAt.all (· ≤ v)) = true := by cases adapts_of_eq h <;> rfl
  intro o ho v' hv
  refine adapt_unregistered (fun e => ?_)
  have := List.all_eq_true.mp key o ho
  rw [e] at this
  exact absurd (of_decide_eq_true this) (by omega)

theorem good_of_quiet {β} (μ : Op → Nat → β) {o : Op} {v : Nat} (h : adapt o v = .noAdapter) : Good μ o v := by
  unfold Good; rw [h]; trivial

theorem meaning_congr {op : Op} {v v' : Nat} (h : ∀ a, op.adapterAt = some a → (v ≤ a ↔ v' ≤ a)) :
    op.meaning v = op.meaning v' := by
  cases op with
  | plain _ => rfl
  | const _ _ => rfl
  | call _ => rfl
  | gridSample m a p => simp only [Op.meaning, gsInterp, h 19 rfl]
  | dft a i o l ai r => simp only [Op.meaning, h 19 rfl]
  | groupNorm n => simp only [Op.meaning, h 20 rfl]

/-- `Props.C10.meaning_mono` is this statement under the name the audit reads (as `Props.C10.adapter_raises_iff` is
`adapt_raised_iff`); the lemma files use it below Props (`nativeConvert_closed`, `stepsE_eval`). -/
theorem meaning_mono_lemma : Mono Op.meaning := by
  intro op v h
  cases adapts_of_eq h with
  | unregistered hr => exact meaning_congr (fun a ha => by have : a ≠ v := fun e => hr (e ▸ ha); omega)

theorem gs_rename_meaning {m : Option String} {a : Option Int} {p : Option String} {m' : String}
    (h : (m.getD "linear" = "bilinear" ∧ m' = "linear") ∨ (m.getD "linear" = "bicubic" ∧ m' = "cubic")) :
    (Op.gridSample (some m') (some (a.getD 0)) (some (p.getD "zeros"))).meaning 20 = (Op.gridSample m a p).meaning 19 := by
  rcases h with ⟨hm, rfl⟩ | ⟨hm, rfl⟩ <;> cases m <;>
    first | exact absurd hm (by decide) | (obtain rfl := hm; simp [Op.meaning, gsInterp])

theorem gn_valid {n : GN} {v : Nat} (hv : v ≤ 20) (h : (Op.meaning (.groupNorm n) v).isSome) :
    ∃ g, n.groups = some g ∧ (n.hasX && n.hasScale && n.hasBias) = true ∧ g * (n.c / g) = n.c ∧
      n.sLen = g ∧ n.bLen = g := by
  cases hg : n.groups with
  | none => simp [Op.meaning, hg] at h
  | some g =>
    simp only [Op.meaning, hg, hv, if_true] at h
    refine ⟨g, rfl, ?_⟩
    cases hin : (n.hasX && n.hasScale && n.hasBias) with
    | false => simp [hin] at h
    | true =>
      by_cases hd : g * (n.c / g) = n.c
      · by_cases hl : n.sLen = g ∧ n.bLen = g
        · exact ⟨rfl, hd, hl⟩
        · simp [hin, hd, hl] at h
      · simp [hin, hd] at h

theorem good_of_valid (op : Op) (s v' : Nat) (hv : (op.meaning s).isSome) (hle : s ≤ v') : Good Op.meaning op v' := by
  have h := adapts op v'
  unfold Good
  generalize adapt op v' = r at h
  cases h with
  | unregistered => trivial
  | gsRename hm => exact congrArg (fun x => [x]) (gs_rename_meaning hm)
  | @gsKeep m a p h1 h2 =>
    rw [meaning_congr (v' := 19) (fun a ha => by cases ha; omega)] at hv
    cases m with
    | none => rfl
    | some ms =>
      simp only [Op.meaning, gsInterp, Nat.le_refl, if_true, beq_iff_eq, Option.getD_some] at hv h1 h2 ⊢
      by_cases h3 : ms = "nearest"
      · simp [h3]
      · simp [h1, h2, h3] at hv
  | @dft a i o l ai r =>
    rw [meaning_congr (v' := 19) (fun a ha => by cases ha; omega)] at hv
    cases ai with
    | none => rfl
    | some _ => simp [Op.meaning] at hv
  | gnRaised hc =>
    obtain ⟨g, hg, hin, _⟩ := gn_valid hle hv
    exact absurd hc (gn_not_raised hin hg)
  | gnDyn =>
    -- both sides read as `gn g eps C`: the new lengths are `g · (C / g) = C`
    obtain ⟨g, hg, hin, hdiv, ls, lb⟩ := gn_valid hle hv
    simp [gnDynReplacement, pmOps, Op.isAux, Op.meaning, hg, hin, ls, lb, hdiv]
  | gnStatic _ hg' =>
    obtain ⟨g, hg, hin, hdiv, ls, lb⟩ := gn_valid hle hv
    cases hg'.symm.trans hg
    simp [gnReplacement, pmOps, Op.isAux, Op.meaning, hg, hin, hdiv, ls, lb]
  | @gnKeep n g' _ hg' _ hk =>
    -- nothing to do: `num_groups = C`, so the per-group and the per-channel layout coincide
    obtain ⟨g, hg, hin, hdiv, ls, lb⟩ := gn_valid hle hv
    cases hg'.symm.trans hg
    have hgc : g' = n.c := Classical.byContradiction fun hne => hk ⟨hne, ls.symm, lb.symm⟩
    simp [Op.meaning, hg, hin, ls, lb, ← hgc]

theorem good_unit_of_not_raised {op : Op} {v : Nat} (h : adapt op v ≠ .raised) : Good (fun _ _ => ()) op v := by
  unfold Good
  cases hA : adapt op v with
  | raised => exact h hA
  | noAdapter => trivial
  | retNone => rfl
  | replaced news => exact replaced_one_principal hA

theorem good_unit_of_wellformed {op : Op} (h : WellFormedGN op) (v : Nat) : Good (fun _ _ => ()) op v := by
  refine good_unit_of_not_raised (fun hA => ?_)
  obtain ⟨n, hop, _, hc⟩ := (adapt_raised_iff op v).mp hA
  obtain ⟨⟨hx, hs, hb⟩, hg⟩ := h n hop
  rcases hc with hc | hc
  · simp [hx, hs, hb] at hc
  · exact hg hc

theorem pmOps_eq {β} (μ : Op → Nat → β) (v : Nat) (os : List Op) :
    pmOps μ v os = (os.filter (fun o => !o.isAux)).map (μ · v) := by
  induction os with
  | nil => rfl
  | cons o os ih => rw [pmOps, ih, List.filter_cons]; cases o.isAux <;> rfl

theorem pmLeaves_eq {β} (μ : Op → Nat → β) (d : Nat) (ls : List Leaf) :
    pmLeaves μ d ls = (ls.filter (fun l => !l.op.isAux)).map (fun l => μ l.op (l.readAt d)) := by
  induction ls with
  | nil => rfl
  | cons l ls ih => rw [pmLeaves, ih, List.filter_cons]; cases l.op.isAux <;> rfl

theorem pmOps_flatMap {β} (μ : Op → Nat → β) (w w' : Nat) (f : Op → List Leaf) (news : List Op)
    (h : ∀ o ∈ news, pmOps μ w ((f o).map (·.op)) = pmOps μ w' [o]) :
    pmOps μ w ((news.flatMap f).map (·.op)) = pmOps μ w' news := by
  conv => rhs; rw [← List.flatMap_singleton' news]
  simp only [pmOps_eq, List.map_flatMap, List.filter_flatMap] at h ⊢
  rw [List.flatMap_def, List.flatMap_def, List.map_congr_left h]

theorem pmLeaves_flatMap {β} (μ : Op → Nat → β) (s t : Nat) (f : Leaf → List Leaf) (ls : List Leaf)
    (h : ∀ a ∈ ls, pmLeaves μ t (f a) = pmLeaves μ s [a]) : pmLeaves μ t (ls.flatMap f) = pmLeaves μ s ls := by
  conv => rhs; rw [← List.flatMap_singleton' ls]
  simp only [pmLeaves_eq, List.filter_flatMap, List.map_flatMap] at h ⊢
  rw [List.flatMap_def, List.flatMap_def, List.map_congr_left h]

theorem pmLeaves_eq_pmOps {β} (μ : Op → Nat → β) (d w : Nat) (ls : List Leaf)
    (h : ∀ l ∈ ls, l.dflt = true ∧ l.eff d = w) :
    pmLeaves μ d ls = pmOps μ w (ls.map (·.op)) := by
  rw [pmLeaves_eq, pmOps_eq, List.filter_map, List.map_map]
  exact List.map_congr_left fun l hl => by
    have := h l (List.mem_filter.mp hl).1
    simp only [Leaf.readAt, this.1, this.2, if_true, Function.comp]

theorem pmLeaves_mem {β} (μ : Op → Nat → β) (d : Nat) (ls : List Leaf) (x : β) :
    x ∈ pmLeaves μ d ls ↔ ∃ l ∈ ls, l.op.isAux = false ∧ μ l.op (l.readAt d) = x := by
  simp [pmLeaves_eq, and_assoc]

theorem eff_of_version {l : Leaf} {d w : Nat} (h : l.version = some w) : l.eff d = w := by
  simp [Leaf.eff, h]

theorem eff_new_of_old {l : Leaf} {s t : Nat} (h : l.eff s = t) : l.eff t = t := by
  unfold Leaf.eff at *
  cases hv : l.version with
  | none => rfl
  | some w => rw [hv] at h; exact h

theorem leafSteps_spec {β} (μ : Op → Nat → β) (hμ : Mono μ) :
    ∀ (k v : Nat) (l : Leaf), (∀ v', v ≤ v' → v' < v + k → Good μ l.op v') →
      (∀ l' ∈ leafSteps k v l, (∀ d, l.eff d = v → l'.eff d = v + k) ∧
          (l.dflt = true → l'.dflt = true) ∧ (l.refAttr = false → l'.refAttr = false)) ∧
      pmOps μ (v + k) ((leafSteps k v l).map (·.op)) = pmOps μ v [l.op] := by
  intro k
  induction k with
  | zero => exact fun v l _ => ⟨fun l' hl' => List.mem_singleton.mp hl' ▸ ⟨fun _ h => h, id, id⟩, rfl⟩
  | succ k ih =>
    intro v l hgood
    have hg : Good μ l.op v := hgood v (Nat.le_refl _) (by omega)
    have hv : v + (k + 1) = v + 1 + k := by omega
    unfold Good at hg
    unfold leafSteps
    rw [hv]
    cases hA : adapt l.op v with
    | raised => rw [hA] at hg; exact hg.elim
    | noAdapter | retNone =>
      -- the node is stamped `v+1`; its reading does not change (no adapter: `hμ`; adapter returned `None`: `hg`)
      have hst : μ l.op (v + 1) = μ l.op v := by first | exact hμ _ _ hA | (rw [hA] at hg; exact hg)
      obtain ⟨hm, hp⟩ := ih (v + 1) { l with version := some (v + 1) } (fun v' h1 h2 => hgood v' (by omega) (by omega))
      refine ⟨fun l' hl' => ⟨fun d _ => (hm l' hl').1 d rfl, (hm l' hl').2⟩, ?_⟩
      rw [hp]; simp only [pmOps, hst]
    | replaced news =>
      rw [hA] at hg
      have hchild : ∀ o ∈ news, _ := fun o ho =>
        ih (v + 1) (newLeaf o (v + 1)) (fun v' h1 _ => good_of_quiet μ (children_quiet hA o ho v' (by omega)))
      refine ⟨fun l' hl' => ?_, ?_⟩
      · obtain ⟨o, ho, hl'⟩ := List.mem_flatMap.mp hl'
        obtain ⟨a, c, d⟩ := (hchild o ho).1 l' hl'
        exact ⟨fun d _ => a d rfl, fun _ => c rfl, fun _ => d rfl⟩
      · rw [pmOps_flatMap μ (v + 1 + k) (v + 1) _ news (fun o ho => (hchild o ho).2), hg]

theorem Good.not_raised {β} {μ : Op → Nat → β} {op : Op} {v : Nat} (h : Good μ op v) : adapt op v ≠ .raised :=
  fun e => by unfold Good at h; rw [e] at h; exact h

theorem leafSteps_stamps (k v : Nat) (l : Leaf) (h : ∀ v', v ≤ v' → v' < v + k → adapt l.op v' ≠ .raised) :
    ∀ l' ∈ leafSteps k v l, (∀ d, l.eff d = v → l'.eff d = v + k) ∧
      (l.dflt = true → l'.dflt = true) ∧ (l.refAttr = false → l'.refAttr = false) :=
  (leafSteps_spec (fun _ _ => ()) (fun _ _ _ => rfl) k v l (fun v' a b => good_unit_of_not_raised (h v' a b))).1

theorem leafSteps_plain {name : String} : ∀ (k v : Nat) (l : Leaf), l.op = .plain name →
    leafSteps (k + 1) v l = [{ l with version := some (v + k + 1) }]
  | 0, _, ⟨_, _, _, _⟩, rfl => rfl
  | k + 1, v, ⟨d, _, _, r⟩, rfl =>
    (leafSteps_plain k (v + 1) ⟨d, .plain name, some (v + 1), r⟩ rfl).trans
      (by rw [show v + 1 + k + 1 = v + (k + 1) + 1 by omega])

theorem or_some_eff (l : Leaf) (s : Nat) : l.version.or (some s) = some (l.eff s) := by
  unfold Leaf.eff; cases l.version <;> rfl

theorem visitLeaf_custom (d : Option Nat) (t : Nat) {l : Leaf} (hd : l.dflt = false) : visitLeaf d t l = ([l], none) := by
  simp [visitLeaf, hd]

theorem visitLeaf_steps {s t : Nat} {l : Leaf} (hd : l.dflt = true) (hr : l.refAttr = false) (hle : l.eff s ≤ t) :
    visitLeaf (some s) t l = (leafSteps (t - l.eff s) (l.eff s) l, none) := by
  simp only [visitLeaf, hd, or_some_eff, hr, Nat.not_lt.mpr hle, Bool.not_true, Bool.false_eq_true, if_false]

/-- What the visit leaves in the place of one node without subgraphs. -/
abbrev convLeaf (s t : Nat) (l : Leaf) : List Leaf := (visitLeaf (some s) t l).1

theorem visitLeaf_post {β} {μ : Op → Nat → β} {s t : Nat} {l : Leaf} (hp : LeafPre μ s t l) :
    (visitLeaf (some s) t l).2 = none ∧
    ∀ l' ∈ convLeaf s t l, LeafPre μ s t l' ∧ (l'.dflt = true → l'.eff s = t) := by
  cases hd : l.dflt with
  | false =>
    rw [convLeaf, visitLeaf_custom _ _ hd]
    exact ⟨rfl, fun l' hl' => by rw [List.mem_singleton.mp hl']; exact ⟨hp, fun h => by rw [hd] at h; cases h⟩⟩
  | true =>
    have hle := hp.le hd
    rw [convLeaf, visitLeaf_steps hd (hp.noRef hd) hle]
    refine ⟨rfl, fun l' hl' => ?_⟩
    obtain ⟨a, -, c⟩ := leafSteps_stamps _ _ l (fun v' h1 h2 => (hp.good hd v' h1 (by omega)).not_raised) l' hl'
    have he : l'.eff s = t := (a s rfl).trans (by omega)
    exact ⟨⟨fun _ => c (hp.noRef hd), fun _ => by omega, fun _ v' h1 h2 => by omega⟩, fun _ => he⟩

theorem visitLeaf_reads {β} (μ : Op → Nat → β) (hμ : Mono μ) {s t : Nat} {l : Leaf} (hp : LeafPre μ s t l) :
    pmLeaves μ t (convLeaf s t l) = pmLeaves μ s [l] := by
  cases hd : l.dflt with
  | false =>
    rw [convLeaf, visitLeaf_custom _ _ hd]
    simp only [pmLeaves, Leaf.readAt, hd, Bool.false_eq_true, if_false]
  | true =>
    have hle := hp.le hd
    have hk : l.eff s + (t - l.eff s) = t := by omega
    rw [convLeaf, visitLeaf_steps hd (hp.noRef hd) hle]
    obtain ⟨hm, hpm⟩ := leafSteps_spec μ hμ (t - l.eff s) (l.eff s) l (fun v' h1 h2 => hp.good hd v' h1 (by omega))
    rw [hk] at hpm
    rw [pmLeaves_eq_pmOps μ t t _ (fun l' hl' =>
        ⟨(hm l' hl').2.1 hd, eff_new_of_old (((hm l' hl').1 s rfl).trans hk)⟩),
      pmLeaves_eq_pmOps μ s (l.eff s) [l] (by simp [hd])]
    exact hpm

theorem visitLeaf_again {β} {μ : Op → Nat → β} {s t : Nat} {l : Leaf} (hp : LeafPre μ s t l)
    (he : l.dflt = true → l.eff s = t) : convLeaf s t l = [l] := by
  cases hd : l.dflt with
  | false => rw [convLeaf, visitLeaf_custom _ _ hd]
  | true => rw [convLeaf, visitLeaf_steps hd (hp.noRef hd) (Nat.le_of_eq (he hd)), he hd, Nat.sub_self]; rfl

/-! The model writes its early-exit loop out three times (`visitLeaves`, `visitGraph`, and `visitBodies`, which keeps one
result per body: a `map`); each stops at the first error and is the plain traversal, a `flatMap`, when there is none. -/

theorem visitLeaves_ok (d : Option Nat) (t : Nat) : ∀ (ls : List Leaf), (∀ l ∈ ls, (visitLeaf d t l).2 = none) →
    visitLeaves d t ls = (ls.flatMap (fun l => (visitLeaf d t l).1), none) := by
  intro ls
  induction ls with
  | nil => intro _; rfl
  | cons l ls ih =>
    intro h
    have hl := h l (List.mem_cons_self ..)
    rw [visitLeaves, ih (fun l' hl' => h l' (List.mem_cons_of_mem _ hl'))]
    rcases hv : visitLeaf d t l with ⟨out, e⟩
    rw [hv] at hl
    cases hl
    rw [List.flatMap_cons, hv]

theorem visitBodies_ok {α : Type} [Inner α] (d : Option Nat) (t : Nat) : ∀ (bs : List (List α)), (∀ b ∈ bs, (Inner.vis d t b).2 = none) →
    visitBodies d t bs = (bs.map (fun b => (Inner.vis d t b).1), none) := by
  intro bs
  induction bs with
  | nil => intro _; rfl
  | cons b bs ih =>
    intro h
    have hb := h b (List.mem_cons_self ..)
    rw [visitBodies, ih (fun b' hb' => h b' (List.mem_cons_of_mem _ hb'))]
    rcases hv : Inner.vis d t b with ⟨out, e⟩
    rw [hv] at hb
    cases hb
    rw [List.map_cons, hv]

theorem visitGraph_ok {α : Type} [Inner α] (d : Option Nat) (t : Nat) : ∀ (ns : List (Node α)), (∀ n ∈ ns, (visitNode d t n).2 = none) →
    visitGraph d t ns = (ns.flatMap (fun n => (visitNode d t n).1), none) := by
  intro ns
  induction ns with
  | nil => intro _; rfl
  | cons n ns ih =>
    intro h
    have hn := h n (List.mem_cons_self ..)
    rw [visitGraph, ih (fun n' hn' => h n' (List.mem_cons_of_mem _ hn'))]
    rcases hv : visitNode d t n with ⟨out, e⟩
    rw [hv] at hn
    cases hn
    rw [List.flatMap_cons, hv]

theorem flatMap_flatMap_congr {A B C : Type} {as : List A} {F : A → List B} {lv' : B → List C} {lv : A → List C}
    {g : C → List C} (h : ∀ a ∈ as, (F a).flatMap lv' = (lv a).flatMap g) :
    (as.flatMap F).flatMap lv' = (as.flatMap lv).flatMap g := by
  rw [List.flatMap_assoc, List.flatMap_assoc, List.flatMap_def, List.flatMap_def (l := as), List.map_congr_left h]

theorem flatMap_self {α : Type} {f : α → List α} {l : List α} (h : ∀ x ∈ l, f x = [x]) : l.flatMap f = l := by
  rw [List.flatMap_def, List.map_congr_left h, ← List.flatMap_def, List.flatMap_singleton']

section lists
variable {β : Type u} {μ : Op → Nat → β} {s t : Nat} {L : List Leaf}

theorem convLeaf_post (hL : ∀ x ∈ L, LeafPre μ s t x) :
    ∀ l' ∈ L.flatMap (convLeaf s t), LeafPre μ s t l' ∧ (l'.dflt = true → l'.eff s = t) := by
  intro l' hl'
  obtain ⟨x, hx, hl'⟩ := List.mem_flatMap.mp hl'
  exact (visitLeaf_post (hL x hx)).2 l' hl'

theorem convLeaf_idem (hL : ∀ x ∈ L, LeafPre μ s t x) :
    (L.flatMap (convLeaf s t)).flatMap (convLeaf s t) = L.flatMap (convLeaf s t) :=
  flatMap_self fun l' hl' => visitLeaf_again (convLeaf_post hL l' hl').1 (convLeaf_post hL l' hl').2

theorem convLeaf_reads (μ : Op → Nat → β) (hμ : Mono μ) (hL : ∀ x ∈ L, LeafPre μ s t x) :
    pmLeaves μ t (L.flatMap (convLeaf s t)) = pmLeaves μ s L :=
  pmLeaves_flatMap μ s t _ L fun a ha => visitLeaf_reads μ hμ (hL a ha)

end lists

theorem mem_leaves {α : Type} [Inner α] {n : Node α} {x : Leaf} :
    x ∈ n.leaves ↔ x = n.leaf ∨ ∃ b ∈ n.bodies, ∃ a ∈ b, x ∈ Inner.leaves a := by
  simp only [Node.leaves, List.mem_cons, List.mem_flatMap, List.mem_flatten]
  constructor
  · rintro (h | ⟨a, ⟨b, hb, ha⟩, hx⟩)
    · exact .inl h
    · exact .inr ⟨b, hb, a, ha, hx⟩
  · rintro (h | ⟨b, hb, a, ha, hx⟩)
    · exact .inl h
    · exact .inr ⟨a, ⟨b, hb, ha⟩, hx⟩

/-- The invariant of the conversion loop, stated of the nodes `α` of a subgraph with their precondition `Pre`: visiting a
list of them raises nothing, re-establishes `Pre`, and acts leaf by leaf — the contained nodes afterwards are those the
visit leaves in the place of each contained node before.  `leafwise_node` carries it one nesting level up, hence
`leafwiseD` at every depth. -/
structure Leafwise {β : Type u} (μ : Op → Nat → β) (s t : Nat) (α : Type) [Inner α] (Pre : α → Prop) : Prop where
  leaves : ∀ a, Pre a → ∀ x ∈ Inner.leaves a, LeafPre μ s t x
  visOk : ∀ ls : List α, (∀ l ∈ ls, Pre l) →
    (Inner.vis (some s) t ls).2 = none ∧
    (∀ l' ∈ (Inner.vis (some s) t ls).1, Pre l') ∧
    (Inner.vis (some s) t ls).1.flatMap Inner.leaves = (ls.flatMap Inner.leaves).flatMap (convLeaf s t)

theorem leafwise_leaf {β : Type u} (μ : Op → Nat → β) (s t : Nat) : Leafwise μ s t Leaf (LeafPre μ s t) := by
  refine ⟨fun a h x hx => List.mem_singleton.mp hx ▸ h, fun ls hp => ?_⟩
  rw [show Inner.vis (some s) t ls = _ from visitLeaves_ok _ _ ls (fun l hl => (visitLeaf_post (hp l hl)).1)]
  refine ⟨rfl, fun l' hl' => (convLeaf_post hp l' hl').1, ?_⟩
  rw [show ∀ l : List Leaf, l.flatMap Inner.leaves = l from fun l => List.flatMap_singleton' l,
    show ∀ l : List Leaf, l.flatMap Inner.leaves = l from fun l => List.flatMap_singleton' l]

section generic
variable {α : Type} [Inner α] {Pre : α → Prop} {β : Type u} {μ : Op → Nat → β} {s t : Nat}

theorem visitBodies_leafwise (S : Leafwise μ s t α Pre) (bs : List (List α)) (hp : ∀ b ∈ bs, ∀ a ∈ b, Pre a) :
    ∃ bs', visitBodies (some s) t bs = (bs', none) ∧ (∀ b ∈ bs', ∀ a ∈ b, Pre a) ∧
      bs'.flatten.flatMap Inner.leaves = (bs.flatten.flatMap Inner.leaves).flatMap (convLeaf s t) := by
  have h := fun b hb => S.visOk b (hp b hb)
  refine ⟨_, visitBodies_ok _ _ bs (fun b hb => (h b hb).1), fun b' hb' => ?_, ?_⟩
  · obtain ⟨b, hb, rfl⟩ := List.mem_map.mp hb'
    exact (h b hb).2.1
  · rw [← List.flatMap_def, List.flatten_eq_flatMap, List.flatMap_assoc (l := bs) (f := id)]
    exact flatMap_flatMap_congr fun b hb => (h b hb).2.2

theorem bodies_leaves (S : Leafwise μ s t α Pre) {bs : List (List α)} (hp : ∀ b ∈ bs, ∀ a ∈ b, Pre a) :
    ∀ x ∈ bs.flatten.flatMap Inner.leaves, LeafPre μ s t x := by
  intro x hx
  obtain ⟨a, ha, hx⟩ := List.mem_flatMap.mp hx
  obtain ⟨b, hb, ha⟩ := List.mem_flatten.mp ha
  exact S.leaves a (hp b hb a ha) x hx

def leafNode (l : Leaf) : Node α := { leaf := l, bodies := [] }

theorem nodeSteps_nobodies (d : Option Nat) (t : Nat) :
    ∀ (k v : Nat) (l : Leaf), nodeSteps d t k v (leafNode l : Node α) = (leafSteps k v l).map leafNode := by
  intro k
  induction k with
  | zero => intro v l; rfl
  | succ k ih =>
    intro v l
    rw [nodeSteps, leafSteps]
    show (match adapt l.op v with | .raised => _ | .replaced news => _ | _ => _) = _
    cases adapt l.op v with
    | raised => exact ih (v + 1) l
    | replaced news =>
      rw [List.map_flatMap]
      exact congrArg (List.flatMap · news) (funext fun o => ih (v + 1) (newLeaf o (v + 1)))
    | noAdapter | retNone => exact ih (v + 1) { l with version := some (v + 1) }

theorem visitNode_custom (d : Option Nat) (t : Nat) {n : Node α} (hd : n.leaf.dflt = false) :
    visitNode d t n = ([n], none) := by
  simp [visitNode, hd]

theorem visitNode_steps {s t : Nat} {n : Node α} (hd : n.leaf.dflt = true) (hr : n.leaf.refAttr = false)
    (hle : n.leaf.eff s ≤ t) :
    visitNode (some s) t n = (nodeSteps (some s) t (t - n.leaf.eff s) (n.leaf.eff s) n, none) := by
  simp only [visitNode, hd, or_some_eff, hr, Nat.not_lt.mpr hle, Bool.not_true, Bool.false_eq_true, if_false]

/-- The step loop on a control-flow node (`k+1` steps): the node is stamped, its subgraphs are converted by
the first step and left alone by the later ones. -/
theorem nodeSteps_leafwise (S : Leafwise μ s t α Pre) :
    ∀ (k v : Nat) (n : Node α) (name : String), n.leaf.op = .plain name →
      (∀ b ∈ n.bodies, ∀ a ∈ b, Pre a) →
      ∃ bs', nodeSteps (some s) t (k + 1) v n = [{ leaf := { n.leaf with version := some (v + k + 1) }, bodies := bs' }] ∧
        (∀ b ∈ bs', ∀ a ∈ b, Pre a) ∧
        bs'.flatten.flatMap Inner.leaves = (n.bodies.flatten.flatMap Inner.leaves).flatMap (convLeaf s t) := by
  intro k
  induction k with
  | zero =>
    intro v n name hop hb
    obtain ⟨bs, h1, h2, h3⟩ := visitBodies_leafwise S n.bodies hb
    exact ⟨bs, by simp [nodeSteps, hop, adapt, h1], h2, h3⟩
  | succ k ih =>
    intro v n name hop hb
    obtain ⟨bs, h1, h2, h3⟩ := visitBodies_leafwise S n.bodies hb
    obtain ⟨bs', j1, j2, j3⟩ := ih (v + 1) { leaf := { n.leaf with version := some (v + 1) }, bodies := bs } name hop h2
    refine ⟨bs', ?_, j2, ?_⟩
    · rw [nodeSteps, hop]; simp only [adapt, h1]
      rw [j1, show v + 1 + k + 1 = v + (k + 1) + 1 by omega]
    · rw [j3, h3]; exact convLeaf_idem (bodies_leaves S hb)

theorem leafNode_pre {β} {μ : Op → Nat → β} {s t : Nat} {l : Leaf} (h : LeafPre μ s t l) :
    NodePre μ s t Pre (leafNode l : Node α) :=
  ⟨h, fun hb => absurd rfl hb, fun _ hb => (nomatch hb), fun _ => rfl, fun _ _ hb => (nomatch hb)⟩

theorem visitNode_leafwise (S : Leafwise μ s t α Pre) (n : Node α) (hp : NodePre μ s t Pre n) :
    (visitNode (some s) t n).2 = none ∧
    (∀ n' ∈ (visitNode (some s) t n).1, NodePre μ s t Pre n') ∧
    (visitNode (some s) t n).1.flatMap Node.leaves = n.leaves.flatMap (convLeaf s t) := by
  by_cases hb : n.bodies = []
  · -- a node without subgraphs
    obtain ⟨l, _⟩ := n
    cases hb
    obtain ⟨h1, h2⟩ := visitLeaf_post hp.leaf
    have hvis : visitNode (some s) t (⟨l, []⟩ : Node α) = ((convLeaf s t l).map leafNode, none) := by
      cases hd : l.dflt with
      | false => rw [visitNode_custom _ _ hd, convLeaf, visitLeaf_custom _ _ hd]; rfl
      | true =>
        rw [visitNode_steps hd (hp.leaf.noRef hd) (hp.leaf.le hd), convLeaf,
          visitLeaf_steps hd (hp.leaf.noRef hd) (hp.leaf.le hd)]
        exact congrArg (·, none) (nodeSteps_nobodies ..)
    rw [hvis]
    refine ⟨rfl, fun n' hn' => ?_, ?_⟩
    · obtain ⟨l', hl', rfl⟩ := List.mem_map.mp hn'
      exact leafNode_pre (h2 l' hl').1
    · simp [List.flatMap_map, Node.leaves, leafNode]
  · obtain ⟨name, hop⟩ := hp.ctrl hb
    have hd : n.leaf.dflt = true := eq_true_of_ne_false fun h => hb (hp.customFlat h)
    have hr := hp.leaf.noRef hd
    have hle := hp.leaf.le hd
    have hL := bodies_leaves S hp.bodies
    rw [visitNode_steps hd hr hle]
    cases hk : t - n.leaf.eff s with
    | zero =>
      -- already written for `t`: nothing is touched, and the subgraphs are written for `t` as well (`sameEff`)
      have het : n.leaf.eff s = t := by omega
      refine ⟨rfl, fun n' hn' => by rw [List.mem_singleton.mp hn']; exact hp, ?_⟩
      simp only [nodeSteps, List.flatMap_cons, List.flatMap_nil, List.append_nil]
      refine (flatMap_self fun x hx => ?_).symm
      rcases mem_leaves.mp hx with rfl | ⟨b, hb', a, ha', hx'⟩
      · exact visitLeaf_again hp.leaf fun _ => het
      · exact visitLeaf_again (S.leaves a (hp.bodies b hb' a ha') x hx') fun hdx => by
          rw [hp.sameEff hd b hb' a ha' x hx' hdx, het]
    | succ k =>
      obtain ⟨bs', j1, j2, j3⟩ := nodeSteps_leafwise S k (n.leaf.eff s) n name hop hp.bodies
      have hst : n.leaf.eff s + k + 1 = t := by omega
      rw [j1, hst]
      refine ⟨rfl, fun n' hn' => ?_, ?_⟩
      · rw [List.mem_singleton.mp hn']
        exact ⟨⟨fun _ => hr, fun _ => Nat.le_of_eq (eff_of_version rfl),
            fun _ v' h1 h2 => by rw [eff_of_version rfl] at h1; omega⟩,
          fun _ => ⟨name, hop⟩, j2, fun h => (by rw [hd] at h; cases h),
          fun _ b hb' a ha l hl hdl => by
            show l.eff s = t
            refine (convLeaf_post hL l ?_).2 hdl
            rw [← j3]
            exact List.mem_flatMap.mpr ⟨a, List.mem_flatten.mpr ⟨b, hb', ha⟩, hl⟩⟩
      · -- the node itself is only stamped
        simp only [List.flatMap_cons, List.flatMap_nil, List.append_nil, Node.leaves, j3]
        rw [convLeaf, visitLeaf_steps hd hr hle, hk, leafSteps_plain k _ _ hop, hst]
        rfl

theorem leafwise_node (S : Leafwise μ s t α Pre) : Leafwise μ s t (Node α) (NodePre μ s t Pre) := by
  refine ⟨fun n hp x hx => ?_, fun ns hp => ?_⟩
  · rcases mem_leaves.mp hx with rfl | ⟨b, hb, a, ha, hx'⟩
    · exact hp.leaf
    · exact S.leaves a (hp.bodies b hb a ha) x hx'
  · have h := fun n hn => visitNode_leafwise S n (hp n hn)
    rw [show Inner.vis (some s) t ns = _ from visitGraph_ok _ _ ns (fun n hn => (h n hn).1)]
    refine ⟨rfl, fun n' hn' => ?_, ?_⟩
    · obtain ⟨n, hn, hn'⟩ := List.mem_flatMap.mp hn'
      exact (h n hn).2.1 n' hn'
    · exact flatMap_flatMap_congr fun n hn => (h n hn).2.2

end generic

theorem mono_quiet {β} (μ : Op → Nat → β) (hμ : Mono μ) {op : Op} {v : Nat}
    (h : ∀ v', v ≤ v' → adapt op v' = .noAdapter) (k : Nat) : μ op (v + k) = μ op v := by
  induction k with
  | zero => rfl
  | succ k ih => rw [← ih, ← Nat.add_assoc]; exact hμ _ _ (h _ (by omega))

theorem leafwiseD {β : Type u} (μ : Op → Nat → β) (s t : Nat) : (d : Nat) → Leafwise μ s t (NodeD d) (PreD μ s t d)
  | 0 => leafwise_leaf μ s t
  | d + 1 => leafwise_node (leafwiseD μ s t d)

theorem leaves_induction {Q : (d : Nat) → NodeD d → Prop} {P : Leaf → Prop} (h0 : ∀ l, Q 0 l → P l)
    (hs : ∀ d (n : Node (NodeD d)), Q (d + 1) n → P n.leaf ∧ ∀ b ∈ n.bodies, ∀ a ∈ b, Q d a) :
    (d : Nat) → (a : NodeD d) → Q d a → ∀ x ∈ Inner.leaves a, P x
  | 0, l, h, x, hx => List.mem_singleton.mp hx ▸ h0 l h
  | d + 1, n, h, x, hx => by
    rcases mem_leaves.mp hx with rfl | ⟨b, hb, a, ha, hxa⟩
    · exact (hs d n h).1
    · exact leaves_induction h0 hs d a ((hs d n h).2 b hb a ha) x hxa

theorem SrcLeaf.toPre {β} {μ : Op → Nat → β} {s t : Nat} {l : Leaf} (h : SrcLeaf μ s l) (hst : s ≤ t) :
    LeafPre μ s t l :=
  ⟨h.noRef, fun hd => by rw [h.ver hd]; exact hst, fun hd v' h1 _ => h.good hd v' (by rw [h.ver hd] at h1; exact h1)⟩

theorem SrcD.leaves_eff {β} {μ : Op → Nat → β} {s : Nat} (d : Nat) (a : NodeD d) (h : SrcD μ s d a) :
    ∀ x ∈ Inner.leaves a, x.dflt = true → x.eff s = s :=
  leaves_induction (Q := SrcD μ s) (fun _ h => h.ver) (fun _ _ h => ⟨h.leaf.ver, h.bodies⟩) d a h

theorem SrcD.toPre {β} {μ : Op → Nat → β} {s t : Nat} (hst : s ≤ t) : (d : Nat) → (a : NodeD d) → SrcD μ s d a →
    PreD μ s t d a
  | 0, _, h => SrcLeaf.toPre h hst
  | d + 1, n, h =>
    ⟨h.leaf.toPre hst, h.ctrl, fun b hb a ha => SrcD.toPre hst d a (h.bodies b hb a ha), h.customFlat,
      fun hd b hb a ha l hl hdl => by
        rw [SrcD.leaves_eff d a (h.bodies b hb a ha) l hl hdl, h.leaf.ver hd]⟩

/-- A custom-domain node satisfies the precondition for every `t`, also `t < s` where `SrcD.toPre` does not apply: the
downgrade that passes in `nativeConvert_leafwise`. -/
theorem SrcD.custom {β} {μ : Op → Nat → β} {s t d : Nat} {n : Node (NodeD d)} (h : SrcD μ s (d + 1) n)
    (hd : n.leaf.dflt = false) : PreD μ s t (d + 1) n ∧ n.leaves = [n.leaf] := by
  have hc : ∀ {p : Prop}, n.leaf.dflt = true → p := fun h' => by rw [hd] at h'; cases h'
  have hb : n.bodies = [] := SrcNode.customFlat h hd
  exact ⟨⟨⟨hc, hc, hc⟩, SrcNode.ctrl h, fun b hb' => (by rw [hb] at hb'; cases hb'), fun _ => hb, hc⟩,
    by rw [Node.leaves, hb]; rfl⟩

theorem ValidLeaf.toSrc {s : Nat} {l : Leaf} (h : ValidLeaf s l) : SrcLeaf Op.meaning s l :=
  ⟨h.ver, h.noRef, fun hd v' hv' => by
    have hv := h.valid
    simp only [Leaf.readAt, hd, if_true, h.ver hd] at hv
    exact good_of_valid l.op s v' hv hv'⟩

theorem ValidD.toSrc {s : Nat} : (d : Nat) → (a : NodeD d) → ValidD s d a → SrcD Op.meaning s d a
  | 0, _, h => ValidLeaf.toSrc h
  | d + 1, _, h => ⟨h.leaf.toSrc, h.ctrl, fun b hb a ha => ValidD.toSrc d a (h.bodies b hb a ha), h.customFlat⟩

theorem ValidD.leaves_valid {s : Nat} (d : Nat) (a : NodeD d) (h : ValidD s d a) :
    ∀ x ∈ Inner.leaves a, (x.op.meaning (x.readAt s)).isSome :=
  leaves_induction (Q := ValidD s) (fun _ h => h.valid) (fun _ _ h => ⟨h.leaf.valid, h.bodies⟩) d a h

theorem ShapeLeaf.toSrc {β} {μ : Op → Nat → β} {P : Op → Prop} {s : Nat} {l : Leaf}
    (hP : ∀ op, P op → ∀ v', s ≤ v' → Good μ op v') (h : ShapeLeaf P s l) : SrcLeaf μ s l :=
  ⟨h.ver, h.noRef, fun hd v' hv' => hP _ (h.op hd) v' hv'⟩

theorem ShapeD.toSrc {β} {μ : Op → Nat → β} {P : Op → Prop} {s : Nat}
    (hP : ∀ op, P op → ∀ v', s ≤ v' → Good μ op v') : (d : Nat) → (a : NodeD d) → ShapeD P s d a → SrcD μ s d a
  | 0, _, h => ShapeLeaf.toSrc hP h
  | d + 1, _, h => ⟨h.leaf.toSrc hP, h.ctrl, fun b hb a ha => ShapeD.toSrc hP d a (h.bodies b hb a ha), h.customFlat⟩

theorem aux_meaning_some (op : Op) (v : Nat) (h : op.isAux = true) : (op.meaning v).isSome := by
  cases op <;> simp_all [Op.isAux, Op.meaning]

theorem leaves_valid_of_readings (t : Nat) (ls : List Leaf)
    (h : ∀ x ∈ pmLeaves Op.meaning t ls, x.isSome) : ∀ l ∈ ls, (l.op.meaning (l.readAt t)).isSome := by
  intro l hl
  cases ha : l.op.isAux with
  | true => exact aux_meaning_some _ _ ha
  | false => exact h _ ((pmLeaves_mem Op.meaning t ls _).mpr ⟨l, hl, ha, rfl⟩)

theorem ValidModel.selfConsistent {s d : Nat} {m : Model (NodeD d)} (h : ValidModel s m) :
    SelfConsistent Op.meaning s m :=
  ⟨h.declared, h.noAi, h.inlined, fun n hn => ValidD.toSrc (d + 1) n (h.nodes n hn)⟩

theorem ValidModel.readings_valid {s d : Nat} {m : Model (NodeD d)} (h : ValidModel s m) :
    ∀ x ∈ pmNodes Op.meaning s m.nodes, x.isSome := by
  intro x hx
  obtain ⟨l, hl, -, rfl⟩ := (pmLeaves_mem Op.meaning s _ x).mp hx
  obtain ⟨n, hn, hl'⟩ := List.mem_flatMap.mp hl
  exact ValidD.leaves_valid (d + 1) n (h.nodes n hn) l hl'

theorem ShapeModel.selfConsistent {s d : Nat} {m : Model (NodeD d)} (h : ShapeModel WellFormedGN s m) :
    SelfConsistent (fun _ _ => ()) s m :=
  ⟨h.declared, h.noAi, h.inlined, fun n hn =>
    ShapeD.toSrc (fun _ hw v' _ => good_unit_of_wellformed hw v') (d + 1) n (h.nodes n hn)⟩

theorem leaves_erase : (d : Nat) → (a : NodeD d) → Inner.leaves (Inner.erase a) = (Inner.leaves a).map eraseLeaf
  | 0, _ => rfl
  | d + 1, n => by
    show Node.leaves (eraseNode n) = (Node.leaves n).map eraseLeaf
    simp only [Node.leaves, eraseNode, List.map_cons, List.map_flatMap, List.flatMap_map,
      List.flatten_eq_flatMap, List.flatMap_assoc, id, leaves_erase d]

section generic2
variable {α : Type} [Inner α]

theorem visitGraph_downgrade {β} (μ : Op → Nat → β) (s t : Nat) (hts : t < s) :
    ∀ (ns : List (Node α)), (∀ n ∈ ns, SrcLeaf μ s n.leaf) →
      (visitGraph (some s) t ns).1 = ns ∧
      ((visitGraph (some s) t ns).2 = none → ∀ n ∈ ns, n.leaf.dflt = false) := by
  intro ns
  induction ns with
  | nil => intro _; exact ⟨rfl, fun _ _ h => nomatch h⟩
  | cons n ns ih =>
    intro hp
    obtain ⟨i1, i2⟩ := ih (fun n' hn' => hp n' (List.mem_cons_of_mem _ hn'))
    have hn := hp n (List.mem_cons_self ..)
    unfold visitGraph
    cases hd : n.leaf.dflt with
    | false =>
      rw [visitNode_custom _ _ hd]
      rcases hw : visitGraph (some s) t ns with ⟨out', e'⟩
      rw [hw] at i1 i2
      cases i1
      exact ⟨rfl, fun he n' hn' => (List.mem_cons.mp hn').elim (· ▸ hd) (i2 he n')⟩
    | true =>
      have : visitNode (some s) t n = ([n], some .downgrade) := by
        simp only [visitNode, hd, or_some_eff, hn.noRef hd, hn.ver hd, hts, Bool.not_true, Bool.false_eq_true, if_false,
          if_true]
      rw [this]
      exact ⟨rfl, fun h => nomatch h⟩

omit [Inner α] in
theorem setNodes_self (m : Model α) : { m with nodes := m.nodes } = m := by cases m; rfl

end generic2

/-- The model is returned as it was (unsupported target, refused downgrade), or the conversion has acted leaf by leaf; a
downgrade that passes (custom-domain nodes only) is such a visit, too.  No reading is involved (no `Mono μ`). -/
theorem nativeConvert_leafwise {β} (μ : Op → Nat → β) (s t : Nat) {d : Nat} (m : Model (NodeD d))
    (h : SelfConsistent μ s m) :
    (nativeConvert t m).1 = m ∨
    ∃ ns, nativeConvert t m = (⟨some t, none, ns, [], m.inputs, m.inits⟩, none) ∧
      (∀ n ∈ ns, PreD μ s t (d + 1) n) ∧ (∀ x ∈ m.nodes.flatMap Node.leaves, LeafPre μ s t x) ∧
      ns.flatMap Node.leaves = (m.nodes.flatMap Node.leaves).flatMap (convLeaf s t) := by
  obtain ⟨decl, ai, nodes, funcs, inputs, inits⟩ := m
  obtain ⟨rfl, rfl, rfl, hnodes⟩ := h
  have S := leafwise_node (leafwiseD μ s t d)
  have hleaves : (∀ n ∈ nodes, PreD μ s t (d + 1) n) → ∀ x ∈ nodes.flatMap Node.leaves, LeafPre μ s t x :=
    fun hp x hx => by
      obtain ⟨n, hn, hx⟩ := List.mem_flatMap.mp hx
      exact S.leaves n (hp n hn) x hx
  unfold nativeConvert
  split
  · exact .inl rfl
  · simp only [visitModel, getOnnxOpsetVersion, Option.or_none]
    by_cases hst : s ≤ t
    · have hp := fun n hn => SrcD.toPre hst (d + 1) n (hnodes n hn)
      obtain ⟨g1, g2, g3⟩ := S.visOk nodes hp
      rcases hv : visitGraph (some s) t nodes with ⟨ns, e⟩
      rw [show Inner.vis (some s) t nodes = _ from hv] at g1 g2 g3
      cases g1
      exact .inr ⟨ns, rfl, g2, hleaves hp, g3⟩
    · obtain ⟨g1, g2⟩ := visitGraph_downgrade μ s t (by omega) nodes (fun n hn => SrcNode.leaf (hnodes n hn))
      rcases hv : visitGraph (some s) t nodes with ⟨ns, e⟩
      rw [hv] at g1 g2
      cases g1
      cases e with
      | some e => exact .inl rfl
      | none =>
        have hc := fun n hn => SrcD.custom (t := t) (hnodes n hn) (g2 rfl n hn)
        have hp := fun n hn => (hc n hn).1
        refine .inr ⟨ns, rfl, hp, hleaves hp, (flatMap_self fun x hx => ?_).symm⟩
        obtain ⟨n, hn, hx'⟩ := List.mem_flatMap.mp hx
        rw [(hc n hn).2, List.mem_singleton] at hx'
        rw [hx', convLeaf, visitLeaf_custom _ _ (g2 rfl n hn)]

theorem nativeConvert_cases {β} (μ : Op → Nat → β) (hμ : Mono μ) (s t : Nat) {d : Nat} (m : Model (NodeD d))
    (h : SelfConsistent μ s m) :
    (nativeConvert t m).1 = m ∨
    ∃ ns, nativeConvert t m = (⟨some t, none, ns, [], m.inputs, m.inits⟩, none) ∧
      (∀ n ∈ ns, PreD μ s t (d + 1) n) ∧ AllAt t ns ∧ pmNodes μ t ns = pmNodes μ s m.nodes := by
  rcases nativeConvert_leafwise μ s t m h with hm | ⟨ns, e, hp, hL, heq⟩
  · exact .inl hm
  · refine .inr ⟨ns, e, hp, fun n hn l hl hd => ?_, ?_⟩
    · refine eff_new_of_old ((convLeaf_post hL l ?_).2 hd)
      rw [← heq]; exact List.mem_flatMap.mpr ⟨n, hn, hl⟩
    · rw [pmNodes, heq]; exact convLeaf_reads μ hμ hL

theorem requiresInlineCall_cases {α : Type} [Inner α] (fb : Fallback) (t : Nat) (capi : CApi α) (m : Model α) :
    requiresInlineCall fb t capi m = (m, none) ∨ requiresInlineCall fb t capi m = nativeConvert t m ∨
    ∃ ns, capi m t = some ns ∧ requiresInlineCall fb t capi m = (recoverFallback m t ns, none) := by
  unfold requiresInlineCall
  by_cases h1 : m.declared = some t
  · exact .inl (if_pos h1)
  · rw [if_neg h1]
    by_cases h2 : (!fb.truthy || versionSupported m t) = true
    · exact .inr (.inl (if_pos h2))
    · rw [if_neg h2]
      by_cases h3 : (!fb.truthy) = true
      · exact .inl (if_pos h3)
      · rw [if_neg h3]
        cases hc : capi m t with
        | none => exact .inl rfl
        | some ns => exact .inr (.inr ⟨ns, rfl, rfl⟩)

/-- The pass has converted `m` (declaring `s`) into `r.1`: `t` is declared under the `""` key only; `same` is the native
route, or what was recovered from a successful C-API call.  The entry theorems of Props project these fields. -/
structure Converted {β} (μ : Op → Nat → β) (s t : Nat) {d : Nat} (capi : CApi (NodeD d)) (m : Model (NodeD d))
    (r : Model (NodeD d) × Option Err) : Prop where
  noErr : r.2 = none
  declared : r.1.declared = some t
  noAi : r.1.aionnx = none
  inlined : r.1.funcs = []
  allAt : AllAt t r.1.nodes
  same : (pmNodes μ t r.1.nodes = pmNodes μ s m.nodes ∧ r.1.inputs = m.inputs ∧ r.1.inits = m.inits) ∨
    ∃ ns, capi m t = some ns ∧ r.1 = recoverFallback m t ns

theorem requiresInline_spec {β} (μ : Op → Nat → β) (hμ : Mono μ) (s t : Nat) (fb : Fallback) {d : Nat}
    (capi : CApi (NodeD d)) (m : Model (NodeD d)) (h : SelfConsistent μ s m) :
    Converted μ s t capi m (requiresInlineCall fb t capi m) ∨ (requiresInlineCall fb t capi m).1 = m := by
  rcases requiresInlineCall_cases fb t capi m with e | e | ⟨ns, hc, e⟩ <;> rw [e]
  · exact .inr rfl
  · rcases nativeConvert_cases μ hμ s t m h with hm | ⟨ns, e', -, hall, hpm⟩
    · exact .inr hm
    · rw [e']
      exact .inl ⟨rfl, rfl, rfl, rfl, hall, .inl ⟨hpm, rfl, rfl⟩⟩
  · refine .inl ⟨rfl, rfl, rfl, h.inlined, fun n hn l hl hd => ?_, .inr ⟨ns, hc, rfl⟩⟩
    -- the recovered nodes come from a proto: no stamps
    obtain ⟨n0, _, rfl⟩ := List.mem_map.mp hn
    rw [show Node.leaves (eraseNode n0) = _ from leaves_erase (d + 1) n0] at hl
    obtain ⟨l0, _, rfl⟩ := List.mem_map.mp hl
    rfl

end OV.C10
