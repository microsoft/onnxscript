import OV.Model.C03Pass
/-!
# C04 — the pass order of `optimize_ir` as data

`optimizeIr` (OV.Model.C03Pass) restates the pipeline as a function.  Here the same pipeline is a *list* of pass
identifiers interpreted by `runSeq` / `runLoop` (onnx_ir's `Sequential` and `PassManager(steps, early_stop)`), and
`optimizeSpec_eq` proves the two are the same function.  The lists are what `pipeline_order_matches_source`
(Props/C04.lean) compares, name by name, with the table OV.Gen.C04Pipeline, which `harness/c04_extract.py` writes from the
source of `onnxscript/optimizer/_optimizer.py` on every run.
-/
namespace OV.C03

inductive PassId where
  | inline | fold | rewrite | dce | dropFunctions | dropOpsets
  | liftConstants | liftSubgraphInits | dedup | cse | outputFix | nameFix
  deriving DecidableEq, Repr

/-- the class name in the source -/
def PassId.srcName : PassId → String
  | .inline => "InlinePass"
  | .fold => "FoldConstantsPass"
  | .rewrite => "RewritePass"
  | .dce => "RemoveUnusedNodesPass"
  | .dropFunctions => "RemoveUnusedFunctionsPass"
  | .dropOpsets => "RemoveUnusedOpsetsPass"
  | .liftConstants => "LiftConstantsToInitializersPass"
  | .liftSubgraphInits => "LiftSubgraphInitializersToMainGraphPass"
  | .dedup => "DeduplicateInitializersPass"
  | .cse => "CommonSubexpressionEliminationPass"
  | .outputFix => "OutputFixPass"
  | .nameFix => "NameFixPass"

/-- the passes of the iterated `PassManager`, in order -/
def loopSpec : List PassId := [.fold, .rewrite, .dce, .dropFunctions, .dropOpsets]

/-- the passes after the loop, in order -/
def tailSpec : List PassId := [.dce, .liftConstants, .liftSubgraphInits, .dedup, .cse, .outputFix, .nameFix]

/-- what is put in front when `inline` is set -/
def inlineSpec : List PassId := [.inline]

/-- one pass on the main graph: result and `modified`.  `FoldConstantsPass.call` runs `NameFixPass` itself when it modified
the model; the function / opset-import clean-ups do not touch a graph (they act on the model's function table and
import table); the `modified` flag of the passes outside the loop is never read. -/
def runPass (P : IrPasses) (fold : Graph → Graph × Bool) : PassId → Graph → Graph × Bool
  | .inline, g => (P.inline g, false)
  | .fold, g => (if (fold g).2 then P.nameFix (fold g).1 else (fold g).1, (fold g).2)
  | .rewrite, g => P.rewrite g
  | .dce, g => P.dce g
  | .dropFunctions, g => (g, false)
  | .dropOpsets, g => (g, false)
  | .liftConstants, g => (P.liftConstants g, false)
  | .liftSubgraphInits, g => (P.liftSubgraphInits g, false)
  | .dedup, g => (P.dedup g, false)
  | .cse, g => (P.cse g, false)
  | .outputFix, g => (P.outputFix g, false)
  | .nameFix, g => (P.nameFix g, false)

/-- `Sequential(*passes)` / one step of a `PassManager`: thread the graph, or the flags -/
def runSeq (P : IrPasses) (fold : Graph → Graph × Bool) : List PassId → Graph → Graph × Bool
  | [], g => (g, false)
  | p :: rest, g =>
    let r := runPass P fold p g
    let r2 := runSeq P fold rest r.1
    (r2.1, r.2 || r2.2)

/-- `PassManager(passes, steps, early_stop)` -/
def runLoop (P : IrPasses) (fold : Graph → Graph × Bool) (spec : List PassId) (earlyStop : Bool) : Nat → Graph → Graph
  | 0, g => g
  | k + 1, g =>
    let r := runSeq P fold spec g
    if earlyStop && !r.2 then r.1 else runLoop P fold spec earlyStop k r.1

def optimizeSpec (P : IrPasses) (fold : Graph → Graph × Bool) (o : OptOpts) (g : Graph) : Graph :=
  let g := if o.inline then (runSeq P fold inlineSpec g).1 else g
  let g := runLoop P fold loopSpec o.stopIfNoChange o.numIterations g
  (runSeq P fold tailSpec g).1

theorem runSeq_loopSpec (P : IrPasses) (fold : Graph → Graph × Bool) (g : Graph) :
    runSeq P fold loopSpec g = iterStep P fold g := by
  simp only [loopSpec, runSeq, runPass, iterStep, Bool.or_false]
  cases (fold g).2 <;> simp only [Bool.false_or, Bool.true_or, if_true, if_false, Bool.false_eq_true]

theorem runLoop_loopSpec (P : IrPasses) (fold : Graph → Graph × Bool) (early : Bool) :
    ∀ (k : Nat) (g : Graph), runLoop P fold loopSpec early k g = iterate P fold early k g
  | 0, _ => rfl
  | k + 1, g => by
    simp only [runLoop, iterate, runSeq_loopSpec, runLoop_loopSpec P fold early k]

theorem optimizeSpec_eq (P : IrPasses) (fold : Graph → Graph × Bool) (o : OptOpts) (g : Graph) :
    optimizeSpec P fold o g = optimizeIr P fold o g := by
  simp only [optimizeSpec, optimizeIr, runLoop_loopSpec, tailSpec, inlineSpec, runSeq, runPass]

end OV.C03
