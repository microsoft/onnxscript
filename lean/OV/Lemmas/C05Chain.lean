import OV.Model.C05Chain
/-! Lemmas about the rule-set driver model (`OV/Model/C05Chain.lean`).  The sweep depends on the rule list only through
`firstMatch` (`sweepAcc_congr`); it ends in a `Stable` prefix, on which a second sweep does nothing (`sweepAcc_of_stable`). -/
namespace OV.Lemmas.C05Chain
open OV.C05.Chain OV.C05.Order

section rules
variable {α : Type}

theorem opd_bound_val (o : Opd α) (h : boundOk o.bound = true) : o.bound.val? = o.val? := by
  cases o <;> simp_all [Opd.bound, Opd.val?, Bound.val?, boundOk]

theorem ofOption_val (o : Option α) : (Opd.ofOption o).val? = o := by cases o <;> rfl

theorem eval_of_clip_outcome [Min α] [Max α] (zero : α) (o : Outcome (ClipRepl α)) (f : COp α)
    (h : ofClipOutcome o = some f) : ∃ r, o = .fire r ∧ ∀ x, f.eval zero x = r.rhs x := by
  cases o <;> cases h
  exact ⟨_, rfl, fun x => by simp only [COp.eval, ofOption_val, ClipRepl.rhs]⟩

theorem run_chain [Min α] [Max α] [LT α] [DecidableRel (α := α) (· < ·)] (k : MMKind) (c1 c2 : MOpd α) :
    MinMax.run { kind := k, first := [c1.mm], second := [c2.mm], xRank := some 0 } =
      match c1, c2 with
      | .const a, .const b =>
        (match k with
         | .minMin => .fire (.sameOp 0 [min a b])
         | .maxMax => .fire (.sameOp 0 [max a b])
         | .maxMin => .fire (.clip a b)
         | .minMax => if a < b then .nofire else .fire (.clip b a))
      | _, _ => .nofire := by
  cases k <;> cases c1 <;> cases c2 <;> rfl

end rules

variable {α : Type} [Min α] [Max α]

theorem run_append (zero : α) (l m : List (Node α)) (x : α) :
    run zero (l ++ m) x = run zero m (run zero l x) := by
  unfold run; rw [List.foldl_append]

theorem mids_append (zero : α) (l m : List (Node α)) (x : α) :
    mids zero (l ++ m) x = mids zero l x ++ mids zero m (run zero l x) := by
  induction l generalizing x with
  | nil => simp [mids, run]
  | cons n l ih => simp [mids, run, ih, List.append_assoc]

theorem outs_append (zero : α) (l m : List (Node α)) (x : α) :
    outs zero (l ++ m) x = mids zero l x ++ outs zero m (run zero l x) := by
  unfold outs; rw [mids_append, run_append, List.append_assoc]

theorem firstMatch_sound (zero : α) (rules : List (Rule α)) (hr : ∀ r ∈ rules, RuleSound zero r)
    (p c f : COp α) (h : firstMatch rules p c = some f) (x : α) :
    f.eval zero x = c.eval zero (p.eval zero x) := by
  unfold firstMatch at h
  obtain ⟨r, hmem, hfire⟩ := List.exists_of_findSome?_eq_some h
  exact hr r hmem p c f hfire x

theorem outs_fuse (zero : α) (top v : Node α) (f : COp α) (hs : top.shared = false)
    (hf : ∀ x, f.eval zero x = v.op.eval zero (top.op.eval zero x)) (ns : List (Node α)) (x : α) :
    outs zero ({ op := f, shared := v.shared } :: ns) x = outs zero (top :: v :: ns) x := by
  simp [outs, mids, run, hs, hf]

theorem visit_sound (zero : α) (rules : List (Rule α)) (hr : ∀ r ∈ rules, RuleSound zero r)
    (acc : List (Node α)) (v : Node α) (ns : List (Node α)) (x : α) :
    outs zero ((visit rules acc v).1.reverse ++ ns) x = outs zero (acc.reverse ++ v :: ns) x := by
  fun_induction visit rules acc v with
  | case1 | case2 | case4 => simp
  | case3 top rest v hs f hm r ih =>
    have hf := firstMatch_sound zero rules hr top.op v.op f hm
    simp only [r] at ih ⊢
    rw [ih, outs_append, outs_fuse zero top v f (by simpa using hs) hf ns]
    simp [outs_append, List.append_assoc]

omit [Min α] [Max α] in
theorem visit_count (rules : List (Rule α)) (acc : List (Node α)) (v : Node α) :
    (visit rules acc v).1.length + (visit rules acc v).2 = acc.length + 1 := by
  fun_induction visit rules acc v with
  | case1 | case2 | case4 => rfl
  | case3 top rest v hs f hm r ih => simp only [r, List.length_cons] at ih ⊢; omega

theorem sweepAcc_sound (zero : α) (rules : List (Rule α)) (hr : ∀ r ∈ rules, RuleSound zero r)
    (ns : List (Node α)) (acc : List (Node α) × Nat) (x : α) :
    outs zero (sweepAcc rules acc ns).1.reverse x = outs zero (acc.1.reverse ++ ns) x := by
  fun_induction sweepAcc rules acc ns with
  | case1 => simp
  | case2 acc n ns r ih => rw [ih]; exact visit_sound zero rules hr acc.1 n ns x

omit [Min α] [Max α] in
theorem sweepAcc_count (rules : List (Rule α)) (ns : List (Node α)) (acc : List (Node α) × Nat) :
    (sweepAcc rules acc ns).1.length + (sweepAcc rules acc ns).2 = acc.1.length + acc.2 + ns.length := by
  fun_induction sweepAcc rules acc ns with
  | case1 => rfl
  | case2 acc n ns r ih =>
    have := visit_count rules acc.1 n
    simp only [r, List.length_cons] at ih ⊢; omega

section plain
variable {α : Type}

theorem visit_congr (r1 r2 : List (Rule α)) (h : ∀ p c, firstMatch r1 p c = firstMatch r2 p c)
    (acc : List (Node α)) (v : Node α) : visit r1 acc v = visit r2 acc v := by
  fun_induction visit r1 acc v with
  | case1 => rfl
  | case2 top rest v hs => rw [visit, if_pos hs]
  | case3 top rest v hs f hm r ih => rw [visit, if_neg hs, ← h, hm]; simp only [r, ih]
  | case4 top rest v hs hm => rw [visit, if_neg hs, ← h, hm]

theorem sweepAcc_congr (r1 r2 : List (Rule α)) (h : ∀ p c, firstMatch r1 p c = firstMatch r2 p c)
    (ns : List (Node α)) (acc : List (Node α) × Nat) : sweepAcc r1 acc ns = sweepAcc r2 acc ns := by
  fun_induction sweepAcc r1 acc ns with
  | case1 => rfl
  | case2 acc n ns r ih => rw [sweepAcc, ← visit_congr r1 r2 h]; exact ih

theorem firstMatch_eq_some_iff (rules : List (Rule α)) (p c : COp α)
    (hfun : ∀ r1 ∈ rules, ∀ r2 ∈ rules, ∀ f1 f2, r1 p c = some f1 → r2 p c = some f2 → f1 = f2) (f : COp α) :
    firstMatch rules p c = some f ↔ ∃ r ∈ rules, r p c = some f := by
  constructor
  · intro h; exact List.exists_of_findSome?_eq_some h
  · rintro ⟨r, hmem, hr⟩
    unfold firstMatch
    cases hfs : rules.findSome? (fun r => r p c) with
    | none =>
      rw [List.findSome?_eq_none_iff] at hfs
      have := hfs r hmem
      simp_all
    | some f' =>
      obtain ⟨r', hmem', hr'⟩ := List.exists_of_findSome?_eq_some hfs
      rw [hfun r' hmem' r hmem f' f hr' hr]

/-- No adjacent pair of the (reversed) prefix can be rewritten any more. -/
def Stable (rules : List (Rule α)) : List (Node α) → Prop
  | [] => True
  | [_] => True
  | v :: top :: rest => (top.shared = true ∨ firstMatch rules top.op v.op = none) ∧ Stable rules (top :: rest)

theorem Stable.tail (rules : List (Rule α)) : ∀ (a : Node α) (l : List (Node α)), Stable rules (a :: l) → Stable rules l
  | _, [], _ => trivial
  | _, _ :: _, h => h.2

theorem Stable.suffix (rules : List (Rule α)) : ∀ (l m : List (Node α)), Stable rules (l ++ m) → Stable rules m
  | [], _, h => h
  | a :: l, m, h => Stable.suffix rules l m (Stable.tail rules a (l ++ m) h)

theorem visit_stable (rules : List (Rule α)) (acc : List (Node α)) (v : Node α) (h : Stable rules acc) :
    Stable rules (visit rules acc v).1 := by
  fun_induction visit rules acc v with
  | case1 => trivial
  | case2 top rest v hs => exact ⟨Or.inl hs, h⟩
  | case3 top rest v hs f hm r ih => exact ih (Stable.tail rules top rest h)
  | case4 top rest v hs hm => exact ⟨Or.inr hm, h⟩

theorem sweepAcc_stable (rules : List (Rule α)) (ns : List (Node α)) (acc : List (Node α) × Nat)
    (h : Stable rules acc.1) : Stable rules (sweepAcc rules acc ns).1 := by
  fun_induction sweepAcc rules acc ns with
  | case1 => exact h
  | case2 acc n ns r ih => exact ih (visit_stable rules acc.1 n h)

theorem visit_of_stable (rules : List (Rule α)) (acc : List (Node α)) (v : Node α) (h : Stable rules (v :: acc)) :
    visit rules acc v = (v :: acc, 0) := by
  fun_induction visit rules acc v with
  | case1 | case2 | case4 => rfl
  | case3 top rest v hs f hm r ih => rcases h.1 with hsh | hn <;> simp_all

theorem sweepAcc_of_stable (rules : List (Rule α)) :
    ∀ (ns : List (Node α)) (acc : List (Node α)) (k : Nat), Stable rules (ns.reverse ++ acc) →
      sweepAcc rules (acc, k) ns = (ns.reverse ++ acc, k) := by
  intro ns
  induction ns with
  | nil => intro acc k _; simp [sweepAcc]
  | cons n ns ih =>
    intro acc k h
    have h' : Stable rules (ns.reverse ++ (n :: acc)) := by simpa [List.reverse_cons, List.append_assoc] using h
    unfold sweepAcc
    rw [visit_of_stable rules acc n (Stable.suffix rules _ _ h')]
    simp only [Nat.add_zero]
    rw [ih (n :: acc) k h']
    simp [List.reverse_cons, List.append_assoc]

end plain

end OV.Lemmas.C05Chain
