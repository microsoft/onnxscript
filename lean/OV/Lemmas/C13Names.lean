import OV.Model.C13Export
/-! C13, names as character lists, no exporter state.  The clean-up is `prefixed` followed by a character-wise
    `renameChar` (`cleanupL_eq_map_prefixed`); what it produces, its fixpoints and its collisions are read off that
    form and `kw_table`. -/
namespace OV.C13

theorem idChar_us : idChar '_' = true := by decide

theorem renameChar_idChar (c : Char) : idChar (renameChar c) = true := by
  unfold renameChar; split
  · assumption
  · exact idChar_us

theorem renameChar_of_idChar {c : Char} (h : idChar c = true) : renameChar c = c := by
  unfold renameChar; simp only [h, if_true]

theorem idStart_idChar {c : Char} (h : idStart c = true) : idChar c = true := by
  unfold idStart at h; unfold idChar isAlnum
  cases ha : isAlpha c <;> simp_all

theorem map_renameChar_of_all : ∀ (l : List Char), l.all idChar = true → l.map renameChar = l
  | [], _ => rfl
  | c :: cs, h => by
    simp only [List.all_cons, Bool.and_eq_true] at h
    simp only [List.map_cons, renameChar_of_idChar h.1, map_renameChar_of_all cs h.2]

theorem all_idChar_map_renameChar (l : List Char) : (l.map renameChar).all idChar = true := by
  induction l with
  | nil => rfl
  | cons c cs ih => simp only [List.map_cons, List.all_cons, renameChar_idChar, ih, Bool.and_self]

theorem map_renameChar_no_us : ∀ (l : List Char), '_' ∉ l.map renameChar → l.map renameChar = l
  | [], _ => rfl
  | c :: cs, h => by
    simp only [List.map_cons, List.mem_cons, not_or] at h
    have h1 : renameChar c = c := by
      unfold renameChar at h ⊢; split
      · rfl
      · rw [if_neg ‹_›] at h; exact absurd rfl h.1
    simp only [List.map_cons, h1, map_renameChar_no_us cs h.2]

theorem isPyIdentL_all {n : List Char} (h : isPyIdentL n = true) : n.all idChar = true := by
  cases n with
  | nil => cases h
  | cons c cs =>
    simp only [isPyIdentL, Bool.and_eq_true] at h
    simp only [List.all_cons, idStart_idChar h.1, h.2, Bool.and_self]

theorem isPyIdentL_append {a r : List Char} (ha : isPyIdentL a = true) (hr : r.all idChar = true) :
    isPyIdentL (a ++ r) = true := by
  cases a with
  | nil => cases ha
  | cons c cs =>
    simp only [isPyIdentL, Bool.and_eq_true] at ha
    simp only [List.cons_append, isPyIdentL, List.all_append, ha.1, ha.2, hr, Bool.and_self]

theorem idChar_of_isDigit {c : Char} (h : c.isDigit = true) : idChar c = true := by
  have : isDigit c = true := by
    simp only [Char.isDigit, Bool.and_eq_true, decide_eq_true_eq] at h
    simp only [isDigit, Bool.and_eq_true, decide_eq_true_eq, Char.le_def]
    exact h
  simp [idChar, isAlnum, this]

theorem idStart_ne_dash {c : Char} (h : idStart c = true) : c ≠ '-' := by
  intro hc; subst hc; revert h; decide

theorem ident_ne_empty {s : String} (h : isPyIdentL s.toList = true) : s ≠ "" :=
  fun e => by subst e; exact absurd h (by decide)

theorem ident_head_ne_dash {l : List Char} (h : isPyIdentL l = true) : l.head? ≠ some '-' := by
  cases l with
  | nil => cases h
  | cons c cs =>
    simp only [isPyIdentL, Bool.and_eq_true] at h
    simpa using idStart_ne_dash h.1

/-- Both facts about the 35 keywords in one evaluation: turning the table into character lists is the dear part of any
    evaluation that touches it. -/
theorem kw_table : ∀ k ∈ kwlistL, isPyIdentL k = true ∧ '_' ∉ k := by decide +kernel

theorem kw_idStart : ∀ k ∈ kwlistL, isPyIdentL k = true := fun k h => (kw_table k h).1

theorem kw_no_us : ∀ k ∈ kwlistL, '_' ∉ k := fun k h => (kw_table k h).2

theorem kw_nonempty : ∀ k ∈ kwlistL, k ≠ [] := by
  intro k h e
  subst e
  exact absurd (kw_idStart _ h) Bool.false_ne_true

/-- the name after the keyword / first-character step, before the per-character replacement -/
def prefixed (n : List Char) : List Char :=
  if n ∈ kwlistL then 'r' :: '_' :: n
  else match n with
    | [] => []
    | c :: _ => if idStart c then n else '_' :: '_' :: n

theorem cleanupL_eq_map_prefixed (n : List Char) : cleanupL n = (prefixed n).map renameChar := by
  unfold cleanupL prefixed
  by_cases hk : n ∈ kwlistL
  · simp only [if_pos hk]
    symm
    apply map_renameChar_of_all
    simp only [List.all_cons, isPyIdentL_all (kw_idStart n hk), idChar_us, Bool.and_true]
    decide
  · simp only [if_neg hk]
    cases n <;> rfl

theorem prefixed_idStart {n : List Char} (hne : n ≠ []) : ∃ c cs, prefixed n = c :: cs ∧ idStart c = true := by
  unfold prefixed
  split
  · exact ⟨'r', _, rfl, by decide⟩
  · cases n with
    | nil => exact absurd rfl hne
    | cons c cs =>
      cases hs : idStart c
      · exact ⟨'_', '_' :: c :: cs, by simp only [hs, Bool.false_eq_true, if_false], by decide⟩
      · exact ⟨c, cs, by simp only [hs, if_true], hs⟩

/-- it contains `_` (no keyword does), or it is `n` itself, which was then no keyword -/
theorem prefixed_notin_kw (n : List Char) : prefixed n ∉ kwlistL := by
  intro h
  have hno := kw_no_us _ h
  unfold prefixed at h hno
  by_cases hk : n ∈ kwlistL
  · rw [if_pos hk] at hno; exact hno (by simp)
  · rw [if_neg hk] at h hno
    cases n with
    | nil => exact hk h
    | cons c cs =>
      cases hs : idStart c
      · simp only [hs, Bool.false_eq_true, if_false] at hno; exact hno (by simp)
      · simp only [hs, if_true] at h; exact hk h

theorem cleanupL_ident (n : List Char) (hne : n ≠ []) :
    isPyIdentL (cleanupL n) = true ∧ cleanupL n ∉ kwlistL := by
  rw [cleanupL_eq_map_prefixed]
  constructor
  · obtain ⟨c, cs, hp, hc⟩ := prefixed_idStart hne
    simp only [hp, List.map_cons, isPyIdentL, renameChar_of_idChar (idStart_idChar hc), hc,
      all_idChar_map_renameChar, Bool.and_self]
  · intro hmem
    -- a keyword has no `_`, so no character was replaced
    rw [map_renameChar_no_us _ (kw_no_us _ hmem)] at hmem
    exact prefixed_notin_kw n hmem

theorem cleanupL_fix (n : List Char) (hid : isPyIdentL n = true) (hk : n ∉ kwlistL) : cleanupL n = n := by
  have hp : prefixed n = n := by
    unfold prefixed
    rw [if_neg hk]
    cases n with
    | nil => rfl
    | cons c cs =>
      simp only [isPyIdentL, Bool.and_eq_true] at hid
      simp only [hid.1, if_true]
  rw [cleanupL_eq_map_prefixed, hp]
  exact map_renameChar_of_all n (isPyIdentL_all hid)

theorem cleanup_toList (s : String) : (cleanup s).toList = cleanupL s.toList := String.toList_ofList

/-- the characters `rename_char` merges (`renameChar_eq_iff`) -/
def sameClass (c d : Char) : Prop := c = d ∨ (isAlnum c = false ∧ isAlnum d = false)

theorem renameChar_eq (c : Char) : renameChar c = if isAlnum c = true then c else '_' := by
  unfold renameChar idChar
  by_cases h : isAlnum c = true
  · simp [h]
  · have h' : isAlnum c = false := by simpa using h
    by_cases hu : c = '_'
    · subst hu; simp [h']
    · simp [h', hu]

theorem renameChar_eq_iff (c d : Char) : renameChar c = renameChar d ↔ sameClass c d := by
  have hus : isAlnum '_' = false := by decide
  rw [renameChar_eq, renameChar_eq]
  unfold sameClass
  cases hc : isAlnum c <;> cases hd : isAlnum d <;> simp only [Bool.false_eq_true, if_false, if_true, and_self,
    or_true, and_true, and_false, or_false, reduceCtorEq]
  · constructor
    · intro h; subst h; rw [hus] at hd; cases hd
    · intro h; subst h; rw [hc] at hd; cases hd
  · constructor
    · intro h; subst h; rw [hus] at hc; cases hc
    · intro h; subst h; rw [hc] at hd; cases hd

def pointwise (R : Char → Char → Prop) : List Char → List Char → Prop
  | [], [] => True
  | a :: l1, b :: l2 => R a b ∧ pointwise R l1 l2
  | _, _ => False

theorem map_eq_map_iff_pointwise (f : Char → Char) : ∀ (l1 l2 : List Char),
    l1.map f = l2.map f ↔ pointwise (fun a b => f a = f b) l1 l2
  | [], [] => by simp [pointwise]
  | [], _ :: _ => by simp [pointwise]
  | _ :: _, [] => by simp [pointwise]
  | a :: l1, b :: l2 => by
    simp only [List.map_cons, List.cons.injEq, pointwise, map_eq_map_iff_pointwise f l1 l2]

theorem pointwise_congr {R S : Char → Char → Prop} (h : ∀ a b, R a b ↔ S a b) :
    ∀ l1 l2, pointwise R l1 l2 ↔ pointwise S l1 l2
  | [], [] => Iff.rfl
  | [], _ :: _ => Iff.rfl
  | _ :: _, [] => Iff.rfl
  | a :: l1, b :: l2 => by simp only [pointwise, h a b, pointwise_congr h l1 l2]

end OV.C13
