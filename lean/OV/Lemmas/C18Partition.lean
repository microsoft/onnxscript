import OV.Model.C18Partition
/-! C18: `partGo` never loses a positional argument, and (with placeholders) puts every input at
the position of its parameter. -/
namespace OV.C18

theorem mem_dropWhile_of_ne {l : List String} {a : String} (h : a ∈ l) (hn : a ≠ "~") :
    a ∈ l.dropWhile (· = "~") := by
  induction l with
  | nil => cases h
  | cons x xs ih =>
    simp only [List.dropWhile_cons]
    split
    · rename_i hx
      simp only [List.mem_cons] at h
      rcases h with rfl | h
      · exact absurd (by simpa using hx) hn
      · exact ih h
    · exact h

theorem mem_stripPh {l : List String} {a : String} (h : a ∈ l) (hn : a ≠ "~") : a ∈ stripPh l := by
  unfold stripPh
  rw [List.mem_reverse]
  exact mem_dropWhile_of_ne (List.mem_reverse.mpr h) hn

/-- The claim of `partGo_keeps` holds before a step of the loop if it holds after it and the step only moved arguments
on — every pending positional is still pending, or became an input or an attribute value. -/
theorem kept_of_later {I : List String} {A : List (String × String)} {pos pos' ins ins' : List String}
    {attrs attrs' : List (String × String)}
    (h : (∀ a ∈ pos', a ∈ I ∨ a ∈ A.map (·.2)) ∧ (∀ a ∈ ins', a ≠ "~" → a ∈ I) ∧ (∀ x ∈ attrs', x ∈ A))
    (hne : ∀ a ∈ pos, a ≠ "~") (hp : ∀ a ∈ pos, a ∈ pos' ∨ a ∈ ins' ∨ a ∈ attrs'.map (·.2))
    (hi : ∀ a ∈ ins, a ∈ ins') (ha : ∀ x ∈ attrs, x ∈ attrs') :
    (∀ a ∈ pos, a ∈ I ∨ a ∈ A.map (·.2)) ∧ (∀ a ∈ ins, a ≠ "~" → a ∈ I) ∧ (∀ x ∈ attrs, x ∈ A) := by
  refine ⟨fun a m => ?_, fun a m => h.2.1 a (hi a m), fun x m => h.2.2 x (ha x m)⟩
  rcases hp a m with x | x | x
  · exact h.1 a x
  · exact Or.inl (h.2.1 a x (hne a m))
  · obtain ⟨e, he, rfl⟩ := List.mem_map.mp x
    exact Or.inr (List.mem_map_of_mem (h.2.2 e he))

theorem partGo_keeps (ph : Bool) (ps : List SigParam) (pos : List String) (kw : List (String × String))
    (ins : List String) (attrs : List (String × String)) (I : List String) (A : List (String × String))
    (h : partGo ph ps pos kw ins attrs = .ok (I, A)) (hne : ∀ a ∈ pos, a ≠ "~") :
    (∀ a ∈ pos, a ∈ I ∨ a ∈ A.map (·.2)) ∧ (∀ a ∈ ins, a ≠ "~" → a ∈ I) ∧ (∀ x ∈ attrs, x ∈ A) := by
  fun_induction partGo ph ps pos kw ins attrs with
  | case1 pos kw ins attrs hp =>
    cases h
    cases pos with
    | cons _ _ => cases hp
    | nil =>
      refine ⟨fun _ m => (by cases m), fun a ha hn => ?_, fun x hx => hx⟩
      split
      · exact mem_stripPh ha hn
      · exact ha
  | case2 | case9 => cases h
  | case3 p ps pos kw ins attrs _ ih =>
    exact kept_of_later (ih h (by simp)) hne (fun _ m => by simp [m]) (fun _ m => by simp [m]) (fun _ m => m)
  | case4 p ps kw ins attrs _ a rest _ ih | case5 p ps kw ins attrs _ a rest _ ih =>
    exact kept_of_later (ih h (fun x hx => hne x (by simp [hx]))) hne
      (fun x m => by rcases List.mem_cons.mp m with rfl | m <;> simp [m]) (fun _ m => by simp [m])
      (fun _ m => by simp [m])
  | case6 _ _ _ _ _ _ _ _ _ ih | case7 _ _ _ _ _ _ _ _ _ ih | case8 _ _ _ _ _ _ _ _ ih
  | case10 _ _ _ _ _ _ _ _ _ _ ih | case11 _ _ _ _ _ _ _ _ _ _ ih =>
    exact kept_of_later (ih h (by simp)) hne (fun _ m => (by cases m)) (fun _ m => by simp [m]) (fun _ m => by simp [m])

/-- the value each input parameter should receive: the positional argument at its index, else the keyword of its
    name, else absent (`~`). -/
def expectedFrom : List SigParam → List String → List (String × String) → List String
  | [], _, _ => []
  | _ :: ps, a :: rest, kw => a :: expectedFrom ps rest kw
  | p :: ps, [], kw => (kwGet kw p.name).getD "~" :: expectedFrom ps [] kw

theorem partGo_attrs_only (ps : List SigParam) (pos : List String) (kw : List (String × String))
    (ins : List String) (attrs : List (String × String)) (I : List String) (A : List (String × String))
    (hp : ∀ p ∈ ps, p.isInput = false) (h : partGo true ps pos kw ins attrs = .ok (I, A)) : I = stripPh ins := by
  fun_induction partGo true ps pos kw ins attrs with
  | case1 => cases h; rfl
  | case2 | case9 => cases h
  | case3 p _ _ _ _ _ hv => simp [hp p List.mem_cons_self] at hv
  | case4 p _ _ _ _ _ _ _ hi | case6 p _ _ _ _ _ _ _ hi => simp [hp p List.mem_cons_self] at hi
  | case10 p _ _ _ _ _ _ _ _ hph => simp [hp p List.mem_cons_self] at hph
  | case5 _ _ _ _ _ _ _ _ _ ih | case7 _ _ _ _ _ _ _ _ _ ih | case8 _ _ _ _ _ _ _ _ ih
  | case11 _ _ _ _ _ _ _ _ _ _ ih => exact ih (fun q hq => hp q (List.mem_cons_of_mem _ hq)) h

theorem partGo_positions : ∀ (ps ats : List SigParam) (pos : List String) (kw : List (String × String))
    (ins : List String) (attrs : List (String × String)) (I : List String) (A : List (String × String)),
    (∀ p ∈ ps, p.isInput = true ∧ p.variadic = false) → (∀ p ∈ ats, p.isInput = false) →
    partGo true (ps ++ ats) pos kw ins attrs = .ok (I, A) → I = stripPh (ins ++ expectedFrom ps pos kw)
  | [], ats, pos, kw, ins, attrs, I, A, _, hat, h => by
    simp only [List.nil_append] at h
    rw [partGo_attrs_only ats pos kw ins attrs I A hat h]
    simp [expectedFrom]
  | p :: ps, ats, pos, kw, ins, attrs, I, A, hp, hat, h => by
    obtain ⟨hpi, hpv⟩ := hp p (by simp)
    have hps : ∀ q ∈ ps, q.isInput = true ∧ q.variadic = false := fun q hq => hp q (by simp [hq])
    simp only [List.cons_append, partGo, hpi, hpv, Bool.and_false, Bool.false_eq_true, if_false, if_true,
      Bool.not_true, Bool.false_and, Bool.true_and] at h
    cases pos with
    | cons a rest =>
      simp only [] at h
      have := partGo_positions ps ats rest kw (ins ++ [a]) attrs I A hps hat h
      simpa [expectedFrom, List.append_assoc] using this
    | nil =>
      simp only [] at h
      cases hk : kwGet kw p.name with
      | some v =>
        simp only [hk] at h
        have := partGo_positions ps ats [] kw (ins ++ [v]) attrs I A hps hat h
        simpa [expectedFrom, hk, List.append_assoc] using this
      | none =>
        simp only [hk] at h
        split at h
        · cases h
        · have := partGo_positions ps ats [] kw (ins ++ ["~"]) attrs I A hps hat h
          simpa [expectedFrom, hk, List.append_assoc] using this

end OV.C18
