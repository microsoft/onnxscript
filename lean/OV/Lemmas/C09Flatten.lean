import OV.Lemmas.C09Reshape
/-! `Flatten2Reshape`: the emitted 2-element Reshape target. -/
namespace OV.C09

/-- Invariant of the three update steps, `P0`/`P1` being the products of the leading/trailing run-time dims: the first
entry is still `-1`, or `P0` and positive, or the copy marker `0` with `P0` being dim 0 (`axis = 1`); the second is
still `-1`, or `P1` and positive. -/
def FGood (l : List Int) (P0 P1 : Int) (ns : List Int) : Prop :=
  ∃ a b, ns = [a, b] ∧ (a = -1 ∨ (a = P0 ∧ 0 < P0) ∨ (a = 0 ∧ l[0]? = some P0)) ∧ (b = -1 ∨ (b = P1 ∧ 0 < P1))

theorem FGood.set0 {l : List Int} {P0 P1 : Int} {ns : List Int} (h : FGood l P0 P1 ns) (hp : 0 < P0) :
    FGood l P0 P1 (setAt ns 0 P0) := by
  obtain ⟨a, b, rfl, _, hb⟩ := h
  exact ⟨P0, b, rfl, .inr (.inl ⟨rfl, hp⟩), hb⟩

theorem FGood.set1 {l : List Int} {P0 P1 : Int} {ns : List Int} (h : FGood l P0 P1 ns) (hp : 0 < P1) :
    FGood l P0 P1 (setAt ns 1 P1) := by
  obtain ⟨a, b, rfl, ha, _⟩ := h
  exact ⟨a, P1, rfl, ha, .inr ⟨rfl, hp⟩⟩

theorem pySlice_to_nat {α} (l : List α) (n : Nat) (h : n ≤ l.length) :
    pySlice l none (some (n : Int)) = l.take n ∧ pySlice l (some (n : Int)) none = l.drop n := by
  have hc : pyClamp l.length (n : Int) = n := by
    rw [pyClamp, if_neg (by omega), Int.toNat_natCast]; omega
  simp only [pySlice, hc, List.drop_zero, List.take_length, and_self]

theorem flat_phase1_good (axis : Nat) (l : List Int) (h : axis ≤ l.length) :
    FGood l (prodInt (l.take axis)) (prodInt (l.drop axis)) (flatPhase1 (axis : Int) (some (l.length : Int))) := by
  unfold flatPhase1
  by_cases h0 : axis = 0
  · subst h0
    exact ⟨1, -1, rfl, .inr (.inl ⟨rfl, Int.one_pos⟩), .inl rfl⟩
  rw [if_neg (by omega)]
  by_cases h1 : axis = 1
  · subst h1
    cases l with
    | nil => cases h
    | cons x t => exact ⟨0, -1, rfl, .inr (.inr ⟨rfl, congrArg some (Int.mul_one x).symm⟩), .inl rfl⟩
  rw [if_neg (by omega)]
  by_cases hr : axis = l.length
  · rw [if_pos (by rw [hr]), hr, List.drop_length]
    exact ⟨-1, 1, rfl, .inl rfl, .inr ⟨rfl, by decide⟩⟩
  · rw [if_neg fun hc => hr (Int.ofNat_inj.mp (Option.some.inj hc))]
    exact ⟨-1, -1, rfl, .inl rfl, .inl rfl⟩

theorem known_pos {σ : String → Nat} {o : Shape} {n P : Int} (hm : Dim.known n ∈ o) (hz : Dim.known 0 ∉ o)
    (ha : (Dim.known n).Admits σ P) (hP : 0 ≤ P) : n = P ∧ 0 < P := by
  have : n ≠ 0 := fun e => hz (e ▸ hm)
  have : n = P := ha
  omega

theorem admits_pair {σ : String → Nat} {o : Shape} {a b : Int} (h : Admits σ o [a, b]) :
    ∃ d₀ d₁, o = [d₀, d₁] ∧ d₀.Admits σ a ∧ d₁.Admits σ b :=
  match o, h with
  | [d₀, d₁], h => ⟨d₀, d₁, rfl, h.1, h.2.1⟩
  | [], h => h.elim
  | [_], h => h.2.elim
  | _ :: _ :: _ :: _, h => h.2.2.elim

theorem flat_phase2_good {σ : String → Nat} {l : List Int} {P0 P1 : Int} {ns : List Int} (out : Option Shape)
    (hout : ∀ o, out = some o → Admits σ o [P0, P1]) (hnz : ∀ o, out = some o → Dim.known 0 ∉ o)
    (h0 : 0 ≤ P0) (h1 : 0 ≤ P1) (h : FGood l P0 P1 ns) : FGood l P0 P1 (flatPhase2 out ns) := by
  cases out with
  | none => exact h
  | some o =>
    obtain ⟨d0, d1, rfl, ha0, ha1⟩ := admits_pair (hout o rfl)
    have hz := hnz _ rfl
    simp only [flatPhase2, List.getElem?_cons_zero, List.getElem?_cons_succ]
    have s0 : FGood l P0 P1 (match (some d0 : Option Dim) with | some (Dim.known n) => setAt ns 0 n | _ => ns) := by
      cases d0 with
      | known n =>
        obtain ⟨rfl, hp⟩ := known_pos (List.mem_cons_self ..) hz ha0 h0
        exact h.set0 hp
      | _ => exact h
    cases d1 with
    | known n =>
      obtain ⟨rfl, hp⟩ := known_pos (List.mem_cons_of_mem _ (List.mem_cons_self ..)) hz ha1 h1
      exact s0.set1 hp
    | _ => exact s0

theorem allInts_pos {σ : String → Nat} {s : Shape} {c l : List Int} (hc : allInts s = some c) (ha : Admits σ s l)
    (hz : Dim.known 0 ∉ s) (hn : ∀ d ∈ l, 0 ≤ d) : 0 < prodInt l := by
  cases allInts_admits hc ha
  refine prodInt_pos fun d hd => ?_
  have h0 : d ≠ 0 := fun e => hz (by rw [allInts_eq_map hc, ← e]; exact List.mem_map_of_mem hd)
  have := hn d hd
  omega

theorem flat_phase3_good {σ : String → Nat} {axis : Nat} {ns : List Int} (s : Shape) (l : List Int)
    (hs : Admits σ s l) (hax : axis ≤ s.length) (hz : Dim.known 0 ∉ s) (hn : ∀ d ∈ l, 0 ≤ d)
    (h : FGood l (prodInt (l.take axis)) (prodInt (l.drop axis)) ns) :
    FGood l (prodInt (l.take axis)) (prodInt (l.drop axis)) (flatPhase3 (some s) (axis : Int) ns) := by
  obtain ⟨e1, e2⟩ := pySlice_to_nat s axis hax
  simp only [flatPhase3, e1, e2]
  have s0 : FGood l (prodInt (l.take axis)) (prodInt (l.drop axis))
      (match allInts (s.take axis) with | some c => setAt ns 0 (prodInt c) | none => ns) := by
    cases hc : allInts (s.take axis) with
    | none => exact h
    | some c =>
      have hp := allInts_pos hc (admits_take hs axis) (fun hm => hz (List.mem_of_mem_take hm))
        (fun d hd => hn d (List.mem_of_mem_take hd))
      rw [← allInts_admits hc (admits_take hs axis)]; exact h.set0 hp
  cases hc : allInts (s.drop axis) with
  | none => exact s0
  | some c =>
    have hp := allInts_pos hc (admits_drop hs axis) (fun hm => hz (List.mem_of_mem_drop hm))
      (fun d hd => hn d (List.mem_of_mem_drop hd))
    rw [← allInts_admits hc (admits_drop hs axis)]; exact s0.set1 hp

/-- A target in the invariant's form, not `[-1, -1]`, makes Reshape (allowzero=0) return `[P0, P1]` — unless it is
`[0, -1]` and the copied dim 0 is `0`, which leaves nothing to infer the `-1` from. -/
theorem reshape_flat {l : List Int} {P0 P1 a b : Int} (h0 : 0 ≤ P0) (h1 : 0 ≤ P1) (hp : prodInt l = P0 * P1)
    (ha : a = -1 ∨ (a = P0 ∧ 0 < P0) ∨ (a = 0 ∧ l[0]? = some P0)) (hb : b = -1 ∨ (b = P1 ∧ 0 < P1))
    (hcnt : [a, b].count (-1) ≤ 1) (hbad : a = 0 → b = -1 → P0 ≠ 0) :
    reshapeTarget l [a, b] false = some [P0, P1] := by
  have hb' : Hole b P1 := hb.elim .inr fun h => .inl h.1
  have hb0 : b ≠ 0 := by omega
  have hpr : prodInt [P0, P1] = prodInt l := by rw [hp, prodInt_cons, prodInt_cons, prodInt_nil, Int.mul_one]
  have hnn : ∀ r ∈ [P0, P1], 0 ≤ r := by
    intro r hr
    rcases List.mem_cons.mp hr with rfl | hr
    · exact h0
    · cases List.mem_singleton.mp hr; exact h1
  by_cases ha0 : a = 0
  · -- the `0` copies dim 0, which is `P0`
    subst ha0
    have hl0 : l[0]? = some P0 := by
      rcases ha with h | h | h
      · exact absurd h (by decide)
      · omega
      · exact h.2
    have hc : [P0, b].count (-1) ≤ 1 := by
      rw [List.count_cons_of_ne (by omega)]; exact List.count_le_length
    refine reshapeTarget_resolved (t1 := [P0, b]) ?_ ⟨.inl rfl, hb', trivial⟩ hc (fun hm h0m => ?_) hnn hpr
    · simp only [resolveZeros, if_true, hl0, if_neg hb0, Bool.false_eq_true, if_false]
    · -- a `-1` beside a `0`: `b = -1` and `P0 = 0`
      have hb1 : b = -1 := by
        rcases List.mem_cons.mp hm with h | hm
        · omega
        · exact (List.mem_singleton.mp hm).symm
      rcases List.mem_cons.mp h0m with h | h0m
      · exact hbad rfl hb1 h.symm
      · exact hb0 (List.mem_singleton.mp h0m).symm
  · -- no `0` in the target: it is the result with at most one hole
    have ha' : Hole a P0 := ha.elim .inr fun h => h.elim (fun h => .inl h.1) fun h => absurd h.1 ha0
    refine reshapeTarget_punched ⟨ha', hb', trivial⟩ hcnt hnn hpr fun hm => ?_
    rcases List.mem_cons.mp hm with h | hm
    · exact absurd h.symm ha0
    · exact absurd (List.mem_singleton.mp hm).symm hb0

/-- the rule fires only on inputs without a static zero dim (commit 02f546a) -/
theorem flatten_fires_no_static_zero (s : Shape) (out : Option Shape) (axisAttr : Int) (tgt : List Int)
    (h : flattenTarget (some s) out axisAttr = some tgt) : Dim.known 0 ∉ s := by
  intro hm
  have hz : hasStaticZero (some s) = true := List.any_eq_true.mpr ⟨_, hm, decide_eq_true rfl⟩
  simp only [flattenTarget] at h
  rw [if_pos hz] at h; cases h

/-- for every value of the `axis` attribute: `axis` is what the check normalises it to (a negative one counts from the
end) -/
theorem flatten_exact {σ : String → Nat} (s : Shape) (out : Option Shape) (axisAttr : Int) (axis : Nat) (tgt : List Int)
    (hnorm : (if axisAttr < 0 then axisAttr + (s.length : Int) else axisAttr) = (axis : Int))
    (h : flattenTarget (some s) out axisAttr = some tgt) (hax : axis ≤ s.length)
    (l : List Int) (hs : Admits σ s l) (hn : ∀ d ∈ l, 0 ≤ d)
    (hout : ∀ o, out = some o → Admits σ o (flattenSpec l axis)) (hoz : ∀ o, out = some o → Dim.known 0 ∉ o)
    (hbad : tgt = [0, -1] → l.head? ≠ some 0) :
    reshapeTarget l tgt false = some (flattenSpec l axis) := by
  have hl := admits_length hs
  have hz := flatten_fires_no_static_zero s out _ tgt h
  have hP0 : 0 ≤ prodInt (l.take axis) := prodInt_nonneg fun d hd => hn d (List.mem_of_mem_take hd)
  have hP1 : 0 ≤ prodInt (l.drop axis) := prodInt_nonneg fun d hd => hn d (List.mem_of_mem_drop hd)
  have good := flat_phase3_good (σ := σ) s l hs hax hz hn
    (flat_phase2_good out hout hoz hP0 hP1 (hl ▸ flat_phase1_good axis l (hl ▸ hax)))
  simp only [flattenTarget, Option.map_some, hnorm, ← List.count_eq_length_filter] at h
  split at h
  · cases h
  generalize flatPhase3 (some s) (axis : Int) (flatPhase2 out (flatPhase1 (axis : Int) (some (s.length : Int)))) = ns
    at h good
  split at h
  · cases h
  next hcnt =>
  cases h
  obtain ⟨a, b, rfl, ha, hb⟩ := good
  exact reshape_flat hP0 hP1 (by rw [← prodInt_append, List.take_append_drop]) ha hb (Nat.le_of_not_lt hcnt)
    fun ha0 hb1 hP => by
      rcases ha with h | h | ⟨_, hl0⟩
      · omega
      · omega
      · exact hbad (by rw [ha0, hb1]) (by rw [List.head?_eq_getElem?, hl0, hP])

theorem pos_of_symbols_pos {σ : String → Nat} {s : Shape} {l : List Int} (h : Admits σ s l)
    (hz : Dim.known 0 ∉ s) (hu : hasUnknown s = false) (hn : ∀ d ∈ l, 0 ≤ d) (hs : ∀ a, Dim.sym a ∈ s → 0 < σ a) :
    ∀ v ∈ l, 0 < v := by
  induction h using Admits.ind with
  | nil => nofun
  | @cons d s w l hd _ ih =>
    rw [hasUnknown_cons, Bool.or_eq_false_iff] at hu
    intro v hv
    rcases List.mem_cons.mp hv with rfl | hv
    · have := hn v (List.mem_cons_self ..)
      cases d with
      | known n =>
        have h0 : n ≠ 0 := fun e => hz (e ▸ List.mem_cons_self ..)
        have : n = v := hd
        omega
      | sym a =>
        have := hs a (List.mem_cons_self ..)
        have : (σ a : Int) = v := hd
        omega
      | unknown => cases hu.1
    · exact ih (fun hm => hz (List.mem_cons_of_mem _ hm)) hu.2 (fun d hd => hn d (List.mem_cons_of_mem _ hd))
        (fun a ha => hs a (List.mem_cons_of_mem _ ha)) v hv

end OV.C09
