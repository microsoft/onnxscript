import OV.Model.C16Bind
/-!
List lemmas for the theorems of `OV.Props.C16` about names: the regex language of `matchName`, and `resolveKey` on a
name of that shape.
-/
namespace OV.C16

theorem takeWhile_eq_self {α} {p : α → Bool} {l : List α} (hl : ∀ x ∈ l, p x = true) :
    l.takeWhile p = l ∧ l.dropWhile p = [] := by
  simpa using And.intro (List.takeWhile_append_of_pos hl (l₂ := [])) (List.dropWhile_append_of_pos hl (l₂ := []))

theorem isWord_ne (c : Nat) (h : isWord c = true) : c ≠ 58 ∧ c ≠ 46 := by
  unfold isWord at h
  simp only [Bool.or_eq_true, Bool.and_eq_true, decide_eq_true_eq, beq_iff_eq] at h
  omega

theorem resolveKey_shape (ns nm ov : List Nat)
    (hns : ∀ c ∈ ns, isWord c = true) (hnm : ∀ c ∈ nm, isWord c = true)
    (hov : ov = [] ∨ ∃ t, ov = 46 :: t) :
    resolveKey (ns ++ (58 :: 58 :: (nm ++ ov))) =
      ⟨ns, nm, match ov with | [] => defaultCodes | _ :: t => t⟩ := by
  have h58 : ∀ x ∈ ns, (x != 58) = true := fun x hx => by simp [(isWord_ne x (hns x hx)).1]
  have h46 : ∀ x ∈ nm, (x != 46) = true := fun x hx => by simp [(isWord_ne x (hnm x hx)).2]
  rcases hov with rfl | ⟨t, rfl⟩ <;>
    simp [resolveKey, List.takeWhile_append_of_pos h58, List.dropWhile_append_of_pos h58,
      List.takeWhile_append_of_pos h46, List.dropWhile_append_of_pos h46, takeWhile_eq_self h46]

end OV.C16
