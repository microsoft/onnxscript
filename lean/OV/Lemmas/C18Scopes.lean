import OV.Lemmas.C18Ops
/-! C18: the enclosing builders while a subgraph body runs. -/
namespace OV.C18

theorem fail_stack_cur (s : St) (e : String) : (fail s e).stack = s.stack ∧ (fail s e).cur = s.cur := by
  unfold fail; split <;> exact ⟨rfl, rfl⟩

theorem plain_keeps (fns : List Fn) (st : St) (it : Item) (h : isSub it = false) :
    (step true fns st it).stack = st.stack ∧
    ((∀ n, it ≠ .push n) → it ≠ .pop → (step true fns st it).cur.scope = st.cur.scope) := by
  cases it with
  | input n => exact ⟨rfl, fun _ _ => rfl⟩
  | op t a o nn g as => obtain ⟨_, _, _, _, _, c⟩ := doOp_adds true st t a o nn g as; exact ⟨c.adds.stack, fun _ _ => c.adds.scope⟩
  | push n => exact ⟨rfl, fun hn _ => absurd rfl (hn n)⟩
  | pop =>
    obtain ⟨s, sc, x, e⟩ := popScope_cases st
    exact ⟨by simp only [step, e]; exact x.stack, fun _ hp => absurd rfl hp⟩
  | call f a o as =>
    obtain ⟨_, _, _, _, x⟩ := doCall_adds' true fns st f a o as; exact ⟨x.stack, fun _ _ => x.scope⟩
  | inline fi a o p as =>
    obtain ⟨_, _, _, _, x⟩ := doInline_adds' true fns st fi a o p as
    exact ⟨x.stack, fun _ _ => x.scope⟩
  | output hd n =>
    simp only [step]
    obtain ⟨s, os, x, e⟩ := doOutput_cases st hd n
    rw [e]
    exact ⟨x.stack, fun _ _ => x.scope⟩
  | _ => cases h

theorem stack_plain (fns : List Fn) (st : St) (it : Item) (h : isSub it = false) :
    (step true fns st it).stack = st.stack := (plain_keeps fns st it h).1

theorem stack_begin (fns : List Fn) (st : St) (g : String) (i : List String) :
    (step true fns st (.beginSub g i)).stack = st.cur :: st.stack := by
  simp only [step, doBeginSub]

theorem stack_leave (fns : List Fn) (st : St) (it : Item) (p : Frame) (rest : List Frame)
    (hit : it = .abortSub ∨ ∃ r d, it = .endSub r d) (hst : st.stack = p :: rest) :
    (step true fns st it).stack = rest ∧ (step true fns st it).cur = p := by
  have hab : (abandon st).stack = rest ∧ (abandon st).cur = p := by rw [abandon_cons hst]; exact ⟨rfl, rfl⟩
  rcases hit with rfl | ⟨r, d, rfl⟩
  · simpa only [step, doAbortSub, hst] using hab
  · show (doEndSub st r d).stack = rest ∧ (doEndSub st r d).cur = p
    rcases doEndSub_cases st r d with ⟨h0, _⟩ | ⟨p', rest', hs, e | ⟨s, ids, x, e⟩⟩
    · rw [hst] at h0; cases h0
    · rw [e, (fail_stack_cur _ _).1, (fail_stack_cur _ _).2]; exact hab
    · cases hst.symm.trans hs; rw [e]; exact ⟨rfl, rfl⟩

/-- nesting depth of a trace-function body relative to its own start: `none` as soon as the body would leave the
    subgraph it runs in. -/
def relDepth : Nat → List Item → Option Nat
  | d, [] => some d
  | d, .beginSub _ _ :: r => relDepth (d + 1) r
  | 0, .endSub _ _ :: _ => none
  | 0, .abortSub :: _ => none
  | d + 1, .endSub _ _ :: r => relDepth d r
  | d + 1, .abortSub :: r => relDepth d r
  | d, _ :: r => relDepth d r

theorem relDepth_plain {d : Nat} {it : Item} {r : List Item} (h : isSub it = false) :
    relDepth d (it :: r) = relDepth d r := by
  cases it <;> cases d <;> first | rfl | cases h

/-- a body that stays inside its subgraph only ever stacks frames *on top of* the enclosing ones. -/
theorem body_keeps_base (fns : List Fn) : ∀ (body : List Item) (s : St) (k : Nat) (pre base : List Frame) (k' : Nat),
    s.stack = pre ++ base → pre.length = k → relDepth k body = some k' →
    ∃ pre', pre'.length = k' ∧ (body.foldl (step true fns) s).stack = pre' ++ base
  | [], s, k, pre, base, k', hs, hl, hd => by
    simp only [relDepth, Option.some.injEq] at hd
    exact ⟨pre, hd ▸ hl, hs⟩
  | it :: r, s, k, pre, base, k', hs, hl, hd => by
    simp only [List.foldl_cons]
    by_cases hp : isSub it = false
    · rw [relDepth_plain hp] at hd
      exact body_keeps_base fns r _ k pre base k' (by rw [stack_plain fns s it hp, hs]) hl hd
    · cases it with
      | beginSub g i =>
        exact body_keeps_base fns r _ (k + 1) (s.cur :: pre) base k'
          (by rw [stack_begin, hs]; rfl) (by simp [hl]) (by simpa [relDepth] using hd)
      | endSub rr d =>
        -- leaving: only possible above depth 0, and pops the innermost of the frames stacked by the body
        match k, pre, hl, hd with
        | 0, _, _, hd => simp [relDepth] at hd
        | k0 + 1, p :: pre0, hl, hd =>
          have := (stack_leave fns s (.endSub rr d) p (pre0 ++ base) (Or.inr ⟨rr, d, rfl⟩) (by simpa using hs)).1
          exact body_keeps_base fns r _ k0 pre0 base k' this (by simpa using hl) (by simpa [relDepth] using hd)
      | abortSub =>
        match k, pre, hl, hd with
        | 0, _, _, hd => simp [relDepth] at hd
        | k0 + 1, p :: pre0, hl, hd =>
          have := (stack_leave fns s .abortSub p (pre0 ++ base) (Or.inl rfl) (by simpa using hs)).1
          exact body_keeps_base fns r _ k0 pre0 base k' this (by simpa using hl) (by simpa [relDepth] using hd)
      | _ => exact absurd rfl hp

end OV.C18
