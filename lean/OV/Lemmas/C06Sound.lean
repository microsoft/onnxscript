import OV.Lemmas.C06Walk
import OV.Lemmas.C06Top
/-!
  C06 — the soundness half of the walk of `C06Walk` read at its two guards, and soundness of `Pattern.match`.

  At the trivial guard (patterns without tagged `OpIdDispatchOr`, `backOk`) and at `allOk` (all patterns: the
  invariants hold as long as no partial match on the stack is failed; a failed partial match is never merged and
  never reported, so the statement about `Pattern.match` is unconditional).
-/
namespace OV.C06

/-- a recursive node matcher known to be sound under the guard, of which no completeness is asked -/
theorem NodeSpecE.ofSound {Ar : Prop} {G : Stack → Prop} {E : Env} {rec : NPId → NodeId → Stack → R}
    (h : ∀ np n rest c P r, rec np n (c :: rest) = r → InvG G E rest c P → (∀ x ∈ P, np < x) → FreshP rest c →
      ∃ c', ResS rest r c' ∧ Le c c' ∧ FreshP rest c' ∧
        (r.1 = true → InvG G E rest c' P ∧ (G (c' :: rest) → SatN E (assignStack (c' :: rest)) np n))) :
    NodeSpecE Ar G E False (fun _ _ _ => False) 0 rec :=
  fun np n rest c P hinv hlt hf => ⟨Step.ofLeFresh (h np n rest c P _ rfl hinv hlt hf), fun hC => hC.2.1.elim⟩

def NodeSpecS (E : Env) (rec : NPId → NodeId → Stack → R) : Prop :=
  ∀ np n rest c P r, rec np n (c :: rest) = r → InvS E rest c P → (∀ x ∈ P, np < x) → FreshP rest c →
    ∃ c', ResS rest r c' ∧ Le c c' ∧ FreshP rest c' ∧
      (r.1 = true → InvS E rest c' P ∧ SatN E (assignStack (c' :: rest)) np n)

theorem NodeSpecS.toE {Ar : Prop} {E : Env} {rec : NPId → NodeId → Stack → R} (h : NodeSpecS E rec) :
    NodeSpecE Ar (fun _ => True) E False (fun _ _ _ => False) 0 rec :=
  .ofSound fun np n rest c P r hr hinv hlt hf =>
    let ⟨c', a, b, d, e⟩ := h np n rest c P r hr (hinv trivial) hlt hf
    ⟨c', a, b, d, fun ht => ⟨fun _ => (e ht).1, fun _ => (e ht).2⟩⟩

theorem matchAlts_specS (E : Env) (rec : NPId → NodeId → Stack → R) (hrec : NodeSpecS E rec)
    (hf3 : E.fixF3 = true) : ∀ (alts : List VPat) (tags : List Int) (tagVar : Option String)
      (v : Option ValueId) (rest : Stack) (c : Partial) (P : List NPId) (r : R),
      matchAlts E rec alts tags tagVar v (c :: rest) = r → backOkL alts = true → InvS E rest c P →
      FreshP rest c → (∀ q ∈ refsL alts, ∀ x ∈ P, q < x) →
      ∃ c', ResS rest r c' ∧ Le c c' ∧ FreshP rest c' ∧
        (r.1 = true → InvS E rest c' P ∧ ∃ i alt, alts[i]? = some alt ∧
          SatV E (assignStack (c' :: rest)) alt v ∧
          (∀ t, tagVar = some t → (assignStack (c' :: rest)).names t = some (.tag (tags.getD i 0)))) :=
  fun alts tags tagVar v rest c P _ hr hno hinv hf hq => hr ▸
    ((matchAlts_exact guard_true hrec.toE hf3 alts tags tagVar v rest c P (.inr hno) (fun _ => hinv) hf hq).1.mono
      fun _ _ h => ⟨h.1 trivial, h.2 trivial⟩).leFresh trivial hf

/-- `InvS` as long as nothing on the stack has failed (`InvG allOk`) -/
def InvT (E : Env) (rest : Stack) (c : Partial) (P : List NPId) : Prop :=
  allOk (c :: rest) → InvS E rest c P

def NodeSpecT (E : Env) (rec : NPId → NodeId → Stack → R) : Prop :=
  ∀ np n rest c P r, rec np n (c :: rest) = r → InvT E rest c P → (∀ x ∈ P, np < x) → FreshP rest c →
    ∃ c', ResS rest r c' ∧ Le c c' ∧ FreshP rest c' ∧
      (r.1 = true → InvT E rest c' P ∧ (allOk (c' :: rest) → SatN E (assignStack (c' :: rest)) np n))

theorem matchAlts_specT (E : Env) (rec : NPId → NodeId → Stack → R) (hrec : NodeSpecT E rec)
    (hf3 : E.fixF3 = true) : ∀ (alts : List VPat) (tags : List Int) (tagVar : Option String)
      (v : Option ValueId) (rest : Stack) (c : Partial) (P : List NPId) (r : R),
      matchAlts E rec alts tags tagVar v (c :: rest) = r → InvT E rest c P →
      FreshP rest c → (∀ q ∈ refsL alts, ∀ x ∈ P, q < x) →
      ∃ c', ResS rest r c' ∧ Le c c' ∧ FreshP rest c' ∧
        (r.1 = true → InvT E rest c' P ∧ (allOk (c' :: rest) → ∃ i alt, alts[i]? = some alt ∧
          SatV E (assignStack (c' :: rest)) alt v ∧
          (∀ t, tagVar = some t → (assignStack (c' :: rest)).names t = some (.tag (tags.getD i 0))))) :=
  fun alts tags tagVar v rest c P _ hr hinv hf hq => hr ▸
    (matchAlts_exact guard_allOk (.ofSound hrec) hf3 alts tags tagVar v rest c P (.inl tracks_allOk) hinv hf
      hq).1.leFresh trivial hf

/-- what the matcher proper establishes on every pattern: the reported bindings satisfy every output
node of the pattern on some candidate combination that starts with the given node -/
theorem matcher_sound (E : Env) (root : NodeId) (rm : Bool) (hm : E.fixF3 = true ∨ E.p.dispOk = true)
    (htopo : E.p.topoDeep) (har : E.fixF1 = true ∨ OutputArityOk E.p E.g)
    (hok : (matcherMatch E root rm).ok = true) :
    ∃ combo, combo.head? = some root ∧ E.p.outputNodes.length ≤ combo.length ∧
      (∀ np n, (np, n) ∈ E.p.outputNodes.zip combo → SatN E (matcherMatch E root rm).assign np n) ∧
      E.p.outputs.mapM ((matcherMatch E root rm).assign.outputOf E.p) = some (matcherMatch E root rm).outputs ∧
      (rm = true → Removable E.g (matcherMatch E root rm).nodes (matcherMatch E root rm).outputs) ∧
      (matcherMatch E root rm).nodes = (matcherMatch E root rm).nb.map (·.2) := by
  obtain ⟨combo, he, hhead, hlen⟩ := matcherMatch_ok E root rm hok
  rw [he] at hok ⊢
  unfold multiMatch at hok ⊢
  obtain ⟨c', r1, g1, s1⟩ := (matchOutputNodes_exact guard_allOk hm (.inl tracks_allOk) htopo id
    (E.p.outputNodes.zip combo) {} (InvG.empty _ E) (FreshP.empty [])).1
  obtain ⟨ht, ho, hb, hn, hnb, hvb, hrem⟩ := finish_spec E rm _ c' r1.st (r1.okF har) hok
  have hokc : allOk [c'] := fun x hx => by
    cases List.mem_singleton.1 hx
    exact (finish_of_ok E rm _ _ r1.st hok).1
  have hA : Result.assign (finish E rm (matchOutputNodes E (E.p.outputNodes.zip combo) [{}])) =
      assignOf c' := by
    simp only [Result.assign, assignOf, hb, hnb, hvb]
  rw [hA, hn, hnb]
  exact ⟨combo, hhead, hlen, fun np n hmem => satN_mono (assignStack_single c') ((s1 ht).2 hokc np n hmem),
    outputValues_eq E.p c' ▸ ho, hrem, (g1.fresh (FreshP.empty [])).nbn⟩

/-- A truthy `Pattern.match`: the subgraph ending at the node is an instance of the pattern under the
reported bindings, the checkers accept, the matched nodes are removable if that was asked for, and the
reported outputs, matched nodes and bound inputs are exactly those of the instance. -/
theorem patternMatch_sound_all (E : Env) (root : NodeId) (rm : Bool) (r : Result)
    (hm : E.fixF3 = true ∨ E.p.dispOk = true) (htopo : E.p.topoDeep)
    (har : E.fixF1 = true ∨ OutputArityOk E.p E.g) (h : patternMatch E root rm = some r) :
    Instance E root r.assign ∧ ChecksPass E.p r.assign ∧
      (rm = true → Removable E.g r.nodes r.outputs) ∧
      E.p.outputs.mapM (r.assign.outputOf E.p) = some r.outputs ∧
      r.nodes = r.nb.map (·.2) ∧
      (∀ nm, some nm ∈ E.p.inputs → ∃ b, r.assign.names nm = some b) := by
  obtain ⟨hok, hr, hchk, hvchk, hcond⟩ := patternMatch_some E root rm r h
  obtain ⟨combo, hhead, hlen, hsat, hout, hrem, hnbn⟩ := matcher_sound E root rm hm htopo har hok
  -- binding the unbound pattern inputs to `None` only adds names
  have hale : ALe (matcherMatch E root rm).assign r.assign := by
    subst hr
    exact ⟨(inputs_fold_le E.p.inputs _).1, fun _ _ hk => hk, fun _ _ hk => hk⟩
  have hzip : ∀ (i : Nat) np, E.p.outputNodes[i]? = some np →
      ∃ n, combo[i]? = some n ∧ SatN E r.assign np n := by
    intro i np hi
    have hic : i < combo.length := by
      rcases Nat.lt_or_ge i E.p.outputNodes.length with h | h
      · omega
      · simp [List.getElem?_eq_none h] at hi
    exact ⟨combo[i], List.getElem?_eq_getElem hic, satN_mono hale (hsat np _
      (List.mem_iff_getElem?.2 ⟨i, List.getElem?_zip_eq_some.2 ⟨hi, List.getElem?_eq_getElem hic⟩⟩))⟩
  refine ⟨⟨fun np hnp => ?_, fun np hnp => ?_, hcond⟩, ⟨fun np n P hnode hP => ?_, fun id v hleaf => ?_⟩,
    ?_, ?_, ?_, ?_⟩
  · obtain ⟨n, hn, hs⟩ := hzip 0 np (List.head?_eq_getElem? ▸ hnp)
    cases (List.head?_eq_getElem? ▸ hhead).symm.trans hn
    exact satN_node hs
  · obtain ⟨i, hi⟩ := List.mem_iff_getElem?.1 hnp
    obtain ⟨n, _, hs⟩ := hzip i np hi
    exact ⟨n, satN_node hs, hs⟩
  · have := List.all_eq_true.1 hchk (np, n) (List.lookup_mem hnode)
    simp only [hP] at this
    simpa using this
  · simpa using List.all_eq_true.1 hvchk (VKey.leaf id, v) (List.lookup_mem hleaf)
  · subst hr; exact hrem
  · subst hr; exact mapM_mono (outputOf_mono hale E.p) hout
  · subst hr; exact hnbn
  · subst hr; exact (inputs_fold_le E.p.inputs _).2

end OV.C06
