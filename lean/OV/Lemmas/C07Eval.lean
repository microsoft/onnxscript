import OV.Model.C07Apply
import OV.Lemmas.Util
/-! Evaluation of node lists: locality, commutation of independent nodes, sinking the matched nodes
to the root, agreement of environments where a predicate on names holds (off a set of hidden names,
or on the names a graph mentions). -/
namespace OV.C07
variable {V : Type}

def setMany (ρ : Env V) : List Name → List V → Env V
  | x :: xs, v :: vs => setMany (ρ.set x v) xs vs
  | _, _ => ρ

theorem bindOuts_eq (xs : List Name) : ∀ (ρ : Env V) (vs : List V),
    bindOuts ρ xs vs = if xs.length = vs.length then some (setMany ρ xs vs) else none := by
  induction xs with
  | nil => intro ρ vs; cases vs <;> rfl
  | cons x xs ih =>
    intro ρ vs
    cases vs with
    | nil => rfl
    | cons v vs => simp only [bindOuts, setMany, List.length_cons, Nat.add_right_cancel_iff, ih]

theorem setMany_notMem (xs : List Name) : ∀ (ρ : Env V) (vs : List V) (x : Name), x ∉ xs →
    setMany ρ xs vs x = ρ x := by
  induction xs with
  | nil => intro _ _ _ _; rfl
  | cons y ys ih =>
    intro ρ vs x hx
    cases vs with
    | nil => rfl
    | cons v vs =>
      rw [setMany, ih _ vs x (List.not_mem_of_not_mem_cons hx)]
      exact if_neg (List.ne_of_not_mem_cons hx)

theorem set_set_comm (ρ : Env V) {x y : Name} (h : x ≠ y) (v w : V) :
    (ρ.set x v).set y w = (ρ.set y w).set x v := by
  funext z
  unfold Env.set
  by_cases hy : z = y
  · rw [if_pos hy, if_neg (fun hx : z = x => h (hx.symm.trans hy)), if_pos hy]
  · rw [if_neg hy, if_neg hy]

theorem setMany_set_comm (x : Name) (v : V) (ys : List Name) : ∀ (ρ : Env V) (ws : List V), x ∉ ys →
    setMany (ρ.set x v) ys ws = (setMany ρ ys ws).set x v := by
  induction ys with
  | nil => intro _ _ _; rfl
  | cons y ys ih =>
    intro ρ ws hx
    cases ws with
    | nil => rfl
    | cons w ws =>
      rw [setMany, setMany, set_set_comm ρ (List.ne_of_not_mem_cons hx), ih _ ws (List.not_mem_of_not_mem_cons hx)]

theorem setMany_comm (xs ys : List Name) (ws : List V) : ∀ (ρ : Env V) (vs : List V), (∀ x ∈ xs, x ∉ ys) →
    setMany (setMany ρ xs vs) ys ws = setMany (setMany ρ ys ws) xs vs := by
  induction xs with
  | nil => intro _ _ _; rfl
  | cons x xs ih =>
    intro ρ vs h
    cases vs with
    | nil => rfl
    | cons v vs =>
      rw [setMany, setMany, ih _ vs (fun z hz => h z (List.mem_cons_of_mem _ hz)),
        setMany_set_comm x v ys ρ ws (h x (List.mem_cons_self ..))]

theorem bindOuts_comm (ρ : Env V) (xs ys : List Name) (vs ws : List V) (h : ∀ x ∈ xs, x ∉ ys) :
    ((bindOuts ρ xs vs).bind fun ρ1 => bindOuts ρ1 ys ws) =
      (bindOuts ρ ys ws).bind fun ρ2 => bindOuts ρ2 xs vs := by
  simp only [bindOuts_eq]
  by_cases hx : xs.length = vs.length <;> by_cases hy : ys.length = ws.length <;>
    simp [hx, hy, setMany_comm xs ys ws ρ vs h]

def Agree (P : Name → Prop) (ρ ρ' : Env V) : Prop := ∀ x, P x → ρ x = ρ' x

/-- `Agree (· ∉ H)`, as the statements of `OV.Props.C07` spell it (`ORel`; `orel_iff` is the bridge) -/
def EqOff (H : List Name) (ρ ρ' : Env V) : Prop := ∀ x, x ∉ H → ρ x = ρ' x

theorem Agree.set {P : Name → Prop} {ρ ρ' : Env V} (h : Agree P ρ ρ') (x : Name) (v : V) :
    Agree P (ρ.set x v) (ρ'.set x v) := by
  intro y hy
  unfold Env.set
  by_cases hxy : y = x
  · rw [if_pos hxy, if_pos hxy]
  · rw [if_neg hxy, if_neg hxy]; exact h y hy

def ORel (H : List Name) : Option (Env V) → Option (Env V) → Prop
  | some ρ, some ρ' => EqOff H ρ ρ'
  | none, none => True
  | _, _ => False

theorem orel_iff {H : List Name} {r r' : Option (Env V)} : ORel H r r' ↔ Option.Rel (Agree (· ∉ H)) r r' := by
  cases r <;> cases r' <;> simp [ORel, EqOff, Agree]

theorem ORel.refl (H : List Name) (r : Option (Env V)) : ORel H r r := by
  cases r with
  | none => trivial
  | some ρ => exact fun _ _ => rfl

theorem bindOuts_agree (P : Name → Prop) (xs : List Name) : ∀ (vs : List V) (ρ ρ' : Env V), Agree P ρ ρ' →
    Option.Rel (Agree P) (bindOuts ρ xs vs) (bindOuts ρ' xs vs) := by
  induction xs with
  | nil => intro vs ρ ρ' h; cases vs with | nil => exact .some h | cons _ _ => exact .none
  | cons x xs ih => intro vs ρ ρ' h; cases vs with | nil => exact .none | cons v vs => exact ih vs _ _ (h.set x v)

theorem lookupOuts_agree (P : Name → Prop) (ρ ρ' : Env V) (h : Agree P ρ ρ') (outs : List Name)
    (ho : ∀ o ∈ outs, P o) : lookupOuts ρ outs = lookupOuts ρ' outs := by
  induction outs with
  | nil => rfl
  | cons o r ih =>
    rw [lookupOuts, lookupOuts, h o (ho o (List.mem_cons_self ..)), ih (fun x hx => ho x (List.mem_cons_of_mem _ hx))]

def nodeVals (sem : Sem V) (sub : Env V → Graph → List (Option V) → Option (List V)) (ρ : Env V) (n : Node) :
    Option (List V) :=
  (lookupAll ρ n.inputs).bind (nodeOutputs sem sub ρ n)

theorem evalNode_eq (sem : Sem V) (sub) (ρ : Env V) (n : Node) :
    evalNode sem sub ρ n = (nodeVals sem sub ρ n).bind (bindOuts ρ n.outputs) := by
  unfold evalNode nodeVals
  rw [Option.bind_assoc]

theorem lookupAll_congr (ρ ρ' : Env V) (ins : List (Option Name))
    (h : ∀ x, some x ∈ ins → ρ x = ρ' x) : lookupAll ρ ins = lookupAll ρ' ins := by
  induction ins with
  | nil => rfl
  | cons i r ih =>
    rw [lookupAll, lookupAll, ih (fun x hx => h x (List.mem_cons_of_mem _ hx))]
    cases i with
    | none => rfl
    | some x => rw [lookupIn, lookupIn, h x (List.mem_cons_self ..)]

theorem mem_inputNames {n : Node} {x : Name} (h : some x ∈ n.inputs) : x ∈ n.inputNames :=
  List.mem_filterMap.mpr ⟨some x, h, rfl⟩

theorem nodeVals_congr (sem : Sem V) (sub) (ρ ρ' : Env V) (n : Node)
    (h : ∀ x ∈ n.reads, ρ x = ρ' x) : nodeVals sem sub ρ n = nodeVals sem sub ρ' n := by
  have h1 : lookupAll ρ n.inputs = lookupAll ρ' n.inputs :=
    lookupAll_congr _ _ _ (fun x hx => h x (List.mem_append_left _ (mem_inputNames hx)))
  have h2 : ρ.restrict n.caps = ρ'.restrict n.caps := by
    funext y
    unfold Env.restrict
    by_cases hy : y ∈ n.caps
    · rw [if_pos hy, if_pos hy, h y (List.mem_append_right _ hy)]
    · rw [if_neg hy, if_neg hy]
  unfold nodeVals nodeOutputs
  rw [h1, h2]

theorem evalNode_agree (sem : Sem V) (sub) (P : Name → Prop) (ρ ρ' : Env V) (n : Node)
    (h : Agree P ρ ρ') (hr : ∀ x ∈ n.reads, P x) :
    Option.Rel (Agree P) (evalNode sem sub ρ n) (evalNode sem sub ρ' n) := by
  rw [evalNode_eq, evalNode_eq, nodeVals_congr sem sub ρ ρ' n (fun x hx => h x (hr x hx))]
  cases nodeVals sem sub ρ' n with
  | none => exact .none
  | some vs => exact bindOuts_agree P _ vs ρ ρ' h

theorem evalNodes_agree (sem : Sem V) (sub) (P : Name → Prop) (ns : List Node)
    (hr : ∀ n ∈ ns, ∀ x ∈ n.reads, P x) : ∀ ρ ρ' : Env V, Agree P ρ ρ' →
      Option.Rel (Agree P) (evalNodes (evalNode sem sub) ρ ns) (evalNodes (evalNode sem sub) ρ' ns) := by
  induction ns with
  | nil => exact fun _ _ h => .some h
  | cons n ns ih =>
    exact fun ρ ρ' h => (evalNode_agree sem sub P ρ ρ' n h (hr n (List.mem_cons_self ..))).bind
      (ih fun m hm => hr m (List.mem_cons_of_mem _ hm))

theorem evalNodes_append (f : Env V → Node → Option (Env V)) (a b : List Node) : ∀ ρ : Env V,
    evalNodes f ρ (a ++ b) = (evalNodes f ρ a).bind fun ρ' => evalNodes f ρ' b := by
  induction a with
  | nil => exact fun _ => rfl
  | cons n a ih => intro ρ; simp only [List.cons_append, evalNodes, Option.bind_assoc, ih]

theorem evalNodes_map_congr (f : Env V → Node → Option (Env V)) (g : Node → Node) (l : List Node)
    (h : ∀ n ∈ l, ∀ ρ, f ρ (g n) = f ρ n) : ∀ ρ, evalNodes f ρ (l.map g) = evalNodes f ρ l := by
  induction l with
  | nil => exact fun _ => rfl
  | cons a r ih =>
    intro ρ
    rw [List.map_cons, evalNodes, evalNodes, h a (List.mem_cons_self ..)]
    exact congrArg _ (funext (ih fun n hn => h n (List.mem_cons_of_mem _ hn)))

theorem evalGraph_setNodes (sem : Sem V) (d : Nat) (outer : Env V) (g : Graph) (ns : List Node)
    (args : List (Option V)) :
    evalGraph sem (d + 1) outer (g.setNodes ns) args =
      (startEnv sem outer g args).bind fun ρ0 =>
        (evalNodes (evalNode sem (evalGraph sem d)) ρ0 ns).bind fun ρ => lookupOuts ρ g.outputs := by
  cases g; rfl

theorem evalGraph_setNodes_of_agree (sem : Sem V) (d : Nat) (outer : Env V) (g : Graph) (ns : List Node)
    (args : List (Option V)) (P : Name → Prop) (hvis : ∀ o ∈ g.outputs, P o)
    (h : ∀ ρ, Option.Rel (Agree P) (evalNodes (evalNode sem (evalGraph sem d)) ρ g.nodes)
      (evalNodes (evalNode sem (evalGraph sem d)) ρ ns)) :
    evalGraph sem (d + 1) outer (g.setNodes ns) args = evalGraph sem (d + 1) outer g args := by
  rw [evalGraph_setNodes, evalGraph]
  exact congrArg _ (funext fun ρ0 => ((h ρ0).bind_eq fun ρ ρ' hh => lookupOuts_agree _ ρ ρ' hh _ hvis).symm)

def Indep (a b : Node) : Prop :=
  (∀ x ∈ a.outputs, x ∉ b.reads) ∧ (∀ x ∈ b.outputs, x ∉ a.reads) ∧ (∀ x ∈ a.outputs, x ∉ b.outputs)

theorem evalNode_pair (sem : Sem V) (sub) (ρ : Env V) (a b : Node) (h : ∀ x ∈ a.outputs, x ∉ b.reads) :
    ((evalNode sem sub ρ a).bind fun ρ1 => evalNode sem sub ρ1 b) =
      (nodeVals sem sub ρ a).bind fun vs => (nodeVals sem sub ρ b).bind fun ws =>
        (bindOuts ρ a.outputs vs).bind fun ρ1 => bindOuts ρ1 b.outputs ws := by
  rw [evalNode_eq, Option.bind_assoc]
  refine congrArg _ (funext fun vs => ?_)
  rw [bindOuts_eq]
  split
  · simp only [Option.bind_some, evalNode_eq]
    rw [nodeVals_congr sem sub _ ρ b (fun x hx => setMany_notMem _ _ _ _ (fun hm => h x hm hx))]
  · cases nodeVals sem sub ρ b <;> rfl

theorem swap_indep (sem : Sem V) (sub) (ρ : Env V) (a b : Node) (l : List Node) (h : Indep a b) :
    evalNodes (evalNode sem sub) ρ (a :: b :: l) = evalNodes (evalNode sem sub) ρ (b :: a :: l) := by
  simp only [evalNodes, ← Option.bind_assoc]
  rw [evalNode_pair sem sub ρ a b h.1, evalNode_pair sem sub ρ b a h.2.1, Option.bind_comm]
  simp only [bindOuts_comm ρ a.outputs b.outputs _ _ h.2.2]

theorem move_past (sem : Sem V) (sub) (a : Node) (us tl : List Node) (h : ∀ u ∈ us, Indep a u) : ∀ ρ : Env V,
    evalNodes (evalNode sem sub) ρ (a :: us ++ tl) = evalNodes (evalNode sem sub) ρ (us ++ a :: tl) := by
  induction us with
  | nil => exact fun _ => rfl
  | cons u us ih =>
    intro ρ
    rw [List.cons_append, List.cons_append, swap_indep sem sub ρ a u _ (h u (List.mem_cons_self ..)),
      List.cons_append, evalNodes, evalNodes]
    exact congrArg _ (funext (ih fun v hv => h v (List.mem_cons_of_mem _ hv)))

theorem sink (sem : Sem V) (sub) (P : Node → Bool) (l tl : List Node)
    (h : List.Pairwise (fun a b => P a = true → P b = false → Indep a b) l) : ∀ ρ : Env V,
    evalNodes (evalNode sem sub) ρ (l ++ tl) =
      evalNodes (evalNode sem sub) ρ (l.filter (fun n => !P n) ++ (l.filter P ++ tl)) := by
  induction l with
  | nil => exact fun _ => rfl
  | cons a r ih =>
    intro ρ
    obtain ⟨ha, hr⟩ := List.pairwise_cons.mp h
    have step : evalNodes (evalNode sem sub) ρ (a :: r ++ tl) =
        evalNodes (evalNode sem sub) ρ (a :: (r.filter (fun n => !P n) ++ (r.filter P ++ tl))) := by
      rw [List.cons_append, evalNodes, evalNodes]
      exact congrArg _ (funext (ih hr))
    cases hp : P a with
    | true =>
      simp only [List.filter_cons, hp, Bool.not_true, Bool.false_eq_true, if_false, if_true]
      rw [step]
      exact move_past sem sub a _ _ (fun u hu => ha u (List.mem_filter.mp hu).1 hp
        (by simpa using (List.mem_filter.mp hu).2)) ρ
    | false =>
      simp only [List.filter_cons, hp, Bool.not_false, Bool.false_eq_true, if_false, if_true]
      exact step

theorem evalNode_setBodies_of_map_eq (sem : Sem V) (sub) (ρ : Env V) (n : Node) (C' : List Name)
    (subs' : List (String × Graph))
    (h : (subs'.map fun sg => fun vs => sub (ρ.restrict C') sg.2 vs) =
      n.subs.map fun sg => fun vs => sub (ρ.restrict n.caps) sg.2 vs) :
    evalNode sem sub ρ (n.setBodies C' subs') = evalNode sem sub ρ n := by
  cases n with
  | mk id op dom ov ins outs attrs mp caps subs =>
    simp only [Node.subs, Node.caps] at h
    have hempty : subs'.isEmpty = subs.isEmpty := by
      cases subs' <;> cases subs <;> first | rfl | simp at h
    simp only [Node.setBodies, Node.caps, Node.subs, Node.id, Node.op, Node.domain, Node.overload, Node.inputs,
      Node.outputs, Node.attrs, Node.mprops, evalNode, nodeOutputs, hempty, h]
    rfl

def BodiesEquiv (sub : Env V → Graph → List (Option V) → Option (List V)) :
    List (String × Graph) → List (String × Graph) → Prop
  | [], [] => True
  | x :: a, y :: b => (∀ ρ vs, sub ρ x.2 vs = sub ρ y.2 vs) ∧ BodiesEquiv sub a b
  | _, _ => False

theorem bodies_map_eq (sub : Env V → Graph → List (Option V) → Option (List V)) (ρ : Env V)
    (a : List (String × Graph)) : ∀ b, BodiesEquiv sub a b →
      (a.map fun sg => fun vs => sub ρ sg.2 vs) = (b.map fun sg => fun vs => sub ρ sg.2 vs) := by
  induction a with
  | nil => intro b h; cases b with | nil => rfl | cons _ _ => exact h.elim
  | cons x a ih =>
    intro b h
    cases b with
    | nil => exact h.elim
    | cons y b => rw [List.map_cons, List.map_cons, ih b h.2, funext (h.1 ρ)]

theorem evalNode_setBodies (sem : Sem V) (sub) (ρ : Env V) (n : Node) (subs' : List (String × Graph))
    (h : BodiesEquiv sub subs' n.subs) :
    evalNode sem sub ρ (n.setBodies n.caps subs') = evalNode sem sub ρ n :=
  evalNode_setBodies_of_map_eq sem sub ρ n n.caps subs' (bodies_map_eq sub _ subs' n.subs h)

theorem bindInits_agree (sem : Sem V) (P : Name → Prop) (inits : List (Name × String)) : ∀ ρ ρ' : Env V,
    Agree P ρ ρ' → Agree P (bindInits sem ρ inits) (bindInits sem ρ' inits) := by
  induction inits with
  | nil => exact fun _ _ h => h
  | cons p r ih => exact fun _ _ h => ih _ _ (h.set p.1 (sem.tensor p.2))

theorem bindInputs_agree (P : Name → Prop) (ins : List Name) : ∀ (args : List (Option V)) (ρ ρ' : Env V),
    Agree P ρ ρ' → Option.Rel (Agree P) (bindInputs ρ ins args) (bindInputs ρ' ins args) := by
  induction ins with
  | nil => intro args ρ ρ' h; cases args with | nil => exact .some h | cons _ _ => exact .none
  | cons x xs ih =>
    intro args ρ ρ' h
    match args with
    | [] => exact .none
    | none :: as => exact ih as ρ ρ' h
    | some v :: as => exact ih as _ _ (h.set x v)

/-- one level suffices: a body sees the enclosing environment only through its node's `caps` (`nodeOutputs`) -/
def mentions (g : Graph) : List Name := g.nodes.flatMap (·.reads) ++ g.outputs

theorem evalGraph_congr_outer (sem : Sem V) (d : Nat) (g : Graph) (outer outer' : Env V)
    (args : List (Option V)) (h : Agree (· ∈ mentions g) outer outer') :
    evalGraph sem d outer g args = evalGraph sem d outer' g args := by
  cases d with
  | zero => rfl
  | succ d =>
    simp only [evalGraph, startEnv]
    refine (bindInputs_agree _ g.inputs args _ _ (bindInits_agree sem _ g.inits _ _ h)).bind_eq fun ρ ρ' h0 => ?_
    refine (evalNodes_agree sem _ _ g.nodes
      (fun n hn x hx => List.mem_append_left _ (List.mem_flatMap.mpr ⟨n, hn, hx⟩)) ρ ρ' h0).bind_eq fun ρ1 ρ1' h1 => ?_
    exact lookupOuts_agree _ ρ1 ρ1' h1 g.outputs (fun o ho => List.mem_append_right _ ho)

/-- rewritten bodies `a` against the old bodies `b` of a node whose captures go from `C` to `C'`:
pairwise equivalent, and every formerly captured name a new body still mentions is still captured -/
def BodiesShrink (sem : Sem V) (d : Nat) (C C' : List Name) :
    List (String × Graph) → List (String × Graph) → Prop
  | [], [] => True
  | x :: a, y :: b =>
    ((∀ ρ vs, evalGraph sem d ρ x.2 vs = evalGraph sem d ρ y.2 vs) ∧ (∀ n ∈ mentions x.2, n ∈ C → n ∈ C')) ∧
      BodiesShrink sem d C C' a b
  | _, _ => False

theorem restrict_shrink_agree (ρ : Env V) (C C' S : List Name) (hsub : ∀ x ∈ C', x ∈ C)
    (hkeep : ∀ x ∈ S, x ∈ C → x ∈ C') : Agree (· ∈ S) (ρ.restrict C') (ρ.restrict C) := by
  intro x hx
  unfold Env.restrict
  by_cases h' : x ∈ C'
  · rw [if_pos h', if_pos (hsub x h')]
  · rw [if_neg h', if_neg (fun hc => h' (hkeep x hx hc))]

theorem bodies_shrink_map_eq (sem : Sem V) (d : Nat) (ρ : Env V) (C C' : List Name) (hsub : ∀ x ∈ C', x ∈ C)
    (a : List (String × Graph)) : ∀ b, BodiesShrink sem d C C' a b →
      (a.map fun sg => fun vs => evalGraph sem d (ρ.restrict C') sg.2 vs) =
        (b.map fun sg => fun vs => evalGraph sem d (ρ.restrict C) sg.2 vs) := by
  induction a with
  | nil => intro b h; cases b with | nil => rfl | cons _ _ => exact h.elim
  | cons x a ih =>
    intro b h
    cases b with
    | nil => exact h.elim
    | cons y b =>
      rw [List.map_cons, List.map_cons, ih b h.2]
      refine congrArg (· :: _) (funext fun vs => ?_)
      rw [evalGraph_congr_outer sem d x.2 _ _ vs (restrict_shrink_agree ρ C C' (mentions x.2) hsub h.1.2)]
      exact h.1.1 _ vs

theorem evalNode_setBodies_shrink (sem : Sem V) (d : Nat) (ρ : Env V) (n : Node) (C' : List Name)
    (subs' : List (String × Graph)) (hsub : ∀ x ∈ C', x ∈ n.caps)
    (h : BodiesShrink sem d n.caps C' subs' n.subs) :
    evalNode sem (evalGraph sem d) ρ (n.setBodies C' subs') = evalNode sem (evalGraph sem d) ρ n :=
  evalNode_setBodies_of_map_eq sem _ ρ n C' subs' (bodies_shrink_map_eq sem d ρ n.caps C' hsub subs' n.subs h)

end OV.C07
