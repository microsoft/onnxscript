import OV.Lemmas.C04Closed
/-!
# C04 — the `optimize_ir` pipeline as a composition, and `visit_function`'s initializer clean-up

* `optimizeIr_rel`: any reflexive, transitive relation between a graph and its successor that every pass of the
  pipeline respects is respected by `optimizeIr`, for every option tuple.
* `Iface`: the interface clause of C04 as such a relation.
* `initsToConstants` (commits 26dd9fc, a9715ec): no initializer is left, the interface is kept, scope well-formedness and single
  assignment are preserved.
-/
namespace OV.C03

/-- every onnx_ir pass and the rewrite pass respect `R` (the contracts of the passes that live outside the folding pass) -/
structure RelContracts (R : Graph → Graph → Prop) (P : IrPasses) : Prop where
  inline : ∀ g, R (P.inline g) g
  rewrite : ∀ g, R (P.rewrite g).1 g
  dce : ∀ g, R (P.dce g).1 g
  liftConstants : ∀ g, R (P.liftConstants g) g
  liftSubgraphInits : ∀ g, R (P.liftSubgraphInits g) g
  dedup : ∀ g, R (P.dedup g) g
  cse : ∀ g, R (P.cse g) g
  outputFix : ∀ g, R (P.outputFix g) g
  nameFix : ∀ g, R (P.nameFix g) g

section
variable (R : Graph → Graph → Prop) (hrefl : ∀ g, R g g) (htrans : ∀ {a b c}, R b a → R c b → R c a)
include hrefl htrans

omit hrefl in
theorem iterStep_rel (P : IrPasses) (C : RelContracts R P) (fold : Graph → Graph × Bool) (hfold : ∀ g, R (fold g).1 g)
    (g : Graph) : R (iterStep P fold g).1 g := by
  simp only [iterStep]
  have h1 : R (if (fold g).2 then P.nameFix (fold g).1 else (fold g).1) g := by
    split
    · exact htrans (hfold g) (C.nameFix _)
    · exact hfold g
  exact htrans (htrans h1 (C.rewrite _)) (C.dce _)

theorem iterate_rel (P : IrPasses) (C : RelContracts R P) (fold : Graph → Graph × Bool) (hfold : ∀ g, R (fold g).1 g)
    (early : Bool) : ∀ (k : Nat) (g : Graph), R (iterate P fold early k g) g
  | 0, g => hrefl g
  | k + 1, g => by
    simp only [iterate]
    split
    · exact iterStep_rel R htrans P C fold hfold g
    · exact htrans (iterStep_rel R htrans P C fold hfold g) (iterate_rel P C fold hfold early k _)

theorem optimizeIr_rel (P : IrPasses) (C : RelContracts R P) (fold : Graph → Graph × Bool) (hfold : ∀ g, R (fold g).1 g)
    (o : OptOpts) (g : Graph) : R (optimizeIr P fold o g) g := by
  simp only [optimizeIr]
  have h0 : R (if o.inline then P.inline g else g) g := by
    split
    · exact C.inline g
    · exact hrefl g
  have h1 := htrans h0 (iterate_rel R hrefl htrans P C fold hfold o.stopIfNoChange o.numIterations _)
  have h2 := htrans h1 (C.dce _)
  have h3 := htrans h2 (C.liftConstants _)
  have h4 := htrans h3 (C.liftSubgraphInits _)
  have h5 := htrans h4 (C.dedup _)
  have h6 := htrans h5 (C.cse _)
  have h7 := htrans h6 (C.outputFix _)
  exact htrans h7 (C.nameFix _)

end

/-- `R` relative to a class of graphs that the step maps into itself, again as a relation between a graph and its successor:
contracts that hold on a delimited domain only are `RelContracts` for it -/
def RelOn (Dom : Graph → Prop) (R : Graph → Graph → Prop) (g' g : Graph) : Prop := Dom g → Dom g' ∧ R g' g

theorem RelOn.refl {Dom : Graph → Prop} {R : Graph → Graph → Prop} (hrefl : ∀ g, R g g) (g : Graph) : RelOn Dom R g g :=
  fun h => ⟨h, hrefl g⟩

theorem RelOn.trans {Dom : Graph → Prop} {R : Graph → Graph → Prop} (htrans : ∀ {a b c}, R b a → R c b → R c a)
    {a b c : Graph} (h1 : RelOn Dom R b a) (h2 : RelOn Dom R c b) : RelOn Dom R c a :=
  fun h => ⟨(h2 (h1 h).1).1, htrans (h1 h).2 (h2 (h1 h).1).2⟩

/-- the interface clause: `g'` may stand where `g` stood -/
def Iface (g' g : Graph) : Prop :=
  g'.inputs = g.inputs ∧ g'.outputs.length = g.outputs.length ∧
  ∀ x, x ∈ g.inputs → x ∈ g.inits.map (·.1) → x ∈ g'.inits.map (·.1)

theorem Iface.refl (g : Graph) : Iface g g := ⟨rfl, rfl, fun _ _ h => h⟩

theorem Iface.trans {a b c : Graph} (h1 : Iface b a) (h2 : Iface c b) : Iface c a :=
  ⟨h2.1.trans h1.1, h2.2.1.trans h1.2.1, fun x hx hi => h2.2.2 x (h1.1 ▸ hx) (h1.2.2 x hx hi)⟩

/-! ### `visit_function`: initializers left in a function body become Constant nodes -/

def constOfInit (p : Name × String) : Node := mkNode "Constant" [] [p.1] [("value", .tensor p.2)]

theorem initsToConstants_eq (st : St) (g : Graph) (h : g.inits.isEmpty = false) :
    (initsToConstants st g).2 =
      Graph.mk g.inputs [] ((g.inits.filter fun p => readsName maxDepth g p.1 || g.outputs.contains p.1).map constOfInit ++ g.nodes) g.outputs := by
  simp only [initsToConstants, h]
  rfl

theorem initsToConstants_of_empty (st : St) (g : Graph) (h : g.inits.isEmpty = true) : (initsToConstants st g).2 = g := by
  simp only [initsToConstants, h, if_true]

theorem initsToConstants_inits (st : St) (g : Graph) : (initsToConstants st g).2.inits = [] := by
  cases h : g.inits.isEmpty with
  | true => rw [initsToConstants_of_empty st g h]; exact List.isEmpty_iff.mp h
  | false => rw [initsToConstants_eq st g h]; rfl

theorem initsToConstants_sig (st : St) (g : Graph) :
    (initsToConstants st g).2.inputs = g.inputs ∧ (initsToConstants st g).2.outputs = g.outputs := by
  cases h : g.inits.isEmpty with
  | true => rw [initsToConstants_of_empty st g h]; exact ⟨rfl, rfl⟩
  | false => rw [initsToConstants_eq st g h]; exact ⟨rfl, rfl⟩

theorem outsOf_consts : ∀ (l : List (Name × String)), outsOf (l.map constOfInit) = l.map (·.1)
  | [] => rfl
  | p :: r => by
    rw [List.map_cons, outsOf_cons, outsOf_consts r]
    rfl

theorem ClosedL_prepend_sources (l1 : List Node) (S : List Name) (l2 : List Node) (hin : ∀ n ∈ l1, n.inputs = [])
    (h : ∀ S', (∀ x, x ∈ S → x ∈ S') → (∀ x, x ∈ outsOf l1 → x ∈ S') → ClosedL S' l2) : ClosedL S (l1 ++ l2) := by
  refine (ClosedL_append l1 S l2).mpr ⟨ClosedL_of_all l1 S fun n hn x hx => ?_,
    h _ (fun x hx => List.mem_append_right _ hx) fun x hx => List.mem_append_left _ ?_⟩
  · rw [hin n hn] at hx
    exact absurd hx (by simp)
  · simp only [outsOf, List.mem_flatMap, List.mem_reverse] at hx ⊢
    exact hx

theorem readsName_of_input (g : Graph) (n : Node) (x : Name) (hn : n ∈ g.nodes) (hx : some x ∈ n.inputs) :
    readsName maxDepth g x = true := by
  show readsName (7 + 1) g x = true
  rw [readsName]
  apply List.any_eq_true.mpr
  refine ⟨n, hn, ?_⟩
  have : n.inputs.contains (some x) = true := List.contains_iff_mem.mpr hx
  rw [this]
  rfl

theorem mem_live (g : Graph) (x : Name) (hi : x ∈ g.inits.map (·.1))
    (hr : (readsName maxDepth g x || g.outputs.contains x) = true) :
    x ∈ (g.inits.filter fun p => readsName maxDepth g p.1 || g.outputs.contains p.1).map (·.1) := by
  obtain ⟨p, hp, hpx⟩ := List.mem_map.mp hi
  exact List.mem_map.mpr ⟨p, List.mem_filter.mpr ⟨hp, by rw [hpx]; simpa using hr⟩, hpx⟩

/-- after commit a9715ec: an initializer that is an output of the body is kept as well, which the output clause of
`GraphClosed` needs (finding C04-D13) -/
theorem initsToConstants_closed (st : St) (g : Graph) (sc : List Name) (hcl : GraphClosed sc g) :
    GraphClosed sc (initsToConstants st g).2 := by
  cases h : g.inits.isEmpty with
  | true => rw [initsToConstants_of_empty st g h]; exact hcl
  | false =>
    rw [initsToConstants_eq st g h]
    refine ⟨?_, ?_⟩
    · show ClosedL (([] : List (Name × String)).map (·.1) ++ (g.inputs ++ sc)) (_ ++ g.nodes)
      apply ClosedL_prepend_sources
      · intro n hn
        obtain ⟨p, _, rfl⟩ := List.mem_map.mp hn
        rfl
      · intro S' hS hO
        apply ClosedL_restrict g.nodes hcl.1
        intro x hx hr
        rcases List.mem_append.mp hx with h1 | h1
        · obtain ⟨n, hn, hnx⟩ := hr
          apply hO
          rw [outsOf_consts]
          exact mem_live g x h1 (by rw [readsName_of_input g n x hn hnx]; rfl)
        · exact hS x (by simpa using h1)
    · intro o ho
      rcases hcl.2 o ho with h1 | ⟨m, hm, hmo⟩
      · rcases List.mem_append.mp h1 with h2 | h2
        · right
          have ho' : o ∈ g.outputs := ho
          have hl := mem_live g o h2 (by rw [List.contains_iff_mem.mpr ho', Bool.or_true])
          rw [← outsOf_consts] at hl
          obtain ⟨m, hm, hmo⟩ := List.mem_flatMap.mp hl
          exact ⟨m, List.mem_append_left _ hm, hmo⟩
        · left
          show o ∈ ([] : List (Name × String)).map (·.1) ++ (g.inputs ++ sc)
          exact List.mem_append_right _ h2
      · exact Or.inr ⟨m, List.mem_append_right _ hm, hmo⟩

/-- `hni`: a function input has no default -/
theorem initsToConstants_ssa (st : St) (g : Graph) (hssa : SSA g) (hni : ∀ x, x ∈ g.inits.map (·.1) → x ∉ g.inputs) :
    SSA (initsToConstants st g).2 := by
  cases h : g.inits.isEmpty with
  | true => rw [initsToConstants_of_empty st g h]; exact hssa
  | false =>
    rw [initsToConstants_eq st g h]
    have hsub : List.Sublist ((g.inits.filter fun p => readsName maxDepth g p.1 || g.outputs.contains p.1).map (·.1)) (g.inits.map (·.1)) :=
      List.Sublist.map _ List.filter_sublist
    refine ⟨?_, ?_⟩
    · show (([] : List (Name × String)).map (·.1) ++ outsOf (_ ++ g.nodes)).Nodup
      rw [outsOf_append, outsOf_consts, List.map_nil, List.nil_append]
      exact List.Nodup.sublist (List.Sublist.append hsub (List.Sublist.refl _)) hssa.1
    · intro o ho
      have ho' : o ∈ outsOf ((g.inits.filter fun p => readsName maxDepth g p.1 || g.outputs.contains p.1).map constOfInit ++ g.nodes) := ho
      rw [outsOf_append, outsOf_consts] at ho'
      rcases List.mem_append.mp ho' with h1 | h1
      · exact hni o (hsub.subset h1)
      · exact hssa.2 o h1

end OV.C03
