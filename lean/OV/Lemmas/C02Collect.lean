import OV.Model.C02Collect
/-! `OV.Model.C02Collect`.  Import tables: every table operation (`setDefault`, `mergeDefault`, `nodeImports`, the rounds of
`modelImports`) is `Good` (the table only grows, its keys stay distinct, the domains at hand become keys), and `Good`
composes.  The called-function walk `visitBy`, for any key: what a run that returns guarantees is read off by rule
induction over such runs (`visitBy_ind`, `VisitBySpec`); that it returns is the measure `stack.length + pendingWork`. -/
namespace OV.C02

/-! ## dicts as association lists (`hasKey` is `hasK` on an import table) -/

theorem hasK_append {κ : Type} [BEq κ] (a b : List (κ × Nat)) (k : κ) : hasK (a ++ b) k = (hasK a k || hasK b k) := by
  simp [hasK, List.any_append]

theorem hasK_iff_mem {κ : Type} [BEq κ] [LawfulBEq κ] (acc : List (κ × Nat)) (k : κ) :
    hasK acc k = true ↔ k ∈ acc.map (·.1) := by
  simp only [hasK, List.any_eq_true, List.mem_map, beq_iff_eq]

theorem nodup_keys_append_one {κ : Type} [BEq κ] [LawfulBEq κ] {acc : List (κ × Nat)} {k : κ} (c : Nat)
    (hk : ¬ hasK acc k = true) (hn : (acc.map (·.1)).Nodup) : ((acc ++ [(k, c)]).map (·.1)).Nodup := by
  rw [List.map_append, List.nodup_append]
  refine ⟨hn, by simp, ?_⟩
  intro a ha b hb
  simp at hb
  subst hb
  intro hab
  subst hab
  exact hk ((hasK_iff_mem acc _).mpr ha)

theorem hasKey_append (a b : Imports) (d : String) : hasKey (a ++ b) d = (hasKey a d || hasKey b d) :=
  hasK_append a b d

theorem hasKey_iff_mem (imp : Imports) (d : String) : hasKey imp d = true ↔ d ∈ keys imp :=
  hasK_iff_mem imp d

def Ext (imp imp' : Imports) : Prop := ∃ ext, imp' = imp ++ ext

theorem Ext.refl (imp : Imports) : Ext imp imp := ⟨[], by simp⟩

theorem Ext.trans {a b c : Imports} (h1 : Ext a b) (h2 : Ext b c) : Ext a c := by
  obtain ⟨e1, rfl⟩ := h1
  obtain ⟨e2, rfl⟩ := h2
  exact ⟨e1 ++ e2, by simp⟩

theorem Ext.key {a b : Imports} (h : Ext a b) {d : String} (hk : hasKey a d = true) : hasKey b d = true := by
  obtain ⟨e, rfl⟩ := h
  simp [hasKey_append, hk]

theorem lookup_append_of_hasKey (a b : Imports) (d : String) (h : hasKey a d = true) :
    lookup (a ++ b) d = lookup a d := by
  induction a with
  | nil => simp [hasKey] at h
  | cons p rest ih =>
    simp only [List.cons_append, lookup]
    by_cases hp : (p.1 == d) = true
    · simp [hp]
    · simp only [hp, Bool.false_eq_true, if_false]
      apply ih
      simpa [hasKey, hp] using h

theorem Ext.look {a b : Imports} (h : Ext a b) {d : String} (hk : hasKey a d = true) : lookup b d = lookup a d := by
  obtain ⟨e, rfl⟩ := h
  exact lookup_append_of_hasKey a e d hk

structure Good (imp imp' : Imports) (ds : List String) : Prop where
  ext : Ext imp imp'
  nodup : (keys imp).Nodup → (keys imp').Nodup
  covers : ∀ d, d ∈ ds → hasKey imp' d = true

theorem Good.trans {a b c : Imports} {d1 d2 : List String} (h1 : Good a b d1) (h2 : Good b c d2) :
    Good a c (d1 ++ d2) :=
  ⟨h1.ext.trans h2.ext, fun h => h2.nodup (h1.nodup h), fun d hd => by
    rcases List.mem_append.mp hd with h | h
    · exact h2.ext.key (h1.covers d h)
    · exact h2.covers d h⟩

theorem Good.mono {a b : Imports} {d1 d2 : List String} (h : Good a b d1) (hs : ∀ d, d ∈ d2 → d ∈ d1) : Good a b d2 :=
  ⟨h.ext, h.nodup, fun d hd => h.covers d (hs d hd)⟩

theorem setDefault_good (imp : Imports) (d : String) (v : Nat) : Good imp (setDefault imp d v) [d] := by
  unfold setDefault
  by_cases hk : hasKey imp d = true
  · simp only [hk, if_true]
    exact ⟨Ext.refl _, id, fun d' hd' => by simp at hd'; subst hd'; exact hk⟩
  · simp only [hk, Bool.false_eq_true, if_false]
    refine ⟨⟨_, rfl⟩, nodup_keys_append_one v hk, ?_⟩
    · intro d' hd'
      simp at hd'
      subst hd'
      simp [hasKey]

theorem mergeDefault_good (sub : Imports) : ∀ imp : Imports, Good imp (mergeDefault imp sub) (keys sub) := by
  induction sub with
  | nil => intro imp; exact ⟨Ext.refl _, id, fun d hd => by simp [keys] at hd⟩
  | cons p rest ih =>
    intro imp
    simp only [mergeDefault]
    exact ((setDefault_good imp p.1 p.2).trans (ih _)).mono (fun d hd => by simpa [keys] using hd)

mutual
theorem nodeImports_good : ∀ (n : CNode) (imp : Imports), Good imp (nodeImports imp n) (nodeDomains n)
  | .op d v _, imp => by simpa [nodeImports, nodeDomains] using setDefault_good imp d v
  | .ifN v tn en, imp => by
    simp only [nodeImports, nodeDomains]
    have ht := graphImports_good tn []
    have he := graphImports_good en []
    have m1 := mergeDefault_good (graphImports [] tn) imp
    have m2 := mergeDefault_good (graphImports [] en) (mergeDefault imp (graphImports [] tn))
    have s := setDefault_good (mergeDefault (mergeDefault imp (graphImports [] tn)) (graphImports [] en)) "" v
    refine ((m1.trans m2).trans s).mono ?_
    intro d hd
    simp only [List.mem_cons, List.mem_append] at hd
    simp only [List.mem_append, List.mem_cons, List.not_mem_nil, or_false]
    rcases hd with h | h | h
    · exact Or.inr h
    · exact Or.inl (Or.inl ((hasKey_iff_mem _ _).mp (ht.covers d h)))
    · exact Or.inl (Or.inr ((hasKey_iff_mem _ _).mp (he.covers d h)))
  | .loop v bn, imp => by
    simp only [nodeImports, nodeDomains]
    have hb := graphImports_good bn []
    have m1 := mergeDefault_good (graphImports [] bn) imp
    have s := setDefault_good (mergeDefault imp (graphImports [] bn)) "" v
    refine (m1.trans s).mono ?_
    intro d hd
    simp only [List.mem_cons] at hd
    simp only [List.mem_append, List.mem_cons, List.not_mem_nil, or_false]
    rcases hd with h | h
    · exact Or.inr h
    · exact Or.inl ((hasKey_iff_mem _ _).mp (hb.covers d h))
theorem graphImports_good : ∀ (ns : List CNode) (imp : Imports), Good imp (graphImports imp ns) (domainsL ns)
  | [], imp => ⟨Ext.refl _, id, fun d hd => by simp [domainsL] at hd⟩
  | n :: ns, imp => by
    simp only [graphImports, domainsL]
    exact (nodeImports_good n imp).trans (graphImports_good ns _)
end

/-- One round of the `for func in ir_functions` loop of `_to_model_proto`. -/
def importStep (imp : Imports) (f : CFunc) : Imports :=
  let imp := setDefault imp f.domain f.version
  if hasKey imp "" then imp
  else match lookup (graphImports [] f.nodes) "" with
    | some v => imp ++ [("", v)]
    | none => imp

theorem importStep_good (imp : Imports) (f : CFunc) : Good imp (importStep imp f) [f.domain] := by
  unfold importStep
  have s := setDefault_good imp f.domain f.version
  by_cases hk : hasKey (setDefault imp f.domain f.version) "" = true
  · simpa [hk] using s
  · simp only [hk, Bool.false_eq_true, if_false]
    cases lookup (graphImports [] f.nodes) "" with
    | none => simpa using s
    | some v =>
      have h2 := setDefault_good (setDefault imp f.domain f.version) "" v
      rw [show setDefault (setDefault imp f.domain f.version) "" v = _ ++ [("", v)] from if_neg hk] at h2
      exact (s.trans h2).mono (fun d hd => by simp at hd; simp [hd])

theorem importFold_good (funcs : List CFunc) : ∀ imp : Imports,
    Good imp (funcs.foldl importStep imp) (funcs.map (·.domain)) := by
  induction funcs with
  | nil => intro imp; exact ⟨Ext.refl _, id, fun d hd => by simp at hd⟩
  | cons f rest ih =>
    intro imp
    simp only [List.foldl_cons, List.map_cons]
    exact ((importStep_good imp f).trans (ih _)).mono (fun d hd => by simpa using hd)

theorem modelImports_eq (mainImp : Imports) (funcs : List CFunc) (ov : Option Nat) (latest : Nat) :
    modelImports mainImp funcs ov latest = setDefault (funcs.foldl importStep mainImp) "" (ov.getD latest) := rfl

theorem modelImports_good (mainImp : Imports) (funcs : List CFunc) (ov : Option Nat) (latest : Nat) :
    Good mainImp (modelImports mainImp funcs ov latest) (funcs.map (·.domain) ++ [""]) := by
  rw [modelImports_eq]
  exact (importFold_good funcs mainImp).trans (setDefault_good _ "" _)

section
variable {κ : Type} [BEq κ] [LawfulBEq κ]

omit [LawfulBEq κ] in
/-- Rule induction over the runs of the walk that return: such a run is a sequence of steps `skip` (the key of the
function on top of the stack is in the dict already) and `push` (it is entered and its callee references go on the
stack), ended by `done` on the empty stack.  Fuel and dangling references occur only in runs that return nothing. -/
theorem visitBy_ind (key : CFunc → κ) (w : World) (P : List Nat → List (κ × Nat) → List (κ × Nat) → Prop)
    (done : ∀ acc, P [] acc acc)
    (skip : ∀ c cs acc r f, w[c]? = some f → hasK acc (key f) = true → P cs acc r → P (c :: cs) acc r)
    (push : ∀ c cs acc r f, w[c]? = some f → ¬ hasK acc (key f) = true →
      P (calleesL f.nodes ++ cs) (acc ++ [(key f, c)]) r → P (c :: cs) acc r) :
    ∀ (fuel : Nat) (stack : List Nat) (acc r : List (κ × Nat)), visitBy key w fuel stack acc = some r → P stack acc r := by
  intro fuel stack acc r
  fun_induction visitBy key w fuel stack acc with
  | case1 _ acc => exact fun h => Option.some.inj h ▸ done acc
  | case2 => nofun
  | case3 => nofun
  | case4 fuel c cs acc f hw hn ih => exact fun h => skip c cs acc r f hw hn (ih h)
  | case5 fuel c cs acc f hw hn ih => exact fun h => push c cs acc r f hw hn (ih h)

def EntriesBy (key : CFunc → κ) (w : World) (acc : List (κ × Nat)) : Prop :=
  ∀ p, p ∈ acc → ∃ f, w[p.2]? = some f ∧ key f = p.1

/-- Every callee reference of every function in the dict has its key in the dict already or is still pending. -/
def InvBy (key : CFunc → κ) (w : World) (stack : List Nat) (acc : List (κ × Nat)) : Prop :=
  ∀ p, p ∈ acc → ∀ f, w[p.2]? = some f → ∀ c, c ∈ calleesL f.nodes → ∀ g, w[c]? = some g →
    hasK acc (key g) = true ∨ c ∈ stack

structure VisitBySpec (key : CFunc → κ) (w : World) (stack : List Nat) (acc r : List (κ × Nat)) : Prop where
  ext : ∃ e, r = acc ++ e
  nodup : (acc.map (·.1)).Nodup → (r.map (·.1)).Nodup
  entries : EntriesBy key w acc → EntriesBy key w r
  stackDone : ∀ c, c ∈ stack → ∀ g, w[c]? = some g → hasK r (key g) = true
  closed : InvBy key w stack acc → InvBy key w [] r

theorem visitBy_spec (key : CFunc → κ) (w : World) : ∀ (fuel : Nat) (stack : List Nat) (acc r : List (κ × Nat)),
    visitBy key w fuel stack acc = some r → VisitBySpec key w stack acc r := by
  apply visitBy_ind key w (VisitBySpec key w)
  case done =>
    intro acc
    exact ⟨⟨[], by simp⟩, id, id, fun c hc => by simp at hc, id⟩
  case skip =>
    intro c cs acc r f hw hn s
    refine ⟨s.ext, s.nodup, s.entries, ?_, ?_⟩
    · intro c' hc' g hg
      rcases List.mem_cons.mp hc' with rfl | hc'
      · rw [hw] at hg
        cases hg
        obtain ⟨e, rfl⟩ := s.ext
        simp [hasK_append, hn]
      · exact s.stackDone c' hc' g hg
    · intro hi
      apply s.closed
      intro p hp f' hf' c' hc' g hg
      rcases hi p hp f' hf' c' hc' g hg with h1 | h1
      · exact Or.inl h1
      · rcases List.mem_cons.mp h1 with rfl | h1
        · rw [hw] at hg
          cases hg
          exact Or.inl hn
        · exact Or.inr h1
  case push =>
    intro c cs acc r f hw hn s
    obtain ⟨e, he⟩ := s.ext
    have hkey : hasK r (key f) = true := by
      rw [he]
      simp [hasK]
    refine ⟨⟨(key f, c) :: e, by rw [he]; simp⟩, ?_, ?_, ?_, ?_⟩
    · exact fun hnd => s.nodup (nodup_keys_append_one c hn hnd)
    · intro hen
      apply s.entries
      intro p hp
      rcases List.mem_append.mp hp with hp | hp
      · exact hen p hp
      · simp at hp
        subst hp
        exact ⟨f, hw, rfl⟩
    · intro c' hc' g hg
      rcases List.mem_cons.mp hc' with rfl | hc'
      · rw [hw] at hg
        cases hg
        exact hkey
      · exact s.stackDone c' (List.mem_append.mpr (Or.inr hc')) g hg
    · intro hi
      apply s.closed
      intro p hp f' hf' c' hc' g hg
      rcases List.mem_append.mp hp with hp | hp
      · rcases hi p hp f' hf' c' hc' g hg with h1 | h1
        · exact Or.inl (by simp [hasK_append, h1])
        · rcases List.mem_cons.mp h1 with rfl | h1
          · rw [hw] at hg
            cases hg
            exact Or.inl (by simp [hasK])
          · exact Or.inr (List.mem_append.mpr (Or.inr h1))
      · simp at hp
        subst hp
        simp only at hf'
        rw [hw] at hf'
        cases hf'
        exact Or.inr (List.mem_append.mpr (Or.inl hc'))

theorem collectBy_closed (key : CFunc → κ) (w : World) (main : List CNode) (r : List (κ × Nat))
    (h : collectBy key w main = some r) :
    (r.map (·.1)).Nodup ∧ EntriesBy key w r
      ∧ (∀ c, c ∈ calleesL main → ∀ g, w[c]? = some g → key g ∈ r.map (·.1))
      ∧ (∀ p, p ∈ r → ∀ f, w[p.2]? = some f → ∀ c, c ∈ calleesL f.nodes → ∀ g, w[c]? = some g →
            key g ∈ r.map (·.1)) := by
  have s := visitBy_spec key w _ _ _ _ h
  refine ⟨s.nodup (by simp), s.entries (fun p hp => by simp at hp),
    fun c hc g hg => (hasK_iff_mem r _).mp (s.stackDone c hc g hg), ?_⟩
  intro p hp f hf c hc g hg
  rcases s.closed (fun p hp => by simp at hp) p hp f hf c hc g hg with h1 | h1
  · exact (hasK_iff_mem r _).mp h1
  · simp at h1

theorem pendingWork_add (key : CFunc → κ) (w : World) (acc : List (κ × Nat)) (p : κ × Nat) :
    pendingWork key w (acc ++ [p]) ≤ pendingWork key w acc ∧
    ∀ f, f ∈ w → p.1 = key f → ¬ hasK acc (key f) = true →
      pendingWork key w (acc ++ [p]) + (calleesL f.nodes).length ≤ pendingWork key w acc := by
  induction w with
  | nil => simp [pendingWork]
  | cons g rest ih =>
    simp only [pendingWork, hasK_append]
    obtain ⟨hm, hd⟩ := ih
    by_cases h : hasK acc (key g) = true
    · simp only [h, Bool.true_or, if_true]
      refine ⟨by omega, fun f hf hp hn => ?_⟩
      rcases List.mem_cons.mp hf with rfl | hf
      · exact absurd h hn
      · have := hd f hf hp hn
        omega
    · simp only [h, Bool.false_eq_true, if_false, Bool.false_or]
      refine ⟨by split <;> omega, fun f hf hp hn => ?_⟩
      rcases List.mem_cons.mp hf with rfl | hf
      · have hh : hasK [p] (key f) = true := by simp [hasK, hp]
        simp only [hh, if_true]
        omega
      · have := hd f hf hp hn
        split <;> omega

end

def RefsOK (w : World) (stack : List Nat) : Prop :=
  (∀ c, c ∈ stack → c < w.length) ∧ ∀ f, f ∈ w → ∀ c, c ∈ calleesL f.nodes → c < w.length

theorem visitBy_total {κ : Type} [BEq κ] [LawfulBEq κ] (key : CFunc → κ) (w : World) :
    ∀ (fuel : Nat) (stack : List Nat) (acc : List (κ × Nat)),
    RefsOK w stack → stack.length + pendingWork key w acc ≤ fuel → ∃ r, visitBy key w fuel stack acc = some r := by
  intro fuel stack acc
  fun_induction visitBy key w fuel stack acc with
  | case1 _ acc => exact fun _ _ => ⟨acc, rfl⟩
  | case2 =>
    intro _ hb
    simp at hb
  | case3 fuel c cs acc hw =>
    intro hr _
    exact absurd (hr.1 c (by simp)) (Nat.not_lt.mpr (List.getElem?_eq_none_iff.mp hw))
  | case4 fuel c cs acc f hw hn ih =>
    intro hr hb
    apply ih
    · exact ⟨fun c' hc' => hr.1 c' (by simp [hc']), hr.2⟩
    · simp only [List.length_cons] at hb
      omega
  | case5 fuel c cs acc f hw hn ih =>
    intro hr hb
    apply ih
    · refine ⟨fun c' hc' => ?_, hr.2⟩
      rcases List.mem_append.mp hc' with h | h
      · exact hr.2 f (List.mem_of_getElem? hw) c' h
      · exact hr.1 c' (by simp [h])
    · have := (pendingWork_add key w acc (key f, c)).2 f (List.mem_of_getElem? hw) rfl hn
      simp only [List.length_cons, List.length_append] at hb ⊢
      omega

inductive Reach (w : World) (roots : List Nat) : Nat → Prop
  | root {c : Nat} : c ∈ roots → Reach w roots c
  | step {p c : Nat} {f : CFunc} : Reach w roots p → w[p]? = some f → c ∈ calleesL f.nodes → Reach w roots c

theorem visitBy_reach {κ : Type} [BEq κ] (key : CFunc → κ) (w : World) (roots : List Nat) :
    ∀ (fuel : Nat) (stack : List Nat) (acc r : List (κ × Nat)),
    visitBy key w fuel stack acc = some r → (∀ p, p ∈ acc → Reach w roots p.2) → (∀ c, c ∈ stack → Reach w roots c) →
    ∀ p, p ∈ r → Reach w roots p.2 := by
  apply visitBy_ind key w
  case done => exact fun _ ha _ => ha
  case skip =>
    intro c cs acc r f _ _ ih ha hs
    exact ih ha (fun c' hc' => hs c' (by simp [hc']))
  case push =>
    intro c cs acc r f hw _ ih ha hs
    have hc : Reach w roots c := hs c (by simp)
    refine ih ?_ ?_
    · intro p hp
      rcases List.mem_append.mp hp with hp | hp
      · exact ha p hp
      · simp at hp
        subst hp
        exact hc
    · intro c' hc'
      rcases List.mem_append.mp hc' with h1 | h1
      · exact Reach.step hc hw h1
      · exact hs c' (by simp [h1])

theorem funcsOf_keys {κ : Type} [BEq κ] [LawfulBEq κ] {key : CFunc → κ} {w : World} :
    ∀ {r : List (κ × Nat)}, EntriesBy key w r → (funcsOf w (r.map (·.2))).map key = r.map (·.1)
  | [], _ => rfl
  | p :: rest, he => by
    obtain ⟨f, hf, hn⟩ := he p (by simp)
    have ih := funcsOf_keys (key := key) (w := w) (r := rest) (fun q hq => he q (by simp [hq]))
    simp only [funcsOf, List.map_cons, List.filterMap_cons, hf] at ih ⊢
    rw [hn, ih]

theorem mem_funcsOf_of_key {κ : Type} [BEq κ] [LawfulBEq κ] {key : CFunc → κ} {w : World} {r : List (κ × Nat)}
    (he : EntriesBy key w r) {k : κ} (hm : k ∈ r.map (·.1)) :
    ∃ f, f ∈ funcsOf w (r.map (·.2)) ∧ key f = k := by
  obtain ⟨p, hp, hpn⟩ := List.mem_map.mp hm
  obtain ⟨f, hf, hfn⟩ := he p hp
  exact ⟨f, List.mem_filterMap.mpr ⟨p.2, List.mem_map.mpr ⟨p, hp, rfl⟩, hf⟩, by rw [hfn, hpn]⟩

/-! ## the pre-d4270e9 walk keyed by name: when does a name determine the identifier? -/

def NamesIdentify (w : World) : Prop :=
  ∀ (i j : Nat) (f g : CFunc), w[i]? = some f → w[j]? = some g → f.name = g.name → f.domain = g.domain

theorem namesIdentify_of_check (w : World)
    (h : (w.all fun f => w.all fun g => f.name != g.name || f.domain == g.domain) = true) : NamesIdentify w := by
  intro i j f g hf hg hn
  have h1 := List.all_eq_true.mp h f (List.mem_of_getElem? hf)
  have h2 := List.all_eq_true.mp h1 g (List.mem_of_getElem? hg)
  simpa [hn] using h2

theorem mem_funcsOf_ident {w : World} {r : List (String × Nat)} (he : EntriesBy CFunc.name w r) {g : CFunc}
    (hid : NamesIdentify w) {c : Nat} (hg : w[c]? = some g) (hm : g.name ∈ r.map (·.1)) :
    ident g ∈ (funcsOf w (r.map (·.2))).map ident := by
  obtain ⟨f, hf, hfn⟩ := mem_funcsOf_of_key he hm
  obtain ⟨i, -, hi⟩ := List.mem_filterMap.mp hf
  exact List.mem_map.mpr ⟨f, hf, by simp [ident, hid i c f g hi hg hfn, hfn]⟩

end OV.C02
