import OV.Model.C03Dce
import OV.Lemmas.C03Uses
import OV.Lemmas.C03Frag
/-!
`RemoveUnusedNodesPass` on bodiless graphs (for `dce_refines`, Props/C03.lean).
`DceRel R ns ns'`: `ns'` is `ns` with some nodes dropped whose outputs lie in `R`, and the others trimmed (trailing absent
inputs removed, outputs in `R` renamed to `""`, trailing `""` dropped).  The trimmed list evaluates to an environment that
agrees with the original one outside `R` (`evalNodes_dceRel`).  `dceNodes` produces such a list for `R` = `sweptNames`: `""`
and every node output that is unused at the moment the sweep, which goes from the last node to the first, visits its node.
On a graph of the fragment `dceFragB` this gives the form of the pass's result (`dcePass_shape`); from it, the result refines
the input (`dcePass_sound`) and lies in the fragment again (`dceFragB_preserved`).
-/
namespace OV.C03

variable {V : Type}

/-- A-op: trailing absent optional inputs do not matter to an operator. -/
def TrailingNoneLaw (sem : Sem V) : Prop :=
  ∀ op dom attrs (args : List (Option V)), sem.op op dom attrs (dropTrailing Option.isNone args) = sem.op op dom attrs args

theorem dropTrailing_cons {α} (p : α → Bool) (a : α) (l : List α) :
    dropTrailing p (a :: l) = if (dropTrailing p l).isEmpty && p a then [] else a :: dropTrailing p l := by
  simp only [dropTrailing]
  cases h : dropTrailing p l with
  | nil => cases p a <;> simp
  | cons b r => simp

theorem mem_of_mem_dropTrailing {α} (p : α → Bool) {x : α} : ∀ {l : List α}, x ∈ dropTrailing p l → x ∈ l
  | [], h => by simp [dropTrailing] at h
  | a :: l, h => by
    rw [dropTrailing_cons] at h
    split at h
    · simp at h
    · rcases List.mem_cons.mp h with e | e
      · exact e ▸ List.mem_cons_self
      · exact List.mem_cons_of_mem _ (mem_of_mem_dropTrailing p e)

theorem dropTrailing_length_le {α} (p : α → Bool) : ∀ (l : List α), (dropTrailing p l).length ≤ l.length
  | [] => by simp [dropTrailing]
  | a :: l => by
    rw [dropTrailing_cons]
    have := dropTrailing_length_le p l
    split <;> simp <;> omega

theorem dropTrailing_map {α β} (p : α → Bool) (q : β → Bool) (g : α → β) :
    ∀ (l : List α), (∀ a ∈ l, q (g a) = p a) → dropTrailing q (l.map g) = (dropTrailing p l).map g
  | [], _ => rfl
  | a :: l, h => by
    have ih := dropTrailing_map p q g l fun x hx => h x (List.mem_cons_of_mem _ hx)
    rw [List.map_cons, dropTrailing_cons, dropTrailing_cons, ih, h a List.mem_cons_self, List.isEmpty_map]
    split <;> rfl

/-- (read through `List.mapM_eq_some_iff_map`, on both sides the absent inputs are the entries `some none`) -/
theorem lookupAll_dropTrailing {ρ : Env V} {xs : List (Option Name)} {args : List (Option V)}
    (h : lookupAll ρ xs = some args) :
    lookupAll ρ (dropTrailing Option.isNone xs) = some (dropTrailing Option.isNone args) := by
  rw [lookupAll_eq_mapM, List.mapM_eq_some_iff_map] at h ⊢
  let q : Option (Option V) → Bool := fun r => match r with | some none => true | _ => false
  rw [← dropTrailing_map Option.isNone q _ xs fun x _ => by
      cases x with
      | none => rfl
      | some y => rw [lookupIn]; cases ρ y <;> rfl,
    ← dropTrailing_map Option.isNone q _ args fun a _ => by cases a <;> rfl, h]

/-- `os'` is `os` with names of `R` renamed to `""` and a suffix lying in `R` dropped -/
inductive OutsTrim (R : List Name) : List Name → List Name → Prop
  | drop {os} : (∀ o ∈ os, R.contains o = true) → OutsTrim R os []
  | keep {o os os'} : OutsTrim R os os' → OutsTrim R (o :: os) (o :: os')
  | rename {o os os'} : R.contains o = true → OutsTrim R os os' → OutsTrim R (o :: os) ("" :: os')

theorem OutsTrim.refl (R : List Name) : ∀ (os : List Name), OutsTrim R os os
  | [] => .drop (fun _ h => by simp at h)
  | _ :: os => .keep (OutsTrim.refl R os)

theorem OutsTrim.nil_inv {R : List Name} {os : List Name} (h : OutsTrim R os []) : ∀ o ∈ os, R.contains o = true := by
  cases h with
  | drop h => exact h

theorem OutsTrim.dropTrailing {R : List Name} (hR : R.contains "" = true) :
    ∀ {os os' : List Name}, OutsTrim R os os' → OutsTrim R os (dropTrailing (· == "") os') := by
  intro os os' h
  induction h with
  | drop h => exact .drop h
  | @keep o os os' h ih =>
    rw [dropTrailing_cons]
    split
    · rename_i hc
      simp only [Bool.and_eq_true, List.isEmpty_iff, beq_iff_eq] at hc
      rw [hc.1] at ih
      refine .drop (fun x hx => ?_)
      rcases List.mem_cons.mp hx with e | e
      · rw [e, hc.2]; exact hR
      · exact ih.nil_inv x e
    · exact .keep ih
  | @rename o os os' ho h ih =>
    rw [dropTrailing_cons]
    split
    · rename_i hc
      simp only [Bool.and_eq_true, List.isEmpty_iff] at hc
      rw [hc.1] at ih
      refine .drop (fun x hx => ?_)
      rcases List.mem_cons.mp hx with e | e
      · rw [e]; exact ho
      · exact ih.nil_inv x e
    · exact .rename ho ih

theorem EqOff.of_outside {R : List Name} {ρ ρ' ρ1 : Env V} {os : List Name} (h : EqOff R ρ' ρ)
    (hR : ∀ o ∈ os, R.contains o = true) (hg : ∀ x, os.contains x = false → ρ1 x = ρ x) : EqOff R ρ' ρ1 := by
  intro y hy
  rw [hg y (Bool.eq_false_iff.mpr fun hc => by rw [hR y (List.contains_iff_mem.mp hc)] at hy; cases hy)]
  exact h y hy

theorem bindOuts_trim {R : List Name} (hR : R.contains "" = true) {os os' : List Name} (ht : OutsTrim R os os') :
    ∀ (vs : List V) (ρ ρ' ρ1 : Env V), EqOff R ρ' ρ → bindOuts ρ os vs = some ρ1 →
      ∃ ρ1', bindOuts ρ' os' vs = some ρ1' ∧ EqOff R ρ1' ρ1 := by
  induction ht with
  | drop h => exact fun vs ρ ρ' ρ1 he hb => ⟨ρ', rfl, he.of_outside h fun _ => bindOuts_get_other hb⟩
  | @keep o os os' _ ih =>
    intro vs ρ ρ' ρ1 he hb
    cases vs with
    | nil => simp [bindOuts] at hb
    | cons v vs =>
      simp only [bindOuts] at hb ⊢
      exact ih vs _ _ ρ1 (he.set o v) hb
  | @rename o os os' ho _ ih =>
    intro vs ρ ρ' ρ1 he hb
    cases vs with
    | nil => simp [bindOuts] at hb
    | cons v vs =>
      simp only [bindOuts] at hb ⊢
      refine ih vs _ _ ρ1 ?_ hb
      intro y hy
      have h1 : y ≠ "" := fun e => by rw [e, hR] at hy; exact absurd hy (by decide)
      have h2 : y ≠ o := fun e => by rw [e, ho] at hy; exact absurd hy (by decide)
      rw [Env.set_get_ne _ v h1, Env.set_get_ne _ v h2]
      exact he y hy

/-- what `trimNode` may do to a kept bodiless node, relative to the set `R` of dropped names -/
structure NodeTrim (R : List Name) (n n2 : Node) : Prop where
  op : n2.op = n.op
  domain : n2.domain = n.domain
  attrs : n2.attrs = n.attrs
  subs : n2.subs = []
  subs0 : n.subs = []
  inputs : n2.inputs = dropTrailing Option.isNone n.inputs
  outputs : OutsTrim R n.outputs n2.outputs
  reads : ∀ x, some x ∈ n2.inputs → R.contains x = false
  const : n.isOp "Constant" = true → n.inputs = []

inductive DceRel (R : List Name) : List Node → List Node → Prop
  | nil : DceRel R [] []
  | drop {n ns ns'} : n.subs = [] → (∀ o ∈ n.outputs, R.contains o = true) → DceRel R ns ns' → DceRel R (n :: ns) ns'
  | keep {n n2 ns ns'} : NodeTrim R n n2 → DceRel R ns ns' → DceRel R (n :: ns) (n2 :: ns')

theorem constDenote_trim (sem : Sem V) {R : List Name} {n n2 : Node} (h : NodeTrim R n n2) :
    constDenote sem n2 = constDenote sem n := by
  unfold constDenote
  by_cases hc : n.isOp "Constant" = true
  · have hi : n2.inputs = n.inputs := by rw [h.inputs, h.const hc]; rfl
    simp only [Node.isOp, Node.isOnnxDomain, h.op, h.domain, h.subs, h.subs0, h.attrs, hi]
  · have hc1 : n.isOp "Constant" = false := by simpa using hc
    have hc2 : n2.isOp "Constant" = false := by
      simp only [Node.isOp, Node.isOnnxDomain, h.op, h.domain] at hc1 ⊢
      exact hc1
    simp only [hc1, hc2, Bool.false_and, Bool.false_eq_true, if_false]

theorem evalNode_trim (sem : Sem V) (hT : TrailingNoneLaw sem) {sub} {R : List Name} (hR : R.contains "" = true)
    {n n2 : Node} (h : NodeTrim R n n2) {ρ ρ' ρ1 : Env V} (he : EqOff R ρ' ρ) (hev : evalNode sem sub ρ n = some ρ1) :
    ∃ ρ1', evalNode sem sub ρ' n2 = some ρ1' ∧ EqOff R ρ1' ρ1 := by
  unfold evalNode at hev ⊢
  cases hl : lookupAll ρ n.inputs with
  | none => simp [hl] at hev
  | some args =>
    have hl2 : lookupAll ρ' n2.inputs = some (dropTrailing Option.isNone args) := by
      rw [lookupAll_eqOff he n2.inputs h.reads, h.inputs]
      exact lookupAll_dropTrailing hl
    have hno : nodeOutputs sem sub ρ' n2 (dropTrailing Option.isNone args) = nodeOutputs sem sub ρ n args := by
      unfold nodeOutputs
      simp only [h.subs, h.subs0, List.isEmpty_nil, if_true, constDenote_trim sem h, h.op, h.domain, h.attrs, hT _ _ _ args]
    rw [hl] at hev
    simp only [Option.bind] at hev
    rw [hl2]
    simp only [Option.bind, hno]
    cases hv : nodeOutputs sem sub ρ n args with
    | none => simp [hv] at hev
    | some vs =>
      simp only [hv] at hev ⊢
      exact bindOuts_trim hR h.outputs vs ρ ρ' ρ1 he hev

theorem evalNodes_dceRel (sem : Sem V) (hT : TrailingNoneLaw sem) {sub} {R : List Name} (hR : R.contains "" = true)
    {ns ns' : List Node} (h : DceRel R ns ns') :
    ∀ (ρ ρ' ρ1 : Env V), EqOff R ρ' ρ → evalNodes (evalNode sem sub) ρ ns = some ρ1 →
      ∃ ρ1', evalNodes (evalNode sem sub) ρ' ns' = some ρ1' ∧ EqOff R ρ1' ρ1 := by
  induction h with
  | nil =>
    intro ρ ρ' ρ1 he hev
    simp only [evalNodes, Option.some.injEq] at hev
    exact ⟨ρ', rfl, hev ▸ he⟩
  | @drop n ns ns' _ hout _ ih =>
    intro ρ ρ' ρ1 he hev
    simp only [evalNodes] at hev
    cases h1 : evalNode sem sub ρ n with
    | none => simp [h1] at hev
    | some ρa =>
      simp only [h1, Option.bind] at hev
      exact ih ρa ρ' ρ1 (he.of_outside hout fun _ => evalNode_get_other sem h1) hev
  | @keep n n2 ns ns' hn _ ih =>
    intro ρ ρ' ρ1 he hev
    simp only [evalNodes] at hev ⊢
    cases h1 : evalNode sem sub ρ n with
    | none => simp [h1] at hev
    | some ρa =>
      simp only [h1, Option.bind] at hev
      obtain ⟨ρa', e1, e2⟩ := evalNode_trim sem hT hR hn he h1
      rw [e1]
      exact ih ρa ρa' ρ1 e2 hev

theorem DceRel.mem {R : List Name} {ns ns' : List Node} (h : DceRel R ns ns') : ∀ k ∈ ns', ∃ n ∈ ns, NodeTrim R n k := by
  induction h with
  | nil => intro k hk; simp at hk
  | drop _ _ _ ih =>
    intro k hk
    obtain ⟨n, hn, ht⟩ := ih k hk
    exact ⟨n, List.mem_cons_of_mem _ hn, ht⟩
  | keep hn _ ih =>
    intro k hk
    rcases List.mem_cons.mp hk with e | e
    · exact ⟨_, List.mem_cons_self, e ▸ hn⟩
    · obtain ⟨n, hn', ht⟩ := ih k e
      exact ⟨n, List.mem_cons_of_mem _ hn', ht⟩

theorem DceRel.bodiless {R : List Name} {ns ns' : List Node} (h : DceRel R ns ns') : ∀ k ∈ ns', k.subs = [] := fun k hk =>
  let ⟨_, _, ht⟩ := h.mem k hk
  ht.subs

theorem OutsTrim.mono {R R' : List Name} (h : ∀ x, R.contains x = true → R'.contains x = true) {os os' : List Name}
    (ht : OutsTrim R os os') : OutsTrim R' os os' := by
  induction ht with
  | drop hd => exact .drop fun o ho => h o (hd o ho)
  | keep _ ih => exact .keep ih
  | rename ho _ ih => exact .rename (h _ ho) ih

theorem DceRel.mono {R R' : List Name} (h : ∀ x, R.contains x = true → R'.contains x = true) {ns ns' : List Node}
    (hrel : DceRel R ns ns') (hreads : ∀ k ∈ ns', ∀ x, some x ∈ k.inputs → R'.contains x = false) : DceRel R' ns ns' := by
  induction hrel with
  | nil => exact .nil
  | drop hs ho _ ih => exact .drop hs (fun o hm => h o (ho o hm)) (ih hreads)
  | keep hn _ ih =>
    exact .keep { hn with outputs := hn.outputs.mono h, reads := hreads _ List.mem_cons_self }
      (ih fun k hk => hreads k (List.mem_cons_of_mem _ hk))

/-- per-node part of `dceFragB` -/
structure DceNodeWF (n : Node) : Prop where
  subs : n.subs = []
  bn : isBnTraining n = false
  self : ∀ o ∈ n.outputs, n.inputs.contains (some o) = false
  noEmpty : n.inputs.contains (some "") = false
  const : n.isOp "Constant" = true → n.inputs = []

theorem bodyReads_nil {n : Node} (h : n.subs = []) (x : Name) : bodyReads n x = false := by
  simp [bodyReads, h]

theorem nodeReads_bodiless {n : Node} (h : n.subs = []) (x : Name) : nodeReads n x = n.inputs.contains (some x) := by
  simp [nodeReads, bodyReads_nil h]

theorem bnTrim_fields (used : Name → Bool) (n : Node) :
    (bnTrim used n).op = n.op ∧ (bnTrim used n).domain = n.domain ∧ (bnTrim used n).inputs = n.inputs ∧
    (bnTrim used n).subs = n.subs := by
  unfold bnTrim
  split <;> simp [Node.setOutputs, Node.setAttrs, Node.op, Node.domain, Node.inputs, Node.subs]

theorem trimOpt_fields (ctx : DceCtx) (used : Name → Bool) (n : Node) :
    (trimOptionalOutputs ctx used n).op = n.op ∧ (trimOptionalOutputs ctx used n).domain = n.domain ∧
    (trimOptionalOutputs ctx used n).inputs = n.inputs ∧ (trimOptionalOutputs ctx used n).subs = n.subs := by
  unfold trimOptionalOutputs
  split
  · simp
  · split
    · split
      · exact bnTrim_fields used n
      · split <;> simp [Node.setOutputs, Node.op, Node.domain, Node.inputs, Node.subs]
    · simp

theorem trimNode_fields (ctx : DceCtx) (ho : Bool) (used : Name → Bool) (n : Node) :
    (trimNode ctx ho used n).op = n.op ∧ (trimNode ctx ho used n).domain = n.domain ∧
    (trimNode ctx ho used n).inputs = dropTrailing Option.isNone n.inputs ∧ (trimNode ctx ho used n).subs = n.subs := by
  unfold trimNode
  simp only []
  split
  · have := trimOpt_fields ctx used (n.setInputs (dropTrailing Option.isNone n.inputs))
    simpa [Node.setInputs, Node.op, Node.domain, Node.inputs, Node.subs] using this
  · simp [Node.setInputs, Node.op, Node.domain, Node.inputs, Node.subs]

theorem renameUnused_trim {R : List Name} (used : Name → Bool) :
    ∀ (fl : List Nat) (os : List Name), (∀ o ∈ os, used o = false → R.contains o = true) →
      OutsTrim R os (renameUnused used fl os)
  | _, [], _ => by simp only [renameUnused]; exact OutsTrim.refl R []
  | [], o :: os, _ => by simp only [renameUnused]; exact OutsTrim.refl R _
  | f :: fs, o :: os, h => by
    simp only [renameUnused]
    have ih := renameUnused_trim used fs os (fun x hx => h x (List.mem_cons_of_mem _ hx))
    split
    · rename_i hc
      simp only [Bool.and_eq_true, Bool.not_eq_true'] at hc
      exact .rename (h o List.mem_cons_self hc.2) ih
    · exact .keep ih

theorem filter_training_self {attrs : List (String × Attr)} (h : attrs.any (·.1 == "training_mode") = false) :
    attrs.filter (fun a => a.1 != "training_mode") = attrs := by
  rw [List.filter_eq_self]
  intro a ha
  have := List.any_eq_false.mp h a ha
  simpa [bne] using this

theorem bnOuts_trim {R : List Name} (used : Name → Bool) :
    ∀ (outs : List Name), (∀ o ∈ outs, used o = false → R.contains o = true) →
      (match outs[1]? with | some o => used o | none => false) = false →
      (match outs[2]? with | some o => used o | none => false) = false → OutsTrim R outs (bnOuts outs)
  | [], _, _, _ => OutsTrim.refl R _
  | [_], _, _, _ => OutsTrim.refl R _
  | [y, a], h, h1, _ => by
    have ha : used a = false := by simpa using h1
    exact .keep (.rename (h a (by simp) ha) (OutsTrim.refl R _))
  | y :: a :: b :: r, h, h1, h2 => by
    have ha : used a = false := by simpa using h1
    have hb : used b = false := by simpa using h2
    exact .keep (.rename (h a (by simp) ha) (.rename (h b (by simp) hb) (OutsTrim.refl R _)))

theorem bnTrim_trim {R : List Name} (used : Name → Bool) (n : Node)
    (hbn : n.attrs.any (·.1 == "training_mode") = false)
    (h : ∀ o ∈ n.outputs, used o = false → R.contains o = true) :
    (bnTrim used n).attrs = n.attrs ∧ OutsTrim R n.outputs (bnTrim used n).outputs := by
  unfold bnTrim
  split
  · exact ⟨rfl, OutsTrim.refl R _⟩
  · rename_i hu
    simp only [Bool.or_eq_true, not_or, Bool.not_eq_true, bnUsed] at hu
    refine ⟨?_, ?_⟩
    · show List.filter (fun a => a.1 != "training_mode") n.attrs = n.attrs
      exact filter_training_self hbn
    show OutsTrim R n.outputs (bnOuts n.outputs)
    exact bnOuts_trim used n.outputs h hu.1 hu.2

theorem trimOpt_trim {R : List Name} (hR : R.contains "" = true) (ctx : DceCtx) (used : Name → Bool) (n : Node)
    (hbn : isBnTraining n = false) (h : ∀ o ∈ n.outputs, used o = false → R.contains o = true) :
    (trimOptionalOutputs ctx used n).attrs = n.attrs ∧ OutsTrim R n.outputs (trimOptionalOutputs ctx used n).outputs := by
  unfold trimOptionalOutputs
  split
  · exact ⟨rfl, OutsTrim.refl R _⟩
  · rename_i hd
    split
    · split
      · rename_i hop
        have hd' : n.domain = "" := by simpa using hd
        have : n.attrs.any (·.1 == "training_mode") = false := by
          simp only [isBnTraining, hop, hd', beq_self_eq_true, Bool.true_and] at hbn
          exact hbn
        exact bnTrim_trim used n this h
      · split
        · exact ⟨rfl, OutsTrim.refl R _⟩
        · exact ⟨by simp [Node.setOutputs, Node.attrs],
            by simpa [Node.setOutputs, Node.outputs] using (renameUnused_trim used _ n.outputs h).dropTrailing hR⟩
    · exact ⟨rfl, OutsTrim.refl R _⟩

theorem trimNode_trim {R : List Name} (hR : R.contains "" = true) (ctx : DceCtx) (ho : Bool) (used : Name → Bool) (n : Node)
    (hbn : isBnTraining n = false) (h : ∀ o ∈ n.outputs, used o = false → R.contains o = true) :
    (trimNode ctx ho used n).attrs = n.attrs ∧ OutsTrim R n.outputs (trimNode ctx ho used n).outputs := by
  unfold trimNode
  simp only []
  split
  · have := trimOpt_trim hR ctx used (n.setInputs (dropTrailing Option.isNone n.inputs))
      (by simpa [isBnTraining, Node.setInputs, Node.op, Node.domain, Node.attrs] using hbn)
      (by simpa [Node.setInputs, Node.outputs] using h)
    simpa [Node.setInputs, Node.outputs, Node.attrs] using this
  · exact ⟨by simp [Node.setInputs, Node.attrs], by simpa [Node.setInputs, Node.outputs] using OutsTrim.refl R n.outputs⟩

section
variable (ctx : DceCtx) (sub : Graph → DceOut × Graph) (ho : Bool) (outs : List Name)

theorem dceNodes_cons_bodiless (n : Node) (rest : List Node) (hn : n.subs = []) :
    let r := dceNodes ctx sub ho outs rest
    (dceNodes ctx sub ho outs (n :: rest)).ghosts = r.ghosts ∧
    (dceNodes ctx sub ho outs (n :: rest)).nodes =
      if n.outputs.all (fun o => !usedLater outs r.nodes r.ghosts o) then r.nodes
      else trimNode ctx ho (usedLater outs r.nodes r.ghosts) n :: r.nodes := by
  intro r
  have hs : (trimNode ctx ho (usedLater outs r.nodes r.ghosts) n).subs = [] := by
    rw [(trimNode_fields ctx ho _ n).2.2.2]; exact hn
  simp only [dceNodes]
  split
  · simp [hn, r]
  · simp only [hs, dceSubs, List.nil_append, r]
    exact ⟨trivial, by rw [setSubs_nil _ hs]⟩

theorem dceNodes_ghosts_bodiless : ∀ (ns : List Node), (∀ n ∈ ns, n.subs = []) → (dceNodes ctx sub ho outs ns).ghosts = []
  | [], _ => rfl
  | n :: rest, h => by
    rw [(dceNodes_cons_bodiless ctx sub ho outs n rest (h n List.mem_cons_self)).1]
    exact dceNodes_ghosts_bodiless rest (fun m hm => h m (List.mem_cons_of_mem _ hm))

theorem orderOKE_tail {n : Node} {rest : List Node} (h : orderOKE (n :: rest) = true) : orderOKE rest = true := by
  simp only [orderOKE, Bool.and_eq_true] at h
  exact h.2

theorem orderOKE_head {n : Node} {rest : List Node} (h : orderOKE (n :: rest) = true) {m : Node} (hm : m ∈ rest)
    {o : Name} (ho : o ∈ m.outputs) (hne : o ≠ "") : mentionsTop n o = false := by
  simp only [orderOKE, Bool.and_eq_true, List.all_eq_true, Bool.or_eq_true, beq_iff_eq, Bool.not_eq_true'] at h
  rcases h.1 m hm o ho with e | e
  · exact absurd e hne
  · exact e

/-- `""`, and every node output that is unused when the sweep visits its node -/
def sweptNames : List Node → List Name
  | [] => [""]
  | n :: rest =>
    n.outputs.filter (fun o => !usedLater outs (dceNodes ctx sub ho outs rest).nodes (dceNodes ctx sub ho outs rest).ghosts o) ++
      sweptNames rest

theorem sweptNames_empty : ∀ (ns : List Node), (sweptNames ctx sub ho outs ns).contains "" = true
  | [] => rfl
  | n :: rest => by
    simp only [sweptNames, List.contains_iff_mem, List.mem_append]
    exact Or.inr (List.contains_iff_mem.mp (sweptNames_empty rest))

theorem sweptNames_mem : ∀ (ns : List Node) (x : Name), x ∈ sweptNames ctx sub ho outs ns →
    x = "" ∨ (outs.contains x = false ∧ ∃ m ∈ ns, x ∈ m.outputs)
  | [], x, h => Or.inl (by simpa [sweptNames] using h)
  | n :: rest, x, h => by
    simp only [sweptNames, List.mem_append, List.mem_filter] at h
    rcases h with ⟨hx, hu⟩ | h
    · simp only [usedLater, Bool.not_eq_true', Bool.or_eq_false_iff] at hu
      exact Or.inr ⟨hu.1.1, n, List.mem_cons_self, hx⟩
    · exact (sweptNames_mem rest x h).imp id fun ⟨h1, m, hm, hmx⟩ => ⟨h1, m, List.mem_cons_of_mem _ hm, hmx⟩

theorem dceNodes_rel : ∀ (ns : List Node), (∀ m ∈ ns, DceNodeWF m) → orderOKE ns = true →
    DceRel (sweptNames ctx sub ho outs ns) ns (dceNodes ctx sub ho outs ns).nodes
  | [], _, _ => .nil
  | n :: rest, hw, hord => by
    have hnw := hw n List.mem_cons_self
    have ih := dceNodes_rel rest (fun m hm => hw m (List.mem_cons_of_mem _ hm)) (orderOKE_tail hord)
    have hR := sweptNames_empty ctx sub ho outs (n :: rest)
    -- an output of `n` that is unused now is swept; nothing swept now is read by a node kept so far
    have hun : ∀ o ∈ n.outputs,
        usedLater outs (dceNodes ctx sub ho outs rest).nodes (dceNodes ctx sub ho outs rest).ghosts o = false →
        (sweptNames ctx sub ho outs (n :: rest)).contains o = true := fun o hm hu => by
      simp only [sweptNames, List.contains_iff_mem, List.mem_append, List.mem_filter]
      exact Or.inl ⟨hm, by simp [hu]⟩
    have hsub : ∀ x, (sweptNames ctx sub ho outs rest).contains x = true → (sweptNames ctx sub ho outs (n :: rest)).contains x = true :=
      fun x hx => by
        simp only [sweptNames, List.contains_iff_mem, List.mem_append] at hx ⊢
        exact Or.inr hx
    have hlater : ∀ k ∈ (dceNodes ctx sub ho outs rest).nodes, ∀ x, some x ∈ k.inputs →
        (sweptNames ctx sub ho outs (n :: rest)).contains x = false := fun k hk x hx => by
      obtain ⟨m, _, ht⟩ := ih.mem k hk
      refine Bool.eq_false_iff.mpr fun hc => ?_
      simp only [sweptNames, List.contains_iff_mem, List.mem_append, List.mem_filter] at hc
      rcases hc with ⟨_, hu⟩ | hc
      · simp only [usedLater, Bool.not_eq_true', Bool.or_eq_false_iff] at hu
        have := List.any_eq_false.mp hu.1.2 k hk
        rw [nodeReads, List.contains_iff_mem.mpr hx] at this
        exact this rfl
      · have := ht.reads x hx
        rw [List.contains_iff_mem.mpr hc] at this
        cases this
    have ih' := ih.mono hsub hlater
    rw [(dceNodes_cons_bodiless ctx sub ho outs n rest hnw.subs).2]
    split
    · rename_i hall
      exact .drop hnw.subs (fun o hm => hun o hm (by simpa using List.all_eq_true.mp hall o hm)) ih'
    · have hf := trimNode_fields ctx ho (usedLater outs (dceNodes ctx sub ho outs rest).nodes (dceNodes ctx sub ho outs rest).ghosts) n
      have ht := trimNode_trim hR ctx ho (usedLater outs (dceNodes ctx sub ho outs rest).nodes (dceNodes ctx sub ho outs rest).ghosts) n hnw.bn hun
      refine .keep { op := hf.1, domain := hf.2.1, attrs := ht.1, subs := by rw [hf.2.2.2]; exact hnw.subs, subs0 := hnw.subs,
                     inputs := hf.2.2.1, outputs := ht.2, reads := ?_, const := hnw.const } ih'
      intro x hx
      -- `n` reads neither one of its own outputs, nor `""`, nor an output of a later node
      have hxn : some x ∈ n.inputs := by
        rw [hf.2.2.1] at hx
        exact mem_of_mem_dropTrailing _ hx
      have hxc : n.inputs.contains (some x) = true := List.contains_iff_mem.mpr hxn
      refine Bool.eq_false_iff.mpr fun hc => ?_
      simp only [sweptNames, List.contains_iff_mem, List.mem_append, List.mem_filter] at hc
      rcases hc with ⟨hxo, _⟩ | hc
      · rw [hnw.self x hxo] at hxc
        cases hxc
      · rcases sweptNames_mem ctx sub ho outs rest x hc with rfl | ⟨_, m, hm, hmx⟩
        · rw [hnw.noEmpty] at hxc
          cases hxc
        · have hne : x ≠ "" := fun e => by rw [e, hnw.noEmpty] at hxc; cases hxc
          have := orderOKE_head hord hm hmx hne
          simp only [mentionsTop, hxc, Bool.true_or] at this
          cases this

end

@[simp] theorem Graph.mk_inputs (a : List Name) (b : List (Name × String)) (c : List Node) (d : List Name) : (Graph.mk a b c d).inputs = a := rfl
@[simp] theorem Graph.mk_inits (a : List Name) (b : List (Name × String)) (c : List Node) (d : List Name) : (Graph.mk a b c d).inits = b := rfl
@[simp] theorem Graph.mk_nodes (a : List Name) (b : List (Name × String)) (c : List Node) (d : List Name) : (Graph.mk a b c d).nodes = c := rfl
@[simp] theorem Graph.mk_outputs (a : List Name) (b : List (Name × String)) (c : List Node) (d : List Name) : (Graph.mk a b c d).outputs = d := rfl

theorem dceFragB_sound {g : Graph} (h : dceFragB g = true) :
    (∀ m ∈ g.nodes, DceNodeWF m) ∧ orderOKE g.nodes = true ∧ g.outputs.contains "" = false ∧ g.inputs.contains "" = false := by
  simp only [dceFragB, Bool.and_eq_true, List.all_eq_true, Bool.not_eq_true', Bool.or_eq_true] at h
  obtain ⟨⟨⟨hn, hord⟩, hout⟩, hin⟩ := h
  refine ⟨fun m hm => ?_, hord, hout, hin⟩
  obtain ⟨⟨⟨⟨h1, h2⟩, h3⟩, h4⟩, h5⟩ := hn m hm
  refine { subs := List.isEmpty_iff.mp h1, bn := h2, self := fun o ho => h3 o ho, noEmpty := h4, const := ?_ }
  intro hc
  rcases h5 with h5 | h5
  · rw [hc] at h5; exact absurd h5 (by decide)
  · exact List.isEmpty_iff.mp h5

theorem dcePass_shape (ctx : DceCtx) (hasOpset : Bool) (g : Graph) (hw : ∀ m ∈ g.nodes, DceNodeWF m)
    (hord : orderOKE g.nodes = true) (hout : g.outputs.contains "" = false) :
    ∃ R ns, DceRel R g.nodes ns ∧ R.contains "" = true ∧ (∀ x ∈ g.outputs, R.contains x = false) ∧
      (dcePass ctx hasOpset g).2 =
        Graph.mk g.inputs (g.inits.filter fun p => !(deadInits (Graph.mk g.inputs g.inits ns g.outputs) []).contains p.1)
          ns g.outputs := by
  have hgh := dceNodes_ghosts_bodiless ctx (dceGraphLike ctx 7 false) hasOpset g.outputs g.nodes (fun m hm => (hw m hm).subs)
  refine ⟨_, _, dceNodes_rel ctx (dceGraphLike ctx 7 false) hasOpset g.outputs g.nodes hw hord,
    sweptNames_empty ctx _ hasOpset g.outputs g.nodes, ?_, ?_⟩
  · intro x hx
    refine Bool.eq_false_iff.mpr fun hc => ?_
    rcases sweptNames_mem ctx _ hasOpset g.outputs g.nodes x (List.contains_iff_mem.mp hc) with rfl | ⟨h, _⟩
    · rw [List.contains_iff_mem.mpr hx] at hout
      cases hout
    · rw [List.contains_iff_mem.mpr hx] at h
      cases h
  · generalize hD : dceNodes ctx (dceGraphLike ctx 7 false) hasOpset g.outputs g.nodes = D at hgh ⊢
    have hgl : dceGraphLike ctx (7 + 1) hasOpset g = ({ D with nodes := [] }, Graph.mk g.inputs g.inits D.nodes g.outputs) := by
      rw [← hD]; rfl
    unfold dcePass
    rw [maxDepth_succ, hgl]
    show Graph.mk g.inputs (g.inits.filter fun p => !(deadInits (Graph.mk g.inputs g.inits D.nodes g.outputs) D.ghosts).contains p.1)
      D.nodes g.outputs = _
    rw [hgh]

theorem not_dead {g : Graph} {x : Name} (h : g.inputs.contains x = true ∨ usedLater g.outputs g.nodes [] x = true) :
    (deadInits g []).contains x = false := by
  cases hc : (deadInits g []).contains x with
  | false => rfl
  | true =>
    obtain ⟨p, hp, hpx⟩ := List.mem_map.mp (List.contains_iff_mem.mp hc)
    have := (List.mem_filter.mp hp).2
    rw [hpx] at this
    simp only [Bool.not_eq_true', Bool.or_eq_false_iff] at this
    rcases h with h | h
    · rw [this.2] at h; exact absurd h (by decide)
    · rw [this.1] at h; exact absurd h (by decide)

theorem dcePass_sound (sem : Sem V) (hT : TrailingNoneLaw sem) (ctx : DceCtx) (hasOpset : Bool) (g : Graph)
    (hwf : dceFragB g = true) (d : Nat) (outer : Env V) (args : List (Option V)) (vs : List V)
    (hev : evalGraph sem (d + 1) outer g args = some vs) :
    evalGraph sem (d + 1) outer (dcePass ctx hasOpset g).2 args = some vs := by
  obtain ⟨hw, hord, hout, _⟩ := dceFragB_sound hwf
  obtain ⟨R, Dn, hrel, hR, houtR, hpass⟩ := dcePass_shape ctx hasOpset g hw hord hout
  rw [hpass, prune_sound sem _ g.inputs g.inits Dn g.outputs d outer args hrel.bodiless]
  · obtain ⟨ρ0, ρ, h0, h1, ho⟩ := evalGraph_some hev
    obtain ⟨ρ1', e1, e2⟩ := evalNodes_dceRel sem hT hR hrel ρ0 ρ0 ρ (fun _ _ => rfl) h1
    have hs : startEnv sem outer (Graph.mk g.inputs g.inits Dn g.outputs) args = some ρ0 := h0
    simp only [evalGraph, hs, Option.bind, Graph.mk_nodes, Graph.mk_outputs, e1]
    rw [lookupOuts_eqOff e2 g.outputs houtR]
    exact ho
  · exact fun x hx => not_dead (Or.inl (List.contains_iff_mem.mpr hx))
  · exact fun x hx => not_dead (Or.inr (by simp [usedLater, hx]))
  · intro n hn x hx
    refine not_dead (Or.inr ?_)
    have : (Dn.any (nodeReads · x)) = true :=
      List.any_eq_true.mpr ⟨n, hn, by rw [nodeReads_bodiless (hrel.bodiless n hn)]; exact List.contains_iff_mem.mpr hx⟩
    simp [usedLater, this]

theorem OutsTrim.mem {R : List Name} {os os' : List Name} (h : OutsTrim R os os') : ∀ o' ∈ os', o' = "" ∨ o' ∈ os := by
  induction h with
  | drop _ => intro o' ho'; simp at ho'
  | @keep o os os' _ ih =>
    intro o' ho'
    rcases List.mem_cons.mp ho' with e | e
    · exact Or.inr (e ▸ List.mem_cons_self)
    · exact (ih o' e).imp id (List.mem_cons_of_mem _)
  | @rename o os os' _ _ ih =>
    intro o' ho'
    rcases List.mem_cons.mp ho' with e | e
    · exact Or.inl e
    · exact (ih o' e).imp id (List.mem_cons_of_mem _)

theorem NodeTrim.mentions {R : List Name} {n k : Node} (h : NodeTrim R n k) {o : Name} (hne : o ≠ "")
    (hm : mentionsTop n o = false) : mentionsTop k o = false := by
  simp only [mentionsTop, Bool.or_eq_false_iff] at hm ⊢
  constructor
  · cases hc : k.inputs.contains (some o) with
    | false => rfl
    | true =>
      have h1 := List.contains_iff_mem.mp hc
      rw [h.inputs] at h1
      have h2 := mem_of_mem_dropTrailing _ h1
      rw [List.contains_iff_mem.mpr h2] at hm
      exact absurd hm.1 (by decide)
  · cases hc : k.outputs.contains o with
    | false => rfl
    | true =>
      rcases h.outputs.mem o (List.contains_iff_mem.mp hc) with e | e
      · exact absurd e hne
      · rw [List.contains_iff_mem.mpr e] at hm
        exact absurd hm.2 (by decide)

theorem DceRel.orderOKE {R : List Name} {ns ns' : List Node} (h : DceRel R ns ns') :
    orderOKE ns = true → orderOKE ns' = true := by
  induction h with
  | nil => exact id
  | drop _ _ _ ih => exact fun ho => ih (orderOKE_tail ho)
  | @keep n n2 ns ns' hn hrel ih =>
    intro ho
    simp only [OV.C03.orderOKE, Bool.and_eq_true, List.all_eq_true, Bool.or_eq_true, beq_iff_eq, Bool.not_eq_true']
    refine ⟨?_, ih (orderOKE_tail ho)⟩
    intro m' hm' o' ho'
    by_cases hne : o' = ""
    · exact Or.inl hne
    · right
      obtain ⟨m, hm, ht⟩ := hrel.mem m' hm'
      rcases ht.outputs.mem o' ho' with e | e
      · exact absurd e hne
      · exact hn.mentions hne (orderOKE_head ho hm e hne)

theorem NodeTrim.wf {R : List Name} {n k : Node} (h : NodeTrim R n k) (hw : DceNodeWF n) : DceNodeWF k := by
  have hsub : ∀ x, some x ∈ k.inputs → some x ∈ n.inputs := by
    intro x hx
    rw [h.inputs] at hx
    exact mem_of_mem_dropTrailing _ hx
  refine { subs := h.subs, bn := ?_, self := ?_, noEmpty := ?_, const := ?_ }
  · have := hw.bn
    simp only [isBnTraining, h.op, h.domain, h.attrs] at this ⊢
    exact this
  · intro o ho
    cases hc : k.inputs.contains (some o) with
    | false => rfl
    | true =>
      have h1 := hsub o (List.contains_iff_mem.mp hc)
      rcases h.outputs.mem o ho with e | e
      · have := hw.noEmpty
        rw [e] at h1
        rw [List.contains_iff_mem.mpr h1] at this
        exact absurd this (by decide)
      · have := hw.self o e
        rw [List.contains_iff_mem.mpr h1] at this
        exact absurd this (by decide)
  · cases hc : k.inputs.contains (some "") with
    | false => rfl
    | true =>
      have := hw.noEmpty
      rw [List.contains_iff_mem.mpr (hsub "" (List.contains_iff_mem.mp hc))] at this
      exact absurd this (by decide)
  · intro hc
    have hc' : n.isOp "Constant" = true := by
      simp only [Node.isOp, Node.isOnnxDomain, h.op, h.domain] at hc ⊢
      exact hc
    rw [h.inputs, hw.const hc']
    rfl

theorem dceFragB_of {g : Graph} (hw : ∀ m ∈ g.nodes, DceNodeWF m) (hord : orderOKE g.nodes = true)
    (hout : g.outputs.contains "" = false) (hin : g.inputs.contains "" = false) : dceFragB g = true := by
  simp only [dceFragB, Bool.and_eq_true, List.all_eq_true, Bool.not_eq_true', Bool.or_eq_true]
  refine ⟨⟨⟨fun m hm => ?_, hord⟩, hout⟩, hin⟩
  have h := hw m hm
  refine ⟨⟨⟨⟨List.isEmpty_iff.mpr h.subs, h.bn⟩, h.self⟩, h.noEmpty⟩, ?_⟩
  cases hc : m.isOp "Constant" with
  | false => exact Or.inl rfl
  | true => exact Or.inr (List.isEmpty_iff.mpr (h.const hc))

/-- what lets the pass be iterated and composed inside `optimize_ir` -/
theorem dceFragB_preserved (ctx : DceCtx) (hasOpset : Bool) (g : Graph) (hwf : dceFragB g = true) :
    dceFragB (dcePass ctx hasOpset g).2 = true := by
  obtain ⟨hw, hord, hout, hin⟩ := dceFragB_sound hwf
  obtain ⟨R, Dn, hrel, _, _, hpass⟩ := dcePass_shape ctx hasOpset g hw hord hout
  rw [hpass]
  apply dceFragB_of
  · intro k hk
    obtain ⟨n, hn, ht⟩ := hrel.mem k hk
    exact ht.wf (hw n hn)
  · exact hrel.orderOKE hord
  · exact hout
  · exact hin

end OV.C03
