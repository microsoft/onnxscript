import OV.Lemmas.C09Shape
/-! Broadcasting lemmas for C09: strategies 1–3 of `_check_expand_removable`, and the element of `x` that is read
through an `Expand` (`readIdx`). -/
namespace OV.C09

theorem bdim_one_left (a : Int) : bdim 1 a = some a := if_pos rfl

theorem bdim_self (a : Int) : bdim a a = some a := by
  unfold bdim
  split
  · next h => rw [h]
  · rw [if_pos rfl]

theorem bdim_one_right (a : Int) : bdim a 1 = some a := by
  unfold bdim
  split
  · next h => rw [h]
  · rfl

theorem bdim_some_cases {a e d : Int} (h : bdim a e = some d) :
    (a = 1 ∧ d = e) ∨ (e = 1 ∧ d = a) ∨ (a = e ∧ d = a) := by
  unfold bdim at h
  split at h
  · exact .inl ⟨‹_›, (Option.some.inj h).symm⟩
  split at h
  · exact .inr (.inl ⟨‹_›, (Option.some.inj h).symm⟩)
  split at h
  · exact .inr (.inr ⟨‹_›, (Option.some.inj h).symm⟩)
  · cases h

/-- One dim of `bcastN_expand_then`; an equation of `Option`s, i.e. including which inputs are rejected. -/
theorem bdim_expand_then {a e b : Int} (h : e = 1 ∨ a = e ∨ b = e) :
    (bdim a e).bind (fun d => bdim d b) = bdim a b := by
  rcases h with rfl | rfl | rfl
  · rw [bdim_one_right]; rfl
  · rw [bdim_self]; rfl
  · -- broadcasting with `b` twice is broadcasting with `b` once
    cases hd : bdim a b with
    | none => rfl
    | some d =>
      rcases bdim_some_cases hd with ⟨_, rfl⟩ | ⟨rfl, rfl⟩ | ⟨rfl, rfl⟩
      · exact bdim_self _
      · exact bdim_one_right _
      · exact bdim_self _

theorem bdim_absorb {a e d : Int} (h : bdim a e = some d) : bdim a d = some d := by
  rcases bdim_some_cases h with ⟨rfl, _⟩ | ⟨_, rfl⟩ | ⟨_, rfl⟩
  · exact bdim_one_left d
  · exact bdim_self d
  · exact bdim_self d

theorem semEq_iff {d1 d2 : Dim} : semEq d1 d2 = true ↔ d1.isUnknown = false ∧ d2.isUnknown = false ∧ d1 = d2 := by
  simp only [semEq, Bool.and_eq_true, Bool.not_eq_true', decide_eq_true_eq, and_assoc]

/-- what `dimOk2` means for concrete values (`_same_dim` never equates unnamed dims) -/
theorem dimOk2_sem {σ : String → Nat} {ed xd yd : Dim} {v a b : Int}
    (hok : dimOk2 ed xd yd = true)
    (he : ed.Admits σ v) (hx : xd.Admits σ a) (hy : yd.Admits σ b) : v = 1 ∨ a = v ∨ b = v := by
  simp only [dimOk2, Bool.or_eq_true, decide_eq_true_eq] at hok
  rcases hok with (rfl | h) | h
  · exact .inl he.symm
  · obtain ⟨_, hu, rfl⟩ := semEq_iff.mp h; exact .inr (.inl (Dim.admits_det hu hx he))
  · obtain ⟨_, hu, rfl⟩ := semEq_iff.mp h; exact .inr (.inr (Dim.admits_det hu hy he))

theorem bcastDim_some_cases {d1 d2 c : Dim} (h : bcastDim d1 d2 = some c) :
    (d1 = .known 1 ∧ c = d2) ∨ (d2 = .known 1 ∧ c = d1) ∨ (d1 = d2 ∧ c = d1 ∧ c.isUnknown = false) := by
  unfold bcastDim at h
  split at h
  · exact .inl ⟨‹_›, (Option.some.inj h).symm⟩
  split at h
  · exact .inr (.inl ⟨‹_›, (Option.some.inj h).symm⟩)
  split at h
  · next hs =>
    cases h
    exact .inr (.inr ⟨(semEq_iff.mp hs).2.2, rfl, (semEq_iff.mp hs).1⟩)
  · cases h

theorem bcastDim_sound {σ : String → Nat} {d1 d2 c : Dim} {a b : Int}
    (h : bcastDim d1 d2 = some c) (h1 : d1.Admits σ a) (h2 : d2.Admits σ b) :
    (∀ v, bdim a b = some v → c.Admits σ v) ∧ (c.isUnknown = false → ∃ v, bdim a b = some v) := by
  rcases bcastDim_some_cases h with ⟨rfl, rfl⟩ | ⟨rfl, rfl⟩ | ⟨rfl, rfl, hu⟩
  · cases h1
    rw [bdim_one_left]
    exact ⟨fun v hv => Option.some.inj hv ▸ h2, fun _ => ⟨_, rfl⟩⟩
  · cases h2
    rw [bdim_one_right]
    exact ⟨fun v hv => Option.some.inj hv ▸ h1, fun _ => ⟨_, rfl⟩⟩
  · cases Dim.admits_det hu h1 h2
    rw [bdim_self]
    exact ⟨fun v hv => Option.some.inj hv ▸ h1, fun _ => ⟨_, rfl⟩⟩

theorem bcastN_succ (n : Nat) (a b : List Int) : bcastN (n + 1) a b =
    (bdim (a.headD 1) (b.headD 1)).bind fun d => (bcastN n a.tail b.tail).map (d :: ·) := rfl

theorem bcastN_succ_some {n : Nat} {a b t : List Int} (h : bcastN (n + 1) a b = some t) :
    ∃ d t', bdim (a.headD 1) (b.headD 1) = some d ∧ bcastN n a.tail b.tail = some t' ∧ t = d :: t' := by
  obtain ⟨d, hd, h⟩ := Option.bind_eq_some_iff.mp h
  obtain ⟨t', ht', rfl⟩ := Option.map_eq_some_iff.mp h
  exact ⟨d, t', hd, ht', rfl⟩

theorem bcastN_length : ∀ (n : Nat) (a b t : List Int), bcastN n a b = some t → t.length = n
  | 0, _, _, t, h => by cases h; rfl
  | n + 1, a, b, t, h => by
    obtain ⟨d, t', _, ht', rfl⟩ := bcastN_succ_some h
    rw [List.length_cons, bcastN_length n _ _ t' ht']

theorem bcastN_absorb : ∀ (m : Nat) (lx le lE : List Int), bcastN m lx le = some lE → bcastN m lx lE = some lE
  | 0, _, _, _, h => by cases h; rfl
  | m + 1, lx, le, lE, h => by
    obtain ⟨d, t, hd, ht, rfl⟩ := bcastN_succ_some h
    rw [bcastN_succ, List.headD_cons, bdim_absorb hd, List.tail_cons, bcastN_absorb m _ _ t ht]
    rfl

/-- An exhausted annotation counts as all-`1`, which passes. -/
theorem suffRev_none {E x y : Shape} {k : Nat} (h : suffRev E x y k = none) :
    dimOk2 (hd1 E) (hd1 x) (hd1 y) = true ∧ suffRev E.tail x.tail y.tail (k + 1) = none := by
  cases E with
  | nil => exact ⟨rfl, rfl⟩
  | cons e es =>
    unfold suffRev at h
    split at h
    · exact ⟨‹_›, h⟩
    · cases h

theorem dimsSufficient_ok {E x y : Shape} (h : dimsSufficient E x y = .ok) :
    E.length ≤ max x.length y.length ∧ suffRev E.reverse x.reverse y.reverse 0 = none := by
  unfold dimsSufficient at h
  split at h
  · cases h
  · split at h
    · exact ⟨Nat.le_of_not_lt ‹_›, ‹_›⟩
    · cases h

/-! Strategy 1's test is strategy 2's on the constant target read as an all-static annotation. -/

theorem dimOk2_known (e : Int) (x y : Dim) : dimOk2 (.known e) x y = dimOk1 e x y := by
  have sem : ∀ d : Dim, semEq d (.known e) = decide (d = .known e) := fun d => by
    cases d <;> simp only [semEq, Dim.isUnknown, Bool.not_false, Bool.not_true, Bool.true_and, Bool.false_and,
      reduceCtorEq, decide_false]
  simp only [dimOk2, dimOk1, sem, Dim.known.injEq]

theorem suffRev_map_known : ∀ (e : List Int) (x y : Shape) (k : Nat),
    suffRev (e.map .known) x y k = s1Rev e x y k
  | [], _, _, _ => rfl
  | a :: e, x, y, k => by
    simp only [List.map_cons, suffRev, s1Rev, dimOk2_known, suffRev_map_known e]

theorem dimsSufficient_map_known (e : List Int) (x y : Shape) :
    dimsSufficient (e.map .known) x y = strategy1 e x y := by
  simp only [dimsSufficient, strategy1, List.length_map, ← List.map_reverse, suffRev_map_known]

/-- Strategies 1 and 2 on reversed lists: `m` dims of Expand, `n ≥ m` dims of the binary op; `E` is any annotation
truthful for the Expand *target* `e` that passes the test: for a constant target `e.map .known`, for strategy 2 the
annotation of the Expand's result, which as a target gives that result again (`bcastN_absorb`). -/
theorem bcastN_expand_then {σ : String → Nat} :
    ∀ (m n : Nat) (E : Shape) (e : List Int) (x y : Shape) (lx ly : List Int) (k : Nat),
    lx.length ≤ m → m ≤ n → suffRev E x y k = none → Admits σ E e → Admits σ x lx → Admits σ y ly →
    (bcastN m lx e).bind (fun le => bcastN n le ly) = bcastN n lx ly
  | 0, n, E, e, x, y, lx, ly, k, hm, _, _, _, _, _ => by
    cases List.eq_nil_of_length_eq_zero (Nat.le_zero.mp hm)
    rfl
  | m + 1, 0, _, _, _, _, _, _, _, _, hmn, _, _, _, _ => by omega
  | m + 1, n + 1, E, e, x, y, lx, ly, k, hm, hmn, hs, hE, hx, hy => by
    obtain ⟨hEh, hEt⟩ := admits_hd_tl hE
    obtain ⟨hxh, hxt⟩ := admits_hd_tl hx
    obtain ⟨hyh, hyt⟩ := admits_hd_tl hy
    obtain ⟨hok, hs'⟩ := suffRev_none hs
    have ih := bcastN_expand_then m n E.tail e.tail x.tail y.tail lx.tail ly.tail (k + 1) (by rw [List.length_tail]; omega)
      (by omega) hs' hEt hxt hyt
    simp only [bcastN_succ]
    rw [← bdim_expand_then (dimOk2_sem hok hEh hxh hyh), ← ih]
    cases bdim (lx.headD 1) (e.headD 1) with
    | none => rfl
    | some d => cases bcastN m lx.tail e.tail with
      | none =>
        show none = (bdim d (ly.headD 1)).bind fun _ => none
        cases bdim d (ly.headD 1) <;> rfl
      | some t => rfl

theorem bcastShapeN_succ_some {n : Nat} {x y c : Shape} (h : bcastShapeN (n + 1) x y = some c) :
    ∃ d c', bcastDim (hd1 x) (hd1 y) = some d ∧ bcastShapeN n x.tail y.tail = some c' ∧ c = d :: c' := by
  obtain ⟨d, hd, h⟩ := Option.bind_eq_some_iff.mp h
  obtain ⟨c', hc', rfl⟩ := Option.map_eq_some_iff.mp h
  exact ⟨d, c', hd, hc', rfl⟩

theorem bcastShapeN_sound {σ : String → Nat} : ∀ (n : Nat) (x y c : Shape) (lx ly : List Int),
    bcastShapeN n x y = some c → Admits σ x lx → Admits σ y ly →
    (∀ lo, bcastN n lx ly = some lo → Admits σ c lo) ∧
    (hasUnknown c = false → ∃ lo, bcastN n lx ly = some lo)
  | 0, x, y, c, lx, ly, h, _, _ => by
    cases h
    exact ⟨fun lo hlo => by cases hlo; trivial, fun _ => ⟨[], rfl⟩⟩
  | n + 1, x, y, c, lx, ly, h, hx, hy => by
    obtain ⟨d, ct, hd, hct, rfl⟩ := bcastShapeN_succ_some h
    obtain ⟨hxh, hxt⟩ := admits_hd_tl hx
    obtain ⟨hyh, hyt⟩ := admits_hd_tl hy
    obtain ⟨ih1, ih2⟩ := bcastShapeN_sound (σ := σ) n x.tail y.tail ct lx.tail ly.tail hct hxt hyt
    obtain ⟨hd1, hd2⟩ := bcastDim_sound hd hxh hyh
    refine ⟨fun lo hlo => ?_, fun hu => ?_⟩
    · obtain ⟨v, lt, hv, hlt, rfl⟩ := bcastN_succ_some hlo
      exact ⟨hd1 v hv, ih1 lt hlt⟩
    · rw [hasUnknown_cons, Bool.or_eq_false_iff] at hu
      obtain ⟨v, hv⟩ := hd2 hu.1
      obtain ⟨lt, hlt⟩ := ih2 hu.2
      exact ⟨v :: lt, by rw [bcastN_succ, hv, hlt]; rfl⟩

theorem zipWith_semEq_all : ∀ (c out : Shape), c.length = out.length → (List.zipWith semEq c out).all id = true →
    c = out ∧ hasUnknown out = false
  | [], [], _, _ => ⟨rfl, rfl⟩
  | [], _ :: _, h, _ => by cases h
  | _ :: _, [], h, _ => by cases h
  | d :: c, e :: out, hl, h => by
    rw [List.zipWith_cons_cons, List.all_cons, id, Bool.and_eq_true] at h
    obtain ⟨_, hu, rfl⟩ := semEq_iff.mp h.1
    obtain ⟨rfl, hu'⟩ := zipWith_semEq_all c out (Nat.succ.inj hl) h.2
    exact ⟨rfl, by rw [hasUnknown_cons, hu, hu']; rfl⟩

theorem hasUnknown_reverse (s : Shape) : hasUnknown s.reverse = hasUnknown s := List.any_reverse

/-- broadcasting a result of `bcastN` (given reversed, as `bcastN` returns it) with `c` -/
theorem broadcast_reverse_left (t c : List Int) :
    broadcast t.reverse c = (bcastN (max t.length c.length) t c.reverse).map List.reverse := by
  rw [broadcast, List.length_reverse, List.reverse_reverse]

theorem broadcast_length {a b t : List Int} (h : broadcast a b = some t) : t.length = max a.length b.length := by
  obtain ⟨r, hr, rfl⟩ := Option.map_eq_some_iff.mp h
  rw [List.length_reverse, bcastN_length _ _ _ _ hr]

theorem broadcast_absorb {lx le lE : List Int} (h : broadcast lx le = some lE) : broadcast lx lE = some lE := by
  obtain ⟨t, ht, rfl⟩ := Option.map_eq_some_iff.mp h
  rw [broadcast, List.length_reverse, List.reverse_reverse, bcastN_length _ _ _ _ ht,
    (by omega : max lx.length (max lx.length le.length) = max lx.length le.length), bcastN_absorb _ _ _ _ ht]
  rfl

/-- `_check_dims_sufficient` on any annotation `E` truthful for the Expand *target* `e`: `BinaryOp(Expand(x, e), y)` and
`BinaryOp(x, y)` broadcast alike, as `Option`s.  (The rank bound `bcastN_expand_then` needs is the check's rank guard.) -/
theorem broadcast_expand_then {σ : String → Nat} {E x y : Shape} (h : dimsSufficient E x y = .ok)
    {lx e ly : List Int} (hE : Admits σ E e) (hx : Admits σ x lx) (hy : Admits σ y ly) :
    (broadcast lx e).bind (fun le => broadcast le ly) = broadcast lx ly := by
  obtain ⟨hrank, h'⟩ := dimsSufficient_ok h
  have hlE := admits_length hE
  have hlx := admits_length hx
  have hly := admits_length hy
  have core := bcastN_expand_then (σ := σ) (max lx.length e.length) (max lx.length ly.length) _ e.reverse x.reverse y.reverse
    lx.reverse ly.reverse 0 (by rw [List.length_reverse]; exact Nat.le_max_left ..) (by omega) h'
    (admits_reverse hE) (admits_reverse hx) (admits_reverse hy)
  rw [broadcast, broadcast, ← core]
  cases hb : bcastN (max lx.length e.length) lx.reverse e.reverse with
  | none => rfl
  | some t =>
    have hmax : max t.length ly.length = max lx.length ly.length := by rw [bcastN_length _ _ _ _ hb]; omega
    show broadcast t.reverse ly = _
    rw [broadcast_reverse_left, hmax]
    rfl

theorem bcastN_self : ∀ (l : List Int), bcastN l.length l l = some l
  | [] => rfl
  | a :: t => by
    simp only [List.length_cons, bcastN, List.headD_cons, List.tail_cons, bdim_self, Option.bind_some,
      bcastN_self t, Option.map_some]

theorem bcastN_nil_right : ∀ (l : List Int), bcastN l.length l [] = some l
  | [] => rfl
  | a :: t => by
    simp only [List.length_cons, bcastN, List.headD_cons, List.headD_nil, List.tail_cons, List.tail_nil,
      bdim_one_right, Option.bind_some, bcastN_nil_right t, Option.map_some]

theorem bcastN_nil_left : ∀ (l : List Int), bcastN l.length [] l = some l
  | [] => rfl
  | a :: t => by
    simp only [List.length_cons, bcastN, List.headD_cons, List.headD_nil, List.tail_cons, List.tail_nil,
      bdim_one_left, Option.bind_some, bcastN_nil_left t, Option.map_some]

theorem broadcast_self (l : List Int) : broadcast l l = some l := by
  have := bcastN_self l.reverse
  rw [List.length_reverse] at this
  rw [broadcast, Nat.max_self, this, Option.map_some, List.reverse_reverse]

theorem broadcast_nil_right (l : List Int) : broadcast l [] = some l := by
  have := bcastN_nil_right l.reverse
  rw [List.length_reverse] at this
  rw [broadcast, List.length_nil, Nat.max_zero, List.reverse_nil, this, Option.map_some, List.reverse_reverse]

theorem broadcast_nil_left (l : List Int) : broadcast [] l = some l := by
  have := bcastN_nil_left l.reverse
  rw [List.length_reverse] at this
  rw [broadcast, List.length_nil, Nat.zero_max, List.reverse_nil, this, Option.map_some, List.reverse_reverse]

theorem readIdx_through_expand : ∀ (m : Nat) (lx le lE idx : List Int), lx.length ≤ m →
    bcastN m lx le = some lE → readIdx lx (readIdx lE idx) = readIdx lx idx
  | 0, lx, le, lE, idx, hm, _ => by
    cases List.eq_nil_of_length_eq_zero (Nat.le_zero.mp hm)
    rfl
  | m + 1, lx, le, lE, idx, hm, hb => by
    obtain ⟨d, t, hd, ht, rfl⟩ := bcastN_succ_some hb
    cases lx with
    | nil => rfl
    | cons a lxt =>
      cases idx with
      | nil => rfl
      | cons i it =>
        have ih := readIdx_through_expand m lxt le.tail t it (Nat.le_of_succ_le_succ hm) ht
        show (if a = 1 then 0 else if d = 1 then 0 else i) :: readIdx lxt (readIdx t it) = _
        rw [ih]
        -- `d` is `a` unless `a = 1`
        by_cases ha : a = 1
        · rw [if_pos ha]; exact (congrArg (· :: _) (if_pos ha)).symm
        · have hd1 : d ≠ 1 := by
            rcases bdim_some_cases hd with h | h | h
            · exact absurd h.1 ha
            · exact h.2 ▸ ha
            · exact h.2 ▸ ha
          rw [if_neg ha, if_neg hd1]; exact (congrArg (· :: _) (if_neg ha)).symm

end OV.C09
