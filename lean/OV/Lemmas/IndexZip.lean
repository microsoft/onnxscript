import OV.Model.IndexZip
import OV.Lemmas.IndexGather
/-! C11, the zip model of NumPy indexing (`OV.Model.IndexZip`): what a successful `numpyIndexZ` says
(`numpyIndexZ_ok_iff`), and how many axes its result has — one for all 1-D indices together — against
a view that keeps one axis for each of them. -/
namespace OV.Index

theorem stretch_isVec (n : Nat) (c : Comp) : (c.stretch n).isVec = c.isVec := by
  unfold Comp.stretch; split <;> rfl

theorem stretch_isEagerScalar (n : Nat) (c : Comp) : (c.stretch n).isEagerScalar = c.isEagerScalar := by
  unfold Comp.stretch; split <;> rfl

theorem stretch_one (c : Comp) : c.stretch 1 = c := by
  unfold Comp.stretch; split <;> rfl

theorem stretch_of_len_ne_one (n : Nat) (c : Comp) (h : ∀ vs, c = .tVec vs → vs.length ≠ 1) :
    c.stretch n = c := by
  unfold Comp.stretch
  split
  · exact absurd rfl (h _ rfl)
  · rfl

theorem keptDims_init (ds : List Nat) :
    (keptDims ((View.init ds).map (ZAxis.ofAxis false))).length = ds.length ∧
    zipLen? ((View.init ds).map (ZAxis.ofAxis false)) = none := by
  induction ds with
  | nil => exact ⟨rfl, rfl⟩
  | cons d ds ih =>
    obtain ⟨h1, h2⟩ := ih
    simp only [View.init, List.map_cons, keptDims, zipLen?, ZAxis.ofAxis, List.filterMap_cons,
      List.findSome?_cons, List.length_cons, Bool.false_eq_true, if_false] at h1 h2 ⊢
    exact ⟨by omega, h2⟩

theorem View.shape_length (v : View) : (View.shape v).length = v.rank := by
  induction v with
  | nil => rfl
  | cons a v ih =>
    simp only [View.shape, View.rank] at ih ⊢
    cases a <;> simp [List.filter_cons, AxisMap.isPick, ih]

theorem zmark_counts (n : Nat) :
    ∀ (cs : List Comp) (ds : List Nat) (v : View),
      axiswise numpyAxis (cs.map (Comp.stretch n)) ds = .ok v →
      (keptDims (zmark cs v)).length + (cs.filter Comp.isVec).length
          + (cs.filter Comp.isEagerScalar).length = ds.length ∧
      (zipLen? (zmark cs v)).isSome = cs.any Comp.isVec := by
  intro cs
  induction cs with
  | nil =>
    intro ds v h
    simp only [List.map_nil, axiswise, Except.ok.injEq] at h
    subst h
    have := keptDims_init ds
    simp only [zmark, List.filter_nil, List.length_nil, List.any_nil, this.1, this.2]
    exact ⟨by omega, rfl⟩
  | cons c cs ih =>
    intro ds v h
    cases ds with
    | nil => cases h
    | cons d ds =>
      obtain ⟨a, r, hf, hr, rfl⟩ := (axiswise_cons_ok numpyAxis _ _ d ds v).mp h
      have hp := numpyAxis_isPick _ _ a hf
      rw [stretch_isEagerScalar] at hp
      obtain ⟨ih1, ih2⟩ := ih ds r hr
      cases a with
      | drop s =>
        have hc : c.isEagerScalar = true := by simpa [AxisMap.isPick] using hp
        have hv : c.isVec = false := by cases c <;> first | rfl | cases hc
        simp only [zmark, ZAxis.ofAxis, keptDims, zipLen?, List.filterMap_cons, List.findSome?_cons,
          List.filter_cons, hc, hv, if_true, List.length_cons, List.any_cons, Bool.false_or,
          Bool.false_eq_true, if_false] at ih1 ih2 ⊢
        exact ⟨by omega, ih2⟩
      | pick s =>
        have hc : c.isEagerScalar = false := by simpa [AxisMap.isPick] using hp
        cases hv : c.isVec with
        | false =>
          simp only [zmark, ZAxis.ofAxis, keptDims, zipLen?, List.filterMap_cons, List.findSome?_cons,
            List.filter_cons, hc, hv, List.length_cons, List.any_cons, Bool.false_or,
            Bool.false_eq_true, if_false] at ih1 ih2 ⊢
          exact ⟨by omega, ih2⟩
        | true =>
          simp only [zmark, ZAxis.ofAxis, keptDims, zipLen?, List.filterMap_cons, List.findSome?_cons,
            List.filter_cons, hc, hv, if_true, List.length_cons, List.any_cons, Bool.true_or,
            Bool.false_eq_true, if_false, Option.isSome_some] at ih1 ih2 ⊢
          exact ⟨by omega, trivial⟩

theorem keptDims_append (a b : List ZAxis) : keptDims (a ++ b) = keptDims a ++ keptDims b := by
  simp [keptDims, List.filterMap_append]

theorem ZRes.shape_length (z : ZRes) :
    z.shape.length = (keptDims z.axes).length + (if (zipLen? z.axes).isSome then 1 else 0) := by
  unfold ZRes.shape
  cases hz : zipLen? z.axes with
  | none => simp
  | some n =>
    by_cases hf : z.front = true
    · simp [hf]
    · have hsplit : keptDims z.axes = keptDims (z.axes.takeWhile (fun a => !a.isZip))
          ++ keptDims (z.axes.dropWhile (fun a => !a.isZip)) := by
        rw [← keptDims_append, List.takeWhile_append_dropWhile]
      simp only [hf, Bool.false_eq_true, if_false, hsplit, List.length_append, List.length_cons,
        Option.isSome_some, if_true]
      omega

theorem bcast_equal_lengths (comps : List Comp) (n : Nat)
    (hn : ∀ c ∈ comps, ∀ vs, c = .tVec vs → vs.length = n) :
    ∃ m, bcastLen (comps.filterMap Comp.vecLen?) = some m ∧ comps.map (Comp.stretch m) = comps := by
  have hl : ∀ l ∈ comps.filterMap Comp.vecLen?, l = n := by
    intro l hl
    obtain ⟨c, hc, hcl⟩ := List.mem_filterMap.mp hl
    cases c with
    | tVec vs => simp only [Comp.vecLen?, Option.some.injEq] at hcl; rw [← hcl]; exact hn _ hc vs rfl
    | full => simp [Comp.vecLen?] at hcl
    | int i => simp [Comp.vecLen?] at hcl
    | tScalar i => simp [Comp.vecLen?] at hcl
    | slice a b c => simp [Comp.vecLen?] at hcl
  have hid1 : comps.map (Comp.stretch 1) = comps := by
    rw [List.map_congr_left (fun c _ => stretch_one c)]; simp
  by_cases h1 : n = 1
  · refine ⟨1, ?_, hid1⟩
    have : (comps.filterMap Comp.vecLen?).filter (fun n => n != 1) = [] := by
      rw [List.filter_eq_nil_iff]
      intro l hl'
      simp [hl l hl', h1]
    simp [bcastLen, this]
  · have hfil : (comps.filterMap Comp.vecLen?).filter (fun n => n != 1) = comps.filterMap Comp.vecLen? := by
      rw [List.filter_eq_self]
      intro l hl'
      simp [hl l hl', h1]
    cases hlens : comps.filterMap Comp.vecLen? with
    | nil =>
      refine ⟨1, ?_, hid1⟩
      simp [bcastLen]
    | cons a rest =>
      refine ⟨n, ?_, ?_⟩
      · have ha : a = n := hl a (by rw [hlens]; simp)
        have hrest : rest.all (fun m => m == a) = true := by
          rw [List.all_eq_true]
          intro m hm
          have : m = n := hl m (by rw [hlens]; simp [hm])
          simp [this, ha]
        rw [hlens] at hfil
        unfold bcastLen
        rw [hfil]
        subst ha
        simp only [hrest, if_true]
      · have : ∀ c ∈ comps, c.stretch n = c := by
          intro c hc
          exact stretch_of_len_ne_one n c (fun vs hvs => by rw [hn c hc vs hvs]; exact h1)
        rw [List.map_congr_left this]; simp

theorem unzip_zmark : ∀ (cs : List Comp) (v : View), unzip (zmark cs v) = v := by
  have hax : ∀ (b : Bool) (a : AxisMap),
      (match ZAxis.ofAxis b a with | .drop s => AxisMap.drop s | .pick s => .pick s | .zip s => .pick s) = a := by
    intro b a
    cases a with
    | drop s => rfl
    | pick s => cases b <;> rfl
  have hnil : ∀ v : View, unzip (v.map (ZAxis.ofAxis false)) = v := by
    intro v
    induction v with
    | nil => rfl
    | cons a v ih =>
      simp only [unzip, List.map_cons, List.map_map] at ih ⊢
      rw [ih]
      congr 1
      exact hax false a
  intro cs
  induction cs with
  | nil => intro v; simp only [zmark]; exact hnil v
  | cons c cs ih =>
    intro v
    cases v with
    | nil => rfl
    | cons a v =>
      simp only [zmark, unzip, List.map_cons] at ih ⊢
      rw [ih v]
      congr 1
      exact hax c.isVec a

theorem vecPos_length (comps : List Comp) :
    ((comps.zipIdx.filter (fun p => p.1.isVec)).map (·.2)).length = (comps.filter Comp.isVec).length := by
  rw [List.length_map]
  exact zipIdx_filter_length Comp.isVec comps 0

theorem moveFront_eq_frontOf (comps : List Comp) (hvec : (comps.filter Comp.isVec).length ≤ 1) :
    moveFront comps = (frontOf comps).isSome := by
  have hl := vecPos_length comps
  cases hvp : ((comps.zipIdx.filter (fun p => p.1.isVec)).map (·.2)) with
  | nil =>
    have h1 : moveFront comps = false := by
      unfold moveFront; simp only [hvp]; split <;> rfl
    have h2 : needsTranspose comps = false := by
      unfold needsTranspose; simp only [hvp]; split <;> rfl
    rw [h1]; unfold frontOf; rw [h2]; rfl
  | cons p rest =>
    cases rest with
    | cons q rest => rw [hvp] at hl; simp only [List.length_cons] at hl; omega
    | nil =>
      have h1 : moveFront comps = needsTranspose comps := by
        unfold moveFront needsTranspose; simp only [hvp]
        rfl
      rw [h1]; unfold frontOf; rw [hvp]
      cases needsTranspose comps <;> rfl

theorem all_vec_lengths_of_le_one (comps : List Comp) (hvec : (comps.filter Comp.isVec).length ≤ 1) :
    ∃ n, ∀ c ∈ comps, ∀ vs, c = .tVec vs → vs.length = n := by
  cases hf : comps.filter Comp.isVec with
  | nil =>
    refine ⟨0, ?_⟩
    intro c hc vs hcv
    have : c ∈ comps.filter Comp.isVec := List.mem_filter.mpr ⟨hc, by rw [hcv]; rfl⟩
    rw [hf] at this; cases this
  | cons c0 rest =>
    cases rest with
    | cons c1 rest => rw [hf] at hvec; simp at hvec
    | nil =>
      refine ⟨(c0.vecLen?).getD 0, ?_⟩
      intro c hc vs hcv
      have : c ∈ comps.filter Comp.isVec := List.mem_filter.mpr ⟨hc, by rw [hcv]; rfl⟩
      rw [hf] at this
      simp only [List.mem_singleton] at this
      rw [← this, hcv]
      rfl

theorem numpyIndexZ_ok_iff (comps : List Comp) (shape : List Nat) (z : ZRes) :
    numpyIndexZ comps shape = .ok z ↔
      comps.length ≤ shape.length ∧
      ∃ n v, bcastLen (comps.filterMap Comp.vecLen?) = some n ∧
        axiswise numpyAxis (comps.map (Comp.stretch n)) shape = .ok v ∧
        z = ⟨zmark comps v, moveFront comps⟩ := by
  unfold numpyIndexZ
  split
  · exact iff_of_false (by simp) (fun h => by omega)
  · cases bcastLen (comps.filterMap Comp.vecLen?) with
    | none => exact iff_of_false (by simp) (fun ⟨_, _, _, h, _⟩ => by cases h)
    | some n =>
      cases hax : axiswise numpyAxis (comps.map (Comp.stretch n)) shape with
      | error e =>
        refine iff_of_false (by simp [hax, bind, Except.bind]) (fun ⟨_, _, _, h, h', _⟩ => ?_)
        cases h; rw [hax] at h'; cases h'
      | ok v =>
        simp only [hax, bind, Except.bind, pure, Except.pure, Except.ok.injEq]
        refine ⟨fun h => ⟨by omega, n, v, rfl, hax, h.symm⟩, fun ⟨_, _, _, h, h', hz⟩ => ?_⟩
        cases h; rw [hax] at h'; cases h'; exact hz.symm

/-- `hn`: the 1-D indices have one common length, so that NumPy stretches none of them
(`bcast_equal_lengths`); on the axis of a stretched index its map is not the one in `r`. -/
theorem numpyIndexZ_of_axes (comps : List Comp) (shape : List Nat) (r : View) (n : Nat)
    (hn : ∀ c ∈ comps, ∀ vs, c = .tVec vs → vs.length = n)
    (hlen : comps.length ≤ shape.length)
    (hax : axiswise numpyAxis comps shape = .ok r) :
    numpyIndexZ comps shape = .ok ⟨zmark comps r, moveFront comps⟩ ∧ unzip (zmark comps r) = r := by
  obtain ⟨m, hm, hid⟩ := bcast_equal_lengths comps n hn
  exact ⟨(numpyIndexZ_ok_iff comps shape _).mpr ⟨hlen, m, r, hm, by rw [hid]; exact hax, rfl⟩,
    unzip_zmark comps r⟩

/-- `hr`: the view keeps an axis for each 1-D index (only the scalar-indexed axes are gone), where NumPy's
result has one for all of them. -/
theorem multi_vec_shape (comps : List Comp) (shape : List Nat) (r : View) (z : ZRes)
    (hk : 2 ≤ (comps.filter Comp.isVec).length)
    (hr : r.rank + (comps.filter Comp.isEagerScalar).length = shape.length)
    (hz : numpyIndexZ comps shape = .ok z) :
    (View.shape r).length = z.shape.length + ((comps.filter Comp.isVec).length - 1) ∧
    View.shape r ≠ z.shape := by
  obtain ⟨_, n, v, _, hax, rfl⟩ := (numpyIndexZ_ok_iff comps shape z).mp hz
  obtain ⟨hc1, hc2⟩ := zmark_counts n comps shape v hax
  have hany : comps.any Comp.isVec = true :=
    List.any_eq_true.mpr (List.length_filter_pos_iff.mp (by omega))
  have hzl := ZRes.shape_length ⟨zmark comps v, moveFront comps⟩
  simp only [hc2, hany, if_true] at hzl
  have hlen : (View.shape r).length = (ZRes.mk (zmark comps v) (moveFront comps)).shape.length
      + ((comps.filter Comp.isVec).length - 1) := by rw [View.shape_length]; omega
  exact ⟨hlen, fun heq => by rw [heq] at hlen; omega⟩

end OV.Index
