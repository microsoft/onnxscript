/-!
# C08 — how a chunk of the trace tables is checked

A row `(t, "…")` of a generated table (`OV.Gen.C08Trace.table#`, `OV.Gen.C08TraceB.table#`) pairs a model term with the term
the real function emitted.
Deciding `t = "…"` makes the kernel decode the literal: a `String` is a `ByteArray`, a literal stands for
`String.ofList cs`, and its bytes come out of `List.toByteArray`, a loop of `push`es whose evaluation is
quadratic in the length (a minute for 1 500 characters).  Compared with a term `String.ofList l`, though, a
literal is only expanded to its characters `cs`, and `l` is compared with `cs`.  So a chunk is proved in two
steps: every literal is read as `String.ofList cs` by `rfl`, with `cs` found by unification (`Reads`), and then
one kernel evaluation compares, row by row, the bytes of `t` with those of the plain list `cs` (`bytesAgree`;
one evaluation for the chunk, so that the rows of a function share the evaluation of their common subterms).
-/
namespace OV.C08

theorem eq_ofList_of_bytes {s : String} {cs : List Char}
    (h : s.toByteArray.data.toList = cs.flatMap String.utf8EncodeChar) : s = String.ofList cs :=
  String.toByteArray_inj.1 <| ByteArray.ext <| Array.ext' <| by
    rw [h, String.toByteArray_ofList, List.utf8Encode, List.data_toByteArray]

/-- `Reads w rows`: `w` is `rows` with every emitted literal read as its list of characters.  The first premise of
`cons` is closed by `with_reducible rfl`, which assigns the literal's characters to `cs` and unfolds nothing; `exact rfl`
at default transparency runs out of recursion depth on the literals of 1 500 characters. -/
inductive Reads : List (String × List Char) → List (String × String) → Prop
  | nil : Reads [] []
  | cons {t lit : String} {cs : List Char} {w rows} :
      String.ofList cs = lit → Reads w rows → Reads ((t, cs) :: w) ((t, lit) :: rows)

def bytesAgree (w : List (String × List Char)) : Bool :=
  w.all fun r => r.1.toByteArray.data.toList == r.2.flatMap String.utf8EncodeChar

theorem rows_of_reads {w : List (String × List Char)} {rows : List (String × String)} (h : Reads w rows)
    (hb : bytesAgree w = true) : ∀ e ∈ rows, e.1 = e.2 := by
  induction h with
  | nil => exact List.forall_mem_nil _
  | cons hl _ ih =>
    rw [bytesAgree, List.all_cons, Bool.and_eq_true, beq_iff_eq] at hb
    exact List.forall_mem_cons.2 ⟨(eq_ofList_of_bytes hb.1).trans hl, ih hb.2⟩

end OV.C08
