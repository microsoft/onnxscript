import OV.Lemmas.C06Commute
import OV.Lemmas.C06Complete
/-!
  C06 — the semantic half of `commute`: for patterns whose value patterns are `AnyValue`, node outputs and
  *named* `Var`s (object identity immaterial), every variant built by `GraphPattern.commute` **is** the
  pattern with the operands of the masked nodes exchanged (`swapPat`), so the variants are exactly the
  swap variants of the pattern.
-/
namespace OV.C06

/-- value patterns whose object identity is immaterial: `AnyValue`, node outputs, named `Var`s -/
def VPat.namedLeaf : VPat → Bool
  | .any => true
  | .out .. => true
  | .var _ name isVar _ _ => isVar && name.isSome
  | _ => false

def NPat.namedLeaves (n : NPat) : Bool :=
  n.inputs.all (fun i => match i with | some v => v.namedLeaf | none => true)

/-- every input of every node pattern, and every pattern output, is `AnyValue`, a node output or a named `Var` -/
def GPat.namedLeaves (p : GPat) : Bool := p.nodes.all NPat.namedLeaves && p.outputs.all VPat.namedLeaf

/-- node pattern `n` with its operands exchanged iff `b`; a copy carries no `str`-op flag (its operator
identifier is recomputed from the exact op pattern after repair C06-F5b, `NPat.opIdF`) -/
def swapNode (n : NPat) (b : Bool) : NPat :=
  { n with inputs := if b then n.inputs.reverse else n.inputs, opIsStr := false }

/-- the pattern with the operands of the masked nodes exchanged -/
def swapPat (p : GPat) (m : List Bool) : GPat := { p with nodes := List.zipWith swapNode p.nodes m }

/-- the variant `commute` is meant to produce for mask `m`: the pattern itself when nothing is swapped -/
def variantOf (p : GPat) (m : List Bool) : GPat := if m.any id then swapPat p m else p

theorem cloneV_namedLeaf : ∀ (vp : VPat) (k : Nat), vp.namedLeaf = true → cloneV vp k = (vp, k)
  | .any, _, _ => by simp [cloneV]
  | .out _ _, _, _ => by simp [cloneV]
  | .var id name true canNone check, k, h => by
    simp only [VPat.namedLeaf, Bool.true_and] at h
    simp [cloneV, h]
  | .var _ _ false _ _, _, h => by simp [VPat.namedLeaf] at h
  | .const .., _, h => by simp [VPat.namedLeaf] at h
  | .orD .., _, h => by simp [VPat.namedLeaf] at h
  | .orB .., _, h => by simp [VPat.namedLeaf] at h

theorem cloneInputs_named : ∀ (ins : List (Option VPat)) (k : Nat),
    (ins.all (fun i => match i with | some v => v.namedLeaf | none => true)) = true →
    cloneInputs ins k = (ins, k)
  | [], _, _ => by simp [cloneInputs]
  | none :: rest, k, h => by
    simp only [List.all_cons, Bool.true_and] at h
    simp [cloneInputs, cloneInputs_named rest k h]
  | some v :: rest, k, h => by
    simp only [List.all_cons, Bool.and_eq_true] at h
    simp [cloneInputs, cloneV_namedLeaf v k h.1, cloneInputs_named rest k h.2]

theorem cloneRaises_named : ∀ (vp : VPat), vp.namedLeaf = true → cloneRaises vp = false
  | .any, _ => by simp [cloneRaises]
  | .out _ _, _ => by simp [cloneRaises]
  | .var .., _ => by simp [cloneRaises]
  | .const .., _ => by simp [cloneRaises]
  | .orD .., _ => by simp [cloneRaises]
  | .orB .., h => by simp [VPat.namedLeaf] at h

theorem cloneRaisesL_named : ∀ (l : List VPat), l.all VPat.namedLeaf = true → cloneRaisesL l = false
  | [], _ => by simp [cloneRaisesL]
  | a :: rest, h => by
    simp only [List.all_cons, Bool.and_eq_true] at h
    simp [cloneRaisesL, cloneRaises_named a h.1, cloneRaisesL_named rest h.2]

theorem cloneNode_named (fix7a : Bool) (np np' : NPat) (b : Bool) (k k' : Nat) (hn : np.namedLeaves = true)
    (h : cloneNode fix7a np b k = .ok (np', k')) : np' = swapNode np b ∧ k' = k := by
  unfold cloneNode at h
  rw [cloneInputs_named np.inputs k hn] at h
  dsimp only at h
  split at h
  · cases h
  · split at h
    · next hb =>
      split at h
      · next x y hxy =>
        cases h
        refine ⟨?_, rfl⟩
        unfold swapNode
        simp [hb, hxy]
      · cases h
    · next hb =>
      cases h
      have : b = false := by simpa using hb
      subst this
      exact ⟨by simp [swapNode], rfl⟩

theorem cloneNodes_named (fix7a : Bool) : ∀ (ns : List NPat) (bs : List Bool) (k : Nat) (l : List NPat) (k' : Nat),
    ns.all NPat.namedLeaves = true → cloneNodes fix7a ns bs k = .ok (l, k') →
    l = List.zipWith swapNode ns bs ∧ k' = k
  | [], bs, k, l, k', _, h => by
    unfold cloneNodes at h
    cases h
    simp
  | np :: rest, [], k, l, k', _, h => by
    unfold cloneNodes at h
    cases h
    simp
  | np :: rest, b :: bs, k, l, k', hn, h => by
    simp only [List.all_cons, Bool.and_eq_true] at hn
    unfold cloneNodes at h
    split at h
    · cases h
    · next np1 k1 h1 =>
      obtain ⟨e1, ek1⟩ := cloneNode_named fix7a np np1 b k k1 hn.1 h1
      split at h
      · cases h
      · next l2 k2 h2 =>
        cases h
        subst ek1
        obtain ⟨e2, ek2⟩ := cloneNodes_named fix7a rest bs _ l2 _ hn.2 h2
        subst e1 e2
        exact ⟨by simp, ek2⟩

theorem orId_namedLeaf : ∀ vp : VPat, vp.namedLeaf = true → orId vp = none
  | .any, _ => rfl
  | .out .., _ => rfl
  | .var .., _ => rfl
  | .const .., h => nomatch h
  | .orD .., h => nomatch h
  | .orB .., h => nomatch h

theorem cloneOutputs_named (fix7c : Bool) (p : GPat) (newNodes : List NPat) (swaps : List Bool) :
    ∀ (outs : List VPat) (k : Nat), outs.all VPat.namedLeaf = true →
    cloneOutputs fix7c p newNodes swaps outs k = (outs, k)
  | [], _, _ => rfl
  | a :: rest, k, h => by
    simp only [List.all_cons, Bool.and_eq_true] at h
    have ha : cloneOutput fix7c p newNodes swaps a k = (a, k) := by
      unfold cloneOutput
      simp only [orId_namedLeaf a h.1, cloneV_namedLeaf a k h.1, ite_self]
    unfold cloneOutputs
    simp only [ha, cloneOutputs_named fix7c p newNodes swaps rest k h.2]

theorem copyGraph_named (fix7a fix7c : Bool) (p q : GPat) (m : List Bool) (hn : p.namedLeaves = true)
    (h : copyGraph fix7a p m fix7c = .ok q) : q = variantOf p m := by
  unfold GPat.namedLeaves at hn
  simp only [Bool.and_eq_true] at hn
  unfold copyGraph at h
  unfold variantOf
  split at h
  · next hx =>
    cases h
    have : m.any id = false := by simpa using hx
    simp [this]
  · next hx =>
    have hany : m.any id = true := by simpa using hx
    simp only [hany, if_true]
    split at h
    · cases h
    · next nodes k hk =>
      obtain ⟨e1, _⟩ := cloneNodes_named fix7a p.nodes m _ nodes k hn.1 hk
      rw [cloneRaisesL_named p.outputs hn.2] at h
      simp only [Bool.and_false, Bool.false_eq_true, if_false] at h
      rw [cloneOutputs_named fix7c p nodes m p.outputs k hn.2] at h
      dsimp only at h
      split at h
      · cases h
        unfold swapPat
        rw [e1]
      · cases h

theorem commute_named (fix7a fix7b fix7c : Bool) (p : GPat) (l : List GPat) (hn : p.namedLeaves = true)
    (h : commute fix7a p fix7b fix7c = .ok l) : l = (masks fix7b p.nodes).map (variantOf p) := by
  unfold commute at h
  exact exceptMapM_eq_map _ _ _ _ h (fun m _ q hq => copyGraph_named fix7a fix7c p q m hn hq)

/-- the hypotheses under which "a match is reported iff the subgraph is an instance" holds for pattern `q` -/
structure IffHyps (E : Env) (q : GPat) (np0 : NPId) : Prop where
  f3 : E.fixF3 = true
  bk : q.backOk = true
  ex : GPat.exclOk { E with p := q }
  topo : q.topoDeep
  ar : E.fixF1 = true ∨ OutputArityOk q E.g
  single : q.outputNodes = [np0]
  root : OutputsOfRoot q np0

/-- with `commute=True`, some variant reports a match iff the subgraph is an instance of the pattern under
some swap of the operands of its commutative nodes -/
theorem commute_semantic (E : Env) (root : NodeId) (np0 : NPId) (fix7a fix7b fix7c : Bool) (l : List GPat)
    (hn : E.p.namedLeaves = true) (h : commute fix7a E.p fix7b fix7c = .ok l)
    (hH : ∀ m ∈ masks fix7b E.p.nodes, IffHyps E (variantOf E.p m) np0) :
    (∃ q ∈ l, (patternMatch { E with p := q } root false).isSome = true) ↔
      ∃ m ∈ masks fix7b E.p.nodes, ∃ A, Instance { E with p := variantOf E.p m } root A ∧
        ChecksPass (variantOf E.p m) A := by
  rw [commute_named fix7a fix7b fix7c E.p l hn h]
  constructor
  · rintro ⟨q, hq, hs⟩
    obtain ⟨m, hm, rfl⟩ := List.mem_map.1 hq
    have H := hH m hm
    have := (patternMatch_iff_instance { E with p := variantOf E.p m } root np0 H.f3 H.bk H.ex H.topo H.ar
      H.single H.root).1.1 hs
    exact ⟨m, hm, this⟩
  · rintro ⟨m, hm, A, hi, hc⟩
    have H := hH m hm
    refine ⟨variantOf E.p m, List.mem_map.2 ⟨m, hm, rfl⟩, ?_⟩
    exact (patternMatch_iff_instance { E with p := variantOf E.p m } root np0 H.f3 H.bk H.ex H.topo H.ar
      H.single H.root).1.2 ⟨A, hi, hc⟩

/-! ## `Instance` never reads the `str`-op flag -/

/-- the two patterns differ at most in the `opIsStr` flags of their node patterns -/
structure SameUpToStr (p1 p2 : GPat) : Prop where
  inputs : p1.inputs = p2.inputs
  outputs : p1.outputs = p2.outputs
  cond : p1.cond = p2.cond
  nodes : p1.nodes.map clrStr = p2.nodes.map clrStr

theorem SameUpToStr.symm {p1 p2 : GPat} (h : SameUpToStr p1 p2) : SameUpToStr p2 p1 :=
  ⟨h.inputs.symm, h.outputs.symm, h.cond.symm, h.nodes.symm⟩

theorem SameUpToStr.get {p1 p2 : GPat} (h : SameUpToStr p1 p2) {i : Nat} {P1 : NPat}
    (h1 : p1.nodes[i]? = some P1) : ∃ P2, p2.nodes[i]? = some P2 ∧ clrStr P1 = clrStr P2 := by
  have := congrArg (fun l => l[i]?) h.nodes
  simp only [List.getElem?_map, h1, Option.map_some] at this
  cases h2 : p2.nodes[i]? with
  | none => simp [h2] at this
  | some P2 => simp [h2] at this; exact ⟨P2, rfl, this⟩

theorem SameUpToStr.outName {p1 p2 : GPat} (h : SameUpToStr p1 p2) (np idx : Nat) :
    p1.outName np idx = p2.outName np idx := by
  unfold GPat.outName
  cases h1 : p1.nodes[np]? with
  | none =>
    cases h2 : p2.nodes[np]? with
    | none => rfl
    | some P2 => obtain ⟨P1, hP1, _⟩ := h.symm.get h2; rw [h1] at hP1; cases hP1
  | some P1 =>
    obtain ⟨P2, hP2, he⟩ := h.get h1
    simp [hP2, (clrStr_fields he).2.2.2.2.2.2.1]

theorem SameUpToStr.vname {p1 p2 : GPat} (h : SameUpToStr p1 p2) (vp : VPat) : p1.vname vp = p2.vname vp := by
  cases vp <;> simp [GPat.vname, h.outName]

theorem SameUpToStr.boundTo {p1 p2 : GPat} (h : SameUpToStr p1 p2) (A : Assign) (vp : VPat)
    (v : Option ValueId) : A.boundTo p1 vp v → A.boundTo p2 vp v := by
  unfold Assign.boundTo
  rw [h.vname vp]
  exact id

theorem envEq (E : Env) (q : GPat) : ({ E with p := q } : Env).g = E.g ∧ ({ E with p := q } : Env).close = E.close ∧
    ({ E with p := q } : Env).p = q := ⟨rfl, rfl, rfl⟩

theorem satV_str {E : Env} {p1 p2 : GPat} (h : SameUpToStr p1 p2) {A : Assign} :
    ∀ {vp : VPat} {v : Option ValueId}, SatV { E with p := p1 } A vp v → SatV { E with p := p2 } A vp v :=
  satV_map (E := { E with p := p1 }) ⟨fun _ _ x => x, fun _ _ x => x, fun _ _ x => x⟩ (h.boundTo A) fun _ _ => h.get

theorem satN_str {E : Env} {p1 p2 : GPat} (h : SameUpToStr p1 p2) {A : Assign} :
    ∀ {np : NPId} {n : NodeId}, SatN { E with p := p1 } A np n → SatN { E with p := p2 } A np n :=
  satN_map (E := { E with p := p1 }) ⟨fun _ _ x => x, fun _ _ x => x, fun _ _ x => x⟩ (h.boundTo A) fun _ _ => h.get

theorem addSlice_str {p1 p2 : GPat} (h : SameUpToStr p1 p2) : ∀ (f : Nat) (np : NPId) (cov : List NPId),
    addSlice p1 f np cov = addSlice p2 f np cov
  | 0, _, _ => rfl
  | f + 1, np, cov => by
    unfold addSlice
    split
    · rfl
    · cases h1 : p1.nodes[np]? with
      | none =>
        cases h2 : p2.nodes[np]? with
        | none => rfl
        | some P2 => obtain ⟨P1, hP1, _⟩ := h.symm.get h2; rw [h1] at hP1; cases hP1
      | some P1 =>
        obtain ⟨P2, hP2, he⟩ := h.get h1
        simp only [hP2, (clrStr_fields he).2.2.1]
        congr
        funext cov' i
        cases i with
        | none => rfl
        | some vp =>
          cases vp <;> try rfl
          exact addSlice_str h f _ _

theorem outputNodes_str {p1 p2 : GPat} (h : SameUpToStr p1 p2) : p1.outputNodes = p2.outputNodes := by
  unfold GPat.outputNodes GPat.outputNodesCov
  rw [h.outputs]
  have hl : p1.nodes.length = p2.nodes.length := by
    have := congrArg List.length h.nodes
    simpa using this
  congr
  funext acc vp
  cases vp <;> try rfl
  simp only [hl, addSlice_str h]

theorem instance_str (E : Env) {p1 p2 : GPat} (h : SameUpToStr p1 p2) (root : NodeId) (A : Assign) :
    Instance { E with p := p1 } root A → Instance { E with p := p2 } root A := by
  intro hi
  refine ⟨?_, ?_, ?_⟩
  · intro np hnp
    exact hi.rootNode np (by show p1.outputNodes.head? = some np; rw [outputNodes_str h]; exact hnp)
  · intro np hnp
    obtain ⟨n, hn, hs⟩ := hi.outNodes np (by show np ∈ p1.outputNodes; rw [outputNodes_str h]; exact hnp)
    exact ⟨n, hn, satN_str h hs⟩
  · show p2.cond = true
    rw [← h.cond]; exact hi.cond

/-- the pattern with the operands of the masked nodes exchanged, all flags kept -/
def pureSwap (p : GPat) (m : List Bool) : GPat :=
  { p with nodes := List.zipWith (fun n b => { n with inputs := if b then n.inputs.reverse else n.inputs }) p.nodes m }

theorem swapPat_pureSwap (p : GPat) (m : List Bool) : SameUpToStr (swapPat p m) (pureSwap p m) :=
  ⟨rfl, rfl, rfl, by simp only [swapPat, pureSwap, List.map_zipWith]; rfl⟩

end OV.C06
