import OV.Lemmas.C01Export
import OV.Lemmas.C01Attr
/-!
For C02.  Every `@p` in a node emitted by the converter comes from a binding `x ↦ AttrRef p` in scope
(`_translate_attr` for keyword arguments, `_to_onnx_var` for an attribute parameter read as a value), and the only
such bindings are the attribute parameters of the function.  Hence `to_model_proto`, which substitutes their
defaults, leaves no reference (`export_model_no_attr_refs` in Props/C02: `export_no_attr_refs` without its
hypothesis on the body).
-/
namespace OV.C01

def AttrIn (A : List Name) (L : Locals) : Prop := ∀ x p ty, lookup L x = some (.attr p ty) → p ∈ A

def RefsIn (A : List Name) (ns : List Node) : Prop := ∀ q, q ∈ attrRefs ns → q ∈ A

theorem attrRefs_append : ∀ (a b : List Node), attrRefs (a ++ b) = attrRefs a ++ attrRefs b
  | [], b => rfl
  | n :: a, b => by simp only [List.cons_append, attrRefs, attrRefs_append a b, List.append_assoc]

theorem RefsIn.nil (A : List Name) : RefsIn A [] := fun _ h => by simp [attrRefs] at h

theorem RefsIn.append {A : List Name} {a b : List Node} (ha : RefsIn A a) (hb : RefsIn A b) : RefsIn A (a ++ b) := by
  intro q hq
  rw [attrRefs_append] at hq
  exact (List.mem_append.mp hq).elim (ha q) (hb q)

theorem RefsIn.of_norefs {A : List Name} {ns : List Node} (h : attrRefs ns = []) : RefsIn A ns :=
  fun q hq => by rw [h] at hq; cases hq

theorem refs_ifN (c : Name) (outs : List Name) (tn : List Node) (to : List Name) (en : List Node) (eo : List Name) :
    attrRefs [Node.ifN c outs tn to en eo] = attrRefs tn ++ attrRefs en := by
  simp [attrRefs, attrRefsNode]

theorem refs_loop (b c : Option Name) (inits outs bi : List Name) (bn : List Node) (bo : List Name) :
    attrRefs [Node.loop b c inits outs bi bn bo] = attrRefs bn := by
  simp [attrRefs, attrRefsNode]

theorem RefsIn.op {A : List Name} {dom name : String} {ins : List (Option Name)} {outs : List Name}
    {attrs : List (String × AttrV)} (h : ∀ kv, kv ∈ attrs → ∀ q, kv.2 = .ref q → q ∈ A) :
    RefsIn A [Node.op dom name ins outs attrs] := by
  intro q hq
  simp only [attrRefs, attrRefsNode, List.append_nil, List.mem_filterMap] at hq
  obtain ⟨kv, hkv, hm⟩ := hq
  cases hv : kv.2 with
  | const r => simp [hv] at hm
  | ref p =>
    simp only [hv, Option.some.injEq] at hm
    exact hm ▸ h kv hkv p hv

theorem AttrIn.mono {A : List Name} {L L' : Locals} (h : AttrIn A L) (m : AttrMono L L') : AttrIn A L' :=
  fun x p ty hl => h x p ty (m x p ty hl)

theorem AttrIn.current {A : List Name} {L : Locals} (h : AttrIn A L) {x p : Name} {ty : AttrTy}
    (hc : currentScopeFind L x = some (.attr p ty)) : p ∈ A :=
  h x p ty (lookup_of_currentScopeFind hc)

theorem emitConst_refs {A : List Name} {l : Lit} {sug : Option Name} {x : Name} {ns : List Node} {s s' : St}
    (h : emitConst l sug s = .ok ((x, ns), s')) : RefsIn A ns := by
  obtain ⟨_, _, _, rfl⟩ := emitConst_ok h
  exact .of_norefs (by simp [attrRefs, attrRefsNode])

theorem emitCopy_refs {A : List Name} {o sug x : Name} {ns : List Node} {s s' : St}
    (h : emitCopy o sug s = .ok ((x, ns), s')) : RefsIn A ns := by
  obtain ⟨_, rfl⟩ := emitCopy_ok h
  exact .of_norefs (by simp [attrRefs, attrRefsNode])

theorem pyVar_refs {A : List Name} {L : Locals} (hL : AttrIn A L) {v x : Name} {ns : List Node} {s s' : St}
    (h : pyVar L v s = .ok ((x, ns), s')) : RefsIn A ns := by
  obtain ⟨b, hl, hb⟩ := pyVar_ok h
  cases b with
  | val n =>
    obtain ⟨_, rfl, _⟩ := toOnnxVar_val_ok hb
    exact .nil A
  | attr p ty =>
    have hp := hL v p ty hl
    obtain ⟨an, r, s1, _, _, ⟨_, _, _, rfl⟩ | ⟨s2, _, _, _, rfl⟩⟩ := toOnnxVar_attr_ok hb <;>
      exact fun q hq => by simp [attrRefs, attrRefsNode] at hq; exact hq ▸ hp

theorem castInputs_refs {A : List Name} {sig : Sig} {as xs : List Name} {ns : List Node} {s s' : St}
    (h : castInputs sig as s = .ok ((xs, ns), s')) : RefsIn A ns := by
  obtain ⟨_, _, rfl, _⟩ | ⟨bs, _, _, hc⟩ := castInputs_ok h
  · exact .nil A
  · refine castArgs_induct (P := fun _ _ _ _ ns _ => RefsIn A ns) (.nil A) (fun h1 _ ih => ?_) hc
    obtain ⟨_, _, rfl, _⟩ | ⟨y, _, _, _, rfl⟩ := castOne_ok h1
    · exact ih
    · exact (RefsIn.of_norefs (by simp [attrRefs, attrRefsNode])).append ih

theorem convAttrs_refs {A : List Name} {L : Locals} (hL : AttrIn A L) : ∀ (attrs attrs' : List (String × AttrV)),
    convAttrs L attrs = .ok attrs' → ∀ kv, kv ∈ attrs' → ∀ q, kv.2 = .ref q → q ∈ A := by
  intro attrs
  induction attrs with
  | nil => intro attrs' h; simp only [convAttrs] at h; cases h; intro kv hkv; cases hkv
  | cons kv0 rest ih =>
    intro attrs' h
    obtain ⟨k, v⟩ := kv0
    cases v with
    | const r =>
      simp only [convAttrs] at h
      cases hr : convAttrs L rest with
      | error e => simp [hr, bind, Except.bind] at h
      | ok rs =>
        simp [hr, bind, Except.bind] at h
        cases h
        intro kv hkv q hq
        rcases List.mem_cons.mp hkv with rfl | hm
        · cases hq
        · exact ih rs hr kv hm q hq
    | ref p =>
      simp only [convAttrs] at h
      cases hl : lookup L p with
      | none => simp [hl] at h
      | some b =>
        cases b with
        | val n => simp [hl] at h
        | attr q0 ty =>
          simp only [hl] at h
          cases hr : convAttrs L rest with
          | error e => simp [hr, bind, Except.bind] at h
          | ok rs =>
            simp [hr, bind, Except.bind] at h
            cases h
            intro kv hkv q hq
            rcases List.mem_cons.mp hkv with rfl | hm
            · cases hq
              exact hL p q0 ty hl
            · exact ih rs hr kv hm q hq

theorem const1d_refs {A : List Name} {c c' : IntCache} {v : Int} {x : Name} {ns : List Node} {s s' : St}
    (h : const1d c v s = .ok ((x, ns, c'), s')) : RefsIn A ns := by
  obtain ⟨_, rfl, _, _⟩ | ⟨he, _⟩ := const1d_ok h
  · exact .nil A
  · exact emitConst_refs he

theorem convSlices_refs {A : List Name} {els : List SliceEl} {c c' : IntCache}
    {r : List Name × List Name × List Name × List Name} {ns : List Node} {s s' : St}
    (h : convSlices c els s = .ok ((r, ns, c'), s')) : RefsIn A ns := by
  obtain ⟨starts, ends, axes, steps⟩ := r
  refine convSlices_induct (P := fun _ _ _ _ _ _ _ ns _ _ => RefsIn A ns) (.nil A) (fun h1 h2 _ ih => ?_) h
  obtain ⟨ns1, c1, s1, ns2, c2, s2, ns3, g1, g2, g3, rfl⟩ := convSlice_ok h2
  exact (const1d_refs h1).append (((const1d_refs g1).append ((const1d_refs g2).append (const1d_refs g3))).append ih)

theorem pickOrConcat_refs {A : List Name} {cand : Name} {xs : List Name} {x : Name} {ns : List Node} {s s' : St}
    (h : pickOrConcat cand xs s = .ok ((x, ns), s')) : RefsIn A ns := by
  obtain ⟨_, rfl, _⟩ | ⟨_, rfl⟩ := pickOrConcat_ok h
  · exact .nil A
  · exact .of_norefs (by simp [attrRefs, attrRefsNode])

theorem convSubscript_refs {A : List Name} {var : Name} {tgt : Option Name} {idx : List Idx} {x : Name}
    {ns : List Node} {s s' : St} (h : convSubscript var tgt idx s = .ok ((x, ns), s')) : RefsIn A ns := by
  obtain ⟨s0, _, hs⟩ := convSubscript_ok h
  have hop : ∀ {dom name ins outs}, RefsIn A [Node.op dom name ins outs []] :=
    .of_norefs (by simp [attrRefs, attrRefsNode])
  rcases hs with ⟨starts, ends, axes, steps, ns1, cc, s1, sv, n1, s2, ev, n2, s3, av, n3, s4, tv, n4, s5,
      h1, h2, h3, h4, h5, hlast⟩ | ⟨_, rfl⟩ | ⟨ax, k, iv, n1, h1, rfl⟩
  · have hpre := (convSlices_refs (A := A) h1).append ((pickOrConcat_refs h2).append ((pickOrConcat_refs h3).append
      ((pickOrConcat_refs h4).append (pickOrConcat_refs (A := A) h5))))
    rcases hlast with ⟨_, rfl⟩ | ⟨sliced, s6, sq, n5, _, h7, rfl⟩
    · exact hpre.append hop
    · exact ((hpre.append (RefsIn.append (a := [_]) hop (emitConst_refs h7))).append hop)
  · exact hop
  · exact (emitConst_refs h1).append (.of_norefs (by simp [attrRefs, attrRefsNode]))

theorem exprRules_refs {A : List Name} {L : Locals} (hL : AttrIn A L) :
    ExprRules L (fun _ _ _ _ ns _ => RefsIn A ns) (fun _ _ _ ns _ => RefsIn A ns) where
  var h := pyVar_refs hL h
  lit h := emitConst_refs h
  call _ ih ha h3 _ := ih.append ((castInputs_refs h3).append (.op (convAttrs_refs hL _ _ ha)))
  binop _ _ iha _ ihb h3 _ := iha.append (ihb.append ((castInputs_refs h3).append (.op fun kv hkv q hq => by
    split at hkv
    · cases List.mem_singleton.mp hkv; cases hq
    · cases hkv)))
  neg _ _ h := emitConst_refs h
  unop _ _ _ ih _ := ih.append (.of_norefs (by simp [attrRefs, attrRefsNode]))
  cmpNe _ _ iha _ ihb h3 _ _ :=
    iha.append (ihb.append ((castInputs_refs h3).append (.of_norefs (by simp [attrRefs, attrRefsNode]))))
  cmp _ _ _ iha _ ihb h3 _ :=
    iha.append (ihb.append ((castInputs_refs h3).append (.of_norefs (by simp [attrRefs, attrRefsNode]))))
  subscript _ ih h2 := ih.append (convSubscript_refs h2)
  nil := .nil A
  cons _ ihe _ ihes := ihe.append ihes

theorem convExpr_refs {A : List Name} (L : Locals) (hL : AttrIn A L) (e : Expr) (tgt : Option Name) {x : Name}
    {ns : List Node} {s s' : St} (h : convExpr L e tgt s = .ok ((x, ns), s')) : RefsIn A ns :=
  (exprRules_refs hL).expr e tgt h

theorem convArgs_refs {A : List Name} (L : Locals) (hL : AttrIn A L) (es : List Expr) {xs : List Name}
    {ns : List Node} {s s' : St} (h : convArgs L es s = .ok ((xs, ns), s')) : RefsIn A ns :=
  (exprRules_refs hL).args es h

theorem Outs.refs {A : List Name} {L : Locals} (hL : AttrIn A L) {vs : List Name} {sofar : List Node}
    {outs os : List Name} {ns : List Node} {s s' : St} (h : Outs L vs sofar outs s os ns s') : RefsIn A ns := by
  induction h with
  | nil => exact .nil A
  | direct h1 _ _ _ ih => exact (pyVar_refs hL h1).append ih
  | copy h1 h2 _ ih => exact (pyVar_refs hL h1).append ((emitCopy_refs h2).append ih)

theorem loopFinish_refs {A : List Name} {L L2 : Locals} (hL : AttrIn A L) (hL2 : AttrIn A L2)
    {state : List Name} {bound cond : Option Name}
    {condIn iv : Name} {ps : List Name} {whileVar : Option Name} {bn : List Node}
    {brkCond : Option Name} {L' : Locals} {nl : List Node} {s s' : St} (hbn : RefsIn A bn)
    (h : loopFinish L L2 state bound cond condIn iv ps whileVar bn brkCond s = .ok ((L', nl), s')) :
    RefsIn A nl := by
  obtain ⟨oc, condOut, cns, s1, os, ns3, s2, inits, ns4, s3, outs, _, h1, h2, h3, _, _, rfl⟩ := loopFinish_ok h
  have hc : RefsIn A cns := by
    obtain ⟨_, _, rfl⟩ | ⟨w, b, nb, s1, _, _, _, _, rfl⟩ := condNodes_ok h1
    · cases brkCond <;> exact .of_norefs (by simp [condNode, attrRefs, attrRefsNode])
    · exact .of_norefs (by simp [attrRefs, attrRefsNode])
  refine (loopInits_induct (P := fun _ _ _ ns _ => RefsIn A ns) (.nil A)
    (fun g1 _ ih => (pyVar_refs hL g1).append ih) h3).append fun q hq => ?_
  rw [refs_loop] at hq
  exact (hbn.append (hc.append ((loopOutputs_outs _ _ _ _ h2).refs hL2))) q hq

theorem stmtRules_refs {A : List Name} :
    StmtRules (fun L _ _ _ _ ns _ => AttrIn A L → RefsIn A ns) (fun L _ _ _ _ ns _ => AttrIn A L → RefsIn A ns)
      (fun L _ _ _ _ ns _ _ => AttrIn A L → RefsIn A ns) where
  assign h hL := convExpr_refs _ hL _ _ h
  par _ h hL := convParExprs_induct (P := fun _ _ _ _ ns _ => RefsIn A ns) (fun _ => .nil A)
    (fun h1 _ ih => (convExpr_refs _ hL _ _ h1).append ih) h
  tuple h1 ha h3 _ hL :=
    (convArgs_refs _ hL _ h1).append ((castInputs_refs h3).append (.op (convAttrs_refs hL _ _ ha)))
  ite _ h1 h2 iht h3 h4 ihe h5 _ hL := by
    have hLb := hL.mono (AttrMono.push _)
    refine (convExpr_refs _ hL _ _ h1).append fun q hq => ?_
    rw [refs_ifN] at hq
    exact (List.mem_append.mp hq).elim
      (((iht hLb).append ((blockOutputs_outs _ _ _ _ h3).refs (hLb.mono (convStmts_attrMono _ _ _ h2)))) q)
      (((ihe hLb).append ((blockOutputs_outs _ _ _ _ h5).refs (hLb.mono (convStmts_attrMono _ _ _ h4)))) q)
  for_ _ h1 _ h3 h4 ihb h5 hL :=
    have hL1 := hL.mono (loopEnter_attrMono h3)
    (convExpr_refs _ hL _ _ h1).append (loopFinish_refs hL (hL1.mono (convLoopBody_attrMono _ _ _ h4)) (ihb hL1) h5)
  while_ _ _ h2 h3 h4 ihb h5 hL :=
    have hL1 := hL.mono (loopEnter_attrMono h3)
    (pyVar_refs hL h2).append (loopFinish_refs hL (hL1.mono (convLoopBody_attrMono _ _ _ h4)) (ihb hL1) h5)
  skip _ := .nil A
  nil _ := .nil A
  cons h1 ih1 _ ih2 hL := (ih1 hL).append (ih2 (hL.mono (convStmt_attrMono _ _ _ h1)))
  bodyNil _ := .nil A
  bodyBrk _ _ := .nil A
  bodyCons h1 ih1 _ ih2 hL := (ih1 hL).append (ih2 (hL.mono (convStmt_attrMono _ _ _ h1)))

theorem convStmts_refs {A : List Name} (L : Locals) (hL : AttrIn A L) :
    ∀ (ss : List Stmt) (lo : VSet) {L' : Locals} {ns : List Node} {s s' : St},
    convStmts L ss lo s = .ok ((L', ns), s') → RefsIn A ns ∧ AttrIn A L' :=
  fun ss lo _ _ _ _ h => ⟨stmtRules_refs.stmts L ss lo h hL, hL.mono (convStmts_attrMono ss L lo h)⟩

theorem convLoopBody_refs {A : List Name} (L : Locals) (hL : AttrIn A L) :
    ∀ (ss : List Stmt) (lo : VSet) {L' : Locals} {ns : List Node} {bc : Option Name} {s s' : St},
    convLoopBody L ss lo s = .ok ((L', ns, bc), s') → RefsIn A ns ∧ AttrIn A L' :=
  fun ss lo _ _ _ _ _ h => ⟨stmtRules_refs.body L ss lo h hL, hL.mono (convLoopBody_attrMono ss L lo h)⟩

theorem convRetAll_refs {A : List Name} {L : Locals} (hL : AttrIn A L) {inputs : List Name} {single : Bool}
    {es : List Expr} {i : Nat} {outs outs' : List Name} {ns : List Node} {s s' : St}
    (h : convRetAll L inputs single es i outs s = .ok ((outs', ns), s')) : RefsIn A ns := by
  refine convRetAll_induct (P := fun _ _ _ _ _ ns _ => RefsIn A ns) (.nil A) (fun h1 _ ih => ?_) h
  obtain ⟨rv, ns1, s1, rv2, ns2, s2, ns3, g1, c1, c2, rfl⟩ := convRetOne_ok h1
  have hc : ∀ {c x sug s x' nc s'}, CopyIf c x sug s x' nc s' → RefsIn A nc := fun hc => by
    obtain ⟨_, hc⟩ | ⟨_, _, rfl, _⟩ := hc
    · exact emitCopy_refs hc
    · exact .nil A
  exact ((convExpr_refs L hL _ _ g1).append ((hc c1).append (hc c2))).append ih

theorem convert_attr_refs {f : Func} {g : Graph} (h : convert f = .ok g) :
    g.attrs = attrParams f.params ∧ ∀ q, q ∈ attrRefs g.nodes → q ∈ attrParams f.params := by
  obtain ⟨ns, outs, s', hc, rfl⟩ := convert_ok h
  refine ⟨rfl, ?_⟩
  have hL : AttrIn (attrParams f.params) [paramFrame f.params] := by
    intro x p ty hl
    obtain ⟨fr, hfr, hm⟩ := lookup_mem hl
    cases List.mem_singleton.mp hfr
    obtain ⟨rfl, hk⟩ := paramFrame_attr_ident _ x p ty hm
    exact hk
  exact convTop_induct (P := fun L _ _ _ ns _ _ => AttrIn (attrParams f.params) L → RefsIn (attrParams f.params) ns)
    (fun _ => .nil _) (fun h1 _ ih hL => (convRetAll_refs hL h1).append (ih hL))
    (fun h1 _ ih hL => (stmtRules_refs.stmt _ _ _ h1 hL).append (ih (hL.mono (convStmt_attrMono _ _ _ h1)))) hc hL

end OV.C01
