import OV.Model.C18Sem
import OV.Lemmas.C18WF
import OV.Lemmas.Util
/-! C18 semantics: α-renaming (inlined body = function body), frame lemmas for
`evalNodes`, and the simulation between `build` and `replay`. -/
namespace OV.C18

variable {α : Type}

theorem bindOuts_other (e : Env α) : ∀ (os : List Nat) (vs : List α) (i : Nat), i ∉ os →
    bindOuts e os vs i = e i
  | [], _, _, _ => rfl
  | o :: os, vs, i, h => by
    simp only [List.mem_cons, not_or] at h
    simp only [bindOuts]
    rw [bindOuts_other _ os vs.tail i h.2]
    simp [Env.set, h.1]

theorem bindNames_other (e : NEnv α) : ∀ (os : List String) (vs : List α) (x : String), x ∉ os →
    bindNames e os vs x = e x
  | [], _, _, _ => rfl
  | o :: os, vs, x, h => by
    simp only [List.mem_cons, not_or] at h
    simp only [bindNames]
    rw [bindNames_other _ os vs.tail x h.2]
    simp [NEnv.set, h.1]

theorem bind_zip (e : Env α) (ne : NEnv α) : ∀ (names : List String) (ids : List Nat) (vs : List α),
    names.length = ids.length → names.Nodup → ids.Nodup →
    ∀ (x : String) (i : Nat), (x, i) ∈ names.zip ids → bindOuts e ids vs i = bindNames ne names vs x
  | [], [], _, _, _, _, x, i, h => by simp at h
  | [], _ :: _, _, hl, _, _, _, _, _ => by simp at hl
  | _ :: _, [], _, hl, _, _, _, _, _ => by simp at hl
  | n :: ns, d :: ds, vs, hl, hn, hd, x, i, h => by
    simp only [List.zip_cons_cons, List.mem_cons, Prod.mk.injEq] at h
    simp only [List.nodup_cons] at hn hd
    simp only [List.length_cons, Nat.add_right_cancel_iff] at hl
    simp only [bindOuts, bindNames]
    rcases h with ⟨rfl, rfl⟩ | h
    · rw [bindOuts_other _ ds _ _ hd.1, bindNames_other _ ns _ _ hn.1]
      simp [Env.set, NEnv.set]
    · exact bind_zip _ _ ns ds vs.tail hl hn.2 hd.2 x i h

/-- the id-environment and the name-environment agree through the value map. -/
def Rel (m : VMap) (e : Env α) (ne : NEnv α) : Prop := ∀ x, (vmapGet m x).bind e = ne x

theorem clone_ins_vals (m : VMap) (e : Env α) (ne : NEnv α) (h : Rel m e ne) (ins : List (Option String)) :
    (ins.map (mapIn m)).map (fun i => i.bind e)
      = ins.map (fun i => i.bind ne) := by
  simp only [List.map_map]
  apply List.map_congr_left
  intro i _
  cases i with
  | none => rfl
  | some x => exact h x

theorem cloneAt_sim (S : OpSem α) (np : String) (L : Nat) (m : VMap) (n : FNode) (e : Env α) (ne : NEnv α)
    (hb : ∀ x id, vmapGet m x = some id → id < L) (hr : Rel m e ne) (hn : n.outs.Nodup) :
    Rel (cloneAt np L m n).1 (evalNode S e (cloneAt np L m n).2) (evalFNode S ne n) ∧
    (∀ i, i < L → evalNode S e (cloneAt np L m n).2 i = e i) := by
  simp only [evalNode, evalFNode, cloneAt, clone_ins_vals m e ne hr n.ins]
  generalize S.op n.domain n.op "" (plainAttrs n.attrs) (n.ins.map (fun i => i.bind ne)) = vs
  have hfresh : ∀ i, i < L → i ∉ List.range' L n.outs.length := fun i hi hc => by
    have := List.mem_range'_1.mp hc; omega
  refine ⟨fun x => ?_, fun i hi => bindOuts_other _ _ _ _ (hfresh i hi)⟩
  by_cases hx : x ∈ n.outs
  · obtain ⟨i, hi, hv⟩ := vmapGet_zip_hit n.outs _ m x List.length_range'.symm hx
    rw [hv]
    exact bind_zip e ne n.outs _ vs List.length_range'.symm hn List.nodup_range' x i hi
  · rw [vmapGet_zip_miss n.outs _ m x hx, bindNames_other _ _ _ _ hx, ← hr x]
    cases hv : vmapGet m x with
    | none => rfl
    | some id => exact bindOuts_other _ _ _ _ (hfresh id (hb x id hv))

theorem clones_sim (S : OpSem α) (np : String) : ∀ (nodes : List FNode) (L : Nat) (m : VMap) (e : Env α) (ne : NEnv α),
    (∀ x id, vmapGet m x = some id → id < L) → Rel m e ne → (∀ n ∈ nodes, n.outs.Nodup) →
    Rel (clones np L m nodes).1 (evalNodes S e (clones np L m nodes).2) (nodes.foldl (evalFNode S) ne) ∧
    (∀ i, i < L → evalNodes S e (clones np L m nodes).2 i = e i)
  | [], _, _, _, _, _, hr, _ => ⟨hr, fun _ _ => rfl⟩
  | n :: r, L, m, e, ne, hb, hr, hn => by
    obtain ⟨c1, c3⟩ := cloneAt_sim S np L m n e ne hb hr (hn n (by simp))
    obtain ⟨d1, d2⟩ := clones_sim S np r (L + n.outs.length) _ _ _ (cloneAt_vmap_lt np n hb) c1
      (fun k hk => hn k (by simp [hk]))
    simp only [clones, evalNodes, List.foldl_cons] at d1 d2 ⊢
    exact ⟨d1, fun i hi => (d2 i (by omega)).trans (c3 i hi)⟩

theorem rel_formals (e : Env α) : ∀ (formals : List String) (actuals : List (Option Nat)),
    Rel (formals.zip actuals) e (bindFormals formals (actuals.map (fun a => a.bind e)))
  | [], _ => by intro x; simp [vmapGet, bindFormals]
  | _ :: _, [] => by intro x; simp [vmapGet, bindFormals]
  | f :: fs, a :: as => by
    intro x
    simp only [List.zip_cons_cons, vmapGet_cons, List.map_cons, bindFormals, NEnv.set]
    by_cases h : f = x
    · simp [h]
    · have : ¬ x = f := fun h' => h h'.symm
      simp only [h, this, if_false]
      exact rel_formals e fs as x

theorem resolveFn_ssa {f : Fn} (am : List (String × AVal)) (h : ∀ n ∈ f.nodes, n.outs.Nodup) :
    ∀ n ∈ (resolveFn am f).nodes, n.outs.Nodup := fun n hn => by
  obtain ⟨n0, hn0, rfl⟩ := List.mem_map.mp hn
  exact h n0 hn0

theorem inlineClones_sim (S : OpSem α) (total : Bool) (st : St) (f : Fn) (actuals : List (Option Nat)) (e : Env α)
    (ha : ∀ i, some i ∈ actuals → i < st.L) (hssa : ∀ n ∈ f.nodes, n.outs.Nodup) :
    (f.outputs.map (vmapGet (inlineClones total st f actuals).2.1)).map
        (fun o => o.bind (evalNodes S e (inlineClones total st f actuals).2.2))
      = evalBody S f (actuals.map (fun a => a.bind e)) ∧
    ∀ i, i < st.L → evalNodes S e (inlineClones total st f actuals).2.2 i = e i := by
  rw [inlineClones_snd]
  obtain ⟨c1, c2⟩ := clones_sim S (autoNodeName st.cur (nodeCount total st) f.name ++ "/") f.nodes st.L
    (f.formals.zip actuals) e _ (vmapGet_zip_bound f.formals actuals st.L ha) (rel_formals e f.formals actuals) hssa
  refine ⟨?_, c2⟩
  simp only [evalBody, List.map_map]
  exact List.map_congr_left (fun x _ => c1 x)

theorem bindOuts_agree (L : Nat) : ∀ (os : List Nat) (vs : List α) (e1 e2 : Env α),
    (∀ i, i < L → e1 i = e2 i) → ∀ i, i < L → bindOuts e1 os vs i = bindOuts e2 os vs i
  | [], _, _, _, h, i, hi => h i hi
  | o :: os, vs, e1, e2, h, i, hi => by
    simp only [bindOuts]
    apply bindOuts_agree L os vs.tail _ _ _ i hi
    intro j hj
    simp only [Env.set]
    split
    · rfl
    · exact h j hj

theorem evalNodes_agree (S : OpSem α) (L : Nat) : ∀ (ns : List Node) (e1 e2 : Env α),
    (∀ i, i < L → e1 i = e2 i) → (∀ n ∈ ns, ∀ i, some i ∈ n.ins → i < L) →
    ∀ i, i < L → evalNodes S e1 ns i = evalNodes S e2 ns i
  | [], _, _, h, _, i, hi => h i hi
  | n :: r, e1, e2, h, hn, i, hi => by
    simp only [evalNodes, List.foldl_cons]
    apply evalNodes_agree S L r _ _ _ (fun k hk => hn k (by simp [hk])) i hi
    intro j hj
    simp only [evalNode]
    have hins : n.ins.map (fun i => i.bind e1) = n.ins.map (fun i => i.bind e2) := by
      apply List.map_congr_left
      intro o ho
      cases o with
      | none => rfl
      | some k => exact h k (hn n (by simp) k ho)
    rw [hins]
    exact bindOuts_agree L _ _ _ _ h j hj

theorem evalNodes_other (S : OpSem α) : ∀ (ns : List Node) (e : Env α) (i : Nat),
    (∀ n ∈ ns, i ∉ n.outs) → evalNodes S e ns i = e i
  | [], _, _, _ => rfl
  | n :: r, e, i, h => by
    simp only [evalNodes, List.foldl_cons]
    have := evalNodes_other S r (evalNode S e n) i (fun k hk => h k (by simp [hk]))
    simp only [evalNodes] at this
    rw [this]
    exact bindOuts_other _ _ _ _ (h n (by simp))

theorem bindOuts_get (e : Env α) : ∀ (ids : List Nat) (vs : List α), ids.Nodup →
    ids.map (fun i => bindOuts e ids vs i) = takeN vs ids.length
  | [], _, _ => rfl
  | d :: ds, vs, h => by
    simp only [List.nodup_cons] at h
    simp only [List.map_cons, bindOuts, List.length_cons, takeN, List.cons.injEq]
    refine ⟨?_, ?_⟩
    · rw [bindOuts_other _ _ _ _ h.1]; simp [Env.set]
    · rw [← bindOuts_get (e.set d vs.head?) ds vs.tail h.2]

theorem posOf_snoc_ne (i L : Nat) (h : i ≠ L) : ∀ l : List Nat, posOf i (l ++ [L]) = posOf i l
  | [] => by simp [posOf, Ne.symm h]
  | x :: xs => by simp only [List.cons_append, posOf]; rw [posOf_snoc_ne i L h xs]

theorem posOf_snoc_new (L : Nat) : ∀ l : List Nat, L ∉ l → posOf L (l ++ [L]) = some l.length
  | [], _ => by simp [posOf]
  | x :: xs, h => by
    simp only [List.mem_cons, not_or] at h
    simp only [List.cons_append, posOf, List.length_cons]
    rw [if_neg (Ne.symm h.1), posOf_snoc_new L xs h.2]
    rfl

theorem find?_snd_none {c : List (CKey × Nat)} {i : Nat} (h : ∀ e ∈ c, e.2 ≠ i) :
    c.find? (fun e => e.2 = i) = none :=
  List.find?_eq_none.mpr (fun e he => by simpa using h e he)

theorem baseOf_cache_exts (S : OpSem α) (c ext : List (CKey × Nat)) (ins : List Nat) (args : List α) (i : Nat)
    (h : ∀ e ∈ ext, e.2 ≠ i) : baseOf S (c ++ ext) ins args i = baseOf S c ins args i := by
  unfold baseOf
  rw [List.find?_append, find?_snd_none h, Option.or_none]

theorem baseOf_input_ext (S : OpSem α) (c : List (CKey × Nat)) (L : Nat) (ins : List Nat)
    (args : List α) (i : Nat) (h : i ≠ L) : baseOf S c (ins ++ [L]) args i = baseOf S c ins args i := by
  unfold baseOf
  rw [posOf_snoc_ne i L h]

theorem baseOf_input_new (S : OpSem α) (c : List (CKey × Nat)) (L : Nat) (ins : List Nat)
    (args : List α) (h : ∀ e ∈ c, e.2 ≠ L) (hi : L ∉ ins) :
    baseOf S c (ins ++ [L]) args L = args[ins.length]? := by
  unfold baseOf
  simp [find?_snd_none h, posOf_snoc_new L ins hi]

theorem baseOf_cached (S : OpSem α) (c : List (CKey × Nat)) (ins : List Nat) (args : List α)
    (hn : (c.map (·.2)).Nodup) (k : CKey) (id : Nat) (h : (k, id) ∈ c) :
    baseOf S c ins args id = some (S.lit k) := by
  unfold baseOf
  induction c with
  | nil => simp at h
  | cons e r ih =>
    simp only [List.map_cons, List.nodup_cons] at hn
    simp only [List.mem_cons] at h
    simp only [List.find?_cons]
    rcases h with rfl | h
    · simp
    · have hne : ¬ e.2 = id := fun he => hn.1 (he ▸ List.mem_map_of_mem (f := (·.2)) h)
      simp only [hne, decide_false]
      exact ih hn.2 h

structure CacheOK (st : St) : Prop where
  nodup : (st.cache.map (·.2)).Nodup
  inits : st.inits = st.cache.map (·.2)
  bound : ∀ e ∈ st.cache, e.2 < st.L

structure Sim (S : OpSem α) (args : List α) (st : St) (r : RSt α) : Prop where
  bnd : Bnd st
  cok : CacheOK st
  nin : r.nin = st.cur.inputs.length
  sep : ∀ n ∈ st.cur.nodes, ∀ o ∈ n.outs, o ∉ st.inits
  vals : st.handles.map (fun o => o.bind (evalGraph S st args)) = r.henv

theorem Sim.init (S : OpSem α) (args : List α) : Sim S args St.init ⟨[], 0⟩ := by
  refine ⟨Bnd.init, ⟨by simp [St.init], by simp [St.init], by simp [St.init]⟩, by simp [St.init],
    by simp [St.init], by simp [St.init]⟩

theorem args_vals_ok (S : OpSem α) (st : St) (r : RSt α) (E Eo : Env α) (cache' : List (CKey × Nat))
    (hv : st.handles.map (fun o => o.bind E) = r.henv) (hbnd : ∀ i, some i ∈ st.handles → i < st.L)
    (hA : ∀ i, i < st.L → Eo i = E i) (hlit : ∀ k id, (k, id) ∈ cache' → Eo id = some (S.lit k)) :
    ∀ (a : List Arg) (ins : List (Option Nat)), List.Forall₂ (ArgOK st.handles cache') a ins →
      ins.map (fun i => i.bind Eo) = a.map (argVal S r.henv) := by
  intro a ins hins
  induction hins with
  | nil => rfl
  | @cons x o xs os hx _ ih =>
    simp only [List.map_cons, List.cons.injEq]
    refine ⟨?_, ih⟩
    cases x with
    | ref hd =>
      simp only [ArgOK] at hx
      simp only [argVal, ← hv, List.getD_map_bind, ← hx]
      cases o with
      | none => rfl
      | some i => exact hA i (hbnd i (getD_mem hx.symm))
    | none => simp only [ArgOK] at hx; simp [hx, argVal]
    | lit l =>
      obtain ⟨id, rfl, hm⟩ := hx
      exact hlit _ id hm

variable {S : OpSem α} {args : List α} {st st' : St} {r : RSt α} {rs : List VKey} {ext : List (CKey × Nat)}

/-- After an operation that only appends the graph evaluates the old handles as before, provided the new handles `hs`
evaluate to `vs`: to be shown (`hv`) in *any* environment that agrees with the old graph's on the old values and holds
the literals' values at all cached initializers, and that `ns` must leave alone on the old values. -/
theorem Sim.adds {ns : List Node} {hs : List (Option Nat)} (h : Sim S args st r)
    (x : Adds st st' rs ext ns hs) (hb : Bnd st')
    (ids : NewIds st.L st'.L (ext.map (·.2)) (ns.flatMap (·.outs))) (vs : List (Option α))
    (hv : ∀ E : Env α, (∀ i, i < st.L → E i = evalGraph S st args i) →
      (∀ c id, (c, id) ∈ st'.cache → E id = some (S.lit c)) →
      hs.map (fun o => o.bind (evalNodes S E ns)) = vs ∧ ∀ i, i < st.L → evalNodes S E ns i = E i) :
    Sim S args st' ⟨r.henv ++ vs, r.nin⟩ := by
  have hold : ∀ n ∈ st.cur.nodes, NodeOK st.L st.inits n := h.bnd.nodes st.cur st.cur_mem_frames
  have hnew : ∀ i ∈ ext.map (·.2), st.L ≤ i ∧ i < st'.L := fun i hi => (ids.mem i).mp (Or.inl hi)
  have hnd := ids.nodup.1
  have ho : ∀ n ∈ ns, ∀ o ∈ n.outs, st.L ≤ o ∧ o ∉ ext.map (·.2) := fun n hn o ho' =>
    ⟨((ids.mem o).mp (Or.inr (List.mem_flatMap.mpr ⟨n, hn, ho'⟩))).1,
      fun c => ids.nodup.2.2 o c o (List.mem_flatMap.mpr ⟨n, hn, ho'⟩) rfl⟩
  have hmem : ∀ e ∈ ext, e.2 ∈ ext.map (·.2) := fun e he => List.mem_map_of_mem (f := fun x : CKey × Nat => x.2) he
  have hcok : CacheOK st' := by
    refine ⟨?_, by rw [x.inits, x.cache, List.map_append, h.cok.inits], fun e he => ?_⟩
    · rw [x.cache, List.map_append]
      refine List.nodup_append.mpr ⟨h.cok.nodup, hnd, fun i hi j hj e => ?_⟩
      obtain ⟨c, hc, rfl⟩ := List.mem_map.mp hi
      exact Nat.lt_irrefl _ (Nat.lt_of_lt_of_le (h.cok.bound c hc) (e ▸ (hnew _ hj).1))
    · rw [x.cache] at he
      exact (List.mem_append.mp he).elim
        (fun he => Nat.lt_of_lt_of_le (h.cok.bound e he) (x.L ▸ Nat.le_add_right _ _)) (fun he => (hnew _ (hmem e he)).2)
  have hcur : st'.cur.inputs = st.cur.inputs ∧ st'.cur.nodes = st.cur.nodes ++ ns := by rw [x.cur]; exact ⟨rfl, rfl⟩
  -- the old nodes, evaluated in the new base environment
  have hE : evalGraph S st' args = evalNodes S (evalNodes S (baseEnv S st' args) st.cur.nodes) ns := by
    simp only [evalGraph, hcur.2, evalNodes, List.foldl_append]
  have hA : ∀ i, i < st.L → evalNodes S (baseEnv S st' args) st.cur.nodes i = evalGraph S st args i := by
    intro i hi
    refine evalNodes_agree S st.L _ _ _ (fun j hj => ?_) (fun n hn j hj => ((hold n hn).2 j hj).1) i hi
    simp only [baseEnv, x.cache, hcur.1]
    exact baseOf_cache_exts S _ _ _ _ j (fun e he hc => by have := (hnew _ (hmem e he)).1; omega)
  have hlit : ∀ c id, (c, id) ∈ st'.cache →
      evalNodes S (baseEnv S st' args) st.cur.nodes id = some (S.lit c) := by
    intro c id hm
    rw [evalNodes_other]
    · exact baseOf_cached S _ _ _ hcok.nodup c id hm
    · intro n hn hcon
      rw [x.cache] at hm
      rcases List.mem_append.mp hm with hm | hm
      · exact h.sep n hn id hcon (h.cok.inits ▸ List.mem_map_of_mem (f := fun x : CKey × Nat => x.2) hm)
      · exact Nat.lt_irrefl _ (Nat.lt_of_lt_of_le ((hold n hn).1 id hcon) (hnew _ (hmem _ hm)).1)
  obtain ⟨v1, v2⟩ := hv _ hA hlit
  refine ⟨hb, hcok, by rw [h.nin, hcur.1], ?_, ?_⟩
  · intro n hn o ho' hcon
    rw [x.inits] at hcon
    rw [hcur.2] at hn
    rcases List.mem_append.mp hn with hn | hn
    · exact (List.mem_append.mp hcon).elim (h.sep n hn o ho')
        (fun c => Nat.lt_irrefl _ (Nat.lt_of_lt_of_le ((hold n hn).1 o ho') (hnew _ c).1))
    · exact (List.mem_append.mp hcon).elim
        (fun c => Nat.lt_irrefl _ (Nat.lt_of_lt_of_le (h.bnd.inits o c) (ho n hn o ho').1)) (ho n hn o ho').2
  · rw [x.handles, List.map_append, hE, v1, ← h.vals]
    congr 1
    apply List.map_congr_left
    intro o ho'
    cases o with
    | none => rfl
    | some i =>
      have hi := h.bnd.handles i ho'
      exact (v2 i hi).trans (hA i hi)

theorem Sim.adds_nil (h : Sim S args st r) (x : Adds st st' rs ext [] []) (hb : Bnd st')
    (ids : NewIds st.L st'.L (ext.map (·.2)) []) : Sim S args st' r := by
  have := h.adds x hb ids [] (fun E _ _ => ⟨rfl, fun _ _ => rfl⟩)
  rwa [List.append_nil] at this

theorem Sim.node {n : Node} {a : List Arg} (h : Sim S args st r) (c : NodeCall st st' rs ext n a) :
    Sim S args st' ⟨r.henv ++ takeN (S.op n.domain n.op n.overload n.attrs (a.map (argVal S r.henv))) n.outs.length,
      r.nin⟩ := by
  refine h.adds c.adds (c.bnd h.bnd) (by simpa using c.ids) _ (fun E hA hlit => ?_)
  have hE : evalNodes S E [n] = bindOuts E n.outs (S.op n.domain n.op n.overload n.attrs (a.map (argVal S r.henv))) := by
    simp only [evalNodes, List.foldl_cons, List.foldl_nil, evalNode,
      args_vals_ok S st r _ E _ h.vals h.bnd.handles hA hlit a n.ins (c.adds.cache ▸ c.operands)]
  rw [hE]
  refine ⟨by rw [List.map_map]; exact bindOuts_get E n.outs _ c.ids.nodup.2.1, fun i hi => ?_⟩
  exact bindOuts_other _ _ _ _ (fun hc => Nat.lt_irrefl _ (Nat.lt_of_lt_of_le hi ((c.ids.mem i).mp (Or.inr hc)).1))

theorem Sim.curMeta (h : Sim S args st r) (sc : List String) (os : List Nat) :
    Sim S args { st with cur := { st.cur with scope := sc, outputs := os } } r :=
  ⟨(Moved.curMeta st sc os).bnd h.bnd, ⟨h.cok.nodup, h.cok.inits, h.cok.bound⟩, h.nin, h.sep, h.vals⟩

theorem outKeys_length (f : Frame) (c : Nat) (op : String) (o : Outs) : (outKeys f c op o).length = outCount o := by
  cases o with
  | named ns => simp [outKeys, outCount]
  | auto n =>
    simp only [outKeys, outCount]
    split
    · rename_i h; simp [h]
    · simp

theorem Sim.same {s : St} (h : Sim S args st r)
    (x : Adds st s [] [] [] []) : Sim S args s r :=
  h.adds_nil x (x.moved.bnd h.bnd) (NewIds.of_ranges (a := 0) (b := 0) rfl rfl (by simpa using x.L))

theorem sim_op (S : OpSem α) (fns : List Fn) (args : List α) (st : St) (r : RSt α)
    (t : String) (a : List Arg) (o : Outs) (nn : Option String) (g : List Nat) (as : List (String × AVal))
    (h : Sim S args st r) :
    Sim S args (doOp true st t a o nn g as) (replayStep S fns args r (.op t a o nn g as)) := by
  obtain ⟨lits, ext, ins, outs, hl, c⟩ := doOp_adds true st t a o nn g as
  simpa [replayStep, hl, outKeys_length] using h.node c

theorem sim_call (S : OpSem α) (fns : List Fn) (args : List α) (st : St) (r : RSt α)
    (fi : Nat) (a : List Arg) (o : Option Outs) (as : List (String × AVal)) (h : Sim S args st r) :
    Sim S args (doCall true fns st fi a o as) (replayStep S fns args r (.call fi a o as)) := by
  cases hf : fns[fi]? with
  | none =>
    simp only [doCall, hf, replayStep]
    exact h.same (adds_fail st _)
  | some f =>
    obtain ⟨lits, ext, ins, outs, hl, c⟩ := doCall_adds true fns st fi a o as f hf _ rfl
    simpa [replayStep, hf, hl, outKeys_length] using h.node c

theorem sim_input (S : OpSem α) (fns : List Fn) (args : List α) (st : St) (r : RSt α) (nm : String)
    (h : Sim S args st r) : Sim S args (doInput st nm) (replayStep S fns args r (.input nm)) := by
  have hold : ∀ k ∈ st.cur.nodes, NodeOK st.L st.inits k := h.bnd.nodes st.cur st.cur_mem_frames
  have hcache : ∀ e ∈ st.cache, e.2 ≠ st.L := fun e he => Nat.ne_of_lt (h.cok.bound e he)
  have hnotin : st.L ∉ st.cur.inputs := fun hc => Nat.lt_irrefl _ (h.bnd.finputs st.cur st.cur_mem_frames _ hc)
  have hshape : (doInput st nm).cur.inputs = st.cur.inputs ++ [st.L] ∧
      (doInput st nm).cur.nodes = st.cur.nodes ∧ (doInput st nm).cache = st.cache ∧
      (doInput st nm).inits = st.inits ∧ (doInput st nm).handles = st.handles ++ [some st.L] ∧
      (doInput st nm).L = st.L + 1 := by
    simp [doInput, newValue, newValueK, St.L]
  obtain ⟨s1, s2, s3, s4, s5, s6⟩ := hshape
  have hE : ∀ i, i < st.L → evalGraph S (doInput st nm) args i = evalGraph S st args i := by
    intro i hi
    unfold evalGraph
    rw [s2]
    refine evalNodes_agree S st.L _ _ _ (fun j hj => ?_) (fun k hk j hj => ((hold k hk).2 j hj).1) i hi
    unfold baseEnv
    rw [s3, s1]
    exact baseOf_input_ext S _ _ _ _ j (Nat.ne_of_lt hj)
  have hnew : evalGraph S (doInput st nm) args st.L = args[r.nin]? := by
    unfold evalGraph
    rw [s2, evalNodes_other]
    · unfold baseEnv
      rw [s3, s1, baseOf_input_new S _ _ _ _ hcache hnotin, h.nin]
    · exact fun k hk hc => Nat.lt_irrefl _ ((hold k hk).1 _ hc)
  refine ⟨bnd_doInput st nm h.bnd, ⟨s3 ▸ h.cok.nodup, by rw [s4, s3]; exact h.cok.inits,
    fun e he => by rw [s6]; exact Nat.lt_succ_of_lt (h.cok.bound e (s3 ▸ he))⟩,
    by simp [replayStep, h.nin, s1], by rw [s2, s4]; exact h.sep, ?_⟩
  rw [s5, List.map_append]
  simp only [replayStep, List.map_cons, List.map_nil, Option.bind_some, hnew]
  congr 1
  rw [← h.vals]
  apply List.map_congr_left
  intro o ho
  cases o with
  | none => rfl
  | some i => exact hE i (h.bnd.handles i ho)

/-- the `if` of `replayStep`'s `inline` branch is `inlineRefuses`, written out. -/
theorem replayStep_inline_refused {fns : List Fn} {fi : Nat} {a : List Arg} {o : Option (List String)} (p : String)
    (as : List (String × AVal)) (hr : ∀ f, fns[fi]? = some f → inlineRefuses f a o = true) :
    replayStep S fns args r (.inline fi a o p as) = r := by
  cases hf : fns[fi]? with
  | none => simp only [replayStep, hf]
  | some f => simp only [replayStep, hf]; exact if_pos (hr f hf)

theorem replayStep_inline_accepted {fns : List Fn} {fi : Nat} {a : List Arg} {o : Option (List String)} {f : Fn}
    (p : String) (as : List (String × AVal)) (hf : fns[fi]? = some f) (hr : inlineRefuses f a o = false) :
    replayStep S fns args r (.inline fi a o p as) =
      ⟨r.henv ++ callMeaning S f as (a.map (argVal S r.henv)), r.nin⟩ := by
  simp only [replayStep, hf]; exact if_neg (Bool.eq_false_iff.mp hr)

theorem sim_inline (S : OpSem α) (fns : List Fn) (args : List α) (st : St) (r : RSt α)
    (fi : Nat) (a : List Arg) (o : Option (List String)) (p : String) (as : List (String × AVal))
    (hssa : ∀ f ∈ fns, ∀ n ∈ f.nodes, n.outs.Nodup) (h : Sim S args st r) :
    Sim S args (doInline true fns st fi a o p as) (replayStep S fns args r (.inline fi a o p as)) := by
  have hb := bnd_doInline true fns st fi a o p as h.bnd
  unfold doInline at hb ⊢
  rcases doInline_cases fns fi a o with hr | ⟨f, hf, hr⟩
  · -- refused: nothing is traced; at most the literal operands were promoted
    obtain ⟨lits, ext, x, ids⟩ := doInline_refused prefixLeaks true fns st fi a o p as (Or.inl prefixLeaks_false) hr
    rw [replayStep_inline_refused p as hr]
    exact h.adds_nil x hb ids
  · obtain ⟨lits, cls, ext, c⟩ := doInline_accepted prefixLeaks true fns st fi a o p as f hf hr
    rw [replayStep_inline_accepted p as hf hr]
    refine h.adds c.adds hb c.ids _ (fun E hA hlit => ?_)
    -- the clones in `E`: the body over its own names, on the operands' values
    obtain ⟨c1, c2⟩ := inlineClones_sim S true _ (resolveFn (effectiveAttrs true f as) f) _ E
      (c.actuals_lt h.bnd) (resolveFn_ssa _ (hssa f (List.mem_of_getElem? hf)))
    rw [args_vals_ok S st r _ E _ h.vals h.bnd.handles hA hlit a _ (c.adds.cache ▸ c.operands)] at c1
    exact ⟨c1, fun i hi => c2 i (c.raL ▸ Nat.lt_add_right _ hi)⟩

/-- items of a subgraph-free trace. -/
def simItem : Item → Bool
  | .beginSub _ _ => false
  | .endSub _ _ => false
  | .abortSub => false
  | _ => true

theorem sim_step (S : OpSem α) (fns : List Fn) (args : List α) (st : St) (r : RSt α)
    (it : Item) (hssa : ∀ f ∈ fns, ∀ n ∈ f.nodes, n.outs.Nodup) (hs : simItem it = true) (h : Sim S args st r) :
    Sim S args (step true fns st it) (replayStep S fns args r it) := by
  cases it with
  | input n => exact sim_input S fns args st r n h
  | op t a o nn g as => exact sim_op S fns args st r t a o nn g as h
  | push n => exact h.curMeta _ _
  | pop =>
    show Sim S args (popScope st) r
    obtain ⟨s, sc, x, e⟩ := popScope_cases st
    rw [e]
    exact (h.same x).curMeta _ _
  | call fi a o as => exact sim_call S fns args st r fi a o as h
  | inline f a o p as => exact sim_inline S fns args st r f a o p as hssa h
  | beginSub g i => cases hs
  | endSub r d => cases hs
  | abortSub => cases hs
  | output hd n =>
    show Sim S args (doOutput st hd n) r
    obtain ⟨s, os, x, e⟩ := doOutput_cases st hd n
    rw [e]
    exact (h.same x).curMeta _ _

theorem sim_foldl (S : OpSem α) (fns : List Fn) (args : List α)
    (hssa : ∀ f ∈ fns, ∀ n ∈ f.nodes, n.outs.Nodup) :
    ∀ (tr : List Item) (st : St) (r : RSt α), (∀ it ∈ tr, simItem it = true) → Sim S args st r →
    Sim S args (tr.foldl (step true fns) st) (tr.foldl (replayStep S fns args) r)
  | [], _, _, _, h => h
  | it :: rest, st, r, hs, h =>
    sim_foldl S fns args hssa rest _ _ (fun x hx => hs x (List.mem_cons_of_mem _ hx))
      (sim_step S fns args st r it hssa (hs it List.mem_cons_self) h)

/-! Nothing above or in the other modules uses what follows. -/

theorem baseOf_cache_ext (S : OpSem α) (c : List (CKey × Nat)) (k : CKey) (L : Nat) (ins : List Nat)
    (args : List α) (i : Nat) (h : i ≠ L) : baseOf S (c ++ [(k, L)]) ins args i = baseOf S c ins args i :=
  baseOf_cache_exts S c _ ins args i (fun e he => by cases List.mem_singleton.mp he; exact h.symm)

theorem baseOf_cache_new (S : OpSem α) (c : List (CKey × Nat)) (k : CKey) (L : Nat) (ins : List Nat)
    (args : List α) (h : ∀ e ∈ c, e.2 ≠ L) : baseOf S (c ++ [(k, L)]) ins args L = some (S.lit k) := by
  unfold baseOf
  rw [List.find?_append, find?_snd_none h]
  simp

theorem args_vals_refs (S : OpSem α) (st : St) (r : RSt α) (E : Env α)
    (hv : st.handles.map (fun o => o.bind E) = r.henv) :
    ∀ (a : List Arg), a.all isRef = true →
      (resolveArgs st a).2.map (fun o => o.bind E) = a.map (argVal S r.henv)
  | [], _ => rfl
  | .ref h :: rest, hr => by
    simp only [List.all_cons, isRef, Bool.true_and] at hr
    simp only [resolveArgs, List.map_cons, argVal, List.cons.injEq]
    exact ⟨by rw [← hv, List.getD_map_bind], args_vals_refs S st r E hv rest hr⟩
  | .none :: rest, hr => by
    simp only [List.all_cons, isRef, Bool.true_and] at hr
    simp only [resolveArgs, List.map_cons, argVal, List.cons.injEq]
    exact ⟨rfl, args_vals_refs S st r E hv rest hr⟩
  | .lit _ :: _, hr => by simp [isRef] at hr

end OV.C18
