import OV.Lemmas.C17
/-! Lemmas for C17, the eager path: `_prepare_inputs`, binding and forwarding of parameters, the eager call, the one-node
model. -/
namespace OV.C17

theorem prepare_append_none {α} (xs : List (Option α)) :
    prepareInputs (xs ++ [none]) = prepareInputs xs := by
  simp [prepareInputs]

theorem prepare_append_some {α} (xs : List (Option α)) (v : α) :
    prepareInputs (xs ++ [some v]) = xs ++ [some v] := by
  simp [prepareInputs]

theorem findKw_map_self (l : List (Nat × Dflt)) (f : Nat → Dflt → Dflt) (k : Nat) :
    findKw k (l.map (fun p => (p.1, f p.1 p.2))) = (findKw k l).map (f k) := by
  induction l with
  | nil => rfl
  | cons p ps ih =>
    simp only [List.map, findKw]
    split
    next h => simp only [beq_iff_eq] at h; subst h; rfl
    next => exact ih

theorem bindKw_cons {p : Nat × Dflt} {ps kw bound : List (Nat × Dflt)} (h : bindKw (p :: ps) kw = some bound) :
    ∃ r, bindKw ps kw = some r ∧ bound = (p.1, (findKw p.1 kw).getD p.2) :: r ∧
      (findKw p.1 kw = none → p.2 ≠ .absent) := by
  simp only [bindKw] at h
  split at h
  · next v _ hv =>
    obtain ⟨r, hr, rfl⟩ := Option.map_eq_some_iff.mp h
    exact ⟨r, hr, by simp [hv], by simp [hv]⟩
  · cases h
  · next hv hne =>
    obtain ⟨r, hr, rfl⟩ := Option.map_eq_some_iff.mp h
    exact ⟨r, hr, by simp [hv], fun _ => hne⟩

theorem bindKw_find {l kw bound : List (Nat × Dflt)} (h : bindKw l kw = some bound) (k : Nat) (d : Dflt)
    (hk : findKw k l = some d) :
    findKw k bound = some ((findKw k kw).getD d) ∧ (findKw k kw = none → d ≠ .absent) := by
  induction l generalizing bound with
  | nil => cases hk
  | cons p ps ih =>
    obtain ⟨r, hr, rfl, hne⟩ := bindKw_cons h
    simp only [findKw] at hk ⊢
    split at hk
    · next hpk => cases hk; cases beq_iff_eq.mp hpk; exact ⟨by simp, hne⟩
    · next hpk => simp only [hpk]; exact ih hr hk

theorem fwdKw_find {bound attrs : List (Nat × Dflt)} {l : List (Nat × Dflt)}
    (h : fwdKw bound (l.map (fun p => (p.1, p.1))) = some attrs) (k : Nat) (d : Dflt)
    (hk : findKw k l = some d) : findKw k attrs = findKw k bound := by
  induction l generalizing attrs with
  | nil => cases hk
  | cons p ps ih =>
    simp only [List.map_cons, fwdKw] at h
    split at h
    · next x r hb hr =>
      cases h
      simp only [findKw] at hk ⊢
      split at hk
      · next hpk => rw [if_pos hpk, ← beq_iff_eq.mp hpk, hb]
      · next hpk => rw [if_neg hpk]; exact ih hr hk
    · cases h

theorem fwdKw_keys {bound attrs : List (Nat × Dflt)} {l : List (Nat × Nat)} (h : fwdKw bound l = some attrs) :
    attrs.map Prod.fst = l.map Prod.fst := by
  induction l generalizing attrs with
  | nil => simp only [fwdKw, Option.some.injEq] at h; subst h; rfl
  | cons p ps ih =>
    rcases p with ⟨k, v⟩
    simp only [fwdKw] at h
    split at h
    next x r hx hr => simp only [Option.some.injEq] at h; subst h; simp only [List.map_cons, ih hr]
    next => cases h

theorem attrsOk_find {s : Schema} {kw : List (Nat × Dflt)} (h : attrsOk s kw = true) (a : Attr)
    (ha : a ∈ s.attrs) : findKw a.name kw = some (attrDefault a) := by
  simp only [attrsOk, Bool.and_eq_true, List.all_eq_true] at h
  have := h.2 a ha
  cases hf : findKw a.name kw with
  | none => rw [hf] at this; simp at this
  | some d => rw [hf] at this; rw [dflt_beq_eq this]

theorem findPos_of_nodup {α} {bound : List (Nat × Option α)} (hnd : (bound.map Prod.fst).Nodup)
    {p : Nat × Option α} (hp : p ∈ bound) : findPos p.1 bound = some p.2 := by
  induction bound with
  | nil => cases hp
  | cons q qs ih =>
    simp only [List.map, List.nodup_cons] at hnd
    simp only [findPos]
    rcases List.mem_cons.mp hp with rfl | hp'
    · simp
    · have : q.1 ≠ p.1 := by
        intro h
        exact hnd.1 (h ▸ List.mem_map_of_mem hp')
      simp only [beq_iff_eq, this, if_false]
      exact ih hnd.2 hp'

theorem fwdValues_named {α} (bound : List (Nat × Option α)) (extra : List (Option α))
    (l : List (Nat × Option α)) (tail : List (Nat × Bool))
    (h : ∀ p ∈ l, findPos p.1 bound = some p.2) :
    fwdValues bound extra (l.map (fun p => (p.1, false)) ++ tail) =
      (fwdValues bound extra tail).map (fun r => l.map Prod.snd ++ r) := by
  induction l with
  | nil => simp
  | cons q qs ih =>
    have hq := h q List.mem_cons_self
    have ih' := ih (fun p hp => h p (List.mem_cons_of_mem _ hp))
    simp only [List.map, List.cons_append, fwdValues, hq, ih']
    cases fwdValues bound extra tail <;> simp

theorem bindPos_spec {α} {pos : List (Nat × Dflt)} {args : List (Option α)}
    {bound : List (Nat × Option α)} {extra : List (Option α)} (h : bindPos pos args = some (bound, extra)) :
    bound.map Prod.fst = pos.map Prod.fst ∧
      bound.map Prod.snd ++ extra = args ++ List.replicate (pos.length - args.length) none := by
  induction pos generalizing args bound with
  | nil => cases h; simp
  | cons p ps ih =>
    cases args with
    | cons a as =>
      obtain ⟨r, hr, hre⟩ := Option.map_eq_some_iff.mp h
      cases hre
      have := ih hr
      simp [this.1, this.2]
    | nil =>
      simp only [bindPos] at h
      split at h
      · obtain ⟨r, hr, hre⟩ := Option.map_eq_some_iff.mp h
        cases hre
        have := ih hr
        simpa [this.1, List.replicate_succ] using this.2
      · cases h

theorem eagerNode_some {α} {m : Method} {args : List (Option α)} {kw : List (Nat × Dflt)} {node : Node α}
    (h : eagerNode m args kw = some node) :
    node.key = m.call ∧
      (∃ bound, bindKw m.kwonly kw = some bound ∧ fwdKw bound m.fwdAttrs = some node.attrs) ∧
      ∃ pos extra ins, bindPos m.pos args = some (pos, extra) ∧ (m.vararg = none → extra = []) ∧
        fwdValues pos extra m.fwdInputs = some ins ∧
        node.inputs = if m.usesPrepare then prepareInputs ins else ins := by
  unfold eagerNode at h
  split at h
  · cases h
  · next pos extra hbp =>
    split at h
    · cases h
    · next hex =>
      split at h
      · cases h
      · split at h
        · cases h
        · next bound hbk =>
          split at h
          · next ins attrs hfv hfk =>
            cases h
            refine ⟨rfl, ⟨bound, hbk, hfk⟩, pos, extra, ins, hbp, fun hv => ?_, hfv, rfl⟩
            simpa [hv] using hex
          · cases h

/-- Why the call runs as the one-node model of exactly the schema in force: that schema is live and mirrored (a stub
raises), the method's literal `get_schema` call is its key, and in a registry where a key names one schema `get_schema`
at that key finds it again (`lookup_at_since`). -/
theorem eagerRun_of_cell {α} {reg : List Schema} (hkeys : ∀ s ∈ reg, ∀ s' ∈ reg, s.key = s'.key → s = s')
    {d N n : Nat} {m : Method} (hcell : cellOk false (lookup reg d N n) (some m) = true)
    {args : List (Option α)} {kw : List (Nat × Dflt)} {node : Node α} (h : eagerCall m args kw = some node)
    (im : List ((Nat × Nat) × Nat)) :
    ∃ s, lookup reg d N n = some s ∧ s.deprecated = false ∧ mirrors m s = true ∧
      eagerNode m args kw = some node ∧
      eagerRun reg im m args kw = some (modelOf im s node.inputs node.attrs) := by
  cases hs : lookup reg d N n with
  | none => rw [hs] at hcell; cases hcell
  | some s =>
    rw [hs] at hcell
    cases hdep : s.deprecated with
    | true => simp [eagerCall, cellOk_deprecated hcell hdep] at h
    | false =>
      obtain ⟨hstub, hmir⟩ := cellOk_live hcell hdep
      have hnode : eagerNode m args kw = some node := by simpa [eagerCall, hstub] using h
      have hkey := (eagerNode_some hnode).1
      have hsp := lookup_some hs
      have hl := lookup_at_since hkeys hs
      refine ⟨s, rfl, hdep, hmir, hnode, ?_⟩
      simp only [eagerRun, h, hkey, (mirrors_spec hmir).1, Schema.key, hsp.2.1, hsp.2.2.1, hl]

theorem eagerRun_some {α} {reg : List Schema} {im : List ((Nat × Nat) × Nat)} {m : Method}
    {args : List (Option α)} {kw : List (Nat × Dflt)} {M : EagerModel α}
    (h : eagerRun reg im m args kw = some M) : ∃ node, eagerCall m args kw = some node := by
  unfold eagerRun at h
  split at h
  · cases h
  · exact ⟨_, ‹_›⟩

theorem findKw_dropNone_none {k : Nat} {l : List (Nat × Dflt)} (h : k ∉ l.map Prod.fst) :
    findKw k (dropNone l) = none := by
  induction l with
  | nil => rfl
  | cons p ps ih =>
    simp only [List.map_cons, List.mem_cons, not_or] at h
    have hp : (p.1 == k) = false := by simpa using fun hc => h.1 hc.symm
    simp only [dropNone]
    split
    · exact ih h.2
    · simp only [findKw, hp, Bool.false_eq_true, if_false]; exact ih h.2

/-- with distinct keywords (a Python `dict`), dropping the keywords whose value is `None`
(`if value is not None` in `_prepare_model_and_inputs_for_eager`) does not change what the node means -/
theorem attrMeaning_dropNone {l : List (Nat × Dflt)} (hnd : (l.map Prod.fst).Nodup) (a : Attr) :
    attrMeaning (dropNone l) a = attrMeaning l a := by
  induction l with
  | nil => rfl
  | cons p ps ih =>
    simp only [List.map_cons, List.nodup_cons] at hnd
    have ih := ih hnd.2
    simp only [attrMeaning] at ih ⊢
    cases hc : p.1 == a.name with
    | true =>
      -- `p` is the one keyword of that name: dropped, it leaves none, and `None` means the default anyway
      have hk := findKw_dropNone_none (beq_iff_eq.mp hc ▸ hnd.1)
      cases hv : p.2 <;> simp [dropNone, hv, findKw, hc, hk]
    | false => cases hv : p.2 <;> simp [dropNone, hv, findKw, hc, ih]

theorem distinctNat_nodup {l : List Nat} (h : distinctNat l = true) : l.Nodup := by
  induction l with
  | nil => exact List.nodup_nil
  | cons x xs ih =>
    simp only [distinctNat, Bool.and_eq_true, Bool.not_eq_true'] at h
    refine List.nodup_cons.mpr ⟨?_, ih h.2⟩
    intro hx
    have : xs.contains x = true := List.contains_iff_mem.mpr hx
    rw [this] at h; exact absurd h.1 (by decide)

theorem feeds_names {α} (i : Nat) (xs : List (Option α)) :
    (feedsFrom i xs).map Prod.fst = (renameFrom i xs).filterMap id := by
  induction xs generalizing i with
  | nil => rfl
  | cons x xs ih =>
    cases x with
    | none => simp only [feedsFrom, renameFrom, List.filterMap_cons, id]; exact ih _
    | some v => simp only [feedsFrom, renameFrom, List.filterMap_cons, id, List.map_cons]; rw [ih]

theorem renameFrom_length {α} (i : Nat) (xs : List (Option α)) : (renameFrom i xs).length = xs.length := by
  induction xs generalizing i with
  | nil => rfl
  | cons x xs ih => cases x <;> simp only [renameFrom, List.length_cons, ih]

theorem renameFrom_get {α} (i : Nat) (xs : List (Option α)) (j : Nat) (hj : j < xs.length) :
    (renameFrom i xs)[j]? = some ((xs[j]'hj).map (fun _ => i + j)) := by
  induction xs generalizing i j with
  | nil => cases hj
  | cons x xs ih =>
    cases j with
    | zero => cases x <;> simp [renameFrom]
    | succ j =>
      have hj' : j < xs.length := Nat.lt_of_succ_lt_succ hj
      have := ih (i + 1) j hj'
      cases x <;> simp only [renameFrom, List.getElem?_cons_succ, List.getElem_cons_succ, this] <;>
        simp only [Nat.add_assoc, Nat.add_comm 1 j]

theorem feedsFrom_mem {α} (i : Nat) (xs : List (Option α)) (k : Nat) (v : α) (h : (k, v) ∈ feedsFrom i xs) :
    i ≤ k ∧ xs[k - i]? = some (some v) := by
  induction xs generalizing i with
  | nil => cases h
  | cons x xs ih =>
    cases x with
    | none =>
      simp only [feedsFrom] at h
      have := ih _ h
      refine ⟨by omega, ?_⟩
      have e : k - i = (k - (i + 1)) + 1 := by omega
      rw [e, List.getElem?_cons_succ]; exact this.2
    | some w =>
      simp only [feedsFrom, List.mem_cons] at h
      rcases h with h | h
      · simp only [Prod.mk.injEq] at h
        rcases h with ⟨rfl, rfl⟩
        exact ⟨Nat.le_refl _, by simp⟩
      · have := ih _ h
        refine ⟨by omega, ?_⟩
        have e : k - i = (k - (i + 1)) + 1 := by omega
        rw [e, List.getElem?_cons_succ]; exact this.2

end OV.C17
