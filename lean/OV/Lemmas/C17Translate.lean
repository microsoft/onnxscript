import OV.Model.C17OpsetGen
/-! Lemmas for C17, the translation path: `separate_input_attributes_from_arguments`, the converter's default opset. -/
namespace OV.C17

theorem findTok_mem' {k v : Nat} {l : List (Nat × Nat)} (hk : findTok k l = some v) : (k, v) ∈ l := by
  induction l with
  | nil => cases hk
  | cons q qs ih =>
    simp only [findTok] at hk
    split at hk
    · next hq => cases hk; exact beq_iff_eq.mp hq ▸ List.mem_cons_self
    · exact List.mem_cons_of_mem _ (ih hk)

/-- What the loop does for one parameter `p`: from the positional arguments not used yet, the input slots and the
attributes collected so far and the number of placeholders at the end of the slots, to the same four afterwards. -/
inductive SepStep (kwargs : List (Nat × Nat)) (fill : Bool) (p : SigParam) (rest : List Nat)
    (ins : List (Option Nat)) (attrs : List (Nat × Nat)) (tp : Nat) :
    List Nat → List (Option Nat) → List (Nat × Nat) → Nat → Prop
  /-- a variadic input takes every positional argument that is left -/
  | variadic : SepStep kwargs fill p rest ins attrs tp [] (ins ++ rest.map some) attrs (if rest.isEmpty then tp else 0)
  /-- an input given positionally or by keyword -/
  | input {v rest'} : (v ∈ rest ∨ (p.name, v) ∈ kwargs) → (∀ a ∈ rest', a ∈ rest) →
      SepStep kwargs fill p rest ins attrs tp rest' (ins ++ [some v]) attrs 0
  /-- an optional input left out: a placeholder -/
  | placeholder : SepStep kwargs fill p rest ins attrs tp [] (ins ++ [none]) attrs (tp + 1)
  /-- an attribute given positionally or by keyword, or — filling only — its declared default -/
  | attr {v rest'} : (v ∈ rest ∨ (p.name, v) ∈ kwargs ∨ fill = true ∧ p.isInput = false ∧ p.dflt = some v) →
      (∀ a ∈ rest', a ∈ rest) → SepStep kwargs fill p rest ins attrs tp rest' ins (attrs ++ [(p.name, v)]) tp
  /-- an attribute left out -/
  | skip : SepStep kwargs fill p rest ins attrs tp [] ins attrs tp

/-- The cases of `sepLoop.induct` are the branches of the loop body; each is one kind of `SepStep`. -/
theorem sepLoop_inv {kwargs fill} {P : List Nat → List (Option Nat) → List (Nat × Nat) → Nat → Prop}
    (hstep : ∀ p {rest ins attrs tp rest' ins' attrs' tp'},
      SepStep kwargs fill p rest ins attrs tp rest' ins' attrs' tp' → P rest ins attrs tp → P rest' ins' attrs' tp')
    {ps rest ins attrs hv tp ins' attrs' hv' rest' tp'} (h0 : P rest ins attrs tp)
    (h : sepLoop kwargs fill ps rest ins attrs hv tp = .ok (ins', attrs', hv', rest', tp')) :
    P rest' ins' attrs' tp' := by
  have tl {a : Nat} {l : List Nat} : ∀ x ∈ l, x ∈ a :: l := fun _ => List.mem_cons_of_mem _
  fun_induction sepLoop kwargs fill ps rest ins attrs hv tp
  case case1 => cases h; exact h0
  case case2 ih => exact ih (hstep ‹_› .variadic h0) h
  case case3 ih => exact ih (hstep ‹_› (.input (.inl List.mem_cons_self) tl) h0) h
  case case4 ih => exact ih (hstep ‹_› (.attr (.inl List.mem_cons_self) tl) h0) h
  case case5 hk _ ih => exact ih (hstep ‹_› (.input (.inr (findTok_mem' hk)) fun _ h => h) h0) h
  case case6 hk _ ih => exact ih (hstep ‹_› (.attr (.inr (.inl (findTok_mem' hk))) fun _ h => h) h0) h
  case case7 p _ _ _ _ _ _ _ d hd hf ih =>
    have hd' : p.isInput = false ∧ p.dflt = some d := by cases hi : p.isInput <;> simp_all
    exact ih (hstep ‹_› (.attr (.inr (.inr ⟨hf, hd'⟩)) fun _ h => h) h0) h
  case case8 ih => exact ih (hstep ‹_› .skip h0) h
  case case9 => cases h
  case case10 ih => exact ih (hstep ‹_› .placeholder h0) h
  case case11 ih => exact ih (hstep ‹_› .skip h0) h

def Written (args : List Nat) (kwargs : List (Nat × Nat)) (x : Option Nat) : Prop :=
  x = none ∨ ∃ v, x = some v ∧ (v ∈ args ∨ ∃ k, (k, v) ∈ kwargs)

/-- the input slots end in exactly `tp` placeholders, and what precedes them does not end in `None` -/
def TpInv (ins : List (Option Nat)) (tp : Nat) : Prop :=
  ∃ pre, ins = pre ++ List.replicate tp none ∧ pre.getLast? ≠ some none

theorem TpInv.append_some (ins : List (Option Nat)) {xs : List Nat} (hx : xs ≠ []) :
    TpInv (ins ++ xs.map some) 0 := by
  refine ⟨ins ++ xs.map some, by simp, ?_⟩
  obtain ⟨z, hz⟩ := Option.isSome_iff_exists.mp (List.getLast?_isSome.mpr hx)
  simp [List.getLast?_append, List.getLast?_map, hz]

theorem sepLoop_spec {args : List Nat} {kwargs fill ps ins' attrs' hv' rest' tp'}
    (h : sepLoop kwargs fill ps args [] [] false 0 = .ok (ins', attrs', hv', rest', tp')) :
    (∀ x ∈ ins', Written args kwargs x) ∧ TpInv ins' tp' ∧
      (fill = false → ∀ kv ∈ attrs', kv.2 ∈ args ∨ kv ∈ kwargs) := by
  refine (sepLoop_inv (P := fun rest ins attrs tp => (∀ a ∈ rest, a ∈ args) ∧ (∀ x ∈ ins, Written args kwargs x) ∧
    TpInv ins tp ∧ (fill = false → ∀ kv ∈ attrs, kv.2 ∈ args ∨ kv ∈ kwargs)) ?_ ?_ h).2
  case refine_2 => exact ⟨fun _ h => h, by simp, ⟨[], rfl, by simp⟩, by simp⟩
  rintro p rest ins attrs tp _ _ _ _ hs ⟨hrest, hins, ⟨pre, rfl, hpre⟩, hattrs⟩
  have snoc : ∀ y, Written args kwargs y → ∀ x ∈ (pre ++ List.replicate tp none) ++ [y], Written args kwargs x :=
    fun y hy x hx => (List.mem_append.mp hx).elim (hins x) fun h => List.mem_singleton.mp h ▸ hy
  cases hs with
  | variadic =>
    refine ⟨by simp, fun x hx => ?_, ?_, hattrs⟩
    · rcases List.mem_append.mp hx with h | h
      · exact hins x h
      · obtain ⟨a, ha, rfl⟩ := List.mem_map.mp h
        exact .inr ⟨a, rfl, .inl (hrest a ha)⟩
    · cases rest with
      | nil => exact ⟨pre, by simp, hpre⟩
      | cons a as => exact TpInv.append_some _ (by simp)
  | input hv hr =>
    refine ⟨fun a ha => hrest a (hr a ha), snoc _ (.inr ⟨_, rfl, hv.imp (hrest _) fun h => ⟨_, h⟩⟩),
      TpInv.append_some _ (xs := [_]) (by simp), hattrs⟩
  | placeholder =>
    exact ⟨by simp, snoc _ (.inl rfl), ⟨pre, by rw [List.replicate_succ', List.append_assoc], hpre⟩, hattrs⟩
  | attr hv hr =>
    refine ⟨fun a ha => hrest a (hr a ha), hins, ⟨pre, rfl, hpre⟩, fun hf kv hkv => ?_⟩
    rcases List.mem_append.mp hkv with h | h
    · exact hattrs hf kv h
    · cases List.mem_singleton.mp h
      rcases hv with h | h | ⟨h, -⟩
      · exact .inl (hrest _ h)
      · exact .inr h
      · rw [hf] at h; cases h
  | skip => exact ⟨by simp, hins, ⟨pre, rfl, hpre⟩, hattrs⟩

theorem separate_ok {params : List SigParam} {args : List Nat} {kwargs : List (Nat × Nat)} {fill aKw aArgs : Bool}
    {ins : List (Option Nat)} {attrs : List (Nat × Nat)}
    (h : separate params args kwargs fill aKw aArgs = .ok (ins, attrs)) :
    ∃ slots hv rest tp, sepLoop kwargs fill params args [] [] false 0 = .ok (slots, attrs, hv, rest, tp) ∧
      ins = slots.take (slots.length - tp) := by
  unfold separate at h
  split at h
  · cases h
  · split at h
    · cases h
    · next hl =>
      split at h
      · cases h
      · cases h; exact ⟨_, _, _, _, hl, rfl⟩

/-- attribute lists of the two modes: `F` (no fill) is `T` (fill) without some declared defaults -/
def FillRel (params : List SigParam) (F T : List (Nat × Nat)) : Prop :=
  List.Sublist F T ∧ ∀ kv ∈ T, kv ∈ F ∨ ∃ p ∈ params, p.isInput = false ∧ p.name = kv.1 ∧ p.dflt = some kv.2

theorem FillRel.snoc_both {params F T} (h : FillRel params F T) (x : Nat × Nat) :
    FillRel params (F ++ [x]) (T ++ [x]) := by
  refine ⟨List.Sublist.append h.1 (List.Sublist.refl _), ?_⟩
  intro kv hkv
  rcases List.mem_append.mp hkv with h1 | h1
  · rcases h.2 kv h1 with h2 | h2
    · exact Or.inl (List.mem_append_left _ h2)
    · exact Or.inr h2
  · exact Or.inl (List.mem_append_right _ h1)

theorem FillRel.snoc_default {params F T} (h : FillRel params F T) (p : SigParam) (hp : p ∈ params)
    (hi : p.isInput = false) (d : Nat) (hd : p.dflt = some d) :
    FillRel params F (T ++ [(p.name, d)]) := by
  refine ⟨List.Sublist.trans h.1 (List.sublist_append_left _ _), ?_⟩
  intro kv hkv
  rcases List.mem_append.mp hkv with h1 | h1
  · exact h.2 kv h1
  · simp only [List.mem_singleton] at h1; subst h1
    exact Or.inr ⟨p, hp, hi, rfl, hd⟩

theorem sepLoop_fill_vs_nofill (params : List SigParam) (kwargs : List (Nat × Nat))
    (ps : List SigParam) (hps : ∀ p ∈ ps, p ∈ params) (rest : List Nat) (ins : List (Option Nat))
    (F T : List (Nat × Nat)) (hv : Bool) (tp : Nat)
    (hrel : FillRel params F T)
    {ins' : List (Option Nat)} {T' : List (Nat × Nat)} {hv' : Bool} {rest' : List Nat} {tp' : Nat}
    (h : sepLoop kwargs true ps rest ins T hv tp = .ok (ins', T', hv', rest', tp')) :
    ∃ F', sepLoop kwargs false ps rest ins F hv tp = .ok (ins', F', hv', rest', tp') ∧ FillRel params F' T' := by
  -- the cases of `sepLoop.induct` are the branches the filling run takes; the other run, unfolded once, takes the same
  -- ones.  Its outer guard is rewritten first (`if_neg hc`): `simp` would rewrite `p.isInput` inside it before using it.
  fun_induction sepLoop kwargs true ps rest ins T hv tp generalizing F
  case case1 => cases h; exact ⟨F, rfl, hrel⟩
  case case8 hf _ => exact absurd rfl hf
  case case9 => cases h
  all_goals
    have hps' := fun q hq => hps q (List.mem_cons_of_mem _ hq)
    simp only [sepLoop]
  case case2 hc ih => rw [if_pos hc]; exact ih hps' _ hrel h
  case case3 hc _ _ hi ih => rw [if_neg hc]; simpa only [hi, if_true] using ih hps' _ hrel h
  case case4 hc _ _ hi ih =>
    rw [if_neg hc]; simpa only [hi, if_false, Bool.false_eq_true] using ih hps' _ (hrel.snoc_both _) h
  case case5 hc _ hk hi ih => rw [if_neg hc, hk]; simpa only [hi, if_true] using ih hps' _ hrel h
  case case6 hc _ hk hi ih =>
    rw [if_neg hc, hk]; simpa only [hi, if_false, Bool.false_eq_true] using ih hps' _ (hrel.snoc_both _) h
  case case7 p _ _ _ _ _ hc hk d hd _ ih =>
    have hi : p.isInput = false ∧ p.dflt = some d := by cases hi : p.isInput <;> simp_all
    rw [if_neg hc, hk, hd]
    exact ih hps' _ (hrel.snoc_default p (hps p List.mem_cons_self) hi.1 d hi.2) h
  case case10 hc hk hd hr hi ih =>
    rw [if_neg hc, hk, hd]; simpa only [hr, hi, if_true, if_false, Bool.false_eq_true] using ih hps' _ hrel h
  case case11 hc hk hd hr hi ih =>
    rw [if_neg hc, hk, hd]; simpa only [hr, hi, if_false, Bool.false_eq_true] using ih hps' _ hrel h

theorem findTok_append (k : Nat) (l m : List (Nat × Nat)) :
    findTok k (l ++ m) = (findTok k l).or (findTok k m) := by
  induction l with
  | nil => rfl
  | cons q qs ih => simp only [List.cons_append, findTok]; split <;> simp [ih]

theorem appendNode_dflt (st : ConvState) (d v : Nat) : (appendNode st d v).dflt = st.dflt := by
  unfold appendNode; split
  · rfl
  · split <;> rfl

theorem findTok_appendNode (st : ConvState) (d v k : Nat) :
    findTok k (appendNode st d v).imports =
      if d = k then some ((findTok d st.imports).getD v) else findTok k st.imports := by
  unfold appendNode
  cases h : findTok d st.imports with
  | none =>
    simp only [findTok_append, findTok, beq_iff_eq]
    split
    · next hk => simp [← hk, h]
    · simp
  | some v0 =>
    have : findTok k st.imports = if d = k then some v0 else findTok k st.imports := by
      split
      · next hk => rw [← hk, h]
      · rfl
    simp only [Option.getD_some]
    split <;> exact this

theorem appendNode_mem (st : ConvState) (d v : Nat) (p : Nat × Nat)
    (h : p ∈ (appendNode st d v).imports) : p ∈ st.imports ∨ p = (d, v) := by
  unfold appendNode at h; split at h
  · simpa using h
  · split at h <;> exact .inl h

/-- a `''` import, once there, is the converter's default opset -/
def ConvInv (st : ConvState) : Prop := ∀ v0, findTok 1 st.imports = some v0 → st.dflt = some (1, v0)

theorem appendNode_inv {st : ConvState} {d v : Nat} (hinv : ConvInv st) (hd : d = 1 → st.dflt = some (1, v)) :
    ConvInv (appendNode st d v) ∧ (d = 1 → findTok 1 (appendNode st d v).imports = some v) := by
  have hone : d = 1 → findTok 1 (appendNode st d v).imports = some v := by
    intro h1
    rw [findTok_appendNode, if_pos h1, h1]
    cases hf : findTok 1 st.imports with
    | none => rfl
    | some w => cases (hinv w hf).symm.trans (hd h1); rfl
  refine ⟨fun v0 h0 => ?_, hone⟩
  rw [appendNode_dflt]
  by_cases h1 : d = 1
  · rw [hone h1] at h0; cases h0; exact hd h1
  · rw [findTok_appendNode, if_neg h1] at h0; exact hinv v0 h0

theorem setDefault_ok {st st' : ConvState} {d v : Nat} (h : setDefault st d v = .ok st') :
    st'.imports = st.imports ∧ (∀ x, st.dflt = some x → st'.dflt = some x) ∧
      (d = 1 → st'.dflt = some (1, v)) := by
  unfold setDefault at h
  split at h
  · next hd => cases h; exact ⟨rfl, fun _ hx => hx, fun h1 => absurd h1 (by simpa using hd)⟩
  · split at h
    · next d0 v0 hdf =>
      split at h
      · cases h
      · next hne =>
        cases h
        simp only [Bool.or_eq_true, bne_iff_ne, ne_eq, not_or, Decidable.not_not] at hne
        exact ⟨rfl, fun _ hx => hx, fun h1 => by rw [hdf, ← hne.1, ← hne.2, h1]⟩
    · next hdf => cases h; exact ⟨rfl, fun x hx => (by rw [hdf] at hx; cases hx), fun h1 => by simp [h1]⟩

theorem convStep_props {st st' : ConvState} {e : Ev} (hinv : ConvInv st) (h : convStep st e = .ok st') :
    ConvInv st' ∧ (∀ x, st.dflt = some x → st'.dflt = some x) ∧
      (∀ k x, findTok k st.imports = some x → findTok k st'.imports = some x) ∧
      (∀ v, e = .call 1 v → findTok 1 st'.imports = some v) ∧
      (∀ p ∈ st'.imports, p ∈ st.imports ∨ e = .call p.1 p.2 ∨ e = .implicit) := by
  -- either way the step is a node of some (d, v) on a state `s` with `st`'s imports whose default, for `d = ''`, is (d, v)
  have node : ∀ {s : ConvState} {d v : Nat}, s.imports = st.imports → (∀ x, st.dflt = some x → s.dflt = some x) →
      (d = 1 → s.dflt = some (1, v)) → st' = appendNode s d v →
      ConvInv st' ∧ (∀ x, st.dflt = some x → st'.dflt = some x) ∧
        (∀ k x, findTok k st.imports = some x → findTok k st'.imports = some x) ∧
        (d = 1 → findTok 1 st'.imports = some v) ∧ ∀ p ∈ st'.imports, p ∈ st.imports ∨ p = (d, v) := by
    rintro s d v himp hkeep hd rfl
    have hs : ConvInv s := fun v0 h0 => hkeep _ (hinv v0 (himp ▸ h0))
    refine ⟨(appendNode_inv hs hd).1, fun x hx => appendNode_dflt s d v ▸ hkeep x hx, fun k x hk => ?_,
      (appendNode_inv hs hd).2, fun p hp => himp ▸ appendNode_mem s d v p hp⟩
    rw [findTok_appendNode, himp]
    split
    · next hk' => rw [← hk'] at hk; simp [hk]
    · exact hk
  cases e with
  | call d v =>
    simp only [convStep] at h
    split at h
    · cases h
    · next s hs =>
      cases h
      obtain ⟨himp, hkeep, hone⟩ := setDefault_ok hs
      obtain ⟨h1, h2, h3, h4, h5⟩ := node himp hkeep hone rfl
      refine ⟨h1, h2, h3, fun v' he => ?_, fun p hp => (h5 p hp).imp_right fun h => .inl (by rw [h])⟩
      cases he; exact h4 rfl
  | implicit =>
    simp only [convStep] at h
    split at h
    · cases h
    · next d0 v0 hdf =>
      cases h
      obtain ⟨h1, h2, h3, -, h5⟩ := node (s := st) (d := d0) (v := v0) rfl (fun _ hx => hx) (fun h1 => h1 ▸ hdf) rfl
      exact ⟨h1, h2, h3, nofun, fun p hp => (h5 p hp).imp_right fun _ => .inr rfl⟩

theorem convRun_props {st st' : ConvState} {evs : List Ev} (hinv : ConvInv st) (h : convRun st evs = .ok st') :
    (∀ k x, findTok k st.imports = some x → findTok k st'.imports = some x) ∧
      (∀ v, Ev.call 1 v ∈ evs → findTok 1 st'.imports = some v) ∧
      (∀ p ∈ st'.imports, p ∈ st.imports ∨ Ev.call p.1 p.2 ∈ evs ∨ Ev.implicit ∈ evs) := by
  induction evs generalizing st with
  | nil => cases h; exact ⟨fun _ _ hk => hk, nofun, fun p hp => .inl hp⟩
  | cons e es ih =>
    simp only [convRun] at h
    split at h
    · cases h
    · next s1 hs =>
      obtain ⟨hinv1, -, hi1, hc1, hm1⟩ := convStep_props hinv hs
      obtain ⟨hi2, hc2, hm2⟩ := ih hinv1 h
      refine ⟨fun k x hk => hi2 k x (hi1 k x hk), fun v hv => ?_, fun p hp => ?_⟩
      · rcases List.mem_cons.mp hv with rfl | hv'
        · exact hi2 1 v (hc1 v rfl)
        · exact hc2 v hv'
      · rcases hm2 p hp with h1 | h1 | h1
        · rcases hm1 p h1 with h2 | h2 | h2
          · exact .inl h2
          · exact .inr (.inl (h2 ▸ List.mem_cons_self))
          · exact .inr (.inr (h2 ▸ List.mem_cons_self))
        · exact .inr (.inl (List.mem_cons_of_mem _ h1))
        · exact .inr (.inr (List.mem_cons_of_mem _ h1))

theorem convRun_error {st : ConvState} {evs : List Ev} {err : ConvErr} (hinv : ConvInv st)
    (hd : st.dflt.isSome = true) (h : convRun st evs = .error err) : err = .twoOpsets := by
  obtain ⟨x, hx⟩ := Option.isSome_iff_exists.mp hd
  induction evs generalizing st x with
  | nil => cases h
  | cons e es ih =>
    simp only [convRun] at h
    split at h
    · next e2 hs =>
      -- the step itself stops: `setDefault` has one error, and `implicit` has a default to use
      cases h
      cases e with
      | call d v =>
        simp only [convStep] at hs
        split at hs
        · next hsd =>
          cases hs
          unfold setDefault at hsd
          split at hsd
          · cases hsd
          · split at hsd
            · split at hsd
              · cases hsd; rfl
              · cases hsd
            · cases hsd
        · cases hs
      | implicit => simp [convStep, hx] at hs
    · next s1 hs =>
      obtain ⟨hinv1, hk1, -⟩ := convStep_props hinv hs
      exact ih hinv1 (by rw [hk1 x hx]; rfl) h x (hk1 x hx)

theorem findOnnxOpset_some {evs : List Ev} {v : Nat} (h : Ev.call 1 v ∈ evs) :
    (findOnnxOpset evs).isSome = true := by
  induction evs with
  | nil => cases h
  | cons e es ih =>
    rcases List.mem_cons.mp h with rfl | h1
    · rfl
    · cases e with
      | call d w =>
        simp only [findOnnxOpset]
        split
        · rfl
        · exact ih h1
      | implicit => exact ih h1

theorem convert_ok {declared : Option (Nat × Nat)} {evs : List Ev} {st : ConvState}
    (h : convert declared evs = .ok st) :
    (∀ v, Ev.call 1 v ∈ evs → findTok 1 st.imports = some v) ∧
      ∀ p ∈ st.imports, Ev.call p.1 p.2 ∈ evs ∨ Ev.implicit ∈ evs := by
  obtain ⟨-, hcall, hmem⟩ := convRun_props (st := ⟨_, [], []⟩) nofun h
  exact ⟨hcall, fun p hp => (hmem p hp).resolve_left nofun⟩

theorem convert_error {declared : Option (Nat × Nat)} {evs : List Ev} {err : ConvErr} {v : Nat}
    (hv : Ev.call 1 v ∈ evs) (h : convert declared evs = .error err) : err = .twoOpsets := by
  refine convRun_error (st := ⟨_, [], []⟩) nofun ?_ h
  cases declared with
  | some x => rfl
  | none => exact findOnnxOpset_some hv

end OV.C17
