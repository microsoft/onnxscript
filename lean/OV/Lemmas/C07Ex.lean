import OV.Lemmas.C07Eval
import OV.Lemmas.C07Match
/-! The running example of C07: the host `z = Abs(Relu(Neg x)), w = Exp x`, the rule `Relu(Neg v0)` → its
re-emission, the match at the `Relu`, and the facts about them that the non-vacuity examples of
`OV.Props.C07` share, each decided once. -/
namespace OV.Props.C07
open OV.C07

def exNeg : Node := .mk 1 "Neg" "" "" [some "x"] ["n"] [] [] [] []
def exRelu : Node := .mk 2 "Relu" "" "" [some "n"] ["r"] [] [] [] []
def exAbs : Node := .mk 3 "Abs" "" "" [some "r"] ["z"] [] [] [] []
def exOther : Node := .mk 4 "Exp" "" "" [some "x"] ["w"] [] [] [] []
def exRepl : List Node := [.mk 5 "Neg" "" "" [some "x"] ["n"] [] [] [] [], .mk 6 "Relu" "" "" [some "n"] ["r"] [] [] [] []]
def exHost : Graph := .mk ["x"] [] [exNeg, exOther, exRelu, exAbs] ["z", "w"]

def exRule : Rule :=
  { name := "r", removeNodes := true, asFunction := false, guardTag := true,
    pat := { nodes := [⟨"Neg", "", [.var 0], 1, []⟩, ⟨"Relu", "", [.out 0 0], 1, []⟩], root := 1, outputs := [.out 1 0] },
    repl := { inits := [], uniqueInits := false,
              nodes := [⟨"Neg", "", none, [.var 0], 1, []⟩, ⟨"Relu", "", none, [.out 0 0], 1, []⟩],
              outputs := [.out 1 0] } }

def exMatch : Match := { root := 2, nodes := [2, 1], bindings := [(0, some "x")], outputs := ["r"] }

/-! the match `[2, 1]` at `exRelu` in the host split as `[exNeg, exOther] ++ exRelu :: [exAbs]`, hidden name `n` -/

theorem ex_pre : ∀ n ∈ [exNeg, exOther], n.id ≠ exRelu.id := by decide
theorem ex_post : ∀ n ∈ [exAbs], n.id ≠ exRelu.id := by decide
theorem ex_new : ∀ n ∈ exRepl, [2, 1].contains n.id = false := by decide
theorem ex_postU : ∀ b ∈ [exAbs], [2, 1].contains b.id = false := by decide
theorem ex_sorted : List.Pairwise (fun a b => follows a b = true) [exNeg, exOther] := by decide
theorem ex_interior : ∀ a ∈ [exNeg, exOther], [2, 1].contains a.id = true → ∀ x ∈ a.outputs, x ∈ ["n"] := by decide
theorem ex_unread : ∀ b ∈ [exNeg, exOther] ++ [exAbs], [2, 1].contains b.id = false → ∀ x ∈ b.reads, x ∉ ["n"] := by
  decide
theorem ex_match : matchAt exHost exRule exRelu = some exMatch := by decide

/-- the re-emission is the matched pair up to node ids, which play no part in evaluation -/
theorem ex_repl {V} (sem : Sem V) (sub) (H : List Name) (ρ : Env V) :
    ORel H (evalNodes (evalNode sem sub) ρ [exNeg, exRelu]) (evalNodes (evalNode sem sub) ρ exRepl) :=
  ORel.refl H _

end OV.Props.C07
