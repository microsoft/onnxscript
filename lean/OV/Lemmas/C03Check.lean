import OV.Lemmas.C03FragA
/-!
Discharging the hypotheses of the fragment-A theorem; used from Props/C03 and Props/C04 only.  `Constant` nodes in the three
forms the semantics interprets satisfy `ConstMarkSound` / `ConstMarkTyped` as soon as the tokens are coherent / typed
(`constMarkSound_of_coherent`, `constMarkTyped_of_typed`); the decidable classifiers `fragAWFB`, `infoOKB` of
OV/Model/C03Frag.lean imply the structural hypotheses (`fragAWFB_sound`, `infoOKB_sound`).
-/
namespace OV.C03

variable {V : Type}

/-- What a `Constant` node in one of the three forms the semantics interprets binds its output to (`w`), and which constant
`_process_constant_node` records for it (`c?`, none when the token is unknown); `P` is any relation between the two that holds
in the three forms. -/
theorem constant_node (sem : Sem V) (ctx : Ctx) (o : Name) (a : String × Attr)
    (ha : (∃ t, a = ("value", .tensor t)) ∨ (∃ l, a = ("value_ints", .ints l)) ∨ (∃ i, a = ("value_int", .int i)))
    (P : V → CInfo → Prop) (htensor : ∀ t c, lookupTok ctx t = some c → P (sem.tensor t) c)
    (hints : ∀ l c, c.tok = "ints:" ++ showInts l → c.dtype = DT_INT64 → P (sem.intsTensor l) c)
    (hint : ∀ (i : Int) c, c.tok = "int:" ++ toString i → c.dtype = DT_INT64 → P (sem.intTensor i) c) :
    ∃ (w : V) (c? : Option CInfo),
      (∀ (sub : Env V → Graph → List (Option V) → Option (List V)) ρ ρ1,
        evalNode sem sub ρ (.mk "Constant" "" [] [o] [a] []) = some ρ1 → ρ1 = ρ.set o w) ∧
      (∀ st0, processConstant ctx st0 (.mk "Constant" "" [] [o] [a] []) =
        match c? with | none => st0 | some c => st0.setInfo o (foldInfo c)) ∧
      ∀ c, c? = some c → P w c := by
  have hev : ∀ (w : V), constDenote sem (.mk "Constant" "" [] [o] [a] []) = some w →
      ∀ (sub : Env V → Graph → List (Option V) → Option (List V)) ρ ρ1,
        evalNode sem sub ρ (.mk "Constant" "" [] [o] [a] []) = some ρ1 → ρ1 = ρ.set o w := by
    intro w hw sub ρ ρ1 h
    simp only [evalNode, Node.inputs, lookupAll, Option.bind, nodeOutputs, Node.subs, List.isEmpty_nil, if_true, hw,
      Node.outputs, bindOuts, Option.some.injEq] at h
    exact h.symm
  rcases ha with ⟨t, rfl⟩ | ⟨l, rfl⟩ | ⟨i, rfl⟩
  · refine ⟨sem.tensor t, lookupTok ctx t, hev _ rfl, fun st0 => ?_, fun c hc => htensor t c hc⟩
    simp only [processConstant, Node.isOp, Node.isOnnxDomain, Node.op, Node.domain, Node.subs, Node.attrs, Node.outputs]
    cases lookupTok ctx t <;> rfl
  · exact ⟨sem.intsTensor l, some _, hev _ rfl, fun st0 => rfl, fun c hc => by cases hc; exact hints l _ rfl rfl⟩
  · exact ⟨sem.intTensor i, some _, hev _ rfl, fun st0 => rfl, fun c hc => by cases hc; exact hint i _ rfl rfl⟩

/-- the constant tokens the pass attributes to `Constant` nodes denote what the attributes denote -/
structure TokCoherent (sem : Sem V) (ctx : Ctx) : Prop where
  tensor : ∀ t c, lookupTok ctx t = some c → sem.tensor c.tok = sem.tensor t
  ints : ∀ l, sem.tensor ("ints:" ++ showInts l) = sem.intsTensor l
  int : ∀ i : Int, sem.tensor ("int:" ++ toString i) = sem.intTensor i

theorem constMarkSound_of_coherent (sem : Sem V) (ctx : Ctx) (hco : TokCoherent sem ctx) (o : Name) (a : String × Attr)
    (ha : (∃ t, a = ("value", .tensor t)) ∨ (∃ l, a = ("value_ints", .ints l)) ∨ (∃ i, a = ("value_int", .int i))) :
    ConstMarkSound sem ctx (.mk "Constant" "" [] [o] [a] []) := by
  obtain ⟨w, c?, hev', hpc, hP⟩ := constant_node sem ctx o a ha (fun w c => sem.tensor c.tok = w) hco.tensor
    (fun l c ht _ => by rw [ht]; exact hco.ints l) (fun i c ht _ => by rw [ht]; exact hco.int i)
  intro sub st0 x c ρ ρ1 hold hc hxo hev
  have hx : x = o := by simpa [Node.outputs] using hxo
  subst hx
  rw [hev' sub ρ ρ1 hev, Env.set_get_same]
  rw [hpc] at hc
  cases c? with
  | none =>
    rw [hold] at hc
    exact absurd hc (by simp)
  | some c0 =>
    rw [constOf_setInfo, if_pos rfl] at hc
    rw [← Option.some.inj hc]
    exact congrArg some (hP c0 rfl).symm

/-- the constants `_process_constant_node` recognises carry their true element type -/
structure TokTyped {sem : Sem V} (L : OpLaws sem) (ctx : Ctx) : Prop where
  tensor : ∀ t c, lookupTok ctx t = some c → L.hasDtype (sem.tensor t) c.dtype
  ints : ∀ l, L.hasDtype (sem.intsTensor l) DT_INT64
  int : ∀ i : Int, L.hasDtype (sem.intTensor i) DT_INT64

theorem constMarkTyped_of_typed {sem : Sem V} (L : OpLaws sem) (ctx : Ctx) (hty : TokTyped L ctx) (o : Name) (a : String × Attr)
    (ha : (∃ t, a = ("value", .tensor t)) ∨ (∃ l, a = ("value_ints", .ints l)) ∨ (∃ i, a = ("value_int", .int i))) :
    ConstMarkTyped L ctx (.mk "Constant" "" [] [o] [a] []) := by
  obtain ⟨w, c?, hev', hpc, hP⟩ := constant_node sem ctx o a ha (fun w c => L.hasDtype w c.dtype) hty.tensor
    (fun l c _ hd => by rw [hd]; exact hty.ints l) (fun i c _ hd => by rw [hd]; exact hty.int i)
  intro sub st0 x dt ρ ρ1 v hch hdt hev hv
  have hxo : x = o := by
    rcases processConstant_info ctx st0 (.mk "Constant" "" [] [o] [a] []) x with h | h
    · exact absurd h hch
    · simpa [Node.outputs] using h
  subst hxo
  rw [hev' sub ρ ρ1 hev, Env.set_get_same] at hv
  rw [hpc] at hch hdt
  cases c? with
  | none => exact absurd rfl hch
  | some c0 =>
    rw [getInfo_setInfo, if_pos rfl] at hdt
    rw [← Option.some.inj hv, ← Option.some.inj hdt]
    exact hP c0 rfl

theorem lookupEvaluator_none_of_100 (n : Node) (h : (lookupEvaluator n 100).isNone = true) : ∀ v, lookupEvaluator n v = none := by
  intro v
  unfold lookupEvaluator at h ⊢
  split
  · rfl
  · rename_i hd
    rw [if_neg hd] at h
    -- at opset 100 every registered evaluator is found: `h` rules out all rows of the table but the default one
    split at h
    all_goals first | exact absurd h (by decide) | rfl

theorem io1_some {n : Node} {x o : Name} (h : io1 n = some (x, o)) : n.inputs = [some x] ∧ n.outputs = [o] := by
  unfold io1 at h
  split at h
  · rename_i x' o' hi ho
    simp only [Option.some.injEq, Prod.mk.injEq] at h
    rw [hi, ho, h.1, h.2]
    exact ⟨rfl, rfl⟩
  · simp at h

theorem nodeFragAB_sound (n : Node) (h : nodeFragAB n = true) : FragA n := by
  unfold nodeFragAB at h
  simp only [Bool.and_eq_true, Bool.or_eq_true, Bool.not_eq_true', List.isEmpty_iff, beq_iff_eq, bne_iff_ne, ne_eq] at h
  obtain ⟨⟨hsubs, href⟩, hcls⟩ := h
  refine ⟨hsubs, href, ?_⟩
  rcases hcls with ((((hP | hK) | hI) | hR) | hC) | hCL
  · exact Or.inl ⟨hP.1, lookupEvaluator_none_of_100 n hP.2⟩
  · refine Or.inr (Or.inl ⟨hK.1.1, hK.1.2, ?_⟩)
    have hl := hK.2
    cases ho : n.outputs with
    | nil => simp [ho] at hl
    | cons o r =>
      cases r with
      | nil => exact ⟨o, rfl⟩
      | cons b r' => simp [ho] at hl
  · obtain ⟨⟨hop, hdom⟩, hio⟩ := hI
    cases hio1 : io1 n with
    | none => simp [hio1] at hio
    | some p =>
      obtain ⟨x, o⟩ := p
      simp only [hio1] at hio
      obtain ⟨hi, ho⟩ := io1_some hio1
      exact Or.inr (Or.inr (Or.inl ⟨hop, hdom, x, o, hi, ho, by simpa using hio⟩))
  · obtain ⟨hdom, hrest⟩ := hR
    cases ho : n.outputs with
    | nil => simp [ho] at hrest
    | cons o r =>
      cases r with
      | cons b r' => simp [ho] at hrest
      | nil =>
        simp only [ho, Bool.and_eq_true, List.all_eq_true, Bool.or_eq_true, beq_iff_eq, bne_iff_ne, ne_eq] at hrest
        obtain ⟨hne, hkind⟩ := hrest
        have hne' : ∀ y, some y ∈ n.inputs → y ≠ o := fun y hy e => hne (some y) hy (by rw [e])
        rcases hkind with ⟨hop, hin⟩ | ⟨hop, hin⟩
        · cases hi : n.inputs with
          | nil => simp [hi] at hin
          | cons a r =>
            cases a with
            | none => simp [hi] at hin
            | some x =>
              cases r with
              | nil => exact Or.inr (Or.inr (Or.inr (Or.inl ⟨hdom, x, o, ho, hne', Or.inl ⟨hop, hi⟩⟩)))
              | cons b r' => simp [hi] at hin
        · cases hi : n.inputs with
          | nil => simp [hi] at hin
          | cons a tl =>
            cases a with
            | none => simp [hi] at hin
            | some x =>
              simp only [hi, decide_eq_true_eq] at hin
              exact Or.inr (Or.inr (Or.inr (Or.inl ⟨hdom, x, o, ho, hne', Or.inr ⟨hop, tl, hi, hin⟩⟩)))
  · obtain ⟨⟨⟨hop, hdom⟩, hio⟩, hto⟩ := hC
    cases hio1 : io1 n with
    | none => simp [hio1] at hio
    | some p =>
      obtain ⟨x, o⟩ := p
      simp only [hio1] at hio
      obtain ⟨hi, ho⟩ := io1_some hio1
      refine Or.inr (Or.inr (Or.inr (Or.inr (Or.inl ⟨hop, hdom, x, o, hi, ho, ?_, hto⟩))))
      intro y hy e
      rw [hi] at hy
      have : y = x := by simpa using hy
      have hox : ¬ o = x := by simpa using hio
      exact hox (by rw [← e, this])
  · obtain ⟨⟨⟨hop, hdom⟩, hattrs⟩, hio⟩ := hCL
    cases hi : n.inputs with
    | nil => simp [hi] at hio
    | cons a r =>
      cases a with
      | none => simp [hi] at hio
      | some x =>
        cases r with
        | nil => simp [hi] at hio
        | cons b r2 =>
          cases b with
          | none => simp [hi] at hio
          | some w =>
            cases r2 with
            | cons c r3 => simp [hi] at hio
            | nil =>
              cases ho : n.outputs with
              | nil => simp [hi, ho] at hio
              | cons o r' =>
                cases r' with
                | cons b' r'' => simp [hi, ho] at hio
                | nil =>
                  simp only [hi, ho, Bool.and_eq_true, bne_iff_ne, ne_eq] at hio
                  refine Or.inr (Or.inr (Or.inr (Or.inr (Or.inr ⟨hop, hdom, hattrs, x, w, o, hi, ho, ?_⟩))))
                  intro y hy e
                  rw [hi] at hy
                  have : y = x ∨ y = w := by simpa using hy
                  rcases this with rfl | rfl
                  · exact hio.1 e.symm
                  · exact hio.2 e.symm

theorem nameOKB_nf {y : Name} (h : nameOKB y = true) : NF y := by
  intro k e
  have : y.toList.head? = some '%' := by
    rw [e]; simp [String.toList_append]
  simp [nameOKB, this] at h

theorem fragAWFB_sound (g : Graph) (h : fragAWFB g = true) :
    (∀ n ∈ g.nodes, FragA n) ∧ orderOK g.nodes = true ∧
    (∀ n ∈ g.nodes, ∀ o, n.outputs.contains o = true → g.inputs.contains o = false) ∧ (∀ n ∈ g.nodes, NodeNF n) ∧
    (∀ k : Nat, cnt ("%" ++ toString k) g.nodes = 0) := by
  unfold fragAWFB at h
  simp only [Bool.and_eq_true, List.all_eq_true] at h
  obtain ⟨⟨⟨h1, h2⟩, h3⟩, h4⟩ := h
  have hnf : ∀ n ∈ g.nodes, NodeNF n := by
    intro n hn y hy
    have := h4 n hn
    simp only [nodeNamesOKB, Bool.and_eq_true, List.all_eq_true] at this
    simp only [mentionsTop, Bool.or_eq_true, List.contains_iff_mem] at hy
    rcases hy with hy | hy
    · exact nameOKB_nf (this.1 (some y) hy)
    · exact nameOKB_nf (this.2 y hy)
  refine ⟨fun n hn => nodeFragAB_sound n (h1 n hn), h2, ?_, hnf, ?_⟩
  · intro n hn o ho
    have := h3 n hn o (by simpa using ho)
    simpa using this
  · intro k
    unfold cnt
    apply List.count_eq_zero.mpr
    intro hmem
    obtain ⟨n, hn, hx⟩ := List.mem_flatMap.mp hmem
    exact hnf n hn _ (mentions_of_input hx) k rfl

theorem lookupA_mem {α} {l : List (Name × α)} {x : Name} {v : α} (h : lookupA l x = some v) : (x, v) ∈ l := by
  unfold lookupA at h
  cases hf : l.find? (fun p => p.1 == x) with
  | none => simp [hf] at h
  | some p =>
    simp only [hf, Option.map_some, Option.some.injEq] at h
    have hm := List.mem_of_find?_eq_some hf
    have hp := List.find?_some hf
    have : p.1 = x := by simpa using hp
    have : p = (x, v) := by cases p; simp_all
    rw [← this]; exact hm

theorem infoOKB_sound (info : List (Name × VInfo)) (g : Graph) (h : infoOKB info g = true) :
    (∀ x c, ((lookupA info x).getD {}).const = some c → NF x) ∧
    (∀ x c, ((lookupA info x).getD {}).const = some c → ∀ m ∈ g.nodes, m.outputs.contains x = false) ∧
    (∀ x dt, ((lookupA info x).getD {}).dtype = some dt → NF x) := by
  unfold infoOKB at h
  simp only [List.all_eq_true, Bool.and_eq_true, Bool.or_eq_true] at h
  have key : ∀ x, ∀ vi, lookupA info x = some vi → _ := fun x vi hl => h (x, vi) (lookupA_mem hl)
  refine ⟨?_, ?_, ?_⟩
  · intro x c hc
    cases hl : lookupA info x with
    | none => simp [hl] at hc
    | some vi =>
      simp only [hl, Option.getD_some] at hc
      rcases (key x vi hl).1 with h1 | h1
      · simp [hc] at h1
      · exact nameOKB_nf h1.1
  · intro x c hc m hm
    cases hl : lookupA info x with
    | none => simp [hl] at hc
    | some vi =>
      simp only [hl, Option.getD_some] at hc
      rcases (key x vi hl).1 with h1 | h1
      · simp [hc] at h1
      · have := h1.2 m hm
        simpa using this
  · intro x dt hd
    cases hl : lookupA info x with
    | none => simp [hl] at hd
    | some vi =>
      simp only [hl, Option.getD_some] at hd
      rcases (key x vi hl).2 with h1 | h1
      · simp [hd] at h1
      · exact nameOKB_nf h1

end OV.C03
