import OV.Model.C13Values
import Std.Data.String.ToInt
namespace OV.C13V

/-- characters of a printed integer -/
def isIntChar (c : Char) : Bool := c.isDigit || c == '-'

theorem nat_repr_chars (n : Nat) : ∀ c ∈ (Nat.repr n).toList, isIntChar c = true := by
  intro c hc
  rw [Nat.toList_repr] at hc
  have := Nat.isDigit_of_mem_toDigits (by decide) (by decide) hc
  simp [isIntChar, this]

theorem int_repr_chars (i : Int) : ∀ c ∈ (Int.repr i).toList, isIntChar c = true := by
  intro c hc
  rw [Int.repr_eq_if] at hc
  split at hc
  · exact nat_repr_chars _ c hc
  · rw [String.toList_append] at hc
    rcases List.mem_append.mp hc with h | h
    · have : c = '-' := by simp at h; exact h
      subst this; decide
    · exact nat_repr_chars _ c h

theorem int_repr_ne_nil (i : Int) : (Int.repr i).toList ≠ [] := by
  rw [Int.repr_eq_if]
  split
  · intro h
    have := @Nat.repr_ne_empty i.toNat
    apply this
    rw [← String.toList_inj]; simp at h
  · rw [String.toList_append]; simp

theorem comma_not_int : isIntChar ',' = false := by decide
theorem bracket_not_int : isIntChar '[' = false := by decide

theorem splitSep_cons_ne (c : Char) (rest : List Char) (hc : c ≠ ',') :
    splitSep (c :: rest) = match splitSep rest with
      | [] => [[c]]
      | w :: ws => (c :: w) :: ws := by
  rw [splitSep]
  · rfl
  · intro r h
    exact absurd h hc

theorem splitSep_word_sep : ∀ (w rest : List Char), (∀ c ∈ w, c ≠ ',') →
    splitSep (w ++ ',' :: ' ' :: rest) = w :: splitSep rest
  | [], rest, _ => by simp [splitSep]
  | c :: w, rest, h => by
    have hc : c ≠ ',' := h c (by simp)
    have ih := splitSep_word_sep w rest (fun d hd => h d (by simp [hd]))
    rw [List.cons_append, splitSep_cons_ne c _ hc, ih]

theorem splitSep_word : ∀ (w : List Char), (∀ c ∈ w, c ≠ ',') → splitSep w = [w]
  | [], _ => by simp [splitSep]
  | c :: w, h => by
    have hc : c ≠ ',' := h c (by simp)
    have ih := splitSep_word w (fun d hd => h d (by simp [hd]))
    rw [splitSep_cons_ne c _ hc, ih]

theorem int_repr_no_comma (i : Int) : ∀ c ∈ (Int.repr i).toList, c ≠ ',' := by
  intro c hc h
  have := int_repr_chars i c hc
  rw [h, comma_not_int] at this
  cases this

theorem splitSep_renderItems : ∀ (l : List Int), l ≠ [] →
    splitSep (renderItems l) = l.map (fun i => (Int.repr i).toList)
  | [], h => absurd rfl h
  | [i], _ => by
    simp only [renderItems, List.map_cons, List.map_nil]
    exact splitSep_word _ (int_repr_no_comma i)
  | i :: j :: rest, _ => by
    simp only [renderItems, List.map_cons]
    rw [splitSep_word_sep _ _ (int_repr_no_comma i), splitSep_renderItems (j :: rest) (by simp)]
    simp only [List.map_cons]

theorem parseIntL_repr (i : Int) : parseIntL (Int.repr i).toList = some i := by
  unfold parseIntL
  rw [String.ofList_toList]
  exact Int.toInt?_repr i

theorem parseAll_reprs : ∀ (l : List Int), parseAll (l.map (fun i => (Int.repr i).toList)) = some l
  | [] => rfl
  | i :: rest => by
    simp only [List.map_cons, parseAll, parseIntL_repr, parseAll_reprs rest]

theorem renderItems_ne_nil : ∀ (l : List Int), l ≠ [] → renderItems l ≠ []
  | [], h => absurd rfl h
  | [i], _ => by simpa [renderItems] using int_repr_ne_nil i
  | i :: j :: rest, _ => by simp [renderItems]

theorem parseL_scalar (i : Int) : parseL (Int.repr i).toList = some (.scalar i) := by
  have hne := int_repr_ne_nil i
  have hch := int_repr_chars i
  cases hl : (Int.repr i).toList with
  | nil => exact absurd hl hne
  | cons c cs =>
    have hc : c ≠ '[' := by
      intro h
      have := hch c (by rw [hl]; simp)
      rw [h, bracket_not_int] at this
      cases this
    have hp := parseIntL_repr i
    rw [hl] at hp
    unfold parseL
    split
    · rename_i rest heq
      simp only [List.cons.injEq] at heq
      exact absurd heq.1 hc
    · rw [hp]; rfl

theorem parseL_list (l : List Int) : parseL ('[' :: (renderItems l ++ [']'])) = some (.list l) := by
  unfold parseL
  simp only [List.getLast?_append, List.getLast?_singleton, Option.some_or, List.dropLast_concat, if_true]
  by_cases hl : l = []
  · subst hl; simp [renderItems]
  · simp only [renderItems_ne_nil l hl, if_false, splitSep_renderItems l hl, parseAll_reprs, Option.map_some]

end OV.C13V
