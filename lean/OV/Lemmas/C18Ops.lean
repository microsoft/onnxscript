import OV.Model.C18Builder
import Batteries.Data.List.Basic
/-! C18: what the builder's operations do to the state.  `newValuesK` in closed form; the builder tree read flat
(`St.all`: the inputs, the nodes of all graphs together); and two relations between a state and a later one.  `Adds`: an
operation only *appends* (values, cached literals, nodes of the current graph, handles) — established once for every
sub-operation and for `doOp`, `doCall`, `doInline` as a whole.  `Moved`: an item creates nothing and only moves things
(a scope, the declared outputs, a graph from "current" to "finished") — `step_moved`.  The invariants of the other C18
modules are carried through these two. -/
namespace OV.C18

abbrev St.L (st : St) : Nat := st.vnames.length

def isAutoKey : VKey → Bool
  | .auto _ _ _ _ => true
  | .raw _ => false

/-- all graphs of the builder tree: current, enclosing, finished. -/
def St.frames (st : St) : List Frame := st.cur :: (st.stack ++ st.done)

/-- What the graphs of the builder tree hold all together (`p`: the inputs of a graph, its nodes).  Neither the
well-formedness invariant nor the node count asks *which* graph holds a node or an input: an operation is known to them
by what it does to these lists — it appends to them, or only permutes them. -/
def St.all {α : Type} (p : Frame → List α) (st : St) : List α := st.frames.flatMap p

theorem St.cur_mem_frames (st : St) : st.cur ∈ st.frames := List.mem_cons_self

theorem St.mem_all {α : Type} {p : Frame → List α} {st : St} {x : α} : x ∈ st.all p ↔ ∃ f ∈ st.frames, x ∈ p f :=
  List.mem_flatMap

theorem nodeCount_eq_length (st : St) : nodeCount true st = (st.all Frame.nodes).length := by
  simp [nodeCount, St.all, St.frames, sumNodes, List.length_flatMap, Nat.add_assoc]

section
variable {α : Type} {p : Frame → List α} {st st' : St} {xs : List α}

theorem St.all_same (hs : st'.stack = st.stack) (hd : st'.done = st.done) (hc : p st'.cur = p st.cur) :
    st'.all p = st.all p := by
  simp only [St.all, St.frames, hs, hd, hc, List.flatMap_cons]

theorem St.all_cur (hs : st'.stack = st.stack) (hd : st'.done = st.done) (hc : p st'.cur = p st.cur ++ xs) :
    (st'.all p).Perm (st.all p ++ xs) := by
  simp only [St.all, St.frames, hs, hd, hc, List.flatMap_cons, List.append_assoc]
  exact List.perm_append_comm.append_left _

theorem St.all_enter (hs : st'.stack = st.cur :: st.stack) (hd : st'.done = st.done) (hc : p st'.cur = xs) :
    (st'.all p).Perm (st.all p ++ xs) := by
  simp only [St.all, St.frames, hs, hd, hc, List.flatMap_cons, List.cons_append]
  exact List.perm_append_comm

/-- the current graph — as `c'`, which holds the same — joins the finished ones, the innermost enclosing graph becomes
current. -/
theorem St.all_leave {parent c' : Frame} {rest : List Frame} (hs : st.stack = parent :: rest) (e1 : st'.cur = parent)
    (e2 : st'.stack = rest) (e3 : st'.done = st.done ++ [c']) (hc : p c' = p st.cur) : (st'.all p).Perm (st.all p) := by
  have := (List.perm_append_comm (l₁ := p st.cur) (l₂ := (parent :: (rest ++ st.done)).flatMap p)).symm
  simpa only [St.all, St.frames, hs, e1, e2, e3, hc, List.flatMap_cons, List.flatMap_append, List.flatMap_nil,
    List.cons_append, List.append_nil, List.append_assoc] using this

end

theorem newValuesK_eq : ∀ (ks : List VKey) (st : St), newValuesK st ks =
    ({ st with vnames := st.vnames ++ ks.map VKey.render, vkeys := st.vkeys ++ ks }, List.range' st.L ks.length)
  | [], st => by simp [newValuesK]
  | k :: r, st => by
    simp [newValuesK, newValuesK_eq r, newValueK, List.range'_succ, St.L]

theorem newValues_eq (st : St) (names : List String) : newValues st names =
    ({ st with vnames := st.vnames ++ names, vkeys := st.vkeys ++ names.map .raw }, List.range' st.L names.length) := by
  have : (names.map VKey.raw).map VKey.render = names := by
    rw [List.map_map]
    exact List.map_id'' (fun _ => rfl) names
  simp only [newValues, newValuesK_eq, this, List.length_map]

/-- `st'` is `st` after (part of) one call on the current builder: the values keyed `rs` were created (ids `st.L`,
`st.L + 1`, …), the literals `ext` cached as root initializers, the nodes `ns` appended to the current graph, the
handles `hs` handed out.  Values may have been renamed and a refusal recorded; the scope stack, the inputs and outputs
of the current graph and every other graph are as they were. -/
structure Adds (st st' : St) (rs : List VKey) (ext : List (CKey × Nat)) (ns : List Node)
    (hs : List (Option Nat)) : Prop where
  L : st'.L = st.L + rs.length
  vkeys : st'.vkeys = st.vkeys ++ rs
  handles : st'.handles = st.handles ++ hs
  cache : st'.cache = st.cache ++ ext
  inits : st'.inits = st.inits ++ ext.map (·.2)
  cur : st'.cur = { st.cur with nodes := st.cur.nodes ++ ns }
  stack : st'.stack = st.stack
  done : st'.done = st.done

variable {st st' s : St} {rs : List VKey} {ext : List (CKey × Nat)} {ns : List Node} {hs : List (Option Nat)}

theorem Adds.same (hL : st'.L = st.L) (hk : st'.vkeys = st.vkeys) (hh : st'.handles = st.handles)
    (hc : st'.cache = st.cache) (hi : st'.inits = st.inits) (hcur : st'.cur = st.cur) (hs : st'.stack = st.stack)
    (hd : st'.done = st.done) : Adds st st' [] [] [] [] :=
  ⟨hL, by simp [hk], by simp [hh], by simp [hc], by simp [hi], by simp [hcur], hs, hd⟩

theorem Adds.cast {rs' : List VKey} {ext' : List (CKey × Nat)} {ns' : List Node} {hs' : List (Option Nat)}
    (h : Adds st st' rs ext ns hs) (e1 : rs = rs') (e2 : ext = ext') (e3 : ns = ns')
    (e4 : hs = hs') : Adds st st' rs' ext' ns' hs' := by
  subst e1 e2 e3 e4; exact h

theorem Adds.refl (st : St) : Adds st st [] [] [] [] := Adds.same rfl rfl rfl rfl rfl rfl rfl rfl

theorem Adds.trans {a b c : St} {r1 r2 : List VKey} {e1 e2 : List (CKey × Nat)} {n1 n2 : List Node}
    {h1 h2 : List (Option Nat)} (x : Adds a b r1 e1 n1 h1) (y : Adds b c r2 e2 n2 h2) :
    Adds a c (r1 ++ r2) (e1 ++ e2) (n1 ++ n2) (h1 ++ h2) where
  L := by rw [y.L, x.L, List.length_append, Nat.add_assoc]
  vkeys := by rw [y.vkeys, x.vkeys, List.append_assoc]
  handles := by rw [y.handles, x.handles, List.append_assoc]
  cache := by rw [y.cache, x.cache, List.append_assoc]
  inits := by rw [y.inits, x.inits, List.map_append, List.append_assoc]
  cur := by rw [y.cur, x.cur]; simp only [List.append_assoc]
  stack := y.stack.trans x.stack
  done := y.done.trans x.done

theorem Adds.foldl {β : Type} (g : St → β → St) (hg : ∀ s x, Adds s (g s x) [] [] [] []) :
    ∀ (l : List β) (st : St), Adds st (l.foldl g st) [] [] [] []
  | [], st => Adds.refl st
  | x :: r, st => (hg st x).trans (Adds.foldl g hg r (g st x))

theorem Adds.nodeCount (h : Adds st st' rs ext ns hs) (total : Bool) :
    nodeCount total st' = nodeCount total st + ns.length := by
  simp only [OV.C18.nodeCount, h.cur, h.stack, h.done, List.length_append]
  split <;> omega

theorem Adds.scope (h : Adds st st' rs ext ns hs) : st'.cur.scope = st.cur.scope := by
  rw [h.cur]

theorem Adds.all_inputs (h : Adds st st' rs ext ns hs) : st'.all Frame.inputs = st.all Frame.inputs :=
  St.all_same h.stack h.done (by rw [h.cur])

theorem Adds.all_nodes (h : Adds st st' rs ext ns hs) : (st'.all Frame.nodes).Perm (st.all Frame.nodes ++ ns) :=
  St.all_cur h.stack h.done (by rw [h.cur])

theorem Adds.withHandles (h : Adds st s rs ext ns []) (hs : List (Option Nat)) (fs : List String) :
    Adds st { s with handles := s.handles ++ hs, funcs := fs } rs ext ns hs :=
  ⟨h.L, h.vkeys, by simp [h.handles], h.cache, h.inits, h.cur, h.stack, h.done⟩

theorem Adds.push_pop {p : String} (h : Adds (pushScope st p) s rs ext ns hs) : Adds st (popScope s) rs ext ns hs := by
  have hsc : s.cur.scope = st.cur.scope ++ [p] := by rw [h.cur]; rfl
  have hne : s.cur.scope.isEmpty = false := by simp [hsc]
  unfold popScope
  simp only [hne, Bool.false_eq_true, if_false]
  exact ⟨h.L, h.vkeys, h.handles, h.cache, h.inits, by simp [h.cur, pushScope], h.stack, h.done⟩

/-- the state `call_inline` works on: the `_prefix` scope pushed, if one is given. -/
abbrev withPrefix (st : St) (p : String) : St := if p = "" then st else pushScope st p

theorem withPrefix_L (st : St) (p : String) : (withPrefix st p).L = st.L := by unfold withPrefix; split <;> rfl

theorem withPrefix_handles (st : St) (p : String) : (withPrefix st p).handles = st.handles := by
  unfold withPrefix; split <;> rfl

theorem withPrefix_cache (st : St) (p : String) : (withPrefix st p).cache = st.cache := by
  unfold withPrefix; split <;> rfl

theorem Adds.pushIf_popIf {p : String} (h : Adds (withPrefix st p) s rs ext ns hs) :
    Adds st (if p = "" then s else popScope s) rs ext ns hs := by
  split
  · rename_i hp; rwa [withPrefix, if_pos hp] at h
  · rename_i hp; rw [withPrefix, if_neg hp] at h; exact h.push_pop

theorem adds_fail (st : St) (e : String) : Adds st (fail st e) [] [] [] [] := by
  unfold fail
  split <;> exact Adds.same rfl rfl rfl rfl rfl rfl rfl rfl

theorem adds_newValuesK (st : St) (ks : List VKey) : Adds st (newValuesK st ks).1 ks [] [] [] := by
  rw [newValuesK_eq]
  exact ⟨by simp [St.L], rfl, by simp, by simp, by simp, by simp, rfl, rfl⟩

theorem adds_newValues (st : St) (names : List String) :
    Adds st (newValues st names).1 (names.map .raw) [] [] [] :=
  adds_newValuesK st _

theorem adds_rename (st : St) (id : Nat) (f : String → String) : Adds st (renameValue st id f) [] [] [] [] :=
  Adds.same (by simp [renameValue, St.L]) rfl rfl rfl rfl rfl rfl rfl

theorem adds_addNode (st : St) (n : Node) : Adds st (addNode st n) [] [] [n] [] :=
  ⟨rfl, by simp [addNode], by simp [addNode], by simp [addNode], by simp [addNode], rfl, rfl, rfl⟩

/-- The value ids from `L` up to `L'` are the ids `xs` and the ids `ys`, each once (`xs`: the literals cached as new
root initializers, `ys`: the outputs of the new nodes; a `call` creates `ys` first, everything else `xs` first). -/
def NewIds (L L' : Nat) (xs ys : List Nat) : Prop := (xs ++ ys).Perm (List.range' L (L' - L))

theorem NewIds.of_ranges {L L' a b : Nat} {xs ys : List Nat} (hx : xs = List.range' L a)
    (hy : ys = List.range' (L + a) b) (hL : L' = L + (a + b)) : NewIds L L' xs ys := by
  subst hx hy hL
  rw [NewIds, Nat.add_sub_cancel_left, ← List.range'_append, Nat.one_mul]

theorem NewIds.swap {L L' : Nat} {xs ys : List Nat} (h : NewIds L L' xs ys) : NewIds L L' ys xs :=
  List.perm_append_comm.trans h

theorem NewIds.mem {L L' : Nat} {xs ys : List Nat} (h : NewIds L L' xs ys) (i : Nat) :
    i ∈ xs ∨ i ∈ ys ↔ L ≤ i ∧ i < L' := by
  rw [← List.mem_append, h.mem_iff, List.mem_range'_1]
  omega

theorem NewIds.nodup {L L' : Nat} {xs ys : List Nat} (h : NewIds L L' xs ys) :
    xs.Nodup ∧ ys.Nodup ∧ ∀ a ∈ xs, ∀ b ∈ ys, a ≠ b :=
  List.nodup_append.mp (h.nodup_iff.mpr List.nodup_range')

theorem cacheFind_key {c : List (CKey × Nat)} {k : CKey} {i : Nat} (h : cacheFind c k = some i) :
    (k, i) ∈ c := by
  unfold cacheFind at h
  cases hf : c.find? (fun e => e.1 = k) with
  | none => simp [hf] at h
  | some e =>
    simp only [hf, Option.map_some, Option.some.injEq] at h
    have hk : e.1 = k := by simpa using List.find?_some hf
    rw [← hk, ← h]
    exact List.mem_of_find?_eq_some hf

/-- how an operand is resolved: a handle's value id, the initializer cached under the literal's key, or absent. -/
def ArgOK (handles : List (Option Nat)) (c : List (CKey × Nat)) : Arg → Option Nat → Prop
  | .ref h, o => o = handles.getD h none
  | .lit l, o => ∃ id, o = some id ∧ (litKey l, id) ∈ c
  | .none, o => o = none

/-- a literal is found in the cache, or becomes the next value and the next root initializer. -/
theorem adds_promote (st : St) (l : Lit) : ∃ (names : List String) (ext : List (CKey × Nat)),
    Adds st (promote st l).1 (names.map .raw) ext [] [] ∧ ext.map (·.2) = List.range' st.L names.length ∧
    (litKey l, (promote st l).2) ∈ (promote st l).1.cache := by
  unfold promote
  split
  · rename_i id hc
    exact ⟨[], [], Adds.refl st, rfl, cacheFind_key hc⟩
  · refine ⟨[constName l st.cache.length], [(litKey l, st.L)], ?_, rfl, by simp [newValue, newValueK]⟩
    simp only [newValue, newValueK]
    exact ⟨by simp [St.L], rfl, by simp, rfl, rfl, by simp, rfl, rfl⟩

theorem adds_resolveArgs : ∀ (a : List Arg) (st : St), ∃ (names : List String) (ext : List (CKey × Nat)),
    Adds st (resolveArgs st a).1 (names.map .raw) ext [] [] ∧ ext.map (·.2) = List.range' st.L names.length ∧
    List.Forall₂ (ArgOK st.handles (resolveArgs st a).1.cache) a (resolveArgs st a).2
  | [], st => ⟨[], [], Adds.refl st, rfl, .nil⟩
  | .ref h :: r, st => by
    obtain ⟨names, ext, x, y, z⟩ := adds_resolveArgs r st
    exact ⟨names, ext, x, y, .cons rfl z⟩
  | .none :: r, st => by
    obtain ⟨names, ext, x, y, z⟩ := adds_resolveArgs r st
    exact ⟨names, ext, x, y, .cons rfl z⟩
  | .lit l :: r, st => by
    obtain ⟨n1, e1, x1, y1, m⟩ := adds_promote st l
    obtain ⟨n2, e2, x2, y2, z⟩ := adds_resolveArgs r (promote st l).1
    have hL := x1.L
    have hh : (promote st l).1.handles = st.handles := by simpa using x1.handles
    rw [List.length_map] at hL
    refine ⟨n1 ++ n2, e1 ++ e2, List.map_append ▸ x1.trans x2, ?_, .cons ⟨_, rfl, ?_⟩ (hh ▸ z)⟩
    · rw [List.map_append, y1, y2, hL, List.length_append, ← List.range'_append, Nat.one_mul]
    · show _ ∈ (resolveArgs (promote st l).1 r).1.cache
      rw [x2.cache]
      exact List.mem_append_left _ m

theorem resolveArgs_refs : ∀ (args : List Arg) (st : St), args.all isRef = true → (resolveArgs st args).1 = st
  | [], _, _ => rfl
  | .ref _ :: r, st, h => resolveArgs_refs r st (Bool.and_eq_true _ _ ▸ List.all_cons ▸ h).2
  | .none :: r, st, h => resolveArgs_refs r st (Bool.and_eq_true _ _ ▸ List.all_cons ▸ h).2
  | .lit _ :: _, _, h => by cases (Bool.and_eq_true _ _ ▸ List.all_cons ▸ h).1

theorem vmapGet_cons (k : String) (v : Option Nat) (m : VMap) (x : String) :
    vmapGet ((k, v) :: m) x = if k = x then v else vmapGet m x := by
  unfold vmapGet
  by_cases h : k = x <;> simp [h]

theorem vmapGet_zip_miss : ∀ (names : List String) (ids : List Nat) (m : VMap) (x : String), x ∉ names →
    vmapGet ((names.zip (ids.map some)) ++ m) x = vmapGet m x
  | [], _, _, _, _ => by simp
  | _ :: _, [], _, _, _ => by simp
  | n :: ns, d :: ds, m, x, h => by
    simp only [List.mem_cons, not_or] at h
    simp only [List.map_cons, List.zip_cons_cons, List.cons_append, vmapGet_cons]
    rw [if_neg (fun e => h.1 e.symm)]
    exact vmapGet_zip_miss ns ds m x h.2

theorem vmapGet_zip_hit : ∀ (names : List String) (ids : List Nat) (m : VMap) (x : String),
    names.length = ids.length → x ∈ names →
    ∃ i, (x, i) ∈ names.zip ids ∧ vmapGet ((names.zip (ids.map some)) ++ m) x = some i
  | [], _, _, _, _, h => by simp at h
  | _ :: _, [], _, _, hl, _ => by simp at hl
  | n :: ns, d :: ds, m, x, hl, h => by
    simp only [List.length_cons, Nat.add_right_cancel_iff] at hl
    simp only [List.map_cons, List.zip_cons_cons, List.cons_append, vmapGet_cons, List.mem_cons,
      Prod.mk.injEq]
    by_cases e : n = x
    · exact ⟨d, Or.inl ⟨e.symm, rfl⟩, by simp [e]⟩
    · simp only [List.mem_cons] at h
      rcases h with h | h
      · exact absurd h.symm e
      · obtain ⟨i, hi, hv⟩ := vmapGet_zip_hit ns ds m x hl h
        exact ⟨i, Or.inr hi, by simp [e, hv]⟩

theorem vmapGet_zip_bound (formals : List String) (actuals : List (Option Nat)) (L : Nat)
    (hb : ∀ i, some i ∈ actuals → i < L) : ∀ x id, vmapGet (formals.zip actuals) x = some id → id < L := by
  intro x id h
  unfold vmapGet at h
  cases hf : (formals.zip actuals).find? (fun e => e.1 = x) with
  | none => simp [hf] at h
  | some p =>
    simp only [hf] at h
    exact hb id (h ▸ (List.of_mem_zip (List.mem_of_find?_eq_some hf)).2)

/-- The clone of one body node made when `L` values exist — its outputs are the next ids — and the value map after
it.  The cloner reads nothing of the state but the number of values: `clones` is `cloneNodes` without the state. -/
def cloneAt (np : String) (L : Nat) (m : VMap) (n : FNode) : VMap × Node :=
  (n.outs.zip ((List.range' L n.outs.length).map some) ++ m,
    ⟨if n.name = "" then "" else np ++ n.name, n.domain, n.op, n.ins.map (mapIn m), List.range' L n.outs.length, [], "",
      plainAttrs n.attrs⟩)

def clones (np : String) : Nat → VMap → List FNode → VMap × List Node
  | _, m, [] => (m, [])
  | L, m, n :: r =>
    ((clones np (L + n.outs.length) (cloneAt np L m n).1 r).1,
      (cloneAt np L m n).2 :: (clones np (L + n.outs.length) (cloneAt np L m n).1 r).2)

def cloneNames (np : String) (nodes : List FNode) : List String :=
  nodes.flatMap (fun n => n.outs.map (fun o => if o = "" then "" else np ++ o))

theorem cloneNodes_eq (np : String) : ∀ (nodes : List FNode) (st : St) (m : VMap), cloneNodes st m np nodes =
    ({ st with vnames := st.vnames ++ cloneNames np nodes, vkeys := st.vkeys ++ (cloneNames np nodes).map .raw },
      clones np st.L m nodes)
  | [], st, m => by simp [cloneNodes, clones, cloneNames]
  | n :: r, st, m => by
    simp [cloneNodes, cloneNode, newValues_eq, cloneNodes_eq np r, clones, cloneAt, cloneNames, St.L]

theorem clones_outs (np : String) : ∀ (nodes : List FNode) (L : Nat) (m : VMap),
    (clones np L m nodes).2.flatMap (·.outs) = List.range' L (cloneNames np nodes).length
  | [], _, _ => rfl
  | n :: r, L, m => by
    simp only [clones, cloneAt, cloneNames, List.flatMap_cons, clones_outs np r, List.length_append, List.length_map,
      ← List.range'_append, Nat.one_mul]

theorem cloneAt_vmap_lt (np : String) {L : Nat} {m : VMap} (n : FNode) (hb : ∀ x id, vmapGet m x = some id → id < L) :
    ∀ x id, vmapGet (cloneAt np L m n).1 x = some id → id < L + n.outs.length := by
  intro x id hv
  by_cases hx : x ∈ n.outs
  · obtain ⟨i, hi, hv'⟩ := vmapGet_zip_hit n.outs _ m x List.length_range'.symm hx
    cases hv'.symm.trans hv
    have := List.mem_range'_1.mp (List.of_mem_zip hi).2
    omega
  · rw [cloneAt, vmapGet_zip_miss n.outs _ m x hx] at hv
    exact Nat.lt_of_lt_of_le (hb x id hv) (Nat.le_add_right _ _)

theorem adds_cloneNodes (np : String) (nodes : List FNode) (st : St) (m : VMap) :
    Adds st (cloneNodes st m np nodes).1 ((cloneNames np nodes).map .raw) [] [] [] := by
  rw [cloneNodes_eq]
  exact ⟨by simp [St.L], rfl, by simp, by simp, by simp, by simp, rfl, rfl⟩

theorem adds_addInlined (finals : List Nat) : ∀ (nodes : List Node) (st : St),
    Adds st (addInlined st finals nodes) [] [] nodes []
  | [], st => Adds.refl st
  | n :: r, st =>
    ((Adds.foldl _ (fun s o => by split; exact adds_rename s o _; exact Adds.refl s) n.outs st).trans
      (adds_addNode _ n)).trans (adds_addInlined finals r _)

theorem adds_renameFinals (guard : Nat → Bool) (st : St) (outs : List (Option Nat)) (d : Option (List String)) :
    Adds st (renameFinals guard st outs d) [] [] [] [] := by
  cases d with
  | some desired =>
    refine Adds.foldl _ (fun s x => ?_) _ st
    split
    · split
      · exact adds_rename s _ _
      · exact Adds.refl s
    · exact Adds.refl s
  | none =>
    refine Adds.foldl _ (fun s x => ?_) _ st
    split
    · split
      · exact adds_rename s _ _
      · exact Adds.refl s
    · exact Adds.refl s

theorem inlineClones_snd (total : Bool) (st0 : St) (f : Fn) (actuals : List (Option Nat)) :
    (inlineClones total st0 f actuals).2 =
      clones (autoNodeName st0.cur (nodeCount total st0) f.name ++ "/") st0.L (f.formals.zip actuals) f.nodes := by
  rw [inlineClones, cloneNodes_eq]

theorem inlineClones_L (total : Bool) (st0 : St) (f : Fn) (actuals : List (Option Nat)) :
    (inlineClones total st0 f actuals).1.L =
      st0.L + (cloneNames (autoNodeName st0.cur (nodeCount total st0) f.name ++ "/") f.nodes).length := by
  rw [inlineClones, cloneNodes_eq]
  simp [St.L]

theorem adds_inlineRun (total : Bool) (st0 : St) (f : Fn) (actuals : List (Option Nat))
    (desired : Option (List String)) : ∃ names : List String,
    Adds st0 (inlineRun total st0 f actuals desired).1 (names.map .raw) [] (inlineClones total st0 f actuals).2.2 [] ∧
    (inlineClones total st0 f actuals).2.2.flatMap (·.outs) = List.range' st0.L names.length ∧
    (inlineClones total st0 f actuals).1.L = st0.L + names.length := by
  have x := adds_cloneNodes (autoNodeName st0.cur (nodeCount total st0) f.name ++ "/") f.nodes st0
    (f.formals.zip actuals)
  have : Adds st0 (inlineRun total st0 f actuals desired).1 _ _ _ _ :=
    (x.trans (adds_addInlined _ _ _)).trans (adds_renameFinals _ _ _ desired)
  simp only [List.append_nil, List.nil_append] at this
  exact ⟨_, this, by rw [inlineClones_snd]; exact clones_outs _ _ _ _, List.length_map (f := VKey.raw) ▸ x.L⟩

/-- `call_op`, `call`: the node `n` was appended, its operands `a` resolved in `st`; the values created are the literals
promoted among the operands (`ext`) and the outputs of `n`, which were handed out. -/
structure NodeCall (st st' : St) (rs : List VKey) (ext : List (CKey × Nat)) (n : Node) (a : List Arg) : Prop where
  adds : Adds st st' rs ext [n] (n.outs.map some)
  ids : NewIds st.L st'.L (ext.map (·.2)) n.outs
  operands : List.Forall₂ (ArgOK st.handles (st.cache ++ ext)) a n.ins

/-- `call_op`: the literal operands are promoted, then the outputs are created and the node is appended. -/
theorem doOp_adds (total : Bool) (st : St) (t : String) (a : List Arg) (o : Outs) (nn : Option String)
    (g : List Nat) (as : List (String × AVal)) :
    ∃ (lits : List String) (ext : List (CKey × Nat)) (ins : List (Option Nat)) (outs : List Nat),
    outs.length = (outKeys st.cur (nodeCount total st) t o).length ∧
    NodeCall st (doOp total st t a o nn g as) (lits.map .raw ++ outKeys st.cur (nodeCount total st) t o) ext
      ⟨nn.getD (autoNodeName st.cur (nodeCount total st) t), "", t, ins, outs, g, "", as⟩ a := by
  obtain ⟨lits, ext, x, y, z⟩ := adds_resolveArgs a st
  have hcur : (resolveArgs st a).1.cur = st.cur := by simpa using x.cur
  have hn : nodeCount total (resolveArgs st a).1 = nodeCount total st := by simpa using x.nodeCount total
  have hL : (resolveArgs st a).1.L = st.L + lits.length := by simpa using x.L
  have key : Adds st (doOp total st t a o nn g as) _ _ _ _ :=
    ((x.trans (adds_newValuesK _ _)).trans (adds_addNode _ _)).withHandles _ _
  simp only [newValuesK_eq, hcur, hn, hL, List.append_nil, List.nil_append] at key
  exact ⟨lits, ext, _, _, List.length_range', key, NewIds.of_ranges y rfl (by simpa using key.L), x.cache ▸ z⟩

/-- `GraphBuilder.call` of a known function: the outputs are created first, then the literal operands promoted,
then the call node appended.  `keys` is named by an equation (callers pass `_ rfl`) so that the statement need not repeat
the term. -/
theorem doCall_adds (total : Bool) (fns : List Fn) (st : St) (fi : Nat) (a : List Arg) (o : Option Outs)
    (as : List (String × AVal)) (f : Fn) (hf : fns[fi]? = some f) (keys : List VKey)
    (hk : keys = outKeys st.cur (nodeCount total st) f.name (o.getD (.auto f.outputs.length))) :
    ∃ (lits : List String) (ext : List (CKey × Nat)) (ins : List (Option Nat)) (outs : List Nat),
    outs.length = keys.length ∧
    NodeCall st (doCall total fns st fi a o as) (keys ++ lits.map .raw) ext
      ⟨autoNodeName st.cur (nodeCount total st) f.name, f.domain, f.name, ins, outs, [], f.overload, as⟩ a := by
  have x0 := adds_newValuesK st keys
  obtain ⟨lits, ext, x, y, z⟩ := adds_resolveArgs a (newValuesK st keys).1
  have x1 := x0.trans x
  have hcur : (resolveArgs (newValuesK st keys).1 a).1.cur = st.cur := by simpa using x1.cur
  have hn : nodeCount total (resolveArgs (newValuesK st keys).1 a).1 = nodeCount total st := by
    simpa using x1.nodeCount total
  have hh : (newValuesK st keys).1.handles = st.handles := by simpa using x0.handles
  have hc : (resolveArgs (newValuesK st keys).1 a).1.cache = st.cache ++ ext := by simpa using x1.cache
  rw [hh, hc] at z
  refine ⟨lits, ext, _, List.range' st.L keys.length, List.length_range', ?_, ?_, z⟩
  · simp only [doCall, hf, ← hk]
    exact ((x1.trans (adds_addNode _ _)).withHandles _ _).cast (by simp) (by simp)
      (by rw [hcur, hn, newValuesK_eq]; rfl) (by rw [newValuesK_eq])
  · refine (NewIds.of_ranges rfl (by rw [y, x0.L]) ?_).swap
    simp only [doCall, hf, ← hk]
    simpa [addNode] using x1.L

theorem doCall_adds' (total : Bool) (fns : List Fn) (st : St) (fi : Nat) (a : List Arg) (o : Option Outs)
    (as : List (String × AVal)) : ∃ rs ext ns hs, Adds st (doCall total fns st fi a o as) rs ext ns hs := by
  cases hf : fns[fi]? with
  | none => exact ⟨[], [], [], [], by simp only [doCall, hf]; exact adds_fail st _⟩
  | some f =>
    obtain ⟨_, _, _, _, _, c⟩ := doCall_adds total fns st fi a o as f hf _ rfl
    exact ⟨_, _, _, _, c.adds⟩

/-- `call_inline` raises: a literal operand (before 06b8334), too many operands, `_outputs` of the wrong length. -/
def inlineRefuses (f : Fn) (a : List Arg) (o : Option (List String)) : Bool :=
  (!inlineAdapts && !a.all isRef) || decide (a.length > f.formals.length) || outsMismatch o f

theorem doInline_cases (fns : List Fn) (fi : Nat) (a : List Arg) (o : Option (List String)) :
    (∀ f, fns[fi]? = some f → inlineRefuses f a o = true) ∨ ∃ f, fns[fi]? = some f ∧ inlineRefuses f a o = false := by
  cases fns[fi]? with
  | none => exact Or.inl (fun _ e => by cases e)
  | some f =>
    cases hr : inlineRefuses f a o with
    | false => exact Or.inr ⟨f, rfl, hr⟩
    | true => exact Or.inl (fun _ e => by cases e; exact hr)

/-- `call_inline` accepted the call of `F` (the function with its reference attributes resolved): the literal operands
`a` were promoted — which gave the state and the actuals `ra` —, the clones of the body made there, appended, and the
function's outputs handed back.  The values created are the literals promoted (`ext`) and the clones' outputs. -/
structure Inlined (total : Bool) (st st' : St) (F : Fn) (a : List Arg) (ra : St × List (Option Nat))
    (lits cls : List String) (ext : List (CKey × Nat)) : Prop where
  adds : Adds st st' ((lits ++ cls).map .raw) ext (inlineClones total ra.1 F ra.2).2.2
    (F.outputs.map (vmapGet (inlineClones total ra.1 F ra.2).2.1))
  ids : NewIds st.L st'.L (ext.map (·.2)) ((inlineClones total ra.1 F ra.2).2.2.flatMap (·.outs))
  litIds : ext.map (·.2) = List.range' st.L lits.length
  raL : ra.1.L = st.L + lits.length
  clL : (inlineClones total ra.1 F ra.2).1.L = st'.L
  operands : List.Forall₂ (ArgOK st.handles (st.cache ++ ext)) a ra.2

theorem doInline_accepted (leak total : Bool) (fns : List Fn) (st : St) (fi : Nat) (a : List Arg)
    (o : Option (List String)) (p : String) (as : List (String × AVal)) (f : Fn) (hf : fns[fi]? = some f)
    (hr : inlineRefuses f a o = false) : ∃ (lits cls : List String) (ext : List (CKey × Nat)),
    Inlined total st (doInlineWith leak total fns st fi a o p as) (resolveFn (effectiveAttrs total f as) f) a
      (resolveArgs (withPrefix st p) a) lits cls ext := by
  obtain ⟨⟨h1, h2⟩, h3⟩ : ((!inlineAdapts && !a.all isRef) = false ∧ ¬ a.length > f.formals.length) ∧
      outsMismatch o f = false := by simpa [inlineRefuses] using hr
  obtain ⟨lits, ext, x, y, z⟩ := adds_resolveArgs a (withPrefix st p)
  obtain ⟨cls, x2, y2, y3⟩ := adds_inlineRun total (resolveArgs (withPrefix st p) a).1
    (resolveFn (effectiveAttrs total f as) f) (resolveArgs (withPrefix st p) a).2
    (o.map (fun o => o.map (qualifyValue st.cur)))
  have hL := x.L
  rw [List.length_map, withPrefix_L] at hL
  rw [x.cache, withPrefix_handles, withPrefix_cache] at z
  obtain ⟨ra, hra⟩ : ∃ ra, ra = resolveArgs (withPrefix st p) a := ⟨_, rfl⟩
  obtain ⟨F, hF⟩ : ∃ F, F = resolveFn (effectiveAttrs total f as) f := ⟨_, rfl⟩
  have key : Adds st (doInlineWith leak total fns st fi a o p as) ((lits ++ cls).map .raw) ext
      (inlineClones total ra.1 F ra.2).2.2 (F.outputs.map (vmapGet (inlineClones total ra.1 F ra.2).2.1)) := by
    subst hra hF
    simp only [doInlineWith, hf, h1, h2, h3, Bool.false_eq_true, if_false]
    exact ((x.trans x2).pushIf_popIf.withHandles _ _).cast (by simp) (by simp) (by simp) rfl
  have hL' := key.L
  rw [List.length_map, List.length_append, ← Nat.add_assoc] at hL'
  subst hra hF
  exact ⟨lits, cls, ext, key, NewIds.of_ranges (withPrefix_L st p ▸ y) (by rw [y2, hL]) (by omega), withPrefix_L st p ▸ y, hL,
    by rw [y3, hL, hL'], z⟩

/-- `call_inline` refusing — unknown function, wrong number of `_outputs`, too many operands: at most the literal
operands were promoted.  `leak`: before commit 15c1bb3 the last refusal left a pushed `_prefix` on the scope stack; for the
code as it is callers pass `prefixLeaks` and `Or.inl prefixLeaks_false`. -/
theorem doInline_refused (leak total : Bool) (fns : List Fn) (st : St) (fi : Nat) (a : List Arg)
    (o : Option (List String)) (p : String) (as : List (String × AVal))
    (hl : leak = false ∨ p = "" ∨ ∀ f, fns[fi]? = some f → ¬ a.length > f.formals.length ∨ outsMismatch o f = true)
    (h : ∀ f, fns[fi]? = some f → inlineRefuses f a o = true) :
    ∃ (lits : List String) (ext : List (CKey × Nat)),
      Adds st (doInlineWith leak total fns st fi a o p as) (lits.map .raw) ext [] [] ∧
      NewIds st.L (doInlineWith leak total fns st fi a o p as).L (ext.map (·.2)) [] := by
  have early : ∀ e, ∃ (lits : List String) (ext : List (CKey × Nat)),
      Adds st (fail st e) (lits.map .raw) ext [] [] ∧ NewIds st.L (fail st e).L (ext.map (·.2)) [] :=
    fun e => ⟨[], [], adds_fail st e, NewIds.of_ranges (a := 0) (b := 0) rfl rfl (adds_fail st e).L⟩
  cases hf : fns[fi]? with
  | none => simp only [doInlineWith, hf]; exact early _
  | some f =>
    cases h1 : (!inlineAdapts && !a.all isRef) with
    | true => simp only [doInlineWith, hf, h1, if_true]; exact early _
    | false =>
      cases h3 : outsMismatch o f with
      | true => simp only [doInlineWith, hf, h1, h3, Bool.false_eq_true, if_false, if_true]; exact early _
      | false =>
        have h2 : a.length > f.formals.length := by simpa [inlineRefuses, h1, h3] using h f hf
        have hlk : leak = false ∨ p = "" := by
          rcases hl with x | x | x
          · exact Or.inl x
          · exact Or.inr x
          · exact (x f hf).elim (absurd h2) (fun y => by rw [h3] at y; cases y)
        simp only [doInlineWith, hf, h1, h3, h2, Bool.false_eq_true, if_false, if_true]
        obtain ⟨lits, ext, x, y, _⟩ := adds_resolveArgs a (withPrefix st p)
        have hx : ∀ s, Adds (withPrefix st p) s (lits.map .raw) ext [] [] →
            Adds st (if (leak || decide (p = "")) = true then s else popScope s) (lits.map .raw) ext [] [] := by
          intro s hs
          by_cases hp : p = ""
          · rw [withPrefix, if_pos hp] at hs; rw [if_pos (by simp [hp])]; exact hs
          · rw [withPrefix, if_neg hp] at hs; rw [if_neg (by simp [hp, hlk.resolve_right hp])]; exact hs.push_pop
        have key := ((hx _ x).trans (adds_fail _ "too-many-inputs")).cast (List.append_nil _) (List.append_nil _) rfl rfl
        exact ⟨lits, ext, key, NewIds.of_ranges (b := 0) (withPrefix_L st p ▸ y) rfl (by simpa using key.L)⟩

theorem doInline_adds (leak total : Bool) (fns : List Fn) (st : St) (fi : Nat) (a : List Arg)
    (o : Option (List String)) (p : String) (as : List (String × AVal))
    (hl : leak = false ∨ p = "" ∨ ∀ f, fns[fi]? = some f → ¬ a.length > f.formals.length ∨ outsMismatch o f = true) :
    ∃ (names : List String) (ext : List (CKey × Nat)) (ns : List Node) (hs : List (Option Nat)),
      Adds st (doInlineWith leak total fns st fi a o p as) (names.map .raw) ext ns hs := by
  rcases doInline_cases fns fi a o with h | ⟨f, hf, hr⟩
  · obtain ⟨lits, ext, x, _⟩ := doInline_refused leak total fns st fi a o p as hl h
    exact ⟨lits, ext, [], [], x⟩
  · obtain ⟨lits, cls, ext, c⟩ := doInline_accepted leak total fns st fi a o p as f hf hr
    exact ⟨_, ext, _, _, c.adds⟩

/-- the pinned /repo pops the `_prefix` scope on every path (commit 15c1bb3). -/
theorem prefixLeaks_false : prefixLeaks = false := rfl

theorem doInline_adds' (total : Bool) (fns : List Fn) (st : St) (fi : Nat) (a : List Arg) (o : Option (List String))
    (p : String) (as : List (String × AVal)) :
    ∃ (names : List String) (ext : List (CKey × Nat)) (ns : List Node) (hs : List (Option Nat)),
      Adds st (doInline total fns st fi a o p as) (names.map .raw) ext ns hs :=
  doInline_adds prefixLeaks total fns st fi a o p as (Or.inl prefixLeaks_false)

theorem doInline_refs (total : Bool) (fns : List Fn) (st : St) (fi : Nat) (args : List Arg)
    (outs : Option (List String)) (pfx : String) (as : List (String × AVal)) (f : Fn) (hf : fns[fi]? = some f)
    (h1 : args.all isRef = true) (h2 : ¬ args.length > f.formals.length) (h3 : outsMismatch outs f = false) :
    ∃ cls : List String, Adds st (doInline total fns st fi args outs pfx as) (cls.map .raw) []
      (inlineClones total (withPrefix st pfx) (resolveFn (effectiveAttrs total f as) f)
        (resolveArgs (withPrefix st pfx) args).2).2.2
      (f.outputs.map (vmapGet
        (inlineClones total (withPrefix st pfx) (resolveFn (effectiveAttrs total f as) f)
          (resolveArgs (withPrefix st pfx) args).2).2.1)) := by
  obtain ⟨lits, cls, ext, c⟩ := doInline_accepted prefixLeaks total fns st fi args outs pfx as f hf
    (by simp [inlineRefuses, h1, h2, h3])
  have x := c.adds
  have hra := c.raL
  rw [resolveArgs_refs args _ h1] at x hra
  have hl : lits = [] := List.length_eq_zero_iff.mp (by have := withPrefix_L st pfx; omega)
  subst hl
  cases ext with
  | cons e t => cases c.litIds
  | nil => exact ⟨cls, x⟩

theorem doBeginSub_eq (st : St) (g : String) (ins : List String) : doBeginSub st g ins =
    { st with vnames := st.vnames ++ ins, vkeys := st.vkeys ++ ins.map .raw,
              cur := ⟨g, List.range' st.L ins.length, [], st.cur.scope, []⟩, stack := st.cur :: st.stack,
              handles := st.handles ++ (List.range' st.L ins.length).map some } := by
  simp [doBeginSub, newValues_eq]

theorem popScope_cases (st : St) : ∃ s sc, Adds st s [] [] [] [] ∧
    popScope st = { s with cur := { s.cur with scope := sc } } := by
  unfold popScope
  split
  · exact ⟨_, _, adds_fail st _, rfl⟩
  · exact ⟨st, _, Adds.refl st, rfl⟩

theorem doOutput_cases (st : St) (h : Nat) (name : Option String) : ∃ s os, Adds st s [] [] [] [] ∧
    doOutput st h name = { s with cur := { s.cur with outputs := os } } := by
  unfold doOutput
  split
  · exact ⟨_, _, adds_fail st _, rfl⟩
  · refine ⟨_, _, ?_, rfl⟩
    split
    · split
      · exact Adds.refl st
      · exact adds_rename st _ _
    · exact Adds.refl st

theorem abandon_cons {st : St} {parent : Frame} {rest : List Frame} (h : st.stack = parent :: rest) :
    abandon st = { st with done := st.done ++ [st.cur], cur := parent, stack := rest } := by
  simp only [abandon, h]

theorem doEndSub_cases (st : St) (rets : List Nat) (declared : List String) :
    (st.stack = [] ∧ doEndSub st rets declared = fail st "endsub-at-root") ∨
    ∃ parent rest, st.stack = parent :: rest ∧
      (doEndSub st rets declared = fail (abandon st) "outputs-mismatch" ∨
       ∃ s ids, Adds st s [] [] [] [] ∧ doEndSub st rets declared =
         { s with done := s.done ++ [{ s.cur with outputs := ids }], cur := parent, stack := rest }) := by
  unfold doEndSub
  split
  · exact Or.inl ⟨by assumption, rfl⟩
  · rename_i parent rest hs
    refine Or.inr ⟨parent, rest, hs, ?_⟩
    split
    · exact Or.inl rfl
    · exact Or.inr ⟨_, _, Adds.foldl _ (fun s x => by split; split; exact Adds.refl s; exact adds_rename s _ _) _ st, rfl⟩

/-- `st'` holds the same values, handles, cached literals, graph inputs and nodes as `st`.  Graphs may have changed rôle
(current, enclosing, finished); scopes, declared outputs, names and the refusal record may differ. -/
structure Moved (st st' : St) : Prop where
  L : st'.L = st.L
  vkeys : st'.vkeys = st.vkeys
  handles : st'.handles = st.handles
  cache : st'.cache = st.cache
  inits : st'.inits = st.inits
  inputs : (st'.all Frame.inputs).Perm (st.all Frame.inputs)
  nodes : (st'.all Frame.nodes).Perm (st.all Frame.nodes)

theorem Moved.trans {a b c : St} (x : Moved a b) (y : Moved b c) : Moved a c :=
  ⟨y.L.trans x.L, y.vkeys.trans x.vkeys, y.handles.trans x.handles, y.cache.trans x.cache, y.inits.trans x.inits,
    y.inputs.trans x.inputs, y.nodes.trans x.nodes⟩

theorem Moved.nodeCount {st st' : St} (m : Moved st st') : nodeCount true st' = nodeCount true st := by
  rw [nodeCount_eq_length, nodeCount_eq_length, m.nodes.length_eq]

theorem Adds.moved {st s : St} (x : Adds st s [] [] [] []) : Moved st s :=
  ⟨x.L, by simpa using x.vkeys, by simpa using x.handles, by simpa using x.cache, by simpa using x.inits,
    x.all_inputs ▸ .refl _, by simpa using x.all_nodes⟩

theorem Moved.curMeta (st : St) (sc : List String) (os : List Nat) :
    Moved st { st with cur := { st.cur with scope := sc, outputs := os } } :=
  ⟨rfl, rfl, rfl, rfl, rfl, .refl _, .refl _⟩

theorem Moved.leave {st : St} {parent : Frame} {rest : List Frame} (hs : st.stack = parent :: rest) (os : List Nat) :
    Moved st { st with done := st.done ++ [{ st.cur with outputs := os }], cur := parent, stack := rest } :=
  ⟨rfl, rfl, rfl, rfl, rfl, St.all_leave hs rfl rfl rfl rfl, St.all_leave hs rfl rfl rfl rfl⟩

theorem abandon_moved (st : St) : Moved st (abandon st) := by
  cases hs : st.stack with
  | nil => simp only [abandon, hs]; exact (Adds.refl st).moved
  | cons parent rest => rw [abandon_cons hs]; exact Moved.leave hs st.cur.outputs

def creates : Item → Bool
  | .push _ | .pop | .endSub _ _ | .abortSub | .output _ _ => false
  | _ => true

theorem step_moved (total : Bool) (fns : List Fn) (st : St) (it : Item) (h : creates it = false) :
    Moved st (step total fns st it) := by
  cases it with
  | push n => exact Moved.curMeta st _ _
  | pop =>
    show Moved st (popScope st)
    obtain ⟨s, sc, x, e⟩ := popScope_cases st
    rw [e]
    exact x.moved.trans (Moved.curMeta s _ _)
  | endSub r d =>
    show Moved st (doEndSub st r d)
    rcases doEndSub_cases st r d with ⟨_, e⟩ | ⟨parent, rest, hs, e | ⟨s, ids, x, e⟩⟩ <;> rw [e]
    · exact (adds_fail st _).moved
    · exact (abandon_moved st).trans (adds_fail _ _).moved
    · exact x.moved.trans (Moved.leave (x.stack.trans hs) ids)
  | abortSub =>
    simp only [step, doAbortSub]
    split
    · exact (adds_fail st _).moved
    · exact abandon_moved st
  | output hd n =>
    show Moved st (doOutput st hd n)
    obtain ⟨s, os, x, e⟩ := doOutput_cases st hd n
    rw [e]
    exact x.moved.trans (Moved.curMeta s _ _)
  | _ => cases h

/-! Nothing above or in the other modules uses what follows. -/

theorem ArgOK.mono {hs : List (Option Nat)} {c c' : List (CKey × Nat)} (hc : ∀ e ∈ c, e ∈ c') :
    ∀ {a : Arg} {o : Option Nat}, ArgOK hs c a o → ArgOK hs c' a o
  | .ref _, _, h => h
  | .none, _, h => h
  | .lit _, _, ⟨id, h1, h2⟩ => ⟨id, h1, hc _ h2⟩

theorem doInline_fields (total : Bool) (fns : List Fn) (st : St) (fi : Nat) (args : List Arg)
    (outs : Option (List String)) (pfx : String) (as : List (String × AVal)) (f : Fn) (hf : fns[fi]? = some f)
    (h1 : args.all isRef = true) (h2 : ¬ args.length > f.formals.length) (h3 : outsMismatch outs f = false) :
    (doInline total fns st fi args outs pfx as).cache = st.cache ∧
    (doInline total fns st fi args outs pfx as).inits = st.inits ∧
    (doInline total fns st fi args outs pfx as).cur.inputs = st.cur.inputs ∧
    st.L ≤ (doInline total fns st fi args outs pfx as).L := by
  obtain ⟨cls, x⟩ := doInline_refs total fns st fi args outs pfx as f hf h1 h2 h3
  exact ⟨by simpa using x.cache, by simpa using x.inits, by rw [x.cur], x.L ▸ Nat.le_add_right _ _⟩

end OV.C18
