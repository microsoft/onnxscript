import OV.Model.C10History
import OV.Lemmas.C10
/-! Valid self-consistent models are closed under a successful conversion (`nativeConvert_closed`) and under
`ir.from_proto` (`eraseVersions_valid`), so one call of the public entry, and with it every history of calls, is a step of
the relation `Keeps`. -/
namespace OV.C10

theorem validD_of_pre {s t : Nat} : (d : Nat) → (a : NodeD d) → PreD Op.meaning s t d a →
    (∀ x ∈ Inner.leaves a, (x.dflt = true → x.eff t = t) ∧ (x.op.meaning (x.readAt t)).isSome) → ValidD t d a
  | 0, l, hp, hx =>
    have ⟨he, hv⟩ := hx l (List.mem_singleton.mpr rfl)
    ⟨he, LeafPre.noRef hp, hv⟩
  | d + 1, n, hp, hx =>
    have hleaf := hx n.leaf (mem_leaves.mpr (.inl rfl))
    ⟨⟨hleaf.1, (NodePre.leaf hp).noRef, hleaf.2⟩, NodePre.ctrl hp,
      fun b hb a ha => validD_of_pre d a (NodePre.bodies hp b hb a ha) (fun x hxa =>
        hx x (mem_leaves.mpr (.inr ⟨b, hb, a, ha, hxa⟩))),
      NodePre.customFlat hp⟩

/-- One call is a step of this relation (`keeps_call`); a history composes steps. -/
structure Keeps {d : Nat} (s : Nat) (m : Model (NodeD d)) (s' : Nat) (m' : Model (NodeD d)) : Prop where
  valid : ValidModel s' m'
  reads : pmNodes Op.meaning s' m'.nodes = pmNodes Op.meaning s m.nodes
  inputs : m'.inputs = m.inputs
  inits : m'.inits = m.inits

theorem Keeps.refl {d s : Nat} {m : Model (NodeD d)} (h : ValidModel s m) : Keeps s m s m := ⟨h, rfl, rfl, rfl⟩

theorem Keeps.trans {d s s' s'' : Nat} {m m' m'' : Model (NodeD d)} (h : Keeps s m s' m') (h' : Keeps s' m' s'' m'') :
    Keeps s m s'' m'' :=
  ⟨h'.valid, h'.reads.trans h.reads, h'.inputs.trans h.inputs, h'.inits.trans h.inits⟩

theorem nativeConvert_closed (s t : Nat) {d : Nat} (m : Model (NodeD d)) (h : ValidModel s m) :
    (nativeConvert t m).1 = m ∨ Keeps s m t (nativeConvert t m).1 := by
  rcases nativeConvert_cases Op.meaning meaning_mono_lemma s t m h.selfConsistent with hm | ⟨ns, e, hpre, hall, hpm⟩
  · exact .inl hm
  · rw [e]
    -- the readings are the source's, hence valid forms; so every visited node is a valid form at `t`
    have hvalid : ∀ x ∈ ns.flatMap Node.leaves, (x.op.meaning (x.readAt t)).isSome :=
      leaves_valid_of_readings t _ (fun x hx => h.readings_valid x (hpm ▸ hx))
    exact .inr ⟨⟨rfl, rfl, rfl, fun n hn => validD_of_pre (d + 1) n (hpre n hn) (fun x hx =>
      ⟨hall n hn x hx, hvalid x (List.mem_flatMap.mpr ⟨n, hn, hx⟩)⟩)⟩, hpm, rfl, rfl⟩

theorem requiresInline_closed (s t : Nat) (fb : Fallback) {d : Nat} (capi : CApi (NodeD d)) (m : Model (NodeD d))
    (h : ValidModel s m) (hc : capi m t = none) :
    (requiresInlineCall fb t capi m).1 = m ∨ Keeps s m t (requiresInlineCall fb t capi m).1 := by
  rcases requiresInlineCall_cases fb t capi m with e | e | ⟨ns, hns, _⟩
  · rw [e]; exact .inl rfl
  · rw [e]; exact nativeConvert_closed s t m h
  · rw [hc] at hns; cases hns

theorem inlineNodes_nil {α : Type} (ns : List (Node α)) : inlineNodes ([] : List (Func α)) ns = ns := by
  induction ns with
  | nil => rfl
  | cons n ns ih =>
    unfold inlineNodes
    split
    · simp [ih]
    · rw [ih]

theorem inlineModel_valid {s d : Nat} {m : Model (NodeD d)} (h : ValidModel s m) : inlineModel m = .ok m := by
  obtain ⟨h1, h2, h3, _⟩ := h
  rcases m with ⟨decl, ai, nodes, funcs, inputs, inits⟩
  simp only at h1 h2 h3
  subst h1 h2 h3
  have hclash : calledClash (⟨some s, none, nodes, [], inputs, inits⟩ : Model (NodeD d)) = false := by
    unfold calledClash
    rw [List.any_eq_false]
    intro n _
    split <;> simp
  unfold inlineModel
  rw [hclash]
  simp [inlineNodes_nil]

theorem readAt_erase {s : Nat} {l : Leaf} (h : l.dflt = true → l.eff s = s) : (eraseLeaf l).readAt s = l.readAt s := by
  show (if l.dflt = true then s else 0) = (if l.dflt = true then l.eff s else 0)
  split
  · exact (h ‹_›).symm
  · rfl

theorem validD_erase {s : Nat} : (d : Nat) → (a : NodeD d) → ValidD s d a → ValidD s d (Inner.erase a)
  | 0, l, h => by
    have h' : ValidLeaf s l := h
    refine (⟨fun _ => rfl, h'.noRef, ?_⟩ : ValidLeaf s (eraseLeaf l))
    rw [readAt_erase h'.ver]; exact h'.valid
  | d + 1, n, h => by
    have h' : ValidNode (α := NodeD d) s (ValidD s d) n := h
    show ValidNode (α := NodeD d) s (ValidD s d) (eraseNode n)
    refine ⟨validD_erase 0 n.leaf h'.leaf, fun hb => h'.ctrl (by simpa [eraseNode] using hb), ?_, fun hd => ?_⟩
    · intro b hb a ha
      obtain ⟨b0, hb0, rfl⟩ := List.mem_map.mp hb
      obtain ⟨a0, ha0, rfl⟩ := List.mem_map.mp ha
      exact validD_erase d a0 (h'.bodies b0 hb0 a0 ha0)
    · show n.bodies.map _ = []
      rw [h'.customFlat hd]; rfl

theorem pmLeaves_erase {β} (μ : Op → Nat → β) (s : Nat) (ls : List Leaf)
    (h : ∀ l ∈ ls, l.dflt = true → l.eff s = s) : pmLeaves μ s (ls.map eraseLeaf) = pmLeaves μ s ls := by
  rw [pmLeaves_eq, pmLeaves_eq, List.filter_map, List.map_map]
  exact List.map_congr_left fun l hl => congrArg (μ l.op) (readAt_erase (h l (List.mem_filter.mp hl).1))

theorem eraseVersions_valid {s d : Nat} {m : Model (NodeD d)} (h : ValidModel s m) : Keeps s m s (eraseVersions m) := by
  refine ⟨⟨h.declared, h.noAi, by simp [eraseVersions, h.inlined], ?_⟩, ?_, rfl, rfl⟩
  · intro n hn
    simp only [eraseVersions, List.mem_map] at hn
    obtain ⟨n0, hn0, rfl⟩ := hn
    exact validD_erase (d + 1) n0 (h.nodes n0 hn0)
  · have hl : (eraseVersions m).nodes.flatMap Node.leaves = (m.nodes.flatMap Node.leaves).map eraseLeaf := by
      simp only [eraseVersions, List.flatMap_map, List.map_flatMap]
      congr 1
      funext n
      exact leaves_erase (d + 1) n
    simp only [pmNodes]
    rw [hl]
    refine pmLeaves_erase Op.meaning s _ (fun l hl' hd => ?_)
    obtain ⟨n, hn, hx⟩ := List.mem_flatMap.mp hl'
    exact SrcD.leaves_eff (d + 1) n (ValidD.toSrc (d + 1) n (h.nodes n hn)) l hx hd

/-- `s' = s`: the call is refused, raises or is a no-op.  The `ModelProto` entry adds a round trip through `ir.from_proto`
before and after. -/
theorem keeps_call {d s : Nat} {m : Model (NodeD d)} (e : Entry) (t : Nat) (fb : Fallback) (h : ValidModel s m) :
    ∃ s', (s' = s ∨ s' = t) ∧ Keeps s m s' (convertVersionApi e fb t capiFails m).1 := by
  cases e with
  | native =>
    rcases nativeConvert_closed s t m h with hm | hk
    · exact ⟨s, .inl rfl, by rw [convertVersionApi, hm]; exact .refl h⟩
    · exact ⟨t, .inr rfl, hk⟩
  | ir =>
    simp only [convertVersionApi, inlineModel_valid h]
    rcases requiresInline_closed s t fb capiFails m h rfl with hm | hk
    · exact ⟨s, .inl rfl, by rw [hm]; exact .refl h⟩
    · exact ⟨t, .inr rfl, hk⟩
  | proto =>
    have h0 := eraseVersions_valid h
    simp only [convertVersionApi, inlineModel_valid h0.valid]
    have hc := requiresInline_closed s t fb capiFails _ h0.valid rfl
    rcases hr : requiresInlineCall fb t capiFails (eraseVersions m) with ⟨m2, er⟩
    rw [hr] at hc
    cases er with
    | some _ => exact ⟨s, .inl rfl, h0⟩
    | none =>
      rcases hc with hm | hk
      · cases hm; exact ⟨s, .inl rfl, h0.trans (eraseVersions_valid h0.valid)⟩
      · exact ⟨t, .inr rfl, h0.trans (hk.trans (eraseVersions_valid hk.valid))⟩

theorem keeps_history {d : Nat} (e : Entry) (hist : List (Fallback × Nat)) :
    ∀ {s : Nat} {m : Model (NodeD d)}, ValidModel s m →
    ∃ s', (s' = s ∨ s' ∈ hist.map (·.2)) ∧
      Keeps s m s' (convertHistory e (hist.map (fun c => (c.1, c.2, capiFails))) m).1 := by
  induction hist with
  | nil => exact fun h => ⟨_, .inl rfl, .refl h⟩
  | cons c rest ih =>
    intro s m h
    obtain ⟨s1, hs1, k1⟩ := keeps_call e c.2 c.1 h
    obtain ⟨s', hs', k'⟩ := ih k1.valid
    refine ⟨s', ?_, k1.trans k'⟩
    rcases hs' with rfl | h1
    · exact hs1.imp id fun h2 => by rw [h2]; exact List.mem_cons_self ..
    · exact .inr (List.mem_cons_of_mem _ h1)

end OV.C10
