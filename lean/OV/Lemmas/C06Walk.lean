import OV.Lemmas.C06Greedy
/-!
  C06 — the walk through `_match_value` / `_match_node` / the output-node loop over a stack of partial matches: the
  exact outcome (`StepE`) of each function, for every pattern.

  * Soundness half: the invariant `InvG` and `SatV`/`SatN` of the assignment read through the stack, claimed under a
    guard on the success flags (`C06Vocab`); the two disjunctions in the statements say where a repair or a finding
    matters.
  * Completeness half: the run is bound to find what a *leftmost* instance describes (`SatVG`, `SatNL`).  The
    conditions only this half needs (`ValC`, `AltsC`, `NodeCond`: trivial guard, no tagged dispatch, no checker on
    named variables, the fuel) stand in the condition slot of `StepE`, so the soundness half keeps its generality.
    The one delicate step is in `matchAlts_exact`: an alternative that succeeds is satisfiable (soundness of that very
    run), so a leftmost instance takes it.

  The arity condition of finding C06-F1 is a marker `Ar` on the outcome (`ResA`), not a hypothesis: only the output
  loop looks at it, and the completeness half does not depend on it.

  `C06Sound` and `C06Complete` read the two halves.
-/
namespace OV.C06

/-- the conditions under which `_match_value` is bound to find what a leftmost instance describes.  `g` asks for
the trivial guard: the completeness argument uses the soundness half of the same run at every state (an alternative
that returned `True` is satisfiable), and the trivial guard is sound only without tagged dispatch — which is why
`bk` is there.  `cn` stands for the conditions of the recursive node matcher. -/
structure ValC (G : Stack → Prop) (E : Env) (CN : Prop) (f : Nat) (vp : VPat) : Prop where
  g : ∀ st, G st
  cn : CN
  bk : vp.backOk = true
  nu : E.fixF2 = false ∨ vp.nu = true
  lt : ∀ q ∈ vp.refs, q < f

/-- … and for the `BacktrackingOr` loop -/
structure AltsC (G : Stack → Prop) (E : Env) (CN : Prop) (f : Nat) (alts : List VPat) : Prop where
  g : ∀ st, G st
  cn : CN
  bk : backOkL alts = true
  nu : E.fixF2 = false ∨ nuL alts = true
  lt : ∀ q ∈ refsL alts, q < f

theorem AltsC.cons {G : Stack → Prop} {E : Env} {CN : Prop} {f : Nat} {alt : VPat} {more : List VPat}
    (h : AltsC G E CN f (alt :: more)) : ValC G E CN f alt ∧ AltsC G E CN f more := by
  obtain ⟨hg, hc, hb, hn, hq⟩ := h
  simp only [backOkL, nuL, Bool.and_eq_true] at hb hn
  have hq' : ∀ q, (q ∈ alt.refs ∨ q ∈ refsL more) → q < f := fun q hm => hq q (refsL.eq_2 .. ▸ List.mem_append.2 hm)
  exact ⟨⟨hg, hc, hb.1, hn.imp_right (·.1), fun q hm => hq' q (.inl hm)⟩,
    ⟨hg, hc, hb.2, hn.imp_right (·.2), fun q hm => hq' q (.inr hm)⟩⟩

/-- what the `BacktrackingOr` loop is after: the assignment takes some alternative, leftmost -/
def AltsN (E : Env) (SN : Assign → NPId → NodeId → Prop) (v : Option ValueId) (tagVar : Option String)
    (alts : List VPat) (tags : List Int) (A : Assign) : Prop :=
  ∃ i ai, alts[i]? = some ai ∧ SatVG E A (SN A) ai v ∧
    (∀ t, tagVar = some t → A.names t = some (.tag (tags.getD i 0))) ∧
    ∀ j, j < i → ∀ aj, alts[j]? = some aj → Unsat E aj v

theorem AltsN.cases {E : Env} {SN : Assign → NPId → NodeId → Prop} {v : Option ValueId} {tagVar : Option String}
    {alt : VPat} {more : List VPat} {tags : List Int} {A : Assign} (h : AltsN E SN v tagVar (alt :: more) tags A) :
    (SatVG E A (SN A) alt v ∧ ∀ t, tagVar = some t → A.names t = some (.tag (tags.headD 0))) ∨
      (Unsat E alt v ∧ AltsN E SN v tagVar more tags.tail A) := by
  obtain ⟨i, ai, hi, hs, ht, hun⟩ := h
  cases i with
  | zero =>
    cases Option.some.inj (List.getElem?_cons_zero.symm.trans hi)
    exact .inl ⟨hs, fun t e => by have := ht t e; cases tags <;> simpa using this⟩
  | succ j =>
    exact .inr ⟨hun 0 (Nat.succ_pos j) alt rfl, j, ai, List.getElem?_cons_succ.symm.trans hi, hs,
      fun t e => getD_tail tags j ▸ ht t e,
      fun k hk ak hak => hun (k + 1) (Nat.succ_lt_succ hk) ak (List.getElem?_cons_succ.trans hak)⟩

theorem tagBind_exact (tagVar : Option String) (t : Int) (R' : Stack) (cur1 : Partial) :
    ∃ cur2, tagBind tagVar t (cur1 :: R') = cur2 :: R' ∧ GrowsB R' cur1 cur2 ∧
      (cur2.ok = true → ∀ tv, tagVar = some tv → lookupBinding (cur2 :: R') tv = some (.tag t)) ∧
      (∀ A, (∀ tv, tagVar = some tv → A.names tv = some (.tag t)) → cur1.ok = true → SubS (cur1 :: R') A →
        cur2.ok = true ∧ SubS (cur2 :: R') A) := by
  cases tagVar with
  | none => exact ⟨cur1, rfl, Growth.refl _, fun _ _ e => (nomatch e), fun _ _ ok s => ⟨ok, s⟩⟩
  | some tv =>
    obtain ⟨⟨cur2, rb, gb, bb⟩, cb⟩ := bind_stepE R' cur1 tv (.tag t)
    refine ⟨cur2, rb.st, gb, fun hok tv' e => by cases e; exact (bb (rb.true_of_ok trivial hok)).2, fun A hA ok s => ?_⟩
    obtain ⟨c', e, ok', s'⟩ := cb trivial A (hA tv rfl) ok s
    cases rb.eq e
    exact ⟨ok', s'⟩

/-- what the recursive node matcher has to satisfy: sound under the guard, and — at the trivial guard, under its
conditions `CN`, below `f` — bound to find what `SN` describes -/
def NodeSpecE (Ar : Prop) (G : Stack → Prop) (E : Env) (CN : Prop) (SN : Assign → NPId → NodeId → Prop) (f : Nat)
    (rec : NPId → NodeId → Stack → R) : Prop :=
  ∀ np n rest c P, InvG G E rest c P → (∀ x ∈ P, np < x) → FreshP rest c →
    StepE Ar (Grows rest) rest c (rec np n (c :: rest))
      (fun c' => InvG G E rest c' P ∧ (G (c' :: rest) → SatN E (assignStack (c' :: rest)) np n))
      ((∀ st, G st) ∧ CN ∧ np < f) (fun A => SN A np n)

variable {Ar : Prop} {G : Stack → Prop} {E : Env} {rec : NPId → NodeId → Stack → R} {CN : Prop}
  {SN : Assign → NPId → NodeId → Prop} {f : Nat}

/-- `_match_value` on a `NodeOutputPattern`, after the cross-graph test -/
theorem matchOut_exact (hG : Guard G) (hrec : NodeSpecE Ar G E CN SN f rec) {np : NPId} {idx : Nat} {x : ValueId}
    {rest : Stack} {c : Partial} {P : List NPId} (hfor : E.g.isForeign x = false)
    (hinv : InvG G E rest c P) (hlt : ∀ y ∈ P, np < y)
    (hf : FreshP rest c) : ∀ r, bindValue E.p (c :: rest) (.out np idx) (some x) = r →
      StepE Ar (Grows rest) rest c (if !r.1 then r else matchNodeOutput E rec np idx x r.2)
        (fun c' => InvG G E rest c' P ∧
          (G (c' :: rest) → SatV E (assignStack (c' :: rest)) (.out np idx) (some x)))
        ((∀ st, G st) ∧ CN ∧ np < f) (fun A => ∃ n, A.boundTo E.p (.out np idx) (some x) ∧ E.g.producer x = some n ∧
          E.g.index x = some idx ∧ SN A np n) := by
  refine (bindValue_stepE ..).ar.ofB.bind (fun _ => trivial) (fun A ⟨_, hb, _⟩ => hb) fun c1 g1 ⟨e1, _, b1⟩ => ?_
  unfold matchNodeOutput
  split
  · next hnone => exact .fail fun _ A ⟨_, _, hp, _⟩ _ => by rw [hnone] at hp; cases hp
  next n hprod =>
  refine .test (fun _ A ⟨_, _, _, hi, _⟩ _ => by simp [hi]) fun hidx => ?_
  refine (hrec np n rest c1 P (hinv.ext hG e1) hlt (g1.fresh hf)).mono
    (fun c2 g2 ⟨hi, hs⟩ => ⟨hi, fun hg => ?_⟩) id
    (fun A ⟨_, _, hp, _, hsn⟩ => by cases hprod.symm.trans hp; exact hsn)
  exact .out np idx x n (boundTo_mono (g2.le.toALeS rest) _ _ _ b1) hfor hprod (by simpa using hidx) (hs hg)

/-- `_match_value` on an `OpIdDispatchOr`: the dispatched alternative is matched as a `NodeOutputPattern`; the
result of binding the tag variable is ignored by the code -/
theorem matchValue_orD_exact (hG : Guard G) (hrec : NodeSpecE Ar G E CN SN f rec) (id : Nat) (name tagVar : Option String)
    (alts : List DAlt) (v : Option ValueId) (rest : Stack) (c : Partial) (P : List NPId)
    (htag : Tracks G ∨ (VPat.orD id name tagVar alts).backOk = true) (hinv : InvG G E rest c P) (hf : FreshP rest c)
    (hq : ∀ q ∈ (VPat.orD id name tagVar alts).refs, ∀ x ∈ P, q < x) :
    StepE Ar (Grows rest) rest c (matchValue E rec (.orD id name tagVar alts) v (c :: rest))
      (fun c' => InvG G E rest c' P ∧
        (G (c' :: rest) → SatV E (assignStack (c' :: rest)) (.orD id name tagVar alts) v))
      (ValC G E CN f (.orD id name tagVar alts)) (fun A => SatVG E A (SN A) (.orD id name tagVar alts) v) := by
  unfold matchValue
  refine .test (fun _ A hA _ => by simp [satVG_crossGraph hA]) fun hcg => ?_
  dsimp only
  generalize hr : bindValue E.p (c :: rest) (.orD id name tagVar alts) v = r; revert r
  refine (bindValue_stepE ..).ar.ofB.bind (fun _ => trivial) (fun A hs => by cases hs with | orD _ _ _ _ _ _ hb => exact hb)
    fun c1 g1 ⟨e1, _, b1⟩ => ?_
  cases v with
  | none => exact .fail fun _ A hs _ => nomatch hs
  | some x =>
    have hfor : E.g.isForeign x = false := crossGraph_own hcg rfl
    dsimp only
    split
    · next hnone =>
      exact .fail fun _ A hs _ => by
        cases hs with | orD _ _ _ _ _ _ _ _ hd => rw [hnone] at hd; cases hd
    next a hd =>
    -- `_match_value(pattern_choice, value)` with the dispatched `NodeOutputPattern`.  The code goes on with
    -- `if r2.1 then … else r2`, not with the skeleton `if !r.1 then r else …` of `StepE.bind`: hence by hand
    generalize hb : bindValue E.p (c1 :: rest) (.out a.np a.idx) (some x) = rb
    obtain ⟨⟨c3, ⟨st3, okF3⟩, g3, s3⟩, c3C⟩ := matchOut_exact hG hrec hfor (hinv.ext hG e1)
      (hq a.np (List.mem_map.2 ⟨a, getDispatch_mem hd, rfl⟩)) (g1.fresh hf) rb hb
    have hmem : a.np ∈ (VPat.orD id name tagVar alts).refs := List.mem_map.2 ⟨a, getDispatch_mem hd, rfl⟩
    have hCo : ValC G E CN f (.orD id name tagVar alts) → tagVar = none ∧ (∀ st, G st) ∧ CN ∧ a.np < f :=
      fun h => ⟨by simpa [VPat.backOk] using h.bk, h.g, h.cn, h.lt a.np hmem⟩
    have hNo : ∀ A, SatVG E A (SN A) (.orD id name tagVar alts) (some x) →
        ∃ n, A.boundTo E.p (.out a.np a.idx) (some x) ∧ E.g.producer x = some n ∧ E.g.index x = some a.idx ∧
          SN A a.np n := fun A hs => by
      cases hs with
      | orD _ _ _ _ _ d _ _ hd' hso =>
        cases hd.symm.trans hd'
        cases hso with
        | out _ _ _ n hb' _ hp hi hn => exact ⟨n, hb', hp, hi, hn⟩
    generalize (if !rb.1 then rb else matchNodeOutput E rec a.np a.idx x rb.2) = r2 at st3 okF3 s3 c3C ⊢
    obtain ⟨b2, s2⟩ := r2
    cases st3
    cases b2
    · exact ⟨⟨c3, ⟨rfl, okF3⟩, g3, nofun⟩, fun hC A hA ok s => by
        obtain ⟨_, e, _⟩ := c3C (hCo hC).2 A (hNo A hA) ok s
        cases e⟩
    obtain ⟨hi3, s3⟩ := s3 rfl
    have b3 := boundTo_mono (g3.le.toALeS rest) _ _ _ b1
    cases tagVar with
    | none =>
      exact ⟨⟨c3, ⟨rfl, nofun⟩, g3,
        fun _ => ⟨hi3, fun hg => .orD id name none alts x a b3 hfor hd (s3 hg) nofun⟩⟩,
        fun hC A hA ok s => c3C (hCo hC).2 A (hNo A hA) ok s⟩
    | some t =>
      -- `self._match.bind(tag_var, i)`: the result is ignored, a clash only fails the partial match
      obtain ⟨c4, r4, g4, b4⟩ := (bind_stepE rest c3 t (.tag a.tag)).1
      refine ⟨⟨c4, ⟨r4.st, nofun⟩, Growth.trans g3 g4.grows, fun _ => ⟨hi3.ext hG g4.ext, fun hg => ?_⟩⟩,
        fun hC => nomatch (hCo hC).1⟩
      have hok4 : c4.ok = true := htag.resolve_right (by simp [VPat.backOk]) c4 rest hg
      exact .orD id name (some t) alts x a (boundTo_mono (g4.ext.le.toALeS rest) _ _ _ b3) hfor hd
        (satV_mono (g4.ext.le.toALeS rest) (s3 (hG.le g4.ext.le hg)))
        (fun t' e => by cases e; exact (b4 (r4.true_of_ok trivial hok4)).2)

mutual
/-- `_match_value`.  The two disjunctions say where a repair or a finding matters: a `BacktrackingOr`
needs the repaired `merge`, a tagged `OpIdDispatchOr` needs a guard that tracks the success flags. -/
theorem matchValue_exact (hG : Guard G) (hrec : NodeSpecE Ar G E CN SN f rec) :
    ∀ (vp : VPat) (v : Option ValueId) (rest : Stack) (c : Partial) (P : List NPId),
    (E.fixF3 = true ∨ vp.dispOk = true) → (Tracks G ∨ vp.backOk = true) →
    InvG G E rest c P → FreshP rest c → (∀ q ∈ vp.refs, ∀ x ∈ P, q < x) →
    StepE Ar (Grows rest) rest c (matchValue E rec vp v (c :: rest))
      (fun c' => InvG G E rest c' P ∧ (G (c' :: rest) → SatV E (assignStack (c' :: rest)) vp v))
      (ValC G E CN f vp) (fun A => SatVG E A (SN A) vp v)
  | .any => fun v rest c P _ _ hinv _ _ => by
    unfold matchValue
    exact .test (fun _ A hA _ => by simp [satVG_crossGraph hA]) fun _ => .ret ⟨hinv, fun _ => .any v⟩
  | .var id name isVar canNone check => fun v rest c P _ _ hinv _ _ => by
    unfold matchValue
    refine .test (fun _ A hA _ => by simp [satVG_crossGraph hA]) fun hcg => ?_
    dsimp only
    generalize hr : bindValue2 E.fixF2 E.p (c :: rest) (.var id name isVar canNone check) v = r; revert r
    refine (bindValue2_stepE ..).ar.ofB.bind (fun hC => hC.nu.imp_right nu_namedUnchecked) (fun A hs => by
      cases hs with | var _ _ _ _ _ _ hb => exact hb) fun c1 _ ⟨e1, _, b1⟩ => ?_
    refine .test (fun _ A hs _ => by
      cases hs with
      | var _ _ _ _ _ _ _ h1 =>
        cases v with
        | none => simp [h1 rfl]
        | some x => simp) fun hn => ?_
    exact .ret ⟨hinv.ext hG e1, fun _ => .var _ _ _ _ _ _ b1 (fun hv => by subst hv; simpa using hn)
      (crossGraph_var hcg)⟩
  | .const id k => fun v rest c P _ _ hinv _ _ => by
    unfold matchValue
    refine .test (fun _ A hA _ => by simp [satVG_crossGraph hA]) fun hcg => ?_
    dsimp only
    generalize hr : bindValue E.p (c :: rest) (.const id k) v = r; revert r
    refine (bindValue_stepE ..).ar.ofB.bind (fun _ => trivial) (fun A hs => by cases hs with | const _ _ _ _ hb => exact hb)
      fun c1 _ ⟨e1, _, b1⟩ => ?_
    cases v with
    | none => exact .fail fun _ A hs _ => nomatch hs
    | some x =>
      refine (matchConstant_stepE E k x rest c1).ar.ofB.mono (fun c2 g2 ⟨e2, _, cv, h1, h2⟩ =>
        ⟨hinv.ext hG (e1.trans e2), fun _ => .const id k x cv (boundTo_mono (g2.le.toALeS rest) _ _ _ b1) h1 h2⟩)
        (fun _ => trivial) (fun A hs => by cases hs with | const _ _ _ cv _ h1 h2 => exact ⟨cv, h1, h2⟩)
  | .out np idx => fun v rest c P _ _ hinv hf hq => by
    unfold matchValue
    refine .test (fun _ A hA _ => by simp [satVG_crossGraph hA]) fun hcg => ?_
    cases v with
    | none =>
      refine .ofStep ?_ (fun _ A hs => nomatch hs)
      dsimp only
      generalize hr : bindValue E.p (c :: rest) (.out np idx) none = r; revert r
      exact (bindValue_stepE (p := E.p) ..).ar.1.ofB.bind fun _ _ _ => .fail
    | some x =>
      exact (matchOut_exact hG hrec (crossGraph_out hcg) hinv (hq np (by simp [VPat.refs])) hf _ rfl).mono
        (fun _ _ h => h) (fun hC => ⟨hC.g, hC.cn, hC.lt np (by simp [VPat.refs])⟩) (fun A hs => by
          cases hs with
          | out _ _ _ n hb _ hp hi hn => exact ⟨n, hb, hp, hi, hn⟩)
  | .orD id name tagVar alts => fun v rest c P _ htag hinv hf hq =>
    matchValue_orD_exact hG hrec id name tagVar alts v rest c P htag hinv hf hq
  | .orB id name tagVar tags alts => fun v rest c P hm htag hinv hf hq => by
    have hf3 : E.fixF3 = true := hm.resolve_right (by simp [VPat.dispOk])
    unfold matchValue
    refine .test (fun _ A hA _ => by simp [satVG_crossGraph hA]) fun hcg => ?_
    dsimp only
    generalize hr : bindValue E.p (c :: rest) (.orB id name tagVar tags alts) v = r; revert r
    refine (bindValue_stepE ..).ar.ofB.bind (fun _ => trivial) (fun A hs => by cases hs with | orB _ _ _ _ _ _ _ _ hb => exact hb)
      fun c1 g1 ⟨e1, _, b1⟩ => ?_
    refine (matchAlts_exact hG hrec hf3 alts tags tagVar v rest c1 P
      (htag.imp_right (by simpa [VPat.backOk] using ·)) (hinv.ext hG e1) (g1.fresh hf)
      (fun q hq' => hq q (by simpa [VPat.refs] using hq'))).mono
      (fun c2 g2 ⟨hi, hs⟩ => ⟨hi, fun hg => ?_⟩)
      (fun hC => ⟨hC.g, hC.cn, by simpa [VPat.backOk] using hC.bk, hC.nu.imp_right (by simpa [VPat.nu] using ·),
        fun q hq' => hC.lt q (by simpa [VPat.refs] using hq')⟩)
      (fun A hs => by
        cases hs with
        | orB _ _ _ _ _ _ i alt _ _ hi hsa ht hun => exact ⟨i, alt, hi, hsa, ht, hun⟩)
    obtain ⟨i, alt, ha, hsat, htg⟩ := hs hg
    exact .orB id name tagVar tags alts v i alt (boundTo_mono (g2.le.toALeS rest) _ _ _ b1)
      (crossGraph_orB hcg) ha hsat htg
/-- the `for i, pattern_choice in enumerate(pattern_value._values)` loop of `BacktrackingOr`: each
alternative runs in a sub-match, which is merged into the current partial match if it succeeds -/
theorem matchAlts_exact (hG : Guard G) (hrec : NodeSpecE Ar G E CN SN f rec) (hf3 : E.fixF3 = true) :
    ∀ (alts : List VPat) (tags : List Int)
    (tagVar : Option String) (v : Option ValueId) (rest : Stack) (c : Partial) (P : List NPId),
    (Tracks G ∨ backOkL alts = true) → InvG G E rest c P → FreshP rest c →
    (∀ q ∈ refsL alts, ∀ x ∈ P, q < x) →
    StepE Ar (Grows rest) rest c (matchAlts E rec alts tags tagVar v (c :: rest))
      (fun c' => InvG G E rest c' P ∧ (G (c' :: rest) → ∃ i alt, alts[i]? = some alt ∧
        SatV E (assignStack (c' :: rest)) alt v ∧
        (∀ t, tagVar = some t → (assignStack (c' :: rest)).names t = some (.tag (tags.getD i 0)))))
      (AltsC G E CN f alts) (AltsN E SN v tagVar alts tags)
  | [] => fun tags tagVar v rest c P _ _ _ _ => by
    unfold matchAlts
    exact .fail fun _ A ⟨i, ai, hi, _⟩ _ => by simp at hi
  | alt :: more => fun tags tagVar v rest c P htag hinv hf hq => by
    have htag' : (Tracks G ∨ alt.backOk = true) ∧ (Tracks G ∨ backOkL more = true) := by
      rcases htag with h | h
      · exact ⟨.inl h, .inl h⟩
      · simp only [backOkL, Bool.and_eq_true] at h
        exact ⟨.inr h.1, .inr h.2⟩
    -- the remaining alternatives, counted from this one
    obtain ⟨hrestS, hrestC⟩ := matchAlts_exact hG hrec hf3 more tags.tail tagVar v rest c P htag'.2 hinv hf
      (fun q hq' => hq q (by simp [refsL, hq']))
    replace hrestS := hrestS.mono (Q' := fun c' => InvG G E rest c' P ∧
        (G (c' :: rest) → ∃ i a, (alt :: more)[i]? = some a ∧ SatV E (assignStack (c' :: rest)) a v ∧
          (∀ t, tagVar = some t → (assignStack (c' :: rest)).names t = some (.tag (tags.getD i 0)))))
      fun c' _ ⟨hi, hs⟩ => ⟨hi, fun hg => by
        obtain ⟨i, a, ha, hs, ht⟩ := hs hg
        exact ⟨i + 1, a, by simpa using ha, hs, fun t e => getD_tail tags i ▸ ht t e⟩⟩
    -- the alternative runs in a fresh sub-match pushed on the stack
    have inv0 : InvG G E (c :: rest) ({} : Partial) P := fun hg => (hinv (hG.pop hg)).push
    obtain ⟨⟨cur1, ra, ga, sa⟩, ca⟩ := matchValue_exact hG hrec alt v (c :: rest) {} P (.inl hf3) htag'.1 inv0
      (FreshP.empty _) (fun q hq' => hq q (by simp [refsL, hq']))
    unfold matchAlts
    dsimp only
    rw [show enter (c :: rest) = ({} : Partial) :: c :: rest from rfl, ra.st]
    cases hta : (matchValue E rec alt v (({} : Partial) :: c :: rest)).1
    · -- it failed: the instance's alternative is a later one
      refine ⟨hrestS, fun hC A hA ok s => ?_⟩
      rcases hA.cases with ⟨hv, _⟩ | ⟨_, hm⟩
      · obtain ⟨_, e, _⟩ := ca hC.cons.1 A hv rfl s.push
        rw [e] at hta
        cases hta
      · exact hrestC hC.cons.2 A hm ok s
    · obtain ⟨hi1, s1⟩ := sa hta
      -- it succeeded, so it is satisfiable: an instance that is leftmost takes it; the sub-match agrees with it
      have hfirst : AltsC G E CN f (alt :: more) → ∀ A, AltsN E SN v tagVar (alt :: more) tags A →
          SubS (c :: rest) A → (∀ t, tagVar = some t → A.names t = some (.tag (tags.headD 0))) ∧ cur1.ok = true ∧
            SubS (cur1 :: c :: rest) A := fun hC A hA s => by
        rcases hA.cases with ⟨hv, ht⟩ | ⟨hun, _⟩
        · obtain ⟨c', e, ok', s'⟩ := ca hC.cons.1 A hv rfl s.push
          cases ra.eq e
          exact ⟨ht, ok', s'⟩
        · exact absurd (s1 (hC.g _)) (hun _)
      obtain ⟨cur2, hst2, g12, htag2, ctag⟩ := tagBind_exact tagVar (tags.headD 0) (c :: rest) cur1
      rw [hst2]
      have f2 : FreshP (c :: rest) cur2 := g12.fresh (ga.fresh (FreshP.empty _))
      cases hok2 : topOk (cur2 :: c :: rest)
      · -- the tag binding failed the sub-match (not on the way to an instance): it is abandoned; the two revisions
        -- of repair F8 differ only in what is returned then
        have hC : AltsC G E CN f (alt :: more) → ∀ A, AltsN E SN v tagVar (alt :: more) tags A → c.ok = true →
            SubS (c :: rest) A → False := fun hc A hA _ s => by
            obtain ⟨ht, ok1, s1'⟩ := hfirst hc A hA s
            have := (ctag A ht ok1 s1').1
            rw [show cur2.ok = false from hok2] at this
            cases this
        refine ⟨?_, fun hc A hA ok s => (hC hc A hA ok s).elim⟩
        cases E.fixF8
        · exact Step.fail (c := c)
        · exact hrestS
      · have hok2' : cur2.ok = true := hok2
        show StepE _ _ _ _ (true, mergeTop E.fixF3 (cur2 :: c :: rest)) _ _ _
        simp only [mergeTop, hf3, if_true]
        obtain ⟨eb, ev, en, eok, fm⟩ := mergeAll_spec rest c cur2 hf f2
        obtain ⟨alem, hnode⟩ := mergeAll_assign rest c cur2 hf f2
        have lecm := mergeAll_le rest c cur2 hf f2
        have hgc : G (c.mergeAll cur2 :: rest) → G (cur2 :: c :: rest) := fun hg =>
          hG.push hok2' (hG.le lecm hg)
        refine ⟨⟨c.mergeAll cur2, ⟨rfl, nofun⟩, ⟨lecm, fun _ => fm⟩, fun _ => ⟨fun hg q m hq' => ?_,
          fun hg => ⟨0, alt, rfl, ?_, fun t e => ?_⟩⟩⟩, fun hc A hA ok s => ?_⟩
        · rw [hnode q] at hq'
          rcases (hi1.ext hG g12.ext) (hgc hg) q m hq' with h | h
          · exact .inl h
          · exact .inr (satN_mono alem h)
        · exact satV_mono alem (satV_mono (g12.ext.le.toALeS (c :: rest)) (s1 (hG.le g12.ext.le (hgc hg))))
        · have h2 := alem.names _ _ (htag2 hok2' t e)
          cases tags <;> simpa using h2
        · -- the merged partial match holds what the parent and the sub-match held
          obtain ⟨ht, ok1, s1'⟩ := hfirst hc A hA s
          obtain ⟨tb, tv', tn⟩ := s.top
          obtain ⟨ub, uv, un⟩ := (ctag A ht ok1 s1').2.top
          refine ⟨_, rfl, eok.trans ok, s.setTop ?_ ?_ ?_⟩
          · rw [eb]; exact fun k x hm => (List.mem_append.1 hm).elim (tb k x) (ub k x)
          · rw [ev]; exact fun k x hm => (List.mem_append.1 hm).elim (tv' k x) (uv k x)
          · rw [en]; exact fun k x hm => (List.mem_append.1 hm).elim (tn k x) (un k x)

end

/-- the loop over the inputs in `_match_node`, over any value matcher with an exact step; `I` is what the value
matcher keeps invariant, `S` what it establishes of a pair (and later steps preserve), `CV` its conditions, `NV`
what it asks of the assignment -/
theorem matchInputs_stepE (mv : VPat → Option ValueId → Stack → R) (rest : Stack) (I : Partial → Prop)
    (S : Partial → VPat → Option ValueId → Prop) (CV : VPat → Prop) (NV : Assign → VPat → Option ValueId → Prop)
    (hS : ∀ c c' vp v, Grows rest c c' → S c vp v → S c' vp v) :
    ∀ (pairs : List (Option ValueId × Option VPat)) (c : Partial), I c →
    (∀ v vp, (v, some vp) ∈ pairs → ∀ c, I c →
      StepE Ar (Grows rest) rest c (mv vp v (c :: rest)) (fun c' => I c' ∧ S c' vp v) (CV vp) (fun A => NV A vp v)) →
    StepE Ar (Grows rest) rest c (matchInputs mv pairs (c :: rest))
      (fun c' => I c' ∧ (∀ v, (v, none) ∈ pairs → v = none) ∧ ∀ v vp, (v, some vp) ∈ pairs → S c' vp v)
      (∀ v vp, (v, some vp) ∈ pairs → CV vp)
      (fun A => (∀ v, (v, none) ∈ pairs → v = none) ∧ ∀ v vp, (v, some vp) ∈ pairs → NV A vp v)
  | [], c, hi, _ => .ret ⟨hi, nofun, nofun⟩
  | (v, none) :: tl, c, hi, hmv => by
    unfold matchInputs
    cases hv : v.isNone
    · exact .fail fun _ A hA _ => by simp [hA.1 v (List.mem_cons_self ..)] at hv
    · refine (matchInputs_stepE mv rest I S CV NV hS tl c hi fun v vp hm => hmv v vp (List.mem_cons_of_mem _ hm)).mono
        (fun c' _ ⟨hi', h1, h2⟩ => ⟨hi', fun v' hm => ?_, fun v' vp hm => ?_⟩)
        (fun hC v vp hm => hC v vp (List.mem_cons_of_mem _ hm))
        (fun A hA => ⟨fun v hm => hA.1 v (List.mem_cons_of_mem _ hm), fun v vp hm => hA.2 v vp (List.mem_cons_of_mem _ hm)⟩)
      · rcases List.mem_cons.1 hm with he | hm
        · cases he; simpa using hv
        · exact h1 v' hm
      · rcases List.mem_cons.1 hm with he | hm
        · cases he
        · exact h2 v' vp hm
  | (v, some vp) :: tl, c, hi, hmv => by
    unfold matchInputs
    dsimp only
    generalize hr : mv vp v (c :: rest) = r; revert r
    refine (hmv v vp (List.mem_cons_self ..) c hi).bind (fun hC => hC v vp (List.mem_cons_self ..))
      (fun A hA => hA.2 v vp (List.mem_cons_self ..)) fun c1 _ ⟨hi1, s1⟩ => ?_
    refine (matchInputs_stepE mv rest I S CV NV hS tl c1 hi1 fun v vp hm => hmv v vp (List.mem_cons_of_mem _ hm)).mono
      (fun c' g' ⟨hi', h1, h2⟩ => ⟨hi', fun v' hm => ?_, fun v' vp' hm => ?_⟩)
      (fun hC v vp hm => hC v vp (List.mem_cons_of_mem _ hm))
      (fun A hA => ⟨fun v hm => hA.1 v (List.mem_cons_of_mem _ hm), fun v vp hm => hA.2 v vp (List.mem_cons_of_mem _ hm)⟩)
    · rcases List.mem_cons.1 hm with he | hm
      · cases he
      · exact h1 v' hm
    · rcases List.mem_cons.1 hm with he | hm
      · cases he
        exact hS _ _ _ _ g' s1
      · exact h2 v' vp' hm

/-- the conditions under which `_match_node` is bound to find the nodes a leftmost instance maps the node patterns
to: no tagged dispatch (see `ValC`), and no checker on a named variable (or before repair C06-F2, which made the
checker of a named variable part of the state) -/
structure NodeCond (E : Env) : Prop where
  bk : E.p.backOk = true
  nu : E.fixF2 = false ∨ E.p.nuOk

/-- `SatNL E A np n`, read for the node pattern `Pn` and the node `N` at hand -/
structure NodeAsk (E : Env) (A : Assign) (np : NPId) (n : NodeId) (Pn : NPat) (N : GNode) : Prop where
  node : A.node np = some n
  mat : Pn.op.matches N.op = true ∧ Pn.domain.matches N.domain = true ∧ attrsSat A Pn N
  len : N.inputs.length ≤ Pn.inputs.length ∨ Pn.allowOtherInputs = true
  nones : ∀ i : Nat, Pn.inputs[i]? = some none → inputAt N i = none
  somes : ∀ (i : Nat) (vp : VPat), Pn.inputs[i]? = some (some vp) → SatVL E A vp (inputAt N i)
  outs : ∀ i, i < Pn.outputs.length → ∃ x, N.outputs[i]? = some x ∧ A.boundTo E.p (.out np i) (some x)

theorem NodeAsk.of {E : Env} {A : Assign} {np : NPId} {n : NodeId} {Pn : NPat} {N : GNode}
    (hP : E.p.nodes[np]? = some Pn) (hN : E.g.nodes[n]? = some N) (hs : SatNL E A np n) :
    NodeAsk E A np n Pn N := by
  cases hs with
  | mk _ _ P' N' hP' hN' h3 h4 h5 h6 h7 h8 h9 h10 =>
    cases hP.symm.trans hP'
    cases hN.symm.trans hN'
    exact ⟨h3, ⟨h4, h5, h6⟩, h7, h8, h9, h10⟩

/-- one level of `_match_node` -/
theorem nodeStep_exact (hG : Guard G) (hrec : NodeSpecE Ar G E (NodeCond E) (fun A => SatNL E A) f rec)
    (hm : E.fixF3 = true ∨ E.p.dispOk = true) (ht : Tracks G ∨ E.p.backOk = true)
    (htopo : E.p.topoDeep) (hAr : Ar → E.fixF1 = true ∨ OutputArityOk E.p E.g) :
    NodeSpecE Ar G E (NodeCond E) (fun A => SatNL E A) (f + 1) (nodeStep E (matchValue E rec)) := by
  intro np n rest c P hinv hlt hf
  unfold nodeStep
  split
  · next m hm' =>
    split
    · next hmn =>
      have hmn' : m = n := eq_of_beq hmn
      subst hmn'
      refine .ret ⟨hinv, fun hg => ?_⟩
      rcases hinv hg np m hm' with h | h
      · exact absurd (hlt np h) (Nat.lt_irrefl _)
      · exact h
    · next hmn =>
      exact .fail fun _ A hs s => hmn (by
        have := (s.node hm').symm.trans (satN_node hs.toSatN)
        simpa using Option.some.inj this)
  next hnone =>
  split
  · next Pn N hP hN =>
    have ask := fun A (hA : SatNL E A np n) => NodeAsk.of hP hN hA
    obtain ⟨⟨c1, r1, g1, a1⟩, c1C⟩ := nodeMatches_stepE Pn N rest c
    dsimp only
    rw [r1.st]
    -- `if not pattern_node.matches(node, self._match): return self.fail(...)`
    cases ht1 : (nodeMatches Pn N (c :: rest)).1
    · exact ⟨⟨_, (ResS.failed rest c1).toA, Growth.trans g1.grows (Growth.failed c1), nofun⟩, fun _ A hA ok s => by
        obtain ⟨_, e, _⟩ := c1C trivial A (ask A hA).mat ok s
        rw [e] at ht1
        cases ht1⟩
    obtain ⟨_, hop, hdom, hattr⟩ := a1 ht1
    -- the state after `bind_node`
    let c2 : Partial := { c1 with nodes := c1.nodes ++ [n], nb := c1.nb ++ [(np, n)] }
    have hnone1 : lookupNode (c1 :: rest) np = none := by
      rw [lookupNode_cons, g1.ext.nb, ← lookupNode_cons]; exact hnone
    obtain ⟨hmr, hm1⟩ := Option.or_eq_none_iff.1 (lookupNode_cons c1 rest np ▸ hnone1)
    have l12 : Le c1 c2 := ⟨fun _ _ h => h, fun _ _ h => h, fun k x h => (List.prefix_append _ _).lookup_eq_some h, id⟩
    have g12 : Grows rest c c2 := ⟨g1.ext.le.trans l12, fun h => (g1.fresh h).snocN n hnone1⟩
    have hnp2 : lookupNode (c2 :: rest) np = some n := by
      rw [lookupNode_cons, hmr]
      exact lookup_snoc_self _ _ _ hm1
    have inv2 : InvG G E rest c2 (np :: P) := fun hg => ((hinv.ext hG g1.ext) (hG.le l12 hg)).bindNode n
    -- which still agrees with an assignment that is asked for
    refine StepE.after g12 ?_ fun A hA ok s => by
      obtain ⟨c1', e, ok1, s1⟩ := c1C trivial A (ask A hA).mat ok s
      cases r1.eq e
      obtain ⟨tb, tv, tn⟩ := s1.top
      exact ⟨ok1, s1.setTop tb tv (agree_snoc tn (ask A hA).node)⟩
    refine .test (fun _ A hA _ => by simp [otherInputs_guard (ask A hA).len]) fun hlen => ?_
    have hpairs : ∀ v vp, (v, some vp) ∈ zipPad N.inputs Pn.inputs → some vp ∈ Pn.inputs ∧
        (E.fixF3 = true ∨ vp.dispOk = true) ∧ (Tracks G ∨ vp.backOk = true) ∧
          (∀ q ∈ vp.refs, q < np) ∧ ∀ q ∈ vp.refs, ∀ x ∈ np :: P, q < x := by
      intro v vp hmem
      have hin := zipPad_mem_snd _ _ _ _ hmem
      refine ⟨hin, hm.imp_right (dispOk_input · hP hin), ht.imp_right (backOk_input · hP hin),
        htopo np Pn hP vp hin, fun q hqr x hx => ?_⟩
      have hqnp := htopo np Pn hP vp hin q hqr
      rcases List.mem_cons.1 hx with h | h
      · exact h ▸ hqnp
      · exact Nat.lt_trans hqnp (hlt x h)
    have hmi := matchInputs_stepE (matchValue E rec) rest (fun c => InvG G E rest c (np :: P) ∧ FreshP rest c)
      (fun c' vp v => G (c' :: rest) → SatV E (assignStack (c' :: rest)) vp v)
      (ValC G E (NodeCond E) f) (fun A vp v => SatVG E A (SatNL E A) vp v)
      (fun c c' vp v g s hg => satV_mono (g.le.toALeS rest) (s (hG.le g.le hg)))
      (zipPad N.inputs Pn.inputs) c2 ⟨inv2, g12.fresh hf⟩ fun v vp hmem c ⟨hi, hfr⟩ =>
        (matchValue_exact hG hrec vp v rest c (np :: P) (hpairs v vp hmem).2.1 (hpairs v vp hmem).2.2.1 hi hfr
          (hpairs v vp hmem).2.2.2.2).mono (fun c' g ⟨hi', hs'⟩ => ⟨⟨hi', g.fresh hfr⟩, hs'⟩) id (fun _ h => h)
    generalize hr : matchInputs (matchValue E rec) (zipPad N.inputs Pn.inputs) (bindNode (c1 :: rest) np n) = r
    revert r
    refine hmi.bind (fun ⟨hg, hc, hl⟩ v vp hmem => ?_) (fun A hA => ?_) fun c3 g3 ⟨⟨hi3, _⟩, hn3, s3⟩ => ?_
    · have hin := (hpairs v vp hmem).1
      exact ⟨hg, hc, backOk_input hc.bk hP hin, hc.nu.imp_right (· Pn (List.mem_of_getElem? hP) vp hin),
        fun q hq => Nat.lt_of_lt_of_le ((hpairs v vp hmem).2.2.2.1 q hq) (Nat.le_of_lt_succ hl)⟩
    · obtain ⟨hpn, hps⟩ := zipPad_sat (ask A hA).nones (ask A hA).somes
      exact ⟨hpn, fun v vp hmem => (hps v vp hmem).2.toG⟩
    have harity : Ar → E.fixF1 = true ∨ 0 + Pn.outputs.length ≤ N.outputs.length :=
      fun ha => (hAr ha).imp_right fun har => by
        have := har Pn (List.mem_of_getElem? hP) N (List.mem_of_getElem? hN) hop hdom
        omega
    refine (bindOutputs_stepE E.fixF1 E.p np N.outputs rest Pn.outputs 0 c3 harity).ofB.mono
      (fun c4 g4 ⟨e4, _, b4⟩ => ?_)
      (fun _ => trivial) (fun A hA j _ hj => (ask A hA).outs j (by omega))
    have l14 : Le c1 c4 := (l12.trans g3.le).trans g4.le
    have hnode4 : lookupNode (c4 :: rest) np = some n := ((g3.le.trans g4.le).toALeS rest).node _ _ hnp2
    have hsat : G (c4 :: rest) → SatN E (assignStack (c4 :: rest)) np n := fun hg => by
      refine .mk np n Pn N hP hN hnode4 hop hdom (attrsSat_mono (l14.toALeS rest) _ _ hattr) ?_
        (fun i hi => hn3 _ (zipPad_mem_of_get N.inputs Pn.inputs i none hi))
        (fun i vp hi => satV_mono (g4.le.toALeS rest)
          (s3 _ vp (zipPad_mem_of_get N.inputs Pn.inputs i (some vp) hi) (hG.le g4.le hg)))
        (fun i hi => b4 i (Nat.zero_le _) (by omega))
      by_cases hl : N.inputs.length ≤ Pn.inputs.length
      · exact .inl hl
      · have : N.inputs.length > Pn.inputs.length := by omega
        simp only [this, decide_true, Bool.true_and, Bool.not_eq_true', Bool.not_eq_false] at hlen
        exact .inr (by simpa using hlen)
    refine ⟨fun hg q m hq => ?_, hsat⟩
    rcases (hi3.ext hG e4) hg q m hq with h' | h'
    · rcases List.mem_cons.1 h' with h'' | h''
      · subst h''
        cases hnode4.symm.trans hq
        exact .inr (hsat hg)
      · exact .inl h''
    · exact .inr h'
  · next hne =>
    exact .fail fun _ A hs _ => by
      cases hs with
      | mk _ _ P' N' hP' hN' => exact hne P' N' hP' hN'

/-- `_match_node` -/
theorem matchNode_exact (hG : Guard G) (hm : E.fixF3 = true ∨ E.p.dispOk = true)
    (ht : Tracks G ∨ E.p.backOk = true) (htopo : E.p.topoDeep) (hAr : Ar → E.fixF1 = true ∨ OutputArityOk E.p E.g) :
    ∀ f, NodeSpecE Ar G E (NodeCond E) (fun A => SatNL E A) f (matchNode E f)
  | 0 => fun _ _ _ _ _ _ _ _ => .fail fun hC _ _ _ => absurd hC.2.2 (Nat.not_lt_zero _)
  | f + 1 => nodeStep_exact hG (matchNode_exact hG hm ht htopo hAr f) hm ht htopo hAr

/-- the loop over the output nodes, on the bottom partial match: sound, and bound to find the nodes a leftmost
instance maps the output nodes to (any number of output nodes) -/
theorem matchOutputNodes_exact (hG : Guard G) (hm : E.fixF3 = true ∨ E.p.dispOk = true)
    (ht : Tracks G ∨ E.p.backOk = true) (htopo : E.p.topoDeep) (hAr : Ar → E.fixF1 = true ∨ OutputArityOk E.p E.g) :
    ∀ (l : List (NPId × NodeId)) (c : Partial), InvG G E [] c [] → FreshP [] c →
      StepE Ar (Grows []) [] c (matchOutputNodes E l [c])
        (fun c' => InvG G E [] c' [] ∧ (G [c'] → ∀ np n, (np, n) ∈ l → SatN E (assignStack [c']) np n))
        ((∀ st, G st) ∧ NodeCond E ∧ ∀ np n, (np, n) ∈ l → np < E.p.fuel)
        (fun A => ∀ np n, (np, n) ∈ l → SatNL E A np n)
  | [], c, hinv, _ => .ret ⟨hinv, fun _ => nofun⟩
  | (np, n) :: tl, c, hinv, hf => by
    unfold matchOutputNodes
    dsimp only
    generalize hr : matchNode E E.p.fuel np n [c] = r; revert r
    refine (matchNode_exact hG hm ht htopo hAr E.p.fuel np n [] c [] hinv nofun hf).bind
      (fun ⟨hg, hc, hl⟩ => ⟨hg, hc, hl np n (List.mem_cons_self ..)⟩)
      (fun A hA => hA np n (List.mem_cons_self ..)) fun c1 g1 ⟨hi1, s1⟩ => ?_
    refine (matchOutputNodes_exact hG hm ht htopo hAr tl c1 hi1 (g1.fresh hf)).mono
      (fun c' g' ⟨hi, hs⟩ => ⟨hi, fun hg np' n' hmem => ?_⟩)
      (fun ⟨hg, hc, hl⟩ => ⟨hg, hc, fun np' n' hm => hl np' n' (List.mem_cons_of_mem _ hm)⟩)
      (fun A hA np' n' hm => hA np' n' (List.mem_cons_of_mem _ hm))
    rcases List.mem_cons.1 hmem with he | hmem
    · cases he
      exact satN_mono (g'.le.toALeS []) (s1 (hG.le g'.le hg))
    · exact hs hg np' n' hmem

end OV.C06
