import OV.Model.C05Linalg
import Mathlib.Algebra.BigOperators.Ring.Finset
import Mathlib.Algebra.Order.Field.Rat
import Mathlib.Tactic.Ring
import Mathlib.Tactic.NormNum
/-! Semantic carriers for the linear-algebra, padding and normalisation rules of C05 (matrices, signals and rows as
functions; Mathlib algebra), and arithmetic lemmas used by `OV/Props/C05.lean`. -/
namespace OV.Lemmas.C05Algebra
open OV.C05.Linalg
open Finset

/-- `MatMul` of 2-D operands, inner dimension `K`. -/
def mm {α : Type} [CommRing α] (K : Nat) (A B : Nat → Nat → α) : Nat → Nat → α :=
  fun i j => ∑ k ∈ range K, A i k * B k j

/-- `Transpose(perm=[1,0])`. -/
def tr {α : Type} (A : Nat → Nat → α) : Nat → Nat → α := fun i j => A j i

/-- ONNX `Gemm`: `alpha * A' * B' + beta * C` (C already broadcast to `(M,N)`). -/
def gemm {α : Type} [CommRing α] (K : Nat) (ta tb : Bool) (alpha beta : α) (A B C : Nat → Nat → α) :
    Nat → Nat → α :=
  fun i j => alpha * (∑ k ∈ range K, (if ta then A k i else A i k) * (if tb then B j k else B k j)) + beta * C i j

theorem sum_scale {α : Type} [CommRing α] (K : Nat) (w x : Nat → α) (s : α) :
    ∑ k ∈ range K, w k * s * x k = (∑ k ∈ range K, w k * x k) * s := by
  rw [Finset.sum_mul]; exact Finset.sum_congr rfl fun k _ => by ring

/-- A signal of length `m` read at any integer position: `fill` outside `[0, m)` — how Conv sees its (implicitly
padded) input; `fill = 0` for `Conv`, `fill = x_zero_point` for `ConvInteger`. -/
def ext {α : Type} (fill : α) (m : Nat) (y : Int → α) (i : Int) : α := if 0 ≤ i ∧ i < m then y i else fill

/-- `Pad(x, pads=[pb, pe], mode=constant, value=0)` of a length-`n` signal, as a function of its own index. -/
def padded {α : Type} [Zero α] (pb n : Nat) (x : Int → α) : Int → α := fun i => ext 0 n x (i - pb)

/-- SAME padding arithmetic on one axis: with `pb + pe = max(0, (y-1)*s + e - x)`, `e = (k-1)*d + 1` the dilated kernel
extent and `y = ceil(x/s)`, the convolution output length is `y`. -/
theorem same_len (x k s d : Nat) (hx : 0 < x) (hs : 0 < s) (pb pe : Nat)
    (hp : pb + pe = (((x + s - 1) / s - 1) * s + ((k - 1) * d + 1)) - x) :
    convOutLen x k s d pb pe = (x + s - 1) / s := by
  obtain ⟨q, hq⟩ : ∃ q, (x + s - 1) / s = q + 1 := ⟨_, (Nat.sub_add_cancel (Nat.div_pos (by omega) hs)).symm⟩
  -- `q*s + s ≤ x + s - 1 < q*s + 2s`; from here on `q*s` and the extent are atoms
  have h1 := Nat.div_mul_le_self (x + s - 1) s
  have h2 := Nat.lt_mul_div_succ (x + s - 1) hs
  rw [hq, Nat.add_sub_cancel] at hp
  rw [hq, Nat.add_mul, Nat.one_mul] at h1
  rw [hq, Nat.mul_add, Nat.mul_add, Nat.mul_one, Nat.mul_comm s q] at h2
  rw [hq, convOutLen]
  have he : 0 < (k - 1) * d + 1 := Nat.succ_pos _
  generalize (k - 1) * d + 1 = e at hp he ⊢
  have hdiv : (x + pb + pe - e) / s = q :=
    Nat.div_eq_of_lt_le (by generalize q * s = A at *; omega)
      (by rw [Nat.add_mul, Nat.one_mul]; generalize q * s = A at *; omega)
  rw [hdiv, if_neg (by generalize q * s = A at *; omega)]

/-! ## Layer-norm / RMS-norm over a field with an abstract square-root function (one normalised row of length `n`) -/

/-- `ReduceMean(·, axes=[-1], keepdims=1)` on one row. -/
def meanF {α : Type} [Field α] (n : Nat) (x : Nat → α) : α := (∑ k ∈ Finset.range n, x k) / n

/-- ONNX `LayerNormalization(X, Scale, axis=-1, epsilon)` on one row. -/
def layerNormSpec {α : Type} [Field α] (sqrtf : α → α) (n : Nat) (eps : α) (scale x : Nat → α) (i : Nat) : α :=
  (x i - meanF n x) / sqrtf (meanF n (fun k => (x k - meanF n x) ^ 2) + eps) * scale i

/-- The matched sub-graph of `LayerNormFusion`: `usePow` = `Pow(d, 2)` instead of `Mul(d, d)`; `useDiv` = `Div(d, std)` instead
of `Mul(d, Reciprocal(std))`. -/
def layerNormPattern {α : Type} [Field α] (sqrtf : α → α) (usePow useDiv : Bool) (n : Nat) (eps : α) (scale x : Nat → α) (i : Nat) : α :=
  let mean := meanF n x
  let d := fun k => x k - mean
  let dd := fun k => if usePow then d k ^ 2 else d k * d k
  let sd := sqrtf (meanF n dd + eps)
  (if useDiv then d i / sd else d i * sd⁻¹) * scale i

/-- ONNX `RMSNormalization(X, Scale, axis=-1, epsilon)` on one row. -/
def rmsNormSpec {α : Type} [Field α] (sqrtf : α → α) (n : Nat) (eps : α) (scale x : Nat → α) (i : Nat) : α :=
  x i / sqrtf (meanF n (fun k => x k ^ 2) + eps) * scale i

/-- The matched sub-graph of `RmsNormFusion` (`scaleFirst` = `Mul(scale, normalized)`). -/
def rmsNormPattern {α : Type} [Field α] (sqrtf : α → α) (scaleFirst : Bool) (n : Nat) (eps : α) (scale x : Nat → α) (i : Nat) : α :=
  let r := sqrtf (meanF n (fun k => x k ^ (2 : Nat)) + eps)
  let nrm := x i * r⁻¹
  if scaleFirst then scale i * nrm else nrm * scale i

end OV.Lemmas.C05Algebra
