import OV.Lemmas.C13Renamer
/-! Lemmas about `_handle_attrname_conflict` (the model's `conflictStep`/`conflictRun`) and its composition with the
    two base renamers in `funcState`. -/
namespace OV.C13

/-- the `k`-th candidate of the conflict handler: `nn`, then `nn_0`, `nn_1`, … -/
def confCand (nn : String) (k : Nat) : String := if k = 0 then nn else nn ++ "_" ++ Nat.repr (k - 1)

theorem confCand_inj (c : String) {j k : Nat} (h : confCand c j = confCand c k) : j = k := by
  have e : ∀ k, confCand c k = suffixed c (if k = 0 then none else some (k - 1)) := by
    intro k; unfold confCand; split <;> rfl
  rw [e, e] at h
  have := suffixed_inj c h
  split at this <;> split at this <;> simp_all <;> omega

/-- the loop of the model carries the current candidate: it is always `confCand base k` -/
theorem findCand_eq (base : String) (used : List String) : ∀ (fuel k : Nat),
    findCand base used fuel k (confCand base k) = firstFree (confCand base) used fuel k
  | 0, _ => rfl
  | fuel + 1, k => by
    have hnext : base ++ "_" ++ Nat.repr k = confCand base (k + 1) := by simp [confCand]
    simp only [findCand, firstFree, hnext, findCand_eq base used fuel (k + 1)]

theorem findCand_notin (base : String) (used : List String) (fuel : Nat) (hf : used.length ≤ fuel) :
    findCand base used fuel 0 base ∉ used := by
  show findCand base used fuel 0 (confCand base 0) ∉ used
  rw [findCand_eq]
  exact firstFree_notin (fun _ _ => confCand_inj base) used fuel 0 hf

/-- the Python name the conflict layer gives base name `nn`, read off the final `_attr_renaming` -/
def confRes (ar : List (String × Option String)) (nn : String) : String :=
  match ar.lookup nn with
  | some (some c) => c
  | _ => nn

/-- invariant of `_attr_renaming` / `_names_used` w.r.t. the attribute parameters `A` and the names `N0` that
    were in `_names_used` at the start (all base names of the function's values, and the attribute names) -/
structure ConfInv (A N0 : List String) (ar : List (String × Option String)) (nu : List String) : Prop where
  base : ∀ x ∈ N0, x ∈ nu
  keysA : ∀ k, k ∉ A → ar.lookup k = none
  akeys : ∀ a ∈ A, ar.lookup a ≠ none
  fresh : ∀ k c, ar.lookup k = some (some c) → c ∈ nu ∧ c ∉ N0
  inj : ∀ k1 k2 c, ar.lookup k1 = some (some c) → ar.lookup k2 = some (some c) → k1 = k2

/-- resolved entries and absent entries are never changed afterwards -/
structure ConfMono (ar ar' : List (String × Option String)) : Prop where
  some_ : ∀ k c, ar.lookup k = some (some c) → ar'.lookup k = some (some c)
  none_ : ∀ k, ar.lookup k = none → ar'.lookup k = none

theorem ConfMono.refl (ar : List (String × Option String)) : ConfMono ar ar := ⟨fun _ _ h => h, fun _ h => h⟩
theorem ConfMono.trans {a b c : List (String × Option String)} (h1 : ConfMono a b) (h2 : ConfMono b c) :
    ConfMono a c := ⟨fun k x h => h2.some_ k x (h1.some_ k x h), fun k h => h2.none_ k (h1.none_ k h)⟩

theorem lookup_cons_eq {α} (ar : List (String × α)) (k nn : String) (v : α) :
    ((nn, v) :: ar).lookup k = if k = nn then some v else ar.lookup k := by
  by_cases h : k = nn
  · subst h; simp
  · have : (k == nn) = false := by simpa using h
    simp [List.lookup_cons, this, h]

theorem conflictStep_spec {A N0 : List String} (hA : ∀ a ∈ A, a ∈ N0)
    {ar : List (String × Option String)} {nu : List String} (h : ConfInv A N0 ar nu) (nn : String) (hn : nn ∈ N0) :
    ConfInv A N0 (conflictStep ar nu nn).2.1 (conflictStep ar nu nn).2.2
    ∧ ConfMono ar (conflictStep ar nu nn).2.1
    ∧ (conflictStep ar nu nn).1 = confRes (conflictStep ar nu nn).2.1 nn
    ∧ (conflictStep ar nu nn).1 ∉ A := by
  unfold conflictStep
  cases hl : ar.lookup nn with
  | none => exact ⟨h, ConfMono.refl ar, by simp only [confRes, hl], fun ha => h.akeys nn ha hl⟩
  | some v =>
    cases v with
    | some alt => exact ⟨h, ConfMono.refl ar, by simp only [confRes, hl], fun ha => (h.fresh nn alt hl).2 (hA _ ha)⟩
    | none =>
      -- the new alternate is outside `_names_used`, hence no value's base name and no earlier alternate
      simp only
      have hfresh : findCand nn nu (nu.length + 1) 0 nn ∉ nu := findCand_notin nn nu _ (by omega)
      have hnot0 : findCand nn nu (nu.length + 1) 0 nn ∉ N0 := fun hc => hfresh (h.base _ hc)
      have hne : ∀ {k x}, ar.lookup k = x → x ≠ some none → k ≠ nn := by
        intro k x hk hx e; subst e; rw [hl] at hk; exact hx hk.symm
      refine ⟨⟨?_, ?_, ?_, ?_, ?_⟩, ⟨?_, ?_⟩, ?_, ?_⟩
      · intro x hx; exact List.mem_cons_of_mem _ (h.base x hx)
      · intro k hk
        rw [lookup_cons_eq, if_neg (hne (h.keysA k hk) (by simp))]; exact h.keysA k hk
      · intro a ha
        rw [lookup_cons_eq]; split
        · simp
        · exact h.akeys a ha
      · intro k c hk
        rw [lookup_cons_eq] at hk; split at hk
        · cases hk; exact ⟨List.mem_cons_self, hnot0⟩
        · exact ⟨List.mem_cons_of_mem _ (h.fresh k c hk).1, (h.fresh k c hk).2⟩
      · intro k1 k2 c h1 h2
        rw [lookup_cons_eq] at h1 h2
        split at h1 <;> split at h2
        · rw [‹k1 = nn›, ‹k2 = nn›]
        · cases h1; exact absurd (h.fresh k2 _ h2).1 hfresh
        · cases h2; exact absurd (h.fresh k1 _ h1).1 hfresh
        · exact h.inj k1 k2 c h1 h2
      · intro k c hk
        rw [lookup_cons_eq, if_neg (hne hk (by simp))]; exact hk
      · intro k hk
        rw [lookup_cons_eq, if_neg (hne hk (by simp))]; exact hk
      · simp [confRes]
      · intro ha; exact hnot0 (hA _ ha)

/-- after a request the name is settled: it is no attribute parameter, or it has its alternate -/
def Settled (ar : List (String × Option String)) (nn : String) : Prop :=
  ar.lookup nn = none ∨ ∃ c, ar.lookup nn = some (some c)

theorem confRes_mono {ar ar' : List (String × Option String)} (hm : ConfMono ar ar') {nn : String}
    (hres : Settled ar nn) : confRes ar' nn = confRes ar nn := by
  unfold confRes
  rcases hres with h | ⟨c, h⟩
  · rw [h, hm.none_ nn h]
  · rw [h, hm.some_ nn c h]

theorem conflictStep_settled (ar : List (String × Option String)) (nu : List String) (nn : String) :
    Settled (conflictStep ar nu nn).2.1 nn := by
  unfold conflictStep Settled
  cases hl : ar.lookup nn with
  | none => left; exact hl
  | some v =>
    cases v with
    | some alt => right; exact ⟨alt, hl⟩
    | none => right; exact ⟨findCand nn nu (nu.length + 1) 0 nn, by simp⟩

theorem settled_mono {ar ar' : List (String × Option String)} (hm : ConfMono ar ar') {nn : String}
    (h : Settled ar nn) : Settled ar' nn := by
  rcases h with h | ⟨c, h⟩
  · left; exact hm.none_ nn h
  · right; exact ⟨c, hm.some_ nn c h⟩

/-- a run of the conflict layer prints every base name through the `_attr_renaming` it ends with -/
theorem conflictRun_spec {A N0 : List String} (hA : ∀ a ∈ A, a ∈ N0) :
    ∀ (nns : List String) (ar : List (String × Option String)) (nu : List String), ConfInv A N0 ar nu →
      (∀ n ∈ nns, n ∈ N0) →
      ConfInv A N0 (conflictRun ar nu nns).2.1 (conflictRun ar nu nns).2.2
      ∧ ConfMono ar (conflictRun ar nu nns).2.1
      ∧ (conflictRun ar nu nns).1 = nns.map (confRes (conflictRun ar nu nns).2.1)
      ∧ (∀ n ∈ nns, Settled (conflictRun ar nu nns).2.1 n)
      ∧ (∀ r ∈ (conflictRun ar nu nns).1, r ∉ A)
  | [], ar, nu, h, _ =>
    ⟨h, ConfMono.refl ar, rfl, fun n hn => absurd hn List.not_mem_nil, fun r hr => absurd hr List.not_mem_nil⟩
  | nn :: rest, ar, nu, h, hN => by
    obtain ⟨h1, hm1, hr1, hna1⟩ := conflictStep_spec hA h nn (hN nn (by simp))
    have hs1 := conflictStep_settled ar nu nn
    obtain ⟨h2, hm2, hr2, hs2, hna2⟩ := conflictRun_spec hA rest _ _ h1 (fun n hn => hN n (by simp [hn]))
    simp only [conflictRun]
    refine ⟨h2, hm1.trans hm2, ?_, ?_, ?_⟩
    · simp only [List.map_cons]
      rw [hr1, ← hr2, confRes_mono hm2 hs1]
    · intro n hn
      rcases List.mem_cons.mp hn with e | hn
      · subst e; exact settled_mono hm2 hs1
      · exact hs2 n hn
    · intro r hr
      rcases List.mem_cons.mp hr with e | hr
      · subst e; exact hna1
      · exact hna2 r hr

theorem confRes_inj {A N0 : List String} {ar : List (String × Option String)} {nu : List String}
    (h : ConfInv A N0 ar nu) {a b : String} (ha : a ∈ N0) (hb : b ∈ N0) (sa : Settled ar a) (sb : Settled ar b)
    (e : confRes ar a = confRes ar b) : a = b := by
  unfold confRes at e
  rcases sa with sa | ⟨ca, sa⟩ <;> rcases sb with sb | ⟨cb, sb⟩ <;> rw [sa, sb] at e <;> simp only at e
  · exact e
  · rw [e] at ha; exact absurd ha (h.fresh b cb sb).2
  · rw [← e] at hb; exact absurd hb (h.fresh a ca sa).2
  · subst e; exact h.inj a b ca sa sb

/-- the state right after `_translate_function_signature` registered the attribute parameters -/
theorem confInv_start (A N0 : List String) (hnd : A.Nodup) :
    ConfInv A N0 (A.map (·, none)) N0 := by
  have hl : ∀ k, (A.map (fun a => (a, (none : Option String)))).lookup k = if k ∈ A then some none else none := by
    intro k
    induction A with
    | nil => simp
    | cons a as ih =>
      rw [List.map_cons, lookup_cons_eq, ih (List.nodup_cons.mp hnd).2]
      by_cases e : k = a <;> simp [e]
  refine ⟨fun x hx => hx, ?_, ?_, ?_, ?_⟩
  · intro k hk; rw [hl, if_neg hk]
  · intro a ha; rw [hl, if_pos ha]; simp
  · intro k c hk; rw [hl] at hk; split at hk <;> cases hk
  · intro k1 k2 c h1; rw [hl] at h1; split at h1 <;> cases h1

/-- the base name of a value that the base renamer already knows (`Known`) -/
def baseName (o : Opts) (st : St) (v : String) : String :=
  if o.rename then "v" ++ Nat.repr (st.shortKeys.idxOf v + 1) else pyT st.uniq v

/-- the base renamer has been asked for `v` -/
def Known (o : Opts) (st : St) (v : String) : Prop :=
  v ≠ "" ∧ (if o.rename then v ∈ st.shortKeys else Present st.uniq v)

def withConf (st : St) (r : List (String × Option String) × List String) : St :=
  { st with attrRen := r.1, namesUsed := r.2 }

theorem translateVar_known (o : Opts) (st : St) (hm : QuietRemaps st) (v : String) (hk : Known o st v) :
    translateVar o st v =
      ((conflictStep st.attrRen st.namesUsed (baseName o st v)).1,
       withConf st (conflictStep st.attrRen st.namesUsed (baseName o st v)).2) := by
  obtain ⟨hv, hk⟩ := hk
  unfold translateVar withConf
  have : (v == "") = false := by simpa using hv
  simp only [this, Bool.false_eq_true, if_false, hm v, newRenamer, baseName]
  cases hr : o.rename
  · simp only [hr, Bool.false_eq_true, if_false] at hk ⊢
    obtain ⟨r, hl⟩ := Option.isSome_iff_exists.mp (hk.resolve_left hv)
    simp only [uniqueName, uniqStep, hl, pyT, hv, if_false, Option.getD_some]
  · simp only [hr, if_true] at hk ⊢
    simp only [shortName, shortStep, if_pos hk]

theorem translateVars_known (o : Opts) : ∀ (vs : List String) (st : St), QuietRemaps st → (∀ v ∈ vs, Known o st v) →
    translateVars o st vs =
      ((conflictRun st.attrRen st.namesUsed (vs.map (baseName o st))).1,
       withConf st (conflictRun st.attrRen st.namesUsed (vs.map (baseName o st))).2)
  | [], st, _, _ => rfl
  | v :: vs, st, hm, hk => by
    have h1 := translateVar_known o st hm v (hk v (by simp))
    have ih := translateVars_known o vs (withConf st (conflictStep st.attrRen st.namesUsed (baseName o st v)).2)
      hm (fun w hw => hk w (by simp [hw]))
    simp only [translateVars, h1, ih, List.map_cons, conflictRun]
    rfl

theorem plain_attr_nil {st : St} (h : Plain st) : Plain { st with attrRen := [], constants := [] } :=
  ⟨rfl, h.remap, rfl, h.fns⟩

theorem baseName_inj {o : Opts} {st : St} (hT : TblInv st.uniq) {a b : String} (ha : Known o st a) (hb : Known o st b)
    (e : baseName o st a = baseName o st b) : a = b := by
  obtain ⟨ha0, ha⟩ := ha
  obtain ⟨hb0, hb⟩ := hb
  unfold baseName at e
  cases hr : o.rename <;> simp only [hr, Bool.false_eq_true, if_false, if_true] at ha hb e
  · exact pyT_inj hT ha0 hb0 ha hb e
  · exact idxOf_inj ha hb (short_label_inj e)

/-- `st₁` is the state the run ends in; the second conjunct says that it differs from `st` only in the two base
    renamers' own tables. -/
theorem translateVars_plain (o : Opts) {st : St} (hp : Plain st) (hT : TblInv st.uniq) (hK : st.shortKeys.Nodup)
    (vs : List String) (hne : ∀ v ∈ vs, v ≠ "") :
    ∃ st₁, translateVars o st vs = (vs.map (baseName o st₁), st₁)
      ∧ st₁ = { st with uniq := st₁.uniq, shortKeys := st₁.shortKeys }
      ∧ TblInv st₁.uniq ∧ ∀ v ∈ vs, Known o st₁ v := by
  cases hr : o.rename
  · refine ⟨{ st with uniq := uniqRun st.uniq vs }, ?_, rfl, tblInv_uniqRun vs hT, fun v hv => ⟨hne v hv, ?_⟩⟩
    · rw [translateVars_uniq o hr vs st hp]
      unfold baseName; simp only [hr, Bool.false_eq_true, if_false]
    · simp only [hr, Bool.false_eq_true, if_false]
      exact present_uniqRun vs st.uniq v hv
  · obtain ⟨_, _, hmem, hidx⟩ := shortRun_spec vs st.shortKeys hK
    refine ⟨{ st with shortKeys := (shortRun st.shortKeys vs).2 }, ?_, rfl, hT, fun v hv => ⟨hne v hv, ?_⟩⟩
    · rw [translateVars_short o hr vs st hp hne, hidx, List.map_map]
      unfold baseName; simp only [hr, if_true]; rfl
    · simp only [hr, if_true]; exact hmem v hv

/-- `funcState` seen from the conflict layer: the attribute parameters are registered and unresolved (`confInv_start`),
    and the pre-pass over the used names has made every value of the function known to the base renamer. -/
theorem funcState_base (o : Opts) (d : Nat) (f : FunctionP) (st0 : St)
    (hp : Plain st0) (hT : TblInv st0.uniq) (hK : st0.shortKeys.Nodup) (hne : ∀ v ∈ f.usedOrder, v ≠ "") :
    (funcState o d f st0).attrRen = f.attrs.reverse.map (·, none)
    ∧ (funcState o d f st0).namesUsed = f.attrs.reverse ++ f.usedOrder.map (baseName o (funcState o d f st0))
    ∧ QuietRemaps (funcState o d f st0)
    ∧ TblInv (funcState o d f st0).uniq
    ∧ ∀ v ∈ f.usedOrder, Known o (funcState o d f st0) v := by
  obtain ⟨st₁, hrun, hfr, hT₁, hk⟩ := translateVars_plain o (plain_attr_nil hp) hT hK f.usedOrder hne
  have ha : st₁.attrRen = [] := by rw [hfr]
  have hm : st₁.remaps = st0.remaps := by rw [hfr]
  simp only [funcState, hrun, ha, List.append_nil]
  exact ⟨trivial, rfl, fun v => by simp only [hm]; exact hp.remap v, hT₁, hk⟩

end OV.C13
