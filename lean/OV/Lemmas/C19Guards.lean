import OV.Model.C19Fusions
/-! Transcribed checks as the conjunction of their guards, in the order of the model's `&&` chain, so that a theorem
about one guard names it instead of counting to its position. -/
namespace OV.C19

theorem extractOk_iff (i : ExtractIn) : extractOk i = true ↔
    i.nSliceInputs = 3 ∧ i.allowzero = some 1 ∧ i.perm = [0, 2, 1, 3] ∧ i.dimsKnown = true ∧ i.shapeEnd.isNone = true
      ∧ (i.shapeStart.isNone = true ∨ i.shapeStart = some 0) ∧ i.startConst = true := by
  simp only [extractOk, Bool.and_eq_true, Bool.or_eq_true, beq_iff_eq, and_assoc]

theorem i2gOk_iff (i : I2gIn) : i2gOk i = true ↔
    i.wnConst = true ∧ i.wOnes = true ∧ i.bZeros = true
      ∧ i.wf.length = i.x.length - 1 ∧ i.bf.length = i.x.length - 1 ∧ i.x.length = 4
      ∧ (i.wf.drop 1).all dimIsOne = true ∧ (i.bf.drop 1).all dimIsOne = true
      ∧ i.adj = some [0, (i.g : Int), -1] ∧ ∃ o, i.orig = some o ∧ listEqShape o i.x = true := by
  simp only [i2gOk, Bool.and_eq_true, beq_iff_eq, and_assoc]
  cases i.orig <;> simp

end OV.C19
