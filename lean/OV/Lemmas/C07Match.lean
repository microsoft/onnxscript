import OV.Model.C07Apply
import OV.Lemmas.Util
/-! What a successful `matchAt` (the model's rendering of `SimplePatternMatcher.match` +
`_valid_to_replace`) guarantees about the match it returns.  First what a successful call of each
matcher function is (inversion), then one invariant of the matcher state carried through all of them. -/
namespace OV.C07

/-- the `interior` of `matchCombo` (what it tests against the ghost uses): outputs of the matched nodes
that are not pattern outputs -/
def interiorOf (g : Graph) (matched : List Nat) (outs : List Name) : List Name :=
  ((g.nodes.filter fun n => matched.contains n.id).flatMap (·.outputs)).filter fun v => !(outs.contains v)

theorem mem_interiorOf {g : Graph} {matched : List Nat} {outs : List Name} {x : Name} :
    x ∈ interiorOf g matched outs ↔
      (∃ n ∈ g.nodes, matched.contains n.id = true ∧ x ∈ n.outputs) ∧ x ∉ outs := by
  simp only [interiorOf, List.mem_filter, List.mem_flatMap, Bool.not_eq_true', List.contains_eq_mem,
    decide_eq_false_iff_not, decide_eq_true_eq, and_assoc]

theorem validToReplace_spec (g : Graph) (matched : List Nat) (outs : List Name)
    (h : validToReplace g matched outs = true) :
    ∀ x ∈ interiorOf g matched outs,
      x ∉ g.outputs ∧ ∀ b ∈ g.nodes, matched.contains b.id = false → x ∉ b.reads := by
  intro x hx
  obtain ⟨⟨n, hn, hm, hxo⟩, hno⟩ := mem_interiorOf.mp hx
  have h2 := List.all_eq_true.mp (List.all_eq_true.mp h n (List.mem_filter.mpr ⟨hn, hm⟩)) x hxo
  rw [show outs.contains x = false by simpa using hno, Bool.false_or, Bool.and_eq_true] at h2
  refine ⟨by simpa using h2.1, fun b hb hbm hr => ?_⟩
  have := List.all_eq_true.mp h2.2 b.id
    (List.mem_map.mpr ⟨b, List.mem_filter.mpr ⟨hb, by simpa using hr⟩, rfl⟩)
  rw [hbm] at this
  cases this

theorem bindValue_some {st st' : MSt} {p : PRef} {v : Option Name} (h : bindValue st p v = some st') :
    st' = st ∨ (st.vb.lookup p = none ∧ st' = { st with vb := st.vb ++ [(p, v)] }) := by
  unfold bindValue at h
  split at h
  · split at h
    · exact Or.inl (Option.some.inj h).symm
    · cases h
  · rename_i hl; exact Or.inr ⟨hl, (Option.some.inj h).symm⟩

theorem matchNode_some {g : Graph} {p : Pat} {f : Nat} {st st' : MSt} {pi : Nat} {node : Node}
    (h : matchNode g p (f + 1) st pi node = some st') :
    (st.nb.lookup pi = some node.id ∧ st' = st) ∨
    (st.nb.lookup pi = none ∧ ∃ pn st2, p.nodes[pi]? = some pn ∧ pn.nOut ≤ node.outputs.length ∧
      matchInputs g p f { st with nb := st.nb ++ [(pi, node.id)], nodes := st.nodes ++ [node.id] }
        ((node.inputs ++ List.replicate (pn.inputs.length - node.inputs.length) none).zip pn.inputs) = some st2 ∧
      (List.range pn.nOut).foldlM (fun st j => bindValue st (.out pi j) (node.outputs[j]?)) st2 = some st') := by
  rw [matchNode] at h
  cases hl : st.nb.lookup pi with
  | some nid =>
    rw [hl] at h
    obtain ⟨hid, hst⟩ := Option.ite_none_right_eq_some.mp h
    exact Or.inl ⟨by rw [beq_iff_eq.mp hid], (Option.some.inj hst).symm⟩
  | none =>
    rw [hl] at h
    refine Or.inr ⟨rfl, ?_⟩
    cases hpn : p.nodes[pi]? with
    | none => rw [hpn] at h; cases h
    | some pn =>
      rw [hpn] at h
      simp only [Option.ite_none_left_eq_some] at h
      obtain ⟨_, _, h⟩ := h
      split at h
      · cases h
      · rename_i st2 hin
        obtain ⟨hlen, h⟩ := Option.ite_none_left_eq_some.mp h
        exact ⟨pn, st2, rfl, Nat.le_of_not_lt hlen, hin, h⟩

theorem matchInputs_some {g : Graph} {p : Pat} {f : Nat} {st st' : MSt} {l : List (Option Name × PRef)} :
    matchInputs g p (f + 1) st l = some st' →
    match l with
    | [] => st' = st
    | (v, pr) :: rest => ∃ st1, matchValue g p f st v pr = some st1 ∧ matchInputs g p f st1 rest = some st' := by
  intro h
  cases l with
  | nil => rw [matchInputs] at h; exact (Option.some.inj h).symm
  | cons a rest =>
    obtain ⟨v, pr⟩ := a
    rw [matchInputs] at h
    split at h
    · cases h
    · rename_i st1 hv; exact ⟨st1, hv, h⟩

theorem matchValue_some {g : Graph} {p : Pat} {f : Nat} {st st' : MSt} {v : Option Name} {pr : PRef} :
    matchValue g p (f + 1) st v pr = some st' →
    match pr with
    | .none => st' = st
    | .var k => bindValue st (.var k) v = some st'
    | .out pi j => ∃ x st1 n, v = some x ∧ bindValue st (.out pi j) (some x) = some st1 ∧
        producer g x = some (n, j) ∧ matchNode g p f st1 pi n = some st' := by
  intro h
  cases pr with
  | none =>
    rw [matchValue] at h
    exact (Option.some.inj (Option.ite_none_right_eq_some.mp h).2).symm
  | var k =>
    rw [matchValue] at h
    cases hb : bindValue st (.var k) v with
    | none => rw [hb] at h; cases h
    | some st1 =>
      rw [hb] at h
      exact hb.trans (Option.ite_none_left_eq_some.mp h).2
  | out pi j =>
    cases v with
    | none => rw [matchValue] at h; cases h
    | some x =>
      rw [matchValue] at h
      obtain ⟨_, h⟩ := Option.ite_none_left_eq_some.mp h
      cases hb : bindValue st (.out pi j) (some x) with
      | none => rw [hb] at h; cases h
      | some st1 =>
        rw [hb] at h
        cases hp : producer g x with
        | none => rw [hp] at h; cases h
        | some ni =>
          rw [hp] at h
          obtain ⟨hij, h⟩ := Option.ite_none_left_eq_some.mp h
          have : ni.2 = j := by simpa using hij
          exact ⟨x, st1, ni.1, rfl, hb, this ▸ hp, h⟩

theorem producer_spec {g : Graph} {x : Name} {n : Node} {i : Nat} (h : producer g x = some (n, i)) :
    n ∈ g.nodes ∧ x ∈ n.outputs := by
  obtain ⟨n', hn', he⟩ := List.exists_of_findSome?_eq_some h
  obtain ⟨i', hi, he⟩ := Option.map_eq_some_iff.mp he
  obtain ⟨rfl, rfl⟩ := Prod.mk.inj he
  obtain ⟨hlt, hp, _⟩ := List.findIdx?_eq_some_iff_getElem.mp hi
  exact ⟨hn', beq_iff_eq.mp hp ▸ List.getElem_mem hlt⟩

theorem matchCombo_some {g : Graph} {r : Rule} {ghost : List Name} {combo : List (Nat × Node)}
    {st : MSt} {outs : List Name} (h : matchCombo g r ghost combo = some (st, outs)) :
    combo.foldlM (fun st (x : Nat × Node) => matchNode g r.pat 1000 st x.1 x.2) ({} : MSt) = some st ∧
    r.pat.outputs.mapM (fun o => (st.vb.lookup o).bind id) = some outs ∧
    (r.removeNodes = true →
      validToReplace g st.nodes outs = true ∧ ∀ x ∈ interiorOf g st.nodes outs, x ∉ ghost) := by
  unfold matchCombo at h
  split at h
  · cases h
  · rename_i st0 hfold
    split at h
    · cases h
    · rename_i outs0 hmap
      dsimp only at h
      split at h
      · cases h
      · rename_i hc
        obtain ⟨rfl, rfl⟩ := Prod.mk.inj (Option.some.inj h)
        refine ⟨hfold, hmap, fun hrm => ?_⟩
        rw [hrm, Bool.true_and, Bool.or_eq_true, not_or] at hc
        exact ⟨by simpa using hc.1, fun x hx hgh =>
          hc.2 (List.any_eq_true.mpr ⟨x, hx, by simpa using hgh⟩)⟩

theorem mem_product_cons {α} (l : List α) (rest : List (List α)) (c : List α)
    (h : c ∈ product (l :: rest)) : ∃ x ∈ l, ∃ t, c = x :: t := by
  obtain ⟨x, hx, hc⟩ := List.mem_flatMap.mp h
  obtain ⟨t, _, ht⟩ := List.mem_map.mp hc
  exact ⟨x, hx, t, ht.symm⟩

theorem matchAt_some {g : Graph} {r : Rule} {node : Node} {ghost : List Name} {m : Match}
    (h : matchAt g r node ghost = some m) :
    m.root = node.id ∧ ∃ first t st, (outputNodes r.pat).head? = some first ∧
      matchCombo g r ghost ((first, node) :: t) = some (st, m.outputs) ∧ m.nodes = st.nodes := by
  unfold matchAt at h
  split at h
  · cases h
  · rename_i first others hon
    dsimp only at h
    split at h
    · cases h
    · rename_i st outs hfs
      obtain ⟨combo, hmem, hc⟩ := List.exists_of_findSome?_eq_some hfs
      obtain ⟨x, hx, t, rfl⟩ := mem_product_cons _ _ _ hmem
      obtain rfl := List.mem_singleton.mp hx
      obtain rfl := Option.some.inj (Option.ite_none_left_eq_some.mp h).2
      exact ⟨rfl, first, t, st, by rw [hon]; rfl, hc, rfl⟩

/-- invariant of the matcher state once the pattern node `r0` is assigned to `node`: the
assignment stays, `node` is recorded as matched, and every binding of an output of `r0` is a name of `O` -/
def RootInv (r0 : Nat) (node : Node) (O : List Name) (st : MSt) : Prop :=
  st.nb.lookup r0 = some node.id ∧ node.id ∈ st.nodes ∧
  ∀ j v, st.vb.lookup (PRef.out r0 j) = some v → ∃ x, v = some x ∧ x ∈ O

theorem foldlM_inv {σ α} (J : σ → Prop) (F : σ → α → Option σ) (l : List α)
    (hF : ∀ a ∈ l, ∀ s s', F s a = some s' → J s → J s') :
    ∀ s s', l.foldlM F s = some s' → J s → J s' := by
  induction l with
  | nil => intro s s' h hJ; exact Option.some.inj h ▸ hJ
  | cons a rest ih =>
    intro s s' h hJ
    rw [List.foldlM_cons] at h
    cases hb : F s a with
    | none => rw [hb] at h; cases h
    | some s1 =>
      rw [hb] at h
      exact ih (fun b hb' => hF b (List.mem_cons_of_mem _ hb')) s1 s' h
        (hF a (List.mem_cons_self ..) s s1 hb hJ)

theorem bindValue_inv {r0 : Nat} {node : Node} {O : List Name} {st st' : MSt} {p : PRef} {v : Option Name}
    (h : bindValue st p v = some st') (hJ : RootInv r0 node O st)
    (hp : ∀ j, p = .out r0 j → ∃ x, v = some x ∧ x ∈ O) : RootInv r0 node O st' := by
  rcases bindValue_some h with rfl | ⟨_, rfl⟩
  · exact hJ
  · refine ⟨hJ.1, hJ.2.1, fun j w hw => ?_⟩
    rw [List.lookup_append] at hw
    cases hl : st.vb.lookup (PRef.out r0 j) with
    | some w' => exact hJ.2.2 j w (by rw [hl] at hw ⊢; exact hw)
    | none =>
      rw [hl, Option.none_or, List.lookup_cons] at hw
      split at hw
      · rename_i heq
        obtain rfl := Option.some.inj hw
        exact hp j (beq_iff_eq.mp heq).symm
      · cases hw

theorem bindOuts_inv {r0 : Nat} {node : Node} {O : List Name} (outs : List Name) (pi : Nat) (js : List Nat)
    (hjs : ∀ j ∈ js, pi = r0 → ∃ x, outs[j]? = some x ∧ x ∈ O) :
    ∀ st st' : MSt, js.foldlM (fun st j => bindValue st (.out pi j) (outs[j]?)) st = some st' →
      RootInv r0 node O st → RootInv r0 node O st' :=
  foldlM_inv _ _ js fun j hj _ _ hb hJ => bindValue_inv hb hJ fun j' he => by
    obtain ⟨rfl, rfl⟩ := PRef.out.inj he
    exact hjs j hj rfl

theorem match_rootInv (g : Graph) (p : Pat) (r0 : Nat) (node : Node) (O : List Name)
    (huid : ∀ n ∈ g.nodes, n.id = node.id → ∀ x ∈ n.outputs, x ∈ O) : ∀ f : Nat,
    (∀ st pi n st', matchNode g p f st pi n = some st' → RootInv r0 node O st → RootInv r0 node O st') ∧
    (∀ st l st', matchInputs g p f st l = some st' → RootInv r0 node O st → RootInv r0 node O st') ∧
    (∀ st v pr st', matchValue g p f st v pr = some st' → RootInv r0 node O st → RootInv r0 node O st') := by
  intro f
  induction f with
  | zero =>
    exact ⟨fun _ _ _ _ h => by simp [matchNode] at h, fun _ _ _ h => by simp [matchInputs] at h,
      fun _ _ _ _ h => by simp [matchValue] at h⟩
  | succ f ih =>
    obtain ⟨ihN, ihI, ihV⟩ := ih
    refine ⟨fun st pi n st' h hJ => ?_, fun st l st' h hJ => ?_, fun st v pr st' h hJ => ?_⟩
    · rcases matchNode_some h with ⟨_, rfl⟩ | ⟨hl, pn, st2, _, _, hin, hout⟩
      · exact hJ
      · have hne : pi ≠ r0 := fun he => by rw [he, hJ.1] at hl; cases hl
        refine bindOuts_inv _ pi _ (fun _ _ he => absurd he hne) _ _ hout (ihI _ _ _ hin ⟨?_, ?_, hJ.2.2⟩)
        · show (st.nb ++ [(pi, n.id)]).lookup r0 = some node.id
          rw [List.lookup_append, hJ.1]; rfl
        · exact List.mem_append_left _ hJ.2.1
    · have := matchInputs_some h
      cases l with
      | nil => exact this ▸ hJ
      | cons a rest =>
        obtain ⟨st1, hv, hrest⟩ := this
        exact ihI _ _ _ hrest (ihV _ _ _ _ hv hJ)
    · have := matchValue_some h
      cases pr with
      | none => exact this ▸ hJ
      | var k => exact bindValue_inv this hJ (fun j he => nomatch he)
      | out pj j =>
        obtain ⟨x, st1, n, rfl, hb, hprod, hnode⟩ := this
        by_cases hpj : pj = r0
        · subst hpj
          -- `pj` is assigned already: `matchNode` succeeds only on a node with the assigned id, whose outputs are
          -- in `O` by `huid`; nowhere else is an output of `r0` bound to a value of another producer
          cases f with
          | zero => simp [matchNode] at hnode
          | succ f' =>
            have hnb : st1.nb.lookup pj = some node.id := by
              rcases bindValue_some hb with rfl | ⟨_, rfl⟩ <;> exact hJ.1
            rcases matchNode_some hnode with ⟨hl, rfl⟩ | ⟨hl, _⟩
            · have hid : n.id = node.id := Option.some.inj (hl.symm.trans hnb)
              obtain ⟨hng, hxn⟩ := producer_spec hprod
              exact bindValue_inv hb hJ fun _ _ => ⟨x, rfl, huid n hng hid x hxn⟩
            · rw [hnb] at hl; cases hl
        · exact ihN _ _ _ _ hnode
            (bindValue_inv hb hJ fun j' he => absurd (PRef.out.inj he).1 hpj)

theorem matchNode_rootInv (g : Graph) (p : Pat) (r0 : Nat) (node : Node) (O : List Name)
    (huid : ∀ n ∈ g.nodes, n.id = node.id → ∀ x ∈ n.outputs, x ∈ O) (hO : ∀ x ∈ node.outputs, x ∈ O)
    (f : Nat) (st1 : MSt) (h : matchNode g p f ({} : MSt) r0 node = some st1) : RootInv r0 node O st1 := by
  cases f with
  | zero => simp [matchNode] at h
  | succ f =>
    rcases matchNode_some h with ⟨hl, _⟩ | ⟨_, pn, st2, _, hlen, hin, hout⟩
    · cases hl
    · refine bindOuts_inv _ r0 _ (fun j hj _ => ?_) _ _ hout
        ((match_rootInv g p r0 node O huid f).2.1 _ _ _ hin ⟨?_, List.mem_singleton.mpr rfl, fun _ _ hv => nomatch hv⟩)
      · have hlt : j < node.outputs.length := Nat.lt_of_lt_of_le (List.mem_range.mp hj) hlen
        exact ⟨node.outputs[j], List.getElem?_eq_getElem hlt, hO _ (List.getElem_mem hlt)⟩
      · show ([] ++ [(r0, node.id)]).lookup r0 = some node.id
        simp

theorem matchAt_rootInv (g : Graph) (r : Rule) (node : Node) (ghost : List Name) (m : Match) (O : List Name)
    (huid : ∀ n ∈ g.nodes, n.id = node.id → ∀ x ∈ n.outputs, x ∈ O) (hO : ∀ x ∈ node.outputs, x ∈ O)
    (h : matchAt g r node ghost = some m) :
    ∃ first st, (outputNodes r.pat).head? = some first ∧ RootInv first node O st ∧ m.nodes = st.nodes ∧
      r.pat.outputs.mapM (fun o => (st.vb.lookup o).bind id) = some m.outputs := by
  obtain ⟨_, first, t, st, hfirst, hc, hnodes⟩ := matchAt_some h
  obtain ⟨hfold, hmap, _⟩ := matchCombo_some hc
  rw [List.foldlM_cons] at hfold
  cases hb : matchNode g r.pat 1000 ({} : MSt) first node with
  | none => rw [hb] at hfold; cases hfold
  | some st1 =>
    rw [hb] at hfold
    exact ⟨first, st, hfirst, foldlM_inv _ _ t
      (fun a _ s s' hs => (match_rootInv g r.pat first node O huid 1000).1 _ _ _ _ hs) st1 st hfold
      (matchNode_rootInv g r.pat first node O huid hO 1000 st1 hb), hnodes, hmap⟩

theorem matchAt_root_matched (g : Graph) (r : Rule) (node : Node) (ghost : List Name) (m : Match)
    (h : matchAt g r node ghost = some m) : m.nodes.contains node.id = true := by
  obtain ⟨_, st, _, hJ, hnodes, _⟩ := matchAt_rootInv g r node ghost m (g.nodes.flatMap (·.outputs) ++ node.outputs)
    (fun n hn _ x hx => List.mem_append_left _ (List.mem_flatMap.mpr ⟨n, hn, hx⟩))
    (fun x hx => List.mem_append_right _ hx) h
  rw [hnodes]
  exact List.contains_iff_mem.mpr hJ.2.1

/-- `hsingle` is more than having a single output node: no interior value is returned. -/
theorem matchAt_outputs_at_root (g : Graph) (r : Rule) (node : Node) (ghost : List Name) (m : Match)
    (huid : ∀ n ∈ g.nodes, n.id = node.id → n.outputs = node.outputs)
    (hsingle : ∀ first, (outputNodes r.pat).head? = some first → ∀ o ∈ r.pat.outputs, ∃ j, o = PRef.out first j)
    (h : matchAt g r node ghost = some m) : ∀ x ∈ m.outputs, x ∈ node.outputs := by
  obtain ⟨first, st, hfirst, hJ, _, hmap⟩ := matchAt_rootInv g r node ghost m node.outputs
    (fun n hn hid x hx => huid n hn hid ▸ hx) (fun _ hx => hx) h
  intro x hx
  obtain ⟨o, ho, hlo⟩ := List.mem_of_mapM_eq_some hmap hx
  obtain ⟨j, rfl⟩ := hsingle first hfirst o ho
  cases hl : st.vb.lookup (PRef.out first j) with
  | none => rw [hl] at hlo; cases hlo
  | some v =>
    obtain ⟨x', rfl, hx'⟩ := hJ.2.2 j v hl
    rw [hl] at hlo
    exact Option.some.inj hlo ▸ hx'

end OV.C07
