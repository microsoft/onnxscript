import OV.Model.C20Save
/-!
# C20 — invariant machinery for the save model

`Tri I E f`: started in a state satisfying `I`, the run of `f` ends in a state satisfying `I` when it returns normally
and `E` when it raises — for every fault plan (the plan `k` is a field of the state and is universally quantified).
`Stable` lists what a pair `(I, E)` has to tolerate; the functions of the model are taken apart in `OV.Lemmas.C20Sim`,
once for this judgement and the simulation together, ending in `tri_save`.  `Inv I`, equivalent to `Tri I I`, is the case
"`I` survives every exit"; its instances are "the original tensor objects are still there, unchanged" (`stable_orig`),
"files other than the two destination files are untouched" (`stable_frame`) and "nothing is touched unless an
open-for-write succeeded" (`stable_untouched`).  `E = True` gives statements about normal returns only
(`OV.Lemmas.C20Fault`).
-/
namespace OV.C20
set_option linter.unusedSectionVars false

/-- Core has none for `Except`; `decide` on the outcome of an evaluated run (`OV.Props.C20`) needs it. -/
instance : DecidableEq (Except Err Unit)
  | .ok (), .ok () => isTrue rfl
  | .error a, .error b => if h : a = b then isTrue (by rw [h]) else isFalse (by intro h'; cases h'; exact h rfl)
  | .ok (), .error _ => isFalse (by intro h; cases h)
  | .error _, .ok () => isFalse (by intro h; cases h)

theorem runSave_res (cfg : Cfg) (m : Model) (dir name : String) (verbose : Bool) (fs : FS) (k : Option Nat) :
    (runSave cfg m dir name verbose fs k).res =
      (save cfg m.sig m.tnames dir name (verbose && cfg.tqdm) (init m fs k)).1 := rfl

theorem runSave_st (cfg : Cfg) (m : Model) (dir name : String) (verbose : Bool) (fs : FS) (k : Option Nat) :
    (runSave cfg m dir name verbose fs k).st =
      (save cfg m.sig m.tnames dir name (verbose && cfg.tqdm) (init m fs k)).2 := rfl

theorem tick_fault (op : Op) (s : St) (h : s.k = some s.calls) :
    tick op s = (.error .osError, { s with calls := s.calls + 1, trace := s.trace ++ [op] }) := by
  unfold tick
  rw [if_pos h]

theorem tick_pass (op : Op) (s : St) (h : s.k ≠ some s.calls) :
    tick op s = (.ok (), { s with calls := s.calls + 1, trace := s.trace ++ [op] }) := by
  unfold tick
  rw [if_neg h]

theorem tick_wopened (op : Op) (s s' : St) (h : tick op s = (.ok (), s')) : s'.wopened = s.wopened := by
  by_cases hk : s.k = some s.calls
  · rw [tick_fault op s hk] at h; cases h
  · rw [tick_pass op s hk] at h; cases h; rfl

theorem withClose_ok {body : M α} {f : String} {s s1 : St} {a : α} (h : body s = (.ok a, s1)) :
    withClose f body s = (tick (.close f) >>= fun _ => pure a) s1 := by
  unfold withClose
  rw [h]
  show (match tick (.close f) s1 with
    | (.ok _, s2) => (.ok a, s2)
    | (.error e, s2) => (.error e, s2)) = M.bind (tick (.close f)) _ s1
  unfold M.bind
  cases tick (.close f) s1 with
  | mk r s2 => cases r <;> rfl

/-- As in Python, a `close` that raises (the planned fault) replaces the exception of the `with` body by its `OSError`. -/
theorem withClose_error {body : M α} {f : String} {s s1 : St} {e : Err} (h : body s = (.error e, s1)) :
    withClose f body s = (.error (if s1.k = some s1.calls then .osError else e),
      { s1 with calls := s1.calls + 1, trace := s1.trace ++ [.close f] }) := by
  unfold withClose
  rw [h]
  by_cases hk : s1.k = some s1.calls
  · simp only [tick_fault _ s1 hk, if_pos hk]
  · simp only [tick_pass _ s1 hk, if_neg hk]

/-- Some guard of `save_model_with_external_data` has something to complain about. -/
def refuses (cfg : Cfg) (sig : List (String × Bool)) (dir name : String) (s : St) : Bool :=
  !(guardHits cfg.deep sig s.cv).isEmpty ||
    ((cfg.refuse && !(destHits (joinPath dir (name ++ ".data")) s.heap s.cv).isEmpty) ||
      (cfg.refuseModel && !(destHits (joinPath dir name) s.heap s.cv).isEmpty))

theorem save_eq (cfg : Cfg) (sig : List (String × Bool)) (tnames : List String) (dir name : String) (verbose : Bool) (s : St) :
    save cfg sig tnames dir name verbose s =
      if refuses cfg sig dir name s then (.error .valueError, s)
      else if cfg.keepNames then
        tryFinally (irSave cfg.thr sig tnames dir name (name ++ ".data") verbose) (fun s' => { s' with tn := s.tn }) s
      else irSave cfg.thr sig tnames dir name (name ++ ".data") verbose s := by
  unfold save refuses
  show (if _ then _ else _ : M Unit) s = _
  rw [apply_ite (fun g : M Unit => g s), apply_ite (fun g : M Unit => g s), apply_ite (fun g : M Unit => g s)]
  cases !(guardHits cfg.deep sig s.cv).isEmpty <;> rfl

theorem save_refused (cfg : Cfg) (sig : List (String × Bool)) (tnames : List String) (dir name : String) (verbose : Bool)
    (s : St) (h : refuses cfg sig dir name s = true) :
    save cfg sig tnames dir name verbose s = (.error .valueError, s) := by
  rw [save_eq, if_pos h]

theorem runSave_refused (cfg : Cfg) (m : Model) (dir name : String) (verbose : Bool) (fs : FS) (k : Option Nat)
    (h : refuses cfg m.sig dir name (init m fs k) = true) :
    (runSave cfg m dir name verbose fs k).res = .error .valueError ∧
    (runSave cfg m dir name verbose fs k).st = init m fs k := by
  rw [runSave_res, runSave_st, save_refused _ _ _ _ _ _ _ h]
  exact ⟨rfl, rfl⟩

theorem refuses_eq_false_iff {cfg : Cfg} {sig : List (String × Bool)} {dir name : String} {s : St} :
    refuses cfg sig dir name s = false ↔ guardHits cfg.deep sig s.cv = [] ∧
      (cfg.refuse = true → destHits (joinPath dir (name ++ ".data")) s.heap s.cv = []) ∧
      (cfg.refuseModel = true → destHits (joinPath dir name) s.heap s.cv = []) := by
  unfold refuses
  cases cfg.refuse <;> cases cfg.refuseModel <;> simp [List.isEmpty_iff]

theorem refuses_of_guard {cfg : Cfg} {sig : List (String × Bool)} {dir name : String} {s : St}
    (h : (guardHits cfg.deep sig s.cv).isEmpty = false) : refuses cfg sig dir name s = true :=
  eq_true_of_ne_false fun hf => List.isEmpty_eq_false_iff.1 h (refuses_eq_false_iff.1 hf).1

theorem refuses_of_destHits {cfg : Cfg} {sig : List (String × Bool)} {dir name : String} {s : St} (hr : cfg.refuse = true)
    (h : destHits (joinPath dir (name ++ ".data")) s.heap s.cv ≠ []) : refuses cfg sig dir name s = true :=
  eq_true_of_ne_false fun hf => h ((refuses_eq_false_iff.1 hf).2.1 hr)

theorem refuses_of_modelHits {cfg : Cfg} {sig : List (String × Bool)} {dir name : String} {s : St}
    (hr : cfg.refuseModel = true) (h : destHits (joinPath dir name) s.heap s.cv ≠ []) :
    refuses cfg sig dir name s = true :=
  eq_true_of_ne_false fun hf => h ((refuses_eq_false_iff.1 hf).2.2 hr)

theorem not_refused_of_ok {cfg : Cfg} {m : Model} {dir name : String} {verbose : Bool} {fs : FS} {k : Option Nat}
    (hok : (runSave cfg m dir name verbose fs k).res = .ok ()) : refuses cfg m.sig dir name (init m fs k) = false :=
  eq_false_of_ne_true fun h => by
    rw [(runSave_refused cfg m dir name verbose fs k h).1] at hok
    cases hok

theorem mem_destHits {heap : List TRef} {cv : List (Option Nat)} {id : Nat} {f : String} {o l : Nat} {v : Bool}
    (hc : some id ∈ cv) (ho : heap[id]? = some (.ext f o l v)) : id ∈ destHits f heap cv :=
  List.mem_filterMap.2 ⟨some id, hc, by simp only [ho, if_true]⟩

/-- The `finally` of `ir.save`. -/
theorem irSave_cv (thr : Nat) (sig : List (String × Bool)) (tnames : List String) (dir name rel : String) (verbose : Bool) (s : St) :
    (irSave thr sig tnames dir name rel verbose s).2.cv = s.cv := by
  unfold irSave
  show (M.bind get _ s).2.cv = s.cv
  simp only [M.bind, get, tryFinally]

theorem save_cv (cfg : Cfg) (sig : List (String × Bool)) (tnames : List String) (dir name : String) (verbose : Bool) (s : St) :
    (save cfg sig tnames dir name verbose s).2.cv = s.cv := by
  rw [save_eq]
  split
  · rfl
  · split <;> exact irSave_cv cfg.thr sig tnames dir name (name ++ ".data") verbose s

theorem save_tn (cfg : Cfg) (hkn : cfg.keepNames = true) (sig : List (String × Bool)) (tnames : List String)
    (dir name : String) (verbose : Bool) (s : St) :
    (save cfg sig tnames dir name verbose s).2.tn = s.tn := by
  rw [save_eq, if_pos hkn]
  split <;> rfl

theorem guardHits_hit (deep : Bool) (sig : List (String × Bool)) (cv : List (Option Nat)) (i : Nat) (n : String) (sub : Bool)
    (h1 : sig[i]? = some (n, sub)) (h2 : cv[i]? = some none) (h3 : deep = true ∨ sub = false) :
    (guardHits deep sig cv).isEmpty = false := by
  have hz : ((n, sub), (none : Option Nat)) ∈ sig.zip cv :=
    List.mem_of_getElem? (List.getElem?_zip_eq_some.2 ⟨h1, h2⟩)
  have hm : n ∈ guardHits deep sig cv :=
    List.mem_map.2 ⟨_, List.mem_filter.2 ⟨hz, by rcases h3 with h | h <;> simp [h]⟩, rfl⟩
  cases hg : guardHits deep sig cv with
  | nil => rw [hg] at hm; cases hm
  | cons => rfl

def Inv (I : St → Prop) (f : M α) : Prop := ∀ s, I s → I (f s).2

def Exit (I E : St → Prop) : Except Err α → St → Prop
  | .ok _, s => I s
  | .error _, s => E s

def Tri (I E : St → Prop) (f : M α) : Prop := ∀ s, I s → Exit I E (f s).1 (f s).2

theorem inv_iff_tri {I : St → Prop} {f : M α} : Inv I f ↔ Tri I I f := by
  have hx : ∀ (r : Except Err α) (s : St), Exit I I r s ↔ I s := fun r s => by cases r <;> exact Iff.rfl
  exact ⟨fun h s hs => (hx _ _).2 (h s hs), fun h s hs => (hx _ _).1 (h s hs)⟩

section
variable {I E : St → Prop}

theorem tri_pure (a : α) : Tri I E (pure a : M α) := fun _ h => h
theorem tri_modify {g : St → St} (h : ∀ s, I s → I (g s)) : Tri I E (modify g) := h

theorem tri_bind {f : M α} {g : α → M β} (hf : Tri I E f) (hg : ∀ a, Tri I E (g a)) : Tri I E (f >>= g) := by
  intro s hs
  have h1 := hf s hs
  show Exit I E (M.bind f g s).1 (M.bind f g s).2
  unfold M.bind
  cases h : f s with
  | mk r s1 =>
    rw [h] at h1
    cases r with
    | ok a => exact hg a s1 h1
    | error e => exact h1

theorem tri_tryFinally {body : M α} {fin : St → St} (hb : Tri I E body) (hI : ∀ s, I s → I (fin s))
    (hE : ∀ s, E s → E (fin s)) : Tri I E (tryFinally body fin) := by
  intro s hs
  have h1 := hb s hs
  unfold tryFinally
  cases h : body s with
  | mk r s1 =>
    rw [h] at h1
    cases r with
    | ok a => exact hI _ h1
    | error e => exact hE _ h1

end

theorem inv_seq {I : St → Prop} {f : M Unit} {g : M β} (hf : Inv I f) (hg : Inv I g) :
    Inv I (do f; g) := inv_iff_tri.2 (tri_bind (inv_iff_tri.1 hf) (fun _ => inv_iff_tri.1 hg))

/-- What the pairs used here tolerate.  `dest`, `mp`: the two files the save may write.  A condition about a part of
the state the predicates do not look at holds by itself (the default proofs); an instance gives the others. -/
structure Stable0 (dest mp : String) (I E : St → Prop) : Prop where
  err : ∀ s, I s → E s := by intros; trivial
  tick : ∀ s op, I s → s.k ≠ some s.calls → I { s with calls := s.calls + 1, trace := s.trace ++ [op] } := by
    intros; assumption
  /-- the faulted call itself, and after an exception the `close` of a `with` block (whether or not it is the planned
  fault), are counted and traced -/
  tickE : ∀ s op, E s → E { s with calls := s.calls + 1, trace := s.trace ++ [op] } := by intros; trivial
  cb : ∀ s c t, I s → I { s with cb := c, cbTotal := t } := by intros; assumption
  cv : ∀ s c, I s → I { s with cv := c } := by intros; assumption
  cvE : ∀ s c, E s → E { s with cv := c } := by intros; trivial
  tn : ∀ s t, I s → I { s with tn := t } := by intros; assumption
  tnE : ∀ s t, E s → E { s with tn := t } := by intros; trivial
  /-- a change of the two destination files through a write handle -/
  fs : ∀ s fs', (∀ p, p ≠ dest → p ≠ mp → FS.get? fs' p = FS.get? s.fs p) → s.wopened ≠ [] → I s → I { s with fs := fs' } := by
    intros; assumption
  /-- a successful (i.e. not the planned fault) `open(f, "wb")` of a destination file, as one step from the state before
  the call -/
  openW : ∀ s f fs', (∀ p, p ≠ dest → p ≠ mp → FS.get? fs' p = FS.get? s.fs p) → I s → s.k ≠ some s.calls →
    I { s with calls := s.calls + 1, trace := s.trace ++ [.openW f], fs := fs', wopened := s.wopened ++ [f] } := by
    intros; assumption
  new : ∀ s t, I s → I { s with heap := s.heap ++ [t] } := by intros; assumption

structure Stable (dest mp : String) (I E : St → Prop) : Prop extends Stable0 dest mp I E where
  inval : ∀ s id f o l v, I s → s.heap[id]? = some (.ext f o l v) → f = dest →
    I { s with heap := s.heap.modify id fun | .ext f o l _ => .ext f o l false | t => t } := by intros; assumption

theorem get?_set_ne (fs : FS) (f p : String) (c : Content) (h : p ≠ f) :
    FS.get? (FS.set fs f c) p = FS.get? fs p := by
  have hb : (p == f) = false := beq_false_of_ne h
  induction fs with
  | nil => simp only [FS.set, FS.get?, List.lookup, hb]
  | cons x rest ih =>
    obtain ⟨g, d⟩ := x
    simp only [FS.set]
    split
    · next hg => subst hg; simp only [FS.get?, List.lookup, hb]
    · simp only [FS.get?, List.lookup] at ih ⊢
      rw [ih]

theorem get?_append_ne (fs : FS) (f p : String) (b : Bytes) (h : p ≠ f) :
    FS.get? (FS.append fs f b) p = FS.get? fs p := by
  unfold FS.append
  split <;> exact get?_set_ne _ _ _ _ h

section
variable {dest mp : String} {I E : St → Prop} (S : Stable0 dest mp I E)
include S

theorem tri_tick (op : Op) : Tri I E (tick op) := by
  intro s hs
  by_cases h : s.k = some s.calls
  · rw [tick_fault op s h]; exact S.tickE s op (S.err s hs)
  · rw [tick_pass op s h]; exact S.tick s op hs h

theorem tri_withClose {body : M α} (f : String) (hb : Tri I E body) : Tri I E (withClose f body) := by
  intro s hs
  have h1 := hb s hs
  cases h : body s with
  | mk r s1 =>
    rw [h] at h1
    cases r with
    | ok a => rw [withClose_ok h]; exact tri_bind (tri_tick S _) (fun _ => tri_pure a) s1 h1
    | error e => rw [withClose_error h]; exact S.tickE s1 _ h1

theorem tri_fsOpenW (f : String) (hf : f = dest ∨ f = mp) : Tri I E (fsOpenW f) := by
  intro s hs
  show Exit I E (M.bind (tick _) _ s).1 (M.bind (tick _) _ s).2
  unfold M.bind
  by_cases hk : s.k = some s.calls
  · rw [tick_fault _ s hk]
    exact S.tickE s _ (S.err s hs)
  · rw [tick_pass _ s hk]
    refine S.openW s f _ (fun p h1 h2 => get?_set_ne _ _ _ _ ?_) hs hk
    rcases hf with h | h <;> (rw [h]; assumption)

/-- Every write of the model: through a handle; optionally a counted call; then a change of one destination file. -/
theorem tri_write (f : String) (hf : f = dest ∨ f = mp) (counted : M Unit) (hc : Tri I E counted)
    (hw : ∀ s s', counted s = (.ok (), s') → s'.wopened = s.wopened) (g : FS → FS)
    (hg : ∀ fs p, p ≠ f → FS.get? (g fs) p = FS.get? fs p) :
    Tri I E (do needHandle f; counted; modify fun s => { s with fs := g s.fs }) := by
  intro s hs
  show Exit I E (M.bind (needHandle f) _ s).1 (M.bind (needHandle f) _ s).2
  unfold M.bind needHandle
  by_cases h : s.wopened.contains f = true
  · simp only [h, if_true]
    have h1 := hc s hs
    show Exit I E (M.bind counted _ s).1 (M.bind counted _ s).2
    unfold M.bind
    cases hcs : counted s with
    | mk r s1 =>
      rw [hcs] at h1
      cases r with
      | error e => exact h1
      | ok u =>
        refine S.fs s1 _ (fun p h1 h2 => hg _ _ ?_) ?_ h1
        · rcases hf with h | h <;> (rw [h]; assumption)
        · rw [hw s s1 hcs]
          intro hnil
          rw [hnil] at h
          cases h
  · simp only [h]
    exact S.err s hs

end

theorem getObj_ok (id : Nat) (t : TRef) (s : St) (h : s.heap[id]? = some t) : getObj id s = (.ok t, s) := by
  unfold getObj
  show M.bind get _ s = _
  simp only [M.bind, get, h]
  rfl

theorem getObj_none (id : Nat) (s : St) (h : s.heap[id]? = none) : getObj id s = (.error .typeError, s) := by
  unfold getObj
  show M.bind get _ s = _
  simp only [M.bind, get, h]
  rfl

theorem getElem?_prefix {l l' : List α} (h : l <+: l') {i : Nat} {a : α} (hi : l[i]? = some a) : l'[i]? = some a := by
  obtain ⟨t, rfl⟩ := h
  rw [List.getElem?_append_left (List.getElem?_eq_some_iff.1 hi).1]
  exact hi

/-- "the object at `id` is `t`" survives everything that only appends to the heap (a normal return is all that is asked). -/
theorem stable0_objAt (dest mp : String) (id : Nat) (t : TRef) :
    Stable0 dest mp (fun s => s.heap[id]? = some t) (fun _ => True) where
  new := fun _ _ h => getElem?_prefix (List.prefix_append _ _) h

/-- No tensor object of the heap is an `ExternalTensor` stored in file `p`. -/
def NoExtIn (heap : List TRef) (p : String) : Prop :=
  ∀ (id : Nat) (f : String) (o l : Nat) (v : Bool), heap[id]? = some (.ext f o l v) → f ≠ p

/-- The original tensor objects are still there, unchanged, at the front of the heap — provided none of them is stored in
the destination data file (those are read into memory and invalidated). -/
theorem stable_orig (h0 : List TRef) (dest mp : String) (hgood : NoExtIn h0 dest) :
    Stable dest mp (fun s => h0 <+: s.heap) (fun s => h0 <+: s.heap) where
  new := fun _ _ h => h.trans (List.prefix_append _ _)
  inval := fun s id f o l v h hobj hf => List.prefix_iff_getElem?.2 fun i hi => by
    have h1 := List.prefix_iff_getElem?.1 h i hi
    show (s.heap.modify id _)[i]? = some h0[i]
    rw [List.getElem?_modify, h1]
    by_cases hid : id = i
    · subst hid
      exact absurd hf (hgood id f o l v ((List.getElem?_eq_getElem hi).trans (h1.symm.trans hobj)))
    · show some (if id = i then _ else h0[i]) = some h0[i]
      rw [if_neg hid]

def Framed (fs0 : FS) (dest mp : String) (s : St) : Prop := ∀ p, p ≠ dest → p ≠ mp → FS.get? s.fs p = FS.get? fs0 p

theorem stable_frame (fs0 : FS) (dest mp : String) : Stable dest mp (Framed fs0 dest mp) (Framed fs0 dest mp) where
  fs := fun _ _ hfs _ h p h1 h2 => (hfs p h1 h2).trans (h p h1 h2)
  openW := fun _ _ _ hfs h _ p h1 h2 => (hfs p h1 h2).trans (h p h1 h2)

/-- "Unless some open-for-write call has succeeded, the file system is the initial one" — with the bookkeeping that makes
it checkable against the trace: the fault plan never changes, the trace has one entry per call, and a successful
open-for-write is a trace entry `openW f` whose index is not the planned fault. -/
def Untouched (fs0 : FS) (k0 : Option Nat) (s : St) : Prop :=
  s.k = k0 ∧ s.trace.length = s.calls ∧
    ((s.fs = fs0 ∧ s.wopened = []) ∨ (∃ i f, s.trace[i]? = some (Op.openW f) ∧ k0 ≠ some i))

theorem stable_untouched (fs0 : FS) (k0 : Option Nat) (dest mp : String) :
    Stable dest mp (Untouched fs0 k0) (Untouched fs0 k0) :=
  have tick : ∀ (s : St) (op : Op), Untouched fs0 k0 s →
      Untouched fs0 k0 { s with calls := s.calls + 1, trace := s.trace ++ [op] } :=
    fun s op ⟨hk, hl, h⟩ =>
      ⟨hk, by rw [List.length_append, hl]; rfl,
        h.imp id (fun ⟨i, f, hi, hne⟩ => ⟨i, f, getElem?_prefix (List.prefix_append _ _) hi, hne⟩)⟩
  { tick := fun s op h _ => tick s op h
    tickE := tick
    fs := fun s fs' _ hw ⟨hk, hl, h⟩ => ⟨hk, hl, h.elim (fun h => absurd h.2 hw) Or.inr⟩
    openW := fun s f fs' _ ⟨hk, hl, _⟩ hne =>
      ⟨hk, by rw [List.length_append, hl]; rfl,
        Or.inr ⟨s.calls, f, by rw [← hl]; exact List.getElem?_concat_length .., by rw [← hk]; exact hne⟩⟩ }

end OV.C20
