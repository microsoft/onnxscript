import OV.Lemmas.C13Mappers
/-! C13, the renamer on the exporter state (`translateVar`, `translateVars`, …) where no attribute parameter, remapping
    scope or inlined constant interferes (`Plain`): a run is a run of the short-name mapper, resp. prints through
    the unique-name mapper's table. -/
namespace OV.C13

theorem newRenamer_constants (o : Opts) (st : St) (v : String) : (newRenamer o st v).2.constants = st.constants := by
  unfold newRenamer shortName uniqueName
  cases o.rename <;> simp

theorem translateVar_constants (o : Opts) (st : St) (v : String) : (translateVar o st v).2.constants = st.constants := by
  unfold translateVar
  split
  · rfl
  · split
    · rfl
    · exact newRenamer_constants o st v

theorem translateVarRef_constants (o : Opts) (st : St) (v : String) :
    (translateVarRef o st v).2.constants = st.constants := by
  unfold translateVarRef
  split
  · rfl
  · exact translateVar_constants o st v

theorem translateVars_constants (o : Opts) : ∀ (vs : List String) (st : St),
    (translateVars o st vs).2.constants = st.constants
  | [], _ => rfl
  | v :: vs, st => by
    simp only [translateVars]
    rw [translateVars_constants o vs, translateVar_constants]

theorem translateVarRefs_eq (o : Opts) : ∀ (vs : List String) (st : St), st.constants = [] →
    translateVarRefs o st vs = translateVars o st vs
  | [], _, _ => rfl
  | v :: vs, st, hc => by
    have h1 : translateVarRef o st v = translateVar o st v := by unfold translateVarRef; rw [hc]; rfl
    simp only [translateVarRefs, translateVars, h1,
      translateVarRefs_eq o vs _ ((translateVar_constants o st v).trans hc)]

theorem outNames_eq (o : Opts) : ∀ (outs : List String) (i : Nat) (st : St), (∀ x ∈ outs, x ≠ "") →
    outNames o st i outs = translateVars o st outs
  | [], _, _, _ => rfl
  | x :: xs, i, st, h => by
    have hx : (x == "") = false := by simpa using h x (by simp)
    simp only [outNames, translateVars, hx, Bool.false_eq_true, if_false,
      outNames_eq o xs (i + 1) _ (fun y hy => h y (by simp [hy]))]

def QuietRemaps (st : St) : Prop := ∀ v, lookupRemap st.remaps v = none

theorem conflictStep_nil (nu : List String) (nn : String) : conflictStep [] nu nn = (nn, [], nu) := rfl

structure Plain (st : St) : Prop where
  attr : st.attrRen = []
  remap : QuietRemaps st
  consts : st.constants = []
  fns : st.localFns = []

theorem plain_uniq {st : St} (h : Plain st) (T : List (String × String)) : Plain { st with uniq := T } :=
  ⟨h.attr, h.remap, h.consts, h.fns⟩

theorem plain_empty : Plain ({} : St) := ⟨rfl, fun _ => rfl, rfl, rfl⟩

theorem translateVar_short (o : Opts) (hr : o.rename = true) (st : St) (hq : Plain st) (v : String) (hv : v ≠ "") :
    translateVar o st v = ("v" ++ Nat.repr ((shortStep st.shortKeys v).1 + 1),
        { st with shortKeys := (shortStep st.shortKeys v).2 }) := by
  unfold translateVar
  have : (v == "") = false := by simpa using hv
  simp only [this, Bool.false_eq_true, if_false, hq.remap v, newRenamer, hr, if_true, shortName, hq.attr,
    conflictStep_nil]

theorem translateVars_short (o : Opts) (hr : o.rename = true) :
    ∀ (ns : List String) (st : St), Plain st → (∀ n ∈ ns, n ≠ "") →
      translateVars o st ns =
        ((shortRun st.shortKeys ns).1.map (fun k => "v" ++ Nat.repr (k + 1)),
         { st with shortKeys := (shortRun st.shortKeys ns).2 })
  | [], st, _, _ => rfl
  | n :: ns, st, hq, hne => by
    have ih := translateVars_short o hr ns { st with shortKeys := (shortStep st.shortKeys n).2 }
      ⟨hq.attr, hq.remap, hq.consts, hq.fns⟩ (fun x hx => hne x (by simp [hx]))
    simp only [translateVars, translateVar_short o hr st hq n (hne n (by simp)), List.map_cons, shortRun, ih]

theorem translateVar_uniq (o : Opts) (hr : o.rename = false) (st : St) (hq : Plain st) (v : String) :
    translateVar o st v = (pyT (uniqReq st.uniq v) v, { st with uniq := uniqReq st.uniq v }) := by
  unfold translateVar
  by_cases hv : v = ""
  · subst hv
    simp [pyT, uniqReq]
  · have : (v == "") = false := by simpa using hv
    simp only [this, Bool.false_eq_true, if_false, hq.remap v, newRenamer, hr, uniqueName, hq.attr,
      pyT_uniqReq_fst st.uniq v hv, conflictStep_nil]
    simp only [uniqReq, hv, if_false]

theorem translateVars_uniq (o : Opts) (hr : o.rename = false) :
    ∀ (vs : List String) (st : St), Plain st →
      translateVars o st vs = (vs.map (pyT (uniqRun st.uniq vs)), { st with uniq := uniqRun st.uniq vs })
  | [], st, _ => rfl
  | v :: vs, st, hq => by
    have ih := translateVars_uniq o hr vs { st with uniq := uniqReq st.uniq v } (plain_uniq hq _)
    simp only [translateVars, translateVar_uniq o hr st hq v, ih, List.map_cons, uniqRun]
    rw [pyT_stable (uniqRun_prefix vs (uniqReq st.uniq v)) (present_uniqReq st.uniq v)]

/-- The lemmas about the exporter on the straight-line fragment are stated in this form (any table `T` that extends the
    run's), so that each piece of the text can be read through the table the export ends with. -/
theorem translateVars_later (o : Opts) (hr : o.rename = false) (vs : List String) (st : St) (hq : Plain st)
    {T : List (String × String)} (hT : uniqRun st.uniq vs <+: T) :
    translateVars o st vs = (vs.map (pyT T), { st with uniq := uniqRun st.uniq vs }) := by
  rw [translateVars_uniq o hr vs st hq,
    List.map_congr_left (fun x hx => (pyT_stable hT (present_uniqRun vs st.uniq x hx)).symm)]

theorem translateVarRefs_later (o : Opts) (hr : o.rename = false) (vs : List String) (st : St) (hq : Plain st)
    {T : List (String × String)} (hT : uniqRun st.uniq vs <+: T) :
    translateVarRefs o st vs = (vs.map (pyT T), { st with uniq := uniqRun st.uniq vs }) := by
  rw [translateVarRefs_eq o vs st hq.consts, translateVars_later o hr vs st hq hT]

theorem outNames_later (o : Opts) (hr : o.rename = false) (outs : List String) (i : Nat) (st : St) (hq : Plain st)
    (h : ∀ x ∈ outs, x ≠ "") {T : List (String × String)} (hT : uniqRun st.uniq outs <+: T) :
    outNames o st i outs = (outs.map (pyT T), { st with uniq := uniqRun st.uniq outs }) := by
  rw [outNames_eq o outs i st h, translateVars_later o hr outs st hq hT]

end OV.C13
