import OV.Model.C05Order
import Mathlib.Order.MinMax
import Mathlib.Order.Lattice
namespace OV.Lemmas.C05
open OV.C05.Order

theorem foldl_eq_flatReduce {α : Type} (op : α → α → α) (hassoc : ∀ a b c, op (op a b) c = op a (op b c))
    (l : List α) (x : α) :
    l.foldl op x = match flatReduce op l with | none => x | some m => op x m := by
  cases l with
  | nil => rfl
  | cons v l => simp only [List.foldl_cons, flatReduce, @List.foldl_assoc _ op ⟨hassoc⟩]

theorem flatReduce_append {α : Type} (op : α → α → α) (hassoc : ∀ a b c, op (op a b) c = op a (op b c))
    (l1 l2 : List α) (a b : α) (h1 : flatReduce op l1 = some a) (h2 : flatReduce op l2 = some b) :
    flatReduce op (l1 ++ l2) = some (op a b) := by
  cases l1 with
  | nil => simp [flatReduce] at h1
  | cons v l1 =>
    cases l2 with
    | nil => simp [flatReduce] at h2
    | cons w l2 =>
      simp only [flatReduce, Option.some.injEq] at h1 h2
      simp only [List.cons_append, flatReduce, List.foldl_append, List.foldl_cons, Option.some.injEq]
      rw [h1, @List.foldl_assoc _ op ⟨hassoc⟩, h2]

/-- What a fired Clip fusion of Min/Max has passed: the per-input loop of `check`, and for `min_max` the bound test. -/
theorem run_fire_clip {α : Type} [Min α] [Max α] [LT α] [DecidableRel (α := α) (· < ·)] (p : MinMax α) (l u : α)
    (h : p.run = .fire (.clip l u)) :
    p.consts.any (fun c => !c.isConst || (p.kind.needScalars && (!c.isScalar || p.rankBad c))) = false ∧
    (p.kind = .minMax → ¬ u < l) := by
  unfold MinMax.run at h
  split at h; · cases h
  simp only at h
  split at h; · cases h
  rename_i hbad
  refine ⟨(Bool.not_eq_true _).mp hbad, fun hk => ?_⟩
  simp only [hk] at h
  split at h; · cases h
  split at h
  · split at h; · cases h
    rename_i hlu
    cases h; exact hlu
  · cases h

section Clip
variable {α : Type} [LinearOrder α]

theorem clip_clip (a b c d : Option α) (x : α) :
    clip c d (clip a b x) =
      clip (combine max a c) (combine min (combine max b (match b with | some _ => c | none => none)) d) x := by
  rcases a with _ | a <;> rcases b with _ | b <;> rcases c with _ | c <;> rcases d with _ | d <;>
    simp only [clip, combine, max_min_distrib_right, max_assoc, min_assoc]

theorem relu_clip (zero : α) (a b : Option α) (x : α) :
    relu zero (clip a b x) = clip (some (max zero (a.getD zero))) (b.map (max zero)) x := by
  rcases a with _ | a <;> rcases b with _ | b <;>
    simp only [clip, relu, Option.getD, Option.map, max_min_distrib_right, max_assoc, max_self, max_comm zero]

end Clip

/-- The shape shared by `ClipClip.run`, `ReluClip.run` and `ReluClip.runReluClip`: opset guard, `check`, element type known,
then fire.  Each of the three unfolds to a `gate`, which is how `gate_fire` and `gate_ne_raises` apply to them as they stand. -/
def gate {β : Type} (opset check dtype : Bool) (r : β) : Outcome β :=
  if !opset then .nofire else if !check then .nofire else if !dtype then .nofire else .fire r

theorem gate_fire {β : Type} {o c d : Bool} {b r : β} (h : gate o c d b = .fire r) :
    o = true ∧ c = true ∧ d = true ∧ r = b := by
  cases o <;> cases c <;> cases d <;> cases h
  exact ⟨rfl, rfl, rfl, rfl⟩

theorem gate_ne_raises {β : Type} (o c d : Bool) (b : β) : gate o c d b ≠ .raises := by
  cases o <;> cases c <;> cases d <;> exact nofun

end OV.Lemmas.C05
