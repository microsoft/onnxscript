import OV.Model.C01Eager
/-! The eager calling convention (`OV/Model/C01Eager.lean`) on a call CPython accepts.  Two characterisations carry the
file: `tagLoop_ok_iff` (the index-driven tagging loop succeeds exactly on the `taggable` calls, and then returns
`tagSpec`) and `Bound` (CPython's binding as a relation, read off `bindPos` once).  Every property of an accepted call
is an induction over `Bound`; `adapt_bound` is the simulation: adapting the tagged call and binding the result is
binding the call and adapting the environment. -/
namespace OV.C01.Eager
open OV.C01

variable {V : Type}

theorem bindPos_nil {A} (kw : List (Name × A)) (ps : List (PyParam A)) : bindPos kw ps [] = bindRest kw ps := by
  cases ps <;> rfl

theorem bindPos_len {A} (kw : List (Name × A)) : ∀ (qs : List (PyParam A)) (as : List A) (env : List (Name × A)),
    bindPos kw qs as = .ok env → as.length ≤ qs.length
  | _, [], _, _ => by simp
  | [], _ :: _, _, h => by simp [bindPos] at h
  | q :: qs, a :: as, env, h => by
    simp only [bindPos] at h
    cases hr : bindPos kw qs as with
    | error e => simp [hr] at h
    | ok r => simpa using bindPos_len kw qs as r hr

/-- The two clauses of `sigMatch` on `q.dflt` come in the form they are used in: what a default of `q` means for `p`. -/
theorem sigMatch_induct {A} {motive : (ps : List SigParam) → (qs : List (PyParam A)) → sigMatch ps qs = true → Prop}
    (nil : motive [] [] rfl)
    (cons : ∀ {p ps q qs} (_ : p.name = q.name) (_ : p.variadic = false)
      (_ : ∀ dv, q.dflt = some dv → p.isInput = false ∧ (p.hasDefault || !p.required) = true)
      (hrest : sigMatch ps qs = true) (h : sigMatch (p :: ps) (q :: qs) = true),
      motive ps qs hrest → motive (p :: ps) (q :: qs) h) :
    ∀ ps qs h, motive ps qs h
  | [], [], _ => nil
  | [], _ :: _, h => by simp [sigMatch] at h
  | _ :: _, [], h => by simp [sigMatch] at h
  | p :: ps, q :: qs, h => by
    have h' := h
    simp only [sigMatch, Bool.and_eq_true, decide_eq_true_eq, Bool.not_eq_true', Bool.or_eq_true] at h'
    obtain ⟨⟨⟨⟨hn, hv⟩, hin⟩, hdf⟩, hrest⟩ := h'
    refine cons hn hv (fun dv hq => ?_) hrest h (sigMatch_induct nil cons ps qs hrest)
    simpa [hq] using And.intro hin hdf

theorem sigMatch_any {A} {ps : List SigParam} {qs : List (PyParam A)} (h : sigMatch ps qs = true) (n : Name) :
    qs.any (fun q => q.name = n) = ps.any (fun p => p.name = n) := by
  induction ps, qs, h using sigMatch_induct with
  | nil => rfl
  | cons hn _ _ _ _ ih => simp only [List.any_cons, ih, hn]

theorem sigMatch_length {A} {ps : List SigParam} {qs : List (PyParam A)} (h : sigMatch ps qs = true) :
    qs.length = ps.length := by
  induction ps, qs, h using sigMatch_induct with
  | nil => rfl
  | cons _ _ _ _ _ ih => simp only [List.length_cons, ih]

theorem sigMatch_drop {A} {ps : List SigParam} {qs : List (PyParam A)} (h : sigMatch ps qs = true) (n : Nat) :
    sigMatch (ps.drop n) (qs.drop n) = true := by
  induction ps, qs, h using sigMatch_induct generalizing n with
  | nil => simp only [List.drop_nil, sigMatch]
  | cons _ _ _ _ h ih => cases n with | zero => exact h | succ n => exact ih n

theorem sigMatch_noVar {A} {ps : List SigParam} {qs : List (PyParam A)} (h : sigMatch ps qs = true) :
    ps.any (fun p => p.isInput && p.variadic) = false := by
  induction ps, qs, h using sigMatch_induct with
  | nil => rfl
  | cons _ hv _ _ _ ih => simp only [List.any_cons, hv, Bool.and_false, Bool.false_or, ih]

theorem pyBind_eq {A} {qs : List (PyParam A)} {pos : List A} {kw : List (Name × A)} (hl : pos.length ≤ qs.length)
    (hk : kw.any (fun e => !((qs.drop pos.length).any (fun q => q.name = e.1))) = false) :
    pyBind qs pos kw = bindPos kw qs pos := by
  rw [pyBind, if_neg (by omega), hk]; rfl

theorem pyBind_ok_iff {A} {qs : List (PyParam A)} {pos : List A} {kw env : List (Name × A)} :
    pyBind qs pos kw = .ok env ↔ pos.length ≤ qs.length ∧
      kw.any (fun e => !((qs.drop pos.length).any (fun q => q.name = e.1))) = false ∧ bindPos kw qs pos = .ok env := by
  refine ⟨fun h => ?_, fun ⟨hl, hk, hb⟩ => by rw [pyBind_eq hl hk, hb]⟩
  unfold pyBind at h
  split at h
  · cases h
  · split at h
    · cases h
    · rename_i hl hk
      exact ⟨by omega, Bool.eq_false_iff.mpr hk, h⟩

/-- the index of the loop read as the list still to come -/
theorem drop_cons_index {A} {as0 : List A} {i : Nat} {a : A} {as : List A} (h : as0.drop i = a :: as) :
    as0[i]? = some a ∧ as0.drop (i + 1) = as := by
  have h1 := congrArg List.head? h
  have h2 := congrArg List.tail h
  simp only [List.head?_drop, List.tail_drop, List.head?_cons, List.tail_cons] at h1 h2
  exact ⟨h1, h2⟩

theorem drop_nil_index {A} {as0 : List A} {i : Nat} (h : as0.drop i = []) :
    as0[i]? = none ∧ as0.drop (i + 1) = [] := by
  have : as0.length ≤ i := List.drop_eq_nil_iff.mp h
  exact ⟨List.getElem?_eq_none this, List.drop_eq_nil_iff.mpr (by omega)⟩

/-- what `tagLoop` asks of a call on a signature without variadic parameter -/
def taggable {A} (kw : List (Name × A)) : List A → List SigParam → Bool
  | _, [] => true
  | _ :: as, p :: ps => (lk p.name kw).isNone && taggable kw as ps
  | [], p :: ps => ((lk p.name kw).isSome || p.hasDefault || !p.required) && taggable kw [] ps

theorem taggable_take {A} (kw : List (Name × A)) : ∀ (as : List A) (ps : List SigParam), taggable kw as ps = true →
    ∀ p ∈ ps.take as.length, lk p.name kw = none
  | [], _, _, _, hp => by simp at hp
  | _ :: _, [], _, _, hp => by simp at hp
  | _ :: as, p :: ps, h, p', hp => by
    simp only [taggable, Bool.and_eq_true, Option.isNone_iff_eq_none] at h
    rcases List.mem_cons.mp hp with rfl | hp
    · exact h.1
    · exact taggable_take kw as ps h.2 p' hp

theorem tagLoop_ok_iff {A} (d : SigParam → A) (kw : List (Name × A)) :
    ∀ (ps : List SigParam) (i : Nat) (as0 as : List A) (T : Tagged A),
      ps.any (fun p => p.isInput && p.variadic) = false → as0.drop i = as →
      (tagLoop false d kw i as0 ps = .ok T ↔ taggable kw as ps = true ∧ tagSpec kw as ps = T)
  | [], i, as0, as, T, _, _ => by
    cases as <;> simp [tagLoop, tagSpec, kwTag, taggable]
  | p :: ps, i, as0, as, T, hv, hd => by
    simp only [List.any_cons, Bool.or_eq_false_iff] at hv
    cases as with
    | cons a as =>
      obtain ⟨hi, hd'⟩ := drop_cons_index hd
      have ih := fun T' => tagLoop_ok_iff d kw ps (i + 1) as0 as T' hv.2 hd'
      unfold tagLoop
      simp only [hv.1, hi, Bool.false_eq_true, if_false, taggable, tagSpec]
      cases lk p.name kw with
      | some v => simp
      | none =>
        cases hX : tagLoop false d kw (i + 1) as0 ps with
        | error e =>
          have hC : taggable kw as ps = false := by simpa [hX] using ih (tagSpec kw as ps)
          simp [hC]
        | ok T' =>
          obtain ⟨h1, rfl⟩ := (ih T').mp hX
          simp [h1]
    | nil =>
      obtain ⟨hi, hd'⟩ := drop_nil_index hd
      have ih := fun T' => tagLoop_ok_iff d kw ps (i + 1) as0 [] T' hv.2 hd'
      unfold tagLoop
      simp only [hv.1, hi, Bool.false_eq_true, if_false, taggable, tagSpec, kwTag]
      cases hX : tagLoop false d kw (i + 1) as0 ps with
      | error e =>
        have hC : taggable kw [] ps = false := by simpa [hX] using ih (tagSpec kw [] ps)
        cases lk p.name kw with
        | some v => simp [hC]
        | none => cases p.hasDefault <;> cases p.required <;> simp [hC]
      | ok T' =>
        obtain ⟨h1, rfl⟩ := (ih T').mp hX
        cases lk p.name kw with
        | some v => simp [h1, tagSpec]
        | none => cases p.hasDefault <;> cases p.required <;> simp [h1, tagSpec]

theorem tagArguments_ok_iff {A} (ae : Bool) (d : SigParam → A) (ps : List SigParam) (args : List A)
    (kw : List (Name × A)) (T : Tagged A) (hv : ps.any (fun p => p.isInput && p.variadic) = false) :
    tagArguments false ae d ps args kw = .ok T ↔
      (kw.any (fun e => !(ps.any (fun p => p.name = e.1))) && !ae) = false ∧ args.length ≤ ps.length ∧
      taggable kw args ps = true ∧ tagSpec kw args ps = T := by
  rw [← tagLoop_ok_iff d kw ps 0 args args T hv rfl, tagArguments, hv]
  cases kw.any (fun e => !(ps.any (fun p => p.name = e.1))) && !ae with
  | true => simp
  | false =>
    by_cases hl : args.length ≤ ps.length
    · simp [hl, Nat.not_lt.mpr hl]
    · simp [hl, Nat.lt_of_not_le hl]

/-- `Bound kw as ps qs env`: CPython binds the call `(as, kw)` of a function with parameters `qs` to `env` (`bindPos`, so
without the two checks `pyBind` makes first), one constructor per way a parameter gets its value: positional
argument, keyword, Python default.  The relation is deliberately not about CPython alone: it carries the signature
`ps` and, at each step, what `sigMatch ps qs` says of the pair `(p, q)` at hand.  Every property below relates the
binding to what `tagLoop`, `adaptEnv` or `flagEnv` do with `p`, and would otherwise unpack `sigMatch` again at each
step of its induction. -/
inductive Bound {A} (kw : List (Name × A)) : List A → List SigParam → List (PyParam A) → List (Name × A) → Prop
  | nil : Bound kw [] [] [] []
  | pos {a as p ps q qs env} (hn : p.name = q.name) (hB : Bound kw as ps qs env) :
      Bound kw (a :: as) (p :: ps) (q :: qs) ((q.name, a) :: env)
  | key {v p ps q qs env} (hn : p.name = q.name) (hk : lk p.name kw = some v) (hB : Bound kw [] ps qs env) :
      Bound kw [] (p :: ps) (q :: qs) ((q.name, v) :: env)
  | dflt {dv p ps q qs env} (hn : p.name = q.name) (hk : lk p.name kw = none) (hq : q.dflt = some dv)
      (hi : p.isInput = false) (hr : (p.hasDefault || !p.required) = true) (hB : Bound kw [] ps qs env) :
      Bound kw [] (p :: ps) (q :: qs) ((q.name, dv) :: env)

theorem bound_of_bindPos {A} (kw : List (Name × A)) (ps : List SigParam) (qs : List (PyParam A)) (as : List A)
    (env : List (Name × A)) (h : sigMatch ps qs = true) (hb : bindPos kw qs as = .ok env) : Bound kw as ps qs env := by
  induction ps, qs, h using sigMatch_induct generalizing as env with
  | nil =>
    cases as with
    | nil => cases hb; exact .nil
    | cons a as => cases hb
  | @cons _ _ q qs hn _ hd _ _ ih =>
    cases as with
    | cons a as =>
      simp only [bindPos] at hb
      cases hr : bindPos kw qs as with
      | error e => simp [hr] at hb
      | ok r =>
        simp only [hr, Except.ok.injEq] at hb
        subst hb
        exact .pos hn (ih as r hr)
    | nil =>
      simp only [bindPos_nil, bindRest] at hb
      cases hr : bindRest kw qs with
      | error e => rw [hr] at hb; split at hb <;> cases hb
      | ok r =>
        have ih := ih [] r (by rw [bindPos_nil]; exact hr)
        cases hk : lk q.name kw with
        | some v =>
          simp only [hk, hr, Except.ok.injEq] at hb
          subst hb
          exact .key hn (hn ▸ hk) ih
        | none =>
          cases hq : q.dflt with
          | none => simp [hk, hq] at hb
          | some dv =>
            simp only [hk, hq, hr, Except.ok.injEq] at hb
            subst hb
            exact .dflt hn (hn ▸ hk) hq (hd dv hq).1 (hd dv hq).2 ih

theorem bindPos_of_bound {A} {kw : List (Name × A)} {as ps qs env} (hB : Bound kw as ps qs env) :
    bindPos kw qs as = .ok env := by
  induction hB with
  | nil => rfl
  | pos _ _ ih => simp only [bindPos, ih]
  | key hn hk _ ih => rw [bindPos_nil] at ih ⊢; simp only [bindRest, ← hn, hk, ih]
  | dflt hn hk hq _ _ _ ih => rw [bindPos_nil] at ih ⊢; simp only [bindRest, ← hn, hk, hq, ih]

theorem taggable_of_bound {A} {kw : List (Name × A)} {as ps qs env} (hB : Bound kw as ps qs env)
    (hpos : ∀ p ∈ ps.take as.length, lk p.name kw = none) : taggable kw as ps = true := by
  induction hB with
  | nil => rfl
  | pos _ _ ih =>
    simp only [List.length_cons, List.take_succ_cons, List.forall_mem_cons] at hpos
    simp [taggable, hpos.1, ih hpos.2]
  | key _ hk _ ih => simp [taggable, hk, ih (by simp)]
  | dflt _ hk _ _ hr _ ih => simpa [taggable, hk, ih (by simp)] using hr

theorem flag_bound {kw : List (Name × Arg V)} {as ps qs env} (hB : Bound kw as ps qs env) :
    (flagArgs (tagSpec kw as ps).1 || flagKw (tagSpec kw as ps).2) = flagEnv ps env := by
  induction hB with
  | nil => rfl
  | pos _ _ ih => simp only [tagSpec, flagArgs, flagEnv, ← ih, Bool.or_assoc]
  | key _ hk _ ih =>
    simp only [tagSpec, flagArgs, Bool.false_or] at ih
    simp only [tagSpec, kwTag, hk, flagArgs, flagKw, flagEnv, ← ih, Bool.false_or]
  | dflt _ hk _ hi _ _ ih =>
    simp only [tagSpec, flagArgs, Bool.false_or] at ih
    simp only [tagSpec, kwTag, hk, flagArgs, flagEnv, ← ih, hi, Bool.false_and, Bool.false_or]

theorem lk_mem {A} {n : Name} {v : A} : ∀ {kw : List (Name × A)}, lk n kw = some v → (n, v) ∈ kw
  | (k, w) :: kw, h => by
    simp only [lk] at h
    split at h
    · cases h; subst k; exact List.mem_cons_self
    · exact List.mem_cons_of_mem _ (lk_mem h)

theorem lk_ne_none_of_mem {A} (n : Name) : ∀ (kw : List (Name × A)) (v : A), (n, v) ∈ kw → lk n kw ≠ none
  | [], _, h => by cases h
  | (k, w) :: kw, v, h => by
    simp only [lk]
    by_cases hk : k = n
    · simp [hk]
    · simp only [hk, if_false]
      rcases List.mem_cons.mp h with h | h
      · exact absurd (Prod.mk.inj h).1.symm hk
      · exact lk_ne_none_of_mem n kw v h

theorem kwTag_mem {A} (kw : List (Name × A)) : ∀ (ps : List SigParam), ∀ e ∈ kwTag kw ps, lk e.1 kw = some e.2.1
  | [], e, h => by cases h
  | p :: ps, e, h => by
    unfold kwTag at h
    split at h
    · rcases List.mem_cons.mp h with rfl | h
      · assumption
      · exact kwTag_mem kw ps e h
    · exact kwTag_mem kw ps e h

theorem tagSpec_snd_mem {A} (kw : List (Name × A)) : ∀ (as : List A) (ps : List SigParam),
    ∀ e ∈ (tagSpec kw as ps).2, lk e.1 kw = some e.2.1
  | [], ps => kwTag_mem kw ps
  | _ :: _, [] => by simp [tagSpec]
  | _ :: as, _ :: ps => tagSpec_snd_mem kw as ps

theorem tagSpec_fst_length {A} (kw : List (Name × A)) : ∀ (as : List A) (ps : List SigParam),
    (tagSpec kw as ps).1.length = min as.length ps.length
  | [], _ => by simp [tagSpec]
  | _ :: _, [] => by simp [tagSpec]
  | _ :: as, _ :: ps => by simp [tagSpec, tagSpec_fst_length kw as ps, Nat.succ_min_succ]

theorem adaptArgs_len (mk : Mk V) : ∀ (ta : List (Arg V × SigParam)) (pos : List (Arg V)),
    adaptArgs mk ta = .ok pos → pos.length = ta.length
  | [], pos, h => by cases h; rfl
  | (a, p) :: r, pos, h => by
    simp only [adaptArgs] at h
    cases ha : adaptTagged mk p a with
    | error e => simp [ha] at h
    | ok y =>
      cases hr : adaptArgs mk r with
      | error e => simp [ha, hr] at h
      | ok ys =>
        simp only [ha, hr, Except.ok.injEq] at h
        simp [← h, adaptArgs_len mk r ys hr]

theorem adaptKw_lk_none (mk : Mk V) {kw : List (Name × Arg V)} {n : Name} (hn : lk n kw = none) :
    ∀ (tk : List (Name × Arg V × SigParam)) (K : List (Name × Arg V)), (∀ e ∈ tk, lk e.1 kw = some e.2.1) →
      adaptKw mk tk = .ok K → lk n K = none
  | [], K, _, h => by cases h; rfl
  | (m, a, p) :: r, K, htk, h => by
    simp only [adaptKw] at h
    cases ha : adaptTagged mk p a with
    | error e => simp [ha] at h
    | ok y =>
      cases hr : adaptKw mk r with
      | error e => simp [ha, hr] at h
      | ok ys =>
        simp only [ha, hr, Except.ok.injEq] at h
        subst h
        have hm : m ≠ n := fun hmn => by simpa [hmn, hn] using htk _ List.mem_cons_self
        simp only [lk, hm, if_false]
        exact adaptKw_lk_none mk hn r ys (fun e he => htk e (List.mem_cons_of_mem _ he)) hr

/-- the check `tagArguments` and `pyBind` make on the keywords -/
theorem keys_iff {A B} {nm : B → Name} {K : List (Name × A)} {qs : List B} :
    K.any (fun e => !(qs.any (fun q => nm q = e.1))) = false ↔ ∀ e ∈ K, qs.any (fun q => nm q = e.1) = true := by
  rw [List.any_eq_false]
  simp only [Bool.not_eq_true', Bool.not_eq_false]

theorem keys_guard_mono {A B} {K kw : List (Name × A)} (hsub : ∀ n, lk n kw = none → lk n K = none)
    (qs : List (PyParam B)) (h : kw.any (fun e => !(qs.any (fun q => q.name = e.1))) = false) :
    K.any (fun e => !(qs.any (fun q => q.name = e.1))) = false := by
  rw [keys_iff] at h ⊢
  intro e he
  cases hv : lk e.1 kw with
  | none => exact absurd (hsub _ hv) (lk_ne_none_of_mem e.1 K e.2 he)
  | some v => exact h (e.1, v) (lk_mem hv)

theorem bindRest_cons_notin {A} (n : Name) (y : A) (K : List (Name × A)) :
    ∀ (qs : List (PyParam A)), qs.any (fun q => q.name = n) = false → bindRest ((n, y) :: K) qs = bindRest K qs
  | [], _ => rfl
  | q :: qs, h => by
    simp only [List.any_cons, Bool.or_eq_false_iff, decide_eq_false_iff_not] at h
    have hne : ¬ n = q.name := fun hh => h.1 hh.symm
    simp only [bindRest, lk, hne, if_false, bindRest_cons_notin n y K qs h.2]

/-- adapt-then-bind = bind-then-adapt, including the first error.  (Where a case ends in `cases _ <;> rfl`, the two
sides are one `match` compiled for two model definitions; `rfl` identifies them only once the scrutinee is a
constructor.) -/
theorem adapt_bound (mk : Mk V) {kw : List (Name × Arg V)} {as ps qs env} (hB : Bound kw as ps qs env)
    (h : sigMatch ps qs = true) (hnd : nodupP ps = true) :
    (match adaptArgs mk (tagSpec kw as ps).1 with
     | .error e => .error e
     | .ok pos => match adaptKw mk (tagSpec kw as ps).2 with
       | .error e => .error e
       | .ok K => bindPos K qs pos) = adaptEnv mk ps env := by
  induction hB with
  | nil => rfl
  | @pos a as p ps _ qs _ _ _ ih =>
    simp only [nodupP, Bool.and_eq_true] at hnd
    simp only [tagSpec, adaptArgs, adaptEnv, ← ih (sigMatch_drop h 1) hnd.2]
    cases adaptTagged mk p a with
    | error e => rfl
    | ok y =>
      cases adaptArgs mk (tagSpec kw as ps).1 with
      | error e => rfl
      | ok pos =>
        cases adaptKw mk (tagSpec kw as ps).2 with
        | error e => rfl
        | ok K => simp only [bindPos]; cases bindPos K qs pos <;> rfl
  | @key v p ps q qs _ hn hk _ ih =>
    simp only [nodupP, Bool.and_eq_true, Bool.not_eq_true'] at hnd
    have h : sigMatch ps qs = true := sigMatch_drop h 1
    have ih := ih h hnd.2
    simp only [tagSpec, adaptArgs, bindPos_nil] at ih ⊢
    simp only [kwTag, hk, adaptKw, adaptEnv, ← ih]
    cases adaptTagged mk p v with
    | error e => rfl
    | ok y =>
      cases adaptKw mk (kwTag kw ps) with
      | error e => rfl
      | ok K =>
        -- the other parameters have other names, so they do not see the new entry
        have hq : qs.any (fun q' => q'.name = q.name) = false := by rw [sigMatch_any h, ← hn]; exact hnd.1
        simp only [bindRest, lk, hn, if_true, bindRest_cons_notin q.name y K qs hq]; cases bindRest K qs <;> rfl
  | @dflt _ _ ps _ qs _ hn hk hq hi _ _ ih =>
    simp only [nodupP, Bool.and_eq_true] at hnd
    have ih := ih (sigMatch_drop h 1) hnd.2
    simp only [tagSpec, adaptArgs, bindPos_nil] at ih ⊢
    simp only [kwTag, hk, adaptEnv, adaptTagged, hi, Bool.false_eq_true, if_false, ← ih]
    cases hK : adaptKw mk (kwTag kw ps) with
    | error e => rfl
    | ok K =>
      simp only [bindRest, adaptKw_lk_none mk (hn ▸ hk) _ K (kwTag_mem kw ps) hK, hq]; cases bindRest K qs <;> rfl

theorem keys_weaken {A B} {ps : List SigParam} {qs : List (PyParam B)} (h : sigMatch ps qs = true) (n : Nat)
    {K : List (Name × A)} (hK : K.any (fun e => !((qs.drop n).any (fun q => q.name = e.1))) = false) :
    K.any (fun e => !(ps.any (fun p => p.name = e.1))) = false := by
  rw [keys_iff] at hK ⊢
  intro e he
  rw [← sigMatch_any h, ← List.take_append_drop n qs, List.any_append, hK e he, Bool.or_true]

theorem nodup_take_drop : ∀ (ps : List SigParam) (n : Nat) (p : SigParam), nodupP ps = true → p ∈ ps.take n →
    (ps.drop n).any (fun q => q.name = p.name) = false
  | [], _, _, _, hp => by simp at hp
  | _ :: _, 0, _, _, hp => by simp at hp
  | x :: xs, n + 1, p, hnd, hp => by
    simp only [nodupP, Bool.and_eq_true, Bool.not_eq_true'] at hnd
    rcases List.mem_cons.mp hp with rfl | hp
    · rw [← List.take_append_drop n xs, List.any_append, Bool.or_eq_false_iff] at hnd
      exact hnd.1.2
    · exact nodup_take_drop xs n p hnd.2 hp

theorem tagArguments_spec {A} (ae : Bool) (d : SigParam → A) (ps : List SigParam) (qs : List (PyParam A))
    (args : List A) (kw env : List (Name × A)) (h : sigMatch ps qs = true) (hnd : nodupP ps = true)
    (hpy : pyBind qs args kw = .ok env) :
    tagArguments false ae d ps args kw = .ok (tagSpec kw args ps) := by
  obtain ⟨hl, hk, hb⟩ := pyBind_ok_iff.mp hpy
  -- no positionally given parameter is a keyword: names are distinct, and every keyword names a parameter behind those
  have hpos : ∀ p ∈ ps.take args.length, lk p.name kw = none := fun p hp => by
    cases hv : lk p.name kw with
    | none => rfl
    | some v =>
      have := keys_iff.mp hk _ (lk_mem hv)
      rw [sigMatch_any (sigMatch_drop h _), nodup_take_drop ps _ p hnd hp] at this
      cases this
  rw [tagArguments_ok_iff ae d ps args kw _ (sigMatch_noVar h), keys_weaken h _ hk]
  exact ⟨rfl, sigMatch_length h ▸ hl, taggable_of_bound (bound_of_bindPos kw ps qs args env h hb) hpos, rfl⟩

theorem eagerCall_python (mk : Mk V) (ae : Bool) (ps : List SigParam) (qs : List (PyParam (Arg V)))
    (args : List (Arg V)) (kw env : List (Name × Arg V))
    (h : sigMatch ps qs = true) (hnd : nodupP ps = true) (hpy : pyBind qs args kw = .ok env) :
    eagerCall mk ae ps qs args kw =
      match adaptEnv mk ps env with
      | .error e => .error e
      | .ok env' => .ok (env', flagEnv ps env) := by
  obtain ⟨hl, hk, hb⟩ := pyBind_ok_iff.mp hpy
  have hB := bound_of_bindPos kw ps qs args env h hb
  simp only [eagerCall, tagArguments_spec ae _ ps qs args kw env h hnd hpy, ← adapt_bound mk hB h hnd, flag_bound hB]
  cases hA : adaptArgs mk (tagSpec kw args ps).1 with
  | error e => rfl
  | ok pos =>
    cases hK : adaptKw mk (tagSpec kw args ps).2 with
    | error e => rfl
    | ok K =>
      -- the adapted call passes CPython's two checks because the caller's does
      have hpl : pos.length = args.length := by
        rw [adaptArgs_len mk _ pos hA, tagSpec_fst_length, ← sigMatch_length h]; omega
      have hkK := keys_guard_mono (fun n hn => adaptKw_lk_none mk hn _ K (tagSpec_snd_mem kw args ps) hK) _ hk
      rw [← hpl] at hl hkK
      simp only [pyBind_eq hl hkK]
      cases bindPos K qs pos <;> rfl

mutual
theorem toUser_adapt (mk : Mk V) : ∀ x : Arg V, userVal x = true →
    ∃ y, adapt mk x = .ok y ∧ toUser y = .ok x
  | .arr v, _ => ⟨.ten v, rfl, rfl⟩
  | .none, _ => ⟨.none, rfl, rfl⟩
  | .list xs, h => by
    obtain ⟨ys, h1, h2⟩ := toUser_adaptL mk xs (by simpa [userVal] using h)
    exact ⟨.list ys, by simp [adapt, h1], by simp [toUser, h2]⟩
  | .tuple xs, h => by
    obtain ⟨ys, h1, h2⟩ := toUser_adaptL mk xs (by simpa [userVal] using h)
    exact ⟨.tuple ys, by simp [adapt, h1], by simp [toUser, h2]⟩
  | .ten _, h => by simp [userVal] at h
  | .bool _, h => by simp [userVal] at h
  | .flt _, h => by simp [userVal] at h
  | .int _, h => by simp [userVal] at h
  | .other _, h => by simp [userVal] at h
theorem toUser_adaptL (mk : Mk V) : ∀ xs : List (Arg V), userValL xs = true →
    ∃ ys, adaptL mk xs = .ok ys ∧ toUserL ys = .ok xs
  | [], _ => ⟨[], rfl, rfl⟩
  | x :: xs, h => by
    simp only [userValL, Bool.and_eq_true] at h
    obtain ⟨y, h1, h2⟩ := toUser_adapt mk x h.1
    obtain ⟨ys, h3, h4⟩ := toUser_adaptL mk xs h.2
    exact ⟨y :: ys, by simp [adaptL, h1, h3], by simp [toUserL, h2, h4]⟩
end

end OV.C01.Eager
