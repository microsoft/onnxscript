import OV.Lemmas.C13Names
import OV.Lemmas.Util
import Std.Data.String.ToNat
/-! C13, the tables of the two base renamers as lists: the short-name mapper's key list (`shortRun_spec`), the search
    both candidate loops are (`firstFree`), the unique-name mapper's table (`uniqRun_*`, `TblInv`, `pyT_*`).  No
    exporter state. -/
namespace OV.C13


/-- every "the printed names are injective" statement about a renamer is this, once the run of the renamer is
    written as a `map` -/
theorem getElem?_map_eq_iff {α β : Type} {f : α → β} {l : List α} (hf : ∀ a ∈ l, ∀ b ∈ l, f a = f b → a = b)
    {i j : Nat} (hi : i < l.length) (hj : j < l.length) : (l.map f)[i]? = (l.map f)[j]? ↔ l[i] = l[j] := by
  simp only [List.getElem?_map, List.getElem?_eq_getElem hi, List.getElem?_eq_getElem hj, Option.map_some,
    Option.some.injEq]
  exact ⟨hf _ (List.getElem_mem hi) _ (List.getElem_mem hj), congrArg f⟩

theorem shortStep_spec (keys : List String) (k : String) (hnd : keys.Nodup) :
    (shortStep keys k).2.Nodup ∧ keys <+: (shortStep keys k).2 ∧
    k ∈ (shortStep keys k).2 ∧ (shortStep keys k).1 = (shortStep keys k).2.idxOf k := by
  unfold shortStep
  by_cases h : k ∈ keys
  · simp only [if_pos h]
    exact ⟨hnd, List.prefix_refl _, h, trivial⟩
  · simp only [if_neg h]
    refine ⟨?_, List.prefix_append _ _, by simp, ?_⟩
    · rw [List.nodup_append]
      refine ⟨hnd, by simp, ?_⟩
      intro a ha b hb
      simp only [List.mem_singleton] at hb
      subst hb
      intro hab; subst hab; exact h ha
    · rw [List.idxOf_append, if_neg h]
      simp

theorem shortRun_spec : ∀ (ks keys : List String), keys.Nodup →
    (shortRun keys ks).2.Nodup ∧ keys <+: (shortRun keys ks).2 ∧
    (∀ k ∈ ks, k ∈ (shortRun keys ks).2) ∧
    (shortRun keys ks).1 = ks.map (fun k => (shortRun keys ks).2.idxOf k)
  | [], keys, hnd => ⟨hnd, List.prefix_refl _, fun _ h => absurd h List.not_mem_nil, rfl⟩
  | k :: ks, keys, hnd => by
    obtain ⟨h1, hp1, hk, hidx⟩ := shortStep_spec keys k hnd
    obtain ⟨h2, hp2, hmem, hmap⟩ := shortRun_spec ks (shortStep keys k).2 h1
    simp only [shortRun]
    refine ⟨h2, hp1.trans hp2, ?_, ?_⟩
    · intro x hx
      rcases List.mem_cons.mp hx with rfl | hx
      · exact hp2.subset hk
      · exact hmem x hx
    · -- the index of `k` is not moved by the keys appended later
      have : (shortStep keys k).1 = (shortRun (shortStep keys k).2 ks).2.idxOf k := by
        obtain ⟨e, he⟩ := hp2
        rw [hidx, ← he, List.idxOf_append, if_pos hk]
      rw [List.map_cons, ← hmap, this]

theorem idxOf_inj {l : List String} {a b : String} (ha : a ∈ l) (hb : b ∈ l)
    (h : l.idxOf a = l.idxOf b) : a = b := by
  have h1 := List.getElem_idxOf (List.idxOf_lt_length_of_mem ha)
  have h2 := List.getElem_idxOf (List.idxOf_lt_length_of_mem hb)
  rw [← h1, ← h2]
  simp only [h]

theorem shortRun_eq_iff (ks keys : List String) (hnd : keys.Nodup) {i j : Nat} (hi : i < ks.length)
    (hj : j < ks.length) : (shortRun keys ks).1[i]? = (shortRun keys ks).1[j]? ↔ ks[i] = ks[j] := by
  obtain ⟨_, _, hmem, hmap⟩ := shortRun_spec ks keys hnd
  rw [hmap]
  exact getElem?_map_eq_iff (fun a ha b hb => idxOf_inj (hmem a ha) (hmem b hb)) hi hj

theorem short_label_inj {a b : Nat} (h : "v" ++ Nat.repr (a + 1) = "v" ++ Nat.repr (b + 1)) : a = b := by
  have := Nat.repr_inj.mp ((String.append_right_inj "v").mp h)
  omega

/-! `_make_unique_name_mapper` tries `c, c_1, c_2, …`, `_handle_attrname_conflict` tries `nn, nn_0, nn_1, …`, each until
the candidate is unused.  Both are a search (`firstFree`) through an injective sequence of names of the shape
`suffixed`. -/

def suffixed (c : String) : Option Nat → String
  | none => c
  | some i => c ++ "_" ++ Nat.repr i

theorem suffixed_toList (c : String) (i : Nat) :
    (suffixed c (some i)).toList = c.toList ++ '_' :: (Nat.repr i).toList := by
  simp [suffixed, String.toList_append]

theorem suffixed_inj (c : String) : ∀ {i j : Option Nat}, suffixed c i = suffixed c j → i = j
  | none, none, _ => rfl
  | none, some j, h => by
    have := (congrArg String.toList h).trans (suffixed_toList c j)
    simp [suffixed] at this
  | some i, none, h => by
    have := (suffixed_toList c i).symm.trans (congrArg String.toList h)
    simp [suffixed] at this
  | some i, some j, h => by
    rw [Nat.repr_inj.mp ((String.append_right_inj _).mp h)]

def firstFree (cand : Nat → String) (used : List String) : Nat → Nat → String
  | 0, k => cand k
  | fuel + 1, k => if cand k ∈ used then firstFree cand used fuel (k + 1) else cand k

theorem firstFree_is_cand (cand : Nat → String) (used : List String) : ∀ (fuel k : Nat),
    ∃ j, firstFree cand used fuel k = cand j
  | 0, k => ⟨k, rfl⟩
  | fuel + 1, k => by
    simp only [firstFree]
    split
    · exact firstFree_is_cand cand used fuel (k + 1)
    · exact ⟨k, rfl⟩

theorem firstFree_fail {cand : Nat → String} {used : List String} : ∀ (fuel k : Nat),
    firstFree cand used fuel k ∈ used → ∀ i, k ≤ i → i ≤ k + fuel → cand i ∈ used
  | 0, k, h, i, h1, h2 => by
    have : i = k := by omega
    subst this; exact h
  | fuel + 1, k, h, i, h1, h2 => by
    simp only [firstFree] at h
    by_cases hk : cand k ∈ used
    · rw [if_pos hk] at h
      by_cases hi : i = k
      · subst hi; exact hk
      · exact firstFree_fail fuel (k + 1) h i (by omega) (by omega)
    · rw [if_neg hk] at h; exact absurd h hk

/-- pigeonhole: a search that ends on a used name has seen `fuel + 1` distinct candidates, all used -/
theorem firstFree_notin {cand : Nat → String} (hinj : ∀ i j, cand i = cand j → i = j) (used : List String)
    (fuel k : Nat) (hf : used.length ≤ fuel) : firstFree cand used fuel k ∉ used := by
  intro h
  obtain ⟨i, h1, h2, hi⟩ := List.exists_cand_not_mem hinj used k
  exact hi (firstFree_fail fuel k h i h1 (by omega))

theorem uniqCand_eq (c : String) (k : Nat) : uniqCand c k = suffixed c (if k = 0 then none else some k) := by
  unfold uniqCand; split <;> rfl

theorem uniqCand_inj (c : String) {j k : Nat} (h : uniqCand c j = uniqCand c k) : j = k := by
  rw [uniqCand_eq, uniqCand_eq] at h
  have := suffixed_inj c h
  split at this <;> split at this <;> simp_all

theorem findFree_eq (c : String) (used : List String) : ∀ (fuel k : Nat),
    findFree c used fuel k = firstFree (uniqCand c) used fuel k
  | 0, _ => rfl
  | fuel + 1, k => by simp only [findFree, firstFree, findFree_eq c used fuel]

theorem findFree_notin (c : String) (used : List String) (fuel : Nat) (hf : used.length ≤ fuel) :
    findFree c used fuel 0 ∉ used := by
  rw [findFree_eq]
  exact firstFree_notin (fun _ _ => uniqCand_inj c) used fuel 0 hf

theorem findFree_is_cand (c : String) (used : List String) (fuel k : Nat) :
    ∃ j, findFree c used fuel k = uniqCand c j := by
  rw [findFree_eq]
  exact firstFree_is_cand _ used fuel k

theorem uniqRun_induction {I : List (String × String) → Prop}
    (hstep : ∀ u n, n ≠ "" → I u → I (uniqStep u n).2) :
    ∀ (vs : List String) {u : List (String × String)}, I u → I (uniqRun u vs)
  | [], _, h => h
  | v :: vs, u, h => by
    apply uniqRun_induction hstep vs
    unfold uniqReq
    split
    · exact h
    · exact hstep u v ‹_› h

theorem uniqStep_prefix (u : List (String × String)) (n : String) : u <+: (uniqStep u n).2 := by
  unfold uniqStep
  cases u.lookup n with
  | some r => exact List.prefix_refl u
  | none => exact List.prefix_append u _

theorem uniqStep_lookup (u : List (String × String)) (n : String) :
    (uniqStep u n).2.lookup n = some (uniqStep u n).1 := by
  unfold uniqStep
  cases h : u.lookup n with
  | some r => simpa using h
  | none => simp [List.lookup_append, h, List.lookup]

theorem uniqRun_prefix (vs : List String) (u : List (String × String)) : u <+: uniqRun u vs :=
  uniqRun_induction (I := (u <+: ·)) (fun T n _ h => h.trans (uniqStep_prefix T n)) vs (List.prefix_refl u)

theorem uniqRun_append (u : List (String × String)) (a b : List String) :
    uniqRun u (a ++ b) = uniqRun (uniqRun u a) b := by
  induction a generalizing u with
  | nil => rfl
  | cons v vs ih => simp only [List.cons_append, uniqRun, ih]

def Present (T : List (String × String)) (v : String) : Prop := v = "" ∨ (T.lookup v).isSome = true

theorem present_uniqReq (u : List (String × String)) (v : String) : Present (uniqReq u v) v := by
  unfold Present uniqReq
  by_cases hv : v = ""
  · left; exact hv
  · right; simp only [hv, if_false, uniqStep_lookup, Option.isSome_some]

theorem present_of_prefix {u T : List (String × String)} (h : u <+: T) {v : String} (hp : Present u v) : Present T v := by
  rcases hp with hp | hp
  · left; exact hp
  · right
    obtain ⟨r, hr⟩ := Option.isSome_iff_exists.mp hp
    rw [h.lookup_eq_some hr]; rfl

theorem pyT_stable {u T : List (String × String)} (h : u <+: T) {v : String} (hp : Present u v) :
    pyT T v = pyT u v := by
  unfold pyT
  rcases hp with hp | hp
  · simp [hp]
  · obtain ⟨r, hr⟩ := Option.isSome_iff_exists.mp hp
    rw [h.lookup_eq_some hr, hr]

theorem present_uniqRun : ∀ (vs : List String) (u : List (String × String)) (v : String),
    v ∈ vs → Present (uniqRun u vs) v
  | [], _, _, h => by cases h
  | w :: ws, u, v, h => by
    simp only [uniqRun]
    rcases List.mem_cons.mp h with h | h
    · subst h; exact present_of_prefix (uniqRun_prefix ws _) (present_uniqReq u v)
    · exact present_uniqRun ws _ v h

theorem pyT_uniqReq_fst (u : List (String × String)) (v : String) (hv : v ≠ "") :
    pyT (uniqReq u v) v = (uniqStep u v).1 := by
  unfold pyT uniqReq
  simp only [hv, if_false, uniqStep_lookup, Option.getD_some]

structure TblInv (u : List (String × String)) : Prop where
  nodup : (u.map (·.2)).Nodup
  nokw : ∀ p ∈ u, p.2.toList ∉ kwlistL
  ne : ∀ p ∈ u, p.2 ≠ ""

theorem tblInv_nil : TblInv [] :=
  ⟨List.nodup_nil, fun _ h => absurd h List.not_mem_nil, fun _ h => absurd h List.not_mem_nil⟩

theorem uniqRun_vals {P : String → Prop} (hP : ∀ n, n ≠ "" → ∀ j, P (uniqCand (cleanup n) j))
    (vs : List String) {u : List (String × String)} (hu : ∀ p ∈ u, P p.2) : ∀ p ∈ uniqRun u vs, P p.2 := by
  refine uniqRun_induction (I := fun T => ∀ p ∈ T, P p.2) ?_ vs hu
  intro T n hn hT
  unfold uniqStep
  cases T.lookup n with
  | some r => exact hT
  | none =>
    intro p hp
    rcases List.mem_append.mp hp with hp | hp
    · exact hT p hp
    · obtain ⟨j, hj⟩ := findFree_is_cand (cleanup n) (T.map (·.2)) (T.length + 1) 0
      rw [List.mem_singleton.mp hp, hj]
      exact hP n hn j

theorem uniqRun_nodup (vs : List String) {u : List (String × String)} (hu : (u.map (·.2)).Nodup) :
    ((uniqRun u vs).map (·.2)).Nodup := by
  refine uniqRun_induction (I := fun T => (T.map (·.2)).Nodup) ?_ vs hu
  intro T n _ hT
  unfold uniqStep
  cases T.lookup n with
  | some r => exact hT
  | none =>
    have hnot : findFree (cleanup n) (T.map (·.2)) (T.length + 1) 0 ∉ T.map (·.2) :=
      findFree_notin _ _ _ (by simp)
    rw [List.map_append, List.nodup_append]
    refine ⟨hT, by simp, ?_⟩
    intro a ha b hb
    simp only [List.map_cons, List.map_nil, List.mem_singleton] at hb
    subst hb
    intro hab; subst hab; exact hnot ha

/-- the clean-up makes an identifier that is no keyword, the suffix `_<digits>` keeps it an identifier, and no keyword
    contains `_` -/
theorem uniqCand_ident (n : String) (hn : n ≠ "") (j : Nat) :
    isPyIdentL (uniqCand (cleanup n) j).toList = true ∧ (uniqCand (cleanup n) j).toList ∉ kwlistL := by
  have hid := cleanupL_ident n.toList (mt String.toList_eq_nil_iff.mp hn)
  rw [← cleanup_toList] at hid
  rw [uniqCand_eq]
  split
  · exact hid
  · have hdig : (Nat.repr j).toList.all idChar = true := by
      rw [Nat.toList_repr, List.all_eq_true]
      exact fun c hc => idChar_of_isDigit (Nat.isDigit_of_mem_toDigits (by decide) (by decide) hc)
    rw [suffixed_toList]
    exact ⟨isPyIdentL_append hid.1 (by simp only [List.all_cons, idChar_us, hdig, Bool.and_self]),
      fun hk => kw_no_us _ hk (by simp)⟩

theorem tblInv_uniqRun (vs : List String) {u : List (String × String)} (h : TblInv u) : TblInv (uniqRun u vs) :=
  have hv := uniqRun_vals (P := fun r => r.toList ∉ kwlistL ∧ r ≠ "")
    (fun n hn j => ⟨(uniqCand_ident n hn j).2, ident_ne_empty (uniqCand_ident n hn j).1⟩) vs
    (fun p hp => ⟨h.nokw p hp, h.ne p hp⟩)
  ⟨uniqRun_nodup vs h.nodup, fun p hp => (hv p hp).1, fun p hp => (hv p hp).2⟩

theorem lookup_val_inj : ∀ (T : List (String × String)), (T.map (·.2)).Nodup → ∀ (a b r : String),
    T.lookup a = some r → T.lookup b = some r → a = b
  | [], _, _, _, _, h, _ => by simp [List.lookup] at h
  | (k, v) :: T, hnd, a, b, r, ha, hb => by
    simp only [List.map_cons, List.nodup_cons] at hnd
    have hval : ∀ c, T.lookup c = some v → False := fun c hc =>
      hnd.1 (List.mem_map.mpr ⟨_, List.lookup_mem hc, rfl⟩)
    simp only [List.lookup_cons] at ha hb
    split at ha <;> split at hb
    · rw [eq_of_beq ‹(a == k) = true›, eq_of_beq ‹(b == k) = true›]
    · cases ha; exact (hval b hb).elim
    · cases hb; exact (hval a ha).elim
    · exact lookup_val_inj T hnd.2 a b r ha hb

theorem pyT_mem {T : List (String × String)} {v : String} (hv : v ≠ "") (hp : Present T v) : (v, pyT T v) ∈ T := by
  rcases hp with hp | hp
  · exact absurd hp hv
  · obtain ⟨r, hr⟩ := Option.isSome_iff_exists.mp hp
    simp only [pyT, hv, if_false, hr, Option.getD_some]
    exact List.lookup_mem hr

theorem pyT_ne_empty {T : List (String × String)} (h : TblInv T) {v : String} (hv : v ≠ "")
    (hp : Present T v) : pyT T v ≠ "" := h.ne _ (pyT_mem hv hp)

theorem pyT_ne_None {T : List (String × String)} (h : TblInv T) {v : String} (hv : v ≠ "")
    (hp : Present T v) : pyT T v ≠ "None" := by
  intro h'
  apply h.nokw _ (pyT_mem hv hp)
  simp only [h']
  exact List.mem_map.mpr ⟨"None", by decide, rfl⟩

theorem pyT_inj {T : List (String × String)} (h : TblInv T) {a b : String} (ha : a ≠ "") (hb : b ≠ "")
    (hpa : Present T a) (hpb : Present T b) (he : pyT T a = pyT T b) : a = b := by
  rcases hpa with hpa | hpa
  · exact absurd hpa ha
  rcases hpb with hpb | hpb
  · exact absurd hpb hb
  obtain ⟨r, hr⟩ := Option.isSome_iff_exists.mp hpa
  obtain ⟨r', hr'⟩ := Option.isSome_iff_exists.mp hpb
  simp only [pyT, ha, hb, if_false, hr, hr', Option.getD_some] at he
  subst he
  exact lookup_val_inj T h.nodup a b r hr hr'

end OV.C13
