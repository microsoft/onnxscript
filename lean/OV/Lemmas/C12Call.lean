import OV.Model.C12Call
/-! The inputs `separate` returns, for every parameter list: `inputsFrom` is the list the loop appends, as a plain
function of the parameters (`sepFrom_inputs`, `separate_inputs`); the loop keeps `pending = trail inputs`. -/
namespace OV.Call

def Param.isInput : Param → Bool
  | .input .. => true
  | .attr .. => false

def Param.isPlainInput : Param → Bool
  | .input false _ => true
  | _ => false

def isNoneB : Option Src → Bool
  | none => true
  | some _ => false

def trail (l : List (Option Src)) : Nat := (l.reverse.takeWhile isNoneB).length

/-- `del onnx_inputs[-trailing_placeholders:]`. -/
def trimNone (l : List (Option Src)) : List (Option Src) := l.take (l.length - trail l)

/-- What stands at input position `j` before trimming. -/
def slot (n : Nat) (kws : List Nat) (j : Nat) : Option Src :=
  if j < n then some (.pos j) else if kws.contains j then some (.kw j) else none

theorem trail_append_some (l : List (Option Src)) (x : Src) : trail (l ++ [some x]) = 0 := by
  simp [trail, List.reverse_append, isNoneB]

theorem trail_append_none (l : List (Option Src)) : trail (l ++ [none]) = trail l + 1 := by
  simp [trail, List.reverse_append, List.takeWhile, isNoneB]

theorem trail_append_somes (l : List (Option Src)) (f : Nat → Src) (xs : List Nat) (hx : xs ≠ []) :
    trail (l ++ xs.map (fun k => some (f k))) = 0 := by
  unfold trail
  rw [List.reverse_append, ← List.map_reverse]
  cases hr : xs.reverse with
  | nil => exact absurd (List.reverse_eq_nil_iff.mp hr) hx
  | cons y ys => simp [isNoneB]

theorem trail_nil : trail [] = 0 := rfl

/-- What the loop appends to `onnx_inputs` from parameter `i` on (`n` as the loop sees it: 0 after a variadic input). -/
def inputsFrom (kws : List Nat) : List Param → Nat → Nat → List (Option Src)
  | [], _, _ => []
  | .input true _ :: rest, i, n => (List.range (n - i)).map (fun k => some (.pos (k + i))) ++ inputsFrom kws rest (i + 1) 0
  | .input false _ :: rest, i, n => slot n kws i :: inputsFrom kws rest (i + 1) n
  | .attr _ _ :: rest, i, n => inputsFrom kws rest (i + 1) n

theorem sepFrom_inputs (kws : List Nat) : ∀ (ps : List Param) (i n : Nat) (acc r : Sep),
    acc.pending = trail acc.inputs → sepFrom kws ps i n acc = .ok r →
    r.inputs = acc.inputs ++ inputsFrom kws ps i n ∧ r.pending = trail r.inputs
  | [], _, _, acc, r, hp, h => by cases h; exact ⟨by simp [inputsFrom], hp⟩
  | .input true q :: rest, i, n, acc, r, hp, h => by
    obtain ⟨h1, h2⟩ := sepFrom_inputs kws rest (i + 1) 0 _ r (by
      by_cases hz : n - i = 0
      · simp only [hz, if_true, List.range_zero, List.map_nil, List.append_nil]; exact hp
      · simp only [hz, if_false]
        exact (trail_append_somes _ (fun k => Src.pos (k + i)) _ (by simpa using hz)).symm) h
    exact ⟨by rw [h1, inputsFrom, List.append_assoc], h2⟩
  | .input false req :: rest, i, n, acc, r, hp, h => by
    have step : ∀ acc1 : Sep, acc1.inputs = acc.inputs ++ [slot n kws i] → acc1.pending = trail acc1.inputs →
        sepFrom kws rest (i + 1) n acc1 = .ok r →
        r.inputs = acc.inputs ++ inputsFrom kws (.input false req :: rest) i n ∧ r.pending = trail r.inputs := by
      intro acc1 e1 e2 e3
      obtain ⟨h1, h2⟩ := sepFrom_inputs kws rest (i + 1) n acc1 r e2 e3
      exact ⟨by rw [h1, e1, inputsFrom, List.append_assoc, List.singleton_append], h2⟩
    simp only [sepFrom] at h
    by_cases h1 : i < n
    · simp only [h1, if_true] at h
      exact step _ (by simp only [slot, h1, if_true]) (by simp only [trail_append_some]) h
    · simp only [h1, if_false] at h
      cases h2 : kws.contains i with
      | true =>
        simp only [h2, if_true] at h
        exact step _ (by simp only [slot, h1, h2, if_false, if_true]) (by simp only [trail_append_some]) h
      | false =>
        simp only [h2, Bool.false_eq_true, if_false] at h
        cases req with
        | true => simp at h
        | false =>
          simp only [Bool.false_eq_true, if_false] at h
          exact step _ (by simp only [slot, h1, h2, Bool.false_eq_true, if_false])
            (by simp only [trail_append_none, hp]) h
  | .attr req dflt :: rest, i, n, acc, r, hp, h => by
    have step : ∀ acc1 : Sep, sepFrom kws rest (i + 1) n acc1 = .ok r → acc1.inputs = acc.inputs →
        acc1.pending = acc.pending →
        r.inputs = acc.inputs ++ inputsFrom kws (.attr req dflt :: rest) i n ∧ r.pending = trail r.inputs := by
      intro acc1 e3 e1 e2
      obtain ⟨h1, h2⟩ := sepFrom_inputs kws rest (i + 1) n acc1 r (by rw [e1, e2, hp]) e3
      exact ⟨by rw [h1, e1, inputsFrom], h2⟩
    simp only [sepFrom] at h
    by_cases h1 : i < n
    · simp only [h1, if_true] at h; exact step _ h rfl rfl
    · simp only [h1, if_false] at h
      cases h2 : kws.contains i with
      | true => simp only [h2, if_true] at h; exact step _ h rfl rfl
      | false =>
        simp only [h2, Bool.false_eq_true, if_false] at h
        cases dflt with
        | true => exact step _ (by simpa using h) rfl rfl
        | false =>
          cases req with
          | true => simp at h
          | false => exact step _ (by simpa using h) rfl rfl

theorem separate_inputs (ps : List Param) (n : Nat) (kws : List Nat) (ae : Bool)
    (inp : List (Option Src)) (ats : List (Nat × Src)) (h : separate ps n kws ae = .ok (inp, ats)) :
    inp = trimNone (inputsFrom kws ps 0 n) := by
  unfold separate at h
  cases hs : sepFrom kws ps 0 n ⟨[], [], 0⟩ with
  | error e => rw [hs] at h; cases h
  | ok r =>
    obtain ⟨h1, h2⟩ := sepFrom_inputs kws ps 0 n _ r rfl hs
    rw [hs] at h
    simp only [] at h
    split at h
    · cases h
    · cases h
      rw [h2, h1]; rfl

theorem inputsFrom_plain (kws : List Nat) (rest : List Param) (n : Nat) : ∀ (ins : List Param) (i : Nat),
    (∀ p ∈ ins, p.isPlainInput = true) →
    inputsFrom kws (ins ++ rest) i n = (List.range' i ins.length).map (slot n kws) ++ inputsFrom kws rest (i + ins.length) n
  | [], i, _ => by simp
  | .input false _ :: ins, i, h => by
    rw [List.cons_append, inputsFrom, inputsFrom_plain kws rest n ins (i + 1) fun p hp => h p (List.mem_cons_of_mem _ hp)]
    simp [List.range'_succ, Nat.add_assoc, Nat.add_comm 1]
  | .input true q :: _, _, h => by simpa [Param.isPlainInput] using h _ List.mem_cons_self
  | .attr q d :: _, _, h => by simpa [Param.isPlainInput] using h _ List.mem_cons_self

theorem inputsFrom_attrs (kws : List Nat) : ∀ (attrs : List Param) (i n : Nat),
    (∀ p ∈ attrs, p.isInput = false) → inputsFrom kws attrs i n = []
  | [], _, _, _ => rfl
  | .attr _ _ :: attrs, i, n, h => by
    rw [inputsFrom, inputsFrom_attrs kws attrs (i + 1) n fun p hp => h p (List.mem_cons_of_mem _ hp)]
  | .input v q :: _, _, _, h => by simpa [Param.isInput] using h _ List.mem_cons_self

theorem separate_plain (ins attrs : List Param) (hi : ∀ p ∈ ins, p.isPlainInput = true)
    (ha : ∀ p ∈ attrs, p.isInput = false) (n : Nat) (kws : List Nat) (ae : Bool)
    (inp : List (Option Src)) (at' : List (Nat × Src))
    (h : separate (ins ++ attrs) n kws ae = .ok (inp, at')) :
    inp = trimNone ((List.range ins.length).map (slot n kws)) := by
  rw [separate_inputs _ n kws ae inp at' h, inputsFrom_plain kws attrs n ins 0 hi, inputsFrom_attrs kws attrs _ n ha,
    List.append_nil, List.range_eq_range']

theorem separate_variadic_last (ins attrs : List Param) (q : Bool) (hi : ∀ p ∈ ins, p.isPlainInput = true)
    (ha : ∀ p ∈ attrs, p.isInput = false) (n : Nat) (kws : List Nat) (ae : Bool)
    (inp : List (Option Src)) (at' : List (Nat × Src))
    (h : separate (ins ++ (.input true q :: attrs)) n kws ae = .ok (inp, at')) :
    inp = trimNone ((List.range ins.length).map (slot n kws) ++
      (List.range' ins.length (n - ins.length)).map (fun j => some (.pos j))) := by
  rw [separate_inputs _ n kws ae inp at' h, inputsFrom_plain kws _ n ins 0 hi, inputsFrom,
    inputsFrom_attrs kws attrs _ 0 ha, List.append_nil, Nat.zero_add]
  congr 2
  · rw [List.range_eq_range']
  · rw [List.range'_eq_map_range, List.map_map]
    exact List.map_congr_left fun a _ => by simp [Nat.add_comm]

theorem slots_nokw (n : Nat) : ∀ k, (List.range k).map (slot n []) =
    (List.range (min n k)).map (fun j => some (Src.pos j)) ++ List.replicate (k - min n k) none
  | 0 => by simp
  | k + 1 => by
    rw [List.range_succ, List.map_append, slots_nokw n k]
    by_cases h : k < n
    · have e1 : min n (k + 1) = k + 1 := by omega
      have e2 : min n k = k := by omega
      simp only [e1, e2, Nat.sub_self, List.replicate_zero, List.append_nil, List.map_cons, List.map_nil, slot, h, if_true]
      rw [List.range_succ, List.map_append]; rfl
    · have e1 : min n (k + 1) = n := by omega
      have e2 : min n k = n := by omega
      have e3 : k + 1 - n = (k - n) + 1 := by omega
      simp only [e1, e2, e3, List.map_cons, List.map_nil, slot, h, if_false, List.contains_nil, Bool.false_eq_true]
      rw [List.append_assoc, List.replicate_succ']

theorem trail_somes_replicate (f : Nat → Src) (xs : List Nat) : ∀ p,
    trail (xs.map (fun k => some (f k)) ++ List.replicate p none) = p
  | 0 => by
    simp only [List.replicate_zero, List.append_nil]
    cases xs with
    | nil => rfl
    | cons x rest => simpa using trail_append_somes [] f (x :: rest) (by simp)
  | p + 1 => by
    rw [List.replicate_succ', ← List.append_assoc, trail_append_none, trail_somes_replicate f xs p]

theorem trimNone_somes_replicate (f : Nat → Src) (xs : List Nat) (p : Nat) :
    trimNone (xs.map (fun k => some (f k)) ++ List.replicate p none) = xs.map (fun k => some (f k)) := by
  unfold trimNone
  rw [trail_somes_replicate]
  simp

end OV.Call
