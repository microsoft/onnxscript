import OV.Lemmas.C03BkA
/-!
# Scope well-formedness and single assignment are preserved on fragment A

`ClosedL S nodes`: every input of every node is in the scope `S` or is an output of an earlier
node.  Through the node loop the invariant (`ClA`) is: the emitted nodes followed by the pending ones are
closed over the scope extended by the initializers registered so far; every recorded alias target
is in that scope or defined by an emitted node; every name the original graph defined is still
defined; no pending node reads, and no alias stands for, a generated name `%k`, so that `replace_node`'s
renaming of the evaluator's output leaves the input of a replacement node alone; the registered
names and the node outputs are, up to order, those the loop started from, which is what single
assignment needs.
-/
namespace OV.C03

def ClosedL (S : List Name) : List Node → Prop
  | [] => True
  | n :: rest => (∀ x, some x ∈ n.inputs → x ∈ S) ∧ ClosedL (n.outputs ++ S) rest

def outsOf (l : List Node) : List Name := l.flatMap (·.outputs)

theorem outsOf_append (a b : List Node) : outsOf (a ++ b) = outsOf a ++ outsOf b := by simp [outsOf]
theorem outsOf_cons (n : Node) (b : List Node) : outsOf (n :: b) = n.outputs ++ outsOf b := by simp [outsOf]

theorem outsOf_mid_eq (a b : List Node) (n n' : Node) (h : n'.outputs = n.outputs) :
    outsOf (a ++ n' :: b) = outsOf (a ++ n :: b) := by
  simp [outsOf_append, outsOf_cons, h]

theorem outsOf_map_io (f : Node → Node) (ho : ∀ n, (f n).outputs = n.outputs) : ∀ (l : List Node), outsOf (l.map f) = outsOf l
  | [] => rfl
  | n :: r => by
    rw [List.map_cons, outsOf_cons, outsOf_cons, ho, outsOf_map_io f ho r]

theorem perm_fold (A : List Name) (a b : List Node) (n : Node) (o : Name) (ho : n.outputs = [o]) :
    List.Perm ((A ++ [o]) ++ outsOf (a ++ b)) (A ++ outsOf (a ++ n :: b)) := by
  rw [outsOf_append, outsOf_append, outsOf_cons, ho, List.append_assoc]
  apply List.Perm.append_left
  simp only [List.singleton_append]
  exact (List.perm_middle).symm

theorem ClosedL_mono : ∀ (l : List Node) {S S' : List Name}, (∀ x, x ∈ S → x ∈ S') → ClosedL S l → ClosedL S' l
  | [], _, _, _, _ => trivial
  | n :: rest, S, S', h, hc => by
    refine ⟨fun x hx => h x (hc.1 x hx), ?_⟩
    apply ClosedL_mono rest (S := n.outputs ++ S) _ hc.2
    intro x hx
    rcases List.mem_append.mp hx with h1 | h1
    · exact List.mem_append_left _ h1
    · exact List.mem_append_right _ (h x h1)

theorem ClosedL_append : ∀ (a : List Node) (S : List Name) (b : List Node),
    ClosedL S (a ++ b) ↔ ClosedL S a ∧ ClosedL (outsOf a.reverse ++ S) b
  | [], S, b => ⟨fun h => ⟨trivial, h⟩, fun h => h.2⟩
  | m :: a, S, b => by
    have : outsOf (m :: a).reverse ++ S = outsOf a.reverse ++ (m.outputs ++ S) := by
      simp only [outsOf, List.reverse_cons, List.flatMap_append, List.flatMap_cons, List.flatMap_nil, List.append_nil,
        List.append_assoc]
    rw [this]
    show (_ ∧ ClosedL (m.outputs ++ S) (a ++ b)) ↔ (_ ∧ ClosedL (m.outputs ++ S) a) ∧ _
    rw [ClosedL_append a (m.outputs ++ S) b, and_assoc]

theorem mem_outsOf_reverse_append {a : List Node} {S : List Name} {x : Name} :
    x ∈ outsOf a.reverse ++ S ↔ x ∈ S ∨ ∃ m ∈ a, x ∈ m.outputs := by
  simp only [outsOf, List.mem_append, List.mem_flatMap, List.mem_reverse]
  exact or_comm

theorem ClosedL_mid_inputs : ∀ (a : List Node) {S : List Name} {n : Node} {b : List Node},
    ClosedL S (a ++ n :: b) → ∀ x, some x ∈ n.inputs → x ∈ S ∨ ∃ m ∈ a, x ∈ m.outputs :=
  fun a _ _ _ hc x hx => mem_outsOf_reverse_append.mp (((ClosedL_append a _ _).mp hc).2.1 x hx)

theorem ClosedL_replace_mid : ∀ (a : List Node) {S : List Name} {n n' : Node} {b : List Node},
    ClosedL S (a ++ n :: b) → n'.outputs = n.outputs →
    (∀ x, some x ∈ n'.inputs → x ∈ S ∨ ∃ m ∈ a, x ∈ m.outputs) → ClosedL S (a ++ n' :: b) := by
  intro a S n n' b hc ho hi
  obtain ⟨ha, _, hb⟩ := (ClosedL_append a S _).mp hc
  exact (ClosedL_append a S _).mpr ⟨ha, fun x hx => mem_outsOf_reverse_append.mpr (hi x hx), ho ▸ hb⟩

theorem ClosedL_remove_mid : ∀ (a : List Node) {S S' : List Name} {n : Node} {b : List Node},
    ClosedL S (a ++ n :: b) → (∀ x, x ∈ S → x ∈ S') → (∀ x, x ∈ n.outputs → x ∈ S') → ClosedL S' (a ++ b) := by
  intro a S S' n b hc h1 h2
  obtain ⟨ha, _, hb⟩ := (ClosedL_append a S _).mp hc
  refine (ClosedL_append a S' _).mpr ⟨ClosedL_mono a h1 ha, ClosedL_mono b (fun x hx => ?_) hb⟩
  rcases List.mem_append.mp hx with h | h
  · exact List.mem_append_right _ (h2 x h)
  · rcases List.mem_append.mp h with h | h
    · exact List.mem_append_left _ h
    · exact List.mem_append_right _ (h1 x h)

theorem ClosedL_restrict : ∀ (l : List Node) {S S' : List Name},
    ClosedL S l → (∀ x, x ∈ S → (∃ n ∈ l, some x ∈ n.inputs) → x ∈ S') → ClosedL S' l
  | [], _, _, _, _ => trivial
  | n :: rest, S, S', hc, h => by
    refine ⟨fun x hx => h x (hc.1 x hx) ⟨n, List.mem_cons_self, hx⟩, ?_⟩
    apply ClosedL_restrict rest hc.2
    intro x hx hr
    rcases List.mem_append.mp hx with h1 | h1
    · exact List.mem_append_left _ h1
    · obtain ⟨m, hm, hmx⟩ := hr
      exact List.mem_append_right _ (h x h1 ⟨m, List.mem_cons_of_mem _ hm, hmx⟩)

theorem ClosedL_map_io (f : Node → Node) (hi : ∀ n, (f n).inputs = n.inputs) (ho : ∀ n, (f n).outputs = n.outputs) :
    ∀ (l : List Node) (S : List Name), ClosedL S l → ClosedL S (l.map f)
  | [], _, _ => trivial
  | n :: rest, S, hc => by
    refine ⟨by rw [hi]; exact hc.1, ?_⟩
    rw [ho]
    exact ClosedL_map_io f hi ho rest _ hc.2

theorem ClosedL_of_all : ∀ (l : List Node) (S : List Name), (∀ n ∈ l, ∀ x, some x ∈ n.inputs → x ∈ S) → ClosedL S l
  | [], _, _ => trivial
  | n :: rest, S, h => by
    refine ⟨h n List.mem_cons_self, ?_⟩
    apply ClosedL_of_all rest
    intro m hm x hx
    exact List.mem_append_right _ (h m (List.mem_cons_of_mem _ hm) x hx)

structure ClA (S0 : List Name) (D : Name → Prop) (P0 : List Name) (st : St) (acc todo : List Node) (ai : List (Name × String)) : Prop where
  closed : ClosedL (ai.map (·.1) ++ S0) (acc.reverse ++ todo)
  defs : ∀ x, D x → x ∈ ai.map (·.1) ++ S0 ∨ ∃ m, (m ∈ acc ∨ m ∈ todo) ∧ x ∈ m.outputs
  alias : ∀ x y, lookupA st.sym x = some (.alias y) → y ∈ ai.map (·.1) ++ S0 ∨ ∃ m ∈ acc, y ∈ m.outputs
  innf : ∀ m ∈ todo, ∀ x, some x ∈ m.inputs → NF x
  aliasNF : ∀ x y, lookupA st.sym x = some (.alias y) → NF y
  perm : List.Perm (ai.map (·.1) ++ outsOf (acc.reverse ++ todo)) P0

/-- the clause `ClA.defs` read over the list of names that `ClA.perm` speaks of -/
theorem mem_defs_iff {S0 : List Name} {acc todo : List Node} {ai : List (Name × String)} {x : Name} :
    (x ∈ ai.map (·.1) ++ S0 ∨ ∃ m, (m ∈ acc ∨ m ∈ todo) ∧ x ∈ m.outputs) ↔
      x ∈ S0 ∨ x ∈ ai.map (·.1) ++ outsOf (acc.reverse ++ todo) := by
  simp only [outsOf, List.mem_append, List.mem_flatMap, List.mem_reverse]
  constructor
  · rintro ((h | h) | h)
    · exact Or.inr (Or.inl h)
    · exact Or.inl h
    · exact Or.inr (Or.inr h)
  · rintro (h | h | h)
    · exact Or.inl (Or.inr h)
    · exact Or.inl (Or.inl h)
    · exact Or.inr h

def FinalCl (S0 : List Name) (D : Name → Prop) (P0 : List Name) (r : St × List Node × List (Name × String)) : Prop :=
  List.Perm (r.2.2.map (·.1) ++ outsOf r.2.1) P0 ∧
  ClosedL (r.2.2.map (·.1) ++ S0) r.2.1 ∧
  (∀ x, D x → x ∈ r.2.2.map (·.1) ++ S0 ∨ ∃ m ∈ r.2.1, x ∈ m.outputs) ∧
  (r.1.err.isSome = true ∨
    ∀ x y, lookupA r.1.sym x = some (.alias y) → y ∈ r.2.2.map (·.1) ++ S0 ∨ ∃ m ∈ r.2.1, y ∈ m.outputs)

theorem ClA.final {S0 : List Name} {D : Name → Prop} {P0 : List Name} {st st' : St} {acc todo : List Node} {ai : List (Name × String)}
    (h : ClA S0 D P0 st acc todo ai) (hs : st'.err.isSome = true ∨ st'.sym = st.sym) :
    FinalCl S0 D P0 (st', acc.reverse ++ todo, ai) := by
  refine ⟨h.perm, h.closed, ?_, ?_⟩
  · intro x hx
    rcases h.defs x hx with h1 | ⟨m, hm, hmx⟩
    · exact Or.inl h1
    · refine Or.inr ⟨m, ?_, hmx⟩
      rcases hm with hm | hm
      · exact List.mem_append_left _ (List.mem_reverse.mpr hm)
      · exact List.mem_append_right _ hm
  · rcases hs with hs | hs
    · exact Or.inl hs
    · right
      intro x y hx
      show _ ∨ ∃ m ∈ acc.reverse ++ todo, y ∈ m.outputs
      rw [hs] at hx
      rcases h.alias x y hx with h1 | ⟨m, hm, hmy⟩
      · exact Or.inl h1
      · exact Or.inr ⟨m, List.mem_append_left _ (List.mem_reverse.mpr hm), hmy⟩

theorem ClA.subst {ctx : Ctx} {S0 : List Name} {D : Name → Prop} {P0 : List Name} {st st1 : St} {acc rest : List Node}
    {n0 n : Node} {ai : List (Name × String)} (h : ClA S0 D P0 st acc (n0 :: rest) ai) (hp : TurnPre ctx st n0 n st1) :
    ClA S0 D P0 st1 acc (n :: rest) ai := by
  have hs := hp.sym
  obtain rfl := hp.node
  refine ⟨?_, ?_, ?_, ?_, ?_,
    (by rw [outsOf_mid_eq acc.reverse rest n0 _ (setInputs_outputs _ _)]; exact h.perm)⟩
  · apply ClosedL_replace_mid acc.reverse h.closed (setInputs_outputs _ _)
    intro x hx
    rw [setInputs_inputs] at hx
    rcases mem_map_substOne hx with hx | ⟨z, _, hz⟩
    · exact ClosedL_mid_inputs acc.reverse h.closed x hx
    · rcases h.alias z x hz with h1 | ⟨m, hm, hmx⟩
      · exact Or.inl h1
      · exact Or.inr ⟨m, List.mem_reverse.mpr hm, hmx⟩
  · intro x hx
    rw [mem_defs_iff, outsOf_mid_eq acc.reverse rest n0 _ (setInputs_outputs _ _)]
    exact mem_defs_iff.mp (h.defs x hx)
  · intro x y hx
    rw [hs] at hx
    exact h.alias x y hx
  · intro m hm x hx
    rcases List.mem_cons.mp hm with rfl | hm'
    · rw [setInputs_inputs] at hx
      rcases mem_map_substOne hx with hx | ⟨z, _, hz⟩
      · exact h.innf n0 List.mem_cons_self x hx
      · exact h.aliasNF z x hz
    · exact h.innf m (List.mem_cons_of_mem _ hm') x hx
  · intro x y hx
    rw [hs] at hx
    exact h.aliasNF x y hx

theorem ClA.keep {S0 : List Name} {D : Name → Prop} {P0 : List Name} {st st' : St} {acc rest : List Node} {n : Node}
    {ai : List (Name × String)} (h : ClA S0 D P0 st acc (n :: rest) ai)
    (hsym : ∀ x y, lookupA st'.sym x = some (.alias y) → lookupA st.sym x = some (.alias y) ∨ n.inputs.contains (some y) = true) :
    ClA S0 D P0 st' (n :: acc) rest ai := by
  have hl : (n :: acc).reverse ++ rest = acc.reverse ++ n :: rest := by simp
  refine ⟨by rw [hl]; exact h.closed, ?_, ?_, fun m hm => h.innf m (List.mem_cons_of_mem _ hm), ?_,
    (by rw [hl]; exact h.perm)⟩
  · intro x hx
    rw [mem_defs_iff, hl]
    exact mem_defs_iff.mp (h.defs x hx)
  · intro x y hx
    rcases hsym x y hx with h1 | h1
    · rcases h.alias x y h1 with h2 | ⟨m, hm, hmy⟩
      · exact Or.inl h2
      · exact Or.inr ⟨m, List.mem_cons_of_mem _ hm, hmy⟩
    · rcases ClosedL_mid_inputs acc.reverse h.closed y (by simpa using h1) with h2 | ⟨m, hm, hmy⟩
      · exact Or.inl h2
      · exact Or.inr ⟨m, List.mem_cons_of_mem _ (List.mem_reverse.mp hm), hmy⟩
  · intro x y hx
    rcases hsym x y hx with h1 | h1
    · exact h.aliasNF x y h1
    · exact h.innf n List.mem_cons_self y (by simpa using h1)

theorem ClA.fold {S0 : List Name} {D : Name → Prop} {P0 : List Name} {st st' : St} {acc rest : List Node} {n : Node}
    {ai : List (Name × String)} (h : ClA S0 D P0 st acc (n :: rest) ai) (o : Name) (tok : String) (ho : n.outputs = [o])
    (hsym : ∀ x y, lookupA st'.sym x = some (.alias y) → lookupA st.sym x = some (.alias y)) :
    ClA S0 D P0 st' acc rest (ai ++ [(o, tok)]) := by
  have hsub : ∀ x, x ∈ ai.map (·.1) ++ S0 → x ∈ (ai ++ [(o, tok)]).map (·.1) ++ S0 := by
    intro x hx
    rcases List.mem_append.mp hx with h1 | h1
    · exact List.mem_append_left _ (by rw [List.map_append]; exact List.mem_append_left _ h1)
    · exact List.mem_append_right _ h1
  have ho' : o ∈ (ai ++ [(o, tok)]).map (·.1) ++ S0 := by
    apply List.mem_append_left
    rw [List.map_append]
    exact List.mem_append_right _ (by simp)
  have hmap : (ai ++ [(o, tok)]).map (·.1) = ai.map (·.1) ++ [o] := by simp
  have hperm := perm_fold (ai.map (·.1)) acc.reverse rest n o ho
  refine ⟨?_, ?_, ?_, fun m hm => h.innf m (List.mem_cons_of_mem _ hm), fun x y hx => h.aliasNF x y (hsym x y hx),
    (by rw [hmap]; exact hperm.trans h.perm)⟩
  · apply ClosedL_remove_mid acc.reverse h.closed hsub
    intro x hx
    rw [ho] at hx
    have : x = o := by simpa using hx
    rw [this]; exact ho'
  · intro x hx
    rw [mem_defs_iff, hmap]
    exact (mem_defs_iff.mp (h.defs x hx)).imp id (List.Perm.mem_iff hperm).mpr
  · intro x y hx
    rcases h.alias x y (hsym x y hx) with h1 | h1
    · exact Or.inl (hsub y h1)
    · exact Or.inr h1

theorem ClA.repl {S0 : List Name} {D : Name → Prop} {P0 : List Name} {st st' : St} {acc rest : List Node} {n m : Node}
    {ai : List (Name × String)} (h : ClA S0 D P0 st acc (n :: rest) ai) (hout : m.outputs = n.outputs)
    (hin : ∀ x, some x ∈ m.inputs → some x ∈ n.inputs)
    (hsym : ∀ x y, lookupA st'.sym x = some (.alias y) → lookupA st.sym x = some (.alias y)) :
    ClA S0 D P0 st' acc (m :: rest) ai := by
  refine ⟨?_, ?_, ?_, ?_, fun x y hx => h.aliasNF x y (hsym x y hx),
    (by rw [outsOf_mid_eq acc.reverse rest n m hout]; exact h.perm)⟩
  · apply ClosedL_replace_mid acc.reverse h.closed hout
    intro x hx
    exact ClosedL_mid_inputs acc.reverse h.closed x (hin x hx)
  · intro x hx
    rw [mem_defs_iff, outsOf_mid_eq acc.reverse rest n m hout]
    exact mem_defs_iff.mp (h.defs x hx)
  · intro x y hx
    exact h.alias x y (hsym x y hx)
  · intro k hk x hx
    rcases List.mem_cons.mp hk with rfl | hk'
    · exact h.innf n List.mem_cons_self x (hin x hx)
    · exact h.innf k (List.mem_cons_of_mem _ hk') x hx

theorem visitNodes_clA (ctx : Ctx) (hnf : ctx.isFunction = false) (vg : St → Graph → St × Graph) (S0 : List Name) (D : Name → Prop) (P0 : List Name) :
    ∀ (f : Nat) (todo : List Node) (st : St) (acc : List Node) (ai : List (Name × String)),
      (∀ n ∈ todo, FragBk n) → ClA S0 D P0 st acc todo ai →
      FinalCl S0 D P0 (visitNodes ctx vg f st todo acc ai) := by
  refine visitNodes_induct ctx hnf vg (motive := fun _ st todo acc ai r => ClA S0 D P0 st acc todo ai → FinalCl S0 D P0 r)
    ?_ ?_ ?_ ?_
  · intro f st todo acc ai e _ hb
    exact hb.final (Or.inr rfl)
  · intro f st n0 rest acc ai n st1 st' r hp hk ih hb
    exact ih ((hb.subst hp).keep fun x y hx => hk.alias hx)
  · intro f st n0 rest acc ai n st1 stG st2 st3 v c o l r hp hf ih hb
    exact ih ((hb.subst hp).fold o c.tok hf.out fun x y hx => hf.alias l hx)
  · intro f st n0 rest acc ai n st1 st2 v x x' opn attrs o l r hp hr ih hb
    have hb1 := hb.subst hp
    obtain rfl := hr.ren (hb1.innf n List.mem_cons_self x hr.reads st1.fresh)
    refine ih (hb1.repl (by rw [hr.out]; rfl) ?_ fun z y hx => hr.alias _ _ l hx)
    intro z hz
    have : z = x' := by simpa [mkNode, Node.inputs] using hz
    rw [this]
    exact hr.reads

/-- scope well-formedness of a graph (one level); `sc`: the names of the enclosing scope -/
def GraphClosed (sc : List Name) (g : Graph) : Prop :=
  ClosedL (g.inits.map (·.1) ++ (g.inputs ++ sc)) g.nodes ∧
  ∀ o, o ∈ g.outputs → o ∈ g.inits.map (·.1) ++ (g.inputs ++ sc) ∨ ∃ m ∈ g.nodes, o ∈ m.outputs

def closedLB (S : List Name) : List Node → Bool
  | [] => true
  | n :: rest => n.inputs.all (fun i => match i with | some x => S.contains x | none => true) && closedLB (n.outputs ++ S) rest

def graphClosedB (sc : List Name) (g : Graph) : Bool :=
  closedLB (g.inits.map (·.1) ++ (g.inputs ++ sc)) g.nodes &&
  g.outputs.all fun o => (g.inits.map (·.1) ++ (g.inputs ++ sc)).contains o || g.nodes.any (·.outputs.contains o)

theorem closedLB_sound : ∀ (l : List Node) (S : List Name), closedLB S l = true → ClosedL S l
  | [], _, _ => trivial
  | n :: rest, S, h => by
    simp only [closedLB, Bool.and_eq_true, List.all_eq_true] at h
    exact ⟨fun x hx => List.contains_iff_mem.mp (h.1 (some x) hx), closedLB_sound rest _ h.2⟩

theorem graphClosedB_sound {sc : List Name} {g : Graph} (h : graphClosedB sc g = true) : GraphClosed sc g := by
  simp only [graphClosedB, Bool.and_eq_true, List.all_eq_true, Bool.or_eq_true, List.any_eq_true] at h
  refine ⟨closedLB_sound _ _ h.1, fun o ho => (h.2 o ho).imp List.contains_iff_mem.mp ?_⟩
  exact fun ⟨m, hm, hmo⟩ => ⟨m, hm, List.contains_iff_mem.mp hmo⟩

theorem setSubs_inputs (n : Node) (l : List (String × Graph)) : (n.setSubs l).inputs = n.inputs := by cases n; rfl
theorem setSubs_outputs (n : Node) (l : List (String × Graph)) : (n.setSubs l).outputs = n.outputs := by cases n; rfl

theorem innf_of_cnt (nodes : List Node) (h : ∀ k : Nat, cnt ("%" ++ toString k) nodes = 0) :
    ∀ m ∈ nodes, ∀ x, some x ∈ m.inputs → NF x := by
  intro m hm x hx k e
  have h0 := h k
  unfold cnt at h0
  have : some ("%" ++ toString k) ∈ nodes.flatMap fun n => n.inputs :=
    List.mem_flatMap.mpr ⟨m, hm, by rw [← e]; exact hx⟩
  have := List.count_pos_iff.mpr this
  omega

/-- single assignment (one level) -/
def SSA (g : Graph) : Prop :=
  (g.inits.map (·.1) ++ outsOf g.nodes).Nodup ∧ ∀ o, o ∈ outsOf g.nodes → o ∉ g.inputs

theorem pruneInits_closed (R : List Name) (k : Nat) (sc ins : List Name) (inits : List (Name × String)) (L : List Node)
    (outs : List Name)
    (hrm : ∀ x, R.contains x = true → outs.contains x = false ∧ ∀ n ∈ L, n.inputs.contains (some x) = false) :
    (GraphClosed sc (Graph.mk ins inits L outs) → GraphClosed sc (pruneInits R (k + 1) (Graph.mk ins inits L outs))) ∧
    (SSA (Graph.mk ins inits L outs) → SSA (pruneInits R (k + 1) (Graph.mk ins inits L outs))) := by
  have hfg : pruneInits R (k + 1) (Graph.mk ins inits L outs) =
      Graph.mk ins (inits.filter fun p => !R.contains p.1)
        (L.map fun n => n.setSubs (n.subs.map fun (p : String × Graph) => (p.1, pruneInits R k p.2))) outs := by
    simp only [pruneInits, Graph.inputs, Graph.inits, Graph.nodes, Graph.outputs]
  have hout : outsOf (L.map fun n => n.setSubs (n.subs.map fun (p : String × Graph) => (p.1, pruneInits R k p.2))) = outsOf L :=
    outsOf_map_io _ (fun n => setSubs_outputs n _) L
  have hkeep : ∀ x, x ∈ inits.map (·.1) ++ (ins ++ sc) → R.contains x = false →
      x ∈ (inits.filter fun p => !R.contains p.1).map (·.1) ++ (ins ++ sc) := by
    intro x hx hnr
    rcases List.mem_append.mp hx with h | h
    · obtain ⟨p, hp, hpx⟩ := List.mem_map.mp h
      exact List.mem_append_left _ (List.mem_map.mpr ⟨p, List.mem_filter.mpr ⟨hp, by rw [hpx, hnr]; rfl⟩, hpx⟩)
    · exact List.mem_append_right _ h
  rw [hfg]
  refine ⟨fun hcl => ⟨?_, ?_⟩, fun hssa => ⟨?_, ?_⟩⟩
  · show ClosedL _ (L.map _)
    apply ClosedL_map_io _ (fun n => setSubs_inputs n _) (fun n => setSubs_outputs n _)
    apply ClosedL_restrict L hcl.1
    intro x hx ⟨n, hn, hnx⟩
    apply hkeep x hx
    cases hcx : R.contains x with
    | false => rfl
    | true =>
      have := (hrm x hcx).2 n hn
      rw [List.contains_iff_mem.mpr hnx] at this
      cases this
  · intro o ho
    have ho' : o ∈ outs := ho
    have hnr : R.contains o = false := by
      cases hcx : R.contains o with
      | false => rfl
      | true =>
        have := (hrm o hcx).1
        rw [List.contains_iff_mem.mpr ho'] at this
        cases this
    rcases hcl.2 o ho' with h | ⟨m, hm, hmo⟩
    · exact Or.inl (hkeep o h hnr)
    · exact Or.inr ⟨m.setSubs _, List.mem_map.mpr ⟨m, hm, rfl⟩, by rw [setSubs_outputs]; exact hmo⟩
  · show (List.map (·.1) (inits.filter fun p => !R.contains p.1) ++ outsOf (L.map _)).Nodup
    rw [hout]
    exact List.Nodup.sublist (List.Sublist.append (List.Sublist.map _ List.filter_sublist) (List.Sublist.refl _)) hssa.1
  · intro o ho
    have ho' : o ∈ outsOf (L.map fun n => n.setSubs (n.subs.map fun (p : String × Graph) => (p.1, pruneInits R k p.2))) := ho
    rw [hout] at ho'
    exact hssa.2 o ho'

theorem closedA_aux (d : Nat) (ctx : Ctx) (hnf : ctx.isFunction = false) (info : List (Name × VInfo)) (g : Graph)
    (hfr : ∀ n ∈ g.nodes, FragBk n) (hnofresh : ∀ k : Nat, cnt ("%" ++ toString k) g.nodes = 0)
    (sc : List Name) (hcl : GraphClosed sc g) :
    GraphClosed sc (pruneInits (visitGraph ctx d (initialState g info) g).1.removed d
      (visitGraph ctx d (initialState g info) g).2) ∧
    (SSA g → SSA (pruneInits (visitGraph ctx d (initialState g info) g).1.removed d
      (visitGraph ctx d (initialState g info) g).2)) := by
  obtain _ | k := d
  · exact ⟨hcl, id⟩
  have hprune := prune_ok_fragmentA k ctx hnf info g hfr hnofresh
  generalize hR : (visitGraph ctx (k + 1) (initialState g info) g).1.removed = R at hprune ⊢
  let S0 := g.inits.map (·.1) ++ (g.inputs ++ sc)
  let D : Name → Prop := fun x => x ∈ S0 ∨ ∃ m ∈ g.nodes, x ∈ m.outputs
  have hinit : ClA S0 D (outsOf g.nodes) (initialState g info) [] g.nodes [] := by
    refine ⟨by simpa using hcl.1, ?_, ?_, innf_of_cnt g.nodes hnofresh, ?_, by simp⟩
    · intro x hx
      rcases hx with h | ⟨m, hm, hmx⟩
      · exact Or.inl (by simpa using h)
      · exact Or.inr ⟨m, Or.inr hm, hmx⟩
    · intro x y hx
      rw [(initialState_sym g info).1] at hx
      simp [lookupA] at hx
    · intro x y hx
      rw [(initialState_sym g info).1] at hx
      simp [lookupA] at hx
  have hfin := visitNodes_clA ctx hnf (visitGraph ctx k) S0 D (outsOf g.nodes)
    (stepFuel g + 16 * (initialState g info).uses.length) g.nodes (initialState g info) [] [] hfr hinit
  obtain ⟨stN, L, added, st', outs, _, _, _, hvn, hvg, _, houts0⟩ := visitGraph_succ ctx k (initialState g info) g
  rw [hvn] at hfin
  obtain ⟨hperm, hc, hdefs, halias⟩ := hfin
  simp only [] at hperm hc hdefs halias
  have hshape : (visitGraph ctx (k + 1) (initialState g info) g).2 = Graph.mk g.inputs (g.inits ++ added) L outs := by rw [hvg]
  have houts : ∀ o', o' ∈ outs → o' ∈ g.outputs ∨ (stN.err.isSome = false ∧ ∃ o, lookupA stN.sym o = some (.alias o')) := by
    rcases houts0 with ⟨_, _, rfl⟩ | ⟨herr, _, rfl⟩
    · exact fun o' ho' => Or.inl ho'
    · exact fun o' ho' => (replaceOutputs_mem L g.outputs stN o' ho').imp id (fun h => ⟨herr, h⟩)
  rw [hshape] at hprune ⊢
  obtain ⟨hP1, hP2⟩ := pruneInits_closed R k sc g.inputs (g.inits ++ added) L outs fun x hx => (hprune x hx).2
  have hsc : ∀ x, x ∈ added.map (·.1) ++ S0 → x ∈ (g.inits ++ added).map (·.1) ++ (g.inputs ++ sc) := by
    intro x hx
    rw [List.map_append]
    rcases List.mem_append.mp hx with h | h
    · exact List.mem_append_left _ (List.mem_append_right _ h)
    · rcases List.mem_append.mp h with h' | h'
      · exact List.mem_append_left _ (List.mem_append_left _ h')
      · exact List.mem_append_right _ h'
  refine ⟨hP1 ⟨ClosedL_mono L hsc hc, fun o' ho' => ?_⟩, fun hssa => hP2 ⟨?_, fun o ho => ?_⟩⟩
  · have hscope : o' ∈ added.map (·.1) ++ S0 ∨ ∃ m ∈ L, o' ∈ m.outputs := by
      rcases houts o' ho' with h | ⟨herr, o, ho⟩
      · exact hdefs o' (hcl.2 o' h)
      · rcases halias with he | ha
        · rw [herr] at he; exact absurd he (by decide)
        · exact ha o o' ho
    exact hscope.imp (hsc o') id
  · show ((g.inits ++ added).map (·.1) ++ outsOf L).Nodup
    rw [List.map_append, List.append_assoc]
    exact (List.Perm.nodup_iff (List.Perm.append_left _ hperm)).mpr hssa.1
  · exact hssa.2 o ((List.Perm.mem_iff hperm).mp (List.mem_append_right _ ho))

theorem graphClosed_self (g : Graph) :
    GraphClosed ((g.nodes.flatMap fun n => n.inputs.filterMap id) ++ g.outputs) g := by
  refine ⟨?_, ?_⟩
  · apply ClosedL_of_all
    intro n hn x hx
    apply List.mem_append_right
    apply List.mem_append_right
    apply List.mem_append_left
    exact List.mem_flatMap.mpr ⟨n, hn, List.mem_filterMap.mpr ⟨some x, hx, rfl⟩⟩
  · intro o ho
    left
    exact List.mem_append_right _ (List.mem_append_right _ (List.mem_append_right _ ho))

/-- `fold_wf` on fragment A (one level, `_clear_unused_initializers` included) -/
theorem foldGraph_closedA (ctx : Ctx) (hnf : ctx.isFunction = false) (info : List (Name × VInfo)) (g : Graph)
    (hfr : ∀ n ∈ g.nodes, FragBk n) (hnofresh : ∀ k : Nat, cnt ("%" ++ toString k) g.nodes = 0)
    (sc : List Name) (hcl : GraphClosed sc g) : GraphClosed sc (foldGraph ctx info g).2 := by
  rw [foldGraph_snd]
  exact (closedA_aux maxDepth ctx hnf info g hfr hnofresh sc hcl).1

theorem foldGraph_ssaA (ctx : Ctx) (hnf : ctx.isFunction = false) (info : List (Name × VInfo)) (g : Graph)
    (hfr : ∀ n ∈ g.nodes, FragBk n) (hnofresh : ∀ k : Nat, cnt ("%" ++ toString k) g.nodes = 0)
    (hssa : SSA g) : SSA (foldGraph ctx info g).2 := by
  rw [foldGraph_snd]
  exact (closedA_aux maxDepth ctx hnf info g hfr hnofresh _ (graphClosed_self g)).2 hssa

end OV.C03
