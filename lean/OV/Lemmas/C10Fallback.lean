import OV.Model.C10Fallback
/-! Dict assignment (`register`) into a dict of original initializers, the recovery loop as a run of such assignments
(`recoverLoop_eq`), and distinct keys (`NameInj`) as an invariant of assignment (`register_nodup`). -/
namespace OV.C10.Fallback

/-- distinct initializers have distinct names (it is a dict) -/
def NameInj (l : List Init) : Prop := ∀ i j, i ∈ l → j ∈ l → i.name = j.name → i = j

theorem mem_names {l : List Init} {n : String} : n ∈ names l ↔ ∃ i ∈ l, i.name = n := by
  simp [names, List.mem_map]

theorem register_eq {d orig : List Init} {i : Init} (hs : d ⊆ orig) (hinj : NameInj orig) (hi : i ∈ orig) :
    register d i = if (names d).contains i.name then d else d ++ [i] := by
  unfold register
  split
  · rename_i hc
    have : d.map (fun j => if j.name = i.name then i else j) = d := by
      conv => rhs; rw [← List.map_id d]
      apply List.map_congr_left
      intro j hj
      by_cases h : j.name = i.name
      · simp [hinj j i (hs hj) hi h]
      · simp [h]
    rw [this]
  · rfl

theorem register_spec {d orig : List Init} {i : Init} (hs : d ⊆ orig) (hinj : NameInj orig) (hi : i ∈ orig) :
    register d i ⊆ orig ∧ i ∈ register d i ∧ d ⊆ register d i := by
  rw [register_eq hs hinj hi]
  split
  · rename_i hc
    obtain ⟨j, hj, hn⟩ := mem_names.mp (by simpa using hc)
    exact ⟨hs, hinj j i (hs hj) hi hn ▸ hj, List.Subset.refl d⟩
  · exact ⟨List.append_subset.mpr ⟨hs, List.cons_subset.mpr ⟨hi, List.nil_subset _⟩⟩,
      List.mem_append_right _ (List.mem_singleton.mpr rfl), List.subset_append_left d [i]⟩

theorem find_name {orig : List Init} {n : String} {i : Init} (h : orig.find? (fun i => i.name = n) = some i) :
    i ∈ orig ∧ i.name = n := by
  refine ⟨List.mem_of_find?_eq_some h, ?_⟩
  have := List.find?_some h
  simpa using this

theorem find_of_mem {orig : List Init} (hinj : NameInj orig) {i : Init} (hi : i ∈ orig) :
    orig.find? (fun j => j.name = i.name) = some i := by
  cases h : orig.find? (fun j => j.name = i.name) with
  | none =>
    have := List.find?_eq_none.mp h i hi
    simp at this
  | some j =>
    obtain ⟨hj, hn⟩ := find_name h
    rw [hinj j i hj hi hn]

theorem registerAll_spec (orig : List Init) (hinj : NameInj orig) :
    ∀ (l : List Init) (d : List Init), d ⊆ orig → l ⊆ orig →
      registerAll d l ⊆ orig ∧ l ⊆ registerAll d l ∧ d ⊆ registerAll d l := by
  intro l
  induction l with
  | nil => intro d hs _; exact ⟨hs, List.nil_subset _, List.Subset.refl d⟩
  | cons i l ih =>
    intro d hs hl
    have hi : i ∈ orig := hl (List.mem_cons_self ..)
    unfold registerAll
    simp only [List.foldl_cons]
    obtain ⟨r1, r2, r3⟩ := register_spec hs hinj hi
    obtain ⟨a, b, c⟩ := ih (register d i) r1 (List.subset_of_cons_subset hl)
    exact ⟨a, List.cons_subset.mpr ⟨c r2, b⟩, r3.trans c⟩

theorem recoverLoop_eq (orig : List Init) (conv : G) :
    recoverLoop orig conv
      = registerAll conv.inits (conv.inputs.filterMap (fun n => orig.find? (fun i => i.name = n))) := by
  unfold recoverLoop registerAll
  rw [List.foldl_filterMap]
  congr 1
  funext d n
  cases orig.find? (fun i => i.name = n) <;> rfl

theorem recoverLoop_spec (orig : List Init) (hinj : NameInj orig) (conv : G) (hs : conv.inits ⊆ orig) :
    recoverLoop orig conv ⊆ orig ∧ (∀ i, i ∈ orig → i.name ∈ conv.inputs → i ∈ recoverLoop orig conv) := by
  rw [recoverLoop_eq]
  obtain ⟨a, b, _⟩ := registerAll_spec orig hinj
    (conv.inputs.filterMap (fun n => orig.find? (fun i => i.name = n))) conv.inits hs (fun x hx => by obtain ⟨n, _, hn⟩ := List.mem_filterMap.mp hx; exact (find_name hn).1)
  exact ⟨a, fun i hi hn => b (List.mem_filterMap.mpr ⟨_, hn, find_of_mem hinj hi⟩)⟩

theorem name_in_prepared_inputs (g : G) {i : Init} (hi : i ∈ g.inits) : i.name ∈ (prepare g).inputs := by
  unfold prepare
  simp only [List.mem_append, List.mem_filter]
  by_cases h : i.name ∈ g.inputs
  · exact Or.inl h
  · refine Or.inr ⟨mem_names.mpr ⟨i, hi, rfl⟩, ?_⟩
    simpa using h

theorem names_register (d : List Init) (i : Init) :
    names (register d i) = if (names d).contains i.name then names d else names d ++ [i.name] := by
  unfold register
  split
  · rw [names, List.map_map]
    exact List.map_congr_left fun j _ => by simp only [Function.comp]; split <;> simp [*]
  · simp [names]

/-- Distinct keys (hence `NameInj`: `nameInj_of_nodup`) are an invariant of the data structure, not an assumption:
`register` preserves them from the empty dict on. -/
theorem register_nodup {d : List Init} (i : Init) (h : (names d).Nodup) : (names (register d i)).Nodup := by
  rw [names_register]
  split
  · exact h
  · rename_i hc
    refine List.nodup_append.mpr ⟨h, List.pairwise_singleton _ _, fun a ha b hb e => hc ?_⟩
    rw [← List.mem_singleton.mp hb, ← e]; simpa using ha

theorem registerAll_nodup (l : List Init) : ∀ {d : List Init}, (names d).Nodup → (names (registerAll d l)).Nodup := by
  induction l with
  | nil => intro d h; exact h
  | cons i l ih => intro d h; exact ih (register_nodup i h)

theorem nameInj_of_nodup {l : List Init} (h : (names l).Nodup) : NameInj l := by
  induction l with
  | nil => intro i j hi; cases hi
  | cons a l ih =>
    obtain ⟨ha, hl⟩ := List.nodup_cons.mp h
    intro i j hi hj hn
    rcases List.mem_cons.mp hi with rfl | h1 <;> rcases List.mem_cons.mp hj with rfl | h2
    · rfl
    · exact absurd (mem_names.mpr ⟨j, h2, hn.symm⟩) ha
    · exact absurd (mem_names.mpr ⟨i, h1, hn⟩) ha
    · exact ih hl i j h1 h2 hn

end OV.C10.Fallback
