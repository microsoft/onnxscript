import OV.Lemmas.C06Vocab
import OV.Lemmas.C06Top
/-!
  C06 — the exhaustive search `solve` (the oracle of the correspondence check) is sound: every
  solution it returns is an instance (full pattern language, OR patterns included).
-/
namespace OV.C06

/-- the search functions are lists guarded by `if c then [] else …` -/
theorem mem_ite_nil_left {α} {c : Prop} [Decidable c] {l : List α} {a : α} :
    a ∈ (if c then [] else l) ↔ ¬ c ∧ a ∈ l := by
  split <;> simp [*]

structure SALe (a a' : SA) : Prop where
  b : ∀ k x, a.names.lookup k = some x → a'.names.lookup k = some x
  v : ∀ k x, a.leaf.lookup k = some x → a'.leaf.lookup k = some x
  n : ∀ k x, a.node.lookup k = some x → a'.node.lookup k = some x

theorem SALe.refl (a : SA) : SALe a a := ⟨fun _ _ h => h, fun _ _ h => h, fun _ _ h => h⟩
theorem SALe.trans {a b c : SA} (h1 : SALe a b) (h2 : SALe b c) : SALe a c :=
  ⟨fun k x h => h2.b k x (h1.b k x h), fun k x h => h2.v k x (h1.v k x h),
   fun k x h => h2.n k x (h1.n k x h)⟩
theorem SALe.toALe {a a' : SA} (h : SALe a a') : ALe a.assign a'.assign := ⟨h.b, h.n, h.v⟩

/-- every mapped pattern node is either still being solved (`P`) or satisfied -/
def GoodSA (E : Env) (a : SA) (P : List NPId) : Prop :=
  ∀ q m, a.node.lookup q = some m → q ∈ P ∨ SatN E a.assign q m

theorem GoodSA.ext {E : Env} {a a' : SA} {P : List NPId} (h : GoodSA E a P) (l : SALe a a')
    (hn : a'.node = a.node) : GoodSA E a' P := by
  intro q m hq
  rw [hn] at hq
  rcases h q m hq with h | h
  · exact .inl h
  · exact .inr (satN_mono l.toALe h)

theorem bindName_spec (a a' : SA) (k : String) (b : Bound) (h : a.bindName k b = some a') :
    SALe a a' ∧ a'.node = a.node ∧ a'.names.lookup k = some b := by
  unfold SA.bindName at h
  split at h
  · next b' hb =>
    split at h
    · next he => cases h; exact ⟨SALe.refl _, rfl, he ▸ hb⟩
    · cases h
  · next hb =>
    cases h
    exact ⟨⟨fun k' x h => (List.prefix_append _ _).lookup_eq_some h, fun _ _ h => h, fun _ _ h => h⟩, rfl,
      lookup_snoc_self _ _ _ hb⟩

theorem bindV_spec (p : GPat) (a a' : SA) (vp : VPat) (v : Option ValueId)
    (h : a.bindV p vp v = some a') :
    SALe a a' ∧ a'.node = a.node ∧ a'.assign.boundTo p vp v := by
  unfold SA.bindV at h
  unfold Assign.boundTo
  rcases hn : p.vname vp with _ | nm <;> simp only [hn] at h ⊢
  · rcases hk : vp.key with _ | k <;> simp only [hk] at h ⊢
    · cases h; exact ⟨SALe.refl _, rfl, trivial⟩
    · split at h
      · next v' hv =>
        split at h
        · next he => cases h; exact ⟨SALe.refl _, rfl, he ▸ hv⟩
        · cases h
      · next hv =>
        cases h
        exact ⟨⟨fun _ _ h => h, fun k' x h => (List.prefix_append _ _).lookup_eq_some h, fun _ _ h => h⟩, rfl,
          lookup_snoc_self _ _ _ hv⟩
  · exact bindName_spec a a' nm _ h

theorem bindTag_spec (tagVar : Option String) (t : Int) (a a' : SA) (h : bindTag tagVar t a = some a') :
    SALe a a' ∧ a'.node = a.node ∧ ∀ tv, tagVar = some tv → a'.names.lookup tv = some (.tag t) := by
  unfold bindTag at h
  split at h
  · next tv =>
    obtain ⟨h1, h2, h3⟩ := bindName_spec a a' tv _ h
    exact ⟨h1, h2, fun tv' e => by cases e; exact h3⟩
  · cases h; exact ⟨SALe.refl _, rfl, fun tv e => by cases e⟩

def SolveNodeSpec (E : Env) (rec : NPId → NodeId → SA → List SA) : Prop :=
  ∀ np n a P a', a' ∈ rec np n a → GoodSA E a P → (∀ x ∈ P, np < x) →
    SALe a a' ∧ GoodSA E a' P ∧ SatN E a'.assign np n

theorem solveOut_spec (E : Env) (rec : NPId → NodeId → SA → List SA) (hrec : SolveNodeSpec E rec)
    (np : NPId) (idx : Nat) (x : ValueId) (a a' : SA) (P : List NPId)
    (h : a' ∈ solveOut E rec np idx x a) (hf : E.g.isForeign x = false) (hg : GoodSA E a P)
    (hlt : ∀ y ∈ P, np < y) :
    SALe a a' ∧ GoodSA E a' P ∧ SatV E a'.assign (.out np idx) (some x) := by
  unfold solveOut at h
  split at h
  · simp at h
  · next n hp =>
    split at h
    · simp at h
    · next hi =>
      split at h
      · simp at h
      · next a1 hb =>
        obtain ⟨l1, n1, b1⟩ := bindV_spec E.p a a1 _ _ hb
        obtain ⟨l2, g2, s2⟩ := hrec np n a1 P a' h (hg.ext l1 n1) hlt
        refine ⟨l1.trans l2, g2, ?_⟩
        have hi' : E.g.index x = some idx := by simpa using hi
        exact .out np idx x n (boundTo_mono l2.toALe _ _ _ b1) hf hp hi' s2

mutual
theorem solveV_spec (E : Env) (rec : NPId → NodeId → SA → List SA) (hrec : SolveNodeSpec E rec)
    (P : List NPId) : ∀ (vp : VPat) (v : Option ValueId) (a a' : SA),
      a' ∈ solveV E rec vp v a → GoodSA E a P → (∀ q ∈ vp.refs, ∀ y ∈ P, q < y) →
      SALe a a' ∧ GoodSA E a' P ∧ SatV E a'.assign vp v
  | .any, v, a, a', h, hg, _ => by
    unfold solveV at h
    simp only [mem_ite_nil_left, List.mem_singleton] at h
    cases h.2
    exact ⟨SALe.refl _, hg, .any v⟩
  | .var id name isVar canNone check, v, a, a', h, hg, _ => by
    unfold solveV at h
    simp only [mem_ite_nil_left, Option.mem_toList] at h
    obtain ⟨hcg, _, hn, hb⟩ := h
    obtain ⟨l1, n1, b1⟩ := bindV_spec E.p a a' _ _ hb
    exact ⟨l1, hg.ext l1 n1, .var _ _ _ _ _ _ b1 (fun hv => by subst hv; simpa using hn) (crossGraph_var hcg)⟩
  | .const id c, none, a, a', h, _, _ => by
    unfold solveV at h
    simp only [mem_ite_nil_left] at h
    cases h.2
  | .const id c, some x, a, a', h, hg, _ => by
    unfold solveV at h
    simp only [mem_ite_nil_left] at h
    obtain ⟨_, h⟩ := h
    split at h
    · cases h
    · next cv hcv =>
      split at h
      · next hok =>
        obtain ⟨l1, n1, b1⟩ := bindV_spec E.p a a' _ _ (Option.mem_toList.1 h)
        exact ⟨l1, hg.ext l1 n1, .const id c x cv b1 hcv hok⟩
      · cases h
  | .out np idx, none, a, a', h, _, _ => by
    unfold solveV at h
    simp only [mem_ite_nil_left] at h
    cases h.2
  | .out np idx, some x, a, a', h, hg, hq => by
    unfold solveV at h
    simp only [mem_ite_nil_left] at h
    exact solveOut_spec E rec hrec np idx x a a' P h.2 (crossGraph_own h.1 rfl) hg
      (hq np (List.mem_singleton_self _))
  | .orD id name tagVar alts, none, a, a', h, _, _ => by
    unfold solveV at h
    simp only [mem_ite_nil_left] at h
    cases h.2
  | .orD id name tagVar alts, some x, a, a', h, hg, hq => by
    unfold solveV at h
    simp only [mem_ite_nil_left] at h
    obtain ⟨hcg, h⟩ := h
    have hf := crossGraph_own hcg rfl
    split at h
    · cases h
    · next d hd =>
      split at h
      · cases h
      · next a1 hb =>
        obtain ⟨a2, h2, ht⟩ := List.mem_filterMap.1 h
        obtain ⟨l1, n1, b1⟩ := bindV_spec E.p a a1 _ _ hb
        obtain ⟨l2, g2, s2⟩ := solveOut_spec E rec hrec d.np d.idx x a1 a2 P h2 hf (hg.ext l1 n1)
          (hq d.np (List.mem_map.2 ⟨d, getDispatch_mem hd, rfl⟩))
        obtain ⟨l3, n3, t3⟩ := bindTag_spec tagVar d.tag a2 a' ht
        exact ⟨(l1.trans l2).trans l3, g2.ext l3 n3,
          .orD id name tagVar alts x d (boundTo_mono (l2.trans l3).toALe _ _ _ b1) hf hd
            (satV_mono l3.toALe s2) t3⟩
  | .orB id name tagVar tags alts, v, a, a', h, hg, hq => by
    unfold solveV at h
    simp only [mem_ite_nil_left] at h
    obtain ⟨hcg, h⟩ := h
    split at h
    · cases h
    · next a1 hb =>
      obtain ⟨l1, n1, b1⟩ := bindV_spec E.p a a1 _ _ hb
      obtain ⟨l2, g2, i, alt, hi, hs, ht⟩ :=
        solveAlts_spec E rec hrec P alts tags tagVar v a1 a' h (hg.ext l1 n1) hq
      exact ⟨l1.trans l2, g2, .orB id name tagVar tags alts v i alt (boundTo_mono l2.toALe _ _ _ b1)
        (fun x hx => crossGraph_own (hx ▸ hcg) rfl) hi hs ht⟩
theorem solveAlts_spec (E : Env) (rec : NPId → NodeId → SA → List SA) (hrec : SolveNodeSpec E rec)
    (P : List NPId) : ∀ (alts : List VPat) (tags : List Int) (tagVar : Option String)
      (v : Option ValueId) (a a' : SA),
      a' ∈ solveAlts E rec alts tags tagVar v a → GoodSA E a P → (∀ q ∈ refsL alts, ∀ y ∈ P, q < y) →
      SALe a a' ∧ GoodSA E a' P ∧ ∃ i alt, alts[i]? = some alt ∧ SatV E a'.assign alt v ∧
        (∀ t, tagVar = some t → a'.assign.names t = some (.tag (tags.getD i 0)))
  | [], tags, tagVar, v, a, a', h, _, _ => by
    unfold solveAlts at h
    cases h
  | alt :: rest, tags, tagVar, v, a, a', h, hg, hq => by
    unfold solveAlts at h
    have hq' : ∀ q, (q ∈ alt.refs ∨ q ∈ refsL rest) → ∀ y ∈ P, q < y :=
      fun q hm => hq q (refsL.eq_2 .. ▸ List.mem_append.2 hm)
    rcases List.mem_append.1 h with h1 | h2
    · obtain ⟨a1, hs, ht⟩ := List.mem_filterMap.1 h1
      obtain ⟨l1, g1, s1⟩ := solveV_spec E rec hrec P alt v a a1 hs hg (fun q hm => hq' q (.inl hm))
      obtain ⟨l2, n2, t2⟩ := bindTag_spec tagVar (tags.headD 0) a1 a' ht
      refine ⟨l1.trans l2, g1.ext l2 n2, 0, alt, rfl, satV_mono l2.toALe s1, fun t e => ?_⟩
      have := t2 t e
      show a'.names.lookup t = _
      cases tags <;> simpa using this
    · obtain ⟨l, g, i, alt', hi, hs, ht⟩ := solveAlts_spec E rec hrec P rest tags.tail tagVar v a a' h2 hg
        (fun q hm => hq' q (.inr hm))
      exact ⟨l, g, i + 1, alt', List.getElem?_cons_succ.trans hi, hs, fun t e => getD_tail tags i ▸ ht t e⟩
end

theorem solveAttrs_spec (n : GNode) : ∀ (l : List (String × APat)) (a a' : SA),
    solveAttrs n l a = some a' →
    SALe a a' ∧ a'.node = a.node ∧ ∀ name ap, (name, ap) ∈ l → attrOk n name ap ∧
      ∀ nm, ap.name = some nm → a'.names.lookup nm = some (Bound.ofAttr (n.attr name)) := by
  intro l
  induction l with
  | nil => intro a a' h; cases h; exact ⟨SALe.refl _, rfl, fun _ _ h => by simp at h⟩
  | cons hd rest ih =>
    intro a a' h
    obtain ⟨name, ap⟩ := hd
    unfold solveAttrs at h
    split at h
    · cases h
    · next hbad =>
      have hgood := attrOk_of_not_bad hbad
      split at h
      · next hnm =>
        obtain ⟨l1, n1, r1⟩ := ih a a' h
        refine ⟨l1, n1, fun name' ap' hm => ?_⟩
        rcases List.mem_cons.1 hm with he | hm
        · cases he; exact ⟨hgood, fun nm e => by simp [hnm] at e⟩
        · exact r1 name' ap' hm
      · next nm hnm =>
        split at h
        · cases h
        · next a1 hb =>
          obtain ⟨l0, n0, b0⟩ := bindName_spec a a1 nm _ hb
          obtain ⟨l1, n1, r1⟩ := ih a1 a' h
          refine ⟨l0.trans l1, n1.trans n0, fun name' ap' hm => ?_⟩
          rcases List.mem_cons.1 hm with he | hm
          · cases he
            refine ⟨hgood, fun nm' e => ?_⟩
            have : nm' = nm := by simpa [hnm] using e.symm
            subst this
            exact l1.b _ _ b0
          · exact r1 name' ap' hm

theorem solveOutputs_spec (p : GPat) (np : NPId) (gouts : List ValueId) :
    ∀ (rest : List (Option String)) (i : Nat) (a a' : SA),
      solveOutputs p np gouts rest i a = some a' →
      SALe a a' ∧ a'.node = a.node ∧ ∀ j, i ≤ j → j < i + rest.length →
        ∃ x, gouts[j]? = some x ∧ a'.assign.boundTo p (.out np j) (some x) := by
  intro rest
  induction rest with
  | nil => intro i a a' h; cases h; exact ⟨SALe.refl _, rfl, fun j h1 h2 => by simp at h2; omega⟩
  | cons hd rest ih =>
    intro i a a' h
    unfold solveOutputs at h
    split at h
    · cases h
    · next x hx =>
      split at h
      · cases h
      · next a1 hb =>
        obtain ⟨l0, n0, b0⟩ := bindV_spec p a a1 _ _ hb
        obtain ⟨l1, n1, r1⟩ := ih (i + 1) a1 a' h
        refine ⟨l0.trans l1, n1.trans n0, fun j hj1 hj2 => ?_⟩
        by_cases hji : j = i
        · subst hji
          exact ⟨x, hx, boundTo_mono l1.toALe _ _ _ b0⟩
        · exact r1 j (by omega) (by simp only [List.length_cons] at hj2; omega)

theorem solveInputs_spec (E : Env) (rec : NPId → NodeId → SA → List SA) (hrec : SolveNodeSpec E rec)
    (P : List NPId) (n : GNode) :
    ∀ (ins : List (Option VPat)) (i : Nat) (a a' : SA),
      a' ∈ solveInputs (solveV E rec) ins i n a → GoodSA E a P →
      (∀ vp, some vp ∈ ins → ∀ q ∈ vp.refs, ∀ y ∈ P, q < y) →
      SALe a a' ∧ GoodSA E a' P ∧
        (∀ j, ins[j]? = some none → inputAt n (i + j) = none) ∧
        (∀ j vp, ins[j]? = some (some vp) → SatV E a'.assign vp (inputAt n (i + j))) := by
  intro ins
  induction ins with
  | nil =>
    intro i a a' h hg _
    cases List.mem_singleton.1 h
    exact ⟨SALe.refl _, hg, fun j h => by simp at h, fun j vp h => by simp at h⟩
  | cons hd rest ih =>
    intro i a a' h hg hq
    have hq' := fun vp hm => hq vp (List.mem_cons_of_mem _ hm)
    -- position `j + 1` of `hd :: rest` is position `j` of `rest`, counted from `i + 1`
    cases hd with
    | none =>
      unfold solveInputs at h
      split at h
      · next hnone =>
        obtain ⟨l, g, r1, r2⟩ := ih (i + 1) a a' h hg hq'
        refine ⟨l, g, fun j hj => ?_, fun j vp hj => ?_⟩
        · cases j with
          | zero => exact Option.isNone_iff_eq_none.1 hnone
          | succ j => exact Nat.succ_add_eq_add_succ i j ▸ r1 j hj
        · cases j with
          | zero => cases hj
          | succ j => exact Nat.succ_add_eq_add_succ i j ▸ r2 j vp hj
      · cases h
    | some vp =>
      unfold solveInputs at h
      obtain ⟨a1, h1, h2⟩ := List.mem_flatMap.1 h
      obtain ⟨l1, g1, s1⟩ := solveV_spec E rec hrec P vp _ a a1 h1 hg (hq vp (List.mem_cons_self ..))
      obtain ⟨l2, g2, r1, r2⟩ := ih (i + 1) a1 a' h2 g1 hq'
      refine ⟨l1.trans l2, g2, fun j hj => ?_, fun j vp' hj => ?_⟩
      · cases j with
        | zero => cases hj
        | succ j => exact Nat.succ_add_eq_add_succ i j ▸ r1 j hj
      · cases j with
        | zero => cases hj; exact satV_mono l2.toALe s1
        | succ j => exact Nat.succ_add_eq_add_succ i j ▸ r2 j vp' hj

theorem solveNodeStep_spec (E : Env) (rec : NPId → NodeId → SA → List SA) (hrec : SolveNodeSpec E rec)
    (htopo : E.p.topoDeep) : SolveNodeSpec E (solveNodeStep E (solveV E rec)) := by
  intro np n a P a' h hg hlt
  unfold solveNodeStep at h
  split at h
  · next m hm =>
    split at h
    · next hmn =>
      cases List.mem_singleton.1 h
      subst hmn
      exact ⟨SALe.refl _, hg, (hg np m hm).resolve_left fun h => Nat.lt_irrefl _ (hlt np h)⟩
    · cases h
  · next hm =>
    split at h
    · next Pn N hP hN =>
      simp only [mem_ite_nil_left, Bool.or_eq_true, Bool.and_eq_true, Bool.not_eq_true', not_or, not_and,
        Bool.not_eq_false, decide_eq_true_eq] at h
      obtain ⟨_, ⟨hop, hdom⟩, hoa, hlen, h⟩ := h
      split at h
      · cases h
      · next a1 hat =>
        obtain ⟨l1, n1, at1⟩ := solveAttrs_spec N Pn.attrs a a1 hat
        obtain ⟨a3, h3, h4⟩ := List.mem_filterMap.1 h
        -- `a2`: the node is bound; it is in progress (`np :: P`) while its inputs are solved
        let a2 : SA := { a1 with node := a1.node ++ [(np, n)] }
        have l12 : SALe a1 a2 :=
          ⟨fun _ _ h => h, fun _ _ h => h, fun k x h => (List.prefix_append _ _).lookup_eq_some h⟩
        have hnp2 : a2.node.lookup np = some n := lookup_snoc_self _ _ _ (n1 ▸ hm)
        have g2 : GoodSA E a2 (np :: P) := by
          intro q m hq
          rcases lookup_snoc _ _ _ _ _ hq with hq1 | ⟨rfl, _⟩
          · exact ((hg.ext l1 n1) q m hq1).imp (List.mem_cons_of_mem _) (satN_mono l12.toALe)
          · exact .inl (List.mem_cons_self ..)
        have hq : ∀ vp, some vp ∈ Pn.inputs → ∀ q ∈ vp.refs, ∀ y ∈ np :: P, q < y := fun vp hin q hqr y hy =>
          (List.mem_cons.1 hy).elim (fun h => h ▸ htopo np Pn hP vp hin q hqr)
            fun h => Nat.lt_trans (htopo np Pn hP vp hin q hqr) (hlt y h)
        obtain ⟨l3, g3, r1, r2⟩ := solveInputs_spec E rec hrec (np :: P) N Pn.inputs 0 a2 a3 h3 g2 hq
        obtain ⟨l4, n4, o4⟩ := solveOutputs_spec E.p np N.outputs Pn.outputs 0 a3 a' h4
        have l14 : SALe a1 a' := (l12.trans l3).trans l4
        have hnode : a'.node.lookup np = some n := l4.n _ _ (l3.n _ _ hnp2)
        have hsat : SatN E a'.assign np n := by
          refine .mk np n Pn N hP hN hnode hop hdom
            ⟨fun name ap hmem => ⟨(at1 name ap hmem).1, fun nm e => l14.b _ _ ((at1 name ap hmem).2 nm e)⟩,
              fun hao x hx => ?_⟩
            ((Nat.lt_or_ge Pn.inputs.length N.inputs.length).elim (fun h => .inr (hlen h)) .inl)
            (fun i hi => Nat.zero_add i ▸ r1 i hi)
            (fun i vp hi => satV_mono l4.toALe (Nat.zero_add i ▸ r2 i vp hi))
            (fun i hi => o4 i (Nat.zero_le _) (by omega))
          -- `x` has a pattern among `Pn.attrs`, or the guard on other attributes would have fired
          cases hx' : Pn.attrs.any fun kv => kv.fst == x.name with
          | false => exact absurd (List.any_eq_true.2 ⟨x, hx, by rw [hx']; rfl⟩) (hoa hao)
          | true =>
            obtain ⟨kv, hk1, hk2⟩ := List.any_eq_true.1 hx'
            exact ⟨kv.2, (eq_of_beq hk2) ▸ hk1⟩
        refine ⟨l1.trans l14, fun q m hq' => ?_, hsat⟩
        rcases (g3.ext l4 n4) q m hq' with h' | h'
        · rcases List.mem_cons.1 h' with rfl | h''
          · cases hnode.symm.trans hq'
            exact .inr hsat
          · exact .inl h''
        · exact .inr h'
    · cases h

theorem solveN_spec (E : Env) (htopo : E.p.topoDeep) : ∀ f, SolveNodeSpec E (solveN E f)
  | 0 => fun _ _ _ _ _ h => nomatch h
  | f + 1 => solveNodeStep_spec E (solveN E f) (solveN_spec E htopo f) htopo

theorem solveOutNodes_spec (E : Env) (htopo : E.p.topoDeep) : ∀ (l : List NPId) (a a' : SA),
    a' ∈ solveOutNodes E l a → GoodSA E a [] →
    SALe a a' ∧ GoodSA E a' [] ∧ ∀ np ∈ l, ∃ n, SatN E a'.assign np n := by
  intro l
  induction l with
  | nil =>
    intro a a' h hg
    unfold solveOutNodes at h
    simp at h; subst h
    exact ⟨SALe.refl _, hg, fun _ h => by simp at h⟩
  | cons np rest ih =>
    intro a a' h hg
    unfold solveOutNodes at h
    simp only [List.mem_flatMap] at h
    obtain ⟨n, _, a1, h1, h2⟩ := h
    obtain ⟨l1, g1, s1⟩ := solveN_spec E htopo _ np n a [] a1 h1 hg (fun _ h => by simp at h)
    obtain ⟨l2, g2, r2⟩ := ih a1 a' h2 g1
    refine ⟨l1.trans l2, g2, fun np' hm => ?_⟩
    rcases List.mem_cons.1 hm with he | hm
    · subst he; exact ⟨n, satN_mono l2.toALe s1⟩
    · exact r2 np' hm

theorem solveStarts_spec (E : Env) (root : NodeId) (htopo : E.p.topoDeep) (hcond : E.p.cond = true) (a : SA)
    (h : a ∈ solveStarts E root) : Instance E root a.assign := by
  unfold solveStarts at h
  split at h
  · next hnil => exact ⟨by simp [hnil], by simp [hnil], hcond⟩
  · next np rest hcons =>
    simp only [List.mem_flatMap] at h
    obtain ⟨a1, h1, h2⟩ := h
    have g0 : GoodSA E ({} : SA) [] := by intro q m hq; simp at hq
    obtain ⟨l1, g1, s1⟩ := solveN_spec E htopo _ np root {} [] a1 h1 g0 (fun _ h => by simp at h)
    obtain ⟨l2, _, r2⟩ := solveOutNodes_spec E htopo rest a1 a h2 g1
    have s1' := satN_mono l2.toALe s1
    refine ⟨fun np' hh => ?_, fun np' hm => ?_, hcond⟩
    · simp [hcons] at hh; subst hh; exact satN_node s1'
    · rcases List.mem_cons.1 (hcons ▸ hm) with he | hm
      · subst he; exact ⟨root, satN_node s1', s1'⟩
      · obtain ⟨n, hn⟩ := r2 np' hm
        exact ⟨n, satN_node hn, hn⟩

theorem solve_sound_core (E : Env) (root : NodeId) (rm : Bool) (s : Sol) (htopo : E.p.topoDeep)
    (h : s ∈ solve E root rm) :
    ∃ A, Instance E root A ∧ E.p.outputs.mapM (A.outputOf E.p) = some s.outputs ∧
      (∀ k b, A.names k = some b → s.names.lookup k = some b) ∧
      (rm = true → Removable E.g s.nodes s.outputs) := by
  unfold solve at h
  split at h
  · simp at h
  · next hcond =>
    simp only [List.mem_filterMap] at h
    obtain ⟨a, ha, hf⟩ := h
    unfold finishSol at hf
    split at hf
    · cases hf
    · next outs ho =>
      split at hf
      · cases hf
      · next hv =>
        cases hf
        refine ⟨a.assign, solveStarts_spec E root htopo (by simpa using hcond) a ha, ho, fun k b hk => (inputs_fold_le E.p.inputs a.names).1 k b hk, fun hrm => ?_⟩
        subst hrm
        simp only [Bool.true_and, Bool.not_eq_true', Bool.not_eq_false] at hv
        exact validToReplace_removable _ _ _ (by simpa using hv)

end OV.C06
