import OV.Lemmas.C01Attr
import OV.Lemmas.Util
/-!
Forward simulation for straight-line code.  The source store and the graph environment are related by `StoreRel`:
a Python variable holding a tensor is bound to a non-castable ONNX value holding the same tensor; a variable holding a
Python scalar is bound to a castable value holding the `Constant` of that scalar.  Every converter function is shown
to preserve the relation while the emitted nodes evaluate to the value the source expression has.
-/
namespace OV.C01

variable {V : Type}

theorem evalNodes_append (S : Sem V) (fuel : Nat) : ∀ (a b : List Node) (ρ : Env V),
    evalNodes S fuel ρ (a ++ b) =
      (match evalNodes S fuel ρ a with
       | none => none
       | some ρ' => evalNodes S fuel ρ' b) := by
  intro a
  induction a with
  | nil => intro b ρ; simp [evalNodes]
  | cons n ns ih =>
    intro b ρ
    simp only [List.cons_append, evalNodes]
    cases evalNode S fuel ρ n with
    | none => rfl
    | some ρ' => simp only [ih]

theorem evalNodes_nil (S : Sem V) (fuel : Nat) (ρ : Env V) : evalNodes S fuel ρ [] = some ρ := by
  simp [evalNodes]

theorem evalNodes_seq {S : Sem V} {fuel : Nat} {a b : List Node} {ρ ρ1 ρ2 : Env V}
    (h1 : evalNodes S fuel ρ a = some ρ1) (h2 : evalNodes S fuel ρ1 b = some ρ2) :
    evalNodes S fuel ρ (a ++ b) = some ρ2 := by
  rw [evalNodes_append, h1]; exact h2

theorem evalNodes_opN {S : Sem V} {fuel : Nat} {ρ : Env V} {dom name : String} {ins : List (Option Name)}
    {outs : List Name} {attrs : List (String × AttrV)} {vs : List (Option V)} {rs : List V}
    (hins : ins.mapM ρ.getOpt = some vs) (hop : S.op dom name vs attrs = some rs) (hl : rs.length = outs.length) :
    evalNodes S fuel ρ [Node.op dom name ins outs attrs] = some (ρ.setMany outs rs) := by
  simp [evalNodes, evalNode, hins, hop, hl]

theorem evalNodes_op1 {S : Sem V} {fuel : Nat} {ρ : Env V} {dom name : String} {ins : List (Option Name)}
    {r : Name} {attrs : List (String × AttrV)} {vs : List (Option V)} {v : V}
    (hins : ins.mapM ρ.getOpt = some vs) (hop : S.op dom name vs attrs = some [v]) :
    evalNodes S fuel ρ [Node.op dom name ins [r] attrs] = some (ρ.set r v) :=
  evalNodes_opN hins hop rfl

theorem Env.set_same (ρ : Env V) (x : Name) (v : V) : (ρ.set x v) x = some v := by simp [Env.set]
theorem Env.set_other (ρ : Env V) {x y : Name} (v : V) (h : y ≠ x) : (ρ.set x v) y = ρ y := by
  simp [Env.set, h]

theorem envSetMany_frame : ∀ (rn : List Name) (rs : List V) (env : Env V) (y : Name),
    y ∉ rn → (Env.setMany env rn rs) y = env y
  | [], rs, env, y, _ => by cases rs <;> rfl
  | _ :: _, [], env, y, _ => rfl
  | r :: rn, v :: rs, env, y, hy => by
    simp only [Env.setMany]
    rw [envSetMany_frame rn rs _ y (fun hm => hy (List.mem_cons_of_mem _ hm))]
    exact Env.set_other env v (fun he => hy (he ▸ List.mem_cons_self))

theorem mapM_getOpt_some {ρ : Env V} : ∀ (xs : List Name) (vs : List V),
    xs.mapM ρ = some vs → (xs.map some).mapM ρ.getOpt = some (vs.map some)
  | [], vs, h => by simp at h; subst h; simp
  | x :: xs, vs, h => by
    obtain ⟨v, rest, hx, hr, rfl⟩ := List.mapM_cons_eq_some.mp h
    simp [List.mapM_cons, Env.getOpt, hx, mapM_getOpt_some xs rest hr]

theorem mapM_append_one {env : Env V} {outs : List Name} {vals : List V} {o : Name} {v : V}
    (h : outs.mapM env = some vals) (ho : env o = some v) : (outs ++ [o]).mapM env = some (vals ++ [v]) := by
  rw [List.mapM_eq_some_iff_map] at h ⊢
  simp only [List.map_append, h, List.map_cons, ho, List.map_nil]

inductive All2 {α β : Type} (R : α → β → Prop) : List α → List β → Prop
  | nil : All2 R [] []
  | cons (a : α) (b : β) (as : List α) (bs : List β) : R a b → All2 R as bs → All2 R (a :: as) (b :: bs)

theorem all2_length {α β : Type} {R : α → β → Prop} {as : List α} {bs : List β} (h : All2 R as bs) :
    as.length = bs.length := by
  induction h with
  | nil => rfl
  | cons _ _ _ _ _ _ ih => simp [ih]

/-- ONNX value `n` holds the Python-level value `pv`. -/
def RelV (S : Sem V) (env : Env V) (cast : List Name) (n : Name) : PV V → Prop
  | .t v => env n = some v ∧ n ∉ cast
  | .py l => (∃ c, constOf S l = some c ∧ env n = some c) ∧ n ∈ cast

def StoreRel (S : Sem V) (ρ : Store V) (L : Locals) (env : Env V) (cast : List Name) : Prop :=
  ∀ x pv, ρ x = some pv → ∃ n, lookup L x = some (.val n) ∧ RelV S env cast n pv

/-- What a computation may change: nothing about names that were already in use. -/
structure Ext (env env' : Env V) (s s' : St) : Prop where
  envSame : ∀ n, n ∈ s.used → env' n = env n
  castSame : ∀ n, n ∈ s.used → (n ∈ s'.castable ↔ n ∈ s.castable)

theorem evalNode_setMany {S : Sem V} {G : Nat} {env env' : Env V} {n : Node} (h : evalNode S G env n = some env') :
    ∃ rs, env' = env.setMany n.outs rs := by
  have last : ∀ {outs : List Name} {rs : List V},
      (if rs.length = outs.length then some (env.setMany outs rs) else none) = some env' →
      ∃ rs, env' = env.setMany outs rs := fun {outs rs} h => by
    split at h
    · cases h; exact ⟨rs, rfl⟩
    · cases h
  cases n with
  | op dom name ins outs attrs =>
    simp only [evalNode] at h
    cases h1 : ins.mapM env.getOpt with
    | none => simp [h1] at h
    | some vs =>
      cases h2 : S.op dom name vs attrs with
      | none => simp [h1, h2] at h
      | some rs => simp only [h1, h2] at h; exact last h
  | ifN c outs tn to en eo =>
    simp only [evalNode] at h
    cases h1 : env c with
    | none => simp [h1] at h
    | some cv =>
      cases h2 : S.truth cv with
      | none => simp [h1, h2] at h
      | some b =>
        -- whichever branch runs: its environment is dropped, only its outputs are read
        have branch : ∀ {bn : List Node} {bo : List Name},
            (match evalNodes S G env bn with
             | none => none
             | some ρ' => match ρ'.getMany bo with
               | none => none
               | some rs => if rs.length = outs.length then some (env.setMany outs rs) else none) = some env' →
            ∃ rs, env' = env.setMany outs rs := fun {bn bo} h => by
          cases h3 : evalNodes S G env bn with
          | none => simp [h3] at h
          | some ρ' =>
            cases h4 : ρ'.getMany bo with
            | none => simp [h3, h4] at h
            | some rs => simp only [h3, h4] at h; exact last h
        cases b <;> simp only [h1, h2] at h <;> exact branch h
  | loop b c inits outs bi bn bo =>
    cases G with
    | zero => simp [evalNode] at h
    | succ G =>
      simp only [evalNode] at h
      split at h
      · split at h
        · cases h
        · exact last h
      · cases h

theorem evalNodes_frame {S : Sem V} {G : Nat} : ∀ {ns : List Node} {env env' : Env V},
    evalNodes S G env ns = some env' → ∀ {x : Name}, x ∉ topDefs ns → env' x = env x
  | [], env, env', h, x, _ => by simp only [evalNodes] at h; cases h; rfl
  | n :: ns, env, env', h, x, hx => by
    simp only [evalNodes] at h
    cases h1 : evalNode S G env n with
    | none => simp [h1] at h
    | some env1 =>
      simp only [h1] at h
      obtain ⟨rs, rfl⟩ := evalNode_setMany h1
      rw [topDefs_cons, List.mem_append, not_or] at hx
      rw [evalNodes_frame h hx.2, envSetMany_frame _ _ _ x hx.1]

/-- The nodes a run of the converter emits define names it generated, so evaluating them leaves every name in use
before the run as it was; and the run is a `CastOK` step. -/
theorem Emits.ext {s s' : St} {ns : List Node} (h : Emits s s' ns) {S : Sem V} {G : Nat} {env env' : Env V}
    (ev : evalNodes S G env ns = some env') : Ext env env' s s' :=
  ⟨fun n hn => evalNodes_frame ev fun hd => (h.2.2 n (topDefs_sub_allDefsL ns n hd)).1 hn, h.1.ext⟩

theorem RelV.ext {S : Sem V} {env env' : Env V} {s s' : St} {n : Name} {pv : PV V}
    (h : RelV S env s.castable n pv) (hn : n ∈ s.used) (e : Ext env env' s s') :
    RelV S env' s'.castable n pv := by
  cases pv with
  | t v =>
    exact ⟨(e.envSame n hn).trans h.1, fun hc => h.2 ((e.castSame n hn).mp hc)⟩
  | py l =>
    obtain ⟨⟨c, hc, he⟩, hm⟩ := h
    exact ⟨⟨c, hc, (e.envSame n hn).trans he⟩, (e.castSame n hn).mpr hm⟩

theorem StoreRel.ext {S : Sem V} {ρ : Store V} {L : Locals} {env env' : Env V} {s s' : St}
    (h : StoreRel S ρ L env s.castable) (hL : VisOK s.used L) (e : Ext env env' s s') :
    StoreRel S ρ L env' s'.castable := by
  intro x pv hx
  obtain ⟨n, hl, hr⟩ := h x pv hx
  exact ⟨n, hl, hr.ext (hL.lookup hl) e⟩

theorem StoreRel.of_le {S : Sem V} {ρa ρb : Store V} {L : Locals} {env : Env V} {cast : List Name}
    (h : StoreRel S ρb L env cast) (hle : ∀ y q, ρa y = some q → ρb y = some q) : StoreRel S ρa L env cast :=
  fun y q hy => h y q (hle y q hy)

theorem RelV.plain {S : Sem V} {env : Env V} {cast : List Name} {n : Name} {pv : PV V}
    (h : RelV S env cast n pv) {v : V} (hp : plainVal S pv = some v) : env n = some v := by
  cases pv with
  | t w => simp only [plainVal] at hp; cases hp; exact h.1
  | py l =>
    obtain ⟨⟨c, hc, he⟩, _⟩ := h
    simp only [plainVal] at hp
    rw [hc] at hp; cases hp; exact he

theorem mapM_ext {env env' : Env V} {s s' : St} {outs : List Name} {vals : List V}
    (h : outs.mapM env = some vals) (hu : ∀ o, o ∈ outs → o ∈ s.used) (e : Ext env env' s s') :
    outs.mapM env' = some vals :=
  (List.mapM_congr_some fun o ho => e.envSame o (hu o ho)).trans h

theorem constOf_op {S : Sem V} {l : Lit} {c : V} (h : constOf S l = some c) :
    S.op "" "Constant" [] [("value", .const (litPayload l))] = some [c] := by
  unfold constOf at h
  split at h
  · rename_i v hv; cases h; exact hv
  · cases h

theorem emitConst_sim (S : Sem V) (fuel : Nat) (env : Env V) {l : Lit} {sug : Option Name} {x : Name}
    {ns : List Node} {s s' : St} {c : V} (hc : constOf S l = some c)
    (h : emitConst l sug s = .ok ((x, ns), s')) :
    evalNodes S fuel env ns = some (env.set x c) ∧ RelV S (env.set x c) s'.castable x (.py l) := by
  obtain ⟨s1, hn, hm, rfl⟩ := emitConst_ok h
  unfold markCastable at hm
  cases hm
  exact ⟨evalNodes_op1 (by simp) (constOf_op hc), ⟨c, hc, Env.set_same _ _ _⟩, by simp⟩

/-! ## Promotion: static (`castInputs`, by castable names) versus dynamic (`argVals`, by Python scalars) -/

def BRel (env : Env V) (bs : List (String × Name)) (vb : List (String × V)) : Prop :=
  All2 (fun p q => p.1 = q.1 ∧ env p.2 = some q.2) bs vb

theorem bindings_rel {S : Sem V} {env : Env V} {cast : List Name} {sig : Sig} :
    ∀ (as : List Name) (pvs : List (PV V)), All2 (RelV S env cast) as pvs →
    ∀ (i : Nat) (acc : List (String × Name)) (vacc : List (String × V)) {bs : List (String × Name)}
      {vb : List (String × V)}, BRel env acc vacc →
      castBindings sig cast as i acc = some bs → valBindings sig pvs i vacc = some vb → BRel env bs vb := by
  intro as pvs hrel
  induction hrel with
  | nil =>
    intro i acc vacc bs vb hacc h1 h2
    simp only [castBindings] at h1
    simp only [valBindings] at h2
    cases h1; cases h2
    exact hacc
  | cons a pv as' pvs' hr _ ih =>
    intro i acc vacc bs vb hacc h1 h2
    unfold castBindings at h1
    unfold valBindings at h2
    cases hf : formalTv sig i with
    | none => simp only [hf] at h1; cases h1
    | some otv =>
      cases otv with
      | none =>
        simp only [hf] at h1 h2
        exact ih _ _ _ hacc h1 h2
      | some tv =>
        simp only [hf] at h1 h2
        cases pv with
        | t v =>
          have hnc : cast.contains a = false := by
            simpa using hr.2
          simp only [hnc] at h1
          simp only at h2
          exact ih _ _ _ (All2.cons _ _ _ _ ⟨rfl, hr.1⟩ hacc) h1 h2
        | py l =>
          have hc : cast.contains a = true := by simpa using hr.2
          simp only [hc, if_true] at h1
          simp only at h2
          exact ih _ _ _ hacc h1 h2

theorem find_rel {env : Env V} {bs : List (String × Name)} {vb : List (String × V)} (h : BRel env bs vb)
    (tv : String) :
    (findBinding bs tv = none ∧ findVal vb tv = none) ∨
      (∃ y v, findBinding bs tv = some y ∧ findVal vb tv = some v ∧ env y = some v) := by
  induction h with
  | nil => left; simp [findBinding, findVal]
  | cons p q bs' vb' hp _ ih =>
    obtain ⟨t, y⟩ := p
    obtain ⟨t', v⟩ := q
    simp only at hp
    obtain ⟨rfl, he⟩ := hp
    unfold findBinding findVal
    by_cases ht : t = tv
    · right; exact ⟨y, v, by simp [ht], by simp [ht], he⟩
    · simp only [ht, if_false]; exact ih

theorem target_rel {env : Env V} {bs : List (String × Name)} {vb : List (String × V)} (h : BRel env bs vb)
    (sig : Sig) (i : Nat) :
    (castTarget sig bs i = none ∧ valTarget sig vb i = none) ∨
      (∃ y v, castTarget sig bs i = some y ∧ valTarget sig vb i = some v ∧ env y = some v) := by
  unfold castTarget valTarget
  cases formalTv sig i with
  | none => left; exact ⟨rfl, rfl⟩
  | some otv =>
    cases otv with
    | none => left; exact ⟨rfl, rfl⟩
    | some tv => exact find_rel h tv

theorem BRel.ext {env env' : Env V} {s s' : St} {bs : List (String × Name)} {vb : List (String × V)}
    (h : BRel env bs vb) (hu : ∀ t y, (t, y) ∈ bs → y ∈ s.used) (e : Ext env env' s s') : BRel env' bs vb := by
  induction h with
  | nil => exact All2.nil
  | cons p q bs' vb' hp _ ih =>
    refine All2.cons _ _ _ _ ⟨hp.1, ?_⟩ (ih (fun t y hm => hu t y (List.mem_cons_of_mem _ hm)))
    rw [e.envSame _ (hu p.1 p.2 List.mem_cons_self)]
    exact hp.2

theorem All2.relV_ext {S : Sem V} {env env' : Env V} {s s' : St} {as : List Name} {pvs : List (PV V)}
    (h : All2 (RelV S env s.castable) as pvs) (hu : ∀ a, a ∈ as → a ∈ s.used) (e : Ext env env' s s') :
    All2 (RelV S env' s'.castable) as pvs := by
  induction h with
  | nil => exact All2.nil
  | cons a b as bs hr _ ih =>
    exact All2.cons _ _ _ _ (hr.ext (hu _ List.mem_cons_self) e)
      (ih (fun a ha => hu a (List.mem_cons_of_mem _ ha)))

theorem castOne_sim (S : Sem V) (fuel : Nat) {env : Env V} {s s1 : St} {a x : Name} {pv : PV V}
    {tgt : Option Name} {vtgt : Option V} {n1 : List Node} {v : V}
    (hr : RelV S env s.castable a pv) (ha : a ∈ s.used)
    (ht : (tgt = none ∧ vtgt = none) ∨ (∃ y yv, tgt = some y ∧ vtgt = some yv ∧ env y = some yv))
    (h : castOne a tgt s = .ok ((x, n1), s1)) (hv : promoteOne S pv vtgt = some v) :
    ∃ env1, evalNodes S fuel env n1 = some env1 ∧ env1 x = some v ∧ x ∈ s1.used := by
  rcases castOne_ok h with ⟨hg, rfl, rfl, rfl⟩ | ⟨y, rfl, hcc, hg, rfl⟩
  · -- no cast node: the operand is passed as it is
    refine ⟨env, evalNodes_nil _ _ _, ?_, ha⟩
    cases pv with
    | t w => simp only [promoteOne] at hv; cases hv; exact hr.1
    | py l =>
      obtain ⟨⟨c, hc, hea⟩, hm⟩ := hr
      simp only [promoteOne, hc] at hv
      rcases ht with ⟨_, rfl⟩ | ⟨y, yv, rfl, _, _⟩
      · cases hv; exact hea
      · rcases hg with hg | hg
        · cases hg
        · rw [List.contains_iff_mem.mpr hm] at hg; cases hg
  · cases pv with
    | t w => exact absurd (List.contains_iff_mem.mp hcc) hr.2
    | py l =>
      obtain ⟨⟨c, hc, hea⟩, _⟩ := hr
      obtain ⟨hy, _⟩ | ⟨y', yv, hy, rfl, hey⟩ := ht
      · cases hy
      · cases hy
        simp only [promoteOne, hc] at hv
        obtain ⟨hfresh, hused, _⟩ := genUnique_spec hg
        split at hv
        · rename_i w hop
          cases hv
          exact ⟨env.set x v, evalNodes_op1 (vs := [some c, some yv])
            (by simp [List.mapM_cons, Env.getOpt, hea, hey]) hop, Env.set_same _ _ _,
            by rw [hused]; exact List.mem_cons_self⟩
        · cases hv

theorem castArgs_sim (S : Sem V) (fuel : Nat) {sig : Sig} {bs : List (String × Name)} {vb : List (String × V)}
    {as : List Name} {i : Nat} {s s' : St} {xs : List Name} {ns : List Node}
    (h : castArgs sig bs as i s = .ok ((xs, ns), s')) : ∀ {pvs : List (PV V)} {env : Env V} {vs : List V},
    All2 (RelV S env s.castable) as pvs → (∀ a, a ∈ as → a ∈ s.used) → BRel env bs vb →
    (∀ t y, (t, y) ∈ bs → y ∈ s.used) → promoteArgs S sig vb pvs i = some vs →
    ∃ env', evalNodes S fuel env ns = some env' ∧ xs.mapM env' = some vs := by
  refine castArgs_induct (P := fun as i s xs ns s' => ∀ {pvs : List (PV V)} {env : Env V} {vs : List V},
    All2 (RelV S env s.castable) as pvs → (∀ a, a ∈ as → a ∈ s.used) → BRel env bs vb →
    (∀ t y, (t, y) ∈ bs → y ∈ s.used) → promoteArgs S sig vb pvs i = some vs →
    ∃ env', evalNodes S fuel env ns = some env' ∧ xs.mapM env' = some vs) ?_ ?_ h
  · intro i s pvs env vs hrel _ _ _ hv
    cases hrel
    simp only [promoteArgs] at hv
    cases hv
    exact ⟨env, evalNodes_nil _ _ _, by simp⟩
  · intro a as i s x n1 s1 xs ns s' hc hrec ih pvs env vs hrel hused hb hbu hv
    cases hrel with
    | cons _ pv _ pvs' hr hrest =>
      unfold promoteArgs at hv
      cases hone : promoteOne S pv (valTarget sig vb i) with
      | none => simp [hone] at hv
      | some v =>
        cases hrestv : promoteArgs S sig vb pvs' (i + 1) with
        | none => simp [hone, hrestv] at hv
        | some vs' =>
          simp only [hone, hrestv] at hv
          cases hv
          have m1 := ((castOne_fresh hc).1).mono
          obtain ⟨env1, ev1, hx, hxu⟩ :=
            castOne_sim S fuel hr (hused a List.mem_cons_self) (target_rel hb sig i) hc hone
          have e1 := (castOne_fresh hc).ext ev1
          obtain ⟨env2, ev2, hm2⟩ := ih
            (hrest.relV_ext (fun a' ha' => hused a' (List.mem_cons_of_mem _ ha')) e1)
            (fun a' ha' => m1 _ (hused a' (List.mem_cons_of_mem _ ha'))) (hb.ext hbu e1)
            (fun t y hm => m1 _ (hbu t y hm)) hrestv
          refine ⟨env2, evalNodes_seq ev1 ev2, ?_⟩
          simp [List.mapM_cons, ((castArgs_fresh hrec).ext ev2).envSame x hxu, hx, hm2]

theorem all2_plain_mapM {S : Sem V} {env : Env V} {cast : List Name} :
    ∀ {as : List Name} {pvs : List (PV V)}, All2 (RelV S env cast) as pvs → ∀ {vs : List V},
      pvs.mapM (plainVal S) = some vs → as.mapM env = some vs := by
  intro as pvs h
  induction h with
  | nil => intro vs hv; simp at hv; subst hv; simp
  | cons a pv as' pvs' hr _ ih =>
    intro vs hv
    obtain ⟨v, vs', hp, hr', rfl⟩ := List.mapM_cons_eq_some.mp hv
    simp [List.mapM_cons, hr.plain hp, ih hr']

theorem castInputs_sim (S : Sem V) (fuel : Nat) {sig : Sig} {as : List Name} {pvs : List (PV V)}
    {env : Env V} {s s' : St} {xs : List Name} {ns : List Node} {vs : List V}
    (hrel : All2 (RelV S env s.castable) as pvs) (hused : ∀ a, a ∈ as → a ∈ s.used)
    (h : castInputs sig as s = .ok ((xs, ns), s')) (hv : argVals S sig pvs = some vs) :
    ∃ env', evalNodes S fuel env ns = some env' ∧ xs.mapM env' = some vs := by
  unfold argVals at hv
  rcases castInputs_ok h with ⟨hk, rfl, rfl, rfl⟩ | ⟨bs, hk, hbs, h⟩
  · simp only [hk, Bool.not_false, if_true] at hv
    exact ⟨env, evalNodes_nil _ _ _, all2_plain_mapM hrel hv⟩
  · simp only [hk, Bool.not_true, Bool.false_eq_true, if_false] at hv
    cases hvb : valBindings sig pvs 0 [] with
    | none => simp only [hvb] at hv; cases hv
    | some vb =>
      simp only [hvb] at hv
      have hbu : ∀ t y, (t, y) ∈ bs → y ∈ s.used := by
        intro t y hm
        rcases castBindings_mem as 0 [] hbs t y hm with h' | h'
        · exact hused y h'
        · cases h'
      exact castArgs_sim S fuel h hrel hused (bindings_rel as pvs hrel 0 [] [] All2.nil hbs hvb) hbu hv

/-- What `_to_onnx_var` emits for the attribute parameter `p` — `Constant(value_<kind>=@p)`, for a `bool` followed
by a `Cast` to BOOL — yields what `Constant` of the literal `l` yields: the operators read `@p` as the constant of
the Python value `l` the closure gives `p`. -/
def AttrVal (S : Sem V) (p : Name) (ty : AttrTy) (l : Lit) : Prop :=
  ∀ c, constOf S l = some c →
    if ty = .bool then
      ∃ c1, S.op "" "Constant" [] [("value_int", .ref p)] = some [c1] ∧
        S.op "" "Cast" [some c1] [("to", .const "i:9")] = some [c]
    else ∃ an, attrValueName ty = some an ∧ S.op "" "Constant" [] [(an, .ref p)] = some [c]

/-- The attribute bindings in scope are identity bindings (`alpha ↦ AttrRef alpha`, so that keyword arguments
`alpha=alpha` are passed on unchanged: `convAttrs_id`), and every attribute parameter the closure gives a Python
value (`S.attrLit`) is still bound to itself, the operators reading `@x` as the constant of that value (`AttrVal`). -/
def NoAttrBind (S : Sem V) (L : Locals) : Prop :=
  (∀ x p ty, lookup L x = some (.attr p ty) → p = x) ∧
  (∀ x l, S.attrLit x = some l → ∃ ty, lookup L x = some (.attr x ty) ∧ AttrVal S x ty l)

theorem attrVar_sim (S : Sem V) (fuel : Nat) (env : Env V) {p : Name} {ty : AttrTy} {tgt : Name} {l : Lit}
    {x : Name} {ns : List Node} {s s' : St} {c : V} (hv : AttrVal S p ty l) (hc : constOf S l = some c)
    (h : toOnnxVar (.attr p ty) tgt s = .ok ((x, ns), s')) :
    ∃ env', evalNodes S fuel env ns = some env' ∧ RelV S env' s'.castable x (.py l) := by
  have hv' := hv c hc
  obtain ⟨an, r, s1, han, hr, hcase⟩ := toOnnxVar_attr_ok h
  rcases hcase with ⟨hb, rfl, hm, rfl⟩ | ⟨s2, rfl, hrb, hm, rfl⟩
  · unfold markCastable at hm
    cases hm
    rw [if_neg hb] at hv'
    obtain ⟨an', han', hop⟩ := hv'
    rw [han] at han'
    cases han'
    exact ⟨env.set x c, evalNodes_op1 (by simp) hop, ⟨c, hc, Env.set_same _ _ _⟩, by simp⟩
  · unfold markCastable at hm
    cases hm
    rw [if_pos rfl] at hv'
    obtain ⟨c1, hop1, hop2⟩ := hv'
    simp only [attrValueName] at han
    cases han
    exact ⟨(env.set r c1).set x c, evalNodes_seq (a := [_]) (b := [_]) (evalNodes_op1 (by simp) hop1)
        (evalNodes_op1 (vs := [some c1]) (by simp [List.mapM_cons, Env.getOpt, Env.set_same]) hop2),
      ⟨c, hc, Env.set_same _ _ _⟩, by simp⟩

def TFree (S : Sem V) (ts : List Name) : Prop := ∀ x, x ∈ ts → S.attrLit x = none ∧ x ∉ S.pyVars

theorem TFree.sub {S : Sem V} {ts ts' : List Name} (h : TFree S ts) (hs : ∀ x, x ∈ ts' → x ∈ ts) : TFree S ts' :=
  fun x hx => h x (hs x hx)

theorem TFree.head {S : Sem V} {st : Stmt} {ss : List Stmt} (h : TFree S (targetsBlock (st :: ss))) :
    TFree S (targetsStmt st) ∧ TFree S (targetsBlock ss) :=
  ⟨h.sub (fun x hx => by simp [targetsBlock, hx]), h.sub (fun x hx => by simp [targetsBlock, hx])⟩

/-- None of the names `ts` (the names a statement may bind, or reads as a bare right-hand side) is bound to an
attribute in `L` — an attribute parameter that is re-assigned inside a branch or a loop would be exported as a
castable `Constant` (C01-D24) — or is one of the Python-scalar variables. -/
def FreeOf (S : Sem V) (L : Locals) (ts : List Name) : Prop :=
  ∀ x, x ∈ ts → (∀ p ty, lookup L x ≠ some (.attr p ty)) ∧ x ∉ S.pyVars

theorem FreeOf.mono {S : Sem V} {L L' : Locals} {ts : List Name} (h : FreeOf S L ts) (m : AttrMono L L') :
    FreeOf S L' ts :=
  fun x hx => ⟨fun p ty hl => (h x hx).1 p ty (m x p ty hl), (h x hx).2⟩

theorem FreeOf.sub {S : Sem V} {L : Locals} {ts ts' : List Name} (h : FreeOf S L ts) (hs : ∀ x, x ∈ ts' → x ∈ ts) :
    FreeOf S L ts' :=
  fun x hx => h x (hs x hx)

theorem FreeOf.head {S : Sem V} {L : Locals} {st : Stmt} {ss : List Stmt} (h : FreeOf S L (targetsBlock (st :: ss))) :
    FreeOf S L (targetsStmt st) ∧ FreeOf S L (targetsBlock ss) :=
  ⟨h.sub (fun x hx => by simp [targetsBlock, hx]), h.sub (fun x hx => by simp [targetsBlock, hx])⟩

theorem TFree.of_free {S : Sem V} {L : Locals} {ts : List Name} (hA : NoAttrBind S L) (hf : FreeOf S L ts) :
    TFree S ts := by
  intro x hx
  refine ⟨?_, (hf x hx).2⟩
  cases h : S.attrLit x with
  | none => rfl
  | some l =>
    obtain ⟨ty, hl, _⟩ := hA.2 x l h
    exact absurd hl ((hf x hx).1 x ty)

theorem convAttrs_id {S : Sem V} {L : Locals} (hL : NoAttrBind S L) : ∀ (attrs attrs' : List (String × AttrV)),
    convAttrs L attrs = .ok attrs' → attrs' = attrs := by
  intro attrs
  induction attrs with
  | nil => intro attrs' h; simp only [convAttrs] at h; cases h; rfl
  | cons kv rest ih =>
    intro attrs' h
    obtain ⟨k, v⟩ := kv
    have tail : ∀ {v' : AttrV}, (do let rs ← convAttrs L rest; Except.ok ((k, v') :: rs)) = .ok attrs' →
        attrs' = (k, v') :: rest := by
      intro v' h
      cases hr : convAttrs L rest with
      | error e => simp [hr, bind, Except.bind] at h
      | ok rs =>
        simp [hr, bind, Except.bind] at h
        cases h
        rw [ih rs hr]
    cases v with
    | const r => simp only [convAttrs] at h; exact tail h
    | ref p =>
      simp only [convAttrs] at h
      cases hl : lookup L p with
      | none => simp [hl] at h
      | some b =>
        cases b with
        | val n => simp [hl] at h
        | attr q ty =>
          obtain rfl : q = p := hL.1 p q ty hl
          simp only [hl] at h
          exact tail h

/-- Where the simulation stands: the scope mentions only names in use and binds attribute parameters to themselves,
the store is related to the environment, and castable names are in use. -/
structure SimAt (S : Sem V) (ρ : Store V) (L : Locals) (env : Env V) (s : St) : Prop where
  vis : VisOK s.used L
  noattr : NoAttrBind S L
  rel : StoreRel S ρ L env s.castable
  cast : CastSub s

/-- The simulation moves along a piece of emitted code that has been evaluated: nothing in use changes. -/
theorem SimAt.step {S : Sem V} {ρ : Store V} {L : Locals} {env env' : Env V} {s s' : St} {ns : List Node} {G : Nat}
    (h : SimAt S ρ L env s) (f : Emits s s' ns) (ev : evalNodes S G env ns = some env') : SimAt S ρ L env' s' :=
  ⟨h.vis.mono f.1.mono, h.noattr, h.rel.ext h.vis (f.ext ev), f.1.sub h.cast⟩

theorem RelV.step {S : Sem V} {env env' : Env V} {s s' : St} {n : Name} {pv : PV V} {ns : List Node} {G : Nat}
    (h : RelV S env s.castable n pv) (hn : n ∈ s.used) (f : Emits s s' ns) (ev : evalNodes S G env ns = some env') :
    RelV S env' s'.castable n pv :=
  h.ext hn (f.ext ev)

/-- Conclusion of the expression simulation: the nodes evaluate, and the result holds the value. -/
def ExprSim (S : Sem V) (fuel : Nat) (env : Env V) (s' : St) (x : Name) (ns : List Node) (pv : PV V) : Prop :=
  ∃ env', evalNodes S fuel env ns = some env' ∧ RelV S env' s'.castable x pv

theorem opN_node_sim (S : Sem V) (fuel : Nat) {env : Env V} {s s' : St} {dom op : String}
    {xs : List Name} {vs rs : List V} {attrs : List (String × AttrV)} {cands outs : List Name}
    (hm : xs.mapM env = some vs) (hop : S.op dom op (vs.map some) attrs = some rs)
    (hg : genUniques cands s = .ok (outs, s')) (hl : rs.length = cands.length) (hs : CastSub s) :
    evalNodes S fuel env [Node.op dom op (xs.map some) outs attrs] = some (env.setMany outs rs)
      ∧ outs.Nodup ∧ outs.length = cands.length ∧ ∀ o, o ∈ outs → o ∉ s'.castable := by
  obtain ⟨_, f, l⟩ := genUniques_fresh _ hg
  refine ⟨evalNodes_opN (mapM_getOpt_some xs vs hm) hop (by rw [hl, l]), f.1, l, fun o ho hc => ?_⟩
  rw [genUniques_castable _ hg] at hc
  exact (f.2 o ho).1 (hs o hc)

theorem op_node_sim (S : Sem V) (fuel : Nat) {env : Env V} {s s' : St} {dom op : String}
    {xs : List Name} {vs : List V} {attrs : List (String × AttrV)} {r : Name} {v : V}
    (hm : xs.mapM env = some vs) (hop : S.op dom op (vs.map some) attrs = some [v])
    (hg : genUnique (r' : Name) s = .ok (r, s')) (hs : CastSub s) :
    evalNodes S fuel env [Node.op dom op (xs.map some) [r] attrs] = some (env.set r v)
      ∧ RelV S (env.set r v) s'.castable r (.t v) := by
  obtain ⟨hfresh, _, hc⟩ := genUnique_spec hg
  refine ⟨evalNodes_op1 (mapM_getOpt_some xs vs hm) hop, Env.set_same _ _ _, ?_⟩
  rw [hc]
  exact fun hm' => hfresh (hs r hm')

theorem convExpr_result_used {L : Locals} {e : Expr} {tgt : Option Name} {x : Name} {ns : List Node}
    {s s' : St} (hL : VisOK s.used L) (h : convExpr L e tgt s = .ok ((x, ns), s')) : x ∈ s'.used :=
  after_in_used (convExpr_fresh L e tgt h) (convExpr_scope L e tgt hL h).2

theorem convArgs_result_used {L : Locals} {es : List Expr} {xs : List Name} {ns : List Node}
    {s s' : St} (hL : VisOK s.used L) (h : convArgs L es s = .ok ((xs, ns), s')) : ∀ x, x ∈ xs → x ∈ s'.used :=
  fun x hx => after_in_used (convArgs_fresh L es h) ((convArgs_scope L es hL h).2 x hx)

/-- Two operands translated one after the other, then cast against a signature. -/
theorem cast2_sim (S : Sem V) (fuel : Nat) {L : Locals} {a b : Expr} {sig : Sig} {env1 env2 : Env V} {s s1 s2 s3 : St}
    {l r : Name} {ns1 ns2 ns3 : List Node} {pa pb : PV V} {as' : List Name} {vs : List V} (hL : VisOK s.used L)
    (h1 : convExpr L a none s = .ok ((l, ns1), s1)) (r1 : RelV S env1 s1.castable l pa)
    (h2 : convExpr L b none s1 = .ok ((r, ns2), s2)) (ev2 : evalNodes S fuel env1 ns2 = some env2)
    (r2 : RelV S env2 s2.castable r pb)
    (h3 : castInputs sig [l, r] s2 = .ok ((as', ns3), s3)) (hav : argVals S sig [pa, pb] = some vs) :
    ∃ env3, evalNodes S fuel env2 ns3 = some env3 ∧ as'.mapM env3 = some vs := by
  have f2 := convExpr_fresh L b none h2
  have hl := convExpr_result_used hL h1
  have hr := convExpr_result_used (hL.mono (convExpr_fresh L a none h1).1.mono) h2
  refine castInputs_sim S fuel (All2.cons _ _ _ _ (r1.step hl f2 ev2) (All2.cons _ _ _ _ r2 All2.nil))
    (fun y hy => ?_) h3 hav
  simp only [List.mem_cons, List.mem_nil_iff, or_false] at hy
  rcases hy with rfl | rfl
  · exact f2.1.mono _ hl
  · exact hr

theorem exprRules_sim (S : Sem V) (fuel : Nat) (hConst : ∀ l, ∃ c, constOf S l = some c) (ρ : Store V)
    (L : Locals) : ExprRules L
    (fun e _ s x ns s' => ∀ (env : Env V) (pv : PV V), SimAt S ρ L env s → evalExpr S ρ e = some pv →
      ExprSim S fuel env s' x ns pv)
    (fun es s xs ns s' => ∀ (env : Env V) (pvs : List (PV V)), SimAt S ρ L env s → evalExprs S ρ es = some pvs →
      ∃ env', evalNodes S fuel env ns = some env' ∧ All2 (RelV S env' s'.castable) xs pvs) where
  var := @fun v tgt s x ns s' h env pv hat he => by
    unfold evalExpr at he
    cases hρ : ρ v with
    | some pv0 =>
      simp only [hρ] at he
      cases he
      obtain ⟨n, hl, hr⟩ := hat.rel v pv hρ
      obtain ⟨b, hl', h⟩ := pyVar_ok h
      rw [hl] at hl'
      cases hl'
      obtain ⟨rfl, rfl, rfl⟩ := toOnnxVar_val_ok h
      exact ⟨env, evalNodes_nil _ _ _, hr⟩
    | none =>
      -- an attribute parameter read as a value: `Constant(value_<kind>=@v)`, castable like a literal
      simp only [hρ] at he
      cases hal : S.attrLit v with
      | none => simp [hal] at he
      | some l =>
        simp only [hal, Option.map_some] at he
        cases he
        obtain ⟨ty, hl, hval⟩ := hat.noattr.2 v l hal
        obtain ⟨b, hl', h⟩ := pyVar_ok h
        rw [hl] at hl'
        cases hl'
        obtain ⟨c, hc⟩ := hConst l
        exact attrVar_sim S fuel env hval hc h
  lit := @fun l tgt s x ns s' h env pv _ he => by
    unfold evalExpr at he
    cases he
    obtain ⟨c, hc⟩ := hConst l
    exact ⟨_, emitConst_sim S fuel env hc h⟩
  call := @fun dom op sig args attrs tgt s as ns1 s1 attrs' as' ns2 s2 r s' h1 ih ha h3 h4 env pv hat he => by
    obtain ⟨pvs, hargs, hsing⟩ := evalExpr_call_some he
    obtain ⟨v, vs, hav, hop, rfl⟩ := single_applyOp_some hsing
    obtain rfl : attrs' = attrs := convAttrs_id hat.noattr _ _ ha
    obtain ⟨env1, ev1, hrel1⟩ := ih env pvs hat hargs
    obtain ⟨env3, ev3, hm3⟩ := castInputs_sim S fuel hrel1 (convArgs_result_used hat.vis h1) h3 hav
    have at3 := (hat.step (convArgs_fresh L args h1) ev1).step (castInputs_fresh h3) ev3
    obtain ⟨ev4, r4⟩ := op_node_sim S fuel hm3 hop h4 at3.cast
    exact ⟨_, evalNodes_seq ev1 (evalNodes_seq ev3 ev4), r4⟩
  binop := @fun o a b tgt oname s l ns1 s1 r ns2 s2 as' ns3 s3 res s' hp h1 iha h2 ihb h3 h4 env pv hat he => by
    obtain ⟨oname', pa, pb, hp', hea, heb, hsing⟩ := evalExpr_binop_some he
    obtain rfl : oname' = oname := by rw [hp] at hp'; cases hp'; rfl
    obtain ⟨v, vs, hav, hop, rfl⟩ := single_applyOp_some hsing
    obtain ⟨env1, ev1, r1⟩ := iha env pa hat hea
    have at1 := hat.step (convExpr_fresh L a none h1) ev1
    obtain ⟨env2, ev2, r2⟩ := ihb env1 pb at1 heb
    obtain ⟨env3, ev3, hm3⟩ := cast2_sim S fuel hat.vis h1 r1 h2 ev2 r2 h3 hav
    have at3 := (at1.step (convExpr_fresh L b none h2) ev2).step (castInputs_fresh h3) ev3
    obtain ⟨ev4, r4⟩ := op_node_sim S fuel hm3 hop h4 at3.cast
    exact ⟨_, evalNodes_seq ev1 (evalNodes_seq ev2 (evalNodes_seq ev3 ev4)), r4⟩
  neg := @fun o a tgt oname l s x ns s' hp hn h env pv _ he => by
    unfold evalExpr at he
    simp only [hp, hn] at he
    cases he
    obtain ⟨c, hc⟩ := hConst (negLit l)
    exact ⟨_, emitConst_sim S fuel env hc h⟩
  unop := @fun o a tgt oname s y ns1 s1 res s' hp hn h1 ih h4 env pv hat he => by
    obtain ⟨oname', pa, hp', hea, hsing⟩ := evalExpr_unop_some hn he
    obtain rfl : oname' = oname := by rw [hp] at hp'; cases hp'; rfl
    obtain ⟨v, vs, hav, hop, rfl⟩ := single_applyOp_some hsing
    obtain ⟨env1, ev1, r1⟩ := ih env pa hat hea
    have hm : [y].mapM env1 = some vs :=
      all2_plain_mapM (All2.cons _ _ _ _ r1 All2.nil) (by simpa [argVals] using hav)
    obtain ⟨ev4, r4⟩ := op_node_sim S fuel (xs := [y]) hm hop h4 (hat.step (convExpr_fresh L a none h1) ev1).cast
    exact ⟨_, evalNodes_seq ev1 ev4, r4⟩
  cmpNe := @fun o a b tgt s l ns1 s1 r ns2 s2 as' ns3 s3 tmp s4 res s' hp h1 iha h2 ihb h3 h4 h5 env pv hat he => by
    -- `a != b` is `Not(Equal(a, b))`
    obtain ⟨oname, pa, pb, hp', hea, heb, hres⟩ := evalExpr_cmp_some he
    obtain rfl : oname = "NotEqual" := by rw [hp] at hp'; cases hp'; rfl
    rw [if_pos rfl] at hres
    obtain ⟨e0, hap, hnot⟩ := hres
    obtain ⟨v, hnot', rfl⟩ := single_some hnot
    obtain ⟨vs, hav, hop⟩ := applyOp_some hap
    obtain ⟨env1, ev1, r1⟩ := iha env pa hat hea
    have at1 := hat.step (convExpr_fresh L a none h1) ev1
    obtain ⟨env2, ev2, r2⟩ := ihb env1 pb at1 heb
    obtain ⟨env3, ev3, hm3⟩ := cast2_sim S fuel hat.vis h1 r1 h2 ev2 r2 h3 hav
    have at3 := (at1.step (convExpr_fresh L b none h2) ev2).step (castInputs_fresh h3) ev3
    obtain ⟨ev4, _⟩ := op_node_sim S fuel hm3 hop h4 at3.cast
    have hm5 : [tmp].mapM (env3.set tmp e0) = some [e0] := by simp [Env.set_same]
    obtain ⟨ev5, r5⟩ := op_node_sim S fuel (xs := [tmp]) hm5 hnot' h5 ((genUnique_fresh h4).1.sub at3.cast)
    exact ⟨_, evalNodes_seq ev1 (evalNodes_seq ev2 (evalNodes_seq ev3 (evalNodes_seq (a := [_]) (b := [_]) ev4 ev5))),
      r5⟩
  cmp := @fun o a b tgt oname s l ns1 s1 r ns2 s2 as' ns3 s3 res s' hp hne h1 iha h2 ihb h3 h4 env pv hat he => by
    obtain ⟨oname', pa, pb, hp', hea, heb, hres⟩ := evalExpr_cmp_some he
    obtain rfl : oname' = oname := by rw [hp] at hp'; cases hp'; rfl
    rw [if_neg hne] at hres
    obtain ⟨v, vs, hav, hop, rfl⟩ := single_applyOp_some hres
    obtain ⟨env1, ev1, r1⟩ := iha env pa hat hea
    have at1 := hat.step (convExpr_fresh L a none h1) ev1
    obtain ⟨env2, ev2, r2⟩ := ihb env1 pb at1 heb
    obtain ⟨env3, ev3, hm3⟩ := cast2_sim S fuel hat.vis h1 r1 h2 ev2 r2 h3 hav
    have at3 := (at1.step (convExpr_fresh L b none h2) ev2).step (castInputs_fresh h3) ev3
    obtain ⟨ev4, r4⟩ := op_node_sim S fuel hm3 hop h4 at3.cast
    exact ⟨_, evalNodes_seq ev1 (evalNodes_seq ev2 (evalNodes_seq ev3 ev4)), r4⟩
  subscript := @fun base idx tgt s v ns1 s1 r ns2 s' _ _ _ env pv _ he => by
    unfold evalExpr at he
    cases he
  nil := @fun s env pvs _ he => by
    unfold evalExprs at he
    cases he
    exact ⟨env, evalNodes_nil _ _ _, All2.nil⟩
  cons := @fun e es s y ns1 s1 ys ns2 s' h1 ih1 h2 ih2 env pvs hat he => by
    obtain ⟨pa, prest, hea, hes, rfl⟩ := evalExprs_cons_some he
    obtain ⟨env1, ev1, r1⟩ := ih1 env pa hat hea
    obtain ⟨env2, ev2, r2⟩ := ih2 env1 prest (hat.step (convExpr_fresh L e none h1) ev1) hes
    exact ⟨env2, evalNodes_seq ev1 ev2,
      All2.cons _ _ _ _ (r1.step (convExpr_result_used hat.vis h1) (convArgs_fresh L es h2) ev2) r2⟩

theorem convExpr_sim (S : Sem V) (fuel : Nat) (hConst : ∀ l, ∃ c, constOf S l = some c) (ρ : Store V)
    (L : Locals) (e : Expr) (tgt : Option Name) {env : Env V} {s s' : St} {x : Name}
    {ns : List Node} {pv : PV V} (hat : SimAt S ρ L env s) (he : evalExpr S ρ e = some pv)
    (h : convExpr L e tgt s = .ok ((x, ns), s')) : ExprSim S fuel env s' x ns pv :=
  (exprRules_sim S fuel hConst ρ L).expr e tgt h env pv hat he

theorem convArgs_sim (S : Sem V) (fuel : Nat) (hConst : ∀ l, ∃ c, constOf S l = some c) (ρ : Store V)
    (L : Locals) (es : List Expr) {env : Env V} {s s' : St} {xs : List Name}
    {ns : List Node} {pvs : List (PV V)} (hat : SimAt S ρ L env s) (he : evalExprs S ρ es = some pvs)
    (h : convArgs L es s = .ok ((xs, ns), s')) :
    ∃ env', evalNodes S fuel env ns = some env' ∧ All2 (RelV S env' s'.castable) xs pvs :=
  (exprRules_sim S fuel hConst ρ L).args es h env pvs hat he

theorem NoAttrBind.bindVal {S : Sem V} {L : Locals} (h : NoAttrBind S L) (x n : Name)
    (hx : S.attrLit x = none) : NoAttrBind S (bindVar L x (.val n)) := by
  refine ⟨fun y p ty hl => ?_, fun y l hy => ?_⟩
  · by_cases hy : y = x
    · subst hy
      rw [lookup_bindVar_same] at hl
      cases hl
    · rw [lookup_bindVar_ne hy] at hl
      exact h.1 y p ty hl
  · have hyx : y ≠ x := fun he => by rw [he, hx] at hy; cases hy
    obtain ⟨ty, hl, hv⟩ := h.2 y l hy
    exact ⟨ty, by rw [lookup_bindVar_ne hyx]; exact hl, hv⟩

theorem NoAttrBind.push {S : Sem V} {L : Locals} (h : NoAttrBind S L) : NoAttrBind S ([] :: L) :=
  ⟨fun x p ty hl => h.1 x p ty (by rw [lookup_push] at hl; exact hl),
   fun x l hx => by
     obtain ⟨ty, hl, hv⟩ := h.2 x l hx
     exact ⟨ty, by rw [lookup_push]; exact hl, hv⟩⟩

theorem NoAttrBind.bindVals {S : Sem V} : ∀ {L : Locals} (_ : NoAttrBind S L) (xs ns : List Name),
    (∀ x, x ∈ xs → S.attrLit x = none) → NoAttrBind S (OV.C01.bindVals L xs ns)
  | _, h, [], ns, _ => by cases ns <;> exact h
  | _, h, _ :: _, [], _ => h
  | _, h, x :: xs, n :: ns, hxs =>
    NoAttrBind.bindVals (h.bindVal x n (hxs x List.mem_cons_self)) xs ns
      (fun y hy => hxs y (List.mem_cons_of_mem _ hy))

theorem storeRel_bind {S : Sem V} {ρ : Store V} {L : Locals} {env : Env V} {cast : List Name}
    (hR : StoreRel S ρ L env cast) {x t : Name} {pv : PV V} (hr : RelV S env cast t pv) :
    StoreRel S (ρ.set x pv) (bindVar L x (.val t)) env cast := by
  intro y pv' hy
  unfold Store.set at hy
  by_cases hyx : y = x
  · subst hyx
    simp only [if_true] at hy
    cases hy
    exact ⟨t, lookup_bindVar_same _ _ _, hr⟩
  · simp only [hyx, if_false] at hy
    obtain ⟨n, hl, hr'⟩ := hR y pv' hy
    exact ⟨n, by rw [lookup_bindVar_ne hyx]; exact hl, hr'⟩

theorem storeRel_bindVals {S : Sem V} {env : Env V} {cast : List Name} :
    ∀ {ts : List Name} {pvs : List (PV V)}, All2 (RelV S env cast) ts pvs → ∀ (xs : List Name) {ρ : Store V}
      {L : Locals}, StoreRel S ρ L env cast → StoreRel S (ρ.setMany xs pvs) (bindVals L xs ts) env cast := by
  intro ts pvs h
  induction h with
  | nil => intro xs ρ L hR; cases xs <;> exact hR
  | cons t pv ts' pvs' hr _ ih =>
    intro xs ρ L hR
    cases xs with
    | nil => exact hR
    | cons x xs => exact ih xs (storeRel_bind hR hr)

/-- Conclusion of the simulation of a statement: the nodes evaluate, and the simulation stands again at the store
`ρ'`, the scope `L'` and the state `s'` after the statement. -/
def StmtSim (S : Sem V) (fuel : Nat) (ρ' : Store V) (L' : Locals) (env : Env V) (s' : St) (ns : List Node) : Prop :=
  ∃ env', evalNodes S fuel env ns = some env' ∧ SimAt S ρ' L' env' s'

theorem convStmt_vis {L L' : Locals} {st : Stmt} {lo : VSet} {ns : List Node} {s s' : St} (hL : VisOK s.used L)
    (h : convStmt L st lo s = .ok ((L', ns), s')) : VisOK s'.used L' :=
  (convStmt_scope L st lo hL (fun _ hx => hx) h).2.mono (fun _ hy => after_in_used (convStmt_fresh L st lo h) hy)

/-- The targets `xs` of an assignment are bound to the translated right-hand sides `ts`. -/
theorem bindVals_sim {S : Sem V} {fuel : Nat} {ρ : Store V} {L L' : Locals} {st : Stmt} {lo : VSet} {env env1 : Env V}
    {s s' : St} {ns : List Node} {xs ts : List Name} {pvs : List (PV V)}
    (hat : SimAt S ρ L env s) (hxs : ∀ x, x ∈ xs → S.attrLit x = none)
    (h : convStmt L st lo s = .ok ((L', ns), s')) (hL' : L' = bindVals L xs ts)
    (ev : evalNodes S fuel env ns = some env1) (hr : All2 (RelV S env1 s'.castable) ts pvs) :
    StmtSim S fuel (ρ.setMany xs pvs) L' env s' ns := by
  have hv := convStmt_vis hat.vis h
  have at1 := hat.step (convStmt_fresh L st lo h) ev
  subst hL'
  exact ⟨env1, ev, hv, hat.noattr.bindVals _ _ hxs, storeRel_bindVals hr xs at1.rel, at1.cast⟩

theorem assign_sim (S : Sem V) (fuel : Nat) (hConst : ∀ l, ∃ c, constOf S l = some c) {ρ : Store V}
    {L : Locals} {x : Name} {e : Expr} {lo : VSet} {env : Env V} {s s' : St}
    {L' : Locals} {ns : List Node} {pv : PV V} (hat : SimAt S ρ L env s) (hx : S.attrLit x = none)
    (he : evalExpr S ρ e = some pv) (h : convStmt L (.assign x e) lo s = .ok ((L', ns), s')) :
    StmtSim S fuel (ρ.set x pv) L' env s' ns := by
  obtain ⟨t, h1, hL'⟩ := convStmt_assign_ok h
  obtain ⟨env1, ev1, r1⟩ := convExpr_sim S fuel hConst ρ L e _ hat he h1
  exact bindVals_sim (xs := [x]) (ts := [t]) (pvs := [pv]) hat (by simpa using hx) h hL' ev1
    (All2.cons _ _ _ _ r1 All2.nil)

theorem convParExprs_sim (S : Sem V) (fuel : Nat) (hConst : ∀ l, ∃ c, constOf S l = some c) (ρ : Store V)
    (L : Locals) {xs : List Name} {es : List Expr} {s s' : St} {ts : List Name}
    {ns : List Node} (h : convParExprs L xs es s = .ok ((ts, ns), s')) : xs.length = es.length →
    ∀ {env : Env V} {pvs : List (PV V)}, SimAt S ρ L env s → evalExprs S ρ es = some pvs →
    ∃ env', evalNodes S fuel env ns = some env' ∧ All2 (RelV S env' s'.castable) ts pvs := by
  refine convParExprs_induct (P := fun xs es s ts ns s' => xs.length = es.length →
    ∀ {env : Env V} {pvs : List (PV V)}, SimAt S ρ L env s → evalExprs S ρ es = some pvs →
    ∃ env', evalNodes S fuel env ns = some env' ∧ All2 (RelV S env' s'.castable) ts pvs) ?_ ?_ h
  · intro xs es s hnil hlen env pvs _ he
    have : es = [] := hnil.elim (fun hx => List.eq_nil_of_length_eq_zero (by rw [← hlen, hx]; rfl)) id
    subst this
    unfold evalExprs at he
    cases he
    exact ⟨env, evalNodes_nil _ _ _, All2.nil⟩
  · intro x xs e es s t ns1 s1 ts ns2 s' h1 h2 ih hlen env pvs hat he
    obtain ⟨pa, prest, hea, hes, rfl⟩ := evalExprs_cons_some he
    obtain ⟨env1, ev1, r1⟩ := convExpr_sim S fuel hConst ρ L e _ hat hea h1
    obtain ⟨env2, ev2, r2⟩ := ih (by simpa using hlen) (hat.step (convExpr_fresh L e _ h1) ev1) hes
    exact ⟨env2, evalNodes_seq ev1 ev2,
      All2.cons _ _ _ _ (r1.step (convExpr_result_used hat.vis h1) (convParExprs_fresh h2) ev2) r2⟩

theorem par_sim (S : Sem V) (fuel : Nat) (hConst : ∀ l, ∃ c, constOf S l = some c) {ρ : Store V}
    {L : Locals} {xs : List Name} {es : List Expr} {lo : VSet} {env : Env V} {s s' : St}
    {L' : Locals} {ns : List Node} {pvs : List (PV V)} (hat : SimAt S ρ L env s)
    (hxs : ∀ x, x ∈ xs → S.attrLit x = none)
    (he : evalExprs S ρ es = some pvs) (h : convStmt L (.par xs es) lo s = .ok ((L', ns), s')) :
    StmtSim S fuel (ρ.setMany xs pvs) L' env s' ns := by
  obtain ⟨hl, ts, h1, hL'⟩ := convStmt_par_ok h
  obtain ⟨env1, ev1, r1⟩ := convParExprs_sim S fuel hConst ρ L h1 hl hat he
  exact bindVals_sim hat hxs h hL' ev1 r1

theorem relV_setMany (S : Sem V) (cast : List Name) : ∀ (outs : List Name) (rs : List V) (env : Env V),
    outs.Nodup → rs.length = outs.length → (∀ o, o ∈ outs → o ∉ cast) →
    All2 (RelV S (env.setMany outs rs) cast) outs (rs.map PV.t)
  | [], [], _, _, _, _ => All2.nil
  | [], _ :: _, _, _, hl, _ => by simp at hl
  | _ :: _, [], _, _, hl, _ => by simp at hl
  | o :: outs, r :: rs, env, hnd, hl, hc => by
    obtain ⟨ho, hnd'⟩ := List.nodup_cons.mp hnd
    refine All2.cons _ _ _ _ ⟨?_, hc o List.mem_cons_self⟩
      (relV_setMany S cast outs rs (env.set o r) hnd' (by simpa using hl)
        (fun o' ho' => hc o' (List.mem_cons_of_mem _ ho')))
    show (Env.setMany (env.set o r) outs rs) o = some r
    rw [envSetMany_frame outs rs _ o ho]
    exact Env.set_same _ _ _

theorem tuple_sim (S : Sem V) (fuel : Nat) (hConst : ∀ l, ∃ c, constOf S l = some c) {xs : List Name}
    {dom op : String} {sig : Sig} {args : List Expr} {attrs : List (String × AttrV)} {lo : VSet}
    {ρ : Store V} {L L' : Locals} {env : Env V} {s s' : St} {ns : List Node}
    {pvs : List (PV V)} {rs : List V} (hat : SimAt S ρ L env s) (hxs : ∀ x, x ∈ xs → S.attrLit x = none)
    (hargs : evalExprs S ρ args = some pvs) (hap : applyOp S dom op sig pvs attrs = some rs)
    (hl : rs.length = xs.length)
    (h : convStmt L (.tuple xs (.call dom op sig args attrs)) lo s = .ok ((L', ns), s')) :
    StmtSim S fuel (ρ.setMany xs (rs.map PV.t)) L' env s' ns := by
  obtain ⟨vs, hav, hop⟩ := applyOp_some hap
  obtain ⟨as, ns1, s1, attrs', as', ns2, s3, outs, h1, hca, h3, h4, hL', rfl⟩ := convStmt_tuple_ok h
  obtain rfl := convAttrs_id hat.noattr _ _ hca
  obtain ⟨env1, ev1, hrel1⟩ := convArgs_sim S fuel hConst ρ L args hat hargs h1
  obtain ⟨env3, ev3, hm3⟩ := castInputs_sim S fuel hrel1 (convArgs_result_used hat.vis h1) h3 hav
  have at3 := (hat.step (convArgs_fresh L args h1) ev1).step (castInputs_fresh h3) ev3
  obtain ⟨evN, hnd, hlen, hnc⟩ := opN_node_sim S fuel hm3 hop h4 hl at3.cast
  exact bindVals_sim hat hxs h hL' (evalNodes_seq ev1 (evalNodes_seq ev3 evN))
    (relV_setMany S _ outs rs env3 hnd (by rw [hl, hlen]) hnc)

theorem emitCopy_sim (S : Sem V) (fuel : Nat) (hId : ∀ v, S.op "" "Identity" [some v] [] = some [v])
    {env : Env V} {o sug x : Name} {ns : List Node} {s s' : St} {v : V}
    (ho : env o = some v) (h : emitCopy o sug s = .ok ((x, ns), s')) :
    evalNodes S fuel env ns = some (env.set x v) ∧ x ∈ s'.used := by
  obtain ⟨hn, rfl⟩ := emitCopy_ok h
  obtain ⟨_, hu, _⟩ := genUnique_spec hn
  exact ⟨evalNodes_op1 (vs := [some v]) (by simp [List.mapM_cons, Env.getOpt, ho]) (hId v),
    by rw [hu]; exact List.mem_cons_self⟩

theorem toTensor_eq_plain (S : Sem V) (pv : PV V) : toTensor S pv = plainVal S pv := by
  cases pv <;> rfl

theorem convRetOne_sim (S : Sem V) (fuel : Nat) (hConst : ∀ l, ∃ c, constOf S l = some c)
    (hId : ∀ v, S.op "" "Identity" [some v] [] = some [v]) {ρ : Store V} {L : Locals}
    {inputs : List Name} {e : Expr} {pref : Name} {outs : List Name} {o : Name} {ns : List Node}
    {env : Env V} {s s' : St} {pv : PV V} {v : V} (hat : SimAt S ρ L env s)
    (he : evalExpr S ρ e = some pv) (hv : toTensor S pv = some v)
    (h : convRetOne L inputs e pref outs s = .ok ((o, ns), s')) :
    ∃ env', evalNodes S fuel env ns = some env' ∧ env' o = some v ∧ o ∈ s'.used := by
  obtain ⟨rv, ns1, s1, rv2, ns2, s2, ns3, h1, copy1, copy2, rfl⟩ := convRetOne_ok h
  obtain ⟨env1, ev1, r1⟩ := convExpr_sim S fuel hConst ρ L e _ hat he h1
  have hval : env1 rv = some v := r1.plain (by rw [← toTensor_eq_plain]; exact hv)
  -- optional copy of a graph input
  obtain ⟨env2, ev2, hv2, hu2⟩ : ∃ env2, evalNodes S fuel env1 ns2 = some env2 ∧ env2 rv2 = some v ∧
      rv2 ∈ s2.used := by
    rcases copy1 with ⟨_, h2⟩ | ⟨_, rfl, rfl, rfl⟩
    · obtain ⟨a, c⟩ := emitCopy_sim S fuel hId hval h2
      exact ⟨_, a, Env.set_same _ _ _, c⟩
    · exact ⟨env1, evalNodes_nil _ _ _, hval, convExpr_result_used hat.vis h1⟩
  rcases copy2 with ⟨_, h3⟩ | ⟨_, rfl, rfl, rfl⟩
  · -- a value that is an output already is copied
    obtain ⟨a, c⟩ := emitCopy_sim S fuel hId hv2 h3
    exact ⟨_, evalNodes_seq ev1 (evalNodes_seq ev2 a), Env.set_same _ _ _, c⟩
  · exact ⟨env2, evalNodes_seq ev1 (evalNodes_seq ev2 (evalNodes_nil _ _ _)), hv2, hu2⟩

theorem convRetAll_sim (S : Sem V) (fuel : Nat) (hConst : ∀ l, ∃ c, constOf S l = some c)
    (hId : ∀ v, S.op "" "Identity" [some v] [] = some [v]) {ρ : Store V} {L : Locals}
    {inputs : List Name} {single : Bool} {es : List Expr} {i : Nat} {outs : List Name} {s s' : St}
    {outs' : List Name} {ns : List Node} (h : convRetAll L inputs single es i outs s = .ok ((outs', ns), s')) :
    ∀ {env : Env V} {pvs : List (PV V)} {vals vs : List V}, SimAt S ρ L env s →
    outs.mapM env = some vals → (∀ o, o ∈ outs → o ∈ s.used) →
    evalExprs S ρ es = some pvs → pvs.mapM (toTensor S) = some vs →
    ∃ env', evalNodes S fuel env ns = some env' ∧ outs'.mapM env' = some (vals ++ vs) := by
  refine convRetAll_induct (P := fun es _ outs s outs' ns _ =>
    ∀ {env : Env V} {pvs : List (PV V)} {vals vs : List V}, SimAt S ρ L env s →
    outs.mapM env = some vals → (∀ o, o ∈ outs → o ∈ s.used) →
    evalExprs S ρ es = some pvs → pvs.mapM (toTensor S) = some vs →
    ∃ env', evalNodes S fuel env ns = some env' ∧ outs'.mapM env' = some (vals ++ vs)) ?_ ?_ h
  · intro i outs s env pvs vals vs _ ho _ he hv
    unfold evalExprs at he
    cases he
    simp at hv
    subst hv
    exact ⟨env, evalNodes_nil _ _ _, by simpa using ho⟩
  · intro e es i outs s o ns1 s1 outs' ns2 s' h1 _ ih env pvs vals vs hat ho hou he hv
    obtain ⟨pa, prest, hea, hes, rfl⟩ := evalExprs_cons_some he
    obtain ⟨va, vr, hta, htr, rfl⟩ := List.mapM_cons_eq_some.mp hv
    have f1 := convRetOne_fresh h1
    obtain ⟨env1, ev1, ho1, hu1⟩ := convRetOne_sim S fuel hConst hId hat hea hta h1
    obtain ⟨env2, ev2, hm2⟩ := ih (hat.step f1 ev1) (mapM_append_one (mapM_ext ho hou (f1.ext ev1)) ho1)
      (fun o' ho'' => by
        rcases List.mem_append.mp ho'' with ho'' | ho''
        · exact f1.1.mono _ (hou o' ho'')
        · simp only [List.mem_singleton] at ho''; subst ho''; exact hu1) hes htr
    exact ⟨env2, evalNodes_seq ev1 ev2, by simpa [List.append_assoc] using hm2⟩

theorem ret_sim (S : Sem V) (fuel : Nat) (hConst : ∀ l, ∃ c, constOf S l = some c)
    (hId : ∀ v, S.op "" "Identity" [some v] [] = some [v]) {ρ : Store V} {L : Locals}
    {inputs : List Name} {rc : Option Nat} {es : List Expr} {env : Env V} {s s' : St} {outs : List Name}
    {ns : List Node} {pvs : List (PV V)} {vs : List V} (hat : SimAt S ρ L env s)
    (he : evalExprs S ρ es = some pvs) (hv : pvs.mapM (toTensor S) = some vs)
    (h : convTop inputs rc L [.ret es false] [] s = .ok ((ns, outs), s')) :
    ∃ env', evalNodes S fuel env ns = some env' ∧ outs.mapM env' = some vs := by
  obtain ⟨single, hall⟩ := convTop_ret_ok h
  simpa using convRetAll_sim S fuel hConst hId hall (vals := []) hat (by simp)
    (fun o ho => by cases ho) he hv

theorem sl_step (S : Sem V) (fuel : Nat) (hConst : ∀ l, ∃ c, constOf S l = some c) {st : Stmt} {ss : List Stmt}
    (hsl : straightLineT (st :: ss) = true) :
    (∃ es, st = .ret es false ∧ ss = []) ∨
    (straightLineT ss = true ∧ (∀ es b, st ≠ .ret es b) ∧
      ∀ {ρ : Store V} {L L' : Locals} {env : Env V} {s s' : St} {ns : List Node} {o : Outcome V} {lo : VSet},
        (∀ x, x ∈ targetsStmt st → S.attrLit x = none) → SimAt S ρ L env s →
        evalStmt S fuel st ρ = some o →
        convStmt L st lo s = .ok ((L', ns), s') → ∃ ρ', o = .normal ρ' ∧ StmtSim S fuel ρ' L' env s' ns) := by
  cases st with
  | assign x e =>
    refine Or.inr ⟨by simpa [straightLineT] using hsl, (fun _ _ hc => by cases hc), ?_⟩
    intro ρ L L' env s s' ns o lo ht hat he h
    obtain ⟨pv, hee, rfl⟩ := evalStmt_assign_some he
    exact ⟨_, rfl, assign_sim S fuel hConst hat (ht x (by simp [targetsStmt])) hee h⟩
  | par xs es =>
    refine Or.inr ⟨by simpa [straightLineT] using hsl, (fun _ _ hc => by cases hc), ?_⟩
    intro ρ L L' env s s' ns o lo ht hat he h
    obtain ⟨pvs, hee, _, rfl⟩ := evalStmt_par_some he
    exact ⟨_, rfl, par_sim S fuel hConst hat (fun x hx => ht x (by simp [targetsStmt, hx])) hee h⟩
  | tuple xs e =>
    cases e with
    | call dom op sig args attrs =>
      refine Or.inr ⟨by simpa [straightLineT] using hsl, (fun _ _ hc => by cases hc), ?_⟩
      intro ρ L L' env s s' ns o lo ht hat he h
      obtain ⟨pvs, rs, hargs, hap, hl, rfl⟩ := evalStmt_tuple_some he
      exact ⟨_, rfl, tuple_sim S fuel hConst hat (fun x hx => ht x (by simp [targetsStmt, hx])) hargs hap hl h⟩
    | _ => simp [straightLineT] at hsl
  | skip =>
    refine Or.inr ⟨by simpa [straightLineT] using hsl, (fun _ _ hc => by cases hc), ?_⟩
    intro ρ L L' env s s' ns o lo _ hat he h
    unfold evalStmt at he
    cases he
    obtain ⟨rfl, rfl, rfl⟩ := convStmt_skip_ok h
    exact ⟨ρ, rfl, env, evalNodes_nil _ _ _, hat⟩
  | ret es bare =>
    cases ss with
    | cons _ _ => simp [straightLineT] at hsl
    | nil =>
      simp only [straightLineT, Bool.not_eq_true'] at hsl
      exact Or.inl ⟨es, by rw [hsl], rfl⟩
  | _ => simp [straightLineT] at hsl

theorem convTop_sl_sim (S : Sem V) (fuel : Nat) (hConst : ∀ l, ∃ c, constOf S l = some c)
    (hId : ∀ v, S.op "" "Identity" [some v] [] = some [v]) {inputs : List Name} {rc : Option Nat} :
    ∀ (body : List Stmt) (L : Locals) {ρ : Store V} {env : Env V} {s s' : St} {ns : List Node}
      {outs : List Name} {pvs : List (PV V)} {vs : List V},
      straightLineT body = true → (∀ x, x ∈ targetsBlock body → S.attrLit x = none) →
      SimAt S ρ L env s →
      evalBlock S fuel body ρ = some (.returned pvs) → pvs.mapM (toTensor S) = some vs →
      convTop inputs rc L body [] s = .ok ((ns, outs), s') →
      ∃ env', evalNodes S fuel env ns = some env' ∧ outs.mapM env' = some vs
  | [], _, _, _, _, _, _, _, _, _, hsl, _, _, _, _, _ => by simp [straightLineT] at hsl
  | st :: ss, L, ρ, env, s, s', ns, outs, pvs, vs, hsl, ht, hat, he, hv, h => by
    obtain ⟨o1, hst, hrest⟩ := evalBlock_cons_some he
    rcases sl_step S fuel hConst hsl with ⟨es, rfl, rfl⟩ | ⟨hss, hnr, step⟩
    · obtain ⟨pvs', hes, rfl⟩ := evalStmt_ret_some hst
      cases hrest
      exact ret_sim S fuel hConst hId hat hes hv h
    · obtain ⟨L1, ns1, s1, ns2, h1, h2, rfl⟩ := convTop_cons_ok hnr h
      obtain ⟨ρ1, rfl, env1, ev1, at1⟩ := step (fun x hx => ht x (by simp [targetsBlock, hx])) hat hst h1
      obtain ⟨env2, ev2, hm2⟩ := convTop_sl_sim S fuel hConst hId ss L1 hss
        (fun x hx => ht x (by simp [targetsBlock, hx])) at1 hrest hv h2
      exact ⟨env2, evalNodes_seq ev1 ev2, hm2⟩

def AllTensorParams (ps : List Param) : Prop := ∀ p, p ∈ ps → ∃ x, p = Param.tensor x

theorem paramFrame_vals : ∀ (ps : List Param), AllTensorParams ps → ∀ q, q ∈ paramFrame ps → ∃ n, q.2 = Bind.val n := by
  intro ps hall q hq
  obtain ⟨p, hp, rfl⟩ := mem_paramFrame.mp hq
  obtain ⟨x, rfl⟩ := hall p hp
  exact ⟨x, rfl⟩

theorem noAttrBind_paramFrame {S : Sem V} (ps : List Param) (hn : (ps.map Param.name).Nodup)
    (hσ : ∀ x l, S.attrLit x = some l → ∃ ty, Param.attr x ty ∈ ps ∧ AttrVal S x ty l) :
    NoAttrBind S [paramFrame ps] := by
  refine ⟨fun x p ty hl => ?_, fun x l hx => ?_⟩
  · obtain ⟨fr, hfr, hm⟩ := lookup_mem hl
    simp only [List.mem_singleton] at hfr
    subst hfr
    exact (paramFrame_attr_ident ps x p ty hm).1
  · obtain ⟨ty, hm, hv⟩ := hσ x l hx
    refine ⟨ty, ?_, hv⟩
    simp only [lookup]
    rw [paramFrame_find_attr ps x ty hn hm]

theorem freeOf_paramFrame {S : Sem V} (ps : List Param) (ts : List Name)
    (h : ∀ p, p ∈ attrParams ps → p ∉ ts) (hP : ∀ x, x ∈ S.pyVars → x ∉ ts) : FreeOf S [paramFrame ps] ts := by
  intro x hx
  refine ⟨fun p ty hl => ?_, fun hm => hP x hm hx⟩
  obtain ⟨fr, hfr, hm⟩ := lookup_mem hl
  simp only [List.mem_singleton] at hfr
  subst hfr
  exact h x (paramFrame_attr_ident ps x p ty hm).2 hx

def AllT (S : Sem V) (ρ : Store V) : Prop := ∀ x pv, ρ x = some pv → x ∉ S.pyVars → ∃ v, pv = PV.t v

theorem setMany_entry : ∀ (xs : List Name) (vs : List V) (ρb : Store V) (eb : Env V),
    (∀ x, ρb x = (eb x).map PV.t) →
    ∀ x, (Store.setMany ρb xs (vs.map PV.t)) x = ((Env.setMany eb xs vs) x).map PV.t
  | [], vs, ρb, eb, hb, x => by cases vs <;> exact hb x
  | _ :: _, [], ρb, eb, hb, x => hb x
  | y :: ys, v :: vs, ρb, eb, hb, x => by
    simp only [List.map_cons, Store.setMany, Env.setMany]
    apply setMany_entry ys vs
    intro z
    unfold Store.set Env.set
    by_cases hz : z = y
    · simp [hz]
    · simp [hz, hb z]

theorem setMany_dom : ∀ (xs : List Name) (vs : List V) (eb : Env V) (x : Name) (v : V),
    (Env.setMany eb xs vs) x = some v → x ∈ xs ∨ eb x = some v
  | [], vs, eb, x, v, h => by cases vs <;> exact Or.inr h
  | _ :: _, [], eb, x, v, h => Or.inr h
  | y :: ys, w :: ws, eb, x, v, h => by
    simp only [Env.setMany] at h
    rcases setMany_dom ys ws _ x v h with h' | h'
    · exact Or.inl (List.mem_cons_of_mem _ h')
    · unfold Env.set at h'
      by_cases hx : x = y
      · exact Or.inl (hx ▸ List.mem_cons_self)
      · simp only [hx, if_false] at h'; exact Or.inr h'

theorem envSetMany_defined : ∀ (xs : List Name) (vs : List V) (eb : Env V) (x : Name),
    xs.length = vs.length → x ∈ xs → (Env.setMany eb xs vs) x ≠ none
  | [], _, _, x, _, hx => by cases hx
  | _ :: _, [], _, _, hl, _ => by simp at hl
  | y :: ys, v :: vs, eb, x, hl, hx => by
    simp only [Env.setMany]
    by_cases hm : x ∈ ys
    · exact envSetMany_defined ys vs _ x (by simpa using hl) hm
    · rcases List.mem_cons.mp hx with rfl | hx'
      · rw [envSetMany_frame ys vs _ x hm]
        simp [Env.set]
      · exact absurd hx' hm

/-- A function the converter accepts and that runs as Python: the translation of its body and the run of its body,
started from a store and an environment that are related and satisfy what the simulation invariants ask; and
evaluating the emitted nodes to the returned values is evaluating the graph. -/
theorem convert_entry (S : Sem V) {f : Func} {g : Graph}
    (hσ : ∀ x l, S.attrLit x = some l → ∃ ty, Param.attr x ty ∈ f.params ∧ AttrVal S x ty l)
    (hnames : (f.params.map Param.name).Nodup) (h : convert f = .ok g)
    {fuel : Nat} {args vs : List V} (he : evalFunc S fuel f args = some vs) :
    ∃ (ρ : Store V) (env : Env V) (s s' : St) (ns : List Node) (outs : List Name) (pvs : List (PV V)),
      convTop (tensorParams f.params) f.retCount [paramFrame f.params] f.body [] s = .ok ((ns, outs), s') ∧
      evalBlock S fuel f.body ρ = some (.returned pvs) ∧ pvs.mapM (toTensor S) = some vs ∧
      VisOK s.used [paramFrame f.params] ∧ NoAttrBind S [paramFrame f.params] ∧ CastSub s ∧
      StoreRel S ρ [paramFrame f.params] env s.castable ∧ AllT S ρ ∧
      (∀ x n, lookup [paramFrame f.params] x = some (.val n) → ρ x ≠ none) ∧
      ∀ G env', evalNodes S G env ns = some env' → outs.mapM env' = some vs → evalGraph S G g args = some vs := by
  obtain ⟨ns, outs, s', hc, rfl⟩ := convert_ok h
  unfold evalFunc at he
  simp only at he
  by_cases hlen : args.length = (tensorParams f.params).length
  · rw [if_pos hlen] at he
    cases hb : evalBlock S fuel f.body
        (Store.setMany (fun _ => none) (tensorParams f.params) (args.map PV.t)) with
    | none => simp [hb] at he
    | some o =>
      cases o with
      | normal _ => simp [hb] at he
      | broke _ => simp [hb] at he
      | returned pvs =>
        simp only [hb] at he
        have hst := setMany_entry (tensorParams f.params) args (fun _ => none) (fun _ => none) (fun _ => rfl)
        have hvar : ∀ x pv, Store.setMany (fun _ => none) (tensorParams f.params) (args.map PV.t) x = some pv →
            ∃ v, pv = .t v ∧ Env.setMany (fun _ => none) (tensorParams f.params) args x = some v ∧
              x ∈ tensorParams f.params := by
          intro x pv hx
          rw [hst] at hx
          cases hev : Env.setMany (fun _ => none) (tensorParams f.params) args x with
          | none => simp [hev] at hx
          | some v =>
            simp only [hev, Option.map_some] at hx
            cases hx
            refine ⟨v, rfl, rfl, ?_⟩
            rcases setMany_dom _ _ _ _ _ hev with h' | h'
            · exact h'
            · cases h'
        refine ⟨_, Env.setMany (fun _ => none) (tensorParams f.params) args, _, s', ns, outs, pvs, hc, hb, he,
          ?_, noAttrBind_paramFrame _ hnames hσ, (fun n hn => by cases hn), ?_, ?_, ?_, ?_⟩
        · intro fr hfr p hp n hn
          simp only [List.mem_singleton] at hfr
          subst hfr
          simpa using paramFrame_vis _ p hp n hn
        · intro x pv hx
          obtain ⟨v, rfl, hev, hmem⟩ := hvar x pv hx
          refine ⟨x, ?_, hev, by simp⟩
          simp only [lookup]
          rw [paramFrame_find _ x hnames hmem]
        · intro x pv hx _
          obtain ⟨v, rfl, _⟩ := hvar x pv hx
          exact ⟨v, rfl⟩
        · intro x n hl
          obtain ⟨fr, hfr, hm⟩ := lookup_mem hl
          simp only [List.mem_singleton] at hfr
          subst hfr
          rw [hst]
          cases hev : Env.setMany (fun _ => none) (tensorParams f.params) args x with
          | none => exact absurd hev (envSetMany_defined _ _ _ x hlen.symm (paramFrame_key _ x n hm))
          | some v => simp
        · intro G env' ev hm
          unfold evalGraph
          simp only [hlen, if_true, ev]
          exact hm
  · rw [if_neg hlen] at he; cases he

theorem convert_correct_slT (S : Sem V) (hConst : ∀ l, ∃ c, constOf S l = some c)
    (hId : ∀ v, S.op "" "Identity" [some v] [] = some [v]) {f : Func} {g : Graph}
    (hsl : straightLineT f.body = true)
    (hσ : ∀ x l, S.attrLit x = some l → ∃ ty, Param.attr x ty ∈ f.params ∧ AttrVal S x ty l)
    (ht : ∀ x, x ∈ targetsBlock f.body → S.attrLit x = none)
    (hnames : (f.params.map Param.name).Nodup) (h : convert f = .ok g)
    {fuel : Nat} {args vs : List V} (he : evalFunc S fuel f args = some vs) :
    evalGraph S fuel g args = some vs := by
  obtain ⟨ρ, env, s, s', ns, outs, pvs, hc, hb, hv, hL, hA, hs, hR, _, _, hfin⟩ := convert_entry S hσ hnames h he
  obtain ⟨env', ev, hm⟩ := convTop_sl_sim S fuel hConst hId f.body _ hsl ht ⟨hL, hA, hR, hs⟩ hb hv hc
  exact hfin fuel env' ev hm

theorem straightLineT_of_straightLine : ∀ (body : List Stmt), straightLine body = true → straightLineT body = true
  | [], h => by simp [straightLine] at h
  | st :: ss, h => by
    cases st with
    | assign x e => simp only [straightLine] at h; simp only [straightLineT]; exact straightLineT_of_straightLine ss h
    | par xs es => simp only [straightLine] at h; simp only [straightLineT]; exact straightLineT_of_straightLine ss h
    | skip => simp only [straightLine] at h; simp only [straightLineT]; exact straightLineT_of_straightLine ss h
    | ret es bare =>
      cases ss with
      | nil => simpa [straightLine, straightLineT] using h
      | cons _ _ => simp [straightLine] at h
    | _ => simp [straightLine] at h

theorem convert_correct_sl (S : Sem V) (hConst : ∀ l, ∃ c, constOf S l = some c)
    (hId : ∀ v, S.op "" "Identity" [some v] [] = some [v]) {f : Func} {g : Graph}
    (hsl : straightLine f.body = true)
    (hσ : ∀ x l, S.attrLit x = some l → ∃ ty, Param.attr x ty ∈ f.params ∧ AttrVal S x ty l)
    (ht : ∀ x, x ∈ targetsBlock f.body → S.attrLit x = none)
    (hnames : (f.params.map Param.name).Nodup) (h : convert f = .ok g)
    {fuel : Nat} {args vs : List V} (he : evalFunc S fuel f args = some vs) :
    evalGraph S fuel g args = some vs :=
  convert_correct_slT S hConst hId (straightLineT_of_straightLine _ hsl) hσ ht hnames h he

end OV.C01
