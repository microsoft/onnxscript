import OV.Model.C01Export
import OV.Lemmas.C01Scope
/-! `exportModel` (C02) touches nothing but the attribute values of operator nodes, so whatever reads only the shape of a
graph (`outs`, `topDefs`, `allDefs`, `wfNode`) is unchanged by it; and when every attribute parameter referred to is
listed in `ds`, none of them without default, no reference is left. -/
namespace OV.C01

theorem exportNode_outs (ds : List (Name × Option String)) : ∀ n : Node, (exportNode ds n).outs = n.outs
  | .op _ _ _ _ _ => rfl
  | .ifN _ _ _ _ _ _ => rfl
  | .loop _ _ _ _ _ _ _ => rfl

theorem exportNodes_topDefs (ds : List (Name × Option String)) : ∀ ns : List Node,
    topDefs (exportNodes ds ns) = topDefs ns
  | [] => rfl
  | n :: ns => by
    simp only [exportNodes, topDefs_cons, exportNode_outs, exportNodes_topDefs ds ns]

theorem export_allDefs_both (ds : List (Name × Option String)) :
    (∀ n : Node, (exportNode ds n).allDefs = n.allDefs) ∧
    (∀ ns : List Node, allDefsL (exportNodes ds ns) = allDefsL ns) := by
  apply node_induct
  case op => exact fun _ _ _ _ _ => rfl
  case ifN =>
    intro c outs tn to en eo iht ihe
    simp only [exportNode, Node.allDefs, iht, ihe]
  case loop =>
    intro b c inits outs bi bn bo ih
    simp only [exportNode, Node.allDefs, ih]
  case nil => rfl
  case cons =>
    intro n ns ihn ihns
    simp only [exportNodes, allDefsL, ihn, ihns]

theorem exportNode_allDefs (ds : List (Name × Option String)) : ∀ n : Node, (exportNode ds n).allDefs = n.allDefs :=
  (export_allDefs_both ds).1

theorem exportNodes_allDefs (ds : List (Name × Option String)) : ∀ ns : List Node,
    allDefsL (exportNodes ds ns) = allDefsL ns :=
  (export_allDefs_both ds).2

theorem export_wf_both (ds : List (Name × Option String)) :
    (∀ (n : Node) (vis : List Name), wfNode vis (exportNode ds n) = wfNode vis n) ∧
    (∀ (ns : List Node) (vis : List Name), wfNodes vis (exportNodes ds ns) = wfNodes vis ns) := by
  apply node_induct
  case op => exact fun _ _ _ _ _ _ => rfl
  case ifN =>
    intro c outs tn to en eo iht ihe vis
    simp only [exportNode, wfNode, iht, ihe, exportNodes_topDefs]
  case loop =>
    intro b c inits outs bi bn bo ih vis
    simp only [exportNode, wfNode, ih, exportNodes_topDefs]
  case nil => exact fun _ => rfl
  case cons =>
    intro n ns ihn ihns vis
    simp only [exportNodes, wfNodes, ihn, exportNode_outs, ihns]

theorem exportNode_wf (ds : List (Name × Option String)) : ∀ (n : Node) (vis : List Name),
    wfNode vis (exportNode ds n) = wfNode vis n :=
  (export_wf_both ds).1

theorem exportNodes_wf (ds : List (Name × Option String)) : ∀ (ns : List Node) (vis : List Name),
    wfNodes vis (exportNodes ds ns) = wfNodes vis ns :=
  (export_wf_both ds).2

theorem exportModel_ok {ds : List (Name × Option String)} {g g' : Graph} (h : exportModel ds g = .ok g') :
    ds.any (fun d => d.2.isNone) = false ∧ g' = { g with attrs := [], nodes := exportNodes ds g.nodes } := by
  unfold exportModel at h
  cases hb : ds.any (fun d => d.2.isNone) with
  | true => simp [hb] at h
  | false =>
    simp only [hb, Bool.false_eq_true, if_false] at h
    cases h
    exact ⟨rfl, rfl⟩

theorem exportModel_wf {ds : List (Name × Option String)} {g g' : Graph} (h : exportModel ds g = .ok g')
    (hw : wfGraph g = true) : wfGraph g' = true := by
  obtain ⟨_, rfl⟩ := exportModel_ok h
  unfold wfGraph Graph.allDefs at hw ⊢
  simpa only [exportNodes_allDefs, exportNodes_wf, exportNodes_topDefs] using hw

theorem defaultOf_some_of_all {ds : List (Name × Option String)} (hall : ds.any (fun d => d.2.isNone) = false) :
    ∀ {p : Name} {v : Option String}, defaultOf ds p = some v → ∃ r, v = some r := by
  induction ds with
  | nil => intro p v h; simp [defaultOf] at h
  | cons d rest ih =>
    obtain ⟨k, dv⟩ := d
    simp only [List.any_cons, Bool.or_eq_false_iff] at hall
    intro p v h
    unfold defaultOf at h
    by_cases hk : k = p
    · simp only [hk, if_true] at h
      cases h
      cases dv with
      | none => simp at hall
      | some r => exact ⟨r, rfl⟩
    · simp only [hk, if_false] at h
      exact ih hall.2 h

theorem export_refs_both (ds : List (Name × Option String)) (hall : ds.any (fun d => d.2.isNone) = false) :
    (∀ (n : Node), (∀ p, p ∈ attrRefsNode n → defaultOf ds p ≠ none) →
      attrRefsNode (exportNode ds n) = []) ∧
    (∀ (ns : List Node), (∀ p, p ∈ attrRefs ns → defaultOf ds p ≠ none) →
      attrRefs (exportNodes ds ns) = []) := by
  apply node_induct
  case op =>
    intro dom name ins outs attrs h
    simp only [exportNode, attrRefsNode]
    rw [List.filterMap_eq_nil_iff]
    intro kv hkv
    obtain ⟨kv0, hm, rfl⟩ := List.mem_map.mp hkv
    obtain ⟨k, a⟩ := kv0
    cases a with
    | const r => simp [exportAttr]
    | ref p =>
      have hp : defaultOf ds p ≠ none := h p (by
        simp only [attrRefsNode, List.mem_filterMap]
        exact ⟨(k, .ref p), hm, rfl⟩)
      cases hd : defaultOf ds p with
      | none => exact absurd hd hp
      | some v =>
        obtain ⟨r, rfl⟩ := defaultOf_some_of_all hall hd
        simp [exportAttr, hd]
  case ifN =>
    intro c outs tn to en eo iht ihe h
    simp only [exportNode, attrRefsNode]
    rw [iht (fun p hp => h p (by simp [attrRefsNode, hp])), ihe (fun p hp => h p (by simp [attrRefsNode, hp]))]
    rfl
  case loop =>
    intro b c inits outs bi bn bo ih h
    simp only [exportNode, attrRefsNode]
    exact ih (fun p hp => h p (by simp [attrRefsNode, hp]))
  case nil => exact fun _ => rfl
  case cons =>
    intro n ns ihn ihns h
    simp only [exportNodes, attrRefs]
    rw [ihn (fun p hp => h p (by simp [attrRefs, hp])), ihns (fun p hp => h p (by simp [attrRefs, hp]))]
    rfl

theorem exportNode_refs (ds : List (Name × Option String)) (hall : ds.any (fun d => d.2.isNone) = false) :
    ∀ (n : Node), (∀ p, p ∈ attrRefsNode n → defaultOf ds p ≠ none) → attrRefsNode (exportNode ds n) = [] :=
  (export_refs_both ds hall).1

theorem exportNodes_refs (ds : List (Name × Option String)) (hall : ds.any (fun d => d.2.isNone) = false) :
    ∀ (ns : List Node), (∀ p, p ∈ attrRefs ns → defaultOf ds p ≠ none) → attrRefs (exportNodes ds ns) = [] :=
  (export_refs_both ds hall).2

end OV.C01
