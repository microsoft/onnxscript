import OV.Lemmas.C18Ops
/-! C18, builder naming: the automatic keys of a build stand in the order in which they were made (`Keys`) — the node
counter of the builder tree bounds every count, goes up with every node, and the keys made with one count are the
outputs of one node.  This is about `total = true`, the counter over the whole builder tree (commit e9794aa). -/
namespace OV.C18

def AutoBound (keys : List VKey) (n : Nat) : Prop :=
  ∀ k ∈ keys, ∀ p o c i, k = VKey.auto p o c i → c < n

/-- `_node_count()`: nodes of all graphs of the builder tree. -/
abbrev N (st : St) : Nat := nodeCount true st

/-- `k` was made before `k'`: for a node counted earlier, or as another output of the same node. -/
def Before : VKey → VKey → Prop
  | .auto p o c i, .auto p' o' c' i' => c < c' ∨ (c = c' ∧ p = p' ∧ o = o' ∧ i ≠ i')
  | _, _ => True

/-- the invariant of a build: the automatic keys stand in the order in which they were made — by strictly increasing
count, those of one count being the distinct outputs of one node — and every count is below the current total. -/
def Keys (st : St) : Prop :=
  AutoBound st.vkeys (N st) ∧ (st.vkeys.filter isAutoKey).Pairwise Before

/-- `st'` adds keys to `st` and does not lower the node count; the automatic ones among the new keys stand in order, were
made with the current count, and then the count went up: they name the outputs of the one node the item appended. -/
def Fresh (st st' : St) : Prop :=
  ∃ rs, st'.vkeys = st.vkeys ++ rs ∧ N st ≤ N st' ∧ (rs.filter isAutoKey).Pairwise Before ∧
    ∀ k ∈ rs, ∀ p o c i, k = VKey.auto p o c i → c = N st ∧ N st < N st'

theorem Keys.fresh {st st' : St} (h : Keys st) (f : Fresh st st') : Keys st' := by
  obtain ⟨rs, e, hN, hp, hrs⟩ := f
  rw [Keys, e, List.filter_append]
  refine ⟨fun k hk p o c i hkey => ?_, List.pairwise_append.mpr ⟨h.2, hp, fun a ha b hb => ?_⟩⟩
  · rcases List.mem_append.mp hk with hk | hk
    · exact Nat.lt_of_lt_of_le (h.1 k hk p o c i hkey) hN
    · obtain ⟨rfl, hlt⟩ := hrs k hk p o c i hkey
      exact hlt
  · -- an old key's count is below the current total, a new key's count is the current total
    obtain ⟨ma, _⟩ := List.mem_filter.mp ha
    obtain ⟨mb, _⟩ := List.mem_filter.mp hb
    cases a with
    | raw _ => trivial
    | auto p o c i =>
      cases b with
      | raw _ => trivial
      | auto p' o' c' i' => exact Or.inl ((hrs _ mb _ _ _ _ rfl).1 ▸ h.1 _ ma _ _ _ _ rfl)

theorem Keys.nodup {st : St} (h : Keys st) : (st.vkeys.filter isAutoKey).Nodup :=
  h.2.imp_of_mem fun {a _} ha _ hab e => by
    subst e
    cases a with
    | raw _ => cases (List.mem_filter.mp ha).2
    | auto p o c i => exact hab.elim (Nat.lt_irrefl _) (fun x => x.2.2.2 rfl)

theorem raw_not_auto {names : List String} : ∀ k ∈ names.map VKey.raw, isAutoKey k = false := by
  intro k hk
  obtain ⟨s, _, rfl⟩ := List.mem_map.mp hk
  rfl

theorem filter_auto_raw {l : List VKey} (h : ∀ k ∈ l, isAutoKey k = false) : l.filter isAutoKey = [] :=
  List.filter_eq_nil_iff.mpr (fun k hk => by simp [h k hk])

theorem Fresh.ofRaw {st st' : St} (rs : List VKey) (e : st'.vkeys = st.vkeys ++ rs)
    (hr : ∀ k ∈ rs, isAutoKey k = false) (hN : N st ≤ N st') : Fresh st st' :=
  ⟨rs, e, hN, filter_auto_raw hr ▸ .nil, fun k hk _ _ _ _ ha => by have := hr k hk; rw [ha] at this; cases this⟩

theorem Moved.fresh {st st' : St} (m : Moved st st') : Fresh st st' :=
  Fresh.ofRaw [] (by simp [m.vkeys]) (by simp) (Nat.le_of_eq m.nodeCount.symm)

theorem Adds.fresh {st st' : St} {names : List String} {ext : List (CKey × Nat)} {ns : List Node}
    {hs : List (Option Nat)} (h : Adds st st' (names.map .raw) ext ns hs) : Fresh st st' :=
  Fresh.ofRaw _ h.vkeys raw_not_auto (Nat.le.intro (h.nodeCount true).symm)

theorem outKeys_before (f : Frame) (n : Nat) (op : String) (o : Outs) :
    ((outKeys f n op o).filter isAutoKey).Pairwise Before ∧
    ∀ k ∈ outKeys f n op o, ∀ p' o' c i, k = VKey.auto p' o' c i → c = n := by
  cases o with
  | named ns =>
    have hr : ∀ k ∈ outKeys f n op (.named ns), isAutoKey k = false := fun k hk => by
      obtain ⟨s, _, rfl⟩ := List.mem_map.mp hk; rfl
    exact ⟨filter_auto_raw hr ▸ .nil, fun k hk _ _ _ _ e => by have := hr k hk; rw [e] at this; cases this⟩
  | auto m =>
    simp only [outKeys]
    split
    · exact ⟨List.pairwise_singleton _ _, fun k hk _ _ _ _ e => by cases (List.mem_singleton.mp hk).symm.trans e; rfl⟩
    · refine ⟨?_, fun k hk _ _ _ _ e => ?_⟩
      · rw [List.filter_eq_self.mpr (fun k hk => by obtain ⟨j, _, rfl⟩ := List.mem_map.mp hk; rfl)]
        exact List.pairwise_map.mpr (List.pairwise_lt_range.imp fun h =>
          Or.inr ⟨rfl, rfl, rfl, fun e => by cases e; exact Nat.lt_irrefl _ h⟩)
      · obtain ⟨j, _, rfl⟩ := List.mem_map.mp hk
        cases e; rfl

/-- raw keys `rs`, the keys of one new node, raw keys `rs'`: the shape of `call_op` and `call`. -/
theorem Fresh.ofNode {st st' : St} (rs rs' : List VKey) (f : Frame) (op : String) (o : Outs)
    (e : st'.vkeys = st.vkeys ++ (rs ++ outKeys f (N st) op o ++ rs')) (hr : ∀ k ∈ rs, isAutoKey k = false)
    (hr' : ∀ k ∈ rs', isAutoKey k = false) (hN : N st' = N st + 1) : Fresh st st' := by
  obtain ⟨hp, hc⟩ := outKeys_before f (N st) op o
  refine ⟨_, e, by omega, ?_, fun k hk p' o' c i hkey => ⟨?_, by omega⟩⟩
  · rw [List.filter_append, List.filter_append, filter_auto_raw hr, filter_auto_raw hr', List.nil_append,
      List.append_nil]
    exact hp
  · rcases List.mem_append.mp hk with x | x
    · rcases List.mem_append.mp x with x | x
      · have := hr k x; rw [hkey] at this; cases this
      · exact hc k x _ _ _ _ hkey
    · have := hr' k x; rw [hkey] at this; cases this

theorem fresh_step (fns : List Fn) (st : St) (it : Item) : Fresh st (step true fns st it) := by
  cases it with
  | input n => exact Fresh.ofRaw [.raw n] rfl (by simp [isAutoKey]) (Nat.le_refl _)
  | op t a o nn g as =>
    obtain ⟨lits, ext, _, _, _, c⟩ := doOp_adds true st t a o nn g as
    have x := c.adds
    show Fresh st (doOp true st t a o nn g as)
    exact Fresh.ofNode _ [] st.cur t o (by rw [x.vkeys, List.append_nil]) raw_not_auto (by simp)
      (by simpa [N] using x.nodeCount true)
  | call fi a o as =>
    cases hf : fns[fi]? with
    | none =>
      simp only [step, doCall, hf]
      exact (adds_fail st _).moved.fresh
    | some f =>
      obtain ⟨lits, ext, _, _, _, c⟩ := doCall_adds true fns st fi a o as f hf _ rfl
      have x := c.adds
      show Fresh st (doCall true fns st fi a o as)
      exact Fresh.ofNode [] _ st.cur f.name _ (by rw [x.vkeys, List.nil_append]) (by simp) raw_not_auto
        (by simpa [N] using x.nodeCount true)
  | inline fi a o p as =>
    obtain ⟨names, ext, ns, hs, x⟩ := doInline_adds' true fns st fi a o p as
    exact x.fresh
  | beginSub g i =>
    show Fresh st (doBeginSub st g i)
    rw [doBeginSub_eq]
    exact Fresh.ofRaw (i.map .raw) rfl raw_not_auto (Nat.le_of_eq (by simp [N, nodeCount, sumNodes, Nat.add_assoc]))
  | _ => exact (step_moved true fns st _ rfl).fresh

theorem keys_foldl (fns : List Fn) : ∀ (tr : List Item) (st : St), Keys st → Keys (tr.foldl (step true fns) st)
  | [], _, h => h
  | it :: r, st, h => keys_foldl fns r _ (h.fresh (fresh_step fns st it))

theorem keys_build (fns : List Fn) (tr : List Item) : Keys (build fns tr) :=
  keys_foldl fns tr St.init ⟨fun k hk => by simp [St.init] at hk, by simp [St.init]⟩

/-! No theorem uses what follows (`simpleItem`: two `example`s of `Props/C18`). -/

def RawExt (st st' : St) : Prop :=
  (∃ rs : List VKey, st'.vkeys = st.vkeys ++ rs ∧ ∀ k ∈ rs, isAutoKey k = false) ∧
  N st' = N st

theorem rawExt_newValue (st : St) (n : String) : RawExt st (newValue st n).1 :=
  ⟨⟨[.raw n], rfl, by simp [isAutoKey]⟩, rfl⟩

def simpleItem : Item → Bool
  | .inline _ _ _ _ _ => false
  | _ => true

end OV.C18
