import OV.Lemmas.C18Builder
import Std.Data.String.ToNat
/-! C18: string-level uniqueness of automatic value names.  Rendered with the node count last (`{op}_{count}` /
`{op}_{i}_{count}`), a name ends in the digits of its count preceded by a non-digit, so equal names have equal counts
and, if they also share scope and op, equal output indices (`renderNew_inj`): keys made one `Before` the other render
differently. -/
namespace OV.C18

def EndsNonDigit (p : List Char) : Prop := ∃ init ch, p = init ++ [ch] ∧ ch.isDigit = false

theorem digit_suffix_aux (p1 p2 d1 d2 as : List Char) (hp : p2 = p1 ++ as) (hd : d1 = as ++ d2)
    (hd1 : ∀ c ∈ d1, c.isDigit = true) (e2 : EndsNonDigit p2) : as = [] := by
  rcases List.eq_nil_or_concat as with h | ⟨init, x, rfl⟩
  · exact h
  · exfalso
    rw [List.concat_eq_append] at hp hd
    obtain ⟨i2, ch, h2, hch⟩ := e2
    have : i2 ++ [ch] = (p1 ++ init) ++ [x] := by rw [← h2, hp, List.append_assoc]
    have hx : ch = x := by
      have := (List.append_inj' this rfl).2
      simpa using this
    have hxd : x.isDigit = true := hd1 x (by rw [hd]; simp)
    rw [hx, hxd] at hch
    cases hch

theorem digit_suffix_unique (p1 p2 d1 d2 : List Char) (h : p1 ++ d1 = p2 ++ d2)
    (hd1 : ∀ c ∈ d1, c.isDigit = true) (hd2 : ∀ c ∈ d2, c.isDigit = true)
    (e1 : EndsNonDigit p1) (e2 : EndsNonDigit p2) : p1 = p2 ∧ d1 = d2 := by
  rcases List.append_eq_append_iff.mp h with ⟨as, hp, hd⟩ | ⟨bs, hp, hd⟩
  · have := digit_suffix_aux p1 p2 d1 d2 as hp hd hd1 e2
    subst this
    simp at hp hd
    exact ⟨hp.symm, hd⟩
  · have := digit_suffix_aux p2 p1 d2 d1 bs hp hd hd2 e1
    subst this
    simp at hp hd
    exact ⟨hp, hd.symm⟩

theorem digits_isDigit (n : Nat) : ∀ c ∈ Nat.toDigits 10 n, c.isDigit = true :=
  fun _ hc => Nat.isDigit_of_mem_toDigits (by decide) (by decide) hc

theorem toDigits_inj {a b : Nat} (h : Nat.toDigits 10 a = Nat.toDigits 10 b) : a = b := by
  apply Nat.repr_injective
  apply String.toList_inj.mp
  rw [Nat.toList_repr, Nat.toList_repr, h]

theorem qualifyHead_ends (parts : List String) : EndsNonDigit (qualifyHead parts).toList := by
  unfold qualifyHead
  split
  · exact ⟨['v'], '_', by decide, by decide⟩
  · refine ⟨("v_" ++ joinWith "." parts).toList, '.', ?_, by decide⟩
    simp [String.toList_append]

theorem opHead_ends (parts : List String) (op : String) :
    EndsNonDigit ((qualifyHead parts).toList ++ (opHead op).toList) := by
  unfold opHead
  split
  · simpa using qualifyHead_ends parts
  · refine ⟨(qualifyHead parts).toList ++ op.toList, '_', ?_, by decide⟩
    simp [String.toList_append]

/-- the part of a rendered automatic name before the digits of the count. -/
def preOf (parts : List String) (op : String) : Option Nat → List Char
  | none => (qualifyHead parts).toList ++ (opHead op).toList
  | some i => (qualifyHead parts).toList ++ (opHead op).toList ++ Nat.toDigits 10 i ++ ['_']

theorem renderNew_split (parts : List String) (op : String) (c : Nat) (idx : Option Nat) :
    (VKey.renderNew (.auto parts op c idx)).toList = preOf parts op idx ++ Nat.toDigits 10 c := by
  cases idx with
  | none => simp [VKey.renderNew, preOf, String.toList_append, toString, Nat.toList_repr]
  | some i =>
    simp [VKey.renderNew, preOf, String.toList_append, toString, Nat.toList_repr]

theorem preOf_ends (parts : List String) (op : String) (idx : Option Nat) : EndsNonDigit (preOf parts op idx) := by
  cases idx with
  | none => exact opHead_ends parts op
  | some i => exact ⟨(qualifyHead parts).toList ++ (opHead op).toList ++ Nat.toDigits 10 i, '_', rfl, by decide⟩

theorem renderNew_inj {p p' : List String} {o o' : String} {c c' : Nat} {i i' : Option Nat}
    (h : VKey.renderNew (.auto p o c i) = VKey.renderNew (.auto p' o' c' i')) :
    c = c' ∧ (p = p' → o = o' → i = i') := by
  have hl := congrArg String.toList h
  rw [renderNew_split, renderNew_split] at hl
  obtain ⟨hpre, hd⟩ := digit_suffix_unique _ _ _ _ hl (digits_isDigit c) (digits_isDigit c')
    (preOf_ends p o i) (preOf_ends p' o' i')
  refine ⟨toDigits_inj hd, ?_⟩
  intro hp ho
  subst hp ho
  cases i with
  | none =>
    cases i' with
    | none => rfl
    | some j =>
      exfalso
      simp only [preOf] at hpre
      have := congrArg List.length hpre
      simp only [List.length_append, List.length_cons, List.length_nil] at this
      omega
  | some j =>
    cases i' with
    | none =>
      exfalso
      simp only [preOf] at hpre
      have := congrArg List.length hpre
      simp only [List.length_append, List.length_cons, List.length_nil] at this
      omega
    | some j' =>
      simp only [preOf, List.append_assoc] at hpre
      have h1 := List.append_cancel_left (List.append_cancel_left hpre)
      have h2 := (List.append_inj' h1 rfl).1
      rw [toDigits_inj h2]

theorem Before.render_ne {a b : VKey} (ha : isAutoKey a = true) (hb : isAutoKey b = true) (h : Before a b) :
    a.renderNew ≠ b.renderNew := by
  cases a with
  | raw _ => cases ha
  | auto p o c i =>
    cases b with
    | raw _ => cases hb
    | auto p' o' c' i' =>
      intro e
      obtain ⟨hc, hi⟩ := renderNew_inj e
      rcases h with h | ⟨_, rfl, rfl, h⟩
      · omega
      · exact h (hi rfl rfl)

/-- the pinned /repo renders the node count last (commit 5c71050). -/
theorem countLast_true : countLast = true := rfl

theorem VKey.render_eq (k : VKey) : k.render = k.renderNew := if_pos countLast_true

theorem Keys.render_nodup {st : St} (h : Keys st) : ((st.vkeys.filter isAutoKey).map VKey.render).Nodup :=
  List.pairwise_map.mpr (h.2.imp_of_mem fun {a b} ha hb hab => by
    rw [a.render_eq, b.render_eq]
    exact hab.render_ne (List.mem_filter.mp ha).2 (List.mem_filter.mp hb).2)

/-! Nothing above or in the other modules uses what follows. -/

theorem EndsNonDigit.append_left {p : List Char} (q : List Char) (h : EndsNonDigit p) : EndsNonDigit (q ++ p) := by
  obtain ⟨init, ch, rfl, hc⟩ := h
  exact ⟨q ++ init, ch, by simp, hc⟩

end OV.C18
