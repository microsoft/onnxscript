import OV.Lemmas.C03Uses
/-!
`Concat` with a single operand, inference-mode `Dropout`, `Cast` to the annotated type and `CastLike` are replaced by
one `Identity`/`Cast` node recorded on a fresh tape; `replace_node` renames the tape's output to the old output and the
new node is visited next.  This file characterises that step (evaluator result, `applyRepl`, the state afterwards), the
alias substitution on inputs, and — `visitNodes_step` — what one turn of the node loop does on a node of `FragBk`: the
node is kept, folded into an initializer, or replaced by one node (`TurnKept`, `TurnFolded`, `TurnReplaced`).
`visitNodes_induct` is the induction over the loop that goes with it: the invariants that hold through the loop on such
nodes (the simulation, bookkeeping, scope, totality, the `modified` flag, the sub-list property) are its instances.
-/
namespace OV.C03

variable {V : Type}

/-- a name that is not one of the fresh names `%k` the pass generates -/
def NF (x : Name) : Prop := ∀ k : Nat, x ≠ "%" ++ toString k

theorem setInputs_subs (n : Node) (ins : List (Option Name)) : (n.setInputs ins).subs = n.subs := by cases n; rfl
theorem setInputs_outputs (n : Node) (ins : List (Option Name)) : (n.setInputs ins).outputs = n.outputs := by cases n; rfl
theorem setInputs_inputs (n : Node) (ins : List (Option Name)) : (n.setInputs ins).inputs = ins := by cases n; rfl
theorem setInputs_op (n : Node) (ins : List (Option Name)) : (n.setInputs ins).op = n.op := by cases n; rfl
theorem setInputs_domain (n : Node) (ins : List (Option Name)) : (n.setInputs ins).domain = n.domain := by cases n; rfl
theorem setInputs_attrs (n : Node) (ins : List (Option Name)) : (n.setInputs ins).attrs = n.attrs := by cases n; rfl

theorem hasRefAttr_setInputs (n : Node) (ins : List (Option Name)) : hasRefAttr (n.setInputs ins) = hasRefAttr n := by
  cases n; rfl

theorem lookupEvaluator_setInputs (n : Node) (ins : List (Option Name)) (v : Nat) :
    lookupEvaluator (n.setInputs ins) v = lookupEvaluator n v := by
  cases n; rfl

theorem isOp_setInputs (n : Node) (ins : List (Option Name)) (o : String) : (n.setInputs ins).isOp o = n.isOp o := by
  cases n; rfl

/-- what the first loop of `process_node` does to one input -/
def substOne (st : St) : Option Name → Option Name
  | none => none
  | some x => match st.getSym (some x) with
    | some (.alias y) => some y
    | _ => some x

theorem getSym_sameIS {st st' : St} (h : SameIS st st') (x : Option Name) : st'.getSym x = st.getSym x := by
  cases x with
  | none => rfl
  | some y => simp only [St.getSym, h.2]

theorem substOne_some (st : St) (x : Name) : ∃ y, substOne st (some x) = some y := by
  simp only [substOne]
  split
  · exact ⟨_, rfl⟩
  · exact ⟨_, rfl⟩

theorem mem_map_substOne {st : St} {l : List (Option Name)} {y : Name} (h : some y ∈ l.map (substOne st)) :
    some y ∈ l ∨ ∃ z, some z ∈ l ∧ lookupA st.sym z = some (.alias y) := by
  obtain ⟨z, hz, hzy⟩ := List.mem_map.mp h
  cases z with
  | none => simp [substOne] at hzy
  | some z' =>
    simp only [substOne, St.getSym, Option.bind] at hzy
    split at hzy
    · rename_i y' hy'
      exact Or.inr ⟨z', hz, Option.some.inj hzy ▸ hy'⟩
    · exact Or.inl (Option.some.inj hzy ▸ hz)

theorem substOne_shape (st : St) : ∀ (l : List (Option Name)), (l.map (substOne st)).map Option.isSome = l.map Option.isSome
  | [] => rfl
  | a :: r => by
    simp only [List.map_cons, substOne_shape st r, List.cons.injEq, and_true]
    cases a with
    | none => rfl
    | some x =>
      obtain ⟨y, hy⟩ := substOne_some st x
      rw [hy]; rfl

theorem substInputs_spec (st : St) (n : Node) :
    (substInputs st n).1 = n.setInputs (n.inputs.map (substOne st)) ∧ SameIS st (substInputs st n).2 := by
  unfold substInputs
  simp only []
  have key : ∀ (l : List (Option Name)) (acc : List (Option Name) × St), SameIS st acc.2 →
      (l.foldl substStep acc).1 = acc.1 ++ l.map (substOne st) ∧ SameIS st (l.foldl substStep acc).2 := by
    intro l
    induction l with
    | nil => intro acc h; simp [h]
    | cons x xs ih =>
      intro acc h
      simp only [List.foldl_cons, List.map_cons]
      have hstep : (substStep acc x).1 = acc.1 ++ [substOne st x] ∧ SameIS st (substStep acc x).2 := by
        cases x with
        | none => exact ⟨rfl, h⟩
        | some y =>
          simp only [substStep, substOne, getSym_sameIS h]
          cases hsym : st.getSym (some y) with
          | none => exact ⟨rfl, h⟩
          | some sv =>
            cases sv with
            | alias z => exact ⟨rfl, SameIS.trans h ⟨rfl, rfl⟩⟩
            | seq l => exact ⟨rfl, h⟩
            | shape sh => exact ⟨rfl, h⟩
      obtain ⟨h1, h2⟩ := ih _ hstep.2
      rw [h1, hstep.1]
      exact ⟨by simp, h2⟩
  obtain ⟨h1, h2⟩ := key n.inputs ([], st) (SameIS.refl st)
  rw [h1]
  exact ⟨by simp, h2⟩

theorem processNode_noref (ctx : Ctx) (st : St) (n0 : Node) (href : hasRefAttr n0 = false) :
    processNode ctx st n0 =
      (match lookupA ctx.imports n0.domain with
       | none => (.keep (substInputs st n0).1,
           (if n0.isOp "Constant" then processConstant ctx (substInputs st n0).2 (substInputs st n0).1 else (substInputs st n0).2).note "gate:noimport")
       | some v => finishNode ctx (substInputs st n0).1 v (evalPartial (substInputs st n0).1 v
           (if n0.isOp "Constant" then processConstant ctx (substInputs st n0).2 (substInputs st n0).1 else (substInputs st n0).2))) := by
  have h1 := (substInputs_spec st n0).1
  have hr : hasRefAttr (substInputs st n0).1 = false := by rw [h1, hasRefAttr_setInputs]; exact href
  have hop : (substInputs st n0).1.isOp "Constant" = n0.isOp "Constant" := by rw [h1, isOp_setInputs]
  have hdom : (substInputs st n0).1.domain = n0.domain := by rw [h1, setInputs_domain]
  unfold processNode
  simp only [hr, Bool.false_eq_true, if_false, hop, hdom]
  cases lookupA ctx.imports n0.domain <;> rfl

/-- `oneRepl st "Identity" x []` (`idRepl_eq`); the lemmas below speak of `oneRepl` only -/
def idRepl (st : St) (x : Name) : Repl :=
  { newNodes := [mkNode "Identity" [some x] [freshOf st]], newOuts := [freshOf st] }

/-- a one-node replacement recorded on a fresh tape -/
def oneRepl (st : St) (opn : String) (x : Name) (attrs : List (String × Attr)) : Repl :=
  { newNodes := [mkNode opn [some x] [freshOf st] attrs], newOuts := [freshOf st] }

theorem idRepl_eq (st : St) (x : Name) : idRepl st x = oneRepl st "Identity" x [] := rfl

/-- a node (after alias substitution) that the partial evaluators always replace by `Identity(x)` at opset `v` -/
def ReplId (n : Node) (v : Nat) (x : Name) : Prop :=
  n.domain = "" ∧ ((n.op = "Concat" ∧ n.inputs = [some x]) ∨
    (n.op = "Dropout" ∧ 12 ≤ v ∧ n.outputs.length = 1 ∧ ∃ tl, n.inputs = some x :: tl ∧ tl.length ≤ 1))

theorem evalPartial_of_none {n : Node} {v : Nat} (h : lookupEvaluator n v = none) (st : St) :
    evalPartial n v st = (EvRes.none, st) := by
  unfold evalPartial
  rw [h]

theorem lookupEvaluator_of_domain {n : Node} (h : ¬ n.domain = "") (v : Nat) : lookupEvaluator n v = none := by
  unfold lookupEvaluator
  simp [h]

theorem lookupEvaluator_constant {n : Node} (h : n.isOp "Constant" = true) (v : Nat) : lookupEvaluator n v = none := by
  simp only [Node.isOp, Bool.and_eq_true, beq_iff_eq] at h
  unfold lookupEvaluator
  split
  · rfl
  · simp [h.1]

theorem evalPartial_replId (st0 : St) (n : Node) (v : Nat) (x : Name) (h : ReplId n v x) :
    ∃ st2, evalPartial n v st0 = (EvRes.repl (oneRepl st0 "Identity" x []), st2) ∧ SameIS st0 st2 ∧ st2.dname = st0.dname := by
  obtain ⟨hdom, hc | ⟨hop, hv, hlen, tl, hin, htl⟩⟩ := h
  · obtain ⟨hop, hin⟩ := hc
    have hl : lookupEvaluator n v = some evConcat := by
      unfold lookupEvaluator
      simp [hdom, hop]
    unfold evalPartial
    rw [hl]
    simp only [runEvaluator, evConcat, hin, replIdentity, St.freshName, St.note, oneRepl, freshOf]
    exact ⟨_, rfl, ⟨rfl, rfl⟩, rfl⟩
  · have hl : lookupEvaluator n v = some evDropout := by
      unfold lookupEvaluator
      simp [hdom, hop, hv]
    have hcond : (n.inputs.length ≤ 2 || (n.inputs[2]?).join == none) = true := by
      rw [hin]; simp; omega
    have h1 : (n.outputs.length == 1) = true := by simp [hlen]
    unfold evalPartial
    rw [hl]
    simp only [runEvaluator, evDropout]
    rw [if_pos hcond]
    simp only [hin, St.freshName, h1, if_true, St.note, oneRepl, freshOf]
    exact ⟨_, rfl, ⟨rfl, rfl⟩, rfl⟩

theorem getInfo_setInfo (st : St) (o x : Name) (v : VInfo) :
    (st.setInfo o v).getInfo x = if x = o then v else st.getInfo x := by
  simp only [St.getInfo, St.setInfo, lookupA_insert]
  by_cases h : x = o <;> simp [h]

theorem evalPartial_cast (st0 : St) (n : Node) (v : Nat) (x o : Name)
    (hop : n.op = "Cast") (hdom : n.domain = "") (hin : n.inputs = [some x]) (hout : n.outputs = [o]) :
    (∃ st2, evalPartial n v st0 = (EvRes.none, st2) ∧ st2.sym = st0.sym ∧ (∀ y, st2.constOf y = st0.constOf y) ∧
      (∀ y dt, (st2.getInfo y).dtype = some dt → (st0.getInfo y).dtype = some dt ∨
        (y = o ∧ ∃ to : Int, intAttr n "to" none = some to ∧ dt = to.toNat)) ∧ st2.dname = st0.dname) ∨
    (∃ (st2 : St) (to : Int), evalPartial n v st0 = (EvRes.repl (oneRepl st0 "Identity" x []), st2) ∧ SameIS st0 st2 ∧
      intAttr n "to" none = some to ∧ ((((st0.getInfo x).dtype).getD 0 : Nat) : Int) = to ∧ st2.dname = st0.dname) := by
  have hl : lookupEvaluator n v = some evCast := by
    unfold lookupEvaluator
    simp [hdom, hop]
  have hgi : getInput n 0 = some x := by simp [getInput, hin]
  have hgo : getOutput n 0 = some o := by simp [getOutput, hout]
  have het : elemType st0 n 0 = ((st0.getInfo x).dtype).getD 0 := by simp [elemType, hin]
  unfold evalPartial
  rw [hl]
  simp only [runEvaluator, evCast, hgi, hgo]
  cases hto : intAttr n "to" none with
  | none =>
    left
    exact ⟨_, rfl, rfl, fun y => rfl, fun y dt h => Or.inl h, rfl⟩
  | some to =>
    simp only []
    by_cases hsame : ((elemType st0 n 0 : Int) == to) = true
    · right
      rw [if_pos hsame]
      refine ⟨_, to, rfl, ⟨rfl, rfl⟩, rfl, ?_, rfl⟩
      rw [← het]
      exact beq_iff_eq.mp hsame
    · left
      rw [if_neg hsame]
      refine ⟨_, rfl, rfl, ?_, ?_, rfl⟩
      · intro y
        simp only [St.constOf, St.getInfo, St.setInfo, St.note, lookupA_insert]
        by_cases hy : y = o
        · subst hy; simp
        · simp [hy]
      · intro y dt h
        simp only [St.getInfo, St.setInfo, St.note, lookupA_insert] at h
        by_cases hy : y = o
        · subst hy
          simp only [if_true, Option.getD_some, Option.some.injEq] at h
          exact Or.inr ⟨rfl, to, rfl, h.symm⟩
        · simp only [hy, if_false] at h
          exact Or.inl h

theorem evalPartial_castlike_elemType (st0 : St) (n : Node) (v : Nat) (x : Name) (tl : List (Option Name))
    (hop : n.op = "CastLike") (hdom : n.domain = "") (hin : n.inputs = some x :: tl) :
    ∃ st2,
      (evalPartial n v st0 = (EvRes.none, st2) ∨
       (elemType st0 n 1 ≠ 0 ∧
         ((evalPartial n v st0 = (EvRes.repl (oneRepl st0 "Identity" x []), st2) ∧ elemType st0 n 0 = elemType st0 n 1) ∨
          evalPartial n v st0 = (EvRes.repl (oneRepl st0 "Cast" x [("to", Attr.int (elemType st0 n 1))]), st2)))) ∧
      SameIS st0 st2 ∧ st2.dname = st0.dname := by
  have hl : lookupEvaluator n v = some evCastLike := by
    unfold lookupEvaluator
    simp [hdom, hop]
  unfold evalPartial
  rw [hl]
  simp only [runEvaluator, evCastLike, hin]
  by_cases h0 : (elemType st0 n 1 == 0) = true
  · rw [if_pos h0]
    exact ⟨_, Or.inl rfl, ⟨rfl, rfl⟩, rfl⟩
  · rw [if_neg h0]
    have htgt : elemType st0 n 1 ≠ 0 := fun e => h0 (by rw [e]; rfl)
    by_cases hs : (elemType st0 n 0 == elemType st0 n 1) = true
    · rw [if_pos hs]
      exact ⟨_, Or.inr ⟨htgt, Or.inl ⟨rfl, beq_iff_eq.mp hs⟩⟩, ⟨rfl, rfl⟩, rfl⟩
    · rw [if_neg hs]
      exact ⟨_, Or.inr ⟨htgt, Or.inr rfl⟩, ⟨rfl, rfl⟩, rfl⟩

theorem evalPartial_castlike (st0 : St) (n : Node) (v : Nat) (x w : Name)
    (hop : n.op = "CastLike") (hdom : n.domain = "") (hin : n.inputs = [some x, some w]) :
    (∃ st2, evalPartial n v st0 = (EvRes.none, st2) ∧ SameIS st0 st2) ∨
    (∃ (st2 : St) (dw : Nat), evalPartial n v st0 = (EvRes.repl (oneRepl st0 "Identity" x []), st2) ∧ SameIS st0 st2 ∧ dw ≠ 0 ∧
      (st0.getInfo w).dtype = some dw ∧ (st0.getInfo x).dtype = some dw) ∨
    (∃ (st2 : St) (dw : Nat), evalPartial n v st0 = (EvRes.repl (oneRepl st0 "Cast" x [("to", Attr.int dw)]), st2) ∧ SameIS st0 st2 ∧
      dw ≠ 0 ∧ (st0.getInfo w).dtype = some dw) := by
  have e0 : elemType st0 n 0 = ((st0.getInfo x).dtype).getD 0 := by simp [elemType, hin]
  have e1 : elemType st0 n 1 = ((st0.getInfo w).dtype).getD 0 := by simp [elemType, hin]
  obtain ⟨st2, hres, his, _⟩ := evalPartial_castlike_elemType st0 n v x [some w] hop hdom hin
  rcases hres with he | ⟨htgt, hres⟩
  · exact Or.inl ⟨st2, he, his⟩
  · cases hdw : (st0.getInfo w).dtype with
    | none => rw [e1, hdw] at htgt; exact absurd rfl htgt
    | some dw =>
      have e1' : elemType st0 n 1 = dw := by rw [e1, hdw]; rfl
      rcases hres with ⟨he, h2⟩ | he
      · refine Or.inr (Or.inl ⟨st2, dw, he, his, by rw [← e1']; exact htgt, rfl, ?_⟩)
        rw [e0, e1'] at h2
        cases hdx : (st0.getInfo x).dtype with
        | none =>
          rw [hdx] at h2
          simp only [Option.getD_none] at h2
          exact absurd (by rw [e1', ← h2]) htgt
        | some dx =>
          rw [hdx] at h2
          simp only [Option.getD_some] at h2
          rw [h2]
      · rw [e1'] at he
        exact Or.inr (Or.inr ⟨st2, dw, he, his, by rw [← e1']; exact htgt, rfl⟩)

theorem evalPartial_identity (st0 : St) (n : Node) (v : Nat) (x o : Name)
    (hop : n.op = "Identity") (hdom : n.domain = "") (hin : n.inputs = [some x]) (hout : n.outputs = [o]) :
    ∃ st2, evalPartial n v st0 = (EvRes.none, st2) ∧ st2.sym = insertA st0.sym o (.alias x) ∧
      (∀ y, st2.constOf y = st0.constOf y) ∧ SameBk st0 st2 ∧ st2.fresh = st0.fresh ∧ st2.err = st0.err ∧
      st2.dname = st0.dname ∧
      ∀ y dt, (st2.getInfo y).dtype = some dt →
        (st0.getInfo y).dtype = some dt ∨ (y = x ∧ (st0.getInfo o).dtype = some dt) := by
  have hl : lookupEvaluator n v = some evIdentity := by
    unfold lookupEvaluator
    simp [hdom, hop]
  unfold evalPartial
  rw [hl]
  simp only [runEvaluator, evIdentity, hin, hout]
  by_cases hgi : st0.isGraphInput x = true
  · rw [if_pos hgi]
    exact ⟨_, rfl, rfl, fun y => rfl, ⟨rfl, rfl, rfl, rfl⟩, rfl, rfl, rfl, fun y dt h => Or.inl h⟩
  rw [if_neg hgi]
  refine ⟨_, rfl, rfl, ?_, ⟨rfl, rfl, rfl, rfl⟩, rfl, rfl, rfl, ?_⟩
  · intro y
    simp only [St.constOf, St.getInfo, St.setInfo, St.setSym, St.note, lookupA_insert]
    by_cases hy : y = x
    · subst hy; simp
    · simp [hy]
  · intro y dt h
    simp only [St.getInfo, St.setInfo, St.setSym, St.note, lookupA_insert] at h
    by_cases hy : y = x
    · subst hy
      simp only [if_true, Option.getD_some] at h
      cases hdx : ((lookupA st0.info y).getD {}).dtype with
      | some d =>
        rw [hdx] at h
        left
        simp only [St.getInfo, hdx]
        exact h
      | none =>
        rw [hdx] at h
        right
        exact ⟨rfl, by simpa only [St.getInfo] using h⟩
    · simp only [hy, if_false] at h
      exact Or.inl (by simpa only [St.getInfo] using h)

/-- the shape of what the partial evaluators answer on a node: nothing (symbolic values untouched), or one
new `Identity`/`Cast` node reading one of the node's inputs -/
def EvShape (n : Node) : Prop :=
  ∀ (st0 : St) (v : Nat),
    (evalPartial n v st0).2.dname = st0.dname ∧
    (((evalPartial n v st0).1 = EvRes.none ∧ (evalPartial n v st0).2.sym = st0.sym) ∨
    (∃ x opn attrs, (evalPartial n v st0).1 = EvRes.repl (oneRepl st0 opn x attrs) ∧ some x ∈ n.inputs ∧
      (evalPartial n v st0).2.sym = st0.sym ∧
      ((opn = "Identity" ∧ attrs = [] ∧ n.op ≠ "Identity") ∨
       (opn = "Cast" ∧ (∃ t : Nat, attrs = [("to", Attr.int t)]) ∧ n.op ≠ "Cast" ∧ n.op ≠ "Identity"))))

theorem evShape_of_none (n : Node) (h : ∀ v, lookupEvaluator n v = none) : EvShape n := by
  intro st0 v
  rw [evalPartial_of_none (h v)]
  exact ⟨rfl, Or.inl ⟨rfl, rfl⟩⟩

theorem evShape_of_replId (n : Node) (x : Name) (hx : some x ∈ n.inputs) (hop : n.op ≠ "Identity")
    (h : ∀ v, ReplId n v x ∨ lookupEvaluator n v = none) : EvShape n := by
  intro st0 v
  rcases h v with hr | hn
  · obtain ⟨st2, hep, his, hdn⟩ := evalPartial_replId st0 n v x hr
    rw [hep]
    exact ⟨hdn, Or.inr ⟨x, "Identity", [], rfl, hx, his.2, Or.inl ⟨rfl, rfl, hop⟩⟩⟩
  · rw [evalPartial_of_none hn]
    exact ⟨rfl, Or.inl ⟨rfl, rfl⟩⟩

theorem evShape_concat1 (n : Node) (x : Name) (hop : n.op = "Concat") (hin : n.inputs = [some x]) : EvShape n := by
  refine evShape_of_replId n x (by rw [hin]; simp) (by rw [hop]; decide) fun v => ?_
  by_cases hdom : n.domain = ""
  · exact Or.inl ⟨hdom, Or.inl ⟨hop, hin⟩⟩
  · exact Or.inr (lookupEvaluator_of_domain hdom v)

theorem evShape_dropout (n : Node) (x : Name) (tl : List (Option Name)) (hop : n.op = "Dropout") (hin : n.inputs = some x :: tl)
    (htl : tl.length ≤ 1) (hout : n.outputs.length = 1) : EvShape n := by
  refine evShape_of_replId n x (by rw [hin]; simp) (by rw [hop]; decide) fun v => ?_
  by_cases hreg : n.domain = "" ∧ 12 ≤ v
  · exact Or.inl ⟨hreg.1, Or.inr ⟨hop, hreg.2, hout, tl, hin, htl⟩⟩
  · refine Or.inr ?_
    unfold lookupEvaluator
    by_cases hdom : n.domain = ""
    · have : ¬ 12 ≤ v := fun h => hreg ⟨hdom, h⟩
      simp [hdom, hop, this]
    · simp [hdom]

theorem evShape_cast (n : Node) (x o : Name) (hop : n.op = "Cast") (hin : n.inputs = [some x]) (hout : n.outputs = [o]) :
    EvShape n := by
  intro st0 v
  by_cases hdom : n.domain = ""
  · rcases evalPartial_cast st0 n v x o hop hdom hin hout with ⟨st2, hep, hsym, _, _, hdn⟩ | ⟨st2, to, hep, his, _, _, hdn⟩ <;>
      rw [hep]
    · exact ⟨hdn, Or.inl ⟨rfl, hsym⟩⟩
    · exact ⟨hdn, Or.inr ⟨x, "Identity", [], rfl, by rw [hin]; simp, his.2, Or.inl ⟨rfl, rfl, by rw [hop]; decide⟩⟩⟩
  · exact evShape_of_none n (lookupEvaluator_of_domain hdom) st0 v

theorem evShape_castlike (n : Node) (x : Name) (tl : List (Option Name)) (hop : n.op = "CastLike") (hin : n.inputs = some x :: tl) :
    EvShape n := by
  intro st0 v
  by_cases hdom : n.domain = ""
  · obtain ⟨st2, hres, his, hdn⟩ := evalPartial_castlike_elemType st0 n v x tl hop hdom hin
    have hx : some x ∈ n.inputs := by rw [hin]; simp
    rcases hres with he | ⟨_, ⟨he, _⟩ | he⟩ <;> rw [he]
    · exact ⟨hdn, Or.inl ⟨rfl, his.2⟩⟩
    · exact ⟨hdn, Or.inr ⟨x, "Identity", [], rfl, hx, his.2, Or.inl ⟨rfl, rfl, by rw [hop]; decide⟩⟩⟩
    · exact ⟨hdn, Or.inr ⟨x, "Cast", _, rfl, hx, his.2, Or.inr ⟨rfl, ⟨_, rfl⟩, by rw [hop]; decide, by rw [hop]; decide⟩⟩⟩
  · exact evShape_of_none n (lookupEvaluator_of_domain hdom) st0 v

theorem shape_one {ins : List (Option Name)} {x : Name} (h : ins.map Option.isSome = [some x].map Option.isSome) :
    ∃ x', ins = [some x'] := by
  cases ins with
  | nil => simp at h
  | cons a r =>
    cases r with
    | nil =>
      cases a with
      | none => simp at h
      | some x' => exact ⟨x', rfl⟩
    | cons b r' => simp at h

theorem shape_cons {ins : List (Option Name)} {x : Name} {tl : List (Option Name)}
    (h : ins.map Option.isSome = (some x :: tl).map Option.isSome) :
    ∃ x' tl', ins = some x' :: tl' ∧ tl'.length = tl.length := by
  cases ins with
  | nil => simp at h
  | cons a r =>
    cases a with
    | none => simp at h
    | some x' =>
      refine ⟨x', r, rfl, ?_⟩
      have : r.map Option.isSome = tl.map Option.isSome := by simpa using h
      have := congrArg List.length this
      simpa using this

/-- a node with one output whose evaluator answers in that shape whatever alias substitution did to its inputs -/
def ClsX (n0 : Node) : Prop :=
  n0.isOp "Constant" = false ∧ (∃ o, n0.outputs = [o]) ∧
  ∀ ins : List (Option Name), ins.map Option.isSome = n0.inputs.map Option.isSome → EvShape (n0.setInputs ins)

theorem clsX_concat1 (n : Node) (x o : Name) (hop : n.op = "Concat") (hin : n.inputs = [some x]) (hout : n.outputs = [o]) : ClsX n := by
  refine ⟨by simp [Node.isOp, hop], ⟨o, hout⟩, ?_⟩
  intro ins hs
  rw [hin] at hs
  obtain ⟨x', rfl⟩ := shape_one hs
  exact evShape_concat1 _ x' ((setInputs_op n _).trans hop) (setInputs_inputs n _)

theorem clsX_dropout (n : Node) (x o : Name) (tl : List (Option Name)) (hop : n.op = "Dropout") (hin : n.inputs = some x :: tl)
    (htl : tl.length ≤ 1) (hout : n.outputs = [o]) : ClsX n := by
  refine ⟨by simp [Node.isOp, hop], ⟨o, hout⟩, ?_⟩
  intro ins hs
  rw [hin] at hs
  obtain ⟨x', tl', rfl, hl⟩ := shape_cons hs
  exact evShape_dropout _ x' tl' ((setInputs_op n _).trans hop) (setInputs_inputs n _) (by omega) (by rw [setInputs_outputs, hout]; rfl)

theorem clsX_cast (n : Node) (x o : Name) (hop : n.op = "Cast") (hin : n.inputs = [some x]) (hout : n.outputs = [o]) : ClsX n := by
  refine ⟨by simp [Node.isOp, hop], ⟨o, hout⟩, ?_⟩
  intro ins hs
  rw [hin] at hs
  obtain ⟨x', rfl⟩ := shape_one hs
  exact evShape_cast _ x' o ((setInputs_op n _).trans hop) (setInputs_inputs n _) ((setInputs_outputs n _).trans hout)

theorem clsX_castlike (n : Node) (x o : Name) (tl : List (Option Name)) (hop : n.op = "CastLike") (hin : n.inputs = some x :: tl)
    (hout : n.outputs = [o]) : ClsX n := by
  refine ⟨by simp [Node.isOp, hop], ⟨o, hout⟩, ?_⟩
  intro ins hs
  rw [hin] at hs
  obtain ⟨x', tl', rfl, _⟩ := shape_cons hs
  exact evShape_castlike _ x' tl' ((setInputs_op n _).trans hop) (setInputs_inputs n _)

def ClsP (n : Node) : Prop := n.isOp "Constant" = false ∧ ∀ v, lookupEvaluator n v = none
def ClsK (n : Node) : Prop := n.isOp "Constant" = true ∧ n.inputs = [] ∧ ∃ o, n.outputs = [o]

def ClsI' (n : Node) : Prop := n.op = "Identity" ∧ n.domain = "" ∧ ∃ x o, n.inputs = [some x] ∧ n.outputs = [o]
/-- the node classes of fragment A without their side conditions on names (all the bookkeeping needs) -/
def FragBk (n : Node) : Prop := n.subs = [] ∧ hasRefAttr n = false ∧ (ClsP n ∨ ClsK n ∨ ClsI' n ∨ ClsX n)

theorem Plain.toBk {n : Node} (h : Plain n) : FragBk n := ⟨h.1, h.2.2.2, Or.inl ⟨h.2.1, h.2.2.1⟩⟩

theorem FragBk.setInputs {n0 : Node} (h : FragBk n0) {ins : List (Option Name)}
    (hs : ins.map Option.isSome = n0.inputs.map Option.isSome) : FragBk (n0.setInputs ins) := by
  obtain ⟨hsubs, href, hcls⟩ := h
  refine ⟨by rw [setInputs_subs]; exact hsubs, by rw [hasRefAttr_setInputs]; exact href, ?_⟩
  rcases hcls with hP | hK | ⟨hop, hdom, x, o, hin, hout⟩ | ⟨hnc, ho, hX⟩
  · exact Or.inl ⟨by rw [isOp_setInputs]; exact hP.1, fun v => by rw [lookupEvaluator_setInputs]; exact hP.2 v⟩
  · refine Or.inr (Or.inl ⟨by rw [isOp_setInputs]; exact hK.1, ?_, by rw [setInputs_outputs]; exact hK.2.2⟩)
    rw [hK.2.1] at hs
    rw [setInputs_inputs]
    simpa using hs
  · rw [hin] at hs
    obtain ⟨x', rfl⟩ := shape_one hs
    exact Or.inr (Or.inr (Or.inl ⟨by rw [setInputs_op]; exact hop, by rw [setInputs_domain]; exact hdom, x', o,
      setInputs_inputs _ _, by rw [setInputs_outputs]; exact hout⟩))
  · refine Or.inr (Or.inr (Or.inr ⟨by rw [isOp_setInputs]; exact hnc, by rw [setInputs_outputs]; exact ho, ?_⟩))
    intro ins' hs'
    rw [setInputs_inputs] at hs'
    have : (n0.setInputs ins).setInputs ins' = n0.setInputs ins' := by cases n0; rfl
    rw [this]
    exact hX ins' (hs'.trans hs)

theorem evalPartial_fragBk {n : Node} (h : FragBk n) (st1 : St) (v : Nat) :
    (evalPartial n v st1).2.dname = st1.dname ∧
    (((evalPartial n v st1).1 = EvRes.none ∧
        ((evalPartial n v st1).2.sym = st1.sym ∨
          ∃ x o, n.inputs = [some x] ∧ n.outputs = [o] ∧ (evalPartial n v st1).2.sym = insertA st1.sym o (.alias x))) ∨
     (n.isOp "Constant" = false ∧ ∃ x opn attrs o, n.outputs = [o] ∧
        (evalPartial n v st1).1 = EvRes.repl (oneRepl st1 opn x attrs) ∧ some x ∈ n.inputs ∧
        (evalPartial n v st1).2.sym = st1.sym ∧
        ((opn = "Identity" ∧ attrs = [] ∧ n.op ≠ "Identity") ∨
         (opn = "Cast" ∧ (∃ t : Nat, attrs = [("to", Attr.int t)]) ∧ n.op ≠ "Cast" ∧ n.op ≠ "Identity")))) := by
  rcases h.2.2 with hP | hK | ⟨hop, hdom, x, o, hin, hout⟩ | ⟨hnc, ⟨o, ho⟩, hX⟩
  · rw [evalPartial_of_none (hP.2 v)]
    exact ⟨rfl, Or.inl ⟨rfl, Or.inl rfl⟩⟩
  · rw [evalPartial_of_none (lookupEvaluator_constant hK.1 v)]
    exact ⟨rfl, Or.inl ⟨rfl, Or.inl rfl⟩⟩
  · obtain ⟨st2, hep, hsym, _, _, _, _, hdn, _⟩ := evalPartial_identity st1 n v x o hop hdom hin hout
    rw [hep]
    exact ⟨hdn, Or.inl ⟨rfl, Or.inr ⟨x, o, hin, hout, hsym⟩⟩⟩
  · have hself : n.setInputs n.inputs = n := by cases n; rfl
    have hes := hX n.inputs rfl st1 v
    rw [hself] at hes
    refine ⟨hes.1, ?_⟩
    rcases hes.2 with h1 | ⟨x, opn, attrs, hr, hxin, hsym, hkind⟩
    · exact Or.inl ⟨h1.1, Or.inl h1.2⟩
    · exact Or.inr ⟨hnc, x, opn, attrs, o, ho, hr, hxin, hsym, hkind⟩

/-- the state after `replace_node` put one new node `m` in place of `n`: `afterRepl st3 n o fv [m] l` written out (the
name under which `applyRepl_idRepl` speaks of it; everything else is stated with `afterRepl`) -/
def replState (st3 : St) (n : Node) (o fv : Name) (m : Node) (l : List Name) : St :=
  { (clearUnused { (countNewUses ((inheritInfo st3 [(o, fv)]).decUses n.inputs) [m]) with initNames := l }
      (n.inputs.filterMap id)) with modified := true }

theorem inheritInfo_sym (st2 : St) (o fv : Name) : (inheritInfo st2 [(o, fv)]).sym = eraseA st2.sym o := rfl

theorem lookupA_of_erase {α} {l : List (Name × α)} {o x : Name} {s : α} (h : lookupA (eraseA l o) x = some s) :
    x ≠ o ∧ lookupA l x = some s := by
  rw [lookupA_erase] at h
  by_cases hxo : x = o
  · simp [hxo] at h
  · rw [if_neg hxo] at h
    exact ⟨hxo, h⟩

/-- `replace_nodes_and_values` on one pair: what the annotations are afterwards -/
theorem getInfo_inheritInfo (st3 : St) (o fv x : Name) :
    (inheritInfo st3 [(o, fv)]).getInfo x =
      if x = fv then {} else
      if x = o then { dtype := orElse (st3.getInfo o).dtype (st3.getInfo fv).dtype,
                      shape := orElse (st3.getInfo o).shape (st3.getInfo fv).shape,
                      const := orElse (st3.getInfo o).const (st3.getInfo fv).const }
      else st3.getInfo x := by
  simp only [inheritInfo, List.foldl_cons, List.foldl_nil, St.getInfo, St.setInfo, St.clearSym, lookupA_erase, lookupA_insert]
  by_cases h1 : x = fv
  · simp [h1]
  · by_cases h2 : x = o
    · subst h2
      have h3 : ¬ x = fv := h1
      simp [h3]
    · simp [h1, h2]

theorem inheritInfo_plain (st2 : St) (o fv : Name) (hfv : st2.constOf fv = none) :
    ∀ x c', (inheritInfo st2 [(o, fv)]).constOf x = some c' → st2.constOf x = some c' := by
  intro x c' h
  simp only [inheritInfo, List.foldl_cons, List.foldl_nil, St.constOf, St.getInfo, St.setInfo, St.clearSym,
    lookupA_erase, lookupA_insert] at h
  by_cases hxfv : x = fv
  · simp [hxfv] at h
  · simp only [hxfv, if_false] at h
    by_cases hxo : x = o
    · subst hxo
      simp only [if_true, Option.getD_some, orElse] at h
      simp only [St.constOf, St.getInfo] at hfv ⊢
      cases hold : ((lookupA st2.info x).getD {}).const with
      | none => rw [hold, hfv] at h; exact absurd h (by simp)
      | some c0 => rw [hold] at h; exact h
    · simp only [hxo, if_false] at h
      simpa only [St.constOf, St.getInfo] using h

/-- `replace_node` for a one-node replacement; the new node reads `x` unless `x` is the tape's own output name -/
theorem applyRepl_oneRen (ctx : Ctx) (hnf : ctx.isFunction = false) (st2 : St) (n : Node) (o fv x : Name) (opn : String)
    (attrs : List (String × Attr)) (ho : n.outputs = [o]) :
    ∃ l x', (x ≠ fv → x' = x) ∧
      applyRepl ctx st2 n { newNodes := [mkNode opn [some x] [fv] attrs], newOuts := [fv] } =
        .ok ([mkNode opn [some x'] [o] attrs], [], afterRepl st2 n o fv [(mkNode opn [some x'] [o] attrs)] l) := by
  obtain ⟨l, h⟩ := applyRepl_single ctx hnf st2 n o fv [mkNode opn [some x] [fv] attrs] [] ho
  have hren : renNode maxDepth [(fv, o)] (mkNode opn [some x] [fv] attrs) =
      mkNode opn [some (renName [(fv, o)] x)] [o] attrs := by
    simp [maxDepth, renNode, mkNode, Node.op, Node.domain, Node.inputs, Node.outputs, Node.attrs, Node.subs,
      renName, lookupA, List.find?]
  simp only [List.map_cons, List.map_nil, hren] at h
  refine ⟨l, _, ?_, h⟩
  intro hx
  have h1 : (fv == x) = false := by simp; exact fun e => hx e.symm
  simp [renName, lookupA, List.find?, h1]

theorem applyRepl_idRepl (ctx : Ctx) (hnf : ctx.isFunction = false) (st2 : St) (n : Node) (o fv x : Name)
    (ho : n.outputs = [o]) (hx : x ≠ fv) :
    ∃ l, applyRepl ctx st2 n { newNodes := [mkNode "Identity" [some x] [fv]], newOuts := [fv] } =
      .ok ([mkNode "Identity" [some x] [o]], [], replState st2 n o fv (mkNode "Identity" [some x] [o]) l) := by
  obtain ⟨l, x', hx', h⟩ := applyRepl_oneRen ctx hnf st2 n o fv x "Identity" [] ho
  rw [hx' hx] at h
  exact ⟨l, h⟩

/-! In what follows `n0` is the head of the pending list, `n` the same node after alias substitution, `st1` the state after
substitution and const marking (`TurnPre`). -/

/-- the alias a partial evaluator may record in a turn on `n`: of an output of `n`, to an input of `n` -/
def NewAlias (n : Node) (st1 stG : St) : Prop :=
  ∀ x s, lookupA stG.sym x = some s → lookupA st1.sym x = some s ∨
    ∃ y, s = SymVal.alias y ∧ n.outputs.contains x = true ∧ n.inputs.contains (some y) = true

structure TurnPre (ctx : Ctx) (st : St) (n0 n : Node) (st1 : St) : Prop where
  node : n = n0.setInputs (n0.inputs.map (substOne st))
  state : st1 = (if n0.isOp "Constant" then processConstant ctx (substInputs st n0).2 n else (substInputs st n0).2)
  writes : ∃ i u m h, st1 = { st with info := i, uses := u, modified := m, hist := h }

/-- the node is kept: no import for its domain, or the evaluator answered "nothing" (state `stG`) and a gate kept it -/
structure TurnKept (n : Node) (st1 st' : St) : Prop where
  writes : ∃ i s fr h nd, st' = { st1 with info := i, sym := s, fresh := fr, hist := h, need := nd }
  how : SameIS st1 st' ∨
    ∃ v stG, evalPartial n v st1 = (EvRes.none, stG) ∧ NewAlias n st1 stG ∧ SameIS stG st'

/-- the node is folded into the initializer `(o, c.tok)`: the evaluator answered "nothing" (state `stG`), the cascade
folded the node (`FoldExit`, from `stG`), and `replace_node` ends in `afterRepl st3 … [] l` -/
structure TurnFolded (ctx : Ctx) (n : Node) (st1 stG st2 st3 : St) (v : Nat) (c : CInfo) (o : Name) : Prop
    extends FoldExit ctx n stG st2 st3 v c o where
  ev : evalPartial n v st1 = (EvRes.none, stG)
  writes : ∃ i s fr h, stG = { st1 with info := i, sym := s, fresh := fr, hist := h }
  newAlias : NewAlias n st1 stG

/-- the node is replaced by `mkNode opn [some x'] [o] attrs`, `x` being the input the evaluator's node reads; `replace_node`
ends in `afterRepl st2 … [m] l`.  `ren`: `replace_node` renames the tape's output `freshOf st1` to `o` wherever it occurs, also as
an input; a graph that mentions no generated name is not affected. -/
structure TurnReplaced (n0 n : Node) (st1 st2 : St) (v : Nat) (x x' : Name) (opn : String)
    (attrs : List (String × Attr)) (o : Name) : Prop where
  notConst : n0.isOp "Constant" = false
  out : n.outputs = [o]
  ev : evalPartial n v st1 = (EvRes.repl (oneRepl st1 opn x attrs), st2)
  writes : ∃ i fr h, st2 = { st1 with info := i, fresh := fr, hist := h }
  reads : some x ∈ n.inputs
  ren : x ≠ freshOf st1 → x' = x
  kind : (opn = "Identity" ∧ attrs = [] ∧ n.op ≠ "Identity") ∨
    (opn = "Cast" ∧ (∃ t : Nat, attrs = [("to", Attr.int t)]) ∧ n.op ≠ "Cast" ∧ n.op ≠ "Identity")
  frag : FragBk (mkNode opn [some x'] [o] attrs)

theorem visitNodes_step (ctx : Ctx) (hnf : ctx.isFunction = false) (vg : St → Graph → St × Graph) (f : Nat) (st : St)
    (n0 : Node) (rest acc : List Node) (ai : List (Name × String)) (hfr : FragBk n0) (herr : st.err.isSome = false) :
    ∃ n st1, TurnPre ctx st n0 n st1 ∧
      ((∃ st', TurnKept n st1 st' ∧
          visitNodes ctx vg (f + 1) st (n0 :: rest) acc ai = visitNodes ctx vg f st' rest (n :: acc) ai) ∨
       (∃ stG st2 st3 v c o l, TurnFolded ctx n st1 stG st2 st3 v c o ∧
          visitNodes ctx vg (f + 1) st (n0 :: rest) acc ai =
            visitNodes ctx vg f (afterRepl st3 n o (freshOf st2) [] l) rest acc (ai ++ [(o, c.tok)])) ∨
       (∃ st2 v x x' opn attrs o l, TurnReplaced n0 n st1 st2 v x x' opn attrs o ∧
          visitNodes ctx vg (f + 1) st (n0 :: rest) acc ai =
            visitNodes ctx vg f (afterRepl st2 n o (freshOf st1) [(mkNode opn [some x'] [o] attrs)] l)
              (mkNode opn [some x'] [o] attrs :: rest) acc ai)) := by
  have hfrn := hfr.setInputs (substOne_shape st n0.inputs)
  have hspec := (substInputs_spec st n0).1
  refine ⟨_, _, ⟨rfl, rfl, ?_⟩, ?_⟩
  · obtain ⟨u, m, h, e1⟩ := substInputs_writes st n0
    obtain ⟨i, e2⟩ := constMark_writes ctx (n0.isOp "Constant") (substInputs st n0).2
      (n0.setInputs (n0.inputs.map (substOne st)))
    rw [e2, e1]
    exact ⟨_, _, _, _, rfl⟩
  have hKn : (n0.setInputs (n0.inputs.map (substOne st))).isOp "Constant" = n0.isOp "Constant" := isOp_setInputs _ _ _
  generalize n0.setInputs (n0.inputs.map (substOne st)) = n at hfrn hspec hKn
  have hnsubs : n.subs = [] := hfrn.1
  generalize hR : visitNodes ctx vg (f + 1) st (n0 :: rest) acc ai = R
  simp only [visitNodes, herr, Bool.false_eq_true, if_false] at hR
  rw [processNode_noref ctx st n0 hfr.2.1, hspec] at hR
  generalize (if n0.isOp "Constant" then processConstant ctx (substInputs st n0).2 n else (substInputs st n0).2) = st1 at hR ⊢
  cases himp : lookupA ctx.imports n0.domain with
  | none =>
    rw [himp] at hR
    simp only [hnsubs, visitSubs, setSubs_nil n hnsubs] at hR
    refine Or.inl ⟨_, ?_, hR.symm⟩
    exact ⟨⟨_, _, _, _, _, rfl⟩, Or.inl ⟨rfl, rfl⟩⟩
  | some v =>
    rw [himp] at hR
    dsimp only at hR
    obtain ⟨hdn, hans⟩ := evalPartial_fragBk hfrn st1 v
    obtain ⟨i, s, fr, h, dn, ew⟩ := evalPartial_writes n v st1
    generalize hE : evalPartial n v st1 = e at hR hdn hans ew
    obtain ⟨r, stG⟩ := e
    -- what the evaluator wrote, its display names being those of `st1`
    obtain rfl : dn = st1.dname := by
      rw [ew] at hdn
      exact hdn
    dsimp only at ew
    rcases hans with ⟨hr, hsym⟩ | ⟨hnc, x, opn, attrs, o, ho, hr, hxin, hsym, hkind⟩
    · simp only [] at hr hsym
      subst hr
      simp only [finishNode] at hR
      have hsymG : NewAlias n st1 stG := by
        intro x s hx
        rcases hsym with h | ⟨x0, o, hin, hout, h⟩
        · rw [h] at hx
          exact Or.inl hx
        · rw [h, lookupA_insert] at hx
          by_cases hxo : x = o
          · rw [if_pos hxo] at hx
            exact Or.inr ⟨x0, (Option.some.inj hx).symm, by rw [hxo, hout]; simp, by rw [hin]; simp⟩
          · rw [if_neg hxo] at hx
            exact Or.inl hx
      rcases gateCascade_cases ctx hnf stG n v with ⟨h', nd, hg⟩ | ⟨c, st2, st3, o, hexit, hg⟩
      · rw [hg] at hR
        simp only [hnsubs, visitSubs, setSubs_nil n hnsubs] at hR
        refine Or.inl ⟨_, ?_, hR.symm⟩
        refine ⟨?_, Or.inr ⟨v, _, hE, hsymG, ⟨rfl, rfl⟩⟩⟩
        subst ew
        exact ⟨_, _, _, _, _, rfl⟩
      · rw [hg] at hR
        obtain ⟨st4, happ, l, rfl⟩ := applyRepl_fold ctx hnf st3 n o (freshOf st2) c.tok hexit.out
        simp only [happ, List.nil_append] at hR
        exact Or.inr (Or.inl ⟨stG, st2, st3, v, c, o, l, ⟨hexit, hE, ⟨_, _, _, _, ew⟩, hsymG⟩, hR.symm⟩)
    · simp only [] at hr hsym hdn
      subst hr
      simp only [finishNode] at hR
      obtain ⟨l, x', hx', happ⟩ := applyRepl_oneRen ctx hnf stG n o (freshOf st1) x opn attrs ho
      have happ' : applyRepl ctx stG n (oneRepl st1 opn x attrs) = .ok ([mkNode opn [some x'] [o] attrs], [],
          afterRepl stG n o (freshOf st1) [(mkNode opn [some x'] [o] attrs)] l) := happ
      simp only [happ', List.cons_append, List.nil_append, List.append_nil] at hR
      refine Or.inr (Or.inr ⟨stG, v, x, x', opn, attrs, o, l, ⟨by rw [← hKn]; exact hnc, ho, hE, ?_, hxin, hx', hkind, ?_⟩,
        hR.symm⟩)
      · rw [ew] at hsym ⊢
        dsimp only at hsym
        subst hsym
        exact ⟨_, _, _, rfl⟩
      · rcases hkind with ⟨rfl, rfl, _⟩ | ⟨rfl, ⟨t, rfl⟩, _⟩
        · exact ⟨rfl, rfl, Or.inr (Or.inr (Or.inl ⟨rfl, rfl, x', o, rfl, rfl⟩))⟩
        · exact ⟨rfl, rfl, Or.inr (Or.inr (Or.inr (clsX_cast _ x' o rfl rfl rfl)))⟩

theorem TurnPre.sym {ctx : Ctx} {st : St} {n0 n : Node} {st1 : St} (h : TurnPre ctx st n0 n st1) : st1.sym = st.sym := by
  obtain ⟨i, u, m, hh, e⟩ := h.writes
  rw [e]

theorem TurnPre.outputs {ctx : Ctx} {st : St} {n0 n : Node} {st1 : St} (h : TurnPre ctx st n0 n st1) :
    n.outputs = n0.outputs := by
  rw [h.node, setInputs_outputs]

theorem NewAlias.alias {n : Node} {st1 stG : St} (h : NewAlias n st1 stG) {x y : Name}
    (hx : lookupA stG.sym x = some (.alias y)) :
    lookupA st1.sym x = some (.alias y) ∨ (n.outputs.contains x = true ∧ n.inputs.contains (some y) = true) := by
  rcases h x _ hx with h1 | ⟨y', e, h2⟩
  · exact Or.inl h1
  · cases e
    exact Or.inr h2

theorem TurnKept.alias {n : Node} {st1 st' : St} (h : TurnKept n st1 st') {x y : Name}
    (hx : lookupA st'.sym x = some (.alias y)) :
    lookupA st1.sym x = some (.alias y) ∨ n.inputs.contains (some y) = true := by
  rcases h.how with hs | ⟨v, stG, _, hG, hs'⟩
  · rw [hs.2] at hx
    exact Or.inl hx
  · rw [hs'.2] at hx
    exact (hG.alias hx).imp id And.right

theorem TurnFolded.alias {ctx : Ctx} {n : Node} {st1 stG st2 st3 : St} {v : Nat} {c : CInfo} {o : Name}
    (h : TurnFolded ctx n st1 stG st2 st3 v c o) (l : List Name) {x y : Name}
    (hx : lookupA (afterRepl st3 n o (freshOf st2) [] l).sym x = some (.alias y)) : lookupA st1.sym x = some (.alias y) := by
  rw [(sameIS_afterRepl st3 n o _ [] l).2, inheritInfo_sym, h.sym, h.sameIS.2] at hx
  obtain ⟨hxo, hx⟩ := lookupA_of_erase hx
  rcases h.newAlias.alias hx with h1 | h1
  · exact h1
  · rw [h.out] at h1
    exact absurd (by simpa using h1.1) hxo

theorem TurnReplaced.sym {n0 n : Node} {st1 st2 : St} {v : Nat} {x x' : Name} {opn : String}
    {attrs : List (String × Attr)} {o : Name} (h : TurnReplaced n0 n st1 st2 v x x' opn attrs o) : st2.sym = st1.sym := by
  obtain ⟨i, fr, hh, e⟩ := h.writes
  rw [e]

theorem TurnReplaced.alias {n0 n : Node} {st1 st2 : St} {v : Nat} {x x' : Name} {opn : String}
    {attrs : List (String × Attr)} {o : Name} (h : TurnReplaced n0 n st1 st2 v x x' opn attrs o) (fv : Name) (m : Node)
    (l : List Name) {z y : Name} (hx : lookupA (afterRepl st2 n o fv [m] l).sym z = some (.alias y)) :
    lookupA st1.sym z = some (.alias y) := by
  rw [(sameIS_afterRepl st2 n o fv [m] l).2, inheritInfo_sym, h.sym] at hx
  exact (lookupA_of_erase hx).2

theorem visitNodes_stop (ctx : Ctx) (vg : St → Graph → St × Graph) (f : Nat) (st : St) (todo acc : List Node)
    (ai : List (Name × String)) (h : f = 0 ∨ todo = [] ∨ st.err.isSome = true) :
    ∃ e, visitNodes ctx vg f st todo acc ai = ({ st with err := e }, acc.reverse ++ todo, ai) ∧
      ((f = 0 ∧ e.isSome = true) ∨ (e = st.err ∧ (todo = [] ∨ st.err.isSome = true))) := by
  cases f with
  | zero => exact ⟨_, rfl, Or.inl ⟨rfl, rfl⟩⟩
  | succ f =>
    have h' : todo = [] ∨ st.err.isSome = true := by simpa using h
    refine ⟨st.err, ?_, Or.inr ⟨rfl, h'⟩⟩
    cases todo with
    | nil => simp [visitNodes]
    | cons n rest =>
      have herr : st.err.isSome = true := by simpa using h'
      simp [visitNodes, herr]

/-- Rule induction for the node loop on a list of `FragBk` nodes.  `motive f st todo acc ai r`: "the loop started in this
configuration ends in `r`".  It holds of every run if it holds of the stopped configurations and passes from the
configuration after a turn to the one before it, for each of the three outcomes of a turn. -/
theorem visitNodes_induct (ctx : Ctx) (hnf : ctx.isFunction = false) (vg : St → Graph → St × Graph)
    {motive : Nat → St → List Node → List Node → List (Name × String) → St × List Node × List (Name × String) → Prop}
    (stop : ∀ f st todo acc ai e, (f = 0 ∧ e.isSome = true) ∨ (e = st.err ∧ (todo = [] ∨ st.err.isSome = true)) →
      motive f st todo acc ai ({ st with err := e }, acc.reverse ++ todo, ai))
    (kept : ∀ f st n0 rest acc ai n st1 st' r, TurnPre ctx st n0 n st1 → TurnKept n st1 st' →
      motive f st' rest (n :: acc) ai r → motive (f + 1) st (n0 :: rest) acc ai r)
    (folded : ∀ f st n0 rest acc ai n st1 stG st2 st3 v c o l r, TurnPre ctx st n0 n st1 →
      TurnFolded ctx n st1 stG st2 st3 v c o →
      motive f (afterRepl st3 n o (freshOf st2) [] l) rest acc (ai ++ [(o, c.tok)]) r → motive (f + 1) st (n0 :: rest) acc ai r)
    (replaced : ∀ f st n0 rest acc ai n st1 st2 v x x' opn attrs o l r, TurnPre ctx st n0 n st1 →
      TurnReplaced n0 n st1 st2 v x x' opn attrs o →
      motive f (afterRepl st2 n o (freshOf st1) [(mkNode opn [some x'] [o] attrs)] l) (mkNode opn [some x'] [o] attrs :: rest)
        acc ai r →
      motive (f + 1) st (n0 :: rest) acc ai r) :
    ∀ (f : Nat) (todo : List Node) (st : St) (acc : List Node) (ai : List (Name × String)),
      (∀ n ∈ todo, FragBk n) → motive f st todo acc ai (visitNodes ctx vg f st todo acc ai) := by
  intro f
  induction f with
  | zero =>
    intro todo st acc ai _
    obtain ⟨e, heq, he⟩ := visitNodes_stop ctx vg 0 st todo acc ai (Or.inl rfl)
    rw [heq]
    exact stop 0 st todo acc ai e he
  | succ f ih =>
    intro todo st acc ai hfr
    have stopped : (todo = [] ∨ st.err.isSome = true) →
        motive (f + 1) st todo acc ai (visitNodes ctx vg (f + 1) st todo acc ai) := by
      intro h
      obtain ⟨e, heq, he⟩ := visitNodes_stop ctx vg (f + 1) st todo acc ai (Or.inr h)
      rw [heq]
      exact stop _ st todo acc ai e he
    cases todo with
    | nil => exact stopped (Or.inl rfl)
    | cons n0 rest =>
      have hfrrest : ∀ m ∈ rest, FragBk m := fun m hm => hfr m (List.mem_cons_of_mem _ hm)
      cases herr : st.err.isSome with
      | true => exact stopped (Or.inr herr)
      | false =>
        obtain ⟨n, st1, hp, hstep⟩ := visitNodes_step ctx hnf vg f st n0 rest acc ai (hfr n0 List.mem_cons_self) herr
        rcases hstep with ⟨st', hk, heq⟩ | ⟨stG, st2, st3, v, c, o, l, hf, heq⟩ | ⟨st2, v, x, x', opn, attrs, o, l, hr, heq⟩
        · rw [heq]
          exact kept f st n0 rest acc ai n st1 st' _ hp hk (ih _ _ _ _ hfrrest)
        · rw [heq]
          exact folded f st n0 rest acc ai n st1 stG st2 st3 v c o l _ hp hf (ih _ _ _ _ hfrrest)
        · rw [heq]
          exact replaced f st n0 rest acc ai n st1 st2 v x x' opn attrs o l _ hp hr
            (ih _ _ _ _ (fun k hk => (List.mem_cons.mp hk).elim (fun e => e ▸ hr.frag) (hfrrest k)))

theorem TurnPre.plain {ctx : Ctx} {st : St} {n0 n : Node} {st1 : St} (h : TurnPre ctx st n0 n st1) (hp : Plain n0)
    (hsym : st.sym = []) :
    n = n0 ∧ SameIS st st1 ∧ (∀ st', TurnKept n st1 st' → SameIS st st') ∧
    (∀ stG st2 st3 v c o, TurnFolded ctx n st1 stG st2 st3 v c o → stG = st1) ∧
    (∀ st2 v x x' opn attrs o, TurnReplaced n0 n st1 st2 v x x' opn attrs o → False) := by
  have hmap : ∀ l : List (Option Name), l.map (substOne st) = l := by
    intro l
    induction l with
    | nil => rfl
    | cons a r ih =>
      rw [List.map_cons, ih]
      cases a with
      | none => rfl
      | some x => simp only [substOne, getSym_nil st hsym]
  obtain rfl : n = n0 := by
    rw [h.node, hmap]
    cases n0
    rfl
  have hst1 := h.state
  rw [hp.2.1] at hst1
  have hIS1 : SameIS st st1 := hst1 ▸ sameIS_substInputs st n
  have hev : ∀ v r stG, evalPartial n v st1 = (r, stG) → r = EvRes.none ∧ stG = st1 := by
    intro v r stG hE
    rw [evalPartial_of_none (hp.2.2.1 v)] at hE
    cases hE
    exact ⟨rfl, rfl⟩
  refine ⟨rfl, hIS1, fun st' hk => ?_, fun stG st2 st3 v c o hf => (hev v _ _ hf.ev).2, fun st2 v x x' opn attrs o hr => ?_⟩
  · rcases hk.how with hs | ⟨v, stG, hE, _, hs'⟩
    · exact hIS1.trans hs
    · rw [(hev v _ _ hE).2] at hs'
      exact hIS1.trans hs'
  · cases (hev v _ _ hr.ev).1

end OV.C03
