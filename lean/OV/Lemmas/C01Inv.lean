import OV.Model.C01Sem
/-!
Inversion lemmas: a defined result of `single` / `applyOp` / `evalExpr` / `evalExprs` /
`evalStmt` / `evalBlock` (the source read as Python) gives the results of the parts it was computed from.  The
simulation proofs start from these, and on the converter's side from `C01Run`, instead of unfolding the definitions.
-/
namespace OV.C01

variable {V : Type}

theorem single_some {r : Option (List V)} {pv : PV V} (h : single r = some pv) : ∃ v, r = some [v] ∧ pv = .t v := by
  unfold single at h
  split at h
  · rename_i v; cases h; exact ⟨v, rfl, rfl⟩
  · cases h

theorem applyOp_some {S : Sem V} {dom op : String} {sig : Sig} {args : List (PV V)}
    {attrs : List (String × AttrV)} {rs : List V} (h : applyOp S dom op sig args attrs = some rs) :
    ∃ vs, argVals S sig args = some vs ∧ S.op dom op (vs.map some) attrs = some rs := by
  unfold applyOp at h
  cases hv : argVals S sig args with
  | none => simp [hv] at h
  | some vs => simp only [hv] at h; exact ⟨vs, rfl, h⟩

theorem single_applyOp_some {S : Sem V} {dom op : String} {sig : Sig} {args : List (PV V)}
    {attrs : List (String × AttrV)} {pv : PV V} (h : single (applyOp S dom op sig args attrs) = some pv) :
    ∃ v vs, argVals S sig args = some vs ∧ S.op dom op (vs.map some) attrs = some [v] ∧ pv = .t v := by
  obtain ⟨v, hap, rfl⟩ := single_some h
  obtain ⟨vs, hav, hop⟩ := applyOp_some hap
  exact ⟨v, vs, hav, hop, rfl⟩

theorem evalExprs_cons_some {S : Sem V} {ρ : Store V} {e : Expr} {es : List Expr} {pvs : List (PV V)}
    (h : evalExprs S ρ (e :: es) = some pvs) :
    ∃ pv rest, evalExpr S ρ e = some pv ∧ evalExprs S ρ es = some rest ∧ pvs = pv :: rest := by
  unfold evalExprs at h
  cases he : evalExpr S ρ e with
  | none => simp [he] at h
  | some pv =>
    cases hes : evalExprs S ρ es with
    | none => simp [he, hes] at h
    | some rest => simp only [he, hes] at h; cases h; exact ⟨pv, rest, rfl, rfl, rfl⟩

theorem evalExpr_call_some {S : Sem V} {ρ : Store V} {dom op : String} {sig : Sig} {args : List Expr}
    {attrs : List (String × AttrV)} {pv : PV V} (h : evalExpr S ρ (.call dom op sig args attrs) = some pv) :
    ∃ pvs, evalExprs S ρ args = some pvs ∧ single (applyOp S dom op sig pvs attrs) = some pv := by
  unfold evalExpr at h
  cases ha : evalExprs S ρ args with
  | none => simp [ha] at h
  | some pvs => simp only [ha] at h; exact ⟨pvs, rfl, h⟩

theorem evalExpr_binop_some {S : Sem V} {ρ : Store V} {o : String} {a b : Expr} {pv : PV V}
    (h : evalExpr S ρ (.binop o a b) = some pv) :
    ∃ oname pa pb, primop o = some oname ∧ evalExpr S ρ a = some pa ∧ evalExpr S ρ b = some pb ∧
      single (applyOp S "" oname (sigOfPrim oname) [pa, pb]
        (if o = "Mod" && isFloatConst b then [("fmod", .const "i:1")] else [])) = some pv := by
  unfold evalExpr at h
  cases hp : primop o with
  | none => simp [hp] at h
  | some oname =>
    cases ha : evalExpr S ρ a with
    | none => simp [hp, ha] at h
    | some pa =>
      cases hb : evalExpr S ρ b with
      | none => simp [hp, ha, hb] at h
      | some pb => simp only [hp, ha, hb] at h; exact ⟨oname, pa, pb, rfl, rfl, rfl, h⟩

theorem evalExpr_unop_some {S : Sem V} {ρ : Store V} {o : String} {a : Expr} {pv : PV V}
    (hn : negatedLiteral o a = none) (h : evalExpr S ρ (.unop o a) = some pv) :
    ∃ oname pa, primop o = some oname ∧ evalExpr S ρ a = some pa ∧
      single (applyOp S "" oname { known := false, variadic := false, homog := false, tvs := [] } [pa] []) = some pv := by
  unfold evalExpr at h
  cases hp : primop o with
  | none => simp [hp] at h
  | some oname =>
    simp only [hp, hn] at h
    cases ha : evalExpr S ρ a with
    | none => simp [ha] at h
    | some pa => simp only [ha] at h; exact ⟨oname, pa, rfl, rfl, h⟩

theorem evalExpr_cmp_some {S : Sem V} {ρ : Store V} {o : String} {a b : Expr} {pv : PV V}
    (h : evalExpr S ρ (.cmp o a b) = some pv) :
    ∃ oname pa pb, primop o = some oname ∧ evalExpr S ρ a = some pa ∧ evalExpr S ρ b = some pb ∧
      if oname = "NotEqual" then
        ∃ e, applyOp S "" "Equal" binSig [pa, pb] [] = some [e] ∧ single (S.op "" "Not" [some e] []) = some pv
      else single (applyOp S "" oname binSig [pa, pb] []) = some pv := by
  unfold evalExpr at h
  cases hp : primop o with
  | none => simp [hp] at h
  | some oname =>
    cases ha : evalExpr S ρ a with
    | none => simp [hp, ha] at h
    | some pa =>
      cases hb : evalExpr S ρ b with
      | none => simp [hp, ha, hb] at h
      | some pb =>
        simp only [hp, ha, hb] at h
        refine ⟨oname, pa, pb, rfl, rfl, rfl, ?_⟩
        split
        · rename_i hne
          rw [if_pos hne] at h
          split at h
          · rename_i e he; exact ⟨e, he, h⟩
          · cases h
        · rename_i hne
          rw [if_neg hne] at h
          exact h

theorem evalStmt_assign_some {S : Sem V} {fuel : Nat} {x : Name} {e : Expr} {ρ : Store V} {o : Outcome V}
    (h : evalStmt S fuel (.assign x e) ρ = some o) : ∃ pv, evalExpr S ρ e = some pv ∧ o = .normal (ρ.set x pv) := by
  unfold evalStmt at h
  cases he : evalExpr S ρ e with
  | none => simp [he] at h
  | some pv => simp only [he] at h; cases h; exact ⟨pv, rfl, rfl⟩

theorem evalStmt_par_some {S : Sem V} {fuel : Nat} {xs : List Name} {es : List Expr} {ρ : Store V} {o : Outcome V}
    (h : evalStmt S fuel (.par xs es) ρ = some o) :
    ∃ pvs, evalExprs S ρ es = some pvs ∧ pvs.length = xs.length ∧ o = .normal (ρ.setMany xs pvs) := by
  unfold evalStmt at h
  cases he : evalExprs S ρ es with
  | none => simp [he] at h
  | some pvs =>
    simp only [he] at h
    by_cases hl : pvs.length = xs.length
    · rw [if_pos hl] at h; cases h; exact ⟨pvs, rfl, hl, rfl⟩
    · rw [if_neg hl] at h; cases h

theorem evalStmt_tuple_some {S : Sem V} {fuel : Nat} {xs : List Name} {dom op : String} {sig : Sig}
    {args : List Expr} {attrs : List (String × AttrV)} {ρ : Store V} {o : Outcome V}
    (h : evalStmt S fuel (.tuple xs (.call dom op sig args attrs)) ρ = some o) :
    ∃ pvs rs, evalExprs S ρ args = some pvs ∧ applyOp S dom op sig pvs attrs = some rs ∧ rs.length = xs.length ∧
      o = .normal (ρ.setMany xs (rs.map PV.t)) := by
  unfold evalStmt at h
  cases ha : evalExprs S ρ args with
  | none => simp [ha] at h
  | some pvs =>
    simp only [ha] at h
    cases hop : applyOp S dom op sig pvs attrs with
    | none => simp [hop] at h
    | some rs =>
      simp only [hop] at h
      by_cases hl : rs.length = xs.length
      · rw [if_pos hl] at h; cases h; exact ⟨pvs, rs, rfl, hop, hl, rfl⟩
      · rw [if_neg hl] at h; cases h

theorem evalStmt_ite_some {S : Sem V} {fuel : Nat} {c : Expr} {t e : List Stmt} {ρ : Store V} {o : Outcome V}
    (h : evalStmt S fuel (.ite c t e) ρ = some o) :
    ∃ cv b, evalExpr S ρ c = some cv ∧ truthPV S cv = some b ∧
      evalBlock S fuel (if b then t else e) ρ = some o := by
  unfold evalStmt at h
  cases hc : evalExpr S ρ c with
  | none => simp [hc] at h
  | some cv =>
    simp only [hc] at h
    cases hb : truthPV S cv with
    | none => simp [hb] at h
    | some b => cases b <;> simp only [hb] at h <;> exact ⟨cv, _, rfl, hb, h⟩

theorem evalStmt_for_some {S : Sem V} {fuel : Nat} {i : Name} {b : Expr} {body : List Stmt} {ρ : Store V}
    {o : Outcome V} (h : evalStmt S fuel (.for_ i true b body) ρ = some o) :
    ∃ bv n, evalExpr S ρ b = some bv ∧ natPV S bv = some n ∧
      iterFor S i (fun r => evalBlock S fuel body r) n 0 ρ = some o := by
  unfold evalStmt at h
  simp only [Bool.not_true, Bool.false_eq_true, if_false] at h
  cases hb : evalExpr S ρ b with
  | none => simp [hb] at h
  | some bv =>
    simp only [hb] at h
    cases hn : natPV S bv with
    | none => simp [hn] at h
    | some n => simp only [hn] at h; exact ⟨bv, n, rfl, hn, h⟩

theorem evalStmt_ret_some {S : Sem V} {fuel : Nat} {es : List Expr} {bare : Bool} {ρ : Store V} {o : Outcome V}
    (h : evalStmt S fuel (.ret es bare) ρ = some o) : ∃ pvs, evalExprs S ρ es = some pvs ∧ o = .returned pvs := by
  unfold evalStmt at h
  cases he : evalExprs S ρ es with
  | none => simp [he] at h
  | some pvs => simp only [he] at h; cases h; exact ⟨pvs, rfl, rfl⟩

theorem evalBlock_cons_some {S : Sem V} {fuel : Nat} {st : Stmt} {ss : List Stmt} {ρ : Store V} {o : Outcome V}
    (h : evalBlock S fuel (st :: ss) ρ = some o) :
    ∃ o1, evalStmt S fuel st ρ = some o1 ∧
      match o1 with
      | .normal ρ1 => evalBlock S fuel ss ρ1 = some o
      | other => o = other := by
  unfold evalBlock at h
  cases hs : evalStmt S fuel st ρ with
  | none => simp [hs] at h
  | some o1 =>
    refine ⟨o1, rfl, ?_⟩
    cases o1 <;> simp only [hs] at h
    · exact h
    · cases h; rfl
    · cases h; rfl

end OV.C01
