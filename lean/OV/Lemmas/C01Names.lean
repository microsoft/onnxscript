import OV.Lemmas.C01Run
/-!
What a run of the converter does to its state, for C02.  `genUnique` and `genUnique` followed by `markCastable` are
the only two steps that touch the state (`genUnique_fresh`, `genMark_fresh`: a mark is only put on a name just
generated); every other fact is composed from these two by `Fresh.append`.  Each function of `OV.Model.C01Convert`
gets a lemma `…_fresh` saying `Emits` of the nodes it emits.
-/
namespace OV.C01

def Mono (s s' : St) : Prop := ∀ n, n ∈ s.used → n ∈ s'.used

def FreshL (s s' : St) (d : List Name) : Prop :=
  d.Nodup ∧ ∀ n ∈ d, n ∉ s.used ∧ n ∈ s'.used

theorem Mono.refl (s : St) : Mono s s := fun _ h => h
theorem Mono.trans {a b c : St} (h1 : Mono a b) (h2 : Mono b c) : Mono a c := fun n h => h2 n (h1 n h)

def CastSub (s : St) : Prop := ∀ n, n ∈ s.castable → n ∈ s.used

/-- A step of the converter's state: names are only added, and a name in use keeps its castable status. -/
structure CastOK (s s' : St) : Prop where
  mono : Mono s s'
  sub : CastSub s → CastSub s'
  ext : ∀ n, n ∈ s.used → (n ∈ s'.castable ↔ n ∈ s.castable)

theorem CastOK.refl (s : St) : CastOK s s := ⟨Mono.refl s, id, fun _ _ => Iff.rfl⟩

theorem CastOK.trans {a b c : St} (h1 : CastOK a b) (h2 : CastOK b c) : CastOK a c :=
  ⟨h1.mono.trans h2.mono, fun h => h2.sub (h1.sub h),
   fun n hn => (h2.ext n (h1.mono n hn)).trans (h1.ext n hn)⟩

theorem FreshL.nil (s s' : St) : FreshL s s' [] := ⟨List.nodup_nil, fun _ h => by cases h⟩

theorem FreshL.append {s s' s'' : St} {d1 d2 : List Name}
    (m1 : Mono s s') (f1 : FreshL s s' d1) (m2 : Mono s' s'') (f2 : FreshL s' s'' d2) :
    FreshL s s'' (d1 ++ d2) := by
  refine ⟨?_, ?_⟩
  · rw [List.nodup_append]
    refine ⟨f1.1, f2.1, ?_⟩
    intro a ha b hb hab
    subst hab
    exact (f2.2 a hb).1 ((f1.2 a ha).2)
  · intro n hn
    rcases List.mem_append.mp hn with h | h
    · exact ⟨(f1.2 n h).1, m2 n (f1.2 n h).2⟩
    · exact ⟨fun hu => (f2.2 n h).1 (m1 n hu), (f2.2 n h).2⟩

theorem FreshL.perm {s s' : St} {d1 d2 : List Name} (p : d1.Perm d2) (f : FreshL s s' d1) :
    FreshL s s' d2 :=
  ⟨p.nodup_iff.mp f.1, fun n hn => f.2 n (p.mem_iff.mpr hn)⟩

theorem FreshL.weaken_left {s0 s s' : St} {d : List Name} (m : Mono s0 s) (f : FreshL s s' d) :
    FreshL s0 s' d :=
  ⟨f.1, fun n hn => ⟨fun hu => (f.2 n hn).1 (m n hu), (f.2 n hn).2⟩⟩

/-- The shape of every fact below: the run from `s` to `s'` is a `CastOK` step that generated the names `d`. -/
abbrev Fresh (s s' : St) (d : List Name) : Prop := CastOK s s' ∧ FreshL s s' d

theorem Fresh.nil (s : St) : Fresh s s [] := ⟨CastOK.refl s, FreshL.nil s s⟩

theorem Fresh.append {s s' s'' : St} {d1 d2 : List Name} (h1 : Fresh s s' d1) (h2 : Fresh s' s'' d2) :
    Fresh s s'' (d1 ++ d2) :=
  ⟨h1.1.trans h2.1, FreshL.append h1.1.mono h1.2 h2.1.mono h2.2⟩

theorem Fresh.perm {s s' : St} {d1 d2 : List Name} (p : d1.Perm d2) (h : Fresh s s' d1) : Fresh s s' d2 :=
  ⟨h.1, h.2.perm p⟩

theorem allDefsL_append (a b : List Node) : allDefsL (a ++ b) = allDefsL a ++ allDefsL b := by
  induction a with
  | nil => simp [allDefsL]
  | cons n ns ih => simp [allDefsL, ih, List.append_assoc]

theorem allDefsL_nil : allDefsL [] = [] := by simp [allDefsL]

theorem allDefsL_single (n : Node) : allDefsL [n] = n.allDefs := by simp [allDefsL]

theorem genLoop_fresh {used : List Name} {cand : Name} :
    ∀ (fuel k : Nat) {r : Name} {k' : Nat}, genLoop used cand fuel k = some (r, k') → r ∉ used := by
  intro fuel
  induction fuel with
  | zero => intro k r k' h; simp [genLoop] at h
  | succ n ih =>
    intro k r k' h
    unfold genLoop at h
    simp only at h
    split at h
    · exact ih _ h
    · rename_i hc
      cases h
      simpa using hc

theorem genUnique_spec {cand r : Name} {s s' : St} (h : genUnique cand s = .ok (r, s')) :
    r ∉ s.used ∧ s'.used = r :: s.used ∧ s'.castable = s.castable := by
  unfold genUnique at h
  split at h
  · split at h
    · rename_i r' k hg
      cases h
      exact ⟨genLoop_fresh _ _ hg, rfl, rfl⟩
    · cases h
  · rename_i hc
    cases h
    exact ⟨by simpa using hc, rfl, rfl⟩

theorem genUnique_fresh {cand r : Name} {s s' : St} (h : genUnique cand s = .ok (r, s')) : Fresh s s' [r] := by
  obtain ⟨h1, h2, hc⟩ := genUnique_spec h
  have m : Mono s s' := fun n hn => by rw [h2]; exact List.mem_cons_of_mem _ hn
  refine ⟨⟨m, fun hs n hn => ?_, fun n _ => by rw [hc]⟩, by simp, fun n hn => ?_⟩
  · rw [hc] at hn; exact m n (hs n hn)
  · rw [List.mem_singleton] at hn
    subst hn
    exact ⟨h1, by rw [h2]; exact List.mem_cons_self⟩

theorem genMark_fresh {cand r : Name} {s s1 s' : St} {u : Unit} (h : genUnique cand s = .ok (r, s1))
    (hm : markCastable r s1 = .ok (u, s')) : Fresh s s' [r] := by
  obtain ⟨hfresh, hu, hc⟩ := genUnique_spec h
  have f := genUnique_fresh h
  unfold markCastable at hm
  cases hm
  refine ⟨⟨f.1.mono, fun hs x hx => ?_, fun x hx => ?_⟩, f.2⟩
  · simp only [List.mem_cons] at hx
    rcases hx with rfl | hx
    · exact (f.2.2 x List.mem_cons_self).2
    · rw [hc] at hx; exact f.1.mono x (hs x hx)
  · simp only [List.mem_cons, hc]
    exact ⟨fun h' => h'.resolve_left (fun he => hfresh (he ▸ hx)), Or.inr⟩

theorem genUniques_fresh (cs : List Name) {rs : List Name} {s s' : St} (h : genUniques cs s = .ok (rs, s')) :
    CastOK s s' ∧ FreshL s s' rs ∧ rs.length = cs.length :=
  genUniques_induct (P := fun cs s rs s' => CastOK s s' ∧ FreshL s s' rs ∧ rs.length = cs.length)
    ⟨CastOK.refl _, FreshL.nil _ _, rfl⟩
    (fun hr _ ⟨m2, f2, hl⟩ =>
      have hf := Fresh.append (genUnique_fresh hr) ⟨m2, f2⟩
      ⟨hf.1, hf.2, by simp [hl]⟩) h

theorem Fresh.of_genUniques {cs rs : List Name} {s s' : St} (h : genUniques cs s = .ok (rs, s')) : Fresh s s' rs :=
  ⟨(genUniques_fresh cs h).1, (genUniques_fresh cs h).2.1⟩

theorem isCastable_state {n : Name} {s s' : St} {b : Bool} (h : isCastable n s = .ok (b, s')) :
    s' = s := by
  unfold isCastable at h
  cases h
  rfl

theorem guardE_ok {α : Type} {ok : Bool} {e : Err} {m : M α} {r : α} {s s' : St}
    (h : guardE ok e m s = .ok (r, s')) : ok = true ∧ m s = .ok (r, s') := by
  unfold guardE at h
  cases ok with
  | true => exact ⟨rfl, h⟩
  | false => exact (failM_ok (s := s) h).elim

/-- The half of `Emits` that speaks of names only: the nodes define names that were unused. -/
def NodesFresh (s s' : St) (ns : List Node) : Prop := Mono s s' ∧ FreshL s s' (allDefsL ns)

theorem NodesFresh.append {s s' s'' : St} {a b : List Node}
    (h1 : NodesFresh s s' a) (h2 : NodesFresh s' s'' b) : NodesFresh s s'' (a ++ b) :=
  ⟨h1.1.trans h2.1, by rw [allDefsL_append]; exact FreshL.append h1.1 h1.2 h2.1 h2.2⟩

theorem NodesFresh.of_eq {s s' : St} {a b : List Node} (h : NodesFresh s s' a) (e : a = b) :
    NodesFresh s s' b := e ▸ h

/-- What a run that emits the nodes `ns` does to the state: a `CastOK` step that generated what `ns` defines. -/
abbrev Emits (s s' : St) (ns : List Node) : Prop := Fresh s s' (allDefsL ns)

theorem Emits.nil (s : St) : Emits s s [] := Fresh.nil s

theorem Emits.append {s s' s'' : St} {a b : List Node}
    (h1 : Emits s s' a) (h2 : Emits s' s'' b) : Emits s s'' (a ++ b) := by
  unfold Emits; rw [allDefsL_append]; exact Fresh.append h1 h2

theorem Emits.single {s s' : St} {d : List Name} {n : Node} (h : Fresh s s' d) (hd : n.allDefs = d) :
    Emits s s' [n] := by
  unfold Emits
  rw [allDefsL_single, hd]
  exact h

theorem emitConst_fresh {l : Lit} {sug : Option Name} {x : Name} {ns : List Node} {s s' : St}
    (h : emitConst l sug s = .ok ((x, ns), s')) : Emits s s' ns := by
  obtain ⟨s1, hg, hm, rfl⟩ := emitConst_ok h
  exact .single (genMark_fresh hg hm) rfl

theorem emitCopy_fresh {o sug x : Name} {ns : List Node} {s s' : St}
    (h : emitCopy o sug s = .ok ((x, ns), s')) : Emits s s' ns := by
  obtain ⟨hg, rfl⟩ := emitCopy_ok h
  exact .single (genUnique_fresh hg) rfl

theorem toOnnxVar_fresh {b : Bind} {t x : Name} {ns : List Node} {s s' : St}
    (h : toOnnxVar b t s = .ok ((x, ns), s')) : Emits s s' ns := by
  cases b with
  | val n =>
    obtain ⟨_, rfl, rfl⟩ := toOnnxVar_val_ok h
    exact .nil _
  | attr p ty =>
    obtain ⟨an, r, s1, _, hr, ⟨_, rfl, hm, rfl⟩ | ⟨s2, _, hrb, hm, rfl⟩⟩ := toOnnxVar_attr_ok h
    · exact .single (genMark_fresh hr hm) rfl
    · exact (Emits.single (genUnique_fresh hr) rfl).append (.single (genMark_fresh hrb hm) rfl)

theorem pyVar_fresh {L : Locals} {v x : Name} {ns : List Node} {s s' : St}
    (h : pyVar L v s = .ok ((x, ns), s')) : Emits s s' ns := by
  obtain ⟨b, _, hb⟩ := pyVar_ok h
  exact toOnnxVar_fresh hb

theorem castOne_fresh {a : Name} {tgt : Option Name} {x : Name} {ns : List Node} {s s' : St}
    (h : castOne a tgt s = .ok ((x, ns), s')) : Emits s s' ns := by
  obtain ⟨_, _, rfl, rfl⟩ | ⟨y, _, _, hg, rfl⟩ := castOne_ok h
  · exact .nil _
  · exact .single (genUnique_fresh hg) rfl

theorem castArgs_fresh {sig : Sig} {bs : List (String × Name)} {as : List Name} {i : Nat} {xs : List Name}
    {ns : List Node} {s s' : St} (h : castArgs sig bs as i s = .ok ((xs, ns), s')) : Emits s s' ns :=
  castArgs_induct (P := fun _ _ s _ ns s' => Emits s s' ns) (.nil _) (fun h1 _ ih => (castOne_fresh h1).append ih) h

theorem castInputs_fresh {sig : Sig} {as xs : List Name} {ns : List Node} {s s' : St}
    (h : castInputs sig as s = .ok ((xs, ns), s')) : Emits s s' ns := by
  obtain ⟨_, _, rfl, rfl⟩ | ⟨bs, _, _, hc⟩ := castInputs_ok h
  · exact .nil _
  · exact castArgs_fresh hc

theorem const1d_fresh {c c' : IntCache} {v : Int} {x : Name} {ns : List Node} {s s' : St}
    (h : const1d c v s = .ok ((x, ns, c'), s')) : Emits s s' ns := by
  obtain ⟨_, rfl, _, rfl⟩ | ⟨he, _⟩ := const1d_ok h
  · exact .nil _
  · exact emitConst_fresh he

theorem convSlice_fresh {c c' : IntCache} {lo up st : Option Int} {r : Name × Name × Name} {ns : List Node}
    {s s' : St} (h : convSlice c lo up st s = .ok ((r, ns, c'), s')) : Emits s s' ns := by
  obtain ⟨ln, un, sn⟩ := r
  obtain ⟨ns1, c1, s1, ns2, c2, s2, ns3, h1, h2, h3, rfl⟩ := convSlice_ok h
  exact (const1d_fresh h1).append ((const1d_fresh h2).append (const1d_fresh h3))

theorem convSlices_fresh {els : List SliceEl} {c c' : IntCache}
    {r : List Name × List Name × List Name × List Name} {ns : List Node} {s s' : St}
    (h : convSlices c els s = .ok ((r, ns, c'), s')) : Emits s s' ns := by
  obtain ⟨starts, ends, axes, steps⟩ := r
  exact convSlices_induct (P := fun _ _ s _ _ _ _ ns _ s' => Emits s s' ns) (.nil _)
    (fun h1 h2 _ ih => (const1d_fresh h1).append ((convSlice_fresh h2).append ih)) h

theorem pickOrConcat_fresh {cand : Name} {xs : List Name} {x : Name} {ns : List Node} {s s' : St}
    (h : pickOrConcat cand xs s = .ok ((x, ns), s')) : Emits s s' ns := by
  obtain ⟨_, rfl, rfl⟩ | ⟨hg, rfl⟩ := pickOrConcat_ok h
  · exact .nil _
  · exact .single (genUnique_fresh hg) rfl

/-- The target name is generated first and defined last: freshness of the whole list is that of the
sequence up to a permutation of the defined names. -/
theorem target_last_fresh {s s1 s' : St} {target : Name} {mid : List Node} {last : Node}
    (ht : Fresh s s1 [target]) (hm : Emits s1 s' mid) (hl : last.allDefs = [target]) :
    Emits s s' (mid ++ [last]) := by
  unfold Emits
  rw [allDefsL_append, allDefsL_single, hl]
  exact (ht.append hm).perm List.perm_append_comm

theorem convSubscript_fresh {var : Name} {tgt : Option Name} {idx : List Idx} {x : Name} {ns : List Node}
    {s s' : St} (h : convSubscript var tgt idx s = .ok ((x, ns), s')) : Emits s s' ns := by
  obtain ⟨s0, h0, hs⟩ := convSubscript_ok h
  have ht := genUnique_fresh h0
  rcases hs with ⟨starts, ends, axes, steps, ns1, cc, s1, sv, n1, s2, ev, n2, s3, av, n3, s4, tv, n4, s5,
      h1, h2, h3, h4, h5, hlast⟩ | ⟨rfl, rfl⟩ | ⟨ax, k, iv, n1, h1, rfl⟩
  · have hmid := (convSlices_fresh h1).append ((pickOrConcat_fresh h2).append ((pickOrConcat_fresh h3).append
      ((pickOrConcat_fresh h4).append (pickOrConcat_fresh h5))))
    rcases hlast with ⟨rfl, rfl⟩ | ⟨sliced, s6, sq, n5, h6, h7, rfl⟩
    · exact target_last_fresh ht hmid rfl
    · exact target_last_fresh ht (hmid.append ((Emits.single (genUnique_fresh h6) rfl).append
        (emitConst_fresh h7))) rfl
  · exact .single ht rfl
  · exact target_last_fresh ht (emitConst_fresh h1) rfl

theorem exprRules_fresh (L : Locals) :
    ExprRules L (fun _ _ s _ ns s' => Emits s s' ns) (fun _ s _ ns s' => Emits s s' ns) where
  var h := pyVar_fresh h
  lit h := emitConst_fresh h
  call _ ih _ h3 h4 := ih.append ((castInputs_fresh h3).append (.single (genUnique_fresh h4) rfl))
  binop _ _ iha _ ihb h3 h4 :=
    iha.append (ihb.append ((castInputs_fresh h3).append (.single (genUnique_fresh h4) rfl)))
  neg _ _ h := emitConst_fresh h
  unop _ _ _ ih h4 := ih.append (.single (genUnique_fresh h4) rfl)
  cmpNe _ _ iha _ ihb h3 h4 h5 := iha.append (ihb.append ((castInputs_fresh h3).append
    ((Emits.single (genUnique_fresh h4) rfl).append (.single (genUnique_fresh h5) rfl))))
  cmp _ _ _ iha _ ihb h3 h4 :=
    iha.append (ihb.append ((castInputs_fresh h3).append (.single (genUnique_fresh h4) rfl)))
  subscript _ ih h2 := ih.append (convSubscript_fresh h2)
  nil := .nil _
  cons _ ihe _ ihes := ihe.append ihes

theorem convExpr_fresh (L : Locals) (e : Expr) (tgt : Option Name) {x : Name} {ns : List Node} {s s' : St}
    (h : convExpr L e tgt s = .ok ((x, ns), s')) : Emits s s' ns :=
  (exprRules_fresh L).expr e tgt h

theorem convArgs_fresh (L : Locals) (es : List Expr) {xs : List Name} {ns : List Node} {s s' : St}
    (h : convArgs L es s = .ok ((xs, ns), s')) : Emits s s' ns :=
  (exprRules_fresh L).args es h

theorem Outs.fresh {L : Locals} {vs : List Name} {sofar : List Node} {outs os : List Name} {ns : List Node}
    {s s' : St} (h : Outs L vs sofar outs s os ns s') : Emits s s' ns := by
  induction h with
  | nil => exact .nil _
  | direct h1 _ _ _ ih => exact (pyVar_fresh h1).append ih
  | copy h1 h2 _ ih => exact (pyVar_fresh h1).append ((emitCopy_fresh h2).append ih)

theorem blockOutputs_fresh (L : Locals) (vs : List Name) (sofar : List Node) (outs : List Name)
    {os : List Name} {ns : List Node} {s s' : St}
    (h : blockOutputs L vs sofar outs s = .ok ((os, ns), s')) : Emits s s' ns :=
  (blockOutputs_outs L vs sofar outs h).fresh

theorem loopInits_fresh {L : Locals} {vs os : List Name} {ns : List Node} {s s' : St}
    (h : loopInits L vs s = .ok ((os, ns), s')) : Emits s s' ns :=
  loopInits_induct (P := fun _ s _ ns s' => Emits s s' ns) (.nil _)
    (fun h1 _ ih => (pyVar_fresh h1).append ih) h

theorem loopEnter_fresh {L : Locals} {v : Name} {bindIt : Bool} {state : List Name} {L1 : Locals} {iv : Name}
    {ps : List Name} {s s' : St} (h : loopEnter L v bindIt state s = .ok ((L1, iv, ps), s')) :
    Fresh s s' (iv :: ps) := by
  obtain ⟨s1, h1, h2⟩ := loopEnter_ok h
  exact Fresh.append (genUnique_fresh h1) (loopParams_induct (P := fun _ _ s _ ps s' => Fresh s s' ps)
    (Fresh.nil _) (fun hp _ ih => Fresh.append (genUnique_fresh hp) ih) h2)

theorem convParExprs_fresh {L : Locals} {xs : List Name} {es : List Expr} {ts : List Name}
    {ns : List Node} {s s' : St} (h : convParExprs L xs es s = .ok ((ts, ns), s')) : Emits s s' ns :=
  convParExprs_induct (P := fun _ _ s _ ns s' => Emits s s' ns) (fun _ => .nil _)
    (fun h1 _ ih => (convExpr_fresh L _ _ h1).append ih) h

theorem condNodes_fresh {whileVar brkCond : Option Name} {oc co : Name} {cns : List Node} {s s' : St}
    (h : condNodes whileVar brkCond oc s = .ok ((co, cns), s')) : Emits s s' cns := by
  obtain ⟨_, hg, rfl⟩ | ⟨w, b, nb, s1, _, _, h1, h2, rfl⟩ := condNodes_ok h
  · exact .single (genUnique_fresh hg) (by cases brkCond <;> rfl)
  · exact (Emits.single (genUnique_fresh h1) rfl).append (.single (genUnique_fresh h2) rfl)

/-- `pre` is `condIn` together with what `ns0` (the bound, or the condition before the loop) defines, in the order of
generation, which differs between `for` and `while`. -/
theorem loop_fresh {L L2 : Locals} {state : List Name} {bound cond : Option Name} {condIn iv : Name}
    {ps : List Name} {whileVar : Option Name} {bn : List Node} {brkCond : Option Name} {L' : Locals}
    {ns0 nl : List Node} {pre : List Name} {s s2 s3 s4 s' : St}
    (hpre : Fresh s s2 pre) (hp : pre.Perm (condIn :: allDefsL ns0))
    (h3 : Fresh s2 s3 (iv :: ps)) (h4 : Emits s3 s4 bn)
    (h5 : loopFinish L L2 state bound cond condIn iv ps whileVar bn brkCond s4 = .ok ((L', nl), s')) :
    Emits s s' (ns0 ++ nl) := by
  obtain ⟨oc, condOut, cns, s5, os, ns3, s6, inits, ns4, s7, outs, _, f1, f2, f3, f4, _, rfl⟩ := loopFinish_ok h5
  have hall := (hpre.perm hp).append (h3.append (Fresh.append h4 (Fresh.append (condNodes_fresh f1)
    (Fresh.append (loopOutputs_outs _ _ _ _ f2).fresh (Fresh.append (loopInits_fresh f3)
      (.of_genUniques f4))))))
  refine hall.perm (List.perm_iff_count.mpr fun a => ?_)
  simp only [allDefsL_append, allDefsL_single, Node.allDefs, List.count_append, List.count_cons]
  omega

theorem ifN_perm (d0 dt dt2 de de2 r : List Name) (a' : Name) :
    (d0 ++ (r ++ ((dt ++ dt2) ++ (de ++ de2)))).count a'
      = (d0 ++ (dt ++ (dt2 ++ (de ++ (de2 ++ r))))).count a' := by
  simp only [List.count_append]; omega

theorem stmtRules_fresh : StmtRules (fun _ _ _ s _ ns s' => Emits s s' ns)
    (fun _ _ _ s _ ns s' => Emits s s' ns) (fun _ _ _ s _ ns _ s' => Emits s s' ns) where
  assign h := convExpr_fresh _ _ _ h
  par _ h := convParExprs_fresh h
  tuple h1 _ h3 h4 := (convArgs_fresh _ _ h1).append ((castInputs_fresh h3).append
    (.single (.of_genUniques h4) rfl))
  ite _ h1 _ iht h3 _ ihe h5 h6 := by
    have hall := Fresh.append (convExpr_fresh _ _ _ h1) (Fresh.append iht (Fresh.append
      (blockOutputs_fresh _ _ _ _ h3) (Fresh.append ihe (Fresh.append (blockOutputs_fresh _ _ _ _ h5)
        (.of_genUniques h6)))))
    refine hall.perm (List.perm_iff_count.mpr fun a => ?_)
    rw [allDefsL_append, allDefsL_single]
    simp only [Node.allDefs, allDefsL_append]
    exact (ifN_perm ..).symm
  for_ _ h1 h2 h3 _ ihb h5 :=
    loop_fresh (Fresh.append (convExpr_fresh _ _ _ h1) (genUnique_fresh h2)) List.perm_append_comm
      (loopEnter_fresh h3) ihb h5
  while_ _ h1 h2 h3 _ ihb h5 :=
    loop_fresh (Fresh.append (genUnique_fresh h1) (pyVar_fresh h2)) (List.Perm.refl _)
      (loopEnter_fresh h3) ihb h5
  skip := .nil _
  nil := .nil _
  cons _ ih1 _ ih2 := ih1.append ih2
  bodyNil := .nil _
  bodyBrk _ := .nil _
  bodyCons _ ih1 _ ih2 := ih1.append ih2

theorem convStmt_fresh (L : Locals) (st : Stmt) (lo : VSet) {L' : Locals} {ns : List Node} {s s' : St}
    (h : convStmt L st lo s = .ok ((L', ns), s')) : Emits s s' ns :=
  stmtRules_fresh.stmt L st lo h

theorem convStmts_fresh (L : Locals) (ss : List Stmt) (lo : VSet) {L' : Locals} {ns : List Node} {s s' : St}
    (h : convStmts L ss lo s = .ok ((L', ns), s')) : Emits s s' ns :=
  stmtRules_fresh.stmts L ss lo h

theorem convLoopBody_fresh (L : Locals) (ss : List Stmt) (lo : VSet) {L' : Locals} {ns : List Node}
    {bc : Option Name} {s s' : St} (h : convLoopBody L ss lo s = .ok ((L', ns, bc), s')) : Emits s s' ns :=
  stmtRules_fresh.body L ss lo h

theorem CopyIf.fresh {c : Prop} {x sug x' : Name} {nc : List Node} {s s' : St}
    (h : CopyIf c x sug s x' nc s') : Emits s s' nc := by
  obtain ⟨_, hc⟩ | ⟨_, _, rfl, rfl⟩ := h
  · exact emitCopy_fresh hc
  · exact .nil _

theorem convRetOne_fresh {L : Locals} {inputs : List Name} {e : Expr} {pref : Name} {outs : List Name}
    {o : Name} {ns : List Node} {s s' : St}
    (h : convRetOne L inputs e pref outs s = .ok ((o, ns), s')) : Emits s s' ns := by
  obtain ⟨rv, ns1, s1, rv2, ns2, s2, ns3, h1, c1, c2, rfl⟩ := convRetOne_ok h
  exact (convExpr_fresh L e _ h1).append (c1.fresh.append c2.fresh)

theorem convRetAll_fresh {L : Locals} {inputs : List Name} {single : Bool} {es : List Expr} {i : Nat}
    {outs outs' : List Name} {ns : List Node} {s s' : St}
    (h : convRetAll L inputs single es i outs s = .ok ((outs', ns), s')) : Emits s s' ns :=
  convRetAll_induct (P := fun _ _ _ s _ ns s' => Emits s s' ns) (.nil _)
    (fun h1 _ ih => (convRetOne_fresh h1).append ih) h

theorem convTop_fresh {inputs : List Name} {rc : Option Nat} {ss : List Stmt} {L : Locals} {outs : List Name}
    {ns : List Node} {outs' : List Name} {s s' : St}
    (h : convTop inputs rc L ss outs s = .ok ((ns, outs'), s')) : Emits s s' ns :=
  convTop_induct (P := fun _ _ _ s ns _ s' => Emits s s' ns) (.nil _)
    (fun h1 _ ih => (convRetAll_fresh h1).append ih) (fun h1 _ ih => (convStmt_fresh _ _ _ h1).append ih) h

theorem convert_allDefs_nodup {f : Func} {g : Graph} (h : convert f = .ok g)
    (hp : (tensorParams f.params).Nodup) : g.allDefs.Nodup := by
  obtain ⟨ns, outs, s', hc, rfl⟩ := convert_ok h
  obtain ⟨_, f1⟩ := convTop_fresh hc
  refine List.nodup_append.mpr ⟨hp, f1.1, ?_⟩
  intro a ha b hb hab
  subst hab
  exact (f1.2 a hb).1 (by simpa using ha)

end OV.C01
