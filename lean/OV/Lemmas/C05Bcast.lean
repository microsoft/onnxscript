import OV.Model.C05Shape
/-!
ONNX/NumPy broadcasting aligns shapes at the right.  `specBroadcast` does that by left-padding with `1`s and zipping; every
user in the model (`cGuard`, `expandRemovableConstPrefix`, `bcLoop`) walks the *reversed* shapes instead.  `bcRev` is
broadcasting as structural recursion on reversed shapes, `specBroadcast_eq_bcRev` ties it to the specification once, and
everything else (right-aligned reads, a longer operand keeping its prefix, the matmul batch loop) is induction on `bcRev`.
Core Lean only.
-/
namespace OV.Lemmas.C05Bcast
open OV.C05.Shape

/-- The per-dimension rule of `specBroadcast`. -/
def bdim (x y : Nat) : Option Nat :=
  if x = y then some x else if x = 1 then some y else if y = 1 then some x else none

/-- Broadcast of two shapes given innermost axis first; the longer shape keeps its outer axes. -/
def bcRev : List Nat → List Nat → Option (List Nat)
  | [], ys => some ys
  | xs, [] => some xs
  | x :: xs, y :: ys => (bdim x y).bind fun d => (bcRev xs ys).map (d :: ·)

theorem bdim_one_left (y : Nat) : bdim 1 y = some y := by
  unfold bdim; split
  · next h => rw [h]
  · rfl

theorem bdim_comm (x y : Nat) : bdim x y = bdim y x := by
  unfold bdim
  by_cases h : x = y
  · subst h; rfl
  · rw [if_neg h, if_neg (Ne.symm h)]
    by_cases h1 : x = 1 <;> by_cases h2 : y = 1 <;> simp [h1, h2]

theorem bdim_one_right (x : Nat) : bdim x 1 = some x := by rw [bdim_comm, bdim_one_left]

theorem bdim_self (x : Nat) : bdim x x = some x := if_pos rfl

theorem bdim_eq_some (x y t : Nat) (h : bdim x y = some t) : t = x ∨ t = y := by
  unfold bdim at h
  by_cases h1 : x = y
  · rw [if_pos h1] at h; cases h; exact Or.inl rfl
  · rw [if_neg h1] at h
    by_cases h2 : x = 1
    · rw [if_pos h2] at h; cases h; exact Or.inr rfl
    · rw [if_neg h2] at h
      by_cases h3 : y = 1
      · rw [if_pos h3] at h; cases h; exact Or.inl rfl
      · rw [if_neg h3] at h; cases h

theorem bdim_ne_one (x e t : Nat) (h : bdim x e = some t) (hx : x ≠ 1) : t ≠ 1 := by
  rcases bdim_eq_some x e t h with rfl | rfl
  · exact hx
  · rintro rfl; rw [bdim_one_right] at h; exact hx (Option.some.inj h)

@[simp] theorem bcRev_nil_right (xs : List Nat) : bcRev xs [] = some xs := by cases xs <;> rfl

theorem bcRev_pad_left (xs ys : List Nat) (k : Nat) (h : k ≤ ys.length - xs.length) :
    bcRev (xs ++ List.replicate k 1) ys = bcRev xs ys := by
  induction xs generalizing ys with
  | nil =>
    induction k generalizing ys with
    | zero => rfl
    | succ k ih =>
      cases ys with
      | nil => simp at h
      | cons y ys =>
        have := ih ys (by simpa using h)
        simp only [List.nil_append] at this
        simp only [List.nil_append, List.replicate_succ, bcRev, bdim_one_left, this, Option.bind_some, Option.map_some]
  | cons x xs ih =>
    cases ys with
    | nil => simp at h; simp [h]
    | cons y ys => simp only [List.cons_append, bcRev, ih ys (by simpa using h)]

theorem bcRev_comm : ∀ (xs ys : List Nat), bcRev xs ys = bcRev ys xs
  | [], ys => (bcRev_nil_right ys).symm
  | x :: xs, [] => rfl
  | x :: xs, y :: ys => by rw [bcRev, bcRev, bdim_comm, bcRev_comm xs ys]

theorem bcRev_pad_right (xs ys : List Nat) (k : Nat) (h : k ≤ xs.length - ys.length) :
    bcRev xs (ys ++ List.replicate k 1) = bcRev xs ys := by
  rw [bcRev_comm, bcRev_pad_left ys xs k h, bcRev_comm]

/-- Zipping two equally long shapes from the outermost axis is `bcRev` on the reversed shapes. -/
theorem mapM_zip_eq_bcRev (f : Nat × Nat → Option Nat) (hf : ∀ x y, f (x, y) = bdim x y) :
    ∀ (p q : List Nat), p.length = q.length →
      ∀ (xs ys : List Nat), xs.length = ys.length →
      ((List.zip p q).mapM f).bind (fun r => (bcRev xs ys).map (r.reverse ++ ·))
        = bcRev (p.reverse ++ xs) (q.reverse ++ ys)
  | [], [], _, xs, ys, _ => by simp
  | [], _ :: _, h, _, _, _ | _ :: _, [], h, _, _, _ => by simp at h
  | x :: p, y :: q, h, xs, ys, hl => by
    have ih := mapM_zip_eq_bcRev f hf p q (by simpa using h) (x :: xs) (y :: ys) (by simpa using hl)
    simp only [List.reverse_cons, List.append_assoc, List.singleton_append]
    rw [← ih, List.zip_cons_cons, List.mapM_cons, hf, bcRev]
    cases bdim x y with
    | none => cases (List.zip p q).mapM f <;> rfl
    | some d =>
      cases (List.zip p q).mapM f with
      | none => rfl
      | some r => cases bcRev xs ys <;> simp

theorem specBroadcast_eq_bcRev (a b : List Nat) :
    specBroadcast a b = (bcRev a.reverse b.reverse).map List.reverse := by
  let f : Nat × Nat → Option Nat :=
    fun (x, y) => if x == y then some x else if x == 1 then some y else if y == 1 then some x else none
  have key := mapM_zip_eq_bcRev f (fun x y => by simp [f, bdim])
    (List.replicate (max a.length b.length - a.length) 1 ++ a) (List.replicate (max a.length b.length - b.length) 1 ++ b)
    (by simp only [List.length_append, List.length_replicate]; omega) [] [] rfl
  rw [List.reverse_append, List.reverse_append, List.reverse_replicate, List.reverse_replicate, List.append_nil,
    List.append_nil,
    bcRev_pad_left _ _ _ (by simp only [List.length_append, List.length_reverse, List.length_replicate]; omega),
    bcRev_pad_right _ _ _ (by simp only [List.length_reverse]; omega)] at key
  rw [← key]
  show List.mapM f _ = _
  generalize List.mapM f _ = o
  cases o <;> simp [bcRev]

theorem eq_iff_getD (l r : List Nat) : l = r ↔ r.length = l.length ∧ ∀ j, l.getD j 1 = r.getD j 1 :=
  ⟨fun h => h ▸ ⟨rfl, fun _ => rfl⟩, fun ⟨hl, h⟩ => List.ext_getElem hl.symm fun j h1 h2 => by
    have := h j
    rwa [List.getD_eq_getElem?_getD, List.getD_eq_getElem?_getD, List.getElem?_eq_getElem h1,
      List.getElem?_eq_getElem h2, Option.getD_some, Option.getD_some] at this⟩

theorem bcRev_eq_some_iff : ∀ (xs ys r : List Nat),
    bcRev xs ys = some r ↔
      r.length = max xs.length ys.length ∧ ∀ j, bdim (xs.getD j 1) (ys.getD j 1) = some (r.getD j 1)
  | [], ys, r => by
    simp only [bcRev, Option.some.injEq, List.getD_nil, bdim_one_left, List.length_nil, Nat.zero_max]
    exact eq_iff_getD ys r
  | x :: xs, [], r => by
    simp only [bcRev, Option.some.injEq, List.getD_nil, bdim_one_right, List.length_nil, Nat.max_zero]
    exact eq_iff_getD (x :: xs) r
  | x :: xs, y :: ys, r => by
    have ih := bcRev_eq_some_iff xs ys
    constructor
    · intro h
      simp only [bcRev, Option.bind_eq_some_iff, Option.map_eq_some_iff] at h
      obtain ⟨d, hd, r', hr', rfl⟩ := h
      obtain ⟨hl, hp⟩ := (ih r').1 hr'
      exact ⟨by simp only [List.length_cons, hl]; omega, fun j => by
        cases j with
        | zero => simpa using hd
        | succ j => simpa using hp j⟩
    · rintro ⟨hl, hp⟩
      cases r with
      | nil => simp at hl
      | cons d r' =>
        have h0 := hp 0
        simp only [List.getD_cons_zero] at h0
        have := (ih r').2 ⟨by simp only [List.length_cons] at hl; omega, fun j => by simpa using hp (j + 1)⟩
        simp only [bcRev, h0, this, Option.bind_some, Option.map_some]

theorem bcRev_isSome_iff (xs ys : List Nat) :
    (∃ r, bcRev xs ys = some r) ↔ ∀ j, ∃ d, bdim (xs.getD j 1) (ys.getD j 1) = some d := by
  refine ⟨fun ⟨_, h⟩ j => ⟨_, ((bcRev_eq_some_iff ..).1 h).2 j⟩, ?_⟩
  induction xs generalizing ys with
  | nil => exact fun _ => ⟨ys, rfl⟩
  | cons x xs ih =>
    cases ys with
    | nil => exact fun _ => ⟨x :: xs, rfl⟩
    | cons y ys =>
      intro h
      obtain ⟨d, hd⟩ := h 0
      obtain ⟨r, hr⟩ := ih ys fun j => h (j + 1)
      exact ⟨d :: r, by simp only [List.getD_cons_zero] at hd; simp only [bcRev, hd, hr, Option.bind_some, Option.map_some]⟩

theorem bcRev_of_fits : ∀ (xs ys : List Nat), xs.length ≤ ys.length →
    (List.zip xs ys).all (fun (d, e) => d == 1 || d == e) = true → bcRev xs ys = some ys
  | [], _, _, _ => rfl
  | _ :: _, [], h, _ => nomatch h
  | x :: xs, y :: ys, hl, h => by
    simp only [List.zip_cons_cons, List.all_cons, Bool.and_eq_true, Bool.or_eq_true, beq_iff_eq] at h
    have hd : bdim x y = some y := by
      rcases h.1 with rfl | rfl
      · exact bdim_one_left y
      · exact bdim_self x
    rw [bcRev, hd, bcRev_of_fits xs ys (Nat.le_of_succ_le_succ hl) h.2]; rfl

theorem broadcast_self (s : List Nat) : specBroadcast s s = some s := by
  rw [specBroadcast_eq_bcRev]
  have : bcRev s.reverse s.reverse = some s.reverse :=
    (bcRev_eq_some_iff _ _ _).2 ⟨by simp, fun _ => bdim_self _⟩
  rw [this, Option.map_some, List.reverse_reverse]

theorem specBroadcast_nil_left (b : List Nat) : specBroadcast [] b = some b := by
  rw [specBroadcast_eq_bcRev]; simp [bcRev]

theorem specBroadcast_nil_right (a : List Nat) : specBroadcast a [] = some a := by
  rw [specBroadcast_eq_bcRev]; simp

theorem specBroadcast_eq_some_iff (a b r : List Nat) :
    specBroadcast a b = some r ↔ bcRev a.reverse b.reverse = some r.reverse := by
  rw [specBroadcast_eq_bcRev]
  constructor
  · intro h; obtain ⟨r', h1, rfl⟩ := Option.map_eq_some_iff.mp h; rw [h1, List.reverse_reverse]
  · intro h; rw [h, Option.map_some, List.reverse_reverse]

theorem specBroadcast_isSome_iff (a b : List Nat) :
    (∃ r, specBroadcast a b = some r) ↔ ∃ r, bcRev a.reverse b.reverse = some r := by
  simp only [specBroadcast_eq_bcRev, Option.map_eq_some_iff]
  exact ⟨fun ⟨_, r, h, _⟩ => ⟨r, h⟩, fun ⟨r, h⟩ => ⟨_, r, h, rfl⟩⟩

end OV.Lemmas.C05Bcast
