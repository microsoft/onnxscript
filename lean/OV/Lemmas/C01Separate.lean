import OV.Model.C01Separate
/-! `separate_input_attributes_from_arguments` (`OV/Model/C01Separate.lean`) on signatures without variadic parameter.
The `trailing_placeholders` counter is carried as an invariant of the loop state, `trailing = countTrail inputs`, so
that the final `del onnx_inputs[-trailing:]` is `trimNone` by definition. -/
namespace OV.C01.Eager
open OV.C01

theorem countTrail_le {A} : ∀ l : List (Option A), countTrail l ≤ l.length
  | [] => Nat.le_refl 0
  | x :: xs => by
    have := countTrail_le xs
    simp only [countTrail, List.length_cons]
    split <;> omega

theorem countTrail_append {A} (l' : List (Option A)) : ∀ l : List (Option A),
    countTrail (l ++ l') = if countTrail l' = l'.length then countTrail l + l'.length else countTrail l'
  | [] => by simp [countTrail]
  | x :: l => by
    have h1 := countTrail_le l
    have h2 := countTrail_le l'
    simp only [List.cons_append, countTrail, List.length_append, countTrail_append l' l]
    -- `l'` all placeholders: then `l ++ l'` is so iff `l` is; else the count of `l ++ l'`, that of `l'`, is below its length
    by_cases hf : countTrail l' = l'.length
    · simp only [hf, if_true, Nat.add_right_cancel_iff]
      split <;> omega
    · have : countTrail l' ≠ l.length + l'.length := by omega
      simp only [hf, this, if_false, false_and]

theorem countTrail_map_some {A} : ∀ vs : List A, countTrail (vs.map some) = 0
  | [] => rfl
  | _ :: vs => by simp [countTrail, countTrail_map_some vs]

theorem countTrail_append_values {A} (l : List (Option A)) (vs : List A) :
    countTrail (l ++ vs.map some) = if vs.isEmpty then countTrail l else 0 := by
  rw [countTrail_append, countTrail_map_some]
  cases vs <;> simp

theorem sepLoop_append {A} (d : SigParam → A) (kw : List (Name × A)) (args : List A) :
    ∀ (pre rest : List SigParam) (i : Nat) (st : Sep A), noVariadic pre = true → requiredGiven kw args i pre = true →
      st.trailing = countTrail st.inputs →
      sepLoop false d kw i args (pre ++ rest) st =
        sepLoop false d kw (i + pre.length) args rest
          { inputs := st.inputs ++ inputSlots kw args i pre,
            trailing := countTrail (st.inputs ++ inputSlots kw args i pre),
            attrs := st.attrs ++ attrSlots kw args i pre,
            hasVariadic := st.hasVariadic }
  | [], rest, i, st, _, _, hst => by
    simp [inputSlots, attrSlots, ← hst]
  | p :: ps, rest, i, st, hv, hr, hst => by
    simp only [noVariadic, Bool.and_eq_true, Bool.not_eq_true'] at hv
    simp only [requiredGiven, Bool.and_eq_true, Bool.or_eq_true, Bool.not_eq_true'] at hr
    obtain ⟨hreq, hrest⟩ := hr
    rw [List.cons_append]
    conv => lhs; unfold sepLoop
    simp only [hv.1, Bool.false_eq_true, if_false]
    have hidx : i + 1 + ps.length = i + (p :: ps).length := by simp; omega
    cases hg : given kw args i p with
    | some v =>
      cases hin : p.isInput with
      | true =>
        simp only [if_true]
        rw [sepLoop_append d kw args ps rest (i + 1) _ hv.2 hrest (by simp [countTrail_append, countTrail]), hidx]
        simp only [inputSlots, attrSlots, hin, if_true, hg, List.append_assoc, List.singleton_append]
      | false =>
        simp only [Bool.false_eq_true, if_false]
        rw [sepLoop_append d kw args ps rest (i + 1) { st with attrs := st.attrs ++ [(p.name, v)] } hv.2 hrest hst, hidx]
        simp only [inputSlots, attrSlots, hin, Bool.false_eq_true, if_false, hg, List.append_assoc, List.singleton_append]
    | none =>
      simp only [hg, Option.isSome_none, Bool.false_eq_true, false_or] at hreq
      cases hin : p.isInput with
      | true =>
        have hreq' : p.required = false := by simpa [hin] using hreq
        simp only [Bool.not_true, Bool.false_and, Bool.false_eq_true, if_false, hreq', if_true]
        rw [sepLoop_append d kw args ps rest (i + 1) _ hv.2 hrest (by simp [countTrail_append, countTrail, hst]), hidx]
        simp only [inputSlots, attrSlots, hin, if_true, hg, List.append_assoc, List.singleton_append]
      | false =>
        cases hd : p.hasDefault with
        | true =>
          simp only [Bool.not_false, Bool.true_and, if_true, Bool.false_eq_true, if_false]
          rw [sepLoop_append d kw args ps rest (i + 1) _ hv.2 hrest hst, hidx]
          simp only [inputSlots, attrSlots, hin, Bool.false_eq_true, if_false, hg]
        | false =>
          have hreq' : p.required = false := by simpa [hin, hd] using hreq
          simp only [Bool.not_false, Bool.true_and, Bool.false_eq_true, if_false, hreq']
          rw [sepLoop_append d kw args ps rest (i + 1) _ hv.2 hrest hst, hidx]
          simp only [inputSlots, attrSlots, hin, Bool.false_eq_true, if_false, hg]

theorem sepLoop_spec {A} (d : SigParam → A) (kw : List (Name × A)) (args : List A) (ps : List SigParam) (i : Nat)
    (st : Sep A) (hv : noVariadic ps = true) (hr : requiredGiven kw args i ps = true)
    (hst : st.trailing = countTrail st.inputs) :
    sepLoop false d kw i args ps st =
      .ok { inputs := st.inputs ++ inputSlots kw args i ps,
            trailing := countTrail (st.inputs ++ inputSlots kw args i ps),
            attrs := st.attrs ++ attrSlots kw args i ps,
            hasVariadic := st.hasVariadic } := by
  have h := sepLoop_append d kw args ps [] i st hv hr hst
  rw [List.append_nil] at h
  rw [h, sepLoop]

theorem separate_spec {A} (allowExtraKw : Bool) (d : SigParam → A) (ps : List SigParam) (args : List A)
    (kw : List (Name × A)) (hv : noVariadic ps = true) (hr : requiredGiven kw args 0 ps = true)
    (hk : kw.any (fun e => !(ps.any (fun p => p.name = e.1))) = false ∨ allowExtraKw = true) :
    separate false allowExtraKw true d ps args kw = .ok (trimNone (inputSlots kw args 0 ps), attrSlots kw args 0 ps) := by
  have hc : (kw.any (fun e => !(ps.any (fun p => p.name = e.1))) && !allowExtraKw) = false := by
    rcases hk with h | h <;> simp [h]
  simp only [separate, hc, Bool.false_eq_true, if_false, sepLoop_spec d kw args ps 0 ⟨[], 0, [], false⟩ hv hr rfl,
    List.nil_append, Bool.not_true, Bool.false_and, trimNone]

theorem trimNone_get {A} (l : List (Option A)) (j : Nat) (v : A) (h : l[j]? = some (some v)) :
    (trimNone l)[j]? = some (some v) := by
  have key : ∀ (l : List (Option A)) (j : Nat) (v : A), l[j]? = some (some v) → j < l.length - countTrail l := by
    intro l
    induction l with
    | nil => intro j v h; simp at h
    | cons x xs ih =>
      intro j v h
      have hle := countTrail_le xs
      simp only [countTrail, List.length_cons]
      cases j with
      | zero =>
        simp only [List.getElem?_cons_zero, Option.some.injEq] at h
        subst h
        simp; omega
      | succ j =>
        simp only [List.getElem?_cons_succ] at h
        have := ih j v h
        split <;> omega
  rw [trimNone, List.getElem?_take_of_lt (key l j v h)]
  exact h

end OV.C01.Eager
