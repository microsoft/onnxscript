import OV.Model.C20Hist
import OV.Lemmas.C20Save
import OV.Lemmas.C20Round
import OV.Lemmas.C20Sim
/-!
# C20 — helper lemmas for histories (several saves of the same in-memory model)

The one fact a history needs beyond `model_unchanged`: the initializers' tensors are still *readable, with the same
bytes*, on the file system a call leaves behind — whatever the call did and wherever it faulted.
-/
namespace OV.C20

/-- `hr`, `hmp`: the second guard in full (the code as it is since 3d20cf2: `cfg.refuse` and `cfg.refuseModel`) — or, for
the guard before 3d20cf2, no tensor object stored in the model file `dir/name` itself. -/
theorem initR_after_save (cfg : Cfg) (hr : cfg.refuse = true) (m : Model) (dir name : String) (verbose : Bool) (fs : FS)
    (k : Option Nat) (bs : List Bytes) (hmp : cfg.refuseModel = true ∨ NoExtIn m.heap (joinPath dir name))
    (hinit : All2 (InitR fs m.heap) m.cv bs) :
    All2 (InitR (runSave cfg m dir name verbose fs k).st.fs m.heap) m.cv bs := by
  by_cases hrf : refuses cfg m.sig dir name (init m fs k) = true
  · rw [(runSave_refused cfg m dir name verbose fs k hrf).2]
    exact hinit
  · obtain ⟨_, hd, hm⟩ := refuses_eq_false_iff.1 (eq_false_of_ne_true hrf)
    refine hinit.imp_mem ?_
    rintro c b hc ⟨id, t, rfl, h1, h2⟩
    refine ⟨id, t, rfl, h1, ?_⟩
    cases t with
    | mem b' np => exact h2
    | ext f o l v =>
      -- neither guard complained: the tensor's file is neither destination file, and the call left such files alone
      refine ⟨h2.1, ?_⟩
      rw [← h2.2]
      refine read_congr _ _ _ _ _ (runSave_frame cfg m dir name verbose fs k f ?_ ?_)
      · rintro rfl
        exact List.ne_nil_of_mem (mem_destHits hc h1) (hd hr)
      · rintro rfl
        rcases hmp with hrm | hno
        · exact List.ne_nil_of_mem (mem_destHits hc h1) (hm hrm)
        · exact hno id _ o l v h1 rfl

end OV.C20
