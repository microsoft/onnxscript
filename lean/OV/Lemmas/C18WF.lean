import OV.Lemmas.C18Ops
/-! C18: the well-formedness invariant of `build` (every value is defined at a site;
every node input was created before the node's outputs or is a root initializer), for every item, `call_inline`
and subgraphs included — and for either value of `total`: the invariant does not read the names. -/
namespace OV.C18

def Defined (st : St) (i : Nat) : Prop :=
  i ∈ st.inits ∨ ∃ f ∈ st.frames, i ∈ f.inputs ∨ ∃ n ∈ f.nodes, i ∈ n.outs

/-- a node is well-formed: its outputs exist, every input exists and is a root initializer or was created
    before every output of the node. -/
def NodeOK (L : Nat) (inits : List Nat) (n : Node) : Prop :=
  (∀ o ∈ n.outs, o < L) ∧ ∀ i, some i ∈ n.ins → i < L ∧ (i ∈ inits ∨ ∀ o ∈ n.outs, i < o)

/-- the invariant, with a list `P` of *pending* values (created, not yet placed at their site). -/
structure BndP (st : St) (P : List Nat) : Prop where
  handles : ∀ i, some i ∈ st.handles → i < st.L
  cache : ∀ e ∈ st.cache, e.2 ∈ st.inits
  inits : ∀ i ∈ st.inits, i < st.L
  finputs : ∀ f ∈ st.frames, ∀ i ∈ f.inputs, i < st.L
  nodes : ∀ f ∈ st.frames, ∀ n ∈ f.nodes, NodeOK st.L st.inits n
  defined : ∀ i, i < st.L → i ∉ P → Defined st i

abbrev Bnd (st : St) : Prop := BndP st []

theorem NodeOK.mono {L L' : Nat} {a b : List Nat} {n : Node} (h : NodeOK L a n) (hL : L ≤ L')
    (hs : ∀ i ∈ a, i ∈ b) : NodeOK L' b n := by
  refine ⟨fun o ho => Nat.lt_of_lt_of_le (h.1 o ho) hL, fun i hi => ?_⟩
  obtain ⟨h1, h2⟩ := h.2 i hi
  exact ⟨Nat.lt_of_lt_of_le h1 hL, h2.elim (fun x => Or.inl (hs i x)) Or.inr⟩

theorem Bnd.init : Bnd St.init := by
  refine ⟨?_, ?_, ?_, ?_, ?_, ?_⟩ <;> simp [St.init, St.frames, St.L]

/-- The invariant carries over to a later state that has the handles `hs`, the cached literals `ext` and, in its graphs
taken all together, the inputs `is` and the nodes `ns` more. -/
theorem Bnd.grow {st st' : St} {hs : List (Option Nat)} {ext : List (CKey × Nat)} {is : List Nat} {ns : List Node}
    (h : Bnd st) (hL : st.L ≤ st'.L) (hh : st'.handles = st.handles ++ hs)
    (hc : st'.cache = st.cache ++ ext) (hi : st'.inits = st.inits ++ ext.map (·.2))
    (hI : (st'.all Frame.inputs).Perm (st.all Frame.inputs ++ is))
    (hN : (st'.all Frame.nodes).Perm (st.all Frame.nodes ++ ns))
    (hhs : ∀ i, some i ∈ hs → i < st'.L) (hext : ∀ e ∈ ext, e.2 < st'.L) (hib : ∀ i ∈ is, i < st'.L)
    (hns : ∀ n ∈ ns, NodeOK st'.L st'.inits n)
    (hnew : ∀ i, st.L ≤ i → i < st'.L → i ∈ ext.map (·.2) ∨ i ∈ is ∨ ∃ n ∈ ns, i ∈ n.outs) : Bnd st' := by
  have his : ∀ i ∈ st.inits, i ∈ st'.inits := fun i x => hi ▸ List.mem_append_left _ x
  refine ⟨fun i m => ?_, fun e m => ?_, fun i m => ?_, fun f' hf' i m => ?_, fun f' hf' n m => ?_, fun i hi' _ => ?_⟩
  · exact (List.mem_append.mp (hh ▸ m)).elim (fun x => Nat.lt_of_lt_of_le (h.handles i x) hL) (hhs i)
  · exact (List.mem_append.mp (hc ▸ m)).elim (fun x => his _ (h.cache e x))
      (fun x => hi ▸ List.mem_append_right _ (List.mem_map_of_mem (f := (·.2)) x))
  · exact (List.mem_append.mp (hi ▸ m)).elim (fun x => Nat.lt_of_lt_of_le (h.inits i x) hL)
      (fun x => by obtain ⟨e, he, rfl⟩ := List.mem_map.mp x; exact hext e he)
  · rcases List.mem_append.mp (hI.mem_iff.mp (St.mem_all.mpr ⟨f', hf', m⟩)) with x | x
    · obtain ⟨f, hf, y⟩ := St.mem_all.mp x
      exact Nat.lt_of_lt_of_le (h.finputs f hf i y) hL
    · exact hib i x
  · rcases List.mem_append.mp (hN.mem_iff.mp (St.mem_all.mpr ⟨f', hf', m⟩)) with x | x
    · obtain ⟨f, hf, y⟩ := St.mem_all.mp x
      exact (h.nodes f hf n y).mono hL his
    · exact hns n x
  · -- `Defined` asks for *some* graph: a graph of `st'` holding the input resp. the node will do
    have inp : i ∈ st.all Frame.inputs ++ is → Defined st' i := fun x =>
      let ⟨f', hf', y⟩ := St.mem_all.mp (hI.mem_iff.mpr x); Or.inr ⟨f', hf', Or.inl y⟩
    have nod : ∀ {n}, n ∈ st.all Frame.nodes ++ ns → i ∈ n.outs → Defined st' i := fun x ho =>
      let ⟨f', hf', y⟩ := St.mem_all.mp (hN.mem_iff.mpr x); Or.inr ⟨f', hf', Or.inr ⟨_, y, ho⟩⟩
    by_cases hlt : i < st.L
    · rcases h.defined i hlt (by simp) with hd | ⟨f, hf, hd | ⟨n, hn, ho⟩⟩
      · exact Or.inl (his i hd)
      · exact inp (List.mem_append_left _ (St.mem_all.mpr ⟨f, hf, hd⟩))
      · exact nod (List.mem_append_left _ (St.mem_all.mpr ⟨f, hf, hn⟩)) ho
    · rcases hnew i (Nat.le_of_not_lt hlt) hi' with x | x | ⟨n, hn, ho⟩
      · exact Or.inl (hi ▸ List.mem_append_right _ x)
      · exact inp (List.mem_append_right _ x)
      · exact nod (List.mem_append_right _ hn) ho

theorem Moved.bnd {st st' : St} (m : Moved st st') (h : Bnd st) : Bnd st' :=
  h.grow (hs := []) (ext := []) (is := []) (ns := []) (Nat.le_of_eq m.L.symm) (by simp [m.handles]) (by simp [m.cache])
    (by simp [m.inits]) (by simpa using m.inputs) (by simpa using m.nodes) (by simp) (by simp) (by simp) (by simp)
    (fun i x y => absurd (m.L ▸ y) (Nat.not_lt.mpr x))

/-- `k` values are created and placed at once as inputs of a graph, their handles handed out (`input`, `subgraph`).
`hN` ends in `++ []`: the form in which `St.all_cur` and `St.all_enter` give it. -/
theorem Bnd.inputs {st st' : St} {k : Nat} (h : Bnd st) (hL : st'.L = st.L + k)
    (hh : st'.handles = st.handles ++ (List.range' st.L k).map some) (hc : st'.cache = st.cache)
    (hi : st'.inits = st.inits) (hI : (st'.all Frame.inputs).Perm (st.all Frame.inputs ++ List.range' st.L k))
    (hN : (st'.all Frame.nodes).Perm (st.all Frame.nodes ++ [])) : Bnd st' := by
  have hlt : ∀ i ∈ List.range' st.L k, i < st'.L := fun i x => by have := List.mem_range'_1.mp x; omega
  exact h.grow (ext := []) (by omega) hh (by simp [hc]) (by simp [hi]) hI hN
    (fun i x => by obtain ⟨j, hj, e⟩ := List.mem_map.mp x; cases e; exact hlt _ hj) (by simp) hlt (by simp)
    (fun i x y => Or.inr (Or.inl (List.mem_range'_1.mpr ⟨x, by omega⟩)))

variable {st st' : St} {rs : List VKey} {ext : List (CKey × Nat)} {ns : List Node} {hs : List (Option Nat)}

theorem getD_mem {l : List (Option Nat)} {h i : Nat} (e : l.getD h none = some i) : some i ∈ l := by
  rw [List.getD_eq_getElem?_getD] at e
  cases hg : l[h]? with
  | none => simp [hg] at e
  | some v =>
    simp only [hg, Option.getD_some] at e
    exact e ▸ List.mem_of_getElem? hg

theorem ArgOK.bound (h : Bnd st) :
    ∀ {a : List Arg} {ins : List (Option Nat)}, List.Forall₂ (ArgOK st.handles (st.cache ++ ext)) a ins →
    ∀ i, some i ∈ ins → i < st.L ∨ i ∈ ext.map (·.2)
  | _, _, .nil, _, hi => by cases hi
  | _, _, .cons (a := x) hx r, i, hi => by
    rcases List.mem_cons.mp hi with e | hi
    · cases x with
      | ref hd => exact Or.inl (h.handles i (getD_mem (e.trans hx).symm))
      | none => cases e.trans hx
      | lit l =>
        obtain ⟨id, e', hm⟩ := hx
        cases e.trans e'
        exact (List.mem_append.mp hm).imp (fun y => h.inits _ (h.cache _ y))
          (fun y => List.mem_map_of_mem (f := (·.2)) y)
    · exact ArgOK.bound h r i hi

theorem ArgOK.lt (h : Bnd st) {a : List Arg}
    {ins : List (Option Nat)} (z : List.Forall₂ (ArgOK st.handles (st.cache ++ ext)) a ins) {k : Nat}
    (y : ext.map (·.2) = List.range' st.L k) : ∀ i, some i ∈ ins → i < st.L + k := fun i hi =>
  (ArgOK.bound h z i hi).elim (fun b => Nat.lt_of_lt_of_le b (Nat.le_add_right _ _))
    (fun b => (List.mem_range'_1.mp (y ▸ b)).2)

theorem Adds.bnd (x : Adds st st' rs ext ns hs) (h : Bnd st)
    (ids : NewIds st.L st'.L (ext.map (·.2)) (ns.flatMap (·.outs))) (hhs : ∀ i, some i ∈ hs → i < st'.L)
    (hins : ∀ n ∈ ns, ∀ i, some i ∈ n.ins → i < st'.L ∧ (i ∈ st'.inits ∨ ∀ o ∈ n.outs, i < o)) : Bnd st' :=
  h.grow (is := []) (x.L ▸ Nat.le_add_right _ _) x.handles x.cache x.inits (by rw [x.all_inputs, List.append_nil])
    x.all_nodes hhs
    (fun e he => ((ids.mem _).mp (Or.inl (List.mem_map_of_mem (f := fun x : CKey × Nat => x.2) he))).2) (by simp)
    (fun n hn => ⟨fun o ho => ((ids.mem _).mp (Or.inr (List.mem_flatMap.mpr ⟨n, hn, ho⟩))).2, hins n hn⟩)
    (fun i h1 h2 => ((ids.mem i).mpr ⟨h1, h2⟩).imp id (fun y => Or.inr (List.mem_flatMap.mp y)))

theorem ArgOK.ins (h : Bnd st) (x : Adds st st' rs ext ns hs) {outs : List Nat}
    (ids : NewIds st.L st'.L (ext.map (·.2)) outs) {a : List Arg} {ins : List (Option Nat)}
    (z : List.Forall₂ (ArgOK st.handles (st.cache ++ ext)) a ins) :
    ∀ i, some i ∈ ins → i < st'.L ∧ (i ∈ st'.inits ∨ ∀ o ∈ outs, i < o) := fun i hi =>
  (ArgOK.bound h z i hi).elim
    (fun b => ⟨Nat.lt_of_lt_of_le b (x.L ▸ Nat.le_add_right _ _),
      Or.inr (fun o ho => Nat.lt_of_lt_of_le b ((ids.mem o).mp (Or.inr ho)).1)⟩)
    (fun b => ⟨((ids.mem i).mp (Or.inl b)).2, Or.inl (x.inits ▸ List.mem_append_right _ b)⟩)

theorem NodeCall.bnd {n : Node} {a : List Arg} (c : NodeCall st st' rs ext n a) (h : Bnd st) : Bnd st' :=
  c.adds.bnd h (by simpa using c.ids) (fun i hi => ((c.ids.mem i).mp (Or.inr (by simpa using hi))).2)
    (fun m hm => by cases List.mem_singleton.mp hm; exact ArgOK.ins h c.adds c.ids c.operands)

theorem bnd_doOp (total : Bool) (st : St) (t : String) (a : List Arg) (o : Outs) (nn : Option String)
    (g : List Nat) (as : List (String × AVal)) (h : Bnd st) : Bnd (doOp total st t a o nn g as) :=
  let ⟨_, _, _, _, _, c⟩ := doOp_adds total st t a o nn g as
  c.bnd h

theorem bnd_doCall (total : Bool) (fns : List Fn) (st : St) (fi : Nat) (a : List Arg) (o : Option Outs)
    (as : List (String × AVal)) (h : Bnd st) : Bnd (doCall total fns st fi a o as) := by
  cases hf : fns[fi]? with
  | none => simp only [doCall, hf]; exact (adds_fail st _).moved.bnd h
  | some f =>
    obtain ⟨_, _, _, _, _, c⟩ := doCall_adds total fns st fi a o as f hf _ rfl
    exact c.bnd h

theorem bnd_doInput (st : St) (n : String) (h : Bnd st) : Bnd (doInput st n) :=
  h.inputs (k := 1) (by simp [doInput, newValue, newValueK, St.L]) rfl rfl rfl (St.all_cur rfl rfl rfl)
    (St.all_cur rfl rfl (List.append_nil _).symm)

theorem bnd_doBeginSub (st : St) (g : String) (ins : List String) (h : Bnd st) : Bnd (doBeginSub st g ins) := by
  rw [doBeginSub_eq]
  exact h.inputs (k := ins.length) (by simp [St.L]) rfl rfl rfl (St.all_enter rfl rfl rfl) (St.all_enter rfl rfl rfl)

theorem mem_mapIn {m : VMap} {ins : List (Option String)} {i : Nat} (h : some i ∈ ins.map (mapIn m)) :
    ∃ x, vmapGet m x = some i := by
  obtain ⟨o, _, ho⟩ := List.mem_map.mp h
  cases o with
  | none => cases ho
  | some x => exact ⟨x, ho⟩

/-- the clones are well-formed nodes: a clone's inputs come through the value map, which yields values that existed
before the clone's outputs were created. -/
theorem clones_nodeOK (np : String) (inits : List Nat) : ∀ (nodes : List FNode) (L : Nat) (m : VMap),
    (∀ x id, vmapGet m x = some id → id < L) →
    (∀ c ∈ (clones np L m nodes).2, NodeOK (L + (cloneNames np nodes).length) inits c) ∧
    (∀ x id, vmapGet (clones np L m nodes).1 x = some id → id < L + (cloneNames np nodes).length)
  | [], _, _, hb => ⟨fun c hc => (by cases hc), hb⟩
  | n :: r, L, m, hb => by
    obtain ⟨a, b⟩ := clones_nodeOK np inits r (L + n.outs.length) _ (cloneAt_vmap_lt np n hb)
    have e : L + (cloneNames np (n :: r)).length = L + n.outs.length + (cloneNames np r).length := by
      simp [cloneNames, Nat.add_assoc]
    simp only [clones, e]
    refine ⟨fun c hc => ?_, b⟩
    rcases List.mem_cons.mp hc with rfl | hc
    · refine ⟨fun o ho => ?_, fun i hi => ?_⟩
      · have := List.mem_range'_1.mp ho
        omega
      · obtain ⟨y, hy⟩ := mem_mapIn hi
        have := hb y i hy
        exact ⟨by omega, Or.inr (fun o ho => by have := List.mem_range'_1.mp ho; omega)⟩
    · exact a c hc

theorem inlineClones_nodeOK (total : Bool) (inits : List Nat) (st : St) (f : Fn) (actuals : List (Option Nat))
    (ha : ∀ i, some i ∈ actuals → i < st.L) :
    (∀ c ∈ (inlineClones total st f actuals).2.2, NodeOK (inlineClones total st f actuals).1.L inits c) ∧
    (∀ x id, vmapGet (inlineClones total st f actuals).2.1 x = some id → id < (inlineClones total st f actuals).1.L) := by
  rw [inlineClones_snd, inlineClones_L]
  exact clones_nodeOK _ inits _ _ _ (vmapGet_zip_bound f.formals actuals st.L ha)

theorem Inlined.actuals_lt {total : Bool} {F : Fn} {a : List Arg} {ra : St × List (Option Nat)} {lits cls : List String}
    (c : Inlined total st st' F a ra lits cls ext) (h : Bnd st) : ∀ i, some i ∈ ra.2 → i < ra.1.L :=
  c.raL ▸ ArgOK.lt h c.operands c.litIds

theorem bnd_doInline (total : Bool) (fns : List Fn) (st : St) (fi : Nat) (a : List Arg)
    (o : Option (List String)) (p : String) (as : List (String × AVal)) (h : Bnd st) :
    Bnd (doInline total fns st fi a o p as) := by
  unfold doInline
  rcases doInline_cases fns fi a o with hr | ⟨f, hf, hr⟩
  · -- refused: at most the literal operands were promoted
    obtain ⟨lits, ext, x, ids⟩ := doInline_refused prefixLeaks total fns st fi a o p as (Or.inl prefixLeaks_false) hr
    exact x.bnd h ids (by simp) (by simp)
  · obtain ⟨lits, cls, ext, c⟩ := doInline_accepted prefixLeaks total fns st fi a o p as f hf hr
    obtain ⟨c1, c2⟩ := inlineClones_nodeOK total (doInlineWith prefixLeaks total fns st fi a o p as).inits _
      (resolveFn (effectiveAttrs total f as) f) _ (c.actuals_lt h)
    rw [c.clL] at c1 c2
    exact c.adds.bnd h c.ids (fun i hi => by obtain ⟨v, _, hv⟩ := List.mem_map.mp hi; exact c2 v i hv)
      (fun n hn => (c1 n hn).2)

theorem bnd_step (total : Bool) (fns : List Fn) (st : St) (it : Item) (h : Bnd st) :
    Bnd (step total fns st it) := by
  cases it with
  | input n => exact bnd_doInput st n h
  | op t a o nn g as => exact bnd_doOp total st t a o nn g as h
  | call f a o as => exact bnd_doCall total fns st f a o as h
  | inline f a o p as => exact bnd_doInline total fns st f a o p as h
  | beginSub g i => exact bnd_doBeginSub st g i h
  | _ => exact (step_moved total fns st _ rfl).bnd h

theorem bnd_foldl (total : Bool) (fns : List Fn) : ∀ (tr : List Item) (st : St),
    Bnd st → Bnd (tr.foldl (step total fns) st)
  | [], _, h => h
  | it :: r, st, h => bnd_foldl total fns r _ (bnd_step total fns st it h)

/-! Nothing above or in the other modules uses what follows. -/

/-- The one place where the list of pending values of `BndP` is not empty. -/
theorem BndP.created {st : St} {P : List Nat} (ks : List VKey) (h : BndP st P) :
    BndP (newValuesK st ks).1 (P ++ (newValuesK st ks).2) := by
  rw [newValuesK_eq]
  have up : ∀ {i}, i < st.L → i < st.L + ks.length := fun x => Nat.lt_add_right _ x
  refine ⟨fun i m => ?_, h.cache, fun i m => ?_, fun f hf i m => ?_,
    fun f hf n m => (h.nodes f hf n m).mono ?_ (fun _ x => x), fun i hi hq => ?_⟩
  · simpa [St.L] using up (h.handles i m)
  · simpa [St.L] using up (h.inits i m)
  · simpa [St.L] using up (h.finputs f hf i m)
  · simp [St.L]
  · rw [List.mem_append, List.mem_range'_1, not_or] at hq
    simp only [St.L, List.length_append, List.length_map] at hi hq
    exact h.defined i (by simp only [St.L]; omega) hq.1

theorem Bnd.abandon (st : St) (h : Bnd st) : Bnd (abandon st) := (abandon_moved st).bnd h

def wfItem : Item → Bool
  | .inline _ _ _ _ _ => false
  | _ => true

/-- `bnd_foldl` for traces without `call_inline`; the restriction is not needed. -/
theorem Bnd.foldl (total : Bool) (fns : List Fn) : ∀ (tr : List Item) (st : St),
    (∀ it ∈ tr, wfItem it = true) → Bnd st → Bnd (tr.foldl (OV.C18.step total fns) st)
  | tr, st, _, h => bnd_foldl total fns tr st h

/-- what renames keep. -/
def SameCore (st st' : St) : Prop :=
  st'.L = st.L ∧ st'.handles = st.handles ∧ st'.cache = st.cache ∧ st'.inits = st.inits ∧
  st'.cur = st.cur ∧ st'.stack = st.stack ∧ st'.done = st.done

theorem SameCore.rename (st : St) (id : Nat) (f : String → String) : SameCore st (renameValue st id f) := by
  simp [SameCore, renameValue, St.L]

end OV.C18
