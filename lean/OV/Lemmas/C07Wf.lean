import OV.Model.C07Apply
/-! One-level well-formedness (`wfNodes`) under removal of nodes whose outputs are hidden and under a
change of the available names outside the hidden set; `collectNames` (the names defined over all
scopes) taken apart along a node list. -/
namespace OV.C07

theorem wfNodes_cons (A : List Name) (n : Node) (ns : List Node) :
    wfNodes A (n :: ns) = true ↔
      (∀ x ∈ n.reads, x ∈ A) ∧ (∀ o ∈ n.outputs, o ∉ A) ∧
      (n.outputs.eraseDups.length = n.outputs.length) ∧ wfNodes (A ++ n.outputs) ns = true := by
  simp [wfNodes, and_assoc]

theorem wfNodes_append (a b : List Node) : ∀ A : List Name,
    wfNodes A (a ++ b) = (wfNodes A a && wfNodes (A ++ a.flatMap (·.outputs)) b) := by
  induction a with
  | nil => intro A; simp [wfNodes]
  | cons n a ih =>
    intro A
    simp only [List.cons_append, wfNodes, ih, List.flatMap_cons, List.append_assoc, Bool.and_assoc]

theorem wfGraph_iff (outer : List Name) (g : Graph) :
    wfGraph outer g = true ↔ wfNodes (outer ++ g.inputs ++ g.initNames) g.nodes = true ∧
      ∀ o ∈ g.outputs, o ∈ outer ++ g.inputs ++ g.initNames ++ g.nodes.flatMap (·.outputs) := by
  simp only [wfGraph, Bool.and_eq_true, List.all_eq_true, List.contains_eq_mem, decide_eq_true_eq]

/-- `B` and `A` hold the same names outside `H`; what `B` has beyond `A` is hidden. -/
def Inv (H A B : List Name) : Prop :=
  (∀ x ∈ B, x ∈ A ∨ x ∈ H) ∧ (∀ x ∈ A, x ∉ H → x ∈ B)

theorem Inv.refl (H A : List Name) : Inv H A A := ⟨fun _ hx => Or.inl hx, fun _ hx _ => hx⟩

theorem Inv.ext {H A B : List Name} (h : Inv H A B) (o o' : List Name)
    (h1 : ∀ x ∈ o', x ∈ o ∨ x ∈ H) (h2 : ∀ x ∈ o, x ∉ H → x ∈ o') : Inv H (A ++ o) (B ++ o') := by
  constructor
  · intro x hx
    rcases List.mem_append.mp hx with hb | ho
    · exact (h.1 x hb).imp_left (List.mem_append_left _)
    · exact (h1 x ho).imp_left (List.mem_append_right _)
  · intro x hx hh
    rcases List.mem_append.mp hx with ha | ho
    · exact List.mem_append_left _ (h.2 x ha hh)
    · exact List.mem_append_right _ (h2 x ho hh)

theorem wfNodes_filter (H : List Name) (P : Node → Bool) (l : List Node)
    (hun : ∀ n ∈ l, P n = false → (∀ x ∈ n.reads, x ∉ H) ∧ (∀ o ∈ n.outputs, o ∉ H))
    (hm : ∀ n ∈ l, P n = true → ∀ o ∈ n.outputs, o ∈ H) :
    ∀ A B : List Name, Inv H A B → wfNodes A l = true →
      wfNodes B (l.filter fun n => !P n) = true ∧
      Inv H (A ++ l.flatMap (·.outputs)) (B ++ (l.filter fun n => !P n).flatMap (·.outputs)) := by
  induction l with
  | nil => intro A B hinv _; simpa [wfNodes] using hinv
  | cons a r ih =>
    intro A B hinv hwf
    obtain ⟨hr, ho, hd, hrest⟩ := (wfNodes_cons A a r).mp hwf
    have ih := ih (fun n hn => hun n (List.mem_cons_of_mem _ hn)) (fun n hn => hm n (List.mem_cons_of_mem _ hn))
    rw [List.flatMap_cons, ← List.append_assoc]
    cases hp : P a with
    | true =>
      rw [List.filter_cons_of_neg (by simp [hp])]
      refine ih (A ++ a.outputs) B ?_ hrest
      simpa using hinv.ext a.outputs [] (by simp) (fun x hx hh => absurd (hm a (List.mem_cons_self ..) hp x hx) hh)
    | false =>
      obtain ⟨hur, huo⟩ := hun a (List.mem_cons_self ..) hp
      obtain ⟨w, i⟩ := ih _ _ (hinv.ext a.outputs a.outputs (fun x hx => Or.inl hx) (fun x hx _ => hx)) hrest
      rw [List.filter_cons_of_pos (by simp [hp]), List.flatMap_cons, ← List.append_assoc]
      refine ⟨(wfNodes_cons B a _).mpr ⟨fun x hx => hinv.2 x (hr x hx) (hur x hx), fun o hoo hb => ?_, hd, w⟩, i⟩
      exact (hinv.1 o hb).elim (ho o hoo) (huo o hoo)

theorem wfNodes_transport (H : List Name) (l : List Node)
    (hun : ∀ n ∈ l, (∀ x ∈ n.reads, x ∉ H) ∧ (∀ o ∈ n.outputs, o ∉ H)) (A B : List Name) (hinv : Inv H A B)
    (hwf : wfNodes A l = true) :
    wfNodes B l = true ∧ Inv H (A ++ l.flatMap (·.outputs)) (B ++ l.flatMap (·.outputs)) := by
  have := wfNodes_filter H (fun _ => false) l (fun n hn _ => hun n hn) (fun _ _ hp => nomatch hp) A B hinv hwf
  rwa [show (l.filter fun n => !(fun _ => false) n) = l from List.filter_eq_self.mpr fun _ _ => rfl] at this

/-- The three-segment walk behind the validity of a splice: the unmatched prefix survives the removal
of the matched nodes (their outputs are hidden), the replacement takes the root's place (it defines the
root's outputs and hidden names only), the tail sees the same names outside `H`. -/
theorem wfNodes_splice (H A : List Name) (P : Node → Bool) (pre0 post repl : List Node) (root : Node)
    (hint : ∀ a ∈ pre0, P a = true → ∀ o ∈ a.outputs, o ∈ H)
    (hclean : ∀ b ∈ pre0 ++ post, P b = false → (∀ x ∈ b.reads, x ∉ H) ∧ (∀ o ∈ b.outputs, o ∉ H))
    (hpostU : ∀ b ∈ post, P b = false)
    (hrepl : wfNodes (A ++ (pre0.filter fun n => !P n).flatMap (·.outputs)) repl = true)
    (h1 : ∀ x ∈ repl.flatMap (·.outputs), x ∈ root.outputs ∨ x ∈ H)
    (h2 : ∀ x ∈ root.outputs, x ∈ repl.flatMap (·.outputs))
    (hwf : wfNodes A (pre0 ++ root :: post) = true) :
    wfNodes A ((pre0.filter fun n => !P n) ++ (repl ++ post)) = true ∧
      Inv H (A ++ (pre0 ++ root :: post).flatMap (·.outputs))
        (A ++ ((pre0.filter fun n => !P n) ++ (repl ++ post)).flatMap (·.outputs)) := by
  rw [wfNodes_append, Bool.and_eq_true] at hwf
  obtain ⟨_, _, _, hw3⟩ := (wfNodes_cons _ root post).mp hwf.2
  obtain ⟨w1, i1⟩ := wfNodes_filter H P pre0 (fun n hn => hclean n (List.mem_append_left _ hn)) hint
    A A (Inv.refl H A) hwf.1
  obtain ⟨w3, i3⟩ := wfNodes_transport H post
    (fun n hn => hclean n (List.mem_append_right _ hn) (hpostU n hn)) _ _
    (i1.ext root.outputs (repl.flatMap (·.outputs)) h1 (fun x hx _ => h2 x hx)) hw3
  simp only [wfNodes_append, Bool.and_eq_true, List.flatMap_append, List.flatMap_cons, ← List.append_assoc]
  exact ⟨⟨⟨w1, hrepl⟩, w3⟩, i3⟩

theorem wfNodes_map_shrink (f : Node → Node) (l : List Node) (hout : ∀ n ∈ l, (f n).outputs = n.outputs)
    (hreads : ∀ n ∈ l, ∀ x ∈ (f n).reads, x ∈ n.reads) :
    ∀ A : List Name, wfNodes A l = true → wfNodes A (l.map f) = true := by
  induction l with
  | nil => exact fun _ h => h
  | cons a r ih =>
    intro A h
    obtain ⟨hr, ho, hd, hrest⟩ := (wfNodes_cons A a r).mp h
    rw [List.map_cons]
    refine (wfNodes_cons A (f a) _).mpr ?_
    rw [hout a (List.mem_cons_self ..)]
    exact ⟨fun x hx => hr x (hreads a (List.mem_cons_self ..) x hx), ho, hd,
      ih (fun n hn => hout n (List.mem_cons_of_mem _ hn)) (fun n hn => hreads n (List.mem_cons_of_mem _ hn)) _ hrest⟩

theorem flatMap_outputs_map (f : Node → Node) (l : List Node) (hout : ∀ n ∈ l, (f n).outputs = n.outputs) :
    (l.map f).flatMap (·.outputs) = l.flatMap (·.outputs) := by
  rw [List.flatMap_map, List.flatMap_def, List.flatMap_def, List.map_congr_left hout]

theorem collectNames_succ (d : Nat) (g : Graph) :
    collectNames (d + 1) g = g.inputs ++ g.initNames ++ collectNamesNodes d g.nodes := by cases g; rfl

theorem collectNamesNodes_append (d : Nat) (a b : List Node) :
    collectNamesNodes (d + 1) (a ++ b) = collectNamesNodes (d + 1) a ++ collectNamesNodes (d + 1) b := by
  simp [collectNamesNodes]

theorem collectNamesNodes_cons (d : Nat) (n : Node) (r : List Node) :
    collectNamesNodes (d + 1) (n :: r) =
      (n.outputs ++ n.subs.flatMap fun s => collectNames d s.2) ++ collectNamesNodes (d + 1) r := by
  simp [collectNamesNodes]

theorem collectNamesNodes_flat (d : Nat) (ns : List Node) (h : ∀ n ∈ ns, n.subs = []) :
    collectNamesNodes (d + 1) ns = ns.flatMap (·.outputs) := by
  induction ns with
  | nil => simp [collectNamesNodes]
  | cons a r ih =>
    rw [collectNamesNodes_cons, ih (fun n hn => h n (List.mem_cons_of_mem _ hn)), h a (List.mem_cons_self ..)]
    simp

theorem collectNamesNodes_filter_sublist (d : Nat) (P : Node → Bool) (ns : List Node) :
    (collectNamesNodes (d + 1) (ns.filter P)).Sublist (collectNamesNodes (d + 1) ns) := by
  induction ns with
  | nil => exact List.Sublist.refl _
  | cons a r ih =>
    rw [collectNamesNodes_cons, List.filter_cons]
    split
    · rw [collectNamesNodes_cons]; exact (List.Sublist.refl _).append ih
    · exact List.sublist_append_of_sublist_right ih

end OV.C07
