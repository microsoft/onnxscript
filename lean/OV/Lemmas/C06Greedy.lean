import OV.Lemmas.C06CompleteOr

/-!
# C06 — *leftmost* instances (what BacktrackingOr does find)

`BacktrackingOr` commits to the first alternative that succeeds and never revisits the choice
(finding C06-D11), so an instance that needs a later alternative although an earlier one is
satisfiable at the same value can be missed.  The instances it cannot miss are the *leftmost* ones:
at every `BacktrackingOr` occurrence the instance takes alternative `i`, and no earlier alternative
describes the value under any assignment.  `SatVL`/`SatNL` are `SatV`/`SatN` with that extra premise
at the `orB` rule.  With mutually exclusive alternatives every instance is leftmost (`satV_leftmost`).
The walk of `C06Walk` finds them; `C06Complete` draws the conclusions about `Pattern.match`.
-/

namespace OV.C06

mutual
/-- `SatV` whose `BacktrackingOr` choices are leftmost: no earlier alternative is satisfiable at the value -/
inductive SatVL (E : Env) (A : Assign) : VPat → Option ValueId → Prop
  | any (v : Option ValueId) : SatVL E A .any v
  | var (id : Nat) (name : Option String) (isVar canNone : Bool) (check : Option Bool) (v : Option ValueId) :
      A.boundTo E.p (.var id name isVar canNone check) v →
      (v = none → canNone = true) →
      (∀ x, v = some x → E.g.isForeign x = true → isVar = true) →
      SatVL E A (.var id name isVar canNone check) v
  | const (id : Nat) (c : ConstPat) (x : ValueId) (cv : ConstVal) :
      A.boundTo E.p (.const id c) (some x) →
      E.g.constOf x = some cv → constOk E.close c cv = true →
      SatVL E A (.const id c) (some x)
  | out (np : NPId) (idx : Nat) (x : ValueId) (n : NodeId) :
      A.boundTo E.p (.out np idx) (some x) →
      E.g.isForeign x = false →
      E.g.producer x = some n → E.g.index x = some idx →
      SatNL E A np n →
      SatVL E A (.out np idx) (some x)
  | orD (id : Nat) (name tagVar : Option String) (alts : List DAlt) (x : ValueId) (a : DAlt) :
      A.boundTo E.p (.orD id name tagVar alts) (some x) →
      E.g.isForeign x = false →
      getDispatch E.g alts x = some a →
      SatVL E A (.out a.np a.idx) (some x) →
      (∀ t, tagVar = some t → A.names t = some (.tag a.tag)) →
      SatVL E A (.orD id name tagVar alts) (some x)
  | orB (id : Nat) (name tagVar : Option String) (tags : List Int) (alts : List VPat) (v : Option ValueId)
      (i : Nat) (alt : VPat) :
      A.boundTo E.p (.orB id name tagVar tags alts) v →
      (∀ x, v = some x → E.g.isForeign x = false) →
      alts[i]? = some alt →
      SatVL E A alt v →
      (∀ t, tagVar = some t → A.names t = some (.tag (tags.getD i 0))) →
      -- leftmost: no earlier alternative describes `v`, under any assignment
      (∀ j, j < i → ∀ aj, alts[j]? = some aj → Unsat E aj v) →
      SatVL E A (.orB id name tagVar tags alts) v
inductive SatNL (E : Env) (A : Assign) : NPId → NodeId → Prop
  | mk (np : NPId) (n : NodeId) (P : NPat) (N : GNode) :
      E.p.nodes[np]? = some P → E.g.nodes[n]? = some N →
      A.node np = some n →
      P.op.matches N.op = true → P.domain.matches N.domain = true →
      attrsSat A P N →
      (N.inputs.length ≤ P.inputs.length ∨ P.allowOtherInputs = true) →
      (∀ i : Nat, P.inputs[i]? = some none → inputAt N i = none) →
      (∀ (i : Nat) (vp : VPat), P.inputs[i]? = some (some vp) → SatVL E A vp (inputAt N i)) →
      (∀ i, i < P.outputs.length → ∃ x, N.outputs[i]? = some x ∧ A.boundTo E.p (.out np i) (some x)) →
      SatNL E A np n
end

theorem SatVL.toSatV {E : Env} {A : Assign} : ∀ {vp : VPat} {v : Option ValueId}, SatVL E A vp v → SatV E A vp v :=
  fun hs => hs.rec (motive_1 := fun vp v _ => SatV E A vp v) (motive_2 := fun np n _ => SatN E A np n)
    (any := fun v => .any v)
    (var := fun id name isVar canNone check v hb h1 h2 => .var id name isVar canNone check v hb h1 h2)
    (const := fun id c x cv hb h1 h2 => .const id c x cv hb h1 h2)
    (out := fun np idx x n hb hf hp hi _ ih => .out np idx x n hb hf hp hi ih)
    (orD := fun id name tagVar alts x a hb hf hd _ ht ih => .orD id name tagVar alts x a hb hf hd ih ht)
    (orB := fun id name tagVar tags alts v i alt hb hf ha _ ht _ ih =>
      .orB id name tagVar tags alts v i alt hb hf ha ih ht)
    (mk := fun np n P N h1 h2 h3 h4 h5 h6 h7 h8 _ h10 ih => .mk np n P N h1 h2 h3 h4 h5 h6 h7 h8 ih h10)

theorem SatNL.toSatN {E : Env} {A : Assign} : ∀ {np : NPId} {n : NodeId}, SatNL E A np n → SatN E A np n
  | _, _, .mk np n P N h1 h2 h3 h4 h5 h6 h7 h8 h9 h10 =>
    .mk np n P N h1 h2 h3 h4 h5 h6 h7 h8 (fun i vp e => (h9 i vp e).toSatV) h10

/-- no *named* variable among the inputs of the node patterns carries a checker (as `NamedVarsUnchecked`) -/
def GPat.nuOk (p : GPat) : Prop := ∀ P ∈ p.nodes, ∀ vp, some vp ∈ P.inputs → vp.nu = true

/-- completeness of the recursive node matcher below `f`, from any state that agrees with `A` -/
def NodeCL (E : Env) (A : Assign) (rec : NPId → NodeId → Stack → R) (f : Nat) : Prop :=
  ∀ np n rest c P, np < f → SatNL E A np n → c.ok = true → SubS (c :: rest) A → InvS E rest c P →
    FreshP rest c → (∀ x ∈ P, np < x) →
    ∃ c', rec np n (c :: rest) = (true, c' :: rest) ∧ c'.ok = true ∧ SubS (c' :: rest) A

/-- `A` is an instance whose BacktrackingOr choices are all leftmost -/
def InstanceL (E : Env) (root : NodeId) (A : Assign) : Prop :=
  Instance E root A ∧ ∀ np ∈ E.p.outputNodes, ∀ n, A.node np = some n → SatNL E A np n

/-- a leftmost instance's value patterns are what `_match_value` finds, relative to `SatNL` -/
theorem SatVL.toG {E : Env} {A : Assign} :
    ∀ {vp : VPat} {v : Option ValueId}, SatVL E A vp v → SatVG E A (SatNL E A) vp v :=
  fun hs => hs.rec (motive_1 := fun vp v _ => SatVG E A (SatNL E A) vp v) (motive_2 := fun _ _ _ => True)
    (any := fun v => .any v)
    (var := fun id name isVar canNone check v hb h1 h2 => .var id name isVar canNone check v hb h1 h2)
    (const := fun id c x cv hb h1 h2 => .const id c x cv hb h1 h2)
    (out := fun np idx x n hb hf hp hi hn _ => .out np idx x n hb hf hp hi hn)
    (orD := fun id name tagVar alts x a hb hf hd _ ht ih => .orD id name tagVar alts x a hb hf hd ih ht)
    (orB := fun id name tagVar tags alts v i alt hb hf ha _ ht hun ih =>
      .orB id name tagVar tags alts v i alt hb hf ha ih ht hun)
    (mk := by intros; trivial)

/-- the alternatives of every `BacktrackingOr` among the inputs of the node patterns are mutually exclusive -/
def GPat.exclIn (E : Env) : Prop := ∀ P ∈ E.p.nodes, ∀ vp, some vp ∈ P.inputs → vp.excl E

/-- at a `BacktrackingOr` the earlier alternatives are unsatisfiable because this one is satisfiable -/
theorem satV_leftmost_of {E : Env} {A : Assign} (hex : GPat.exclIn E) {vp : VPat} {v : Option ValueId}
    (hs : SatV E A vp v) : vp.excl E → SatVL E A vp v :=
  hs.rec (motive_1 := fun vp v _ => vp.excl E → SatVL E A vp v) (motive_2 := fun np n _ => SatNL E A np n)
    (any := fun v _ => .any v)
    (var := fun id name isVar canNone check v hb h1 h2 _ => .var id name isVar canNone check v hb h1 h2)
    (const := fun id c x cv hb h1 h2 _ => .const id c x cv hb h1 h2)
    (out := fun np idx x n hb hf hp hi _ ih _ => .out np idx x n hb hf hp hi ih)
    (orD := fun id name tagVar alts x a hb hf hd _ ht ih _ => .orD id name tagVar alts x a hb hf hd (ih trivial) ht)
    (orB := fun id name tagVar tags alts v i alt hb hf ha hs ht ih he =>
      have he : ExclAlts E alts ∧ exclL E alts := by simpa only [VPat.excl] using he
      .orB id name tagVar tags alts v i alt hb hf ha (ih (satV_exclG.exclL_get he.2 ha)) ht
        (fun j hj aj haj => he.1 v j i aj alt hj haj ha ⟨A, hs⟩))
    (mk := fun np n P N h1 h2 h3 h4 h5 h6 h7 h8 _ h10 ih =>
      .mk np n P N h1 h2 h3 h4 h5 h6 h7 h8
        (fun i vp e => ih i vp e (hex P (List.mem_of_getElem? h1) vp (List.mem_of_getElem? e))) h10)

theorem satN_leftmost_of {E : Env} {A : Assign} (hex : GPat.exclIn E) {np : NPId} {n : NodeId} :
    SatN E A np n → SatNL E A np n
  | .mk np n P N h1 h2 h3 h4 h5 h6 h7 h8 h9 h10 =>
    .mk np n P N h1 h2 h3 h4 h5 h6 h7 h8
      (fun i vp e => satV_leftmost_of hex (h9 i vp e) (hex P (List.mem_of_getElem? h1) vp (List.mem_of_getElem? e)))
      h10

theorem GPat.exclOk.exclIn {E : Env} (hex : GPat.exclOk E) : GPat.exclIn E :=
  fun P hP vp hin => (hex P hP vp hin).1

theorem satV_leftmost {E : Env} {A : Assign} (hex : GPat.exclOk E) :
    ∀ {vp : VPat} {v : Option ValueId}, SatV E A vp v → vp.excl E → SatVL E A vp v :=
  fun hs => satV_leftmost_of hex.exclIn hs

theorem exclIn_of_noOr {E : Env} (hno : E.p.noOr = true) : GPat.exclIn E := fun P hP vp hin => by
  obtain ⟨np, hnp⟩ := List.mem_iff_getElem?.1 hP
  have := noOr_input hno hnp hin
  cases vp <;> first | trivial | cases this

theorem instance_leftmost_of {E : Env} {root : NodeId} {A : Assign} (hex : GPat.exclIn E)
    (h : Instance E root A) : InstanceL E root A := by
  refine ⟨h, fun np hnp n hn => ?_⟩
  obtain ⟨n', hn', hs⟩ := h.outNodes np hnp
  rw [hn] at hn'
  cases hn'
  exact satN_leftmost_of hex hs

theorem instance_leftmost_of_excl {E : Env} {root : NodeId} {A : Assign} (hex : GPat.exclOk E)
    (h : Instance E root A) : InstanceL E root A :=
  instance_leftmost_of hex.exclIn h

theorem exclOk_nuOk {E : Env} (hex : GPat.exclOk E) : E.p.nuOk :=
  fun P hP vp hin => (hex P hP vp hin).2

end OV.C06
