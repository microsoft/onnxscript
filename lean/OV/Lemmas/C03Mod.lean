import OV.Lemmas.C03Turn
/-!
The `modified` flag is truthful on graphs whose nodes are in `FragBk` (the node classes of fragment A): if `FoldConstantsPass`
reports "not modified", the graph it returns is the graph it was given (`foldGraph_unmodified`).
-/
namespace OV.C03

theorem setInputs_self (n : Node) : n.setInputs n.inputs = n := by cases n; rfl

theorem substFold_unmodified : ∀ (l : List (Option Name)) (acc : List (Option Name) × St),
    (l.foldl substStep acc).2.modified = false → acc.2.modified = false ∧ (l.foldl substStep acc).1 = acc.1 ++ l
  | [], acc, h => ⟨h, by simp⟩
  | x :: xs, acc, h => by
    obtain ⟨h1, h2⟩ := substFold_unmodified xs (substStep acc x) h
    have hstep : acc.2.modified = false ∧ (substStep acc x).1 = acc.1 ++ [x] := by
      unfold substStep at h1 ⊢
      cases x with
      | none => exact ⟨h1, rfl⟩
      | some y =>
        dsimp only at h1 ⊢
        split at h1
        · cases h1
        · exact ⟨h1, rfl⟩
    exact ⟨hstep.1, by rw [List.foldl_cons, h2, hstep.2]; simp⟩

theorem substInputs_unmodified (st : St) (n : Node) (h : (substInputs st n).2.modified = false) :
    st.modified = false ∧ (substInputs st n).1 = n := by
  obtain ⟨h1, h2⟩ := substFold_unmodified n.inputs ([], st) h
  refine ⟨h1, ?_⟩
  show n.setInputs (n.inputs.foldl substStep ([], st)).1 = n
  rw [h2, List.nil_append, setInputs_self]

theorem visitNodes_mod (ctx : Ctx) (hnf : ctx.isFunction = false) (vg : St → Graph → St × Graph) :
    ∀ (f : Nat) (todo : List Node) (st : St) (acc : List Node) (ai : List (Name × String)),
      (∀ n ∈ todo, FragBk n) → (visitNodes ctx vg f st todo acc ai).1.modified = false →
        st.modified = false ∧ (visitNodes ctx vg f st todo acc ai).2.1 = acc.reverse ++ todo ∧
        (visitNodes ctx vg f st todo acc ai).2.2 = ai ∧ (visitNodes ctx vg f st todo acc ai).1.removed = st.removed := by
  refine visitNodes_induct ctx hnf vg (motive := fun _ st todo acc ai r => r.1.modified = false →
    st.modified = false ∧ r.2.1 = acc.reverse ++ todo ∧ r.2.2 = ai ∧ r.1.removed = st.removed) ?_ ?_ ?_ ?_
  · exact fun f st todo acc ai e _ h => ⟨h, rfl, rfl, rfl⟩
  · intro f st n0 rest acc ai n st1 st' r hp hk ih hmod
    obtain ⟨i, u, m, h, e1⟩ := hp.writes
    obtain ⟨i', s', fr', h', nd', rfl⟩ := hk.writes
    obtain ⟨m1, a1, a2, a3⟩ := ih hmod
    -- the flag was down after substitution and const marking, so the node is the one we started from
    have m0 : (substInputs st n0).2.modified = false := by
      rw [hp.state] at m1
      split at m1
      · obtain ⟨i, e⟩ := processConstant_writes ctx (substInputs st n0).2 n
        rw [e] at m1
        exact m1
      · exact m1
    obtain ⟨m, hn0⟩ := substInputs_unmodified st n0 m0
    rw [(substInputs_spec st n0).1, ← hp.node] at hn0
    exact ⟨m, by rw [a1, hn0]; simp, a2, a3.trans (by rw [e1])⟩
  · intro f st n0 rest acc ai n st1 stG st2 st3 v c o l r _ _ ih hmod
    -- the state after `replace_node` (`afterRepl`) has the flag up
    exact Bool.noConfusion (ih hmod).1
  · intro f st n0 rest acc ai n st1 st2 v x x' opn attrs o l r _ _ ih hmod
    exact Bool.noConfusion (ih hmod).1

theorem replaceOutputs_mod (nodes : List Node) : ∀ (outs : List Name) (st : St),
    (replaceOutputs st nodes outs).1.modified = false → st.modified = false ∧ (replaceOutputs st nodes outs).2 = outs
  | [], st => fun h => ⟨h, rfl⟩
  | o :: rest, st => by
    obtain ⟨st1, o', e, h⟩ := replaceOutputs_cons st nodes o rest
    rw [e]
    intro hm
    obtain ⟨i1, i2⟩ := replaceOutputs_mod nodes rest st1 hm
    rcases h with ⟨rfl, _, rfl⟩ | ⟨_, _, _, _, rfl⟩
    · exact ⟨i1, by rw [i2]⟩
    · cases i1

theorem pruneInits_nil (k : Nat) (g : Graph) (hp : ∀ n ∈ g.nodes, n.subs = []) : pruneInits [] (k + 1) g = g := by
  have hg : g = Graph.mk g.inputs g.inits g.nodes g.outputs := by cases g; rfl
  rw [hg, pruneInits_plain [] k g.inputs g.inits g.nodes g.outputs hp]
  simp

theorem unmodified_aux (d : Nat) (ctx : Ctx) (hnf : ctx.isFunction = false) (info : List (Name × VInfo)) (g : Graph)
    (hfr : ∀ n ∈ g.nodes, FragBk n)
    (hm : (visitGraph ctx d (initialState g info) g).1.modified = false) :
    (visitGraph ctx d (initialState g info) g).2 = g ∧
    (visitGraph ctx d (initialState g info) g).1.removed = [] := by
  have r0 : (initialState g info).removed = [] := by
    obtain ⟨u, e⟩ := initialState_writes g info
    rw [e]
  obtain _ | k := d
  · exact ⟨rfl, r0⟩
  have hv := visitNodes_mod ctx hnf (visitGraph ctx k) (stepFuel g + 16 * (initialState g info).uses.length)
    g.nodes (initialState g info) [] [] hfr
  have hg : Graph.mk g.inputs g.inits g.nodes g.outputs = g := by cases g; rfl
  obtain ⟨stN, L, added, st', outs, go, m, h, hR, hvg, hw, hk⟩ := visitGraph_succ ctx k (initialState g info) g
  rw [hR] at hv
  rw [hvg] at hm ⊢
  have hrem : st'.removed = stN.removed := by rw [hw]
  obtain ⟨hstN, rfl⟩ : stN.modified = false ∧ outs = g.outputs := by
    rcases hk with ⟨_, rfl, rfl⟩ | ⟨_, rfl, rfl⟩
    · exact ⟨hm, rfl⟩
    · exact replaceOutputs_mod L g.outputs stN hm
  obtain ⟨_, rfl, rfl, a3⟩ := hv hstN
  exact ⟨by rw [List.append_nil]; exact hg, (hrem.trans a3).trans r0⟩

theorem foldGraph_unmodified (ctx : Ctx) (hnf : ctx.isFunction = false) (info : List (Name × VInfo)) (g : Graph)
    (hfr : ∀ n ∈ g.nodes, FragBk n) (hm : (foldGraph ctx info g).1.modified = false) :
    (foldGraph ctx info g).2 = g := by
  rw [foldGraph_fst] at hm
  obtain ⟨h1, h2⟩ := unmodified_aux maxDepth ctx hnf info g hfr hm
  rw [foldGraph_snd, h1, h2, maxDepth_succ]
  exact pruneInits_nil 7 g (fun n hn => (hfr n hn).1)

end OV.C03
