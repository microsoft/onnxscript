import OV.Lemmas.C07Term
/-! The loop of one pass (`passLoop`) over the states it reaches.

The hypotheses of an induction over the pass — one application keeps a relation, the potential drops — are
true of a real rule set only in the states the pass can be in (distinct ids, every name of the graph in
`st.names`, ids below `st.nextId`, …).  `PassInv I` says that `I` is such an invariant; the two schemes
(`passLoop_preserves_inv`: a reflexive–transitive relation between input and output; `passLoop_terminates_inv`:
fuel above the potential `mu` suffices) take their hypotheses under `I` and for the node and graph of the turn.
Both are functional inductions on `passLoop`: the recursive case hands over the node under the cursor, the
outcome of the rule loop, and which graph and next cursor that outcome leaves. -/
namespace OV.C07

theorem nodeById_some {g : Graph} {cur : Nat} {node : Node} (h : nodeById g cur = some node) :
    node ∈ g.nodes ∧ node.id = cur := by
  unfold nodeById at h
  exact ⟨List.mem_of_find?_eq_some h, by simpa using List.find?_some h⟩

theorem recurseBodies_ne_fuel (recurse : PassSt → Graph → Except Err (PassSt × Graph))
    (h : ∀ st b, recurse st b ≠ .error .fuel) (subs : List (String × Graph)) (st : PassSt) :
    recurseBodies recurse st subs ≠ .error .fuel := by
  intro hh
  fun_induction recurseBodies recurse st subs with
  | case1 => cases hh
  | case2 st k b rest e he => cases hh; exact h st b he
  | case3 st k b rest st1 b' _ e he ih => cases hh; exact ih he
  | case4 => cases hh

theorem setBodiesAt_ids (g : Graph) (cur : Nat) (c : List Name) (subs' : List (String × Graph)) :
    (g.setNodes (g.nodes.map fun n => if n.id == cur then n.setBodies c subs' else n)).ids = g.ids := by
  rw [Graph.ids, setNodes_nodes]
  refine map_ids_map _ (fun n => ?_) _
  split
  · exact setBodies_id ..
  · rfl

/-- The rule loop at `node` of `g`, entered in `(st, lo)`, leaves `(st', lo')` and the graph `g'`: the result of
an application, or `g` itself when no rule matched or the match was skipped. -/
def StepAt (rules : List Rule) (kind : Kind) (st : PassSt) (lo : List (String × Nat)) (g : Graph) (node : Node)
    (st' : PassSt) (lo' : List (String × Nat)) (g' : Graph) : Prop :=
  (∃ first, tryRules kind rules st lo g node = .ok (.applied st' lo' g' first)) ∨
  (g' = g ∧ (tryRules kind rules st lo g node = .ok (.noMatch st' lo') ∨
    tryRules kind rules st lo g node = .ok (.skipped st' lo')))

/-- `I` is an invariant of (pass state, imports of the container, graph) along one pass: kept by the rule loop at
the node under the cursor, and by the recursion into that node's bodies with the write-back that follows. -/
structure PassInv (I : PassSt → List (String × Nat) → Graph → Prop) (rules : List Rule) (kind : Kind)
    (recurse : PassSt → Graph → Except Err (PassSt × Graph)) : Prop where
  step : ∀ {st lo g cur node st' lo' g'}, I st lo g → nodeById g cur = some node →
    StepAt rules kind st lo g node st' lo' g' → I st' lo' g'
  body : ∀ {st lo g cur node st1 lo1 g1 st2 subs'}, nodeById g cur = some node →
    StepAt rules kind st lo g node st1 lo1 g1 → I st1 lo1 g1 →
    recurseBodies recurse st1 node.subs = .ok (st2, subs') →
    I st2 lo1 (g1.setNodes (g1.nodes.map fun n => if n.id == cur then n.setBodies (capsOf BIG subs') subs' else n))

theorem PassInv.trivial (rules : List Rule) (kind : Kind) (recurse : PassSt → Graph → Except Err (PassSt × Graph)) :
    PassInv (fun _ _ _ => True) rules kind recurse :=
  ⟨fun _ _ _ => True.intro, fun _ _ _ _ => True.intro⟩

variable {I : PassSt → List (String × Nat) → Graph → Prop} {rules : List Rule} {kind : Kind}
  {recurse : PassSt → Graph → Except Err (PassSt × Graph)}

theorem passLoop_preserves_inv (inv : PassInv I rules kind recurse)
    (R : Graph → Graph → Prop) (hrefl : ∀ g, R g g) (htrans : ∀ a b c, R a b → R b c → R a c)
    (hstep : ∀ {st lo g cur node st' lo' g' first}, I st lo g → nodeById g cur = some node →
      tryRules kind rules st lo g node = .ok (.applied st' lo' g' first) → R g g')
    (hbody : ∀ {st lo g cur node st1 lo1 g1 st2 subs'}, nodeById g cur = some node →
      StepAt rules kind st lo g node st1 lo1 g1 → I st1 lo1 g1 →
      recurseBodies recurse st1 node.subs = .ok (st2, subs') →
      R g1 (g1.setNodes (g1.nodes.map fun n => if n.id == cur then n.setBodies (capsOf BIG subs') subs' else n)))
    {fuel : Nat} {st : PassSt} {lo : List (String × Nat)} {g : Graph} {cur : Option Nat} {st' lo' g'}
    (hI : I st lo g) (h : passLoop rules kind recurse fuel st lo g cur = .ok (st', lo', g')) :
    R g g' ∧ I st' lo' g' := by
  fun_induction passLoop rules kind recurse fuel st lo g cur with
  | case2 => cases h; exact ⟨hrefl _, hI⟩
  | case6 fuel st lo g cur node hnode step hstepEq st1 lo1 g1 next hdest st2 subs' hrec g2 ih =>
    -- `hdest` says what the turn leaves per outcome of the rule loop; whatever it was, `g` is related to `g1`
    have hat : StepAt rules kind st lo g node st1 lo1 g1 ∧ R g g1 := by
      cases step <;> cases hdest
      · exact ⟨Or.inr ⟨rfl, Or.inl hstepEq⟩, hrefl g⟩
      · exact ⟨Or.inr ⟨rfl, Or.inr hstepEq⟩, hrefl g⟩
      · exact ⟨Or.inl ⟨_, hstepEq⟩, hstep hI hnode hstepEq⟩
    have hI1 := inv.step hI hnode hat.1
    obtain ⟨h3, hI'⟩ := ih (inv.body hnode hat.1 hI1 hrec) h
    exact ⟨htrans _ _ _ hat.2 (htrans _ _ _ (hbody hnode hat.1 hI1 hrec) h3), hI'⟩
  | _ => cases h  -- out of fuel, cursor lost, an error of the rule loop or of the recursion: not `.ok`

/-- `happ` is what one application does to the id list (the shape `OV.Props.C07.applyAt_ids` proves of the
splice) together with NoRematch (`node.id < base`). -/
theorem passLoop_terminates_inv (inv : PassInv I rules kind recurse) (base K : Nat) (hb : 0 < base)
    (happ : ∀ {st lo} {g : Graph} {node st' lo'} {g' : Graph} {first}, I st lo g → node ∈ g.nodes → g.ids.Nodup →
      tryRules kind rules st lo g node = .ok (.applied st' lo' g' first) →
      node.id < base ∧ ∃ (new : List Nat) (keep : Nat → Bool), new.length ≤ K ∧ new.Nodup ∧
        (∀ i ∈ new, base ≤ i ∧ i ∉ g.ids ∧ keep i = true) ∧
        g'.ids = (insAfterIds g.ids node.id new).filter keep ∧ first = new.head?.getD 0)
    (hnoFuel : ∀ {st lo g node}, I st lo g → tryRules kind rules st lo g node ≠ .error .fuel)
    (hrec : ∀ st b, recurse st b ≠ .error .fuel)
    {fuel : Nat} {st : PassSt} {lo : List (String × Nat)} {g : Graph} {cur : Option Nat}
    (hI : I st lo g) (hnd : g.ids.Nodup) (hpos : ∀ i ∈ g.ids, 0 < i) (hmu : mu base K g.ids cur < fuel) :
    passLoop rules kind recurse fuel st lo g cur ≠ .error .fuel := by
  intro hh
  fun_induction passLoop rules kind recurse fuel st lo g cur with
  | case1 => omega
  | case2 => cases hh
  | case3 => cases hh
  -- the loop stops with the error of the rule loop (`case4`), resp. of the recursion into the bodies (`case5`)
  | case4 _ _ _ _ _ _ _ e he => cases hh; exact hnoFuel hI he
  | case5 _ _ _ _ _ _ _ _ _ _ _ _ _ _ e he => cases hh; exact recurseBodies_ne_fuel recurse hrec _ _ he
  | case6 fuel st lo g c node hnode step hstep st1 lo1 g1 next hdest st2 subs' hrb g2 ih =>
    obtain ⟨hmem, hid⟩ := nodeById_some hnode
    have hc : c ∈ g.ids := hid ▸ List.mem_map.mpr ⟨node, hmem, rfl⟩
    have key : StepAt rules kind st lo g node st1 lo1 g1 ∧
        g1.ids.Nodup ∧ (∀ i ∈ g1.ids, 0 < i) ∧ mu base K g1.ids next < mu base K g.ids (some c) := by
      have hsame := mu_same base K g.ids c hc hnd
      cases step <;> cases hdest
      · exact ⟨Or.inr ⟨rfl, Or.inl hstep⟩, hnd, hpos, hsame⟩
      · exact ⟨Or.inr ⟨rfl, Or.inr hstep⟩, hnd, hpos, hsame⟩
      · obtain ⟨hlt, new, keep, hK, hnewnd, hnewp, hids', hfirst⟩ := happ hI hmem hnd hstep
        rw [hid] at hlt hids'
        exact ⟨Or.inl ⟨_, hstep⟩,
          mu_applied base K hb g.ids g1.ids new c _ keep hc hnd hpos hlt hK hnewnd hnewp hids' hfirst⟩
    refine ih (inv.body hnode key.1 (inv.step hI hnode key.1) hrb) ?_ ?_ ?_ hh <;> rw [setBodiesAt_ids]
    · exact key.2.1
    · exact key.2.2.1
    · omega

end OV.C07
