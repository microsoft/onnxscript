import OV.Lemmas.C01Inv
import OV.Lemmas.C01Induct
/-!
Soundness of the liveness equations of analysis.py (as fixed by commit 4304e8f): two runs from stores that agree on
the live-in set of a statement fail together or end alike in stores that agree on its live-out set, for loop-free code
with `break` anywhere (`OutRel`), and for code with loops whose `break`s are the last statement of a loop body
(`OutRelB`, which also relates the stores after a `break`).  A statement without blocks satisfies the stronger
relation with no side condition (`liveLeaf`); the side conditions only govern how `if`, loops and sequencing combine.
What is common to `for` and `while` is said of a run of either (`LoopRun`).
-/
namespace OV.C01

theorem mem_vins {x y : Name} {s : VSet} : y ∈ vins x s ↔ y = x ∨ y ∈ s := by
  induction s with
  | nil => simp [vins]
  | cons z zs ih =>
    unfold vins
    by_cases h1 : x < z
    · simp [h1]
    · by_cases h2 : x = z
      · subst h2; simp [h1]
      · simp only [h1, h2, if_false, List.mem_cons, ih]
        constructor
        · rintro (h | h | h)
          · exact Or.inr (Or.inl h)
          · exact Or.inl h
          · exact Or.inr (Or.inr h)
        · rintro (h | h | h)
          · exact Or.inr (Or.inl h)
          · exact Or.inl h
          · exact Or.inr (Or.inr h)

theorem mem_vofList {y : Name} {l : List Name} : y ∈ vofList l ↔ y ∈ l := by
  induction l with
  | nil => simp [vofList]
  | cons x xs ih =>
    have : vofList (x :: xs) = vins x (vofList xs) := by simp [vofList]
    rw [this, mem_vins, ih]; simp

theorem mem_vunion {y : Name} {a b : VSet} : y ∈ vunion a b ↔ y ∈ a ∨ y ∈ b := by
  induction a with
  | nil => simp [vunion]
  | cons x xs ih =>
    have : vunion (x :: xs) b = vins x (vunion xs b) := by simp [vunion]
    rw [this, mem_vins, ih, List.mem_cons, or_assoc]

theorem mem_vdiff {y : Name} {a b : VSet} : y ∈ vdiff a b ↔ y ∈ a ∧ y ∉ b := by
  simp [vdiff]

def Agree {V} (L : VSet) (ρ1 ρ2 : Store V) : Prop := ∀ x, x ∈ L → ρ1 x = ρ2 x

theorem Agree.mono {V} {L L' : VSet} {ρ1 ρ2 : Store V} (h : Agree L ρ1 ρ2) (hs : ∀ x, x ∈ L' → x ∈ L) :
    Agree L' ρ1 ρ2 := fun x hx => h x (hs x hx)

theorem Agree.set {V} {L : VSet} {ρ1 ρ2 : Store V} {x : Name} {v : PV V}
    (h : Agree (vdiff L [x]) ρ1 ρ2) : Agree L (ρ1.set x v) (ρ2.set x v) := by
  intro y hy
  unfold Store.set
  by_cases hyx : y = x
  · simp [hyx]
  · simp only [hyx, if_false]
    exact h y (mem_vdiff.mpr ⟨hy, by simpa using hyx⟩)

theorem Agree.setMany {V} : ∀ (xs : List Name) (vs : List (PV V)) {L : VSet} {ρ1 ρ2 : Store V},
    vs.length = xs.length →
    Agree (vdiff L (vofList xs)) ρ1 ρ2 → Agree L (ρ1.setMany xs vs) (ρ2.setMany xs vs) := by
  intro xs
  induction xs with
  | nil =>
    intro vs L ρ1 ρ2 hl h
    cases vs with
    | nil =>
      unfold Store.setMany
      exact h.mono (fun x hx => mem_vdiff.mpr ⟨hx, by simp [vofList]⟩)
    | cons v vs => simp at hl
  | cons x xs ih =>
    intro vs L ρ1 ρ2 hl h
    cases vs with
    | nil => simp at hl
    | cons v vs =>
      unfold Store.setMany
      apply ih _ (by simpa using hl)
      intro y hy
      have hy' := mem_vdiff.mp hy
      unfold Store.set
      by_cases hyx : y = x
      · simp [hyx]
      · simp only [hyx, if_false]
        apply h y
        apply mem_vdiff.mpr
        refine ⟨hy'.1, ?_⟩
        intro hm
        rcases (mem_vofList.mp hm) with _ | ⟨_, hm'⟩
        · exact hyx rfl
        · exact hy'.2 (mem_vofList.mpr hm')

theorem evalExpr_agree_both {V} (S : Sem V) (ρ1 ρ2 : Store V) :
    (∀ (e : Expr), Agree (usedVars e) ρ1 ρ2 → evalExpr S ρ1 e = evalExpr S ρ2 e) ∧
    (∀ (es : List Expr), Agree (usedVarsL es) ρ1 ρ2 → evalExprs S ρ1 es = evalExprs S ρ2 es) := by
  apply expr_induct
  case var => intro x h; unfold evalExpr; rw [h x (by simp [usedVars])]
  case lit => intro l _; unfold evalExpr; rfl
  case call =>
    intro dom op sig args attrs ih h
    unfold evalExpr
    rw [ih (h.mono (fun x hx => by unfold usedVars; exact mem_vunion.mpr (Or.inl hx)))]
  case binop =>
    intro o a b iha ihb h
    unfold evalExpr
    rw [iha (h.mono (fun x hx => by unfold usedVars; exact mem_vunion.mpr (Or.inl hx))),
        ihb (h.mono (fun x hx => by unfold usedVars; exact mem_vunion.mpr (Or.inr hx)))]
  case unop =>
    intro o a iha h
    unfold evalExpr
    rw [iha (h.mono (fun x hx => by unfold usedVars; exact hx))]
  case cmp =>
    intro o a b iha ihb h
    unfold evalExpr
    rw [iha (h.mono (fun x hx => by unfold usedVars; exact mem_vunion.mpr (Or.inl hx))),
        ihb (h.mono (fun x hx => by unfold usedVars; exact mem_vunion.mpr (Or.inr hx)))]
  case subscript => intro base idx _ _; unfold evalExpr; rfl
  case other => intro us _; unfold evalExpr; rfl
  case nil => intro _; unfold evalExprs; rfl
  case cons =>
    intro e es ihe ihes h
    unfold evalExprs
    rw [ihe (h.mono (fun x hx => by unfold usedVarsL; exact mem_vunion.mpr (Or.inl hx))),
        ihes (h.mono (fun x hx => by unfold usedVarsL; exact mem_vunion.mpr (Or.inr hx)))]

theorem evalExpr_agree {V} (S : Sem V) (ρ1 ρ2 : Store V) (e : Expr) :
    Agree (usedVars e) ρ1 ρ2 → evalExpr S ρ1 e = evalExpr S ρ2 e :=
  (evalExpr_agree_both S ρ1 ρ2).1 e

theorem evalExprs_agree {V} (S : Sem V) (ρ1 ρ2 : Store V) (es : List Expr) :
    Agree (usedVarsL es) ρ1 ρ2 → evalExprs S ρ1 es = evalExprs S ρ2 es :=
  (evalExpr_agree_both S ρ1 ρ2).2 es

def OutRel {V} (lo : VSet) : Option (Outcome V) → Option (Outcome V) → Prop
  | none, none => True
  | some (.normal a), some (.normal b) => Agree lo a b
  | some (.broke _), some (.broke _) => True
  | some (.returned v), some (.returned w) => v = w
  | _, _ => False

theorem OutRel.refl_none {V} (lo : VSet) : OutRel (V := V) lo none none := trivial

theorem OutRel.cases {V} {lo : VSet} {o1 o2 : Option (Outcome V)} (h : OutRel lo o1 o2) :
    (o1 = none ∧ o2 = none) ∨ (∃ a b, o1 = some (.normal a) ∧ o2 = some (.normal b) ∧ Agree lo a b) ∨
    (∃ a b, o1 = some (.broke a) ∧ o2 = some (.broke b)) ∨ (∃ v, o1 = some (.returned v) ∧ o2 = some (.returned v)) := by
  unfold OutRel at h
  split at h
  · exact Or.inl ⟨rfl, rfl⟩
  · exact Or.inr (Or.inl ⟨_, _, rfl, rfl, h⟩)
  · exact Or.inr (Or.inr (Or.inl ⟨_, _, rfl, rfl⟩))
  · cases h; exact Or.inr (Or.inr (Or.inr ⟨_, rfl, rfl⟩))
  · exact h.elim

theorem vsubset_mem {a b : VSet} (h : vsubset a b = true) : ∀ x, x ∈ a → x ∈ b := by
  intro x hx
  simp only [vsubset, List.all_eq_true, List.contains_iff_mem] at h
  exact h x hx

/-- As `OutRel`, but two runs that end in a `break` agree on `lo` as well. -/
def OutRelB {V} (lo : VSet) : Option (Outcome V) → Option (Outcome V) → Prop
  | none, none => True
  | some (.normal a), some (.normal b) => Agree lo a b
  | some (.broke a), some (.broke b) => Agree lo a b
  | some (.returned v), some (.returned w) => v = w
  | _, _ => False

theorem OutRelB.cases {V} {lo : VSet} {o1 o2 : Option (Outcome V)} (h : OutRelB lo o1 o2) :
    (o1 = none ∧ o2 = none) ∨ (∃ a b, o1 = some (.normal a) ∧ o2 = some (.normal b) ∧ Agree lo a b) ∨
    (∃ a b, o1 = some (.broke a) ∧ o2 = some (.broke b) ∧ Agree lo a b) ∨
    (∃ v, o1 = some (.returned v) ∧ o2 = some (.returned v)) := by
  unfold OutRelB at h
  split at h
  · exact Or.inl ⟨rfl, rfl⟩
  · exact Or.inr (Or.inl ⟨_, _, rfl, rfl, h⟩)
  · exact Or.inr (Or.inr (Or.inl ⟨_, _, rfl, rfl, h⟩))
  · cases h; exact Or.inr (Or.inr (Or.inr ⟨_, rfl, rfl⟩))
  · exact h.elim

theorem OutRelB.weaken {V} {lo : VSet} {o1 o2 : Option (Outcome V)} (h : OutRelB lo o1 o2) : OutRel lo o1 o2 := by
  rcases h.cases with ⟨rfl, rfl⟩ | ⟨a, b, rfl, rfl, hab⟩ | ⟨a, b, rfl, rfl, _⟩ | ⟨v, rfl, rfl⟩
  · exact trivial
  · exact hab
  · exact trivial
  · exact rfl

/-- After a `break` too the stores agree on `lo`: the live-in of `if c: break` contains `lo`. -/
theorem liveLeaf {V} (S : Sem V) (fuel : Nat) : ∀ (st : Stmt) (lo : VSet) (ρ1 ρ2 : Store V), leaf st = true →
    Agree (liveInStmt st lo) ρ1 ρ2 → OutRelB lo (evalStmt S fuel st ρ1) (evalStmt S fuel st ρ2)
  | .assign x e, lo, ρ1, ρ2, _, h => by
    unfold liveInStmt at h
    unfold evalStmt
    rw [evalExpr_agree S ρ1 ρ2 e (h.mono (fun y hy => mem_vunion.mpr (Or.inr hy)))]
    cases evalExpr S ρ2 e with
    | none => exact trivial
    | some v => exact Agree.set (h.mono (fun y hy => mem_vunion.mpr (Or.inl hy)))
  | .par xs es, lo, ρ1, ρ2, _, h => by
    unfold liveInStmt at h
    unfold evalStmt
    rw [evalExprs_agree S ρ1 ρ2 es (h.mono (fun y hy => mem_vunion.mpr (Or.inr hy)))]
    cases evalExprs S ρ2 es with
    | none => exact trivial
    | some vs =>
      by_cases hl : vs.length = xs.length
      · simp only [hl, if_true]
        exact Agree.setMany xs vs hl (h.mono (fun y hy => mem_vunion.mpr (Or.inl hy)))
      · simp only [hl, if_false]; exact trivial
  | .tuple xs e, lo, ρ1, ρ2, _, h => by
    cases e with
    | call dom op sig args attrs =>
      unfold liveInStmt at h
      unfold evalStmt
      simp only
      rw [evalExprs_agree S ρ1 ρ2 args (h.mono (fun y hy => mem_vunion.mpr (Or.inr (by
        unfold usedVars; exact mem_vunion.mpr (Or.inl hy)))))]
      cases evalExprs S ρ2 args with
      | none => exact trivial
      | some vs =>
        simp only
        cases applyOp S dom op sig vs attrs with
        | none => exact trivial
        | some rs =>
          simp only
          by_cases hl : rs.length = xs.length
          · simp only [hl, if_true]
            exact Agree.setMany xs _ (by simpa using hl) (h.mono (fun y hy => mem_vunion.mpr (Or.inl hy)))
          · simp only [hl, if_false]; exact trivial
    | _ => unfold evalStmt; exact trivial
  | .badAssign xs e, lo, ρ1, ρ2, _, h => by unfold evalStmt; exact trivial
  | .brk c, lo, ρ1, ρ2, _, h => by
    unfold liveInStmt at h
    unfold evalStmt
    rw [evalExpr_agree S ρ1 ρ2 c (h.mono (fun y hy => mem_vunion.mpr (Or.inr hy)))]
    cases evalExpr S ρ2 c with
    | none => exact trivial
    | some cv =>
      simp only
      cases truthPV S cv with
      | none => exact trivial
      | some b => cases b <;> exact h.mono (fun y hy => mem_vunion.mpr (Or.inl hy))
  | .ret es bare, lo, ρ1, ρ2, _, h => by
    unfold liveInStmt at h
    unfold evalStmt
    rw [evalExprs_agree S ρ1 ρ2 es h]
    cases evalExprs S ρ2 es with
    | none => exact trivial
    | some vs => exact rfl
  | .skip, lo, ρ1, ρ2, _, h => by
    unfold liveInStmt at h
    unfold evalStmt
    exact h
  | .unsupported, lo, ρ1, ρ2, _, h => by unfold evalStmt; exact trivial
  | .ite _ _ _, _, _, _, hl, _ => by cases hl
  | .for_ _ _ _ _, _, _, _, hl, _ => by cases hl
  | .while_ _ _, _, _, _, hl, _ => by cases hl

theorem ite_rel {V} (S : Sem V) (fuel : Nat) {R : Option (Outcome V) → Option (Outcome V) → Prop} (hR : R none none)
    {c : Expr} {t e : List Stmt} {lo : VSet} {ρ1 ρ2 : Store V}
    (h : Agree (liveInStmt (.ite c t e) lo) ρ1 ρ2)
    (ht : Agree (liveInBlock t lo) ρ1 ρ2 → R (evalBlock S fuel t ρ1) (evalBlock S fuel t ρ2))
    (he : Agree (liveInBlock e lo) ρ1 ρ2 → R (evalBlock S fuel e ρ1) (evalBlock S fuel e ρ2)) :
    R (evalStmt S fuel (.ite c t e) ρ1) (evalStmt S fuel (.ite c t e) ρ2) := by
  unfold liveInStmt at h
  unfold evalStmt
  rw [evalExpr_agree S ρ1 ρ2 c (h.mono (fun y hy => mem_vunion.mpr (Or.inr hy)))]
  cases evalExpr S ρ2 c with
  | none => exact hR
  | some cv =>
    simp only
    cases truthPV S cv with
    | none => exact hR
    | some b =>
      cases b with
      | true => exact ht (h.mono (fun y hy => mem_vunion.mpr (Or.inl (mem_vunion.mpr (Or.inl hy)))))
      | false => exact he (h.mono (fun y hy => mem_vunion.mpr (Or.inl (mem_vunion.mpr (Or.inr hy)))))

theorem liveSound_both {V} (S : Sem V) (fuel : Nat) :
    (∀ st (lo : VSet) (ρ1 ρ2 : Store V), loopFree st = true → Agree (liveInStmt st lo) ρ1 ρ2 →
      OutRel lo (evalStmt S fuel st ρ1) (evalStmt S fuel st ρ2)) ∧
    (∀ ss (lo : VSet) (ρ1 ρ2 : Store V), loopFreeL ss = true → Agree (liveInBlock ss lo) ρ1 ρ2 →
      OutRel lo (evalBlock S fuel ss ρ1) (evalBlock S fuel ss ρ2)) := by
  apply stmt_block_induct
  case hleaf => exact fun st hl lo ρ1 ρ2 _ h => OutRelB.weaken (liveLeaf S fuel st lo ρ1 ρ2 hl h)
  case hite =>
    intro c t e iht ihe lo ρ1 ρ2 hf h
    simp only [loopFree, Bool.and_eq_true] at hf
    exact ite_rel S fuel trivial h (iht lo ρ1 ρ2 hf.1) (ihe lo ρ1 ρ2 hf.2)
  case hfor => intro i ok b body _ lo ρ1 ρ2 hf; cases hf
  case hwhile => intro c body _ lo ρ1 ρ2 hf; cases hf
  case hnil => intro lo ρ1 ρ2 _ h; unfold evalBlock; exact h
  case hcons =>
    intro st ss ihs ihss lo ρ1 ρ2 hf h
    simp only [loopFreeL, Bool.and_eq_true] at hf
    unfold evalBlock
    rcases (ihs (liveInBlock ss lo) ρ1 ρ2 hf.1 h).cases with
      ⟨e1, e2⟩ | ⟨a, b, e1, e2, hab⟩ | ⟨a, b, e1, e2⟩ | ⟨v, e1, e2⟩ <;> rw [e1, e2]
    · exact trivial
    · exact ihss lo a b hf.2 hab
    · exact trivial
    · exact rfl

theorem liveStmt_sound {V} (S : Sem V) (fuel : Nat) (st : Stmt) (lo : VSet) (ρ1 ρ2 : Store V) :
    loopFree st = true → Agree (liveInStmt st lo) ρ1 ρ2 →
    OutRel lo (evalStmt S fuel st ρ1) (evalStmt S fuel st ρ2) :=
  (liveSound_both S fuel).1 st lo ρ1 ρ2

theorem liveBlock_sound {V} (S : Sem V) (fuel : Nat) : ∀ (ss : List Stmt) (lo : VSet) (ρ1 ρ2 : Store V),
    loopFreeL ss = true → Agree (liveInBlock ss lo) ρ1 ρ2 →
    OutRel lo (evalBlock S fuel ss ρ1) (evalBlock S fuel ss ρ2) :=
  (liveSound_both S fuel).2

/-- A run of a Python loop that ends in `o`, told the way ONNX's `Loop` counts: started at round `k` in store `ρ` with
at most `left` rounds to go (`none`: no bound), it ends normally because the trip count is used up, because the test
`cont` is false, or because the body `break`s; it returns when the body does.  A failing run (of the body, of the
test, out of fuel) has none.  `iterFor` (no test) and `iterWhile` (no bound) both run so. -/
inductive LoopRun {V} (cont : Store V → Option Bool) (body : Nat → Store V → Option (Outcome V)) :
    Outcome V → Option Nat → Nat → Store V → Prop
  | trip (k : Nat) (ρ : Store V) : LoopRun cont body (.normal ρ) (some 0) k ρ
  | stop {left : Option Nat} (k : Nat) {ρ : Store V} : cont ρ = some false → LoopRun cont body (.normal ρ) left k ρ
  | brk {left : Option Nat} {k : Nat} {ρ ρ1 : Store V} : left ≠ some 0 → cont ρ = some true →
      body k ρ = some (.broke ρ1) → LoopRun cont body (.normal ρ1) left k ρ
  | ret {left : Option Nat} {k : Nat} {ρ : Store V} {vs : List (PV V)} : left ≠ some 0 → cont ρ = some true →
      body k ρ = some (.returned vs) → LoopRun cont body (.returned vs) left k ρ
  | next {o : Outcome V} {left : Option Nat} {k : Nat} {ρ ρ1 : Store V} : left ≠ some 0 → cont ρ = some true →
      body k ρ = some (.normal ρ1) → LoopRun cont body o (left.map (· - 1)) (k + 1) ρ1 → LoopRun cont body o left k ρ

theorem iterFor_loopRun {V} (S : Sem V) {i : Name} {body : Store V → Option (Outcome V)} {o : Outcome V} :
    ∀ (left k : Nat) (ρ : Store V), iterFor S i body left k ρ = some o →
      LoopRun (fun _ => some true) (fun k ρ => body (ρ.set i (.t (S.ofNat k)))) o (some left) k ρ
  | 0, k, ρ, h => by
    simp only [iterFor] at h
    cases h
    exact .trip k ρ
  | left + 1, k, ρ, h => by
    simp only [iterFor] at h
    cases hb : body (ρ.set i (.t (S.ofNat k))) with
    | none => simp [hb] at h
    | some o1 =>
      simp only [hb] at h
      cases o1 with
      | normal ρ1 => exact .next (by simp) rfl hb (iterFor_loopRun S left (k + 1) ρ1 h)
      | broke ρ1 => cases h; exact .brk (by simp) rfl hb
      | returned vs => cases h; exact .ret (by simp) rfl hb

theorem iterWhile_loopRun {V} {cond : Store V → Option Bool} {body : Store V → Option (Outcome V)} {o : Outcome V} :
    ∀ (fl k : Nat) (ρ : Store V), iterWhile cond body fl ρ = some o → LoopRun cond (fun _ => body) o none k ρ
  | 0, _, _, h => by simp [iterWhile] at h
  | fl + 1, k, ρ, h => by
    simp only [iterWhile] at h
    cases hc : cond ρ with
    | none => simp [hc] at h
    | some b =>
      simp only [hc] at h
      cases b with
      | false => cases h; exact .stop k hc
      | true =>
        cases hb : body ρ with
        | none => simp [hb] at h
        | some o1 =>
          simp only [hb] at h
          cases o1 with
          | normal ρ1 => exact .next (by simp) hc hb (iterWhile_loopRun fl (k + 1) ρ1 h)
          | broke ρ1 => cases h; exact .brk (by simp) hc hb
          | returned vs => cases h; exact .ret (by simp) hc hb

theorem LoopRun.not_broke {V} {cont : Store V → Option Bool} {body : Nat → Store V → Option (Outcome V)}
    {o : Outcome V} {left : Option Nat} {k : Nat} {ρ : Store V} (h : LoopRun cont body o left k ρ) (r : Store V) :
    o ≠ .broke r := by
  induction h with
  | next _ _ _ _ ih => exact ih
  | _ => exact nofun

theorem leaf_not_broke {V} (S : Sem V) (fuel : Nat) {st : Stmt} (hl : leaf st = true) (hn : noBrkS st = true)
    (ρ r : Store V) : evalStmt S fuel st ρ ≠ some (.broke r) := by
  intro h
  cases st with
  | assign x e => obtain ⟨_, _, ho⟩ := evalStmt_assign_some h; cases ho
  | par xs es => obtain ⟨_, _, _, ho⟩ := evalStmt_par_some h; cases ho
  | tuple xs e =>
    cases e with
    | call dom op sig args attrs => obtain ⟨_, _, _, _, _, ho⟩ := evalStmt_tuple_some h; cases ho
    | _ => simp [evalStmt] at h
  | ret es b => obtain ⟨_, _, ho⟩ := evalStmt_ret_some h; cases ho
  | brk c => simp [noBrkS] at hn
  | ite _ _ _ => cases hl
  | for_ _ _ _ _ => cases hl
  | while_ _ _ => cases hl
  | _ => simp [evalStmt] at h

theorem noBrk_both {V} (S : Sem V) (fuel : Nat) :
    (∀ st, noBrkS st = true → ∀ (ρ r : Store V), evalStmt S fuel st ρ ≠ some (.broke r)) ∧
    (∀ ss, noBrkL ss = true → ∀ (ρ r : Store V), evalBlock S fuel ss ρ ≠ some (.broke r)) := by
  apply stmt_block_induct
  case hleaf => exact fun st hl hn ρ r => leaf_not_broke S fuel hl hn ρ r
  case hite =>
    intro c t e iht ihe hn ρ r h
    simp only [noBrkS, Bool.and_eq_true] at hn
    obtain ⟨_, b, _, _, h⟩ := evalStmt_ite_some h
    cases b
    · exact ihe hn.2 ρ r h
    · exact iht hn.1 ρ r h
  case hfor =>
    intro i ok b body _ _ ρ r h
    cases ok with
    | false => simp [evalStmt] at h
    | true => obtain ⟨_, n, _, _, h⟩ := evalStmt_for_some h; exact (iterFor_loopRun S n 0 ρ h).not_broke r rfl
  case hwhile =>
    intro c body _ _ ρ r h
    unfold evalStmt at h
    exact (iterWhile_loopRun fuel 0 ρ h).not_broke r rfl
  case hnil => intro _ ρ r h; simp [evalBlock] at h
  case hcons =>
    intro st ss ihs ihss hn ρ r h
    simp only [noBrkL, Bool.and_eq_true] at hn
    obtain ⟨o1, hs, h⟩ := evalBlock_cons_some h
    cases o1 with
    | normal ρ' => exact ihss hn.2 ρ' r h
    | broke ρ' => exact ihs hn.1 ρ ρ' hs
    | returned vs => cases h

theorem noBrk_block {V} (S : Sem V) (fuel : Nat) : ∀ (ss : List Stmt), noBrkL ss = true →
    ∀ (ρ r : Store V), evalBlock S fuel ss ρ ≠ some (.broke r) :=
  (noBrk_both S fuel).2

theorem iterFor_agree {V} (S : Sem V) (i : Name) (body : Store V → Option (Outcome V)) (F Lb lo : VSet)
    (hbody : ∀ ρ1 ρ2, Agree Lb ρ1 ρ2 → OutRelB F (body ρ1) (body ρ2))
    (hsub : ∀ y, y ∈ Lb → y ≠ i → y ∈ F) (hlo : ∀ y, y ∈ lo → y ∈ F) :
    ∀ (left k : Nat) (ρ1 ρ2 : Store V), Agree F ρ1 ρ2 →
      OutRelB lo (iterFor S i body left k ρ1) (iterFor S i body left k ρ2) := by
  intro left
  induction left with
  | zero => intro k ρ1 ρ2 h; simp only [iterFor]; exact h.mono hlo
  | succ n ih =>
    intro k ρ1 ρ2 h
    simp only [iterFor]
    have hb := hbody (ρ1.set i (.t (S.ofNat k))) (ρ2.set i (.t (S.ofNat k))) (by
      intro y hy
      unfold Store.set
      by_cases hyi : y = i
      · simp [hyi]
      · simp only [hyi, if_false]; exact h y (hsub y hy hyi))
    rcases hb.cases with ⟨e1, e2⟩ | ⟨a, b, e1, e2, hab⟩ | ⟨a, b, e1, e2, hab⟩ | ⟨v, e1, e2⟩ <;> rw [e1, e2]
    · exact trivial
    · exact ih _ a b hab
    · exact Agree.mono hab hlo
    · exact rfl

theorem iterWhile_agree {V} (cond : Store V → Option Bool) (body : Store V → Option (Outcome V)) (F lo : VSet)
    (hcond : ∀ ρ1 ρ2, Agree F ρ1 ρ2 → cond ρ1 = cond ρ2)
    (hbody : ∀ ρ1 ρ2, Agree F ρ1 ρ2 → OutRelB F (body ρ1) (body ρ2))
    (hlo : ∀ y, y ∈ lo → y ∈ F) :
    ∀ (fuel : Nat) (ρ1 ρ2 : Store V), Agree F ρ1 ρ2 →
      OutRelB lo (iterWhile cond body fuel ρ1) (iterWhile cond body fuel ρ2) := by
  intro fuel
  induction fuel with
  | zero => intro ρ1 ρ2 _; simp only [iterWhile]; exact trivial
  | succ n ih =>
    intro ρ1 ρ2 h
    simp only [iterWhile]
    rw [hcond ρ1 ρ2 h]
    cases hc : cond ρ2 with
    | none => exact trivial
    | some b =>
      cases b with
      | false => exact h.mono hlo
      | true =>
        simp only
        rcases (hbody ρ1 ρ2 h).cases with ⟨e1, e2⟩ | ⟨a, b, e1, e2, hab⟩ | ⟨a, b, e1, e2, hab⟩ | ⟨v, e1, e2⟩ <;>
          rw [e1, e2]
        · exact trivial
        · exact ih a b hab
        · exact Agree.mono hab hlo
        · exact rfl

theorem outRelB_block_step {V} (S : Sem V) (fuel : Nat) (st : Stmt) (ss : List Stmt) (lo : VSet)
    (ρ1 ρ2 : Store V) (hn : ∀ ρ r, evalStmt S fuel st ρ ≠ some (.broke r))
    (h1 : OutRelB (liveInBlock ss lo) (evalStmt S fuel st ρ1) (evalStmt S fuel st ρ2))
    (hrest : ∀ a b, Agree (liveInBlock ss lo) a b → OutRelB lo (evalBlock S fuel ss a) (evalBlock S fuel ss b)) :
    OutRelB lo (evalBlock S fuel (st :: ss) ρ1) (evalBlock S fuel (st :: ss) ρ2) := by
  unfold evalBlock
  rcases h1.cases with ⟨e1, e2⟩ | ⟨a, b, e1, e2, hab⟩ | ⟨a, b, e1, e2, hab⟩ | ⟨v, e1, e2⟩
  · rw [e1, e2]; exact trivial
  · rw [e1, e2]; exact hrest a b hab
  · exact absurd e1 (hn ρ1 a)
  · rw [e1, e2]; exact rfl

theorem noBrkL_body : ∀ ss, noBrkL ss = true → bodyBrkOK ss = true
  | [], _ => rfl
  | s :: ss, h => by
    simp only [noBrkL, Bool.and_eq_true] at h
    simp only [bodyBrkOK, Bool.and_eq_true]
    refine ⟨?_, noBrkL_body ss h.2⟩
    split
    · rfl
    · exact h.1

theorem bodyBrkOK_cons {s : Stmt} {ss : List Stmt} (h : bodyBrkOK (s :: ss) = true) :
    (noBrkS s = true ∧ bodyBrkOK ss = true) ∨ (leaf s = true ∧ ss = []) := by
  simp only [bodyBrkOK, Bool.and_eq_true] at h
  split at h
  · exact Or.inr ⟨rfl, rfl⟩
  · exact Or.inl h

theorem evalBlock_single {V} (S : Sem V) (fuel : Nat) (s : Stmt) (ρ : Store V) :
    evalBlock S fuel [s] ρ = evalStmt S fuel s ρ := by
  unfold evalBlock
  cases evalStmt S fuel s ρ with
  | none => rfl
  | some o => cases o <;> simp [evalBlock]

/-- The block part is stated for loop bodies (`bodyBrkOK`), of which `break`-free blocks are a special case
(`noBrkL_body`). -/
theorem liveB_both {V} (S : Sem V) (fuel : Nat) :
    (∀ st (lo : VSet) (ρ1 ρ2 : Store V), noBrkS st = true → stableStmt st lo = true →
      Agree (liveInStmt st lo) ρ1 ρ2 → OutRelB lo (evalStmt S fuel st ρ1) (evalStmt S fuel st ρ2)) ∧
    (∀ ss (lo : VSet) (ρ1 ρ2 : Store V), bodyBrkOK ss = true → stableBlock ss lo = true →
      Agree (liveInBlock ss lo) ρ1 ρ2 → OutRelB lo (evalBlock S fuel ss ρ1) (evalBlock S fuel ss ρ2)) := by
  apply stmt_block_induct
  case hleaf => exact fun st hl lo ρ1 ρ2 _ _ h => liveLeaf S fuel st lo ρ1 ρ2 hl h
  case hite =>
    intro c t e iht ihe lo ρ1 ρ2 hn hst h
    simp only [noBrkS, stableStmt, Bool.and_eq_true] at hn hst
    exact ite_rel S fuel trivial h (iht lo ρ1 ρ2 (noBrkL_body t hn.1) hst.1) (ihe lo ρ1 ρ2 (noBrkL_body e hn.2) hst.2)
  case hfor =>
    intro i ok b body ih lo ρ1 ρ2 hn hst h
    unfold noBrkS at hn
    unfold stableStmt at hst
    simp only [Bool.and_eq_true] at hst
    obtain ⟨⟨hlo, hsub⟩, hsb⟩ := hst
    have hF : liveInStmt (.for_ i ok b body) lo
        = vunion (loopBodyLo (.for_ i ok b body) lo) (usedVars b) := by
      simp [liveInStmt, loopBodyLo]
    rw [hF] at h
    unfold evalStmt
    by_cases hok : (!ok) = true
    · rw [if_pos hok, if_pos hok]; exact trivial
    · rw [if_neg hok, if_neg hok]
      rw [evalExpr_agree S ρ1 ρ2 b (h.mono (fun y hy => mem_vunion.mpr (Or.inr hy)))]
      cases evalExpr S ρ2 b with
      | none => exact trivial
      | some bv =>
        simp only
        cases natPV S bv with
        | none => exact trivial
        | some n =>
          simp only
          exact iterFor_agree S i _ (loopBodyLo (.for_ i ok b body) lo)
            (liveInBlock body (loopBodyLo (.for_ i ok b body) lo)) lo (fun a c hac => ih _ a c hn hsb hac)
            (fun y hy hyi => vsubset_mem hsub y (mem_vdiff.mpr ⟨hy, by simpa using hyi⟩)) (vsubset_mem hlo) n 0 ρ1 ρ2
            (h.mono (fun y hy => mem_vunion.mpr (Or.inl hy)))
  case hwhile =>
    intro c body ih lo ρ1 ρ2 hn hst h
    unfold noBrkS at hn
    unfold stableStmt at hst
    simp only [Bool.and_eq_true] at hst
    obtain ⟨⟨⟨hlo, hcs⟩, hsub⟩, hsb⟩ := hst
    have hF : liveInStmt (.while_ c body) lo = loopBodyLo (.while_ c body) lo := by
      simp [liveInStmt, loopBodyLo]
    rw [hF] at h
    unfold evalStmt
    refine iterWhile_agree _ _ (loopBodyLo (.while_ c body) lo) lo ?_ ?_ (vsubset_mem hlo) fuel ρ1 ρ2 h
    · intro a d had
      show (match evalExpr S a c with | some v => truthPV S v | none => none)
        = (match evalExpr S d c with | some v => truthPV S v | none => none)
      rw [evalExpr_agree S a d c (had.mono (vsubset_mem hcs))]
    · intro a d had
      exact ih _ a d hn hsb (had.mono (vsubset_mem hsub))
  case hnil => intro lo ρ1 ρ2 _ _ h; unfold evalBlock; exact h
  case hcons =>
    intro st ss ihs ihss lo ρ1 ρ2 hn hst h
    simp only [stableBlock, Bool.and_eq_true] at hst
    rcases bodyBrkOK_cons hn with ⟨hs, hss⟩ | ⟨hl, rfl⟩
    · exact outRelB_block_step S fuel st ss lo ρ1 ρ2 (fun ρ r => (noBrk_both S fuel).1 st hs ρ r)
        (ihs _ ρ1 ρ2 hs hst.1 h) (fun a b hab => ihss lo a b hss hst.2 hab)
    · rw [evalBlock_single, evalBlock_single]
      exact liveLeaf S fuel st lo ρ1 ρ2 hl h

theorem liveStmtB {V} (S : Sem V) (fuel : Nat) (st : Stmt) (lo : VSet) (ρ1 ρ2 : Store V) :
    noBrkS st = true → stableStmt st lo = true → Agree (liveInStmt st lo) ρ1 ρ2 →
    OutRelB lo (evalStmt S fuel st ρ1) (evalStmt S fuel st ρ2) :=
  (liveB_both S fuel).1 st lo ρ1 ρ2

theorem liveBlockB {V} (S : Sem V) (fuel : Nat) : ∀ (ss : List Stmt) (lo : VSet) (ρ1 ρ2 : Store V),
    noBrkL ss = true → stableBlock ss lo = true → Agree (liveInBlock ss lo) ρ1 ρ2 →
    OutRelB lo (evalBlock S fuel ss ρ1) (evalBlock S fuel ss ρ2) :=
  fun ss lo ρ1 ρ2 hn => (liveB_both S fuel).2 ss lo ρ1 ρ2 (noBrkL_body ss hn)

theorem liveBodyB {V} (S : Sem V) (fuel : Nat) : ∀ (ss : List Stmt) (lo : VSet) (ρ1 ρ2 : Store V),
    bodyBrkOK ss = true → stableBlock ss lo = true → Agree (liveInBlock ss lo) ρ1 ρ2 →
    OutRelB lo (evalBlock S fuel ss ρ1) (evalBlock S fuel ss ρ2) :=
  (liveB_both S fuel).2

end OV.C01
