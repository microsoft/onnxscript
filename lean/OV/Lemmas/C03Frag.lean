import OV.Model.C03Frag
import OV.Lemmas.C03Env
import OV.Lemmas.C03State
/-!
Generic-folding fragment (`Plain`): nodes without bodies, for whose operator no partial evaluator is registered, and
which are not `Constant` nodes (constants are initializers).  On it `process_node` is: gate cascade → reference
evaluation → `new_initializer` → `replace_node` (`gateCascade_cases`, then `applyRepl_fold`; `afterRepl` is the state
`replace_node` leaves for a one-output node).  The folded node evaluates to the oracle's answer (`evalNode_folded`).
Also here: `lookupA` after `cons`/`erase`/`insert`, and the hypotheses of the fragment theorems
(`OracleSound`, `FragWF`, `ConstInfoSound`).
-/
namespace OV.C03

variable {V : Type}

/-- without a clash `_make_initializer_name_unique` does nothing -/
theorem makeRoom_noclash (st : St) (o : Name) (h : st.initDisplay.contains (st.display o) = false) : makeRoom st o = st := by
  simp only [makeRoom, h, Bool.false_eq_true, if_false]

/-- The cascade folds `n` into the initializer `(o, c.tok)`: it goes from `st` through `st2` (where the reference
evaluator is asked) to `st3`.  The bookkeeping and the error state are untouched; `names`: unless the display name of the
output is registered already, the fold registers it and renames nothing. -/
structure FoldExit (ctx : Ctx) (n : Node) (st st2 st3 : St) (v : Nat) (c : CInfo) (o : Name) : Prop where
  sameIS : SameIS st st2
  oracle : lookupA ctx.oracle (oracleKey st2 n v) = some (.single c)
  out : n.outputs = [o]
  notConst : n.isOp "Constant" = false
  ins : ∀ x, some x ∈ n.inputs → (st.constOf x).isSome = true
  sym : st3.sym = st2.sym
  info : st3.info = insertA st2.info (freshOf st2) (foldInfo c)
  bk : SameBk st st3
  err : st3.err = st.err
  names : st.initDisplay.contains (st.display o) = false →
    st3.dname = st.dname ∧ st3.initDisplay = st.display o :: st.initDisplay

theorem gateCascade_cases (ctx : Ctx) (hnf : ctx.isFunction = false) (st : St) (n : Node) (v : Nat) :
    (∃ h nd, gateCascade ctx st n v = (.keep n, { st with hist := h, need := nd })) ∨
    (∃ c st2 st3 o, FoldExit ctx n st st2 st3 v c o ∧
      gateCascade ctx st n v = (.repl n { newNodes := [], newOuts := [freshOf st2], inits := [(freshOf st2, c.tok)] }, st3)) := by
  rcases gateCascade_eq ctx st n v with ⟨h, nd, he⟩ | ⟨h, c, hnc, _, _, hins, hora, he⟩
  · exact Or.inl ⟨_, _, he⟩
  · rcases emitFold_eq ctx { st with hist := h } n c with ⟨h', hf⟩ | ⟨hfun, _⟩ | ⟨_, o, h', ho, hf⟩
    · exact Or.inl ⟨_, _, he.trans hf⟩
    · rw [hnf] at hfun
      cases hfun
    · refine Or.inr ⟨c, { st with hist := h }, _, o, ?_, he.trans hf⟩
      refine ⟨⟨rfl, rfl⟩, hora, ho, hnc, hins, rfl, rfl, ⟨rfl, rfl, rfl, rfl⟩, rfl, fun hno => ?_⟩
      have : makeRoom { st with hist := h } o = { st with hist := h } := makeRoom_noclash _ o hno
      rw [this]
      exact ⟨rfl, rfl⟩

theorem lookupA_cons {α} (l : List (Name × α)) (y : Name) (a : α) (x : Name) :
    lookupA ((y, a) :: l) x = if y = x then some a else lookupA l x := by
  simp only [lookupA, List.find?]
  by_cases h : y = x
  · simp [h]
  · have : (y == x) = false := by simpa using h
    simp [this, h]

theorem lookupA_erase {α} (l : List (Name × α)) (y x : Name) :
    lookupA (eraseA l y) x = if x = y then none else lookupA l x := by
  induction l with
  | nil => simp [eraseA, lookupA]
  | cons p ps ih =>
    obtain ⟨k, a⟩ := p
    simp only [eraseA, List.filter] at ih ⊢
    by_cases hk : k = y
    · subst hk
      simp only [bne_self_eq_false]
      rw [ih, lookupA_cons]
      by_cases hx : x = k
      · simp [hx]
      · have : ¬ k = x := fun e => hx e.symm
        simp [hx, this]
    · have : (k != y) = true := by simpa using hk
      simp only [this]
      rw [lookupA_cons, lookupA_cons, ih]
      by_cases hx : x = y
      · subst hx
        simp [hk]
      · simp [hx]

theorem lookupA_insert {α} (l : List (Name × α)) (y : Name) (a : α) (x : Name) :
    lookupA (insertA l y a) x = if x = y then some a else lookupA l x := by
  simp only [insertA]
  rw [lookupA_cons, lookupA_erase]
  by_cases h : x = y
  · simp [h]
  · have : ¬ y = x := fun e => h e.symm
    simp [h, this]

/-- the state after `replace_node` put the nodes `ms` in place of `n`; `o` is the node's output, `fv` the value that
takes over its identity, `l` the registered initializer names -/
def afterRepl (st3 : St) (n : Node) (o fv : Name) (ms : List Node) (l : List Name) : St :=
  { (clearUnused { (countNewUses ((inheritInfo st3 [(o, fv)]).decUses n.inputs) ms) with initNames := l }
      (n.inputs.filterMap id)) with modified := true }

theorem afterRepl_writes (st3 : St) (n : Node) (o fv : Name) (ms : List Node) (l : List Name) :
    ∃ u r idp h, afterRepl st3 n o fv ms l =
      { (inheritInfo st3 [(o, fv)]) with
          uses := u, initNames := l, removed := r, initDisplay := idp, hist := h, modified := true } := by
  obtain ⟨u1, e1⟩ := decUses_writes n.inputs (inheritInfo st3 [(o, fv)])
  obtain ⟨u2, e2⟩ := countNewUses_writes ms ((inheritInfo st3 [(o, fv)]).decUses n.inputs)
  obtain ⟨r, idp, h, e3⟩ := clearUnused_writes (n.inputs.filterMap id)
    { (countNewUses ((inheritInfo st3 [(o, fv)]).decUses n.inputs) ms) with initNames := l }
  unfold afterRepl
  rw [e3, e2, e1]
  exact ⟨_, _, _, _, rfl⟩

theorem sameIS_afterRepl (st3 : St) (n : Node) (o fv : Name) (ms : List Node) (l : List Name) :
    SameIS (inheritInfo st3 [(o, fv)]) (afterRepl st3 n o fv ms l) := by
  obtain ⟨u, r, idp, h, e⟩ := afterRepl_writes st3 n o fv ms l
  rw [e]
  exact ⟨rfl, rfl⟩

theorem applyRepl_single (ctx : Ctx) (hnf : ctx.isFunction = false) (st : St) (n : Node) (o fv : Name) (ms : List Node)
    (is : List (Name × String)) (ho : n.outputs = [o]) :
    ∃ l, applyRepl ctx st n { newNodes := ms, newOuts := [fv], inits := is } =
      .ok (ms.map (renNode maxDepth [(fv, o)]), is.map (fun p => (renName [(fv, o)] p.1, p.2)),
        afterRepl st n o fv (ms.map (renNode maxDepth [(fv, o)])) l) := by
  unfold applyRepl
  simp only [ho, List.length_cons, List.length_nil, bne_self_eq_false, Bool.false_eq_true, if_false, List.zip_cons_cons,
    List.zip_nil_right, List.map_cons, List.map_nil, hnf]
  exact ⟨_, rfl⟩

theorem applyRepl_fold (ctx : Ctx) (hnf : ctx.isFunction = false) (st3 : St) (n : Node) (o fv : Name) (tok : String)
    (ho : n.outputs = [o]) :
    ∃ st4, applyRepl ctx st3 n { newNodes := [], newOuts := [fv], inits := [(fv, tok)] } = .ok ([], [(o, tok)], st4) ∧
      ∃ l, st4 = afterRepl st3 n o fv [] l := by
  obtain ⟨l, h⟩ := applyRepl_single ctx hnf st3 n o fv [] [(fv, tok)] ho
  have hr : renName [(fv, o)] fv = o := by simp [renName, lookupA_cons]
  simp only [List.map_cons, List.map_nil, hr] at h
  exact ⟨_, h, l, rfl⟩

theorem inheritInfo_fold (st2 st3 : St) (o fv : Name) (c : CInfo)
    (hinfo : st3.info = insertA st2.info fv (foldInfo c)) :
    (inheritInfo st3 [(o, fv)]).sym = eraseA st3.sym o ∧
    ∀ x c', (inheritInfo st3 [(o, fv)]).constOf x = some c' → (x = o ∧ c' = c) ∨ st2.constOf x = some c' := by
  constructor
  · rfl
  · intro x c' h
    simp only [inheritInfo, List.foldl_cons, List.foldl_nil, St.constOf, St.getInfo, St.setInfo, St.clearSym,
      lookupA_erase, lookupA_insert, hinfo] at h
    by_cases hxfv : x = fv
    · simp [hxfv] at h
    · simp only [hxfv, if_false] at h
      by_cases hxo : x = o
      · subst hxo
        simp only [if_true, Option.getD_some] at h
        by_cases hofv : x = fv
        · exact absurd hofv hxfv
        · simp only [hofv, if_false, orElse] at h
          cases hold : ((lookupA st2.info x).getD {}).const with
          | none =>
            simp only [hold, foldInfo, Option.some.injEq] at h
            exact Or.inl ⟨rfl, h.symm⟩
          | some c0 =>
            simp only [hold, Option.some.injEq] at h
            right
            simp only [St.constOf, St.getInfo, hold, h]
      · simp only [hxo, if_false] at h
        right
        simpa only [St.constOf, St.getInfo] using h

def Plain (n : Node) : Prop :=
  n.subs = [] ∧ n.isOp "Constant" = false ∧ (∀ v, lookupEvaluator n v = none) ∧ hasRefAttr n = false

/-- The arguments the state attributes to a node whose inputs are all known constants. -/
def constArgs (sem : Sem V) (st : St) : List (Option Name) → List (Option V)
  | [] => []
  | none :: r => none :: constArgs sem st r
  | some x :: r => ((st.constOf x).map fun c => sem.tensor c.tok) :: constArgs sem st r

/-- A-ref, stated on the model's own query: whenever the table answers `c` for the key computed from
`(st, n)`, the operator applied to the constants `st` attributes to `n`'s inputs yields `c`. -/
def OracleSound (sem : Sem V) (ctx : Ctx) : Prop :=
  ∀ (st : St) (n : Node) (v : Nat) (c : CInfo), lookupA ctx.oracle (oracleKey st n v) = some (.single c) →
    (∀ x, some x ∈ n.inputs → (st.constOf x).isSome = true) →
    sem.op n.op n.domain n.attrs (constArgs sem st n.inputs) = some [sem.tensor c.tok]

theorem constArgs_congr (sem : Sem V) {st st' : St} (h : ∀ x, st'.constOf x = st.constOf x) :
    ∀ l, constArgs sem st' l = constArgs sem st l
  | [] => rfl
  | none :: r => by simp only [constArgs, constArgs_congr sem h r]
  | some x :: r => by simp only [constArgs, constArgs_congr sem h r, h x]

theorem lookupAll_const (sem : Sem V) (st : St) (ρ : Env V)
    (hc : ∀ x c, st.constOf x = some c → ρ x = some (sem.tensor c.tok)) :
    ∀ (l : List (Option Name)), (∀ x, some x ∈ l → (st.constOf x).isSome = true) →
      lookupAll ρ l = some (constArgs sem st l)
  | [], _ => rfl
  | none :: r, h => by
    simp only [lookupAll, lookupIn, constArgs]
    rw [lookupAll_const sem st ρ hc r (fun x hx => h x (List.mem_cons_of_mem _ hx))]
    rfl
  | some x :: r, h => by
    have hx := h x List.mem_cons_self
    cases hcx : st.constOf x with
    | none => simp [hcx] at hx
    | some c =>
      simp only [lookupAll, lookupIn, constArgs, hc x c hcx, hcx]
      rw [lookupAll_const sem st ρ hc r (fun y hy => h y (List.mem_cons_of_mem _ hy))]
      rfl

theorem evalNode_folded (sem : Sem V) {ctx : Ctx} (hor : OracleSound sem ctx) (sub) (st2 : St) (ρ : Env V) (n : Node)
    (v : Nat) (c : CInfo) (o : Name) (hc : ∀ x c, st2.constOf x = some c → ρ x = some (sem.tensor c.tok))
    (hins : ∀ x, some x ∈ n.inputs → (st2.constOf x).isSome = true)
    (hora : lookupA ctx.oracle (oracleKey st2 n v) = some (.single c))
    (ho : n.outputs = [o]) (hsubs : n.subs = []) (hnc : n.isOp "Constant" = false) :
    evalNode sem sub ρ n = some (ρ.set o (sem.tensor c.tok)) := by
  rw [evalNode_op sem sub ρ n hsubs hnc, lookupAll_const sem st2 ρ hc n.inputs hins, ho]
  simp only [Option.bind, hor st2 n v c hora hins, bindOuts]

theorem orderOK_tail {n : Node} {rest : List Node} (h : orderOK (n :: rest) = true) : orderOK rest = true := by
  simp only [orderOK, Bool.and_eq_true] at h
  exact h.2

theorem orderOK_head {n : Node} {rest : List Node} (h : orderOK (n :: rest) = true) {m : Node} (hm : m ∈ rest)
    {o : Name} (ho : m.outputs.contains o = true) : mentionsTop n o = false := by
  simp only [orderOK, Bool.and_eq_true, List.all_eq_true] at h
  have := h.1 m hm o (by simpa using ho)
  simpa using this

theorem orderOK_sublist : ∀ {l l' : List Node}, List.Sublist l' l → orderOK l = true → orderOK l' = true := by
  intro l l' h
  induction h with
  | slnil => intro _; rfl
  | cons a _ ih => intro ho; exact ih (orderOK_tail ho)
  | cons_cons a hsub ih =>
    intro ho
    simp only [orderOK, Bool.and_eq_true, List.all_eq_true] at ho ⊢
    exact ⟨fun m hm => ho.1 m (hsub.subset hm), ih ho.2⟩

theorem setSubs_nil (n : Node) (h : n.subs = []) : n.setSubs [] = n := by
  cases n
  simp only [Node.subs] at h
  simp [Node.setSubs, Node.op, Node.domain, Node.inputs, Node.outputs, Node.attrs, h]

theorem getSym_nil (st : St) (h : st.sym = []) (x : Option Name) : st.getSym x = none := by
  cases x with
  | none => rfl
  | some y => simp [St.getSym, h, lookupA]

/-- Well-formedness of the fragment's graphs (one level): nodes are plain, ordered, and no node
output is a formal input of the graph. -/
structure FragWF (g : Graph) : Prop where
  plain : ∀ n ∈ g.nodes, Plain n
  order : orderOK g.nodes = true
  outs_fresh : ∀ n ∈ g.nodes, ∀ o, n.outputs.contains o = true → g.inputs.contains o = false

/-- The annotation table is truthful about constants for the start environment (A-shape), and no
annotated constant is redefined by a node. -/
structure ConstInfoSound (sem : Sem V) (outer : Env V) (g : Graph) (args : List (Option V)) (info : List (Name × VInfo)) : Prop where
  start : ∀ ρ0, startEnv sem outer g args = some ρ0 → ∀ x c, ((lookupA info x).getD {}).const = some c →
    ρ0 x = some (sem.tensor c.tok)
  notOutput : ∀ x c, ((lookupA info x).getD {}).const = some c → ∀ m ∈ g.nodes, m.outputs.contains x = false

end OV.C03
