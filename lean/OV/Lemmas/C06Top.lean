import OV.Lemmas.C06Vocab
/-!
  C06 — around the matcher proper: what `Pattern.match` adds to a truthy `SimplePatternMatcher.match`
  (`patternMatch_some`, the fold that binds the unbound pattern inputs), readings of the spec that the
  completeness of the matcher and that of `solve` share (`boundTo_outputOf`, `outputOf_of_outputNodes`,
  `removable_validToReplace`).
-/
namespace OV.C06

theorem inputs_fold_le : ∀ (ins : List (Option String)) (bs : List (String × Bound)),
    (∀ k x, bs.lookup k = some x → (bindInputs ins bs).lookup k = some x) ∧
    (∀ nm, some nm ∈ ins → ∃ b, (bindInputs ins bs).lookup nm = some b) := by
  unfold bindInputs
  intro ins
  induction ins with
  | nil => intro bs; exact ⟨fun _ _ h => h, fun _ h => by simp at h⟩
  | cons i rest ih =>
    intro bs
    simp only [List.foldl_cons]
    cases i with
    | none =>
      refine ⟨(ih bs).1, fun nm hm => ?_⟩
      rcases List.mem_cons.1 hm with he | hm
      · cases he
      · exact (ih bs).2 nm hm
    | some nm =>
      dsimp only
      by_cases hs : (bs.lookup nm).isSome = true
      · simp only [hs, if_true]
        refine ⟨(ih bs).1, fun nm' hm => ?_⟩
        rcases List.mem_cons.1 hm with he | hm
        · cases he
          obtain ⟨b, hb⟩ := Option.isSome_iff_exists.1 hs
          exact ⟨b, (ih bs).1 _ _ hb⟩
        · exact (ih bs).2 nm' hm
      · simp only [hs, Bool.false_eq_true, if_false]
        have hnone : bs.lookup nm = none := by
          cases hl : bs.lookup nm with
          | none => rfl
          | some b => simp [hl] at hs
        refine ⟨fun k x h => (ih _).1 k x ((List.prefix_append _ _).lookup_eq_some h), fun nm' hm => ?_⟩
        rcases List.mem_cons.1 hm with he | hm
        · cases he
          exact ⟨Bound.none, (ih _).1 _ _ (lookup_snoc_self _ _ _ hnone)⟩
        · exact (ih _).2 nm' hm

theorem patternMatch_some (E : Env) (root : NodeId) (rm : Bool) (r : Result)
    (h : patternMatch E root rm = some r) :
    (matcherMatch E root rm).ok = true ∧
    r = { matcherMatch E root rm with
          bindings := bindInputs E.p.inputs (matcherMatch E root rm).bindings } ∧
    checksPass E.p r = true ∧ valueChecksPass E.p r = true ∧ E.p.cond = true := by
  simp only [patternMatch, Option.ite_none_left_eq_some, Bool.not_eq_true', Bool.not_eq_false,
    Option.some.injEq] at h
  obtain ⟨h1, h2, h3, h4, rfl⟩ := h
  exact ⟨h1, rfl, h2, h3, h4⟩

theorem mapM_mono {α β} {f g : α → Option β} (hfg : ∀ x y, f x = some y → g x = some y) {l : List α}
    {out : List β} (h : l.mapM f = some out) : l.mapM g = some out :=
  (List.mapM_congr_some fun x hx =>
    let ⟨y, _, hy⟩ := List.exists_of_mapM_eq_some h hx
    (hfg x y hy).trans hy.symm).trans h

theorem outputOf_mono {A A' : Assign} (h : ALe A A') (p : GPat) (vp : VPat) (b : Bound) :
    A.outputOf p vp = some b → A'.outputOf p vp = some b := by
  unfold Assign.outputOf
  split
  · exact h.names _ _
  · split
    · exact id
    · next k _ =>
      intro hb
      cases hl : A.leaf k with
      | none => simp [hl] at hb
      | some v =>
        simp only [hl, Option.map_some, Option.some.injEq] at hb
        simp [h.leaf _ _ hl, hb]

theorem outputValues_eq (p : GPat) (c : Partial) :
    outputValues p c = p.outputs.mapM ((assignOf c).outputOf p) := by
  unfold outputValues
  congr

theorem boundTo_outputOf (A : Assign) (p : GPat) (np idx : Nat) (x : ValueId)
    (h : A.boundTo p (.out np idx) (some x)) : A.outputOf p (.out np idx) = some (.val x) := by
  unfold Assign.boundTo at h
  unfold Assign.outputOf
  rcases hn : p.vname (.out np idx) with _ | nm <;> simp only [hn] at h ⊢
  · simp only [VPat.key] at h ⊢
    simp [h, Bound.ofVal]
  · simpa [Bound.ofVal] using h

/-- every pattern output is an output of one of the pattern's output nodes -/
def OutputsOfOutputNodes (p : GPat) : Prop :=
  ∀ vp ∈ p.outputs, ∃ q idx P, vp = .out q idx ∧ q ∈ p.outputNodes ∧ p.nodes[q]? = some P ∧
    idx < P.outputs.length

theorem outputOf_of_outputNodes {E : Env} {A : Assign} (houts : OutputsOfOutputNodes E.p)
    (h : ∀ q ∈ E.p.outputNodes, ∃ n, SatN E A q n) : ∃ outs, E.p.outputs.mapM (A.outputOf E.p) = some outs := by
  refine ⟨_, List.mapM_eq_some_map (g := fun vp => (A.outputOf E.p vp).getD .none) fun vp hvp => ?_⟩
  obtain ⟨q, idx, P, rfl, hq, hP, hidx⟩ := houts vp hvp
  obtain ⟨n, hs⟩ := h q hq
  cases hs with
  | mk _ _ P' N hP' hN _ _ _ _ _ _ _ hout =>
    cases hP.symm.trans hP'
    obtain ⟨x, _, hx⟩ := hout idx hidx
    rw [boundTo_outputOf _ _ _ _ _ hx, Option.getD_some]

theorem Instance.satN_root {E : Env} {root : NodeId} {A : Assign} (h : Instance E root A) {np : NPId}
    (hnp : E.p.outputNodes.head? = some np) : SatN E A np root :=
  let ⟨_, hn, hs⟩ := h.outNodes np (List.mem_of_mem_head? hnp)
  Option.some.inj (hn.symm.trans (h.rootNode np hnp)) ▸ hs

theorem removable_validToReplace (g : Graph) (matched : List NodeId) (outs : List Bound)
    (h : Removable g matched outs) : validToReplace g matched outs = true := by
  unfold validToReplace
  simp only [List.all_eq_true]
  intro n hn
  cases hg : g.nodes[n]? with
  | none => rfl
  | some gn =>
    simp only [List.all_eq_true]
    intro v hv
    by_cases hc : Bound.val v ∈ outs
    · simp [hc]
    · obtain ⟨h1, h2, h3⟩ := h n hn gn hg v hv hc
      simp only [List.contains_eq_mem, hc, decide_false, Bool.false_or, Bool.and_eq_true,
        Bool.not_eq_true', List.all_eq_true, h1, decide_eq_false_iff_not, true_and]
      exact ⟨fun c hcm => by simpa using h2 c hcm, by simpa using h3⟩

end OV.C06
