import OV.Model.C06Commute
import OV.Lemmas.Util
/-!
  C06 — the syntactic half of `GraphPattern.commute`: its swap masks, `mapM` in `Except`, every clone read up to
  its skeleton, and the `Constant` patterns it keeps.  (`C06CommuteSem` has the semantic half.)
-/
namespace OV.C06

theorem masks_cons (fix7b : Bool) (n : NPat) (ns : List NPat) :
    masks fix7b (n :: ns) =
      if n.swappable fix7b then (masks fix7b ns).map (false :: ·) ++ (masks fix7b ns).map (true :: ·)
      else (masks fix7b ns).map (false :: ·) := by
  rw [masks]
  unfold commuteNode
  split <;> simp

theorem masks_length (fix7b : Bool) : ∀ ns : List NPat,
    (masks fix7b ns).length = 2 ^ (ns.filter (NPat.swappable fix7b)).length := by
  intro ns
  induction ns with
  | nil => simp [masks]
  | cons n ns ih =>
    rw [masks_cons]
    by_cases h : n.swappable fix7b = true
    · simp [h, ih, Nat.pow_succ]; omega
    · simp [h, ih]

theorem masks_nodup (fix7b : Bool) : ∀ ns : List NPat, (masks fix7b ns).Nodup := by
  intro ns
  induction ns with
  | nil => simp [masks]
  | cons n ns ih =>
    have hc (b : Bool) : ((masks fix7b ns).map (b :: ·)).Nodup :=
      List.Pairwise.map _ (fun _ _ hne he => hne (List.cons.inj he).2) ih
    rw [masks_cons]
    split
    · rw [List.nodup_append]
      refine ⟨hc _, hc _, fun a ha b hb he => ?_⟩
      simp only [List.mem_map] at ha hb
      obtain ⟨x, _, rfl⟩ := ha
      obtain ⟨y, _, rfl⟩ := hb
      cases he
    · exact hc _

theorem masks_mem (fix7b : Bool) : ∀ (ns : List NPat) (m : List Bool),
    m ∈ masks fix7b ns ↔ m.length = ns.length ∧ ∀ (i : Nat) (b : Bool), m[i]? = some b → b = true →
      ∃ n : NPat, ns[i]? = some n ∧ n.swappable fix7b = true := by
  intro ns
  induction ns with
  | nil =>
    intro m
    simp only [masks, List.mem_singleton, List.length_nil, List.length_eq_zero_iff]
    constructor
    · rintro rfl; exact ⟨rfl, fun i b h => by simp at h⟩
    · exact fun h => h.1
  | cons n ns ih =>
    intro m
    rw [masks_cons]
    constructor
    · intro hm
      have key : ∃ b rest, m = b :: rest ∧ rest ∈ masks fix7b ns ∧ (b = true → n.swappable fix7b = true) := by
        split at hm
        · next hc =>
          rcases List.mem_append.1 hm with h | h
          · obtain ⟨rest, hr, rfl⟩ := List.mem_map.1 h
            exact ⟨false, rest, rfl, hr, fun h => by cases h⟩
          · obtain ⟨rest, hr, rfl⟩ := List.mem_map.1 h
            exact ⟨true, rest, rfl, hr, fun _ => hc⟩
        · obtain ⟨rest, hr, rfl⟩ := List.mem_map.1 hm
          exact ⟨false, rest, rfl, hr, fun h => by cases h⟩
      obtain ⟨b, rest, rfl, hr, hb⟩ := key
      have := (ih rest).1 hr
      refine ⟨by simp [this.1], fun i b' hi hb' => ?_⟩
      cases i with
      | zero =>
        simp at hi; subst hi
        exact ⟨n, rfl, hb hb'⟩
      | succ i =>
        simp only [List.getElem?_cons_succ] at hi ⊢
        exact this.2 i b' hi hb'
    · rintro ⟨hlen, hall⟩
      cases m with
      | nil => simp at hlen
      | cons b rest =>
        have hrest : rest ∈ masks fix7b ns := by
          refine (ih rest).2 ⟨by simpa using hlen, fun i b' hi hb' => ?_⟩
          have := hall (i + 1) b' (by simpa using hi) hb'
          simpa using this
        cases b with
        | false =>
          split
          · exact List.mem_append_left _ (List.mem_map.2 ⟨rest, hrest, rfl⟩)
          · exact List.mem_map.2 ⟨rest, hrest, rfl⟩
        | true =>
          obtain ⟨n', hn', hc⟩ := hall 0 true rfl rfl
          simp at hn'; subst hn'
          simp only [hc, if_true]
          exact List.mem_append_right _ (List.mem_map.2 ⟨rest, hrest, rfl⟩)

theorem masks_head (fix7b : Bool) : ∀ ns : List NPat, ∃ tl, masks fix7b ns = List.replicate ns.length false :: tl := by
  intro ns
  induction ns with
  | nil => exact ⟨[], rfl⟩
  | cons n ns ih =>
    obtain ⟨tl, htl⟩ := ih
    rw [masks_cons, htl]
    split
    · exact ⟨tl.map (false :: ·) ++ (masks fix7b ns).map (true :: ·), by simp [List.replicate_succ, htl]⟩
    · exact ⟨tl.map (false :: ·), by simp [List.replicate_succ]⟩

theorem exceptMapM_nil {α β ε} (f : α → Except ε β) (out : List β) :
    ([] : List α).mapM f = .ok out ↔ out = [] := by
  simp [List.mapM_nil, pure, Except.pure, eq_comm]

theorem exceptMapM_cons {α β ε} (f : α → Except ε β) (a : α) (l : List α) (out : List β) :
    (a :: l).mapM f = .ok out ↔ ∃ b bs, f a = .ok b ∧ l.mapM f = .ok bs ∧ out = b :: bs := by
  rw [List.mapM_cons]
  cases f a with
  | error e => exact ⟨fun h => (nomatch (h : Except.error e = _)), fun ⟨_, _, h, _⟩ => (nomatch h)⟩
  | ok b =>
    cases List.mapM f l with
    | error e => exact ⟨fun h => (nomatch (h : Except.error e = _)), fun ⟨_, _, _, h, _⟩ => (nomatch h)⟩
    | ok bs =>
      refine ⟨fun h => ?_, fun ⟨_, _, hb, hbs, he⟩ => ?_⟩
      · cases (h : Except.ok (b :: bs) = _)
        exact ⟨b, bs, rfl, rfl, rfl⟩
      · cases hb; cases hbs; cases he
        rfl

theorem exceptMapM_length {α β ε} (f : α → Except ε β) : ∀ (l : List α) (out : List β),
    l.mapM f = .ok out → out.length = l.length ∧ ∀ a tl, l = a :: tl → ∃ b, f a = .ok b ∧ out.head? = some b
  | [], out, h => by cases (exceptMapM_nil f out).1 h; exact ⟨rfl, nofun⟩
  | a :: l, out, h => by
    obtain ⟨b, bs, hb, hbs, rfl⟩ := (exceptMapM_cons f a l out).1 h
    refine ⟨by simp [(exceptMapM_length f l bs hbs).1], fun a' tl he => ?_⟩
    cases he
    exact ⟨b, hb, rfl⟩

theorem exceptMapM_mem {α β ε} (f : α → Except ε β) : ∀ (l : List α) (out : List β),
    l.mapM f = .ok out → ∀ b ∈ out, ∃ a ∈ l, f a = .ok b
  | [], out, h, b, hb => by cases (exceptMapM_nil f out).1 h; cases hb
  | a :: l, out, h, b, hb => by
    obtain ⟨b0, bs, hb0, hbs, rfl⟩ := (exceptMapM_cons f a l out).1 h
    rcases List.mem_cons.1 hb with rfl | hm
    · exact ⟨a, List.mem_cons_self .., hb0⟩
    · obtain ⟨a', ha', hf'⟩ := exceptMapM_mem f l bs hbs b hm
      exact ⟨a', List.mem_cons_of_mem _ ha', hf'⟩

theorem exceptMapM_eq_map {α β ε} (f : α → Except ε β) (g : α → β) : ∀ (l : List α) (out : List β),
    l.mapM f = .ok out → (∀ a ∈ l, ∀ b, f a = .ok b → b = g a) → out = l.map g
  | [], out, h, _ => (exceptMapM_nil f out).1 h
  | a :: l, out, h, hg => by
    obtain ⟨b, bs, hb, hbs, rfl⟩ := (exceptMapM_cons f a l out).1 h
    rw [hg a (List.mem_cons_self ..) b hb,
      exceptMapM_eq_map f g l bs hbs fun a' ha' => hg a' (List.mem_cons_of_mem _ ha'), List.map_cons]

theorem copyGraph_noswap (fix7a fix7c : Bool) (p : GPat) (n : Nat) :
    copyGraph fix7a p (List.replicate n false) fix7c = .ok p := by
  unfold copyGraph
  have : (List.replicate n false).any id = false := by
    induction n with
    | zero => rfl
    | succ n ih => simp [List.replicate_succ, ih]
  simp [this]

theorem commute_counts (fix7a fix7b fix7c : Bool) (p : GPat) (l : List GPat)
    (h : commute fix7a p fix7b fix7c = .ok l) :
    l.length = 2 ^ (p.nodes.filter (NPat.swappable fix7b)).length ∧
      (masks fix7b p.nodes).Nodup ∧
      (∀ m, m ∈ masks fix7b p.nodes ↔
        m.length = p.nodes.length ∧ ∀ (i : Nat) (b : Bool), m[i]? = some b → b = true →
          ∃ n : NPat, p.nodes[i]? = some n ∧ n.swappable fix7b = true) ∧
      l.head? = some p := by
  unfold commute at h
  obtain ⟨hlen, hhead⟩ := exceptMapM_length _ _ _ h
  refine ⟨by rw [hlen, masks_length], masks_nodup _ _, masks_mem _ _, ?_⟩
  obtain ⟨tl, htl⟩ := masks_head fix7b p.nodes
  obtain ⟨b, hb, hh⟩ := hhead _ _ htl
  rw [copyGraph_noswap] at hb
  cases hb
  exact hh

/-! ## every variant is the pattern with the masked nodes' two inputs swapped -/

mutual
theorem cloneV_skel : ∀ (vp : VPat) (k : Nat), skel (cloneV vp k).1 = skel vp
  | .var _ _ true _ _, _ => by simp only [cloneV]; split <;> simp [skel]
  | .var _ _ false _ _, _ => by simp [cloneV, skel]
  | .any, _ => by simp [cloneV, skel]
  | .const _ _, _ => by simp [cloneV, skel]
  | .out _ _, _ => by simp [cloneV, skel]
  | .orD _ _ _ _, _ => by simp [cloneV, skel]
  | .orB _ _ _ _ alts, k => by
    simp only [cloneV, skel]
    rw [cloneL_skel alts (k + 1)]
theorem cloneL_skel : ∀ (l : List VPat) (k : Nat), skelL (cloneL l k).1 = skelL l
  | [], _ => by simp [cloneL, skelL]
  | a :: rest, k => by
    simp only [cloneL, skelL]
    rw [cloneV_skel a k, cloneL_skel rest (cloneV a k).2]
end

theorem cloneInputs_skel : ∀ (ins : List (Option VPat)) (k : Nat),
    skelInputs (cloneInputs ins k).1 = skelInputs ins
  | [], _ => by simp [cloneInputs, skelInputs]
  | none :: rest, k => by
    have := cloneInputs_skel rest k
    simp only [skelInputs] at this ⊢
    simp [cloneInputs, this]
  | some v :: rest, k => by
    have := cloneInputs_skel rest (cloneV v k).2
    simp only [skelInputs] at this ⊢
    simp [cloneInputs, this, cloneV_skel v k]

theorem cloneNode_skel (fix7a : Bool) (np np' : NPat) (b : Bool) (k k' : Nat)
    (h : cloneNode fix7a np b k = .ok (np', k')) :
    skelInputs np'.inputs = (if b then (skelInputs np.inputs).reverse else skelInputs np.inputs) ∧
      (b = true → np.inputs.length = 2) ∧
      np' = { np with inputs := np'.inputs, opIsStr := false } := by
  unfold cloneNode at h
  dsimp only at h
  split at h
  · cases h
  · have hc := cloneInputs_skel np.inputs k
    split at h
    · next hb =>
      split at h
      · next x y hxy =>
        cases h
        have hlen : (cloneInputs np.inputs k).1.length = np.inputs.length := by
          have := congrArg List.length hc
          simpa [skelInputs] using this
        refine ⟨?_, fun _ => by rw [← hlen, hxy]; rfl, rfl⟩
        simp only [hb, if_true]
        rw [← hc, hxy]
        simp [skelInputs]
      · cases h
    · next hb =>
      cases h
      have hb' : b = false := by simpa using hb
      subst hb'
      exact ⟨by simpa using hc, (fun h => by cases h), rfl⟩

theorem cloneNodes_skel (fix7a : Bool) : ∀ (ns : List NPat) (bs : List Bool) (k : Nat)
    (l : List NPat) (k' : Nat), cloneNodes fix7a ns bs k = .ok (l, k') →
    ∀ (i : Nat) (n n' : NPat) (b : Bool), ns[i]? = some n → bs[i]? = some b → l[i]? = some n' →
      skelInputs n'.inputs = (if b then (skelInputs n.inputs).reverse else skelInputs n.inputs) ∧
      (b = true → n.inputs.length = 2) ∧ n' = { n with inputs := n'.inputs, opIsStr := false }
  | [], _, _, l, _, h => by
    intro i n n' b hn
    simp at hn
  | np :: rest, [], _, l, _, h => by
    intro i n n' b _ hb
    simp at hb
  | np :: rest, b0 :: bs, k, l, k', h => by
    unfold cloneNodes at h
    split at h
    · cases h
    · next np1 k1 h1 =>
      split at h
      · cases h
      · next l2 k2 h2 =>
        cases h
        intro i n n' b hn hb hn'
        cases i with
        | zero =>
          simp at hn hb hn'
          subst hn hb hn'
          exact cloneNode_skel fix7a _ _ _ k k1 h1
        | succ i =>
          simp at hn hb hn'
          exact cloneNodes_skel fix7a rest bs k1 l2 _ h2 i n n' b hn hb hn'

theorem copyGraph_skel (fix7a fix7c : Bool) (p q : GPat) (m : List Bool) (hm : m.any id = true)
    (h : copyGraph fix7a p m fix7c = .ok q) :
    ∀ (i : Nat) (n n' : NPat) (b : Bool), p.nodes[i]? = some n → m[i]? = some b → q.nodes[i]? = some n' →
      skelInputs n'.inputs = (if b then (skelInputs n.inputs).reverse else skelInputs n.inputs) ∧
      (b = true → n.inputs.length = 2) ∧ n' = { n with inputs := n'.inputs, opIsStr := false } := by
  unfold copyGraph at h
  split at h
  · next hx => simp [hm] at hx
  · split at h
    · cases h
    · next nodes k hk =>
      split at h
      · cases h
      · dsimp only at h
        split at h
        · cases h
          exact cloneNodes_skel fix7a _ _ _ _ _ hk
        · cases h

/-! ## clone keeps every `Constant` pattern, value and both tolerances: they are part of the skeleton -/

mutual
theorem constsV_skel : ∀ vp : VPat, constsV (skel vp) = constsV vp
  | .var .. => rfl
  | .any => rfl
  | .const .. => rfl
  | .out .. => rfl
  | .orD .. => rfl
  | .orB _ _ _ _ alts => by simp only [skel, constsV]; exact constsL_skelL alts
theorem constsL_skelL : ∀ l : List VPat, constsL (skelL l) = constsL l
  | [] => rfl
  | a :: rest => by simp only [skelL, constsL]; rw [constsV_skel a, constsL_skelL rest]
end

theorem cloneL_consts : ∀ (l : List VPat) (k : Nat), constsL (cloneL l k).1 = constsL l :=
  fun l k => by rw [← constsL_skelL, cloneL_skel, constsL_skelL]

theorem consts_skelInputs : ∀ ins : List (Option VPat),
    constsL ((skelInputs ins).filterMap id) = constsL (ins.filterMap id)
  | [] => rfl
  | none :: rest => consts_skelInputs rest
  | some v :: rest => by
    show constsL (skel v :: (skelInputs rest).filterMap id) = constsL (v :: rest.filterMap id)
    simp only [constsL]
    rw [constsV_skel, consts_skelInputs rest]

theorem mem_constsL {c : ConstPat} : ∀ {l : List VPat}, c ∈ constsL l ↔ ∃ v ∈ l, c ∈ constsV v
  | [] => by simp [constsL]
  | a :: rest => by simp [constsL, mem_constsL (l := rest)]

/-- the `Constant` patterns of a node pattern are those of its variant: the inputs of the variant are the
same up to object ids and order -/
theorem commute_consts (fix7a fix7b fix7c : Bool) (p : GPat) (l : List GPat) (q : GPat)
    (h : commute fix7a p fix7b fix7c = .ok l) (hq : q ∈ l) :
    ∀ (i : Nat) (n n' : NPat), p.nodes[i]? = some n → q.nodes[i]? = some n' →
      ∀ c : ConstPat, c ∈ n'.consts ↔ c ∈ n.consts := by
  unfold commute at h
  obtain ⟨m, hm, hc⟩ := exceptMapM_mem _ _ _ h q hq
  intro i n n' hn hn' c
  by_cases hany : m.any id = true
  · have hi : i < m.length := by
      rw [((masks_mem fix7b p.nodes m).1 hm).1]
      exact (List.getElem?_eq_some_iff.1 hn).1
    obtain ⟨hs, _, _⟩ := copyGraph_skel fix7a fix7c p q m hany hc i n n' m[i] hn (List.getElem?_eq_getElem hi) hn'
    unfold NPat.consts
    rw [← consts_skelInputs n'.inputs, ← consts_skelInputs n.inputs, hs]
    split
    · simp [mem_constsL, List.filterMap_reverse]
    · rfl
  · -- no node is swapped: `copy_graph` returns the pattern itself
    unfold copyGraph at hc
    simp only [hany, Bool.not_false, if_true] at hc
    cases hc
    cases hn.symm.trans hn'
    rfl

end OV.C06
