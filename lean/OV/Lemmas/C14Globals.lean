import OV.Model.C14Globals
import OV.Lemmas.C14History
namespace OV.C14

theorem memoGet_sound {K E V : Type} [BEq K] [LawfulBEq K] (f : K → E → V)
    (hf : ∀ k e e', f k e = f k e') (cache : List (K × V)) (h : MemoSound f cache) (k : K) (e : E) :
    (memoGet f cache k e).2 = f k e ∧ MemoSound f (memoGet f cache k e).1 := by
  unfold memoGet
  cases hl : cache.lookup k with
  | some v => exact ⟨h k v hl e, h⟩
  | none =>
    refine ⟨rfl, ?_⟩
    intro k' v' hk' e'
    simp only [List.lookup_cons] at hk'
    by_cases hkk : (k' == k) = true
    · simp only [hkk] at hk'
      have : k' = k := by simpa using hkk
      subst this
      cases hk'
      exact hf _ _ _
    · simp only [hkk] at hk'
      exact h k' v' hk' e'

theorem memoRun_sound {K E V : Type} [BEq K] [LawfulBEq K] (f : K → E → V)
    (hf : ∀ k e e', f k e = f k e') (cache : List (K × V)) (h : MemoSound f cache) (qs : List (K × E)) :
    MemoSound f (memoRun f cache qs) := by
  induction qs generalizing cache with
  | nil => exact h
  | cons q qs ih => exact ih _ (memoGet_sound f hf cache h q.1 q.2).2

/-- `OState`, `OAgree`, `oSet`, `oApply` are the rule stashes' `Stash`, `AgreeOn`, `Stash.set`, `applyWrites` under other
names.  The first three unfold to the same terms, so the lemmas below speak of `AgreeOn`, use `AgreeOn.set` and
`AgreeOn.set_cons` on `oSet`, and apply where `ObjRespects.reads` asks for `OAgree`; `oApply` is a recursion of its own
and needs this induction. -/
theorem oApply_eq_applyWrites (ws : List (OField × Int)) (s : OState) : oApply ws s = applyWrites ws s := by
  induction ws generalizing s with
  | nil => rfl
  | cons p ws ih => obtain ⟨f, v⟩ := p; exact ih _

theorem oApply_keeps (fs : List OField) (ws : List (OField × Int)) (s : OState)
    (h : ∀ p, p ∈ ws → p.1 ∉ fs) : AgreeOn fs s (oApply ws s) :=
  oApply_eq_applyWrites ws s ▸ applyWrites_keeps fs ws s h

theorem EntryRow.ok_reads {e : EntryRow} (h : e.ok = true) :
    ∀ f, f ∈ e.earlyReads ++ e.helperReads ++ e.consts → f ∈ e.consts := by
  unfold EntryRow.ok at h
  simp only [Bool.and_eq_true, List.all_eq_true, List.contains_iff_mem] at h
  intro f hf
  rcases List.mem_append.1 hf with hf | hf
  · exact (List.mem_append.1 hf).elim (h.1.2 f) (h.2 f)
  · exact hf

theorem objRun_consts {I O : Type} {e : EntryRow} {b : ObjBeh I O} (hr : ObjRespects e b)
    (s : OState) (H : List I) : AgreeOn e.consts s (objRun b s H) := by
  induction H generalizing s with
  | nil => exact AgreeOn.refl _ s
  | cons i is ih => exact AgreeOn.trans (oApply_keeps e.consts _ s (hr.consts_kept s i)) (ih _)

theorem Prog.run_indep {O : Type} (consts : List OField) (p : Prog O) :
    ∀ (wr : List OField), p.Disc consts wr → ∀ s s', AgreeOn consts s s' → AgreeOn wr s s' →
      (p.run s).2 = (p.run s').2 := by
  induction p with
  | ret o => intro _ _ _ _ _ _; rfl
  | raise e => intro _ _ _ _ _ _; rfl
  | read f k ih =>
    intro wr hd s s' hc hw
    have hf : s f = s' f := by
      rcases hd.1 with h | h
      · exact hc f h
      · exact hw f h
    simp only [Prog.run]
    rw [← hf]
    exact ih (s f) wr (hd.2 (s f)) s s' hc hw
  | write f v k ih =>
    intro wr hd s s' hc hw
    exact ih (f :: wr) hd.2 _ _ (hc.set f v) (hw.set_cons f v)

theorem Prog.cut_disc {O : Type} (consts : List OField) (e : Int) (n : Nat) :
    ∀ (p : Prog O) (wr : List OField), p.Disc consts wr → (p.cut e n).Disc consts wr := by
  induction n with
  | zero => intro p wr _; cases p <;> exact True.intro
  | succ n ih =>
    intro p wr hd
    cases p with
    | ret o => exact True.intro
    | raise x => exact True.intro
    | read f k => exact ⟨hd.1, fun v => ih (k v) wr (hd.2 v)⟩
    | write f v k => exact ⟨hd.1, ih k (f :: wr) hd.2⟩

theorem Prog.trace_ok {O : Type} (consts : List OField) (p : Prog O) :
    ∀ (wr : List OField), p.Disc consts wr → ∀ s, traceOk consts wr (p.trace s) = true := by
  induction p with
  | ret o => intro _ _ _; rfl
  | raise e => intro _ _ _; rfl
  | read f k ih =>
    intro wr hd s
    simp only [Prog.trace, traceOk, Bool.and_eq_true, Bool.or_eq_true, List.contains_iff_mem]
    exact ⟨hd.1, ih (s f) wr (hd.2 (s f)) s⟩
  | write f v k ih =>
    intro wr hd s
    simp only [Prog.trace, traceOk, Bool.and_eq_true, Bool.not_eq_true', List.contains_eq_mem,
      decide_eq_false_iff_not]
    exact ⟨hd.1, ih (f :: wr) hd.2 _⟩

theorem Prog.writes_not_const {O : Type} (consts : List OField) (p : Prog O) :
    ∀ (wr : List OField), p.Disc consts wr → ∀ s q, q ∈ p.writes s → q.1 ∉ consts := by
  induction p with
  | ret o => intro _ _ _ q hq; simp [Prog.writes] at hq
  | raise e => intro _ _ _ q hq; simp [Prog.writes] at hq
  | read f k ih => intro wr hd s q hq; exact ih (s f) wr (hd.2 (s f)) s q hq
  | write f v k ih =>
    intro wr hd s q hq
    simp only [Prog.writes, List.mem_cons] at hq
    rcases hq with e | hq
    · subst e; exact hd.1
    · exact ih (f :: wr) hd.2 _ q hq

theorem Prog.oApply_writes {O : Type} (p : Prog O) : ∀ s, oApply (p.writes s) s = (p.run s).1 := by
  induction p with
  | ret o => intro s; rfl
  | raise e => intro s; rfl
  | read f k ih => intro s; exact ih (s f) s
  | write f v k ih => intro s; exact ih (oSet s f v)

theorem Prog.run_consts {O : Type} (consts : List OField) (p : Prog O) (wr : List OField)
    (hd : p.Disc consts wr) (s : OState) : AgreeOn consts s (p.run s).1 :=
  Prog.oApply_writes p s ▸ oApply_keeps consts _ s (Prog.writes_not_const consts p wr hd s)

theorem faultRun_consts {I O : Type} (consts : List OField) (body : I → Prog O)
    (hd : ∀ i, (body i).Disc consts []) (s : OState) (H : List (I × Option Nat)) :
    AgreeOn consts s (faultRun body s H) := by
  induction H generalizing s with
  | nil => exact AgreeOn.refl _ s
  | cons c H ih =>
    obtain ⟨i, _ | n⟩ := c
    · exact AgreeOn.trans (Prog.run_consts consts _ [] (hd i) s) (ih _)
    · exact AgreeOn.trans (Prog.run_consts consts _ [] (Prog.cut_disc consts (-1) n _ [] (hd i)) s) (ih _)

end OV.C14
