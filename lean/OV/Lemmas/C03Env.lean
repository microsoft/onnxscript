import OV.Model.C03Frag
import OV.Lemmas.C03Sem
/-!
Environments through nodes, node lists and graphs: what evaluation reads and writes (`*_get_other`, `lookupAll_congr`), node
lists by parts, initializers added to a graph (`startEnv_added`, `evalNode_bindInits`, `evalGraph_result`); then the
carriers the statements about evaluators are written with: the operator laws `OpLaws`, the annotation invariant `InfoSound`,
and `Forall2`.  (The frame property of `evalGraph` is `C03Sem`.)
-/
namespace OV.C03

variable {V : Type}

theorem evalNodes_append (f : Env V → Node → Option (Env V)) : ∀ (a b : List Node) (ρ : Env V),
    evalNodes f ρ (a ++ b) = (evalNodes f ρ a).bind fun ρ' => evalNodes f ρ' b
  | [], _, _ => rfl
  | n :: a, b, ρ => by
    simp only [List.cons_append, evalNodes]
    cases f ρ n with
    | none => rfl
    | some ρ' => exact evalNodes_append f a b ρ'

theorem bindOuts_get_other {x : Name} : ∀ {xs : List Name} {vs : List V} {ρ ρ' : Env V},
    bindOuts ρ xs vs = some ρ' → xs.contains x = false → ρ' x = ρ x
  | [], [], _, _, h, _ => by simp only [bindOuts, Option.some.injEq] at h; rw [h]
  | [], _ :: _, _, _, h, _ => by simp only [bindOuts, Option.some.injEq] at h; rw [h]
  | _ :: _, [], _, _, h, _ => by simp [bindOuts] at h
  | y :: ys, w :: ws, ρ, ρ', h, hx => by
    simp only [List.contains_cons, Bool.or_eq_false_iff] at hx
    have hne : x ≠ y := by
      intro e; subst e; simp at hx
    simp only [bindOuts] at h
    rw [bindOuts_get_other h hx.2, Env.set_get_ne ρ w hne]

theorem evalNode_get_other (sem : Sem V) {sub} {ρ ρ' : Env V} {n : Node} {x : Name}
    (h : evalNode sem sub ρ n = some ρ') (hx : n.outputs.contains x = false) : ρ' x = ρ x := by
  unfold evalNode at h
  cases h1 : lookupAll ρ n.inputs with
  | none => simp [h1] at h
  | some args =>
    simp only [h1, Option.bind] at h
    cases h2 : nodeOutputs sem sub ρ n args with
    | none => simp [h2] at h
    | some vs =>
      simp only [h2] at h
      exact bindOuts_get_other h hx

theorem evalNodes_get_other (sem : Sem V) {sub} {x : Name} : ∀ {ns : List Node} {ρ ρ' : Env V},
    evalNodes (evalNode sem sub) ρ ns = some ρ' → (∀ n ∈ ns, n.outputs.contains x = false) → ρ' x = ρ x
  | [], _, _, h, _ => by simp only [evalNodes, Option.some.injEq] at h; rw [h]
  | n :: ns, ρ, ρ', h, hx => by
    simp only [evalNodes] at h
    cases h1 : evalNode sem sub ρ n with
    | none => simp [h1] at h
    | some ρ1 =>
      simp only [h1, Option.bind] at h
      rw [evalNodes_get_other sem h (fun m hm => hx m (List.mem_cons_of_mem _ hm)),
          evalNode_get_other sem h1 (hx n List.mem_cons_self)]

theorem lookupAll_congr {ρ ρ' : Env V} {xs : List (Option Name)} (h : ∀ x, some x ∈ xs → ρ' x = ρ x) :
    lookupAll ρ' xs = lookupAll ρ xs :=
  lookupAll_congr_in fun x hx => by
    cases x with
    | none => rfl
    | some y => rw [lookupIn, lookupIn, h y hx]

theorem lookupOuts_pointwise {ρ : Env V} {xs ys : List Name} (hl : xs.length = ys.length)
    (h : ∀ i (h1 : i < xs.length) (h2 : i < ys.length), ρ (xs[i]) = ρ (ys[i])) : lookupOuts ρ xs = lookupOuts ρ ys := by
  -- `mapM f l` is a function of `l.map f`
  have key : ∀ l : List Name, l.mapM (fun x => ρ x) = (l.map fun x => ρ x).mapM id := fun l =>
    (List.mapM_map (f := fun x => ρ x) (g := id) (l := l)).symm
  rw [lookupOuts_eq_mapM, lookupOuts_eq_mapM, key, key]
  refine congrArg _ (List.ext_getElem (by simpa using hl) fun i h1 h2 => ?_)
  simpa using h i (by simpa using h1) (by simpa using h2)

/-- Substitute `y` for `x` in an input list (the first loop of `process_node`). -/
def substIn (x y : Name) (l : List (Option Name)) : List (Option Name) :=
  l.map fun z => if z = some x then some y else z

theorem lookupAll_map {ρ : Env V} {g : Option Name → Option Name} {l : List (Option Name)}
    (h : ∀ z ∈ l, lookupIn ρ (g z) = lookupIn ρ z) : lookupAll ρ (l.map g) = lookupAll ρ l := by
  rw [lookupAll_eq_mapM, lookupAll_eq_mapM, List.mapM_map]
  exact List.mapM_congr_some h

theorem lookupAll_substIn {ρ : Env V} {x y : Name} (h : ρ x = ρ y) (l : List (Option Name)) :
    lookupAll ρ (substIn x y l) = lookupAll ρ l :=
  lookupAll_map fun z _ => by
    by_cases hz : z = some x
    · rw [if_pos hz, hz, lookupIn, lookupIn, h]
    · rw [if_neg hz]

theorem bindInits_append (sem : Sem V) : ∀ (a b : List (Name × String)) (ρ : Env V),
    bindInits sem ρ (a ++ b) = bindInits sem (bindInits sem ρ a) b
  | [], _, _ => rfl
  | (x, t) :: a, b, ρ => by simp only [List.cons_append, bindInits]; exact bindInits_append sem a b _

theorem lookupAll_length {ρ : Env V} (xs : List (Option Name)) (args : List (Option V))
    (h : lookupAll ρ xs = some args) : args.length = xs.length := by
  rw [lookupAll_eq_mapM] at h
  simpa using (congrArg List.length (List.mapM_eq_some_iff_map.mp h)).symm

theorem evalNode_bindInits (sem : Sem V) {sub} {n : Node} (hs : n.subs = []) :
    ∀ (added : List (Name × String)) (ρ : Env V),
      (∀ p ∈ added, mentionsTop n p.1 = false) →
      evalNode sem sub (bindInits sem ρ added) n = (evalNode sem sub ρ n).map (bindInits sem · added)
  | [], ρ, _ => by
    simp only [bindInits]
    cases h : evalNode sem sub ρ n <;> rfl
  | (x, t) :: r, ρ, h => by
    have hx := h (x, t) List.mem_cons_self
    simp only [mentionsTop, Bool.or_eq_false_iff] at hx
    have hsf : SubFrame sub x n := by
      intro ρ' v s hsm
      rw [hs] at hsm
      simp at hsm
    simp only [bindInits]
    rw [evalNode_bindInits sem hs r _ (fun p hp => h p (List.mem_cons_of_mem _ hp)), evalNode_set sem hx.1 hx.2 hsf]
    cases h2 : evalNode sem sub ρ n <;> rfl

theorem evalNodes_cons_some {f : Env V → Node → Option (Env V)} {ρ ρf : Env V} {n : Node} {rest : List Node}
    (h : evalNodes f ρ (n :: rest) = some ρf) : ∃ ρ1, f ρ n = some ρ1 ∧ evalNodes f ρ1 rest = some ρf := by
  simp only [evalNodes] at h
  cases h1 : f ρ n with
  | none => simp [h1] at h
  | some ρ1 => exact ⟨ρ1, rfl, by simpa [h1] using h⟩

theorem bindInputs_congr_hd (hd hd' : Name → Bool) : ∀ (xs : List Name) (as : List (Option V)) (ρ : Env V),
    (∀ x ∈ xs, hd' x = hd x) → bindInputs hd' ρ xs as = bindInputs hd ρ xs as
  | [], [], _, _ => rfl
  | [], _ :: _, _, _ => rfl
  | _ :: _, [], _, _ => rfl
  | x :: xs, some w :: as, ρ, h => by
    simp only [bindInputs]
    exact bindInputs_congr_hd hd hd' xs as _ (fun y hy => h y (List.mem_cons_of_mem _ hy))
  | x :: xs, none :: as, ρ, h => by
    simp only [bindInputs, h x List.mem_cons_self]
    split
    · exact bindInputs_congr_hd hd hd' xs as _ (fun y hy => h y (List.mem_cons_of_mem _ hy))
    · rfl

theorem bindInputs_bindInits (sem : Sem V) (hd : Name → Bool) (xs : List Name) (as : List (Option V)) :
    ∀ (added : List (Name × String)) (ρ : Env V), (∀ p ∈ added, xs.contains p.1 = false) →
      bindInputs hd (bindInits sem ρ added) xs as = (bindInputs hd ρ xs as).map (bindInits sem · added)
  | [], ρ, _ => by simp only [bindInits]; cases bindInputs hd ρ xs as <;> rfl
  | (x, t) :: r, ρ, h => by
    simp only [bindInits]
    rw [bindInputs_bindInits sem hd xs as r _ (fun p hp => h p (List.mem_cons_of_mem _ hp)),
      bindInputs_set hd (h (x, t) List.mem_cons_self)]
    cases bindInputs hd ρ xs as <;> rfl

theorem find_append_notin {inits added : List (Name × String)} {x : Name}
    (hx : ∀ p ∈ added, p.1 ≠ x) :
    ((inits ++ added).find? (fun p => p.1 == x)).map (·.2) = (inits.find? (fun p => p.1 == x)).map (·.2) := by
  induction inits with
  | nil =>
    simp only [List.nil_append, List.find?]
    have : added.find? (fun p => p.1 == x) = none := by
      apply List.find?_eq_none.mpr
      intro p hp
      simpa using hx p hp
    rw [this]
  | cons p r ih =>
    simp only [List.cons_append, List.find?]
    cases p.1 == x
    · exact ih
    · rfl

theorem startEnv_added (sem : Sem V) (outer : Env V) (ins : List Name) (inits added : List (Name × String))
    (nodes nodes' : List Node) (outs outs' : List Name) (args : List (Option V))
    (hadd_in : ∀ p ∈ added, ins.contains p.1 = false) :
    startEnv sem outer (Graph.mk ins (inits ++ added) nodes' outs') args =
      (startEnv sem outer (Graph.mk ins inits nodes outs) args).map (bindInits sem · added) := by
  simp only [startEnv, Graph.inits, Graph.inputs, Graph.initTok]
  rw [bindInits_append]
  rw [bindInputs_congr_hd (fun x => ((inits.find? (fun p => p.1 == x)).map (·.2)).isSome) _ ins args _
    (fun x hx => by
      have : ∀ p ∈ added, p.1 ≠ x := by
        intro p hp e
        have := hadd_in p hp
        rw [e] at this
        simp [hx] at this
      simp only [find_append_notin this])]
  exact bindInputs_bindInits sem _ ins args added _ hadd_in

theorem evalGraph_some {sem : Sem V} {d : Nat} {outer : Env V} {g : Graph} {args : List (Option V)} {vs : List V}
    (he : evalGraph sem (d + 1) outer g args = some vs) :
    ∃ ρ0 ρf, startEnv sem outer g args = some ρ0 ∧ evalNodes (evalNode sem (evalGraph sem d)) ρ0 g.nodes = some ρf ∧
      lookupOuts ρf g.outputs = some vs := by
  simp only [evalGraph] at he
  cases hs : startEnv sem outer g args with
  | none => simp [hs] at he
  | some ρ0 =>
    simp only [hs, Option.bind] at he
    cases hn : evalNodes (evalNode sem (evalGraph sem d)) ρ0 g.nodes with
    | none => simp [hn] at he
    | some ρf => exact ⟨ρ0, ρf, rfl, hn, by simpa only [hn] using he⟩

/-- The meaning of a result graph of the node loop: same formal inputs, initializers `added` at the end, node list `new`. -/
theorem evalGraph_result (sem : Sem V) (d : Nat) (outer : Env V) (g : Graph) (args : List (Option V)) (ρ0 ρf : Env V)
    (added : List (Name × String)) (new : List Node) (outs : List Name)
    (hs : startEnv sem outer g args = some ρ0) (hadd : ∀ p ∈ added, g.inputs.contains p.1 = false)
    (hn : evalNodes (evalNode sem (evalGraph sem d)) (bindInits sem ρ0 added) new = some ρf) :
    evalGraph sem (d + 1) outer (Graph.mk g.inputs (g.inits ++ added) new outs) args = lookupOuts ρf outs := by
  have hgeq : g = Graph.mk g.inputs g.inits g.nodes g.outputs := by cases g; rfl
  rw [hgeq] at hs
  have hstart := startEnv_added sem outer g.inputs g.inits added g.nodes new g.outputs outs args hadd
  rw [hs] at hstart
  simp only [evalGraph, hstart, Option.map, Option.bind, Graph.nodes, hn, Graph.outputs]

def Dim.denote (σ : String → Int) : Dim → Option Int
  | .known n => some n
  | .sym s => some (σ s)
  | .unk => none

/-- The facts of the ONNX operator specification the partial evaluators rely on.  `hasDtype`/`hasShape`/`isInts`
are what a type annotation, a shape annotation and "is this 1-D int64 tensor" *mean* for runtime
values; they are parameters, like the operators themselves. -/
structure OpLaws (sem : Sem V) where
  hasDtype : V → Nat → Prop
  hasShape : V → List Int → Prop
  isInts : V → List Int → Prop
  identity : ∀ attrs v, sem.op "Identity" "" attrs [some v] = some [v]
  cast_same : ∀ attrs v (dt : Nat), hasDtype v dt → (attrs.find? (·.1 == "to")).map (·.2) = some (Attr.int dt) →
    sem.op "Cast" "" attrs [some v] = some [v]
  castlike_is_cast : ∀ v w (dt : Nat), hasDtype w dt →
    sem.op "CastLike" "" [] [some v, some w] = sem.op "Cast" "" [("to", Attr.int dt)] [some v]
  reshape_same : ∀ attrs v t dims, hasShape v dims → isInts t dims → sem.op "Reshape" "" attrs [some v, some t] = some [v]
  expand_same : ∀ attrs v t dims, hasShape v dims → isInts t dims → sem.op "Expand" "" attrs [some v, some t] = some [v]
  concat_single : ∀ attrs v, sem.op "Concat" "" attrs [some v] = some [v]
  /-- inference-mode Dropout returns its input first, whatever the ratio -/
  dropout_inference : ∀ attrs v rest vs, (rest = [] ∨ (∃ r, rest = [r]) ∨ (∃ r, rest = [r, none])) →
    sem.op "Dropout" "" attrs (some v :: rest) = some vs → vs.head? = some v
  tensor_ints : ∀ (c : CInfo) l, c.dtype = DT_INT64 → c.shape.length = 1 → c.ints = some l → isInts (sem.tensor c.tok) l

/-- The state's annotations are truthful for the environment (A-shape) under the valuation `σ`. -/
structure InfoSound {sem : Sem V} (L : OpLaws sem) (σ : String → Int) (st : St) (ρ : Env V) : Prop where
  dtype : ∀ x v dt, ρ x = some v → (st.getInfo x).dtype = some dt → L.hasDtype v dt
  shape : ∀ x v s dims, ρ x = some v → (st.getInfo x).shape = some s → s.mapM (Dim.denote σ) = some dims → L.hasShape v dims
  const : ∀ x c, st.constOf x = some c → ρ x = some (sem.tensor c.tok)
  symShape : ∀ x v s dims, ρ x = some v → st.getSym (some x) = some (.shape s) → s.mapM (Dim.denote σ) = some dims → L.isInts v dims

/-- (core has no `List.Forall₂`) -/
inductive Forall2 {α β : Type} (R : α → β → Prop) : List α → List β → Prop
  | nil : Forall2 R [] []
  | cons {a b l1 l2} : R a b → Forall2 R l1 l2 → Forall2 R (a :: l1) (b :: l2)

theorem Forall2.length_eq {α β : Type} {R : α → β → Prop} {xs : List α} {ys : List β} (h : Forall2 R xs ys) :
    ys.length = xs.length := by
  induction h with
  | nil => rfl
  | cons _ _ ih => rw [List.length_cons, List.length_cons, ih]

theorem Forall2.mem_right {α β : Type} {R : α → β → Prop} {xs : List α} {ys : List β} (h : Forall2 R xs ys) {y : β}
    (hy : y ∈ ys) : ∃ x ∈ xs, R x y := by
  induction h with
  | nil => cases hy
  | cons hr _ ih =>
    rcases List.mem_cons.mp hy with rfl | hy'
    · exact ⟨_, List.mem_cons_self, hr⟩
    · obtain ⟨x, hx, hxy⟩ := ih hy'
      exact ⟨x, List.mem_cons_of_mem _ hx, hxy⟩

theorem Forall2.lookupOuts {R : Name → Name → Prop} {ρ : Env V} (hR : ∀ x y, R x y → ρ y = ρ x) {xs ys : List Name}
    (h : Forall2 R xs ys) : lookupOuts ρ ys = lookupOuts ρ xs := by
  induction h with
  | nil => rfl
  | cons hr _ ih => simp only [OV.C03.lookupOuts, hR _ _ hr, ih]

end OV.C03
