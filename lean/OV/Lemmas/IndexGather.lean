import OV.Model.Index
import OV.Lemmas.Index
import OV.Lemmas.IndexPlan
/-! C11, plan level, second part: the trailing Gather chain of an index plan acts axis by axis.

The converter's chain runs from the highest source axis to the lowest; a Gather for source axis `j` is
emitted with the axis attribute "number of axes below `j` that are still there".  `gather_chain_iff` shows
that such a chain, run on the view left by the Slice(+Squeeze) prefix, changes exactly the positions
it names, each into NumPy's per-axis result — and fails exactly when NumPy fails on one of them;
`gather_chain_asc_iff` is the same for Gathers that keep their axis, run in ascending order (eager mode). -/
namespace OV.Index

theorem modifyPick_at (f : List Nat → Except Err AxisMap) (srcs : List Nat) (post : View) :
    ∀ (pre : View),
      modifyPick (pre.filter AxisMap.isPick).length f (pre ++ AxisMap.pick srcs :: post)
        = (match f srcs with
           | .ok a => .ok (pre ++ a :: post)
           | .error e => .error e) := by
  intro pre
  induction pre with
  | nil =>
    simp only [List.filter_nil, List.length_nil, List.nil_append, modifyPick, bind, Except.bind, pure,
      Except.pure]
    cases f srcs <;> rfl
  | cons x pre ih =>
    cases x with
    | drop s =>
      simp only [List.filter_cons, AxisMap.isPick, Bool.false_eq_true, if_false, List.cons_append,
        modifyPick, ih, bind, Except.bind, pure, Except.pure]
      cases f srcs <;> rfl
    | pick s' =>
      simp only [List.filter_cons, AxisMap.isPick, if_true, List.length_cons, List.cons_append,
        modifyPick, ih, bind, Except.bind, pure, Except.pure]
      cases f srcs <;> rfl

theorem gatherOp_run (a : Nat) (c : Comp) (op : PlanOp) (h : gatherOp a c = some op) (v : View) :
    runOp op v = modifyPick a (numpyAxis c) v := by
  cases c with
  | full => cases h
  | slice lo hi st => cases h
  | int i => cases h; rfl
  | tScalar i => cases h; rfl
  | tVec is => cases h; rfl

/-- Per-axis result after the Gather chain: the components selected by `G` get NumPy's result, the
others keep what the prefix of the plan (`preF`) made of them. -/
def withGather (G : Comp → Bool) (preF : Comp → List Nat → Except Err AxisMap)
    (c : Comp) (srcs : List Nat) : Except Err AxisMap :=
  if G c then numpyAxis c srcs else preF c srcs

theorem withGather_pos {G : Comp → Bool} (preF : Comp → List Nat → Except Err AxisMap) {c : Comp}
    (h : G c = true) (srcs : List Nat) : withGather G preF c srcs = numpyAxis c srcs := if_pos h

theorem withGather_neg {G : Comp → Bool} (preF : Comp → List Nat → Except Err AxisMap) {c : Comp}
    (h : ¬ G c = true) (srcs : List Nat) : withGather G preF c srcs = preF c srcs := if_neg h

theorem axiswise_pre_of_withGather (G : Comp → Bool) (preF : Comp → List Nat → Except Err AxisMap)
    (hG : ∀ c srcs, G c = true → preF c srcs = .ok (.pick srcs))
    (cs : List Comp) (ds : List Nat) (r : View) (h : axiswise (withGather G preF) cs ds = .ok r) :
    ∃ mid, axiswise preF cs ds = .ok mid := by
  obtain ⟨hlen, hpw⟩ := axiswise_ok_pointwise _ cs ds r h
  refine axiswise_ok_of_pointwise preF cs ds hlen (fun j c d hc hd => ?_)
  obtain ⟨d', a, hd', ha⟩ := hpw j c hc
  rw [hd] at hd'; cases hd'
  by_cases hg : G c = true
  · exact ⟨_, hG c _ hg⟩
  · exact ⟨a, by rwa [withGather_neg preF hg] at ha⟩

/-- The axis attributes of a chain, read for its tail once the head component's axis is settled as `b`. -/
theorem chain_axes_tail {G D : Comp → Bool} {axisOf : Nat → Nat} {c : Comp} {cs : List Comp} {n : Nat}
    {pre : View} {b : AxisMap} (hb : b.isPick = !D c)
    (hA : ∀ i c', (c :: cs)[i]? = some c' → G c' = true →
        axisOf (n + i) = (pre.filter AxisMap.isPick).length
                          + (((c :: cs).take i).filter (fun c => !D c)).length) :
    ∀ i c', cs[i]? = some c' → G c' = true →
      axisOf (n + 1 + i) = ((pre ++ [b]).filter AxisMap.isPick).length
                            + ((cs.take i).filter (fun c => !D c)).length := by
  intro i c' hi hg
  rw [show n + 1 + i = n + (i + 1) by omega, hA (i + 1) c' hi hg]
  simp only [List.take_succ_cons, List.filter_cons, List.filter_append, List.length_append,
    List.filter_nil, hb]
  cases D c <;> simp <;> omega

theorem chain_head_unselected {G : Comp → Bool} {preF : Comp → List Nat → Except Err AxisMap}
    {c : Comp} {cs : List Comp} {d : Nat} {ds : List Nat} {pre mid0 r : View} {a : AxisMap} {P : Plan}
    (hg : ¬ G c = true) (ha : preF c (List.range d) = .ok a)
    (hrec : runPlan P (pre ++ a :: mid0) = .ok r ↔
      ∃ m, r = pre ++ a :: m ∧ axiswise (withGather G preF) cs ds = .ok m) :
    runPlan P (pre ++ a :: mid0) = .ok r ↔
      ∃ mid', r = pre ++ mid' ∧ axiswise (withGather G preF) (c :: cs) (d :: ds) = .ok mid' := by
  rw [hrec]
  simp only [axiswise_cons_ok, withGather_neg preF hg, ha, Except.ok.injEq]
  exact ⟨fun ⟨m, hr, hm⟩ => ⟨_, hr, a, m, rfl, hm, rfl⟩,
    fun ⟨_, hr, _, m, ha', hm, hmid⟩ => ⟨m, by rw [hr, hmid, ha'], hm⟩⟩

/-- `preF` describes the view `mid` the chain starts from (one `AxisMap` per component, trailing axes
untouched), `pre` is an arbitrary prefix of already-settled axes, `G` selects the components that are
gathered, `D c` says that the prefix of the plan removed the axis of `c`.  The Gather for the component at
position `n + i` carries the axis attribute "kept axes of `pre`, plus components before `i` whose axis was
not removed", and the chain runs from the last selected component to the first, so that a rank-0 Gather
never renumbers an axis that is still to be indexed. -/
theorem gather_chain_iff (G D : Comp → Bool)
    (preF : Comp → List Nat → Except Err AxisMap) (axisOf : Nat → Nat)
    (hG : ∀ c srcs, G c = true → preF c srcs = .ok (.pick srcs))
    (hGop : ∀ c a, G c = true → (gatherOp a c).isSome = true)
    (hD : ∀ c srcs a, preF c srcs = .ok a → a.isPick = !D c) :
    ∀ (cs : List Comp) (ds : List Nat) (n : Nat) (pre mid r : View),
      (∀ i c, cs[i]? = some c → G c = true →
          axisOf (n + i) = (pre.filter AxisMap.isPick).length
                            + ((cs.take i).filter (fun c => !D c)).length) →
      axiswise preF cs ds = .ok mid →
      (runPlan ((((cs.zipIdx n).filter (fun p => G p.1)).reverse).filterMap
          (fun p => gatherOp (axisOf p.2) p.1)) (pre ++ mid) = .ok r ↔
        ∃ mid', r = pre ++ mid' ∧ axiswise (withGather G preF) cs ds = .ok mid') := by
  intro cs
  induction cs with
  | nil =>
    intro ds n pre mid r _ hax
    cases hax
    exact ⟨fun h => ⟨_, by cases h; rfl, rfl⟩, fun ⟨_, hr, hm⟩ => by cases hm; rw [hr]; rfl⟩
  | cons c cs ih =>
    intro ds n pre mid r hA hax
    cases ds with
    | nil => cases hax
    | cons d ds =>
      obtain ⟨a, mid0, ha, hmid0, rfl⟩ := (axiswise_cons_ok preF c cs d ds mid).mp hax
      have hpick : a.isPick = !D c := hD c _ a ha
      have hrec := fun r1 => ih ds (n + 1) (pre ++ [a]) mid0 r1 (chain_axes_tail hpick hA) hmid0
      simp only [List.append_assoc, List.singleton_append] at hrec
      simp only [List.zipIdx_cons, List.filter_cons]
      by_cases hg : G c = true
      · -- the Gather for `c` runs last, on the view the rest of the chain leaves
        obtain ⟨op, hop⟩ := Option.isSome_iff_exists.mp (hGop c (axisOf n) hg)
        have ha' : a = .pick (List.range d) := by
          rw [hG c _ hg] at ha; cases ha; rfl
        subst ha'
        have hax0 : axisOf n = (pre.filter AxisMap.isPick).length := by simpa using hA 0 c rfl hg
        simp only [hg, if_true, List.reverse_cons, List.filterMap_append, List.filterMap_cons, hop,
          List.filterMap_nil, runPlan_append_ok, runPlan_singleton, gatherOp_run _ _ _ hop,
          axiswise_cons_ok, withGather_pos preF hg]
        constructor
        · rintro ⟨v', h1, h2⟩
          obtain ⟨mid0', rfl, hfull⟩ := (hrec v').mp h1
          rw [hax0, modifyPick_at] at h2
          cases hn : numpyAxis c (List.range d) with
          | error e => rw [hn] at h2; cases h2
          | ok a' => rw [hn] at h2; cases h2; exact ⟨_, rfl, a', mid0', rfl, hfull, rfl⟩
        · rintro ⟨_, rfl, a', mid0', hn, hfull, rfl⟩
          exact ⟨_, (hrec _).mpr ⟨mid0', rfl, hfull⟩, by rw [hax0, modifyPick_at, hn]⟩
      · simp only [hg, Bool.false_eq_true, if_false]
        exact chain_head_unselected hg ha (hrec r)

/-- The chain run from the first selected component to the last (eager mode's 1-D Gathers): when every
gathered component keeps its axis (`hGpick`: 1-D indices), the order does not matter. -/
theorem gather_chain_asc_iff (G D : Comp → Bool)
    (preF : Comp → List Nat → Except Err AxisMap) (axisOf : Nat → Nat)
    (hG : ∀ c srcs, G c = true → preF c srcs = .ok (.pick srcs))
    (hGop : ∀ c a, G c = true → (gatherOp a c).isSome = true)
    (hGpick : ∀ c srcs a, G c = true → numpyAxis c srcs = .ok a → a.isPick = true)
    (hD : ∀ c srcs a, preF c srcs = .ok a → a.isPick = !D c) :
    ∀ (cs : List Comp) (ds : List Nat) (n : Nat) (pre mid r : View),
      (∀ i c, cs[i]? = some c → G c = true →
          axisOf (n + i) = (pre.filter AxisMap.isPick).length
                            + ((cs.take i).filter (fun c => !D c)).length) →
      axiswise preF cs ds = .ok mid →
      (runPlan (((cs.zipIdx n).filter (fun p => G p.1)).filterMap
          (fun p => gatherOp (axisOf p.2) p.1)) (pre ++ mid) = .ok r ↔
        ∃ mid', r = pre ++ mid' ∧ axiswise (withGather G preF) cs ds = .ok mid') := by
  intro cs
  induction cs with
  | nil =>
    intro ds n pre mid r _ hax
    cases hax
    exact ⟨fun h => ⟨_, by cases h; rfl, rfl⟩, fun ⟨_, hr, hm⟩ => by cases hm; rw [hr]; rfl⟩
  | cons c cs ih =>
    intro ds n pre mid r hA hax
    cases ds with
    | nil => cases hax
    | cons d ds =>
      obtain ⟨a, mid0, ha, hmid0, rfl⟩ := (axiswise_cons_ok preF c cs d ds mid).mp hax
      have hpick : a.isPick = !D c := hD c _ a ha
      -- the rest of the chain, after any settled axis `b` of the same kind as `a`
      have hrec := fun (b : AxisMap) (hb : b.isPick = a.isPick) r1 =>
        ih ds (n + 1) (pre ++ [b]) mid0 r1 (chain_axes_tail (hb.trans hpick) hA) hmid0
      simp only [List.append_assoc, List.singleton_append] at hrec
      simp only [List.zipIdx_cons, List.filter_cons]
      by_cases hg : G c = true
      · -- the Gather for `c` runs first and leaves a kept axis, as the prefix did
        obtain ⟨op, hop⟩ := Option.isSome_iff_exists.mp (hGop c (axisOf n) hg)
        have ha' : a = .pick (List.range d) := by
          rw [hG c _ hg] at ha; cases ha; rfl
        subst ha'
        have hax0 : axisOf n = (pre.filter AxisMap.isPick).length := by simpa using hA 0 c rfl hg
        simp only [hg, if_true, List.filterMap_cons, hop, runPlan_cons_ok,
          gatherOp_run _ _ _ hop, axiswise_cons_ok, withGather_pos preF hg]
        rw [hax0, modifyPick_at]
        constructor
        · rintro ⟨v', h1, h2⟩
          cases hn : numpyAxis c (List.range d) with
          | error e => rw [hn] at h1; cases h1
          | ok a' =>
            rw [hn] at h1; cases h1
            obtain ⟨mid0', rfl, hfull⟩ := (hrec a' (hGpick c _ a' hg hn) r).mp h2
            exact ⟨_, rfl, a', mid0', rfl, hfull, rfl⟩
        · rintro ⟨_, rfl, a', mid0', hn, hfull, rfl⟩
          exact ⟨_, by rw [hn], (hrec a' (hGpick c _ a' hg hn) _).mpr ⟨mid0', rfl, hfull⟩⟩
      · simp only [hg, Bool.false_eq_true, if_false]
        exact chain_head_unselected hg ha (hrec a rfl r)

theorem gather_chain_axiswise_fwd (G D : Comp → Bool)
    (preF : Comp → List Nat → Except Err AxisMap) (axisOf : Nat → Nat)
    (hG : ∀ c srcs, G c = true → preF c srcs = .ok (.pick srcs))
    (hGop : ∀ c a, G c = true → (gatherOp a c).isSome = true)
    (hGpick : ∀ c srcs a, G c = true → numpyAxis c srcs = .ok a → a.isPick = true)
    (hD : ∀ c srcs a, preF c srcs = .ok a → a.isPick = !D c) :
    ∀ (cs : List Comp) (ds : List Nat) (n : Nat) (pre mid r : View),
      (∀ i c, cs[i]? = some c → G c = true →
          axisOf (n + i) = (pre.filter AxisMap.isPick).length
                            + ((cs.take i).filter (fun c => !D c)).length) →
      axiswise preF cs ds = .ok mid →
      runPlan (((cs.zipIdx n).filter (fun p => G p.1)).filterMap
          (fun p => gatherOp (axisOf p.2) p.1)) (pre ++ mid) = .ok r →
      ∃ mid', r = pre ++ mid' ∧ axiswise (withGather G preF) cs ds = .ok mid' :=
  fun cs ds n pre mid r hA hax =>
    (gather_chain_asc_iff G D preF axisOf hG hGop hGpick hD cs ds n pre mid r hA hax).mp

theorem two_stage_iff (P Q : Plan) (v0 r : View) (G : Comp → Bool)
    (preF : Comp → List Nat → Except Err AxisMap) (cs : List Comp) (ds : List Nat)
    (hG : ∀ c srcs, G c = true → preF c srcs = .ok (.pick srcs))
    (h1 : ∀ v1, runPlan P v0 = .ok v1 ↔ axiswise preF cs ds = .ok v1)
    (h2 : ∀ v1, axiswise preF cs ds = .ok v1 →
      (runPlan Q v1 = .ok r ↔ axiswise (withGather G preF) cs ds = .ok r)) :
    runPlan (P ++ Q) v0 = .ok r ↔ axiswise (withGather G preF) cs ds = .ok r := by
  rw [runPlan_append_ok]
  constructor
  · rintro ⟨v1, hv1, hrun⟩
    exact (h2 v1 ((h1 v1).mp hv1)).mp hrun
  · intro h
    obtain ⟨v1, hv1⟩ := axiswise_pre_of_withGather G preF hG cs ds r h
    exact ⟨v1, (h1 v1).mpr hv1, (h2 v1 hv1).mpr h⟩

/-! ### Counting: the axis attribute is the number of kept axes below -/

theorem filter_length_add {α} (F : α → Bool) (l : List α) :
    (l.filter F).length + (l.filter (fun c => !F c)).length = l.length := by
  induction l with
  | nil => rfl
  | cons a l ih =>
    cases h : F a <;> simp [h] <;> omega

theorem count_below_zipIdx (F : Comp → Bool) (l : List Comp) (n k : Nat) :
    ((((l.zipIdx n).filter (fun p => F p.1)).map (fun p => p.2)).filter
        (fun a => decide (a < k))).length = ((l.take (k - n)).filter F).length := by
  induction l generalizing n with
  | nil => simp
  | cons c l ih =>
    have hrec := ih (n + 1)
    rw [List.zipIdx_cons, List.filter_cons]
    by_cases hk : n < k
    · rw [show k - n = (k - (n + 1)) + 1 by omega, List.take_succ_cons, List.filter_cons (p := F)]
      cases hF : F c
      · simp only [Bool.false_eq_true, if_false]; exact hrec
      · simp only [if_true, List.map_cons, List.filter_cons, decide_eq_true hk, List.length_cons, hrec]
    · rw [show k - (n + 1) = 0 by omega] at hrec
      rw [show k - n = 0 by omega]
      cases hF : F c
      · simp only [Bool.false_eq_true, if_false]; exact hrec
      · simp only [if_true, List.map_cons, List.filter_cons, decide_eq_false hk, Bool.false_eq_true, if_false]
        exact hrec

theorem gatherAxis_zipIdx (F : Comp → Bool) (l : List Comp) (i : Nat) (hi : i ≤ l.length) :
    gatherAxis ((l.zipIdx.filter (fun p => F p.1)).map (fun p => p.2)) i
      = ((l.take i).filter (fun c => !F c)).length := by
  unfold gatherAxis
  rw [count_below_zipIdx F l 0 i, Nat.sub_zero]
  have h2 := filter_length_add F (l.take i)
  rw [List.length_take, Nat.min_eq_left hi] at h2
  omega

theorem gatherAxis_nil (j : Nat) : gatherAxis [] j = j := by
  simp [gatherAxis]

/-- In the shape `gather_chain_iff` asks for (`n = 0`, `pre = []`): the Gathers carry `gatherAxis` of the
positions removed before the chain, those selected by `D`. -/
theorem gatherAxis_chain (D : Comp → Bool) (comps : List Comp) (i : Nat) (c : Comp)
    (hi : comps[i]? = some c) :
    gatherAxis ((comps.zipIdx.filter (fun p => D p.1)).map (fun p => p.2)) (0 + i)
      = (([] : View).filter AxisMap.isPick).length + ((comps.take i).filter (fun c => !D c)).length := by
  have hil : i ≤ comps.length := by
    have := (List.getElem?_eq_some_iff.mp hi).1
    omega
  simp only [Nat.zero_add, List.filter_nil, List.length_nil]
  exact gatherAxis_zipIdx D comps i hil

theorem gatherAxis_chain_nil (comps : List Comp) (i : Nat) (c : Comp) (hi : comps[i]? = some c) :
    gatherAxis [] (0 + i)
      = (([] : View).filter AxisMap.isPick).length
          + ((comps.take i).filter (fun c => !(fun _ => false) c)).length := by
  have := gatherAxis_chain (fun _ => false) comps i c hi
  rwa [List.filter_eq_nil_iff.mpr (fun _ _ => Bool.false_ne_true), List.map_nil] at this

theorem modifyPick_rank_fail (f : List Nat → Except Err AxisMap) :
    ∀ (v : View) (k : Nat), v.rank ≤ k → ∃ e, modifyPick k f v = .error e := by
  intro v
  induction v with
  | nil => intro k _; exact ⟨_, rfl⟩
  | cons a rest ih =>
    intro k hk
    cases a with
    | drop s =>
      have hk' : View.rank rest ≤ k := by
        simpa [View.rank, List.filter_cons, AxisMap.isPick] using hk
      obtain ⟨e, he⟩ := ih k hk'
      exact ⟨e, by simp [modifyPick, he, bind, Except.bind]⟩
    | pick srcs =>
      have hk' : View.rank rest + 1 ≤ k := by
        simpa [View.rank, List.filter_cons, AxisMap.isPick] using hk
      cases k with
      | zero => omega
      | succ k =>
        obtain ⟨e, he⟩ := ih k (by omega)
        exact ⟨e, by simp [modifyPick, he, bind, Except.bind]⟩

theorem modifyPick_rank_le (f : List Nat → Except Err AxisMap) :
    ∀ (v : View) (k : Nat) (v' : View), modifyPick k f v = .ok v' → v'.rank ≤ v.rank := by
  intro v
  induction v with
  | nil => intro k v' h; cases h
  | cons a rest ih =>
    intro k v' h
    cases a with
    | drop s =>
      simp only [modifyPick, bind, Except.bind, pure, Except.pure] at h
      cases hr : modifyPick k f rest with
      | error e => rw [hr] at h; cases h
      | ok r => rw [hr] at h; cases h; have := ih k r hr; simp only [rank_cons]; omega
    | pick srcs =>
      cases k with
      | zero =>
        simp only [modifyPick, bind, Except.bind, pure, Except.pure] at h
        cases hf : f srcs with
        | error e => rw [hf] at h; cases h
        | ok b => rw [hf] at h; cases h; rw [rank_cons, rank_cons]; cases b <;> simp [AxisMap.isPick]
      | succ k =>
        simp only [modifyPick, bind, Except.bind, pure, Except.pure] at h
        cases hr : modifyPick k f rest with
        | error e => rw [hr] at h; cases h
        | ok r => rw [hr] at h; cases h; have := ih k r hr; simp only [rank_cons]; omega

/-- No Gather adds an axis (`modifyPick_rank_le`), so one that names an axis the starting view does not
have fails when it is reached, wherever in the plan it stands. -/
theorem gathers_fail (items : List (Comp × Nat)) (axisOf : Nat → Nat) (v : View)
    (h : ∃ p ∈ items, (gatherOp (axisOf p.2) p.1).isSome = true ∧ v.rank ≤ axisOf p.2) :
    ∃ e, runPlan (items.filterMap (fun p => gatherOp (axisOf p.2) p.1)) v = .error e := by
  induction items generalizing v with
  | nil => obtain ⟨p, hp, _⟩ := h; cases hp
  | cons q items ih =>
    rw [List.filterMap_cons]
    cases hq : gatherOp (axisOf q.2) q.1 with
    | none =>
      obtain ⟨p, hp, hs, hr⟩ := h
      rcases List.mem_cons.mp hp with rfl | hp
      · rw [hq] at hs; cases hs
      · exact ih v ⟨p, hp, hs, hr⟩
    | some op =>
      simp only []
      rw [show op :: List.filterMap (fun p => gatherOp (axisOf p.2) p.1) items
            = [op] ++ List.filterMap (fun p => gatherOp (axisOf p.2) p.1) items from rfl,
        runPlan_append, runPlan_singleton, gatherOp_run _ _ _ hq]
      cases hv : modifyPick (axisOf q.2) (numpyAxis q.1) v with
      | error e => exact ⟨e, rfl⟩
      | ok v' =>
        have hle := modifyPick_rank_le _ v _ v' hv
        obtain ⟨p, hp, hs, hr⟩ := h
        rcases List.mem_cons.mp hp with rfl | hp
        · obtain ⟨e, he⟩ := modifyPick_rank_fail (numpyAxis p.1) v _ hr
          rw [he] at hv; cases hv
        · exact ih v' ⟨p, hp, hs, by omega⟩

end OV.Index
