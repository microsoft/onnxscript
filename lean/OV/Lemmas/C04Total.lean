import OV.Lemmas.C04Closed
/-!
# Totality of the node loop on fragment A

The model's `visitNodes` can stop with an error in three ways: the step fuel runs out, a partial
evaluator raises (`IndexError` …), `replace_node` is given lists of different lengths.
(`register_initializer` refuses nothing: `_make_initializer_name_unique`, commit 6fc3d91, first renames
a name that is taken, `makeRoom`.)  On fragment A none of them happens: the fuel argument is a rank
(`wt`) that strictly decreases whenever a node is replaced by a new one.  The invariant `TotA` carries
more than `err = none` needs: on a graph in single-assignment form no fold meets a registered name, so
no renaming step happens (`disp`, `nodup`); that is what the hypothesis `SSA` is for.
-/
namespace OV.C03

def SameD (st st' : St) : Prop := st'.dname = st.dname ∧ st'.initDisplay = st.initDisplay ∧ st'.err = st.err

theorem inheritInfo_disp (st : St) (o fv : Name) : SameD st (inheritInfo st [(o, fv)]) := ⟨rfl, rfl, rfl⟩

theorem makeRoom_err (st : St) (o : Name) : (makeRoom st o).err = st.err := rfl

theorem clearUnused_initDisplay (ins : List Name) : ∀ (st : St) (x : Name),
    (clearUnused st ins).initDisplay.contains x = true → st.initDisplay.contains x = true := by
  induction ins with
  | nil => exact fun _ _ h => h
  | cons y ys ih =>
    intro st x hx
    simp only [clearUnused, List.foldl_cons] at ih hx
    split at hx
    · have hm : x ∈ st.initDisplay.erase (st.display y) := by simpa [St.note] using ih _ x hx
      simpa using List.mem_of_mem_erase hm
    · exact ih st x hx

theorem afterRepl_disp (st3 : St) (n : Node) (o fv : Name) (ms : List Node) (l : List Name) :
    (afterRepl st3 n o fv ms l).dname = st3.dname ∧ (afterRepl st3 n o fv ms l).err = st3.err ∧
    ∀ x, (afterRepl st3 n o fv ms l).initDisplay.contains x = true → st3.initDisplay.contains x = true := by
  obtain ⟨u, r, idp, h, e⟩ := afterRepl_writes st3 n o fv ms l
  refine ⟨by rw [e]; rfl, by rw [e]; rfl, fun x hx => ?_⟩
  have := clearUnused_initDisplay _ _ x hx
  obtain ⟨u1, e1⟩ := decUses_writes n.inputs (inheritInfo st3 [(o, fv)])
  obtain ⟨u2, e2⟩ := countNewUses_writes ms ((inheritInfo st3 [(o, fv)]).decUses n.inputs)
  rw [e2, e1] at this
  exact this

/-- rank of a node: an `Identity` node is never replaced, a `Cast` only by an `Identity`, anything else by one of the two -/
def wt (n : Node) : Nat := if n.op = "Identity" then 1 else if n.op = "Cast" then 2 else 3

def W : List Node → Nat
  | [] => 0
  | n :: r => wt n + W r

theorem wt_pos (n : Node) : 0 < wt n := by
  unfold wt
  split
  · omega
  · split <;> omega

structure TotA (st : St) (todo : List Node) (f : Nat) : Prop where
  fuel : W todo < f
  err : st.err = none
  disp : ∀ m ∈ todo, ∀ o, o ∈ m.outputs → st.display o = o ∧ st.initDisplay.contains o = false
  nodup : (outsOf todo).Nodup

/-- the head node is done; its outputs may have become registered names -/
theorem TotA.tail {st st' : St} {n0 : Node} {rest : List Node} {f : Nat} (h : TotA st (n0 :: rest) (f + 1))
    (hd : st'.dname = st.dname) (he : st'.err = st.err)
    (hi : ∀ x, st'.initDisplay.contains x = true → st.initDisplay.contains x = true ∨ x ∈ n0.outputs) :
    TotA st' rest f := by
  have hnodup := List.nodup_append.mp (outsOf_cons n0 rest ▸ h.nodup)
  refine ⟨?_, he.trans h.err, ?_, hnodup.2.1⟩
  · have := h.fuel
    have := wt_pos n0
    simp only [W] at *
    omega
  · intro m hm o ho
    obtain ⟨h1, h2⟩ := h.disp m (List.mem_cons_of_mem _ hm) o ho
    refine ⟨by simp only [St.display, hd]; exact h1, ?_⟩
    cases hc : st'.initDisplay.contains o with
    | false => rfl
    | true =>
      rcases hi o hc with h' | h'
      · rw [h'] at h2; exact absurd h2 (by decide)
      · exact absurd rfl (hnodup.2.2 o h' o (List.mem_flatMap.mpr ⟨m, hm, ho⟩))

theorem TotA.replace {st st' : St} {n0 m : Node} {rest : List Node} {f : Nat} (h : TotA st (n0 :: rest) (f + 1))
    (hout : m.outputs = n0.outputs) (hw : wt m < wt n0) (hd : st'.dname = st.dname) (he : st'.err = st.err)
    (hi : ∀ x, st'.initDisplay.contains x = true → st.initDisplay.contains x = true) : TotA st' (m :: rest) f := by
  refine ⟨?_, he.trans h.err, ?_, by rw [outsOf_cons, hout, ← outsOf_cons]; exact h.nodup⟩
  · have := h.fuel
    simp only [W] at *
    omega
  · intro k hk o ho
    have hk0 : ∃ k0 ∈ n0 :: rest, o ∈ k0.outputs := by
      rcases List.mem_cons.mp hk with rfl | hk'
      · exact ⟨n0, List.mem_cons_self, hout ▸ ho⟩
      · exact ⟨k, List.mem_cons_of_mem _ hk', ho⟩
    obtain ⟨k0, hk0, ho0⟩ := hk0
    obtain ⟨h1, h2⟩ := h.disp k0 hk0 o ho0
    refine ⟨by simp only [St.display, hd]; exact h1, ?_⟩
    cases hc : st'.initDisplay.contains o with
    | false => rfl
    | true => rw [hi o hc] at h2; exact absurd h2 (by decide)

theorem visitNodes_total (ctx : Ctx) (hnf : ctx.isFunction = false) (vg : St → Graph → St × Graph) :
    ∀ (f : Nat) (todo : List Node) (st : St) (acc : List Node) (ai : List (Name × String)),
      (∀ n ∈ todo, FragBk n) → TotA st todo f → (visitNodes ctx vg f st todo acc ai).1.err = none := by
  refine visitNodes_induct ctx hnf vg (motive := fun f st todo _ _ r => TotA st todo f → r.1.err = none) ?_ ?_ ?_ ?_
  · intro f st todo acc ai e he hb
    rcases he with ⟨rfl, _⟩ | ⟨rfl, _⟩
    · exact absurd hb.fuel (by omega)
    · exact hb.err
  · intro f st n0 rest acc ai n st1 st' r hp hk ih hb
    obtain ⟨i, u, m, h, rfl⟩ := hp.writes
    obtain ⟨i', s', fr', h', nd', rfl⟩ := hk.writes
    exact ih (hb.tail rfl rfl fun x hx => Or.inl hx)
  · intro f st n0 rest acc ai n st1 stG st2 st3 v c o l r hp hf ih hb
    have ho0 : o ∈ n0.outputs := by rw [← hp.outputs, hf.out]; exact List.mem_cons_self
    obtain ⟨hd0, hi0⟩ := hb.disp n0 List.mem_cons_self o ho0
    obtain ⟨i, u, m, h, rfl⟩ := hp.writes
    obtain ⟨i', s', fr', h', rfl⟩ := hf.writes
    -- the output's own name is not registered, so the cascade registers it and touches no other name
    have hdisp : St.display st o = o := hd0
    obtain ⟨d3, i3⟩ := hf.names (by show st.initDisplay.contains (St.display st o) = false; rw [hdisp]; exact hi0)
    obtain ⟨f1, f2, f3⟩ := afterRepl_disp st3 n o (freshOf st2) [] l
    refine ih (hb.tail (f1.trans d3) (f2.trans hf.err) fun x hx => ?_)
    have h3 := f3 x hx
    rw [i3, List.contains_cons, Bool.or_eq_true, beq_iff_eq] at h3
    refine h3.symm.imp id fun e => ?_
    rw [e]
    show St.display st o ∈ n0.outputs
    rw [hdisp]
    exact ho0
  · intro f st n0 rest acc ai n st1 st2 v x x' opn attrs o l r hp hr ih hb
    obtain ⟨i, u, m, h, rfl⟩ := hp.writes
    obtain ⟨i', fr', h', rfl⟩ := hr.writes
    obtain ⟨f1, f2, f3⟩ := afterRepl_disp _ n o (freshOf _) [mkNode opn [some x'] [o] attrs] l
    refine ih (hb.replace (by rw [← hp.outputs, hr.out]; rfl) ?_ f1 f2 f3)
    have hop : n.op = n0.op := by rw [hp.node, setInputs_op]
    rcases hr.kind with ⟨rfl, rfl, hne⟩ | ⟨rfl, ⟨t, rfl⟩, hne1, hne2⟩
    · have h1 : wt (mkNode "Identity" [some x'] [o] []) = 1 := by simp [wt, mkNode, Node.op]
      have h2 : 2 ≤ wt n0 := by
        unfold wt
        rw [← hop, if_neg hne]
        split <;> omega
      omega
    · have h1 : wt (mkNode "Cast" [some x'] [o] [("to", Attr.int t)]) = 2 := by simp [wt, mkNode, Node.op]
      have h2 : wt n0 = 3 := by
        unfold wt
        rw [← hop, if_neg hne2, if_neg hne1]
      omega

theorem W_le : ∀ (l : List Node), W l ≤ 3 * l.length
  | [] => by simp [W]
  | n :: r => by
    have := W_le r
    have h : wt n ≤ 3 := by
      unfold wt
      split
      · omega
      · split <;> omega
    simp only [W, List.length_cons]
    omega

theorem collect_plain (f : Graph → List Name) (k : Nat) (g : Graph) (hp : ∀ n ∈ g.nodes, n.subs = []) :
    collect f (k + 1) g = f g := by
  simp only [collect]
  have : (g.nodes.flatMap fun n => n.subs.flatMap fun (p : String × Graph) => collect f k p.2) = [] := by
    apply List.flatMap_eq_nil_iff.mpr
    intro n hn
    rw [hp n hn]
    rfl
  rw [this, List.append_nil]

/-- totality needs a positive nesting budget: budget 0 *is* the error exit -/
theorem totalA_aux (k : Nat) (ctx : Ctx) (hnf : ctx.isFunction = false) (info : List (Name × VInfo)) (g : Graph)
    (hfr : ∀ n ∈ g.nodes, FragBk n) (hssa : SSA g) :
    (visitGraph ctx (k + 1) (initialState g info) g).1.err = none := by
  have hnd := List.nodup_append.mp hssa.1
  have hinit : TotA (initialState g info) g.nodes (stepFuel g + 16 * (initialState g info).uses.length) := by
    obtain ⟨u, e⟩ := initialState_writes g info
    refine ⟨?_, by rw [e], ?_, hnd.2.1⟩
    · have := W_le g.nodes
      unfold stepFuel
      omega
    · intro m hm o ho
      rw [e, maxDepth_succ, collect_plain (fun g => g.inits.map (·.1)) 7 g (fun n hn => (hfr n hn).1)]
      refine ⟨rfl, ?_⟩
      -- an initializer name is not a node output (`SSA`)
      cases hc : (g.inits.map (·.1)).contains o with
      | false => rfl
      | true => exact absurd rfl (hnd.2.2 o (by simpa using hc) o (List.mem_flatMap.mpr ⟨m, hm, ho⟩))
  have hfin := visitNodes_total ctx hnf (visitGraph ctx k) _ g.nodes (initialState g info) [] [] hfr hinit
  obtain ⟨stN, L, added, st', outs, _, _, _, hR, hvg, rfl, _⟩ := visitGraph_succ ctx k (initialState g info) g
  rw [hR] at hfin
  rw [hvg]
  exact hfin

/-- `hssa` is used for the clauses `disp` and `nodup` of `TotA` only (no fold meets a registered name); `err = none` holds
without it. -/
theorem foldGraph_totalA (ctx : Ctx) (hnf : ctx.isFunction = false) (info : List (Name × VInfo)) (g : Graph)
    (hfr : ∀ n ∈ g.nodes, FragBk n) (hssa : SSA g) : (foldGraph ctx info g).1.err = none := by
  rw [foldGraph_fst, maxDepth_succ]
  exact totalA_aux 7 ctx hnf info g hfr hssa

end OV.C03
