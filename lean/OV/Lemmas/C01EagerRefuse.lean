import OV.Lemmas.C01Eager
/-! Eager calling convention, the converse direction: a call that reaches the body is a call CPython accepts.  No side
condition on the call is needed: `tag_arguments_with_signature` refuses surplus positional arguments and a parameter
given twice (the two checks marked 29a1f68 in the model). -/
namespace OV.C01.Eager
open OV.C01

variable {V : Type}

/-- a binding of a call with no keyword that `kw` lacks (the adapted call) yields one of the call `(args, kw)`: every
parameter gets its value the same way, except that a default may give way to a keyword -/
theorem Bound.transfer {A} {kw K : List (Name × A)} (hK : ∀ n, lk n kw = none → lk n K = none)
    {pos ps qs env'} (hB : Bound K pos ps qs env') :
    ∀ args : List A, pos.length = args.length → ∃ env, Bound kw args ps qs env := by
  induction hB with
  | nil => intro args hl; cases args with | nil => exact ⟨_, .nil⟩ | cons _ _ => cases hl
  | pos hn _ ih =>
    intro args hl
    cases args with
    | nil => cases hl
    | cons a args => obtain ⟨env, h⟩ := ih args (by simpa using hl); exact ⟨_, .pos hn h⟩
  | @key _ p _ _ _ _ hn hk _ ih =>
    intro args hl
    cases args with
    | cons _ _ => cases hl
    | nil =>
      obtain ⟨env, h⟩ := ih [] rfl
      cases hv : lk p.name kw with
      | some v => exact ⟨_, .key hn hv h⟩
      | none => rw [hK _ hv] at hk; cases hk
  | @dflt _ p _ _ _ _ hn _ hq hi hr _ ih =>
    intro args hl
    cases args with
    | cons _ _ => cases hl
    | nil =>
      obtain ⟨env, h⟩ := ih [] rfl
      cases hv : lk p.name kw with
      | some v => exact ⟨_, .key hn hv h⟩
      | none => exact ⟨_, .dflt hn hv hq hi hr h⟩

theorem eagerCall_ok_python (mk : Mk V) (ps : List SigParam) (qs : List (PyParam (Arg V)))
    (args : List (Arg V)) (kw : List (Name × Arg V)) (hs : sigMatch ps qs = true)
    (hok : ∃ r, eagerCall mk false ps qs args kw = .ok r) : ∃ env, pyBind qs args kw = .ok env := by
  obtain ⟨r, hr⟩ := hok
  unfold eagerCall at hr
  cases hT : tagArguments false false (fun _ => Arg.none) ps args kw with
  | error e => simp [hT] at hr
  | ok T =>
    obtain ⟨hchk, hlen, hTag, rfl⟩ := (tagArguments_ok_iff _ _ ps args kw T (sigMatch_noVar hs)).mp hT
    rw [Bool.not_false, Bool.and_true] at hchk
    simp only [hT] at hr
    -- every keyword names a parameter (`hchk`), none of them a positionally given one (`hTag`): so one behind those
    have hkeys : kw.any (fun e => !((qs.drop args.length).any (fun q => q.name = e.1))) = false := by
      rw [keys_iff] at hchk ⊢
      intro e he
      have := hchk e he
      rw [← List.take_append_drop args.length ps, List.any_append, Bool.or_eq_true] at this
      rcases this with ht | hd
      · obtain ⟨p, hp, hpn⟩ := List.any_eq_true.mp ht
        exact absurd (of_decide_eq_true hpn ▸ taggable_take kw args ps hTag p hp) (lk_ne_none_of_mem e.1 kw e.2 he)
      · rwa [sigMatch_any (sigMatch_drop hs _)]
    cases hA : adaptArgs mk (tagSpec kw args ps).1 with
    | error e => simp [hA] at hr
    | ok pos =>
      cases hK : adaptKw mk (tagSpec kw args ps).2 with
      | error e => simp [hA, hK] at hr
      | ok K =>
        cases hb : pyBind qs pos K with
        | error e => simp [hA, hK, hb] at hr
        | ok env' =>
          -- CPython binds the adapted call; hence it binds the caller's
          have hpl : pos.length = args.length := by
            rw [adaptArgs_len mk _ pos hA, tagSpec_fst_length]; omega
          obtain ⟨env, hB⟩ := (bound_of_bindPos K ps qs pos env' hs (pyBind_ok_iff.mp hb).2.2).transfer
            (fun n hn => adaptKw_lk_none mk hn _ K (tagSpec_snd_mem kw args ps) hK) args hpl
          exact ⟨env, pyBind_ok_iff.mpr ⟨sigMatch_length hs ▸ hlen, hkeys, bindPos_of_bound hB⟩⟩

end OV.C01.Eager
