import OV.Model.Index
import OV.Lemmas.Index
import OV.Lemmas.IndexPlan
import OV.Lemmas.IndexGather
/-! C11, plan level, third part: the plans of the converter (`Converter._translate_subscript_expr`), axis by
axis — the Slice(+Squeeze) prefix as an instance of `slice_stage`, the whole plans of both paths as
equivalences, the converter against NumPy's per-axis maps (`graph_index_iff_axes`), and what happens to
index components beyond the rank. -/
namespace OV.Index

theorem convBounds_some (l h st : Int) : convBounds (some l) (some h) st = (l, h) := by
  unfold convBounds; split <;> rfl

/-- The form the converter refuses: a tensor-valued step (direction unknown) with an omitted bound. -/
def refusedSlice (lo hi st : Bnd) : Bool :=
  match st with
  | .dyn _ => lo.val?.isNone || hi.val?.isNone
  | _ => false

theorem convSliceEntry_eq (j : Nat) (lo hi st : Bnd) :
    convSliceEntry j lo hi st =
      if refusedSlice lo hi st then none
      else some ⟨j, (convBounds lo.val? hi.val? ((st.val?).getD 1)).1,
                    (convBounds lo.val? hi.val? ((st.val?).getD 1)).2, (st.val?).getD 1⟩ := by
  cases st with
  | dyn s =>
    have e : (Bnd.dyn s).val? = some s := rfl
    cases hl : lo.val? <;> cases hh : hi.val? <;>
      simp [convSliceEntry, refusedSlice, hl, hh, convBounds_some, e]
  | none => rfl
  | const v => rfl

/-- With a tensor-valued step both bounds are written out, so that `convBounds` hands them over as they
are: one formula serves every step. -/
theorem graphAxisSlicePath_slice (lo hi st : Bnd) (srcs : List Nat)
    (hsk : ¬ (lo = .none ∧ hi = .none ∧ st = .none)) :
    graphAxisSlicePath (.slice lo hi st) srcs =
      if refusedSlice lo hi st then .error .refused
      else if (st.val?).getD 1 == 0 then .error .valueError
      else .ok (.pick (onnxSliceList srcs (convBounds lo.val? hi.val? ((st.val?).getD 1)).1
                          (convBounds lo.val? hi.val? ((st.val?).getD 1)).2 ((st.val?).getD 1))) := by
  simp only [graphAxisSlicePath]
  rw [if_neg hsk]
  cases st with
  | dyn s =>
    have e : (Bnd.dyn s).val? = some s := rfl
    cases hl : lo.val? <;> cases hh : hi.val? <;> simp [refusedSlice, hl, hh, convBounds_some, e]
  | none => rfl
  | const v => rfl

theorem entryOf_slice (lo hi st : Bnd) (j : Nat) (hsk : ¬ (lo = .none ∧ hi = .none ∧ st = .none)) :
    entryOf (.slice lo hi st) j = convSliceEntry j lo hi st := if_neg hsk

theorem entryOf_axis (c : Comp) (j : Nat) (e : SliceEntry) (h : entryOf c j = some e) : e.axis = j := by
  cases c with
  | full => cases h
  | tScalar v => cases h
  | tVec v => cases h
  | int i => cases h; rfl
  | slice lo hi st =>
    by_cases hsk : lo = .none ∧ hi = .none ∧ st = .none
    · rw [entryOf, if_pos hsk] at h; cases h
    · rw [entryOf_slice lo hi st j hsk, convSliceEntry_eq] at h
      split at h
      · cases h
      · cases h; rfl

theorem entryOf_registered (c : Comp) (j : Nat) (e : SliceEntry) (h : entryOf c j = some e) :
    c.kind = Kind.sliced ∨ c.kind = Kind.scalar := by
  cases c with
  | full => cases h
  | tScalar v => cases h
  | tVec v => cases h
  | int i => exact .inr rfl
  | slice lo hi st =>
    rw [slice_kind]
    split
    · rename_i hsk; rw [entryOf, if_pos hsk] at h; cases h
    · exact .inl rfl

theorem mem_sliceEntriesOf (comps : List Comp) (e : SliceEntry) :
    e ∈ (sliceEntriesOf comps).filterMap id ↔ (comps[e.axis]?.bind (entryOf · e.axis)) = some e := by
  simp only [sliceEntriesOf, slicedOf, scalarsOf, List.mem_filterMap, List.mem_map, List.mem_append,
    List.mem_filter, id, Prod.exists, List.mk_mem_zipIdx_iff_getElem?, Option.bind_eq_some_iff]
  constructor
  · rintro ⟨_, ⟨c, j, _, rfl⟩, he⟩
    have := entryOf_axis c j e he
    subst this
    exact ⟨c, by rename_i h; rcases h with h | h <;> exact h.1, he⟩
  · rintro ⟨c, hc, he⟩
    refine ⟨_, ⟨c, e.axis, ?_, rfl⟩, he⟩
    rcases entryOf_registered c _ e he with hk | hk
    · exact .inl ⟨hc, beq_iff_eq.mpr hk⟩
    · exact .inr ⟨hc, beq_iff_eq.mpr hk⟩

theorem contains_scalarsOf (comps : List Comp) (j : Nat) :
    ((scalarsOf comps).map (fun p => p.2)).contains j
      = (match comps[j]? with | some c => c.kind == Kind.scalar | none => false) :=
  contains_zipIdx (fun c => c.kind == Kind.scalar) comps j

/-- What the converter's Slice(+Squeeze) prefix makes of an axis: tensor-valued indices are not
touched by it (they are gathered afterwards). -/
def graphPre (c : Comp) (srcs : List Nat) : Except Err AxisMap :=
  match c with
  | .tScalar _ => .ok (.pick srcs)
  | .tVec _ => .ok (.pick srcs)
  | c => graphAxisSlicePath c srcs

theorem graphPre_not_nonScalar (c : Comp) (srcs : List Nat) (h : (c.kind == Kind.nonScalar) = false) :
    graphPre c srcs = graphAxisSlicePath c srcs := by
  cases c <;> first | rfl | (exact absurd h (by simp only [Comp.kind]; decide))

theorem graphPre_basic (c : Comp) (srcs : List Nat) (h : c.basic = true) :
    graphPre c srcs = graphAxisSlicePath c srcs :=
  graphPre_not_nonScalar c srcs (basic_kind_ne_nonScalar c h)

theorem graphPre_nonScalar (c : Comp) (srcs : List Nat) (h : (c.kind == Kind.nonScalar) = true) :
    graphPre c srcs = .ok (.pick srcs) := by
  cases c with
  | tScalar v => rfl
  | tVec v => rfl
  | full => cases h
  | int i => cases h
  | slice lo hi st => rcases slice_kind_cases lo hi st with hk | hk <;> rw [hk] at h <;> cases h

theorem graphPre_slice (lo hi st : Bnd) (j : Nat) (srcs : List Nat)
    (hsk : ¬ (lo = .none ∧ hi = .none ∧ st = .none)) :
    graphPre (.slice lo hi st) srcs =
      (match entryOf (.slice lo hi st) j with
       | none => .error .refused
       | some e => if e.step == 0 then .error .valueError
                   else .ok (.pick (onnxSliceList srcs e.start e.stop e.step))) := by
  rw [entryOf_slice lo hi st j hsk, convSliceEntry_eq,
    show graphPre (.slice lo hi st) srcs = graphAxisSlicePath (.slice lo hi st) srcs from rfl,
    graphAxisSlicePath_slice lo hi st srcs hsk]
  cases refusedSlice lo hi st <;> rfl

/-- `graphPre` through `sliceAxis`, the form `slice_stage` asks for (`hF`) — but for the converter's
refusal (a registered slice without an entry), which `sliceAxis` does not have. -/
theorem graphPre_eq (c : Comp) (j : Nat) (srcs : List Nat) :
    graphPre c srcs = if c.kind = Kind.sliced ∧ entryOf c j = none then .error .refused
      else sliceAxis (entryOf c j) (c.kind == Kind.scalar) srcs := by
  cases c with
  | tScalar v => rfl
  | tVec v => rfl
  | full => rfl
  | int i => rfl
  | slice lo hi st =>
    by_cases hsk : lo = .none ∧ hi = .none ∧ st = .none
    · obtain ⟨rfl, rfl, rfl⟩ := hsk; rfl
    · have hk : (Comp.slice lo hi st).kind = Kind.sliced := by rw [slice_kind, if_neg hsk]
      rw [graphPre_slice lo hi st j srcs hsk, hk]
      cases entryOf (.slice lo hi st) j with
      | none => rfl
      | some e =>
        simp only [sliceAxis, Option.any_some, applyEntry]
        split <;> rfl

theorem graphPre_isPick (c : Comp) (srcs : List Nat) (a : AxisMap) (h : graphPre c srcs = .ok a) :
    a.isPick = !(c.kind == Kind.scalar) := by
  rw [graphPre_eq c 0] at h
  split at h
  · cases h
  · exact sliceAxis_isPick _ _ _ a h

theorem entry_of_registered (comps : List Comp)
    (hnone : (sliceEntriesOf comps).any Option.isNone = false) (j : Nat) (c : Comp)
    (hc : comps[j]? = some c) (hk : c.kind = Kind.sliced ∨ c.kind = Kind.scalar) :
    ∃ e, entryOf c j = some e ∧ e ∈ (sliceEntriesOf comps).filterMap id := by
  have hz := List.mk_mem_zipIdx_iff_getElem?.mpr hc
  have hmem : entryOf c j ∈ sliceEntriesOf comps := by
    refine List.mem_map.mpr ⟨(c, j), ?_, rfl⟩
    rcases hk with hk | hk
    · exact List.mem_append_left _ (List.mem_filter.mpr ⟨hz, beq_iff_eq.mpr hk⟩)
    · exact List.mem_append_right _ (List.mem_filter.mpr ⟨hz, beq_iff_eq.mpr hk⟩)
  cases hent : entryOf c j with
  | none =>
    rw [hent] at hmem
    rw [List.any_eq_true.mpr ⟨none, hmem, rfl⟩] at hnone; cases hnone
  | some e =>
    rw [hent] at hmem
    exact ⟨e, rfl, List.mem_filterMap.mpr ⟨_, hmem, rfl⟩⟩

/-- `hnone`: the converter did not refuse. -/
theorem graph_slice_stage (comps : List Comp) (shape : List Nat) (v1 : View)
    (hlen : comps.length ≤ shape.length)
    (hnone : (sliceEntriesOf comps).any Option.isNone = false) :
    runPlan ([PlanOp.slice ((sliceEntriesOf comps).filterMap id)]
            ++ (if ((scalarsOf comps).map (fun p => p.2)).isEmpty then []
                else [PlanOp.squeeze ((scalarsOf comps).map (fun p => p.2))])) (View.init shape) = .ok v1
      ↔ axiswise graphPre comps shape = .ok v1 :=
  slice_stage PlanOp.squeeze (fun _ _ => rfl) _ _ (fun c j _ => entryOf c j)
    (fun c => c.kind == Kind.scalar) graphPre comps shape v1 hlen (fun c j _ => entryOf_axis c j)
    (mem_sliceEntriesOf comps) (contains_scalarsOf comps) (fun j c d hc _ => by
      rw [graphPre_eq c j, if_neg]
      rintro ⟨hk, hno⟩
      obtain ⟨e, he, _⟩ := entry_of_registered comps hnone j c hc (.inl hk)
      rw [hno] at he; cases he)

theorem gatherOp_isSome_of_kind (c : Comp) (a : Nat)
    (h : (c.kind == Kind.nonScalar || c.kind == Kind.scalar) = true) : (gatherOp a c).isSome = true := by
  cases c with
  | full => cases h
  | int i => rfl
  | tScalar v => rfl
  | tVec v => rfl
  | slice lo hi st => rcases slice_kind_cases lo hi st with hk | hk <;> rw [hk] at h <;> cases h

/-- The converter's plan, run: one of two shapes — the `Identity` node of an index with nothing to do is
the empty Gather chain. -/
theorem graphIndex_eq (comps : List Comp) (shape : List Nat) :
    graphIndex comps shape =
      if useSlice comps then
        if (sliceEntriesOf comps).any Option.isNone then .error .refused
        else runPlan ([PlanOp.slice ((sliceEntriesOf comps).filterMap id)]
              ++ (if ((scalarsOf comps).map (fun p => p.2)).isEmpty then []
                  else [PlanOp.squeeze ((scalarsOf comps).map (fun p => p.2))])
              ++ gatherChain ((scalarsOf comps).map (fun p => p.2)) (nonScalarsOf comps)) (View.init shape)
      else runPlan (gatherChain [] (gatheredOf comps)) (View.init shape) := by
  unfold graphIndex planGraph
  by_cases hempty : ((slicedOf comps).isEmpty && (scalarsOf comps).isEmpty && (nonScalarsOf comps).isEmpty) = true
  · rw [if_pos hempty]
    simp only [Bool.and_eq_true, List.isEmpty_iff] at hempty
    have hg : gatheredOf comps = [] := List.filter_eq_nil_iff.mpr (fun p hp => by
      have a := List.filter_eq_nil_iff.mp hempty.1.2 p hp
      have b := List.filter_eq_nil_iff.mp hempty.2 p hp
      simp only [Bool.not_eq_true] at a b
      simp [a, b])
    rw [useSlice, hempty.1.1, hempty.1.2, hg]
    rfl
  · rw [if_neg hempty]
    cases useSlice comps
    · rfl
    · simp only [if_true]
      split <;> rfl

/-- The Slice path of `_translate_subscript_expr`: Slice, Squeeze, then the Gather chain over the
tensor-valued components, highest axis first, each with the axis of the intermediate result. -/
theorem graph_slicepath_iff (comps : List Comp) (shape : List Nat) (r : View)
    (hlen : comps.length ≤ shape.length) (huse : useSlice comps = true) :
    graphIndex comps shape = .ok r ↔
      axiswise (withGather (fun c => c.kind == Kind.nonScalar) graphPre) comps shape = .ok r := by
  have hG : ∀ c srcs, (c.kind == Kind.nonScalar) = true → graphPre c srcs = .ok (.pick srcs) :=
    fun c srcs hg => graphPre_nonScalar c srcs hg
  rw [graphIndex_eq, huse]
  simp only [if_true]
  by_cases hnone : ((sliceEntriesOf comps).any Option.isNone) = true
  · -- the converter refuses a registered slice; the Slice path has no result on its axis either
    rw [if_pos hnone]
    refine iff_of_false (by simp) (fun h => ?_)
    obtain ⟨o, ho, hn⟩ := List.any_eq_true.mp hnone
    obtain ⟨⟨c, j⟩, hp, hpe⟩ := List.mem_map.mp ho
    have ho' : entryOf c j = none := by cases o with | none => exact hpe | some e => cases hn
    obtain ⟨hc, hk⟩ : comps[j]? = some c ∧ (c.kind = Kind.sliced ∨ c.kind = Kind.scalar) := by
      rcases List.mem_append.mp hp with hm | hm <;> obtain ⟨hz, hk⟩ := List.mem_filter.mp hm
      · exact ⟨List.mk_mem_zipIdx_iff_getElem?.mp hz, .inl (eq_of_beq hk)⟩
      · exact ⟨List.mk_mem_zipIdx_iff_getElem?.mp hz, .inr (eq_of_beq hk)⟩
    obtain ⟨d, a, _, ha⟩ := (axiswise_ok_pointwise _ comps shape r h).2 j c hc
    rcases hk with hk | hk
    · rw [withGather_neg graphPre (by rw [hk]; decide), graphPre_eq c j, if_pos ⟨hk, ho'⟩] at ha
      cases ha
    · obtain ⟨i, rfl⟩ := kind_scalar c hk
      cases ho'
  · rw [if_neg hnone]
    refine two_stage_iff _ _ (View.init shape) r _ graphPre comps shape hG
      (fun v1 => graph_slice_stage comps shape v1 hlen (Bool.eq_false_iff.mpr hnone)) (fun v1 hv1 => ?_)
    have hchain := gather_chain_iff (fun c => c.kind == Kind.nonScalar) (fun c => c.kind == Kind.scalar)
      graphPre (gatherAxis ((scalarsOf comps).map (fun p => p.2))) hG
      (fun c a hg => gatherOp_isSome_of_kind c a (by simp [hg])) graphPre_isPick
      comps shape 0 [] v1 r
      (fun i c hi _ => gatherAxis_chain (fun c => c.kind == Kind.scalar) comps i c hi) hv1
    simpa [gatherChain, nonScalarsOf] using hchain

/-- The Gather path of `_translate_subscript_expr` (no Slice): every tensor-valued component and the lone
Python int, highest axis first, with the original axis numbers. -/
theorem graph_gatherpath_iff (comps : List Comp) (shape : List Nat) (r : View)
    (hlen : comps.length ≤ shape.length) (huse : useSlice comps = false) :
    graphIndex comps shape = .ok r ↔ axiswise numpyAxis comps shape = .ok r := by
  have huse' := huse
  simp only [useSlice, Bool.or_eq_false_iff, Bool.not_eq_false', decide_eq_false_iff_not] at huse'
  have hnotsliced : ∀ (j : Nat) (c : Comp), comps[j]? = some c → (c.kind == Kind.sliced) = false :=
    filter_zipIdx_nil_forall (fun c => c.kind == Kind.sliced) comps 0 (List.isEmpty_iff.mp huse'.1)
  rw [graphIndex_eq, huse]
  simp only [Bool.false_eq_true, if_false]
  -- off the Slice path every component is gathered or is `:`
  rw [axiswise_congr numpyAxis
    (withGather (fun c => c.kind == Kind.nonScalar || c.kind == Kind.scalar) pickF) comps shape
    (fun c hc srcs => by
      obtain ⟨j, hj⟩ := List.getElem?_of_mem hc
      by_cases hg : (c.kind == Kind.nonScalar || c.kind == Kind.scalar) = true
      · rw [withGather_pos pickF hg]
      · rw [withGather_neg pickF hg]
        simp only [Bool.or_eq_true, not_or, Bool.not_eq_true] at hg
        exact numpyAxis_skip c srcs (kind_skip_of_not c (hnotsliced j c hj) hg.2 hg.1))]
  have hchain := gather_chain_iff
    (fun c => c.kind == Kind.nonScalar || c.kind == Kind.scalar) (fun _ => false) pickF (gatherAxis [])
    (fun _ _ _ => rfl) (fun c a hg => gatherOp_isSome_of_kind c a hg)
    (fun c srcs a ha => by cases ha; rfl)
    comps shape 0 [] (View.init shape) r
    (fun i c hi _ => gatherAxis_chain_nil comps i c hi)
    (axiswise_pickF comps shape hlen)
  simpa [gatherChain, gatheredOf] using hchain

/-- `hform`: a tensor-valued step comes with both bounds, else the converter refuses the form; `hD22`:
finding D22 (`onnxNorm_convBounds_iff`). -/
theorem graphAxisSlicePath_eq_numpy (c : Comp) (srcs : List Nat)
    (hns : (c.kind == Kind.nonScalar) = false)
    (hlen : (srcs.length : Int) < maxint)
    (hform : ∀ lo hi s, c = .slice lo hi (.dyn s) → ∃ l h, lo.val? = some l ∧ hi.val? = some h)
    (hD22 : ∀ lo hi st, c = .slice lo hi st → (st.val?).getD 1 < 0 →
              ∀ x, lo.val? = some x → -(srcs.length : Int) ≤ x) :
    graphAxisSlicePath c srcs = numpyAxis c srcs := by
  cases c with
  | full => rfl
  | tScalar v => exact absurd hns (by simp only [Comp.kind]; decide)
  | tVec vs => exact absurd hns (by simp only [Comp.kind]; decide)
  | int i => exact scalar_slice_axis i maxint srcs (by omega)
  | slice lo hi st =>
    by_cases hskip : lo = .none ∧ hi = .none ∧ st = .none
    · obtain ⟨rfl, rfl, rfl⟩ := hskip
      exact (numpyAxis_skip _ srcs rfl).symm
    · have hr : refusedSlice lo hi st = false := by
        cases st with
        | dyn s => obtain ⟨l, u, hl, hh⟩ := hform lo hi s rfl; simp [refusedSlice, hl, hh]
        | none => rfl
        | const v => rfl
      rw [graphAxisSlicePath_slice lo hi st srcs hskip, hr]
      simp only [Bool.false_eq_true, if_false, numpyAxis]
      split
      · rfl
      · rename_i hv
        rw [onnxSliceList_convBounds srcs _ _ _ hlen (by simpa using hv)
          (fun hneg x hx => hD22 lo hi st rfl hneg x hx)]

/-- `hform` of `graph_index_iff_axes` holds for a graph that returns a tensor: it was not refused. -/
theorem graphIndex_ok_form (comps : List Comp) (shape : List Nat) (r : View)
    (h : graphIndex comps shape = .ok r) (j : Nat) (lo hi : Bnd) (s : Int)
    (hc : comps[j]? = some (.slice lo hi (.dyn s))) : ∃ l u, lo.val? = some l ∧ hi.val? = some u := by
  have hsk : ¬ (lo = .none ∧ hi = .none ∧ Bnd.dyn s = .none) := fun hsk => by cases hsk.2.2
  have hk : (Comp.slice lo hi (.dyn s)).kind = Kind.sliced := by rw [slice_kind, if_neg hsk]
  have huse : useSlice comps = true := by
    have hm : (Comp.slice lo hi (.dyn s), j) ∈ slicedOf comps :=
      List.mem_filter.mpr ⟨List.mk_mem_zipIdx_iff_getElem?.mpr hc, beq_iff_eq.mpr hk⟩
    cases hs : slicedOf comps with
    | nil => rw [hs] at hm; cases hm
    | cons p t => simp [useSlice, hs]
  rw [graphIndex_eq, huse, if_pos rfl] at h
  by_cases hnone : ((sliceEntriesOf comps).any Option.isNone) = true
  · rw [if_pos hnone] at h; cases h
  · obtain ⟨e, he, _⟩ := entry_of_registered comps (Bool.eq_false_iff.mpr hnone) j _ hc (.inl hk)
    rw [entryOf_slice lo hi _ j hsk, convSliceEntry_eq] at he
    cases hl : lo.val? <;> cases hh : hi.val? <;> simp [refusedSlice, hl, hh] at he ⊢

/-- `hlen`: the converter does not know the rank (finding C11-N1); `hdims`: "to the end" is the int64
maximum in the converter's bounds; `hform`: else the converter refuses; `hD22`: finding D22. -/
theorem graph_index_iff_axes (comps : List Comp) (shape : List Nat) (r : View)
    (hlen : comps.length ≤ shape.length)
    (hdims : ∀ d ∈ shape, (d : Int) < maxint)
    (hform : ∀ (j : Nat) (lo hi : Bnd) (s : Int), comps[j]? = some (.slice lo hi (.dyn s)) →
        ∃ l h, lo.val? = some l ∧ hi.val? = some h)
    (hD22 : ∀ (j d : Nat) (lo hi st : Bnd), comps[j]? = some (.slice lo hi st) → shape[j]? = some d →
        (st.val?).getD 1 < 0 → ∀ x, lo.val? = some x → -(d : Int) ≤ x) :
    graphIndex comps shape = .ok r ↔ axiswise numpyAxis comps shape = .ok r := by
  cases huse : useSlice comps with
  | false => exact graph_gatherpath_iff comps shape r hlen huse
  | true =>
    rw [graph_slicepath_iff comps shape r hlen huse,
      axiswise_congr_at _ numpyAxis comps shape (fun j c d hc hd => ?_)]
    by_cases hk : (c.kind == Kind.nonScalar) = true
    · rw [withGather_pos _ hk]
    · have hk' : (c.kind == Kind.nonScalar) = false := by simpa using hk
      rw [withGather_neg _ hk, graphPre_not_nonScalar c _ hk']
      refine graphAxisSlicePath_eq_numpy c (List.range d) hk' ?_ ?_ ?_
      · simp only [List.length_range]; exact hdims d (List.mem_of_getElem? hd)
      · intro lo hi s hcs; subst hcs; exact hform j lo hi s hc
      · intro lo hi st hcs hneg x hx
        subst hcs
        simp only [List.length_range]
        exact hD22 j d lo hi st hc hd hneg x hx

theorem filter_zipIdx_append_none (F : Comp → Bool) (l1 l2 : List Comp) (h : ∀ c ∈ l2, F c = false) :
    (l1 ++ l2).zipIdx.filter (fun p => F p.1) = l1.zipIdx.filter (fun p => F p.1) := by
  rw [List.zipIdx_append, List.filter_append, filter_zipIdx_none F l2 _ h, List.append_nil]

/-- The converter looks only at the components that are not `:`; appending `:`s changes nothing in
the plan — whatever the rank of the tensor is (the mechanism of finding C11-N1, too many indices). -/
theorem planGraph_append_skips (comps extra : List Comp) (hextra : ∀ c ∈ extra, c.kind = Kind.skip) :
    planGraph (comps ++ extra) = planGraph comps := by
  have h1 : slicedOf (comps ++ extra) = slicedOf comps :=
    filter_zipIdx_append_none (fun c => c.kind == Kind.sliced) comps extra
      (fun c hc => by rw [hextra c hc]; rfl)
  have h2 : scalarsOf (comps ++ extra) = scalarsOf comps :=
    filter_zipIdx_append_none (fun c => c.kind == Kind.scalar) comps extra
      (fun c hc => by rw [hextra c hc]; rfl)
  have h3 : nonScalarsOf (comps ++ extra) = nonScalarsOf comps :=
    filter_zipIdx_append_none (fun c => c.kind == Kind.nonScalar) comps extra
      (fun c hc => by rw [hextra c hc]; rfl)
  have h4 : gatheredOf (comps ++ extra) = gatheredOf comps :=
    filter_zipIdx_append_none (fun c => c.kind == Kind.nonScalar || c.kind == Kind.scalar) comps extra
      (fun c hc => by rw [hextra c hc]; rfl)
  unfold planGraph useSlice sliceEntriesOf
  rw [h1, h2, h3, h4]

/-- A component beyond the rank that is not `:` makes the graph fail: `Slice` names an axis that is not
there, or a Gather of the chain does. -/
theorem graph_surplus_nonskip_fails (comps : List Comp) (shape : List Nat) (j : Nat) (c : Comp)
    (hj : comps[j]? = some c) (hjn : shape.length ≤ j) (hk : c.kind ≠ Kind.skip) :
    ∃ e, graphIndex comps shape = .error e := by
  have hjlen : j < comps.length := (List.getElem?_eq_some_iff.mp hj).1
  rw [graphIndex_eq]
  have hsplit : comps = comps.take shape.length ++ comps.drop shape.length := (List.take_append_drop _ _).symm
  have hprelen : (comps.take shape.length).length = shape.length := by
    rw [List.length_take]; omega
  cases huse : useSlice comps with
  | false =>
    simp only [Bool.false_eq_true, if_false]
    have huse' := huse
    simp only [useSlice, Bool.or_eq_false_iff, Bool.not_eq_false', decide_eq_false_iff_not] at huse'
    have hg : (c.kind == Kind.nonScalar || c.kind == Kind.scalar) = true := by
      have h2 := filter_zipIdx_nil_forall (fun c => c.kind == Kind.sliced) comps 0
        (List.isEmpty_iff.mp huse'.1) j c hj
      cases hkk : c.kind <;> rw [hkk] at h2 hk <;>
        first | rfl | (exact absurd rfl hk) | (exact absurd h2 (by decide))
    unfold gatherChain gatheredOf
    apply gathers_fail
    exact ⟨(c, j), List.mem_reverse.mpr (List.mem_filter.mpr ⟨List.mk_mem_zipIdx_iff_getElem?.mpr hj, hg⟩),
        gatherOp_isSome_of_kind c _ hg, by rw [gatherAxis_nil, View.init_rank]; exact hjn⟩
  | true =>
    simp only [if_true]
    by_cases hnone : ((sliceEntriesOf comps).any Option.isNone) = true
    · rw [if_pos hnone]; exact ⟨_, rfl⟩
    rw [if_neg hnone, runPlan_append]
    cases hv1 : runPlan ([PlanOp.slice ((sliceEntriesOf comps).filterMap id)]
            ++ (if ((scalarsOf comps).map (fun p => p.2)).isEmpty then []
                else [PlanOp.squeeze ((scalarsOf comps).map (fun p => p.2))])) (View.init shape) with
    | error e => exact ⟨e, rfl⟩
    | ok v1 =>
      -- `Slice` ran, so none of its entries names an axis beyond the rank: the surplus components
      -- are `:` or tensor-valued, and `c` is tensor-valued
      have hE := ((slice_squeeze_run PlanOp.squeeze (fun _ _ => rfl) _ _ _ _).mp hv1).1
      have hnoreg : ∀ (j' : Nat) (c' : Comp), comps[j']? = some c' → shape.length ≤ j' →
          ¬ (c'.kind = Kind.sliced ∨ c'.kind = Kind.scalar) := by
        intro j' c' hj' hjn' hkk
        obtain ⟨e, he, hmem⟩ := entry_of_registered comps (Bool.eq_false_iff.mpr hnone) j' c' hj' hkk
        have := (hE e hmem).2
        rw [View.init_rank, entryOf_axis c' j' e he] at this
        omega
      have hsuf : ∀ c' ∈ comps.drop shape.length,
          (c'.kind == Kind.sliced) = false ∧ (c'.kind == Kind.scalar) = false := by
        intro c' hc'
        obtain ⟨i, hi⟩ := List.getElem?_of_mem hc'
        rw [List.getElem?_drop] at hi
        have hno := hnoreg _ c' hi (by omega)
        exact ⟨Bool.eq_false_iff.mpr (fun h => hno (.inl (eq_of_beq h))),
          Bool.eq_false_iff.mpr (fun h => hno (.inr (eq_of_beq h)))⟩
      have hcns : (c.kind == Kind.nonScalar) = true := by
        have hno := hnoreg j c hj hjn
        cases hkk : c.kind <;> rw [hkk] at hno hk <;>
          first | rfl | (exact absurd rfl hk) | (exact absurd (Or.inl rfl) hno) | (exact absurd (Or.inr rfl) hno)
      have h1 : slicedOf comps = slicedOf (comps.take shape.length) := by
        conv => lhs; rw [hsplit]
        exact filter_zipIdx_append_none (fun c => c.kind == Kind.sliced) _ _ (fun c' hc' => (hsuf c' hc').1)
      have h2 : scalarsOf comps = scalarsOf (comps.take shape.length) := by
        conv => lhs; rw [hsplit]
        exact filter_zipIdx_append_none (fun c => c.kind == Kind.scalar) _ _ (fun c' hc' => (hsuf c' hc').2)
      have h3 : sliceEntriesOf comps = sliceEntriesOf (comps.take shape.length) := by
        unfold sliceEntriesOf; rw [h1, h2]
      have hpre : axiswise graphPre (comps.take shape.length) shape = .ok v1 := by
        refine (graph_slice_stage (comps.take shape.length) shape v1 (by omega) ?_).mp ?_
        · rw [← h3]; exact Bool.eq_false_iff.mpr hnone
        · rw [← h3, ← h2]; exact hv1
      have hrank := axiswise_shape_count graphPre (fun c => c.kind == Kind.scalar) graphPre_isPick
        (comps.take shape.length) shape v1 hpre
      unfold gatherChain nonScalarsOf
      apply gathers_fail
      refine ⟨(c, j), List.mem_reverse.mpr (List.mem_filter.mpr ⟨List.mk_mem_zipIdx_iff_getElem?.mpr hj, hcns⟩),
          gatherOp_isSome_of_kind c _ (by rw [hcns]; rfl), ?_⟩
      have hga := gatherAxis_zipIdx (fun c => c.kind == Kind.scalar) comps j (by omega)
      have hfl := filter_length_add (fun c => c.kind == Kind.scalar) (comps.take shape.length)
      have htake : comps.take j = comps.take shape.length ++ (comps.drop shape.length).take (j - shape.length) := by
        rw [← List.take_add, Nat.add_sub_cancel' hjn]
      rw [show ((scalarsOf comps).map fun p => p.2) = _ from rfl, scalarsOf, hga, htake, List.filter_append,
        List.length_append]
      omega

end OV.Index
