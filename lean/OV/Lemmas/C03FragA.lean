import OV.Lemmas.C03Dtype
import OV.Lemmas.C03BkA
/-!
Fragment A = generic folding + `Constant` nodes (const marking) + `Identity` nodes (alias recording, alias substitution
on later inputs, graph-output replacement) + the one-node replacements of `Concat`/`Dropout`/`Cast`/`CastLike`.

`visitNodes_refines`: the instance of `visitNodes_induct` for any invariant under which each of the three outcomes of a turn
is sound (`TurnSound`).
`simA_turn` / `simP_turn`: every turn is sound on fragment A / on the generic-folding fragment; what differs between
node classes is confined to `FragA.evSound` (the partial evaluators are right).  `visitGraph_refines` lifts this to
`visit_graph`, `foldGraph_of_visitGraph` to the pass; `foldGraph_fragmentA`, `foldGraph_fragment` are the end-to-end theorems
(the pruning condition comes from the use-count invariant of `C03BkA`).
-/
namespace OV.C03

variable {V : Type}

theorem substOne_sameIS {st st' : St} (h : SameIS st st') (x : Option Name) : substOne st' x = substOne st x := by
  cases x with
  | none => rfl
  | some y => simp only [substOne, getSym_sameIS h]

def AliasOK (st : St) (ρ : Env V) : Prop := ∀ x y, lookupA st.sym x = some (.alias y) → ρ x = ρ y

theorem lookupIn_substOne {st : St} {ρ : Env V} (h : AliasOK st ρ) (x : Option Name) :
    lookupIn ρ (substOne st x) = lookupIn ρ x := by
  cases x with
  | none => rfl
  | some y =>
    simp only [substOne, St.getSym, Option.bind]
    split
    · rename_i z hz
      simp only [lookupIn, h y z hz]
    · rfl

theorem lookupAll_substOne {st : St} {ρ : Env V} (h : AliasOK st ρ) (l : List (Option Name)) :
    lookupAll ρ (l.map (substOne st)) = lookupAll ρ l :=
  lookupAll_map fun z _ => lookupIn_substOne h z

theorem nodeOutputs_setInputs (sem : Sem V) (sub : Env V → Graph → List (Option V) → Option (List V)) (ρ : Env V) (n : Node)
    (ins : List (Option Name)) (hemp : ins.isEmpty = n.inputs.isEmpty) (args : List (Option V)) :
    nodeOutputs sem sub ρ (n.setInputs ins) args = nodeOutputs sem sub ρ n args := by
  -- of the inputs, `nodeOutputs` only asks whether there are any (a `Constant` node has none)
  have hcd : constDenote sem (n.setInputs ins) = constDenote sem n := by
    unfold constDenote
    rw [isOp_setInputs, setInputs_subs, setInputs_inputs, setInputs_attrs, hemp]
  have hsub : ∀ k, (n.setInputs ins).sub k = n.sub k := fun k => by cases n; rfl
  unfold nodeOutputs
  rw [setInputs_subs, hcd, setInputs_op, setInputs_domain, setInputs_attrs, isOp_setInputs, hsub, hsub]

theorem evalNode_substInputs (sem : Sem V) (sub) (st : St) (ρ : Env V) (h : AliasOK st ρ) (n : Node) :
    evalNode sem sub ρ (n.setInputs (n.inputs.map (substOne st))) = evalNode sem sub ρ n := by
  unfold evalNode
  rw [setInputs_inputs, lookupAll_substOne h, setInputs_outputs]
  cases lookupAll ρ n.inputs with
  | none => rfl
  | some args =>
    simp only [Option.bind]
    rw [nodeOutputs_setInputs sem sub ρ n _ (by simp)]

/-- the invariant of fragment A; `ρ` is the environment in which `todo` is about to run -/
structure Inv2 (sem : Sem V) (st : St) (ρ : Env V) (todo : List Node) : Prop where
  symAlias : ∀ x s, lookupA st.sym x = some s → ∃ y, s = SymVal.alias y
  alias : ∀ x y, lookupA st.sym x = some (.alias y) → ρ x = ρ y
  aliasFut : ∀ x y, lookupA st.sym x = some (.alias y) → ∀ m ∈ todo, m.outputs.contains x = false ∧ m.outputs.contains y = false
  const : ∀ x c, st.constOf x = some c → ρ x = some (sem.tensor c.tok)
  fut : ∀ x c, st.constOf x = some c → ∀ m ∈ todo, m.outputs.contains x = false
  aliasNF : ∀ x y, lookupA st.sym x = some (.alias y) → NF y
  constNF : ∀ x c, st.constOf x = some c → NF x

theorem mentions_of_input {n : Node} {x : Name} (h : some x ∈ n.inputs) : mentionsTop n x = true := by
  simp only [mentionsTop, Bool.or_eq_true, List.contains_iff_mem]
  exact Or.inl h

theorem mentions_of_output {n : Node} {x : Name} (h : n.outputs.contains x = true) : mentionsTop n x = true := by
  simp only [mentionsTop, Bool.or_eq_true]
  exact Or.inr h

theorem not_later_output {n : Node} {rest : List Node} (hord : orderOK (n :: rest) = true) {x : Name}
    (hm : mentionsTop n x = true) : ∀ m ∈ rest, m.outputs.contains x = false := by
  intro m hmem
  cases hc : m.outputs.contains x with
  | false => rfl
  | true =>
    have := orderOK_head hord hmem hc
    rw [hm] at this
    exact absurd this (by decide)

/-- `hc`, `hs`: the new state's facts are old facts, or facts about the outputs of the node just executed that hold in the
new environment. -/
theorem Inv2.step {sem : Sem V} {sub} {st st' : St} {ρ ρ1 : Env V} {n : Node} {rest : List Node}
    (hI : Inv2 sem st ρ (n :: rest)) (hord : orderOK (n :: rest) = true) (he : evalNode sem sub ρ n = some ρ1)
    (hc : ∀ x c, st'.constOf x = some c → st.constOf x = some c ∨
      (n.outputs.contains x = true ∧ ρ1 x = some (sem.tensor c.tok)))
    (hs : ∀ x s, lookupA st'.sym x = some s → lookupA st.sym x = some s ∨
      (∃ y, s = SymVal.alias y ∧ n.outputs.contains x = true ∧ mentionsTop n y = true ∧ ρ1 x = ρ1 y))
    (hnfn : ∀ y, mentionsTop n y = true → NF y) :
    Inv2 sem st' ρ1 rest := by
  have hmemn : n ∈ n :: rest := List.mem_cons_self
  refine ⟨?_, ?_, ?_, ?_, ?_, ?_, ?_⟩
  · intro x s hx
    rcases hs x s hx with h | ⟨y, hy, _⟩
    · exact hI.symAlias x s h
    · exact ⟨y, hy⟩
  · intro x y hx
    rcases hs x _ hx with h | ⟨y', hy', _, _, heq⟩
    · have hf := hI.aliasFut x y h n hmemn
      rw [evalNode_get_other sem he hf.1, evalNode_get_other sem he hf.2]
      exact hI.alias x y h
    · cases hy'
      exact heq
  · intro x y hx m hm
    rcases hs x _ hx with h | ⟨y', hy', hox, hmy, _⟩
    · exact hI.aliasFut x y h m (List.mem_cons_of_mem _ hm)
    · cases hy'
      exact ⟨not_later_output hord (mentions_of_output hox) m hm, not_later_output hord hmy m hm⟩
  · intro x c hx
    rcases hc x c hx with h | ⟨_, h⟩
    · rw [evalNode_get_other sem he (hI.fut x c h n hmemn)]
      exact hI.const x c h
    · exact h
  · intro x c hx m hm
    rcases hc x c hx with h | ⟨hox, _⟩
    · exact hI.fut x c h m (List.mem_cons_of_mem _ hm)
    · exact not_later_output hord (mentions_of_output hox) m hm
  · intro x y hx
    rcases hs x _ hx with h | ⟨y', hy', _, hmy, _⟩
    · exact hI.aliasNF x y h
    · cases hy'
      exact hnfn y hmy
  · intro x c hx
    rcases hc x c hx with h | ⟨hox, _⟩
    · exact hI.constNF x c h
    · exact hnfn x (mentions_of_output hox)

theorem orderOK_subst {sem : Sem V} {st : St} {ρ : Env V} {n : Node} {rest : List Node}
    (hI : Inv2 sem st ρ (n :: rest)) (hord : orderOK (n :: rest) = true) :
    orderOK (n.setInputs (n.inputs.map (substOne st)) :: rest) = true := by
  simp only [orderOK, Bool.and_eq_true, List.all_eq_true] at hord ⊢
  refine ⟨?_, hord.2⟩
  intro m hm o ho
  have hold := hord.1 m hm o ho
  simp only [mentionsTop, Bool.not_eq_true', Bool.or_eq_false_iff] at hold ⊢
  rw [setInputs_outputs, setInputs_inputs]
  refine ⟨?_, hold.2⟩
  cases hc : (n.inputs.map (substOne st)).contains (some o) with
  | false => rfl
  | true =>
    exfalso
    rcases mem_map_substOne (by simpa using hc : some o ∈ n.inputs.map (substOne st)) with hz | ⟨z, _, hy⟩
    · rw [List.contains_iff_mem.mpr hz] at hold
      exact absurd hold.1 (by decide)
    · have := (hI.aliasFut z o hy m (List.mem_cons_of_mem _ hm)).2
      rw [show m.outputs.contains o = true by simpa using ho] at this
      exact absurd this (by decide)

theorem Inv2.replace_head {sem : Sem V} {st : St} {ρ : Env V} {n0 n : Node} {rest : List Node}
    (h : Inv2 sem st ρ (n0 :: rest)) (hout : n.outputs = n0.outputs) : Inv2 sem st ρ (n :: rest) := by
  refine ⟨h.symAlias, h.alias, ?_, h.const, ?_, h.aliasNF, h.constNF⟩
  · intro x y hx m hm
    rcases List.mem_cons.mp hm with rfl | hm'
    · rw [hout]; exact h.aliasFut x y hx n0 List.mem_cons_self
    · exact h.aliasFut x y hx m (List.mem_cons_of_mem _ hm')
  · intro x c hx m hm
    rcases List.mem_cons.mp hm with rfl | hm'
    · rw [hout]; exact h.fut x c hx n0 List.mem_cons_self
    · exact h.fut x c hx m (List.mem_cons_of_mem _ hm')

theorem Inv2.weaken {sem : Sem V} {st st' : St} {ρ : Env V} {todo : List Node} (h : Inv2 sem st ρ todo)
    (hc : ∀ x c, st'.constOf x = some c → st.constOf x = some c)
    (hs : ∀ x s, lookupA st'.sym x = some s → lookupA st.sym x = some s) : Inv2 sem st' ρ todo :=
  ⟨fun x s hx => h.symAlias x s (hs x s hx), fun x y hx => h.alias x y (hs x _ hx),
   fun x y hx => h.aliasFut x y (hs x _ hx), fun x c hx => h.const x c (hc x c hx),
   fun x c hx => h.fut x c (hc x c hx), fun x y hx => h.aliasNF x y (hs x _ hx),
   fun x c hx => h.constNF x c (hc x c hx)⟩

theorem Inv2.sameIS {sem : Sem V} {st st' : St} {ρ : Env V} {todo : List Node} (h : Inv2 sem st ρ todo) (hs : SameIS st st') :
    Inv2 sem st' ρ todo :=
  h.weaken (fun x c hx => by rw [hs.constOf] at hx; exact hx) (fun x s hx => by rw [hs.2] at hx; exact hx)

theorem orderOK_replace_head {n m : Node} {rest : List Node} (hm : ∀ y, mentionsTop m y = true → mentionsTop n y = true)
    (h : orderOK (n :: rest) = true) : orderOK (m :: rest) = true := by
  simp only [orderOK, Bool.and_eq_true, List.all_eq_true] at h ⊢
  refine ⟨?_, h.2⟩
  intro k hk o ho
  have := h.1 k hk o ho
  cases hc : mentionsTop m o with
  | false => rfl
  | true => rw [hm o hc] at this; exact this

theorem constOf_setInfo (st : St) (o x : Name) (v : VInfo) :
    (st.setInfo o v).constOf x = if x = o then v.const else st.constOf x := by
  rw [St.constOf, getInfo_setInfo, apply_ite VInfo.const]
  rfl

theorem processConstant_facts (ctx : Ctx) (st0 : St) (n : Node) :
    (processConstant ctx st0 n).sym = st0.sym ∧
    ∀ x c, (processConstant ctx st0 n).constOf x = some c → st0.constOf x = some c ∨ n.outputs.contains x = true := by
  refine ⟨?_, fun x c hx => (processConstant_info ctx st0 n x).imp (fun h => ?_) id⟩
  · obtain ⟨i, e⟩ := processConstant_writes ctx st0 n
    rw [e]
  · rw [St.constOf, h] at hx
    exact hx

theorem identity_alias_env (sem : Sem V) (sub : Env V → Graph → List (Option V) → Option (List V)) (ρ ρ' : Env V) (n : Node) (x o : Name)
    (hid : ∀ v, sem.op "Identity" "" n.attrs [some v] = some [v]) (hop : n.op = "Identity") (hdom : n.domain = "") (hsubs : n.subs = []) (hin : n.inputs = [some x])
    (hout : n.outputs = [o]) (hne : o ≠ x) (h : evalNode sem sub ρ n = some ρ') : ρ' o = ρ' x := by
  obtain ⟨v, w, ws, hv, hopv, rfl⟩ := evalNode_unary sem sub ρ ρ' n x o hsubs (by simp [Node.isOp, hop]) hin hout h
  rw [hop, hdom, hid v] at hopv
  have hw : v = w := by
    injection hopv with h1
    injection h1
  rw [Env.set_get_same, Env.set_get_ne ρ w (Ne.symm hne), hv, hw]

def ClsI (n : Node) : Prop :=
  n.op = "Identity" ∧ n.domain = "" ∧ ∃ x o, n.inputs = [some x] ∧ n.outputs = [o] ∧ o ≠ x

/-- `Concat` of one operand, or inference-mode `Dropout` (no `training_mode` input) with one declared output -/
def ClsR (n : Node) : Prop :=
  n.domain = "" ∧ ∃ x o, n.outputs = [o] ∧ (∀ y, some y ∈ n.inputs → y ≠ o) ∧
    ((n.op = "Concat" ∧ n.inputs = [some x]) ∨ (n.op = "Dropout" ∧ ∃ tl, n.inputs = some x :: tl ∧ tl.length ≤ 1))

/-- `Cast` of one operand to an element type other than UNDEFINED -/
def ClsC (n : Node) : Prop :=
  n.op = "Cast" ∧ n.domain = "" ∧ ∃ x o, n.inputs = [some x] ∧ n.outputs = [o] ∧ (∀ y, some y ∈ n.inputs → y ≠ o) ∧
    intAttr n "to" none ≠ some 0

def ClsCL (n : Node) : Prop :=
  n.op = "CastLike" ∧ n.domain = "" ∧ n.attrs = [] ∧ ∃ x w o, n.inputs = [some x, some w] ∧ n.outputs = [o] ∧
    (∀ y, some y ∈ n.inputs → y ≠ o)

def FragA (n : Node) : Prop :=
  n.subs = [] ∧ hasRefAttr n = false ∧ (ClsP n ∨ ClsK n ∨ ClsI n ∨ ClsR n ∨ ClsC n ∨ ClsCL n)

def NodeNF (n : Node) : Prop := ∀ y, mentionsTop n y = true → NF y

/-- the two operator facts behind the one-node replacements -/
def ReplLaws (sem : Sem V) : Prop :=
  (∀ attrs (v : V), sem.op "Concat" "" attrs [some v] = some [v]) ∧
  (∀ attrs (v : V) rest vs, rest.length ≤ 1 → sem.op "Dropout" "" attrs (some v :: rest) = some vs → vs.head? = some v)

theorem OpLaws.replLaws {sem : Sem V} (L : OpLaws sem) : ReplLaws sem := by
  refine ⟨L.concat_single, fun attrs v rest vs hlen h => L.dropout_inference attrs v rest vs ?_ h⟩
  cases rest with
  | nil => exact Or.inl rfl
  | cons a r =>
    cases r with
    | nil => exact Or.inr (Or.inl ⟨a, rfl⟩)
    | cons b r' => simp at hlen

/-- whatever constant `_process_constant_node` attributes to the output of a `Constant` node is what the node evaluates to -/
def ConstMarkSound (sem : Sem V) (ctx : Ctx) (n : Node) : Prop :=
  ∀ (sub : Env V → Graph → List (Option V) → Option (List V)) (st0 : St) (x : Name) (c : CInfo) (ρ ρ1 : Env V),
    st0.constOf x = none → (processConstant ctx st0 n).constOf x = some c → n.outputs.contains x = true →
    evalNode sem sub ρ n = some ρ1 → ρ1 x = some (sem.tensor c.tok)

theorem FragA.toBk {n : Node} (h : FragA n) : FragBk n := by
  refine ⟨h.1, h.2.1, ?_⟩
  rcases h.2.2 with hP | hK | ⟨h1, h2, x, o, h3, h4, _⟩ | ⟨h1, x, o, h2, _, h3⟩ | ⟨h1, _, x, o, h2, h3, _⟩ | ⟨h1, _, _, x, w, o, h2, h3, _⟩
  · exact Or.inl hP
  · exact Or.inr (Or.inl hK)
  · exact Or.inr (Or.inr (Or.inl ⟨h1, h2, x, o, h3, h4⟩))
  · refine Or.inr (Or.inr (Or.inr ?_))
    rcases h3 with ⟨hop, hin⟩ | ⟨hop, tl, hin, htl⟩
    · exact clsX_concat1 n x o hop hin h2
    · exact clsX_dropout n x o tl hop hin htl h2
  · exact Or.inr (Or.inr (Or.inr (clsX_cast n x o h1 h2 h3)))
  · exact Or.inr (Or.inr (Or.inr (clsX_castlike n x o [some w] h1 h2 h3)))

theorem FragA.clsK {n : Node} (h : FragA n) (hK : n.isOp "Constant" = true) : ClsK n := by
  rcases h.2.2 with hP | hK' | ⟨hop, _⟩ | ⟨_, _, _, _, _, ⟨hop, _⟩ | ⟨hop, _⟩⟩ | ⟨hop, _⟩ | ⟨hop, _⟩
  · rw [hP.1] at hK
    exact absurd hK (by decide)
  · exact hK'
  all_goals simp [Node.isOp, hop] at hK

/-- `hal`: no alias target is an output of the node, so that a substituted input stays different from the output (the side
condition of `ClsI`, `ClsR`, `ClsC`, `ClsCL`). -/
theorem FragA.substInputs {n0 : Node} (h : FragA n0) (st : St)
    (hal : ∀ x y, lookupA st.sym x = some (.alias y) → n0.outputs.contains y = false) :
    FragA (n0.setInputs (n0.inputs.map (substOne st))) := by
  have hne : ∀ (o : Name), n0.outputs = [o] → (∀ y, some y ∈ n0.inputs → y ≠ o) →
      ∀ y, some y ∈ n0.inputs.map (substOne st) → y ≠ o := by
    intro o ho hno y hy e
    rcases mem_map_substOne hy with hz | ⟨z, _, hz⟩
    · exact hno y hz e
    · have := hal z y hz
      rw [ho, e] at this
      simp at this
  obtain ⟨hsubs, href, hcls⟩ := h
  refine ⟨by rw [setInputs_subs]; exact hsubs, by rw [hasRefAttr_setInputs]; exact href, ?_⟩
  rcases hcls with hP | hK | ⟨hop, hdom, x0, o, hin, hout, hox⟩ | ⟨hdom, x0, o, hout, hno, hkind⟩ |
      ⟨hop, hdom, x0, o, hin, hout, hno, hto⟩ | ⟨hop, hdom, hattrs, x0, w0, o, hin, hout, hno⟩
  · exact Or.inl ⟨by rw [isOp_setInputs]; exact hP.1, fun v => by rw [lookupEvaluator_setInputs]; exact hP.2 v⟩
  · exact Or.inr (Or.inl ⟨by rw [isOp_setInputs]; exact hK.1, by rw [setInputs_inputs, hK.2.1]; rfl,
      by rw [setInputs_outputs]; exact hK.2.2⟩)
  · obtain ⟨x, hx⟩ := substOne_some st x0
    have hin' : n0.inputs.map (substOne st) = [some x] := by rw [hin]; simp [hx]
    refine Or.inr (Or.inr (Or.inl ⟨by rw [setInputs_op]; exact hop, by rw [setInputs_domain]; exact hdom, x, o,
      by rw [setInputs_inputs, hin'], by rw [setInputs_outputs]; exact hout, ?_⟩))
    exact fun e => hne o hout (fun y hy e' => hox (by
      rw [hin] at hy
      rw [← e', Option.some.inj (List.mem_singleton.mp hy)])) x (by rw [hin']; simp) e.symm
  · obtain ⟨x, hx⟩ := substOne_some st x0
    refine Or.inr (Or.inr (Or.inr (Or.inl ⟨by rw [setInputs_domain]; exact hdom, x, o, by rw [setInputs_outputs]; exact hout,
      by rw [setInputs_inputs]; exact hne o hout hno, ?_⟩)))
    rw [setInputs_op, setInputs_inputs]
    rcases hkind with ⟨hop, hin⟩ | ⟨hop, tl, hin, htl⟩
    · exact Or.inl ⟨hop, by rw [hin]; simp [hx]⟩
    · exact Or.inr ⟨hop, tl.map (substOne st), by rw [hin]; simp [hx], by simpa using htl⟩
  · obtain ⟨x, hx⟩ := substOne_some st x0
    refine Or.inr (Or.inr (Or.inr (Or.inr (Or.inl ⟨by rw [setInputs_op]; exact hop, by rw [setInputs_domain]; exact hdom, x, o,
      by rw [setInputs_inputs, hin]; simp [hx], by rw [setInputs_outputs]; exact hout,
      by rw [setInputs_inputs]; exact hne o hout hno, ?_⟩))))
    have : intAttr (n0.setInputs (n0.inputs.map (substOne st))) "to" none = intAttr n0 "to" none := by cases n0; rfl
    rw [this]
    exact hto
  · obtain ⟨x, hx⟩ := substOne_some st x0
    obtain ⟨w, hw⟩ := substOne_some st w0
    exact Or.inr (Or.inr (Or.inr (Or.inr (Or.inr ⟨by rw [setInputs_op]; exact hop, by rw [setInputs_domain]; exact hdom,
      by rw [setInputs_attrs]; exact hattrs, x, w, o, by rw [setInputs_inputs, hin]; simp [hx, hw],
      by rw [setInputs_outputs]; exact hout, by rw [setInputs_inputs]; exact hne o hout hno⟩))))

/-- What a stage of `process_node` may add to the state's knowledge: `st'` knows what `st` knew, plus facts about the
outputs of `n` that hold once `n` has run (in `ρ1`) — for element types: at the end of the node list (in `ρf`). -/
structure Upd (sem : Sem V) (L : OpLaws sem) (n : Node) (ρ1 ρf : Env V) (st st' : St) : Prop where
  const : ∀ x c, st'.constOf x = some c → st.constOf x = some c ∨
    (n.outputs.contains x = true ∧ ρ1 x = some (sem.tensor c.tok))
  sym : ∀ x s, lookupA st'.sym x = some s → lookupA st.sym x = some s ∨
    (∃ y, s = SymVal.alias y ∧ n.outputs.contains x = true ∧ mentionsTop n y = true ∧ ρ1 x = ρ1 y)
  dtype : ∀ x dt, (st'.getInfo x).dtype = some dt → (st.getInfo x).dtype = some dt ∨
    (NF x ∧ ∀ v, ρf x = some v → L.hasDtype v dt)

theorem Upd.of_sameIS {sem : Sem V} {L : OpLaws sem} {n : Node} {ρ1 ρf : Env V} {st st' : St} (h : SameIS st st') :
    Upd sem L n ρ1 ρf st st' :=
  ⟨fun x c hx => Or.inl (by rw [h.constOf] at hx; exact hx), fun x s hx => Or.inl (by rw [h.2] at hx; exact hx),
   fun x dt hx => Or.inl (by rw [getInfo_sameIS h] at hx; exact hx)⟩

theorem Upd.trans {sem : Sem V} {L : OpLaws sem} {n : Node} {ρ1 ρf : Env V} {a b c : St}
    (h1 : Upd sem L n ρ1 ρf a b) (h2 : Upd sem L n ρ1 ρf b c) : Upd sem L n ρ1 ρf a c :=
  ⟨fun x c' hx => (h2.const x c' hx).elim (h1.const x c') Or.inr,
   fun x s hx => (h2.sym x s hx).elim (h1.sym x s) Or.inr,
   fun x dt hx => (h2.dtype x dt hx).elim (h1.dtype x dt) Or.inr⟩

theorem upd_processConstant {sem : Sem V} {L : OpLaws sem} {ctx : Ctx} {n : Node} (hcms : ConstMarkSound sem ctx n)
    (hcmt : ConstMarkTyped L ctx n) (sub : Env V → Graph → List (Option V) → Option (List V)) (st0 : St) (ρ ρ1 ρf : Env V) (he1 : evalNode sem sub ρ n = some ρ1)
    (hfin : ∀ y, mentionsTop n y = true → ρf y = ρ1 y) (hnfn : NodeNF n)
    (hfut : ∀ x c, st0.constOf x = some c → n.outputs.contains x = false) :
    Upd sem L n ρ1 ρf st0 (processConstant ctx st0 n) := by
  obtain ⟨hpsym, hpc⟩ := processConstant_facts ctx st0 n
  refine ⟨?_, fun x s hx => Or.inl (by rw [hpsym] at hx; exact hx), ?_⟩
  · intro x c hx
    rcases hpc x c hx with h | h
    · exact Or.inl h
    · cases hold : st0.constOf x with
      | some c' => rw [hfut x c' hold] at h; exact absurd h (by decide)
      | none => exact Or.inr ⟨h, hcms sub st0 x c ρ ρ1 hold hx h he1⟩
  · intro y dt hy
    by_cases hch : (processConstant ctx st0 n).getInfo y = st0.getInfo y
    · exact Or.inl (by rw [hch] at hy; exact hy)
    · have hmy := mentions_of_output ((processConstant_info ctx st0 n y).resolve_left hch)
      refine Or.inr ⟨hnfn y hmy, fun w hw => ?_⟩
      rw [hfin y hmy] at hw
      exact hcmt sub st0 y dt ρ ρ1 w hch hy he1 hw

/-- Whatever the evaluator of `n` answers in state `st1` is right for the run `ρ → ρ1` of `n` (and `ρf` at the end of the
list): "nothing" leaves the constants alone and adds only true facts to the state; a one-node replacement computes what `n`
computes and stays in fragment A. -/
def EvSound (sem : Sem V) (L : OpLaws sem) (sub : Env V → Graph → List (Option V) → Option (List V)) (n : Node) (st1 : St) (v : Nat) (ρ ρ1 ρf : Env V) : Prop :=
  (∀ stG, evalPartial n v st1 = (EvRes.none, stG) →
    (∀ y, stG.constOf y = st1.constOf y) ∧ Upd sem L n ρ1 ρf st1 stG) ∧
  (∀ x opn attrs st2 o, n.outputs = [o] → evalPartial n v st1 = (EvRes.repl (oneRepl st1 opn x attrs), st2) →
    SameIS st1 st2 ∧ evalNode sem sub ρ (mkNode opn [some x] [o] attrs) = some ρ1 ∧ FragA (mkNode opn [some x] [o] attrs))

theorem EvSound.of_none {sem : Sem V} {L : OpLaws sem} {sub : Env V → Graph → List (Option V) → Option (List V)} {n : Node} {st1 st2 : St} {v : Nat} {ρ ρ1 ρf : Env V}
    (hep : evalPartial n v st1 = (EvRes.none, st2)) (hc : ∀ y, st2.constOf y = st1.constOf y)
    (hU : Upd sem L n ρ1 ρf st1 st2) : EvSound sem L sub n st1 v ρ ρ1 ρf := by
  refine ⟨fun stG h => ?_, fun x opn attrs st2' o _ h => ?_⟩
  · rw [hep] at h
    cases h
    exact ⟨hc, hU⟩
  · rw [hep] at h
    cases h

theorem EvSound.of_repl {sem : Sem V} {L : OpLaws sem} {sub : Env V → Graph → List (Option V) → Option (List V)} {n : Node} {st1 st2 : St} {v : Nat} {ρ ρ1 ρf : Env V}
    {x o : Name} {opn : String} {attrs : List (String × Attr)}
    (hep : evalPartial n v st1 = (EvRes.repl (oneRepl st1 opn x attrs), st2)) (hS : SameIS st1 st2)
    (hout : n.outputs = [o]) (hev : evalNode sem sub ρ (mkNode opn [some x] [o] attrs) = some ρ1 ∧
      FragA (mkNode opn [some x] [o] attrs)) : EvSound sem L sub n st1 v ρ ρ1 ρf := by
  refine ⟨fun stG h => ?_, fun x' opn' attrs' st2' o' ho h => ?_⟩
  · rw [hep] at h
    cases h
  · rw [hep] at h
    simp only [oneRepl, mkNode, Prod.mk.injEq, EvRes.repl.injEq, Repl.mk.injEq, List.cons.injEq, Node.mk.injEq,
      Option.some.injEq, and_true, true_and] at h
    obtain ⟨⟨rfl, rfl, rfl⟩, rfl⟩ := h
    rw [hout] at ho
    cases ho
    exact ⟨hS, hev⟩

theorem fragA_identity (x o : Name) (hox : o ≠ x) : FragA (mkNode "Identity" [some x] [o]) :=
  ⟨rfl, rfl, Or.inr (Or.inr (Or.inl ⟨rfl, rfl, x, o, rfl, rfl, hox⟩))⟩

theorem evSound_plain {sem : Sem V} {L : OpLaws sem} {sub : Env V → Graph → List (Option V) → Option (List V)} {n : Node} (st1 : St)
    {v : Nat} (hev : lookupEvaluator n v = none) (ρ ρ1 ρf : Env V) : EvSound sem L sub n st1 v ρ ρ1 ρf :=
  EvSound.of_none (evalPartial_of_none hev st1) (fun _ => rfl) (Upd.of_sameIS (SameIS.refl st1))

theorem evSound_identity {sem : Sem V} (L : OpLaws sem) (sub : Env V → Graph → List (Option V) → Option (List V)) {n : Node} (hcls : ClsI n)
    (hsubs : n.subs = []) (st1 : St) (v : Nat) (ρ ρ1 ρf : Env V) (he1 : evalNode sem sub ρ n = some ρ1)
    (hfin : ∀ y, mentionsTop n y = true → ρf y = ρ1 y) (hnfn : NodeNF n) (hD1 : DtOK L st1 ρf) :
    EvSound sem L sub n st1 v ρ ρ1 ρf := by
  obtain ⟨hop, hdom, x, o, hin, hout, hox⟩ := hcls
  obtain ⟨st2, hep, hsym2, hc2, _, _, _, _, hdt2⟩ := evalPartial_identity st1 n v x o hop hdom hin hout
  have hmx : mentionsTop n x = true := mentions_of_input (by rw [hin]; simp)
  have hmo : mentionsTop n o = true := mentions_of_output (by rw [hout]; simp)
  have halias : ρ1 o = ρ1 x := identity_alias_env sem sub ρ ρ1 n x o (L.identity n.attrs) hop hdom hsubs hin hout hox he1
  refine EvSound.of_none hep hc2 ⟨fun y c hy => Or.inl (by rw [hc2] at hy; exact hy), ?_, ?_⟩
  · intro x' s hx
    rw [hsym2, lookupA_insert] at hx
    by_cases hxo : x' = o
    · rw [if_pos hxo] at hx
      exact Or.inr ⟨x, (Option.some.inj hx).symm, by rw [hxo, hout]; simp, hmx, by rw [hxo]; exact halias⟩
    · rw [if_neg hxo] at hx
      exact Or.inl hx
  · intro y dt hy
    rcases hdt2 y dt hy with h | ⟨hyx, ho⟩
    · exact Or.inl h
    · subst hyx
      refine Or.inr ⟨hnfn y hmx, fun w hw => ?_⟩
      rw [hfin y hmx, ← halias, ← hfin o hmo] at hw
      exact hD1.1 o w dt hw ho

/-- `Concat` of one operand, inference-mode `Dropout`: replaced by `Identity(first input)` wherever an evaluator is registered -/
theorem evSound_first {sem : Sem V} (L : OpLaws sem) (sub : Env V → Graph → List (Option V) → Option (List V)) {n : Node}
    (hcls : ClsR n) (hsubs : n.subs = []) (st1 : St) (v : Nat) (ρ ρ1 ρf : Env V)
    (he1 : evalNode sem sub ρ n = some ρ1) : EvSound sem L sub n st1 v ρ ρ1 ρf := by
  obtain ⟨hdom, x, o, hout, hneo, hkind⟩ := hcls
  have hnc : n.isOp "Constant" = false := by
    rcases hkind with ⟨hop, _⟩ | ⟨hop, _⟩ <;> simp [Node.isOp, hop]
  by_cases hreg : n.op = "Dropout" ∧ v < 12
  · have hev : lookupEvaluator n v = none := by
      unfold lookupEvaluator
      have : ¬ 12 ≤ v := by omega
      simp [hdom, hreg.1, this]
    exact evSound_plain st1 hev ρ ρ1 ρf
  · -- the node returns its first input first
    obtain ⟨tl, hin, hRid, hlaw⟩ : ∃ tl, n.inputs = some x :: tl ∧ ReplId n v x ∧
        (∀ (w : V) args vs, args.length = tl.length →
          sem.op n.op n.domain n.attrs (some w :: args) = some vs → vs.head? = some w) := by
      rcases hkind with ⟨hop, hin⟩ | ⟨hop, tl, hin, htl⟩
      · refine ⟨[], hin, ⟨hdom, Or.inl ⟨hop, hin⟩⟩, fun w args vs hlen hop' => ?_⟩
        have hargs : args = [] := List.eq_nil_of_length_eq_zero (by simpa using hlen)
        rw [hargs, hop, hdom, L.replLaws.1 n.attrs w] at hop'
        rw [← Option.some.inj hop']
        rfl
      · have hv : 12 ≤ v := Nat.le_of_not_lt fun h => hreg ⟨hop, h⟩
        refine ⟨tl, hin, ⟨hdom, Or.inr ⟨hop, hv, by rw [hout]; rfl, tl, hin, htl⟩⟩, fun w args vs hlen hop' => ?_⟩
        rw [hop, hdom] at hop'
        exact L.replLaws.2 n.attrs w args vs (by rw [hlen]; exact htl) hop'
    obtain ⟨st2, hep, his2, _⟩ := evalPartial_replId st1 n v x hRid
    exact EvSound.of_repl hep his2 hout ⟨evalNode_first_input sem sub ρ ρ1 n x o tl hsubs hnc hin hout
        (fun w args vs _ hargs hop' => hlaw w args vs (lookupAll_length tl args hargs) hop') (L.identity []) he1,
      fragA_identity x o (fun e => hneo x (by rw [hin]; simp) e.symm)⟩

theorem evSound_cast {sem : Sem V} (L : OpLaws sem) (hct : CastTyped L) (sub : Env V → Graph → List (Option V) → Option (List V)) {n : Node}
    (hcls : ClsC n) (hsubs : n.subs = []) (st1 : St) (v : Nat) (ρ ρ1 ρf : Env V) (he1 : evalNode sem sub ρ n = some ρ1)
    (hfin : ∀ y, mentionsTop n y = true → ρf y = ρ1 y) (hnfn : NodeNF n) (hD1 : DtOK L st1 ρf) :
    EvSound sem L sub n st1 v ρ ρ1 ρf := by
  obtain ⟨hop, hdom, x, o, hin, hout, hneo, hto0⟩ := hcls
  have hnc : n.isOp "Constant" = false := by simp [Node.isOp, hop]
  have hmx : mentionsTop n x = true := mentions_of_input (by rw [hin]; simp)
  have hmo : mentionsTop n o = true := mentions_of_output (by rw [hout]; simp)
  have hox : o ≠ x := fun e => hneo x (by rw [hin]; simp) e.symm
  obtain ⟨vx, wo, ws, hvx, hopx, hρ1⟩ := evalNode_unary sem sub ρ ρ1 n x o hsubs hnc hin hout he1
  rw [hop, hdom] at hopx
  rcases evalPartial_cast st1 n v x o hop hdom hin hout with ⟨st2, hep, hsym2, hc2, hdt2, _⟩ | ⟨st2, to, hep, his2, hattr, hdt, _⟩
  · -- the requested element type is recorded for the output
    refine EvSound.of_none hep hc2 ⟨fun y c hy => Or.inl (by rw [hc2] at hy; exact hy),
      fun y s hy => Or.inl (by rw [hsym2] at hy; exact hy), ?_⟩
    intro y dt hy
    rcases hdt2 y dt hy with h | ⟨hyo, to, hattr, hdtto⟩
    · exact Or.inl h
    · subst hyo
      refine Or.inr ⟨hnfn y hmo, fun w hw => ?_⟩
      rw [hfin y hmo, hρ1, Env.set_get_same] at hw
      rw [← Option.some.inj hw, hdtto]
      exact hct n.attrs vx wo ws to hopx (intAttr_some' hattr)
  · -- the annotated element type of `x` is `to`, and truthful: `Cast` is the identity on `x`
    have hxfin : ρf x = some vx := by rw [hfin x hmx, hρ1, Env.set_get_ne ρ wo hox.symm, hvx]
    have hsem := cast_to_annotated L st1 n x to vx hattr hto0 hdt fun dx hdx => hD1.1 x vx dx hxfin hdx
    refine EvSound.of_repl hep his2 hout
      ⟨evalNode_first_input sem sub ρ ρ1 n x o [] hsubs hnc hin hout (fun w args vs hw hargs hop' => ?_) (L.identity []) he1,
      fragA_identity x o hox⟩
    have hargs' : args = [] := by simpa [lookupAll] using hargs.symm
    rw [hvx] at hw
    have hwv : vx = w := Option.some.inj hw
    subst hwv
    rw [hargs', hop, hdom, hsem] at hop'
    rw [← Option.some.inj hop']
    rfl

theorem evSound_castlike {sem : Sem V} (L : OpLaws sem) (sub : Env V → Graph → List (Option V) → Option (List V)) {n : Node}
    (hcls : ClsCL n) (hsubs : n.subs = []) (st1 : St) (v : Nat) (ρ ρ1 ρf : Env V) (he1 : evalNode sem sub ρ n = some ρ1)
    (hfin : ∀ y, mentionsTop n y = true → ρf y = ρ1 y) (hD1 : DtOK L st1 ρf) :
    EvSound sem L sub n st1 v ρ ρ1 ρf := by
  obtain ⟨hop, hdom, hattrs, x, w, o, hin, hout, hneo⟩ := hcls
  have hnc : n.isOp "Constant" = false := by simp [Node.isOp, hop]
  have hmx : mentionsTop n x = true := mentions_of_input (by rw [hin]; simp)
  have hmw : mentionsTop n w = true := mentions_of_input (by rw [hin]; simp)
  have hox : o ≠ x := fun e => hneo x (by rw [hin]; simp) e.symm
  have how : o ≠ w := fun e => hneo w (by rw [hin]; simp) e.symm
  obtain ⟨vx, vw, hvx, hvw⟩ : ∃ vx vw, ρ x = some vx ∧ ρ w = some vw := by
    simp only [evalNode, hin, lookupAll, lookupIn] at he1
    cases hx : ρ x with
    | none => simp [hx] at he1
    | some vx =>
      cases hw : ρ w with
      | none => simp [hx, hw] at he1
      | some vw => exact ⟨vx, vw, rfl, rfl⟩
  have hfinx : ρf x = some vx := by
    rw [hfin x hmx, evalNode_get_other sem he1 (by rw [hout]; simp; exact hox.symm), hvx]
  have hfinw : ρf w = some vw := by
    rw [hfin w hmw, evalNode_get_other sem he1 (by rw [hout]; simp; exact how.symm), hvw]
  rcases evalPartial_castlike st1 n v x w hop hdom hin with ⟨st2, hep, his2⟩ | ⟨st2, dw, hep, his2, hdw0, hdw, hdx⟩ |
      ⟨st2, dw, hep, his2, hdw0, hdw⟩
  · exact EvSound.of_none hep his2.constOf (Upd.of_sameIS his2)
  · have hcl := L.castlike_is_cast vx vw dw (hD1.1 w vw dw hfinw hdw)
    have hsame := L.cast_same [("to", Attr.int dw)] vx dw (hD1.1 x vx dw hfinx hdx) rfl
    refine EvSound.of_repl hep his2 hout
      ⟨evalNode_first_input sem sub ρ ρ1 n x o [some w] hsubs hnc hin hout (fun u args vs hu hargs hop' => ?_)
      (L.identity []) he1, fragA_identity x o hox⟩
    have hargs' : args = [some vw] := by
      simp [lookupAll, lookupIn, hvw] at hargs
      exact hargs.symm
    rw [hvx] at hu
    have huv : vx = u := Option.some.inj hu
    subst huv
    rw [hargs', hop, hdom, hattrs, hcl, hsame] at hop'
    rw [← Option.some.inj hop']
    rfl
  · have hcl := L.castlike_is_cast vx vw dw (hD1.1 w vw dw hfinw hdw)
    have hmc : (mkNode "Cast" [some x] [o] [("to", Attr.int dw)]).isOp "Constant" = false := by
      simp [Node.isOp, mkNode, Node.op]
    refine EvSound.of_repl hep his2 hout ⟨?_, ?_⟩
    · rw [← he1]
      apply evalNode_congr_op sem sub ρ n _ hsubs rfl hnc hmc (by rw [hout]; rfl) [some vx, some vw] [some vx]
        (by simp [hin, lookupAll, lookupIn, hvx, hvw]) (by simp [mkNode, Node.inputs, lookupAll, lookupIn, hvx])
      show sem.op "Cast" "" [("to", Attr.int dw)] [some vx] = sem.op n.op n.domain n.attrs [some vx, some vw]
      rw [hop, hdom, hattrs, hcl]
    · refine ⟨rfl, rfl, Or.inr (Or.inr (Or.inr (Or.inr (Or.inl ⟨rfl, rfl, x, o, rfl, rfl, ?_, ?_⟩))))⟩
      · intro y hy
        have : y = x := by simpa [mkNode, Node.inputs] using hy
        rw [this]
        exact hox.symm
      · intro h
        have : intAttr (mkNode "Cast" [some x] [o] [("to", Attr.int dw)]) "to" none = some (dw : Int) := by
          simp [intAttr, Node.attr, mkNode, Node.attrs]
        rw [this] at h
        exact hdw0 (by exact_mod_cast (Option.some.inj h))

theorem FragA.evSound {sem : Sem V} (L : OpLaws sem) (hct : CastTyped L)
    (sub : Env V → Graph → List (Option V) → Option (List V)) {n : Node} (hfa : FragA n) (hnc : n.isOp "Constant" = false) (st1 : St) (v : Nat) (ρ ρ1 ρf : Env V)
    (he1 : evalNode sem sub ρ n = some ρ1) (hfin : ∀ y, mentionsTop n y = true → ρf y = ρ1 y) (hnfn : NodeNF n)
    (hD1 : DtOK L st1 ρf) : EvSound sem L sub n st1 v ρ ρ1 ρf := by
  rcases hfa.2.2 with hP | hK | hI | hR | hC | hCL
  · exact evSound_plain st1 (hP.2 v) ρ ρ1 ρf
  · rw [hK.1] at hnc
    exact absurd hnc (by decide)
  · exact evSound_identity L sub hI hfa.1 st1 v ρ ρ1 ρf he1 hfin hnfn hD1
  · exact evSound_first L sub hR hfa.1 st1 v ρ ρ1 ρf he1
  · exact evSound_cast L hct sub hC hfa.1 st1 v ρ ρ1 ρf he1 hfin hnfn hD1
  · exact evSound_castlike L sub hCL hfa.1 st1 v ρ ρ1 ρf he1 hfin hD1

/-- What the three outcomes of a turn (`visitNodes_step`) have to do under an invariant `I st ρ todo` (`ρ`: the environment
in which `todo` is about to run; the whole list ends in `ρf`), when the head `n0` runs from `ρ` to `ρ1`: a kept node has the
same effect and is in order with the rest; a folded node binds the initializer that is registered; the node put in the place
of `n0` has the same effect; and the invariant holds for what is left. -/
def TurnSound (sem : Sem V) (ctx : Ctx) (sub : Env V → Graph → List (Option V) → Option (List V)) (ρf : Env V)
    (I : St → Env V → List Node → Prop) : Prop :=
  ∀ (st : St) (n0 n : Node) (st1 : St) (rest : List Node) (ρ ρ1 : Env V),
    TurnPre ctx st n0 n st1 → I st ρ (n0 :: rest) → evalNode sem sub ρ n0 = some ρ1 →
    evalNodes (evalNode sem sub) ρ1 rest = some ρf →
    (∀ st', TurnKept n st1 st' → evalNode sem sub ρ n = some ρ1 ∧ n.subs = [] ∧
      (∀ m ∈ rest, ∀ o, m.outputs.contains o = true → mentionsTop n o = false) ∧ I st' ρ1 rest) ∧
    (∀ stG st2 st3 v c o l, TurnFolded ctx n st1 stG st2 st3 v c o →
      ρ1 = ρ.set o (sem.tensor c.tok) ∧ I (afterRepl st3 n o (freshOf st2) [] l) ρ1 rest) ∧
    (∀ st2 v x x' opn attrs o l, TurnReplaced n0 n st1 st2 v x x' opn attrs o →
      evalNode sem sub ρ (mkNode opn [some x'] [o] attrs) = some ρ1 ∧
      I (afterRepl st2 n o (freshOf st1) [mkNode opn [some x'] [o] attrs] l) ρ (mkNode opn [some x'] [o] attrs :: rest))

theorem visitNodes_refines (sem : Sem V) (ctx : Ctx) (hnf : ctx.isFunction = false) (vg : St → Graph → St × Graph)
    (sub : Env V → Graph → List (Option V) → Option (List V)) (ρf : Env V)
    (I : St → Env V → List Node → Prop) (hI : TurnSound sem ctx sub ρf I) :
    ∀ (f : Nat) (todo : List Node) (st : St) (acc : List Node) (ai : List (Name × String)), (∀ n ∈ todo, FragBk n) →
      ∀ ρ : Env V, I st ρ todo → (∀ n ∈ todo, n.subs = []) → evalNodes (evalNode sem sub) ρ todo = some ρf →
      ∃ new added, (visitNodes ctx vg f st todo acc ai).2.1 = acc.reverse ++ new ∧
        (visitNodes ctx vg f st todo acc ai).2.2 = ai ++ added ∧
        (∀ p ∈ added, ∃ m ∈ todo, m.outputs.contains p.1 = true) ∧
        evalNodes (evalNode sem sub) (bindInits sem ρ added) new = some ρf ∧
        ((visitNodes ctx vg f st todo acc ai).1.err.isSome = true ∨ I (visitNodes ctx vg f st todo acc ai).1 ρf []) ∧
        (∀ m ∈ new, m.subs = []) := by
  refine visitNodes_induct ctx hnf vg (motive := fun _ st todo acc ai r => ∀ ρ : Env V, I st ρ todo →
    (∀ n ∈ todo, n.subs = []) → evalNodes (evalNode sem sub) ρ todo = some ρf →
    ∃ new added, r.2.1 = acc.reverse ++ new ∧ r.2.2 = ai ++ added ∧
      (∀ p ∈ added, ∃ m ∈ todo, m.outputs.contains p.1 = true) ∧
      evalNodes (evalNode sem sub) (bindInits sem ρ added) new = some ρf ∧
      (r.1.err.isSome = true ∨ I r.1 ρf []) ∧ ∀ m ∈ new, m.subs = []) ?_ ?_ ?_ ?_
  · intro f st todo acc ai e hk ρ hinv hsubs he
    refine ⟨todo, [], rfl, by simp, by simp, he, ?_, hsubs⟩
    rcases hk with ⟨_, he'⟩ | ⟨rfl, rfl | herr⟩
    · exact Or.inl he'
    · obtain rfl : ρ = ρf := by simpa [evalNodes] using he
      exact Or.inr hinv
    · exact Or.inl herr
  · intro f st n0 rest acc ai n st1 st' r hp hk ih ρ hinv hsubs he
    obtain ⟨ρ1, he0, he2⟩ := evalNodes_cons_some he
    obtain ⟨hen, hns, hord, hinv'⟩ := (hI st n0 n st1 rest ρ ρ1 hp hinv he0 he2).1 st' hk
    obtain ⟨newr, addedr, h1, h2, h3, h4, h5, h6⟩ := ih ρ1 hinv' (fun m hm => hsubs m (List.mem_cons_of_mem _ hm)) he2
    refine ⟨n :: newr, addedr, by rw [h1]; simp, h2, ?_, ?_, h5, ?_⟩
    · intro p hp
      obtain ⟨m, hm, hmo⟩ := h3 p hp
      exact ⟨m, List.mem_cons_of_mem _ hm, hmo⟩
    · -- the initializers registered later are pushed in front of the kept node, which does not mention them
      simp only [evalNodes]
      rw [evalNode_bindInits sem hns addedr ρ (fun p hp => by
        obtain ⟨m, hm, hmo⟩ := h3 p hp
        exact hord m hm p.1 hmo), hen]
      exact h4
    · intro m hm
      rcases List.mem_cons.mp hm with rfl | hm'
      · exact hns
      · exact h6 m hm'
  · intro f st n0 rest acc ai n st1 stG st2 st3 v c o l r hp hf ih ρ hinv hsubs he
    obtain ⟨ρ1, he0, he2⟩ := evalNodes_cons_some he
    obtain ⟨hρ1, hinv'⟩ := (hI st n0 n st1 rest ρ ρ1 hp hinv he0 he2).2.1 stG st2 st3 v c o l hf
    obtain ⟨newr, addedr, h1, h2, h3, h4, h5, h6⟩ := ih ρ1 hinv' (fun m hm => hsubs m (List.mem_cons_of_mem _ hm)) he2
    refine ⟨newr, (o, c.tok) :: addedr, h1, by rw [h2]; simp, ?_, ?_, h5, h6⟩
    · intro p hp'
      rcases List.mem_cons.mp hp' with rfl | hp'
      · exact ⟨n0, List.mem_cons_self, by rw [← hp.outputs, hf.out]; simp⟩
      · obtain ⟨m, hm, hmo⟩ := h3 p hp'
        exact ⟨m, List.mem_cons_of_mem _ hm, hmo⟩
    · simp only [bindInits]
      rw [← hρ1]
      exact h4
  · intro f st n0 rest acc ai n st1 st2 v x x' opn attrs o l r hp hr ih ρ hinv hsubs he
    obtain ⟨ρ1, he0, he2⟩ := evalNodes_cons_some he
    obtain ⟨hem, hinv'⟩ := (hI st n0 n st1 rest ρ ρ1 hp hinv he0 he2).2.2 st2 v x x' opn attrs o l hr
    have hev' : evalNodes (evalNode sem sub) ρ (mkNode opn [some x'] [o] attrs :: rest) = some ρf := by
      simp only [evalNodes, hem, Option.bind]
      exact he2
    obtain ⟨newr, addedr, h1, h2, h3, h4, h5, h6⟩ := ih ρ hinv'
      (fun k hk => (List.mem_cons.mp hk).elim (fun e => e ▸ rfl) fun hk' => hsubs k (List.mem_cons_of_mem _ hk')) hev'
    refine ⟨newr, addedr, h1, h2, ?_, h4, h5, h6⟩
    intro p hp'
    obtain ⟨k, hk, hko⟩ := h3 p hp'
    rcases List.mem_cons.mp hk with rfl | hk'
    · exact ⟨n0, List.mem_cons_self, by rw [← hp.outputs, hr.out]; exact hko⟩
    · exact ⟨k, List.mem_cons_of_mem _ hk', hko⟩

theorem upd_fold {sem : Sem V} {L : OpLaws sem} {ctx : Ctx} (hot : OracleTyped L ctx) {n : Node} {ρ1 ρf : Env V}
    {stG st2 st3 : St} {o : Name} {c : CInfo} {key : String} (hs2 : SameIS stG st2)
    (hora : lookupA ctx.oracle key = some (.single c)) (ho : n.outputs = [o]) (hsym3 : st3.sym = st2.sym)
    (hinfo3 : st3.info = insertA st2.info (freshOf st2) (foldInfo c)) (hnfo : NF o)
    (hρ1 : ρ1 o = some (sem.tensor c.tok)) (hfino : ρf o = ρ1 o) (l : List Name) :
    Upd sem L n ρ1 ρf stG (afterRepl st3 n o (freshOf st2) [] l) := by
  have hs4 : SameIS (inheritInfo st3 [(o, freshOf st2)]) (afterRepl st3 n o (freshOf st2) [] l) :=
    sameIS_afterRepl st3 n o (freshOf st2) [] l
  have hfold := inheritInfo_fold st2 st3 o (freshOf st2) c hinfo3
  refine ⟨?_, ?_, ?_⟩
  · intro x c' hx
    rw [hs4.constOf] at hx
    rcases hfold.2 x c' hx with ⟨rfl, rfl⟩ | hx2
    · exact Or.inr ⟨by simp [ho], hρ1⟩
    · rw [hs2.constOf x] at hx2
      exact Or.inl hx2
  · intro x s hx
    rw [hs4.2, hfold.1, hsym3, hs2.2] at hx
    exact Or.inl (lookupA_of_erase hx).2
  · intro y dt hy
    rw [getInfo_sameIS hs4, getInfo_inheritInfo] at hy
    have hg3 : ∀ z, st3.getInfo z = if z = freshOf st2 then foldInfo c else st2.getInfo z := by
      intro z
      simp only [St.getInfo, hinfo3, lookupA_insert]
      by_cases hz : z = freshOf st2 <;> simp [hz]
    by_cases hyf : y = freshOf st2
    · simp [hyf] at hy
    · rw [if_neg hyf] at hy
      by_cases hyo : y = o
      · subst hyo
        simp only [if_true, hg3, hyf, if_false] at hy
        cases hold : (st2.getInfo y).dtype with
        | some d =>
          rw [hold] at hy
          exact Or.inl (by rw [← getInfo_sameIS hs2, hold]; exact hy)
        | none =>
          rw [hold] at hy
          simp only [orElse, foldInfo, Option.some.injEq] at hy
          refine Or.inr ⟨hnfo, fun w hw => ?_⟩
          rw [hfino, hρ1] at hw
          rw [← Option.some.inj hw, ← hy]
          exact hot _ c hora
      · rw [if_neg hyo, hg3, if_neg hyf] at hy
        exact Or.inl (by rw [← getInfo_sameIS hs2]; exact hy)

theorem afterRepl_knows (st2 : St) (n : Node) (o fv : Name) (m : Node) (l : List Name) (hfv : st2.constOf fv = none)
    (hfvd : (st2.getInfo fv).dtype = none) :
    (∀ y c, (afterRepl st2 n o fv [m] l).constOf y = some c → st2.constOf y = some c) ∧
    (∀ y s, lookupA (afterRepl st2 n o fv [m] l).sym y = some s → lookupA st2.sym y = some s) ∧
    (∀ y dt, ((afterRepl st2 n o fv [m] l).getInfo y).dtype = some dt → (st2.getInfo y).dtype = some dt) := by
  have hs4 := sameIS_afterRepl st2 n o fv [m] l
  refine ⟨fun y c hy => inheritInfo_plain st2 o fv hfv y c (by rw [hs4.constOf] at hy; exact hy), ?_, ?_⟩
  · intro y s hy
    rw [hs4.2, inheritInfo_sym] at hy
    exact (lookupA_of_erase hy).2
  · intro y dt hy
    rw [getInfo_sameIS hs4, getInfo_inheritInfo] at hy
    by_cases hyf : y = fv
    · simp [hyf] at hy
    · rw [if_neg hyf] at hy
      by_cases hyo : y = o
      · subst hyo
        simp only [if_true, hfvd] at hy
        cases hold : (st2.getInfo y).dtype with
        | some d => rw [hold] at hy; exact hy
        | none => rw [hold] at hy; simp [orElse] at hy
      · rw [if_neg hyo] at hy
        exact hy

structure SimA (sem : Sem V) (ctx : Ctx) (L : OpLaws sem) (ρf : Env V) (st : St) (ρ : Env V) (todo : List Node) : Prop where
  frag : ∀ n ∈ todo, FragA n ∧ (n.isOp "Constant" = true → ConstMarkSound sem ctx n)
  nf : ∀ n ∈ todo, NodeNF n
  cmt : ∀ n ∈ todo, n.isOp "Constant" = true → ConstMarkTyped L ctx n
  order : orderOK todo = true
  inv : Inv2 sem st ρ todo
  dt : DtOK L st ρf

theorem SimA.tail {sem : Sem V} {ctx : Ctx} {L : OpLaws sem} {ρf : Env V} {st st' : St} {ρ ρ' : Env V} {n : Node}
    {rest : List Node} (h : SimA sem ctx L ρf st ρ (n :: rest)) (hinv : Inv2 sem st' ρ' rest) (hdt : DtOK L st' ρf) :
    SimA sem ctx L ρf st' ρ' rest :=
  ⟨fun m hm => h.frag m (List.mem_cons_of_mem _ hm), fun m hm => h.nf m (List.mem_cons_of_mem _ hm),
   fun m hm => h.cmt m (List.mem_cons_of_mem _ hm), orderOK_tail h.order, hinv, hdt⟩

theorem simA_turn (sem : Sem V) (ctx : Ctx) (hor : OracleSound sem ctx)
    (L : OpLaws sem) (hct : CastTyped L) (hot : OracleTyped L ctx)
    (sub : Env V → Graph → List (Option V) → Option (List V)) (ρf : Env V) :
    TurnSound sem ctx sub ρf (SimA sem ctx L ρf) := by
  intro st n0 n st1 rest ρ ρ1 hp hS he0 he2
  have hI := hS.inv
  have hfr0 := hS.frag n0 List.mem_cons_self
  have hal : ∀ x y, lookupA st.sym x = some (.alias y) → n0.outputs.contains y = false :=
    fun x y hx => (hI.aliasFut x y hx n0 List.mem_cons_self).2
  obtain ⟨rfl, hst1, _⟩ := hp
  -- the node after alias substitution: same class, same effect, same place in the order
  have hfa : FragA (n0.setInputs (n0.inputs.map (substOne st))) := hfr0.1.substInputs st hal
  have he1 := (evalNode_substInputs sem sub st ρ hI.alias n0).trans he0
  have hordn := orderOK_subst hI hS.order
  have hIn := hI.replace_head (setInputs_outputs n0 (n0.inputs.map (substOne st)))
  have hnfn : NodeNF (n0.setInputs (n0.inputs.map (substOne st))) := by
    intro y hy
    simp only [mentionsTop, setInputs_inputs, setInputs_outputs, Bool.or_eq_true] at hy
    rcases hy with hy | hy
    · rcases mem_map_substOne (by simpa using hy : some y ∈ n0.inputs.map (substOne st)) with hz | ⟨z, _, hz⟩
      · exact hS.nf n0 List.mem_cons_self y (mentions_of_input hz)
      · exact hI.aliasNF z y hz
    · exact hS.nf n0 List.mem_cons_self y (mentions_of_output hy)
  have hKn : (n0.setInputs (n0.inputs.map (substOne st))).isOp "Constant" = n0.isOp "Constant" := isOp_setInputs _ _ _
  have hnout : (n0.setInputs (n0.inputs.map (substOne st))).outputs = n0.outputs := setInputs_outputs _ _
  have hnn : n0.isOp "Constant" = true → n0.setInputs (n0.inputs.map (substOne st)) = n0 := fun hK => by
    have h := (hfr0.1.clsK hK).2.1
    cases n0
    simp only [Node.inputs] at h
    subst h
    rfl
  generalize n0.setInputs (n0.inputs.map (substOne st)) = n at hst1 hfa he1 hordn hIn hnfn hKn hnn hnout
  -- values bound by the current node or earlier keep their value to the end
  have hfin : ∀ y, mentionsTop n y = true → ρf y = ρ1 y := fun y hy =>
    evalNodes_get_other sem he2 (not_later_output hordn hy)
  have hlater : ∀ m ∈ rest, ∀ o, m.outputs.contains o = true → mentionsTop n o = false :=
    fun m hm o ho => orderOK_head hordn hm ho
  have hIS0 := sameIS_substInputs st n0
  have hIS1 : n0.isOp "Constant" = false → SameIS st st1 := fun h => by
    rw [hst1, h]
    exact hIS0
  have hU1 : Upd sem L n ρ1 ρf st st1 := by
    cases hK : n0.isOp "Constant" with
    | false => exact Upd.of_sameIS (hIS1 hK)
    | true =>
      have hn := hnn hK
      subst hn
      rw [hst1, hK]
      refine (Upd.of_sameIS hIS0).trans
        (upd_processConstant (hfr0.2 hK) (hS.cmt n List.mem_cons_self hK) sub _ ρ ρ1 ρf he1 hfin hnfn ?_)
      intro x c hx
      rw [hIS0.constOf] at hx
      exact hI.fut x c hx n List.mem_cons_self
  have hD1 : DtOK L st1 ρf := hS.dt.step hU1.dtype
  have hES : ∀ v, EvSound sem L sub n st1 v ρ ρ1 ρf := by
    intro v
    cases hK : n.isOp "Constant" with
    | true => exact evSound_plain st1 (lookupEvaluator_constant hK v) ρ ρ1 ρf
    | false => exact hfa.evSound L hct sub hK st1 v ρ ρ1 ρf he1 hfin hnfn hD1
  have hrest : ∀ st', Upd sem L n ρ1 ρf st st' → SimA sem ctx L ρf st' ρ1 rest := fun st' hu =>
    hS.tail (hIn.step hordn he1 hu.const hu.sym hnfn) (hS.dt.step hu.dtype)
  refine ⟨fun st' hk => ?_, fun stG st2 st3 v c o l hf => ?_, fun st2 v x x' opn attrs o l hr => ?_⟩
  · refine ⟨he1, hfa.1, hlater, hrest st' ?_⟩
    rcases hk.how with hs | ⟨v, stG, hE, _, hs'⟩
    · exact hU1.trans (Upd.of_sameIS hs)
    · exact (hU1.trans ((hES v).1 stG hE).2).trans (Upd.of_sameIS hs')
  · -- the node computes the folded constant
    obtain ⟨hcG, hUG⟩ := (hES v).1 stG hf.ev
    have hc2 : ∀ y, st2.constOf y = st.constOf y := fun y => by
      rw [hf.sameIS.constOf, hcG, (hIS1 (hKn ▸ hf.notConst)).constOf]
    have hρ1 : ρ1 = ρ.set o (sem.tensor c.tok) := by
      have := evalNode_folded sem hor sub st2 ρ n v c o (fun y c' hy => hI.const y c' (by rw [← hc2]; exact hy))
        (fun y hy => by rw [hf.sameIS.constOf]; exact hf.ins y hy) hf.oracle hf.out hfa.1 hf.notConst
      rw [this] at he1
      exact (Option.some.inj he1).symm
    have hmo : mentionsTop n o = true := mentions_of_output (by rw [hf.out]; simp)
    exact ⟨hρ1, hrest _ ((hU1.trans hUG).trans
      (upd_fold hot hf.sameIS hf.oracle hf.out hf.sym hf.info (hnfn o hmo) (by rw [hρ1, Env.set_get_same]) (hfin o hmo) l))⟩
  · have ho := hr.out
    have hmx : mentionsTop n x = true := mentions_of_input hr.reads
    have hxx : x' = x := hr.ren (hnfn x hmx st1.fresh)
    subst hxx
    obtain ⟨his2, hem, hmfa⟩ := (hES v).2 x' opn attrs st2 o ho hr.ev
    have hIS2 : SameIS st st2 := (hIS1 hr.notConst).trans his2
    have hD2 := hS.dt.sameIS hIS2
    -- nothing is known about the tape's name
    have hfv : st2.constOf (freshOf st1) = none := by
      cases hc : st2.constOf (freshOf st1) with
      | none => rfl
      | some c =>
        rw [hIS2.constOf] at hc
        exact absurd rfl (hI.constNF _ c hc st1.fresh)
    have hfvd : (st2.getInfo (freshOf st1)).dtype = none := by
      cases hc : (st2.getInfo (freshOf st1)).dtype with
      | none => rfl
      | some d => exact absurd rfl (hD2.2 _ d hc st1.fresh)
    obtain ⟨k1, k2, k3⟩ := afterRepl_knows st2 n o (freshOf st1) (mkNode opn [some x'] [o] attrs) l hfv hfvd
    have hmm : ∀ y, mentionsTop (mkNode opn [some x'] [o] attrs) y = true → mentionsTop n y = true := by
      intro y hy
      have : y = x' ∨ y = o := by simpa [mentionsTop, mkNode, Node.inputs, Node.outputs] using hy
      rcases this with rfl | rfl
      · exact hmx
      · exact mentions_of_output (by rw [ho]; simp)
    have hmK : (mkNode opn [some x'] [o] attrs).isOp "Constant" = true → False := fun h => by
      have := (hmfa.clsK h).2.1
      simp [mkNode, Node.inputs] at this
    refine ⟨hem, ?_⟩
    refine ⟨?_, ?_, ?_, orderOK_replace_head hmm hordn, ?_, hD2.step (fun y dt hy => Or.inl (k3 y dt hy))⟩
    · intro k hk
      rcases List.mem_cons.mp hk with rfl | hk'
      · exact ⟨hmfa, fun h => (hmK h).elim⟩
      · exact hS.frag k (List.mem_cons_of_mem _ hk')
    · intro k hk
      rcases List.mem_cons.mp hk with rfl | hk'
      · exact fun y hy => hnfn y (hmm y hy)
      · exact hS.nf k (List.mem_cons_of_mem _ hk')
    · intro k hk
      rcases List.mem_cons.mp hk with rfl | hk'
      · exact fun h => (hmK h).elim
      · exact hS.cmt k (List.mem_cons_of_mem _ hk')
    · exact (hIn.replace_head (n := mkNode opn [some x'] [o] attrs) (by rw [ho]; rfl)).weaken
        (fun y c hy => by rw [← hIS2.constOf]; exact k1 y c hy) (fun y s hy => by rw [← hIS2.2]; exact k2 y s hy)

/-- the invariant of the generic-folding fragment: `Inv2` for an empty symbolic map, without its clause `constNF` (no
recorded constant has a generated name), which the theorem on this fragment does not assume -/
structure Inv (sem : Sem V) (st : St) (ρ : Env V) (todo : List Node) : Prop where
  sym : st.sym = []
  const : ∀ x c, st.constOf x = some c → ρ x = some (sem.tensor c.tok)
  fut : ∀ x c, st.constOf x = some c → ∀ m ∈ todo, m.outputs.contains x = false

structure SimP (sem : Sem V) (st : St) (ρ : Env V) (todo : List Node) : Prop where
  plain : ∀ n ∈ todo, Plain n
  order : orderOK todo = true
  inv : Inv sem st ρ todo

theorem Inv.keep {sem : Sem V} {sub} {st st' : St} {ρ ρ1 : Env V} {n : Node} {rest : List Node}
    (hI : Inv sem st ρ (n :: rest)) (hs : SameIS st st') (he : evalNode sem sub ρ n = some ρ1) :
    Inv sem st' ρ1 rest := by
  refine ⟨hs.2.trans hI.sym, ?_, ?_⟩
  · intro x c hx
    rw [hs.constOf] at hx
    rw [evalNode_get_other sem he (hI.fut x c hx n List.mem_cons_self)]
    exact hI.const x c hx
  · intro x c hx m hm
    rw [hs.constOf] at hx
    exact hI.fut x c hx m (List.mem_cons_of_mem _ hm)

theorem simP_turn (sem : Sem V) (ctx : Ctx) (hor : OracleSound sem ctx)
    (sub : Env V → Graph → List (Option V) → Option (List V)) (ρf : Env V) :
    TurnSound sem ctx sub ρf (SimP sem) := by
  intro st n0 n st1 rest ρ ρ1 hpre hS he0 _
  have hI := hS.inv
  have hp := hS.plain n0 List.mem_cons_self
  obtain ⟨rfl, hIS1, hkept, hfold, hrepl⟩ := hpre.plain hp hI.sym
  have htail : ∀ st', Inv sem st' ρ1 rest → SimP sem st' ρ1 rest := fun st' h =>
    ⟨fun m hm => hS.plain m (List.mem_cons_of_mem _ hm), orderOK_tail hS.order, h⟩
  refine ⟨fun st' hk => ⟨he0, hp.1, fun m hm o ho => orderOK_head hS.order hm ho, htail st' (hI.keep (hkept st' hk) he0)⟩,
    fun stG st2 st3 v c o l hf => ?_, fun st2 v x x' opn attrs o l hr => (hrepl st2 v x x' opn attrs o hr).elim⟩
  · -- the node computes the folded constant
    obtain rfl := hfold stG st2 st3 v c o hf
    have hs2 : SameIS st st2 := hIS1.trans hf.sameIS
    have ho := hf.out
    have hsym3 := hf.sym
    have hρ1 : ρ1 = ρ.set o (sem.tensor c.tok) := by
      have := evalNode_folded sem hor sub st2 ρ n v c o (fun y c' hy => hI.const y c' (by rw [← hs2.constOf]; exact hy))
        (fun y hy => by rw [hf.sameIS.constOf]; exact hf.ins y hy) hf.oracle ho hp.1 hp.2.1
      rw [this] at he0
      exact (Option.some.inj he0).symm
    have hs4 : SameIS (inheritInfo st3 [(o, freshOf st2)]) (afterRepl st3 n o (freshOf st2) [] l) :=
      sameIS_afterRepl st3 n o (freshOf st2) [] l
    have hfold := inheritInfo_fold st2 st3 o (freshOf st2) c hf.info
    refine ⟨hρ1, htail _ ⟨?_, ?_, ?_⟩⟩
    · rw [hs4.2, hfold.1, hsym3, hs2.2, hI.sym]
      rfl
    · intro x c' hx
      rw [hs4.constOf] at hx
      rcases hfold.2 x c' hx with ⟨rfl, rfl⟩ | hx2
      · rw [hρ1, Env.set_get_same]
      · rw [hs2.constOf] at hx2
        have hxo : x ≠ o := fun e => by
          have := hI.fut x c' hx2 n List.mem_cons_self
          simp [ho, e] at this
        rw [hρ1, Env.set_get_ne ρ _ hxo]
        exact hI.const x c' hx2
    · intro x c' hx m hm
      rw [hs4.constOf] at hx
      rcases hfold.2 x c' hx with ⟨rfl, _⟩ | hx2
      · exact not_later_output hS.order (mentions_of_output (by rw [ho]; simp)) m hm
      · rw [hs2.constOf] at hx2
        exact hI.fut x c' hx2 m (List.mem_cons_of_mem _ hm)

/-- When every turn of the node loop is sound under an invariant that makes the recorded aliases true at the end (`hfinal`),
`visit_graph` preserves the meaning of a graph whose nodes have no bodies and whose node outputs are not formal inputs. -/
theorem visitGraph_refines (sem : Sem V) (ctx : Ctx) (info : List (Name × VInfo)) (g : Graph) (d k : Nat) (outer : Env V)
    (args : List (Option V)) (vs : List V) (ρ0 ρf : Env V) (I : St → Env V → List Node → Prop)
    (hnf : ctx.isFunction = false) (hI : TurnSound sem ctx (evalGraph sem d) ρf I) (hfinal : ∀ st, I st ρf [] → AliasOK st ρf)
    (hS : I (initialState g info) ρ0 g.nodes) (hfr : ∀ n ∈ g.nodes, FragBk n)
    (hfresh : ∀ n ∈ g.nodes, ∀ o, n.outputs.contains o = true → g.inputs.contains o = false)
    (hs : startEnv sem outer g args = some ρ0)
    (hn : evalNodes (evalNode sem (evalGraph sem d)) ρ0 g.nodes = some ρf) (hev : lookupOuts ρf g.outputs = some vs) :
    evalGraph sem (d + 1) outer (visitGraph ctx (k + 1) (initialState g info) g).2 args = some vs ∧
    ∃ inits' new outs, (visitGraph ctx (k + 1) (initialState g info) g).2 = Graph.mk g.inputs inits' new outs ∧
      ∀ m ∈ new, m.subs = [] := by
  obtain ⟨stN, new, added, st', outs, _, _, _, hR, hvg, _, houts⟩ := visitGraph_succ ctx k (initialState g info) g
  obtain ⟨new', added', h1, h2, h3, h4, h5, h6⟩ := visitNodes_refines sem ctx hnf (visitGraph ctx k) (evalGraph sem d) ρf I
    hI (stepFuel g + 16 * (initialState g info).uses.length) g.nodes (initialState g info) [] [] hfr ρ0 hS (fun n hn => (hfr n hn).1) hn
  rw [hR] at h1 h2 h5
  simp only [List.reverse_nil, List.nil_append] at h1 h2
  subst h1 h2
  have hlo : lookupOuts ρf outs = lookupOuts ρf g.outputs := by
    rcases houts with ⟨_, _, rfl⟩ | ⟨herr, _, rfl⟩
    · rfl
    · -- a redirected output is a recorded alias of the one it replaces
      have hal := hfinal _ (h5.resolve_left (by simp [herr]))
      exact (replaceOutputs_spec _ _ _).1.lookupOuts fun o o' hk => hk.elim (fun e => e ▸ rfl) fun ha => (hal o o' ha.1).symm
  rw [hvg]
  refine ⟨?_, _, _, _, rfl, h6⟩
  rw [evalGraph_result sem d outer g args ρ0 ρf added new outs hs (fun p hp => by
    obtain ⟨m, hm, hmo⟩ := h3 p hp
    exact hfresh m hm p.1 hmo) h4, hlo, hev]

/-- The generic-folding fragment, up to `visit_graph`: the initializers popped by `_clear_unused_initializers` are still in the
graph (`pruneInits` comes in `foldGraph`). -/
theorem visitGraph_fragment (sem : Sem V) (ctx : Ctx) (hnf : ctx.isFunction = false) (hor : OracleSound sem ctx)
    (info : List (Name × VInfo)) (g : Graph) (hwf : FragWF g) (d k : Nat) (outer : Env V) (args : List (Option V))
    (hinfo : ConstInfoSound sem outer g args info) (vs : List V)
    (he : evalGraph sem (d + 1) outer g args = some vs) :
    evalGraph sem (d + 1) outer (visitGraph ctx (k + 1) (initialState g info) g).2 args = some vs ∧
    ∃ inits' new outs, (visitGraph ctx (k + 1) (initialState g info) g).2 = Graph.mk g.inputs inits' new outs ∧
      ∀ m ∈ new, m.subs = [] := by
  obtain ⟨hsym0, hinfo0⟩ := initialState_sym g info
  obtain ⟨ρ0, ρf, hs, hn, hev⟩ := evalGraph_some he
  refine visitGraph_refines sem ctx info g d k outer args vs ρ0 ρf (SimP sem) hnf (simP_turn sem ctx hor _ ρf)
    (fun st h x y hx => by rw [h.inv.sym] at hx; simp [lookupA] at hx) ⟨hwf.plain, hwf.order, hsym0, ?_, ?_⟩
    (fun n hn => (hwf.plain n hn).toBk) hwf.outs_fresh hs hn hev
  · intro x c hx
    simp only [St.constOf, St.getInfo, hinfo0] at hx
    exact hinfo.start ρ0 hs x c hx
  · intro x c hx m hm
    simp only [St.constOf, St.getInfo, hinfo0] at hx
    exact hinfo.notOutput x c hx m hm

structure FragAWF (sem : Sem V) (ctx : Ctx) (g : Graph) : Prop where
  nodes : ∀ n ∈ g.nodes, FragA n ∧ (n.isOp "Constant" = true → ConstMarkSound sem ctx n)
  order : orderOK g.nodes = true
  outs_fresh : ∀ n ∈ g.nodes, ∀ o, n.outputs.contains o = true → g.inputs.contains o = false
  nf : ∀ n ∈ g.nodes, NodeNF n

/-- the element-type annotations handed to the pass are truthful for this execution, and none is about a name `%k` -/
def AnnotSound {sem : Sem V} (L : OpLaws sem) (d : Nat) (outer : Env V) (g : Graph) (args : List (Option V))
    (info : List (Name × VInfo)) : Prop :=
  ∀ ρ0 ρf, startEnv sem outer g args = some ρ0 → evalNodes (evalNode sem (evalGraph sem d)) ρ0 g.nodes = some ρf →
    (∀ x v dt, ρf x = some v → ((lookupA info x).getD {}).dtype = some dt → L.hasDtype v dt) ∧
    (∀ x dt, ((lookupA info x).getD {}).dtype = some dt → NF x)

/-- Fragment A, up to `visit_graph` (popped initializers still in the graph, as in `visitGraph_fragment`). -/
theorem visitGraph_fragmentA (sem : Sem V) (ctx : Ctx) (hnf : ctx.isFunction = false) (hor : OracleSound sem ctx)
    (L : OpLaws sem) (hct : CastTyped L) (hot : OracleTyped L ctx)
    (info : List (Name × VInfo)) (g : Graph) (hwf : FragAWF sem ctx g)
    (hcmt : ∀ n ∈ g.nodes, n.isOp "Constant" = true → ConstMarkTyped L ctx n) (d k : Nat)
    (outer : Env V) (args : List (Option V)) (hinfo : ConstInfoSound sem outer g args info)
    (hinfoNF : ∀ x c, ((lookupA info x).getD {}).const = some c → NF x)
    (hann : AnnotSound L d outer g args info) (vs : List V)
    (he : evalGraph sem (d + 1) outer g args = some vs) :
    evalGraph sem (d + 1) outer (visitGraph ctx (k + 1) (initialState g info) g).2 args = some vs ∧
    ∃ inits' new outs, (visitGraph ctx (k + 1) (initialState g info) g).2 = Graph.mk g.inputs inits' new outs ∧
      ∀ m ∈ new, m.subs = [] := by
  obtain ⟨hsym0, hinfo0⟩ := initialState_sym g info
  obtain ⟨ρ0, ρf, hs, hn, hev⟩ := evalGraph_some he
  have hnil : ∀ x s, lookupA (initialState g info).sym x = some s → False := fun x s hx => by
    rw [hsym0] at hx
    simp [lookupA] at hx
  refine visitGraph_refines sem ctx info g d k outer args vs ρ0 ρf (SimA sem ctx L ρf) hnf
    (simA_turn sem ctx hor L hct hot _ ρf) (fun st h => h.inv.alias)
    ⟨hwf.nodes, hwf.nf, hcmt, hwf.order, ⟨fun x s hx => (hnil x s hx).elim, fun x y hx => (hnil x _ hx).elim,
      fun x y hx => (hnil x _ hx).elim, ?_, ?_, fun x y hx => (hnil x _ hx).elim, ?_⟩, ?_, ?_⟩
    (fun n hn => (hwf.nodes n hn).1.toBk) hwf.outs_fresh hs hn hev
  · intro x c hx
    simp only [St.constOf, St.getInfo, hinfo0] at hx
    exact hinfo.start ρ0 hs x c hx
  · intro x c hx m hm
    simp only [St.constOf, St.getInfo, hinfo0] at hx
    exact hinfo.notOutput x c hx m hm
  · intro x c hx
    simp only [St.constOf, St.getInfo, hinfo0] at hx
    exact hinfoNF x c hx
  · intro x v dt hv hd
    simp only [St.getInfo, hinfo0] at hd
    exact (hann ρ0 ρf hs hn).1 x v dt hv hd
  · intro x dt hd
    simp only [St.getInfo, hinfo0] at hd
    exact (hann ρ0 ρf hs hn).2 x dt hd

/-- From `visit_graph` to the pass: dropping the popped initializers changes nothing when nobody mentions them in the
result (one level, nodes without bodies). -/
theorem foldGraph_of_visitGraph (sem : Sem V) (ctx : Ctx) (info : List (Name × VInfo)) (g : Graph) (d : Nat)
    (outer : Env V) (args : List (Option V)) (vs : List V)
    (hvg : evalGraph sem (d + 1) outer (visitGraph ctx maxDepth (initialState g info) g).2 args = some vs ∧
      ∃ inits' new outs, (visitGraph ctx maxDepth (initialState g info) g).2 = Graph.mk g.inputs inits' new outs ∧
        ∀ m ∈ new, m.subs = [])
    (hprune : ∀ x, (foldGraph ctx info g).1.removed.contains x = true →
      g.inputs.contains x = false ∧
      (visitGraph ctx maxDepth (initialState g info) g).2.outputs.contains x = false ∧
      ∀ n ∈ (visitGraph ctx maxDepth (initialState g info) g).2.nodes, n.inputs.contains (some x) = false) :
    evalGraph sem (d + 1) outer (foldGraph ctx info g).2 args = some vs := by
  obtain ⟨hev, inits', new, outs, hshape, hplain⟩ := hvg
  rw [foldGraph_fst] at hprune
  rw [foldGraph_snd, hshape]
  rw [hshape] at hev hprune
  generalize (visitGraph ctx maxDepth (initialState g info) g).1.removed = R at hprune ⊢
  rw [maxDepth_succ, pruneInits_plain R 7 _ _ _ _ hplain, prune_sound sem R g.inputs inits' new outs d outer args hplain]
  · exact hev
  · intro x hx
    exact Bool.eq_false_iff.mpr fun hc => by
      have := (hprune x hc).1
      rw [List.contains_iff_mem.mpr hx] at this
      exact absurd this (by decide)
  · intro x hx
    exact Bool.eq_false_iff.mpr fun hc => by
      have := (hprune x hc).2.1
      rw [Graph.outputs, List.contains_iff_mem.mpr hx] at this
      exact absurd this (by decide)
  · intro n hn x hx
    exact Bool.eq_false_iff.mpr fun hc => by
      have := (hprune x hc).2.2 n hn
      rw [List.contains_iff_mem.mpr hx] at this
      exact absurd this (by decide)

theorem foldGraph_fragmentA (sem : Sem V) (ctx : Ctx) (hnf : ctx.isFunction = false) (hor : OracleSound sem ctx)
    (L : OpLaws sem) (hct : CastTyped L) (hot : OracleTyped L ctx)
    (info : List (Name × VInfo)) (g : Graph) (hwf : FragAWF sem ctx g)
    (hcmt : ∀ n ∈ g.nodes, n.isOp "Constant" = true → ConstMarkTyped L ctx n)
    (hnofresh : ∀ k : Nat, cnt ("%" ++ toString k) g.nodes = 0) (d : Nat)
    (outer : Env V) (args : List (Option V)) (hinfo : ConstInfoSound sem outer g args info)
    (hinfoNF : ∀ x c, ((lookupA info x).getD {}).const = some c → NF x)
    (hann : AnnotSound L d outer g args info) (vs : List V)
    (he : evalGraph sem (d + 1) outer g args = some vs) :
    evalGraph sem (d + 1) outer (foldGraph ctx info g).2 args = some vs := by
  have hvg := visitGraph_fragmentA sem ctx hnf hor L hct hot info g hwf hcmt d 7 outer args hinfo hinfoNF hann vs he
  have hpr := prune_ok_fragmentA 7 ctx hnf info g (fun n hn => (hwf.nodes n hn).1.toBk) hnofresh
  rw [← maxDepth_succ] at hvg hpr
  exact foldGraph_of_visitGraph sem ctx info g d outer args vs hvg (by rw [foldGraph_fst]; exact hpr)

theorem foldGraph_fragment (sem : Sem V) (ctx : Ctx) (hnf : ctx.isFunction = false) (hor : OracleSound sem ctx)
    (info : List (Name × VInfo)) (g : Graph) (hwf : FragWF g)
    (hnofresh : ∀ k : Nat, cnt ("%" ++ toString k) g.nodes = 0)
    (d : Nat) (outer : Env V) (args : List (Option V))
    (hinfo : ConstInfoSound sem outer g args info) (vs : List V)
    (he : evalGraph sem (d + 1) outer g args = some vs) :
    evalGraph sem (d + 1) outer (foldGraph ctx info g).2 args = some vs := by
  have hvg := visitGraph_fragment sem ctx hnf hor info g hwf d 7 outer args hinfo vs he
  have hpr := prune_ok_fragmentA 7 ctx hnf info g (fun n hn => (hwf.plain n hn).toBk) hnofresh
  rw [← maxDepth_succ] at hvg hpr
  exact foldGraph_of_visitGraph sem ctx info g d outer args vs hvg (by rw [foldGraph_fst]; exact hpr)

theorem visitNodes_sublist (ctx : Ctx) (hnf : ctx.isFunction = false) (vg : St → Graph → St × Graph) :
    ∀ (f : Nat) (todo : List Node) (st : St) (acc : List Node) (ai : List (Name × String)),
      (∀ n ∈ todo, Plain n) → st.sym = [] →
      ∃ new, (visitNodes ctx vg f st todo acc ai).2.1 = acc.reverse ++ new ∧ List.Sublist new todo := by
  intro f todo st acc ai hplain
  refine visitNodes_induct ctx hnf vg (motive := fun _ st todo acc _ r => (∀ n ∈ todo, Plain n) → st.sym = [] →
    ∃ new, r.2.1 = acc.reverse ++ new ∧ List.Sublist new todo) ?_ ?_ ?_ ?_ f todo st acc ai
    (fun n hn => (hplain n hn).toBk) hplain
  · exact fun f st todo acc ai e _ _ _ => ⟨todo, rfl, List.Sublist.refl _⟩
  · intro f st n0 rest acc ai n st1 st' r hp hk ih hpl hsym
    obtain ⟨rfl, _, hkept, _, _⟩ := hp.plain (hpl n0 List.mem_cons_self) hsym
    obtain ⟨newr, h1, h2⟩ := ih (fun m hm => hpl m (List.mem_cons_of_mem _ hm)) ((hkept st' hk).2.trans hsym)
    exact ⟨n :: newr, by rw [h1]; simp, List.Sublist.cons_cons n h2⟩
  · intro f st n0 rest acc ai n st1 stG st2 st3 v c o l r hp hf ih hpl hsym
    obtain ⟨rfl, hIS1, _, hfold, _⟩ := hp.plain (hpl n0 List.mem_cons_self) hsym
    obtain rfl := hfold stG st2 st3 v c o hf
    have hsym4 : (afterRepl st3 n o (freshOf st2) [] l).sym = [] := by
      rw [(sameIS_afterRepl st3 n o (freshOf st2) [] l).2, inheritInfo_sym, hf.sym, hf.sameIS.2, hIS1.2, hsym]
      rfl
    obtain ⟨newr, h1, h2⟩ := ih (fun m hm => hpl m (List.mem_cons_of_mem _ hm)) hsym4
    exact ⟨newr, h1, List.Sublist.cons n h2⟩
  · intro f st n0 rest acc ai n st1 st2 v x x' opn attrs o l r hp hr ih hpl hsym
    exact ((hp.plain (hpl n0 List.mem_cons_self) hsym).2.2.2.2 st2 v x x' opn attrs o hr).elim

theorem result_nodes_sublist (k : Nat) (ctx : Ctx) (hnf : ctx.isFunction = false) (info : List (Name × VInfo)) (g : Graph)
    (hplain : ∀ n ∈ g.nodes, Plain n) :
    List.Sublist (visitGraph ctx (k + 1) (initialState g info) g).2.nodes g.nodes := by
  obtain ⟨new, h1, h2⟩ := visitNodes_sublist ctx hnf (visitGraph ctx k)
    (stepFuel g + 16 * (initialState g info).uses.length) g.nodes (initialState g info) [] [] hplain (initialState_sym g info).1
  obtain ⟨stN, L, added, st', outs, _, _, _, hR, hvg, _⟩ := visitGraph_succ ctx k (initialState g info) g
  rw [hR] at h1
  rw [hvg]
  simp only [List.reverse_nil, List.nil_append] at h1
  rw [Graph.nodes, h1]
  exact h2

end OV.C03
