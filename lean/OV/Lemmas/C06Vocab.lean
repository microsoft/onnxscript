import OV.Lemmas.C06Step
/-!
  C06 — what the statements about the transcribed matcher speak of: the classes of patterns, the invariant of the
  walk through `_match_value` / `_match_node` (`InvS`, claimed under a guard on the success flags of the stack:
  `Guard`, `InvG`), and what surrounds the walk: `finish` and the candidate loop.  The walk itself is `C06Walk`.
-/
namespace OV.C06

def VPat.noOr : VPat → Bool
  | .orD .. => false
  | .orB .. => false
  | _ => true

def NPat.noOr (n : NPat) : Bool := n.inputs.all (fun i => match i with | some v => v.noOr | none => true)

/-- no `OrValue` anywhere in the pattern -/
def GPat.noOr (p : GPat) : Bool := p.nodes.all NPat.noOr && p.outputs.all VPat.noOr

/-- no BacktrackingOr anywhere in the value pattern, and every OpIdDispatchOr has no tag variable
(dispatch on the producer's operator identifier needs no backtracking) -/
def VPat.dispOk : VPat → Bool
  | .orD _ _ tagVar _ => tagVar.isNone
  | .orB .. => false
  | _ => true

def NPat.dispOk (n : NPat) : Bool := n.inputs.all (fun i => match i with | some v => v.dispOk | none => true)

/-- every `OrValue` of the pattern is an `OpIdDispatchOr` (without tag variable) -/
def GPat.dispOk (p : GPat) : Bool := p.nodes.all NPat.dispOk

mutual
/-- every `OpIdDispatchOr` inside the value pattern has no tag variable (its `bind` result is ignored by
the code); `BacktrackingOr` is unrestricted -/
def VPat.backOk : VPat → Bool
  | .orD _ _ tagVar _ => tagVar.isNone
  | .orB _ _ _ _ alts => backOkL alts
  | _ => true
def backOkL : List VPat → Bool
  | [] => true
  | a :: rest => a.backOk && backOkL rest
end

def NPat.backOk (n : NPat) : Bool := n.inputs.all (fun i => match i with | some v => v.backOk | none => true)

/-- no `OpIdDispatchOr` of the pattern has a tag variable; `BacktrackingOr` is unrestricted -/
def GPat.backOk (p : GPat) : Bool := p.nodes.all NPat.backOk

mutual
/-- node patterns a value pattern refers to (through OR alternatives too) -/
def VPat.refs : VPat → List NPId
  | .out q _ => [q]
  | .orD _ _ _ alts => alts.map (·.np)
  | .orB _ _ _ _ alts => refsL alts
  | _ => []
def refsL : List VPat → List NPId
  | [] => []
  | a :: rest => a.refs ++ refsL rest
end

/-- node patterns only refer (also inside OR alternatives) to node patterns created before them -/
def GPat.topoDeep (p : GPat) : Prop :=
  ∀ (np : NPId) (P : NPat), p.nodes[np]? = some P → ∀ vp : VPat, some vp ∈ P.inputs → ∀ q ∈ vp.refs, q < np

/-- node patterns only refer to node patterns created before them (always true for patterns
written with the builder API: inputs exist before the node is constructed) -/
def GPat.topo (p : GPat) : Prop :=
  ∀ np P, p.nodes[np]? = some P → ∀ q idx, some (VPat.out q idx) ∈ P.inputs → q < np

/-- no pattern node asks for more outputs than a host node it locally matches has
(excludes finding C06-F1) -/
def OutputArityOk (p : GPat) (g : Graph) : Prop :=
  ∀ P ∈ p.nodes, ∀ N ∈ g.nodes, P.op.matches N.op = true → P.domain.matches N.domain = true →
    P.outputs.length ≤ N.outputs.length

theorem crossGraph_var {g : Graph} {id : Nat} {name : Option String} {isVar canNone : Bool}
    {check : Option Bool} {v : Option ValueId}
    (h : ¬ crossGraphBad g (.var id name isVar canNone check) v = true) :
    ∀ x, v = some x → g.isForeign x = true → isVar = true := by
  intro x hx hf
  subst hx
  simp only [crossGraphBad, VPat.crossGraphOk, hf, Bool.true_and, Bool.not_eq_true',
    Bool.not_eq_false] at h
  simpa using h

theorem crossGraph_own {g : Graph} {vp : VPat} {x : ValueId} (h : ¬ crossGraphBad g vp (some x) = true)
    (hvp : vp.crossGraphOk = false) : g.isForeign x = false := by
  simpa [crossGraphBad, hvp] using h

theorem crossGraph_out {g : Graph} {np idx : Nat} {x : ValueId}
    (h : ¬ crossGraphBad g (.out np idx) (some x) = true) : g.isForeign x = false :=
  crossGraph_own h rfl

theorem crossGraph_orB {g : Graph} {id : Nat} {name tagVar : Option String} {tags : List Int}
    {alts : List VPat} {v : Option ValueId}
    (h : ¬ crossGraphBad g (.orB id name tagVar tags alts) v = true) :
    ∀ x, v = some x → g.isForeign x = false :=
  fun _ hx => crossGraph_own (hx ▸ h) rfl

theorem crossGraphBad_false {g : Graph} {vp : VPat} {v : Option ValueId}
    (h : ∀ x, v = some x → g.isForeign x = true → vp.crossGraphOk = true) : crossGraphBad g vp v = false := by
  unfold crossGraphBad
  cases v with
  | none => rfl
  | some x => cases hf : g.isForeign x <;> simp [h x rfl, hf]

theorem crossGraphBad_own {g : Graph} {x : ValueId} (h : g.isForeign x = false) (vp : VPat) :
    crossGraphBad g vp (some x) = false := by
  simp [crossGraphBad, h]

theorem getDispatch_mem {g : Graph} {alts : List DAlt} {x : ValueId} {a : DAlt}
    (h : getDispatch g alts x = some a) : a ∈ alts := by
  unfold getDispatch at h
  split at h
  · cases h
  · split at h
    · cases h
    · exact List.mem_of_find?_eq_some h

theorem zipPad_getElem? : ∀ (vs : List (Option ValueId)) (ps : List (Option VPat)) (i : Nat),
    (zipPad vs ps)[i]? = (ps[i]?).map fun pat => ((vs[i]?).bind id, pat)
  | vs, [], _ => by rw [zipPad.eq_1]; rfl
  | [], _ :: _, 0 => rfl
  | [], _ :: ps, i + 1 => zipPad_getElem? [] ps i
  | _ :: _, _ :: _, 0 => rfl
  | _ :: vs, _ :: ps, i + 1 => zipPad_getElem? vs ps i

theorem zipPad_mem_of_get (vs : List (Option ValueId)) (ps : List (Option VPat)) (i : Nat)
    (pat : Option VPat) (h : ps[i]? = some pat) : ((vs[i]?).bind id, pat) ∈ zipPad vs ps :=
  List.mem_iff_getElem?.2 ⟨i, by rw [zipPad_getElem?, h]; rfl⟩

theorem zipPad_mem (vs : List (Option ValueId)) (ps : List (Option VPat)) (v : Option ValueId)
    (pat : Option VPat) (h : (v, pat) ∈ zipPad vs ps) : ∃ i : Nat, ps[i]? = some pat ∧ v = (vs[i]?).bind id := by
  obtain ⟨i, hi⟩ := List.mem_iff_getElem?.1 h
  rw [zipPad_getElem?] at hi
  cases hp : ps[i]? with
  | none => simp [hp] at hi
  | some pat' =>
    simp only [hp, Option.map_some, Option.some.injEq, Prod.mk.injEq] at hi
    exact ⟨i, hi.2 ▸ hp, hi.1.symm⟩

theorem zipPad_mem_snd (vs : List (Option ValueId)) (ps : List (Option VPat))
    (v : Option ValueId) (pat : Option VPat) (h : (v, pat) ∈ zipPad vs ps) : pat ∈ ps :=
  let ⟨_, hi, _⟩ := zipPad_mem vs ps v pat h
  List.mem_of_getElem? hi

/-- what `SatN` says about the inputs, in terms of the pairs the input loop goes through -/
theorem zipPad_sat {N : GNode} {Pn : NPat} {S : VPat → Option ValueId → Prop}
    (hnone : ∀ i : Nat, Pn.inputs[i]? = some none → inputAt N i = none)
    (hsome : ∀ (i : Nat) (vp : VPat), Pn.inputs[i]? = some (some vp) → S vp (inputAt N i)) :
    (∀ v, (v, none) ∈ zipPad N.inputs Pn.inputs → v = none) ∧
      ∀ v vp, (v, some vp) ∈ zipPad N.inputs Pn.inputs → some vp ∈ Pn.inputs ∧ S vp v := by
  refine ⟨fun v hm => ?_, fun v vp hm => ?_⟩
  · obtain ⟨i, h1, rfl⟩ := zipPad_mem _ _ _ _ hm
    exact hnone i h1
  · obtain ⟨i, h1, rfl⟩ := zipPad_mem _ _ _ _ hm
    exact ⟨List.mem_of_getElem? h1, hsome i vp h1⟩

/-- the guard of `_match_node` on surplus inputs does not fire on a node some assignment satisfies -/
theorem otherInputs_guard {P : NPat} {N : GNode}
    (hlen : N.inputs.length ≤ P.inputs.length ∨ P.allowOtherInputs = true) :
    (decide (N.inputs.length > P.inputs.length) && !P.allowOtherInputs) = false := by
  rcases hlen with hl | hl
  · simp [Nat.not_lt.2 hl]
  · simp [hl]

theorem noOr_input {p : GPat} (h : p.noOr = true) {np : NPId} {Pn : NPat} (hP : p.nodes[np]? = some Pn)
    {vp : VPat} (hm : some vp ∈ Pn.inputs) : vp.noOr = true :=
  List.all_eq_true.1 (List.all_eq_true.1 (Bool.and_eq_true_iff.1 h).1 Pn (List.mem_of_getElem? hP)) (some vp) hm

theorem dispOk_input {p : GPat} (h : p.dispOk = true) {np : NPId} {Pn : NPat} (hP : p.nodes[np]? = some Pn)
    {vp : VPat} (hm : some vp ∈ Pn.inputs) : vp.dispOk = true :=
  List.all_eq_true.1 (List.all_eq_true.1 h Pn (List.mem_of_getElem? hP)) (some vp) hm

theorem nodes_all_mono {f g : VPat → Bool} (hfg : ∀ v, f v = true → g v = true) {ns : List NPat}
    (h : ns.all (fun n => n.inputs.all (fun i => match i with | some v => f v | none => true)) = true) :
    ns.all (fun n => n.inputs.all (fun i => match i with | some v => g v | none => true)) = true :=
  List.all_eq_true.2 fun n hn => List.all_eq_true.2 fun i hi => by
    have := List.all_eq_true.1 (List.all_eq_true.1 h n hn) i hi
    cases i with
    | none => rfl
    | some v => exact hfg v this

theorem VPat.noOr_dispOk : ∀ vp : VPat, vp.noOr = true → vp.dispOk = true
  | .var .., _ => rfl
  | .any, _ => rfl
  | .const .., _ => rfl
  | .out .., _ => rfl
  | .orD .., h => by simp [VPat.noOr] at h
  | .orB .., h => by simp [VPat.noOr] at h

theorem GPat.noOr_dispOk (p : GPat) (h : p.noOr = true) : p.dispOk = true :=
  nodes_all_mono VPat.noOr_dispOk (Bool.and_eq_true_iff.1 h).1

theorem backOk_input {p : GPat} (h : p.backOk = true) {np : NPId} {Pn : NPat} (hP : p.nodes[np]? = some Pn)
    {vp : VPat} (hm : some vp ∈ Pn.inputs) : vp.backOk = true :=
  List.all_eq_true.1 (List.all_eq_true.1 h Pn (List.mem_of_getElem? hP)) (some vp) hm

theorem VPat.dispOk_backOk : ∀ vp : VPat, vp.dispOk = true → vp.backOk = true
  | .var .., _ => rfl
  | .any, _ => rfl
  | .const .., _ => rfl
  | .out .., _ => rfl
  | .orD .., h => h
  | .orB .., h => by simp [VPat.dispOk] at h

theorem GPat.dispOk_backOk (p : GPat) (h : p.dispOk = true) : p.backOk = true :=
  nodes_all_mono VPat.dispOk_backOk h

theorem GPat.topo_topoDeep (p : GPat) (hno : p.noOr = true) (h : p.topo) : p.topoDeep := by
  intro np P hP vp hin q hq
  have hv := noOr_input hno hP hin
  cases vp with
  | out q' idx => simp [VPat.refs] at hq; subst hq; exact h np P hP q idx hin
  | var => simp [VPat.refs] at hq
  | any => simp [VPat.refs] at hq
  | const => simp [VPat.refs] at hq
  | orD => simp [VPat.noOr] at hv
  | orB => simp [VPat.noOr] at hv

theorem GPat.topo_of_topoDeep {p : GPat} (h : p.topoDeep) : p.topo :=
  fun np P hP q idx hin => h np P hP _ hin q (by simp [VPat.refs])

theorem satN_node {E : Env} {A : Assign} {np : NPId} {n : NodeId} (h : SatN E A np n) :
    A.node np = some n := by
  cases h with
  | mk _ _ P N h1 h2 h3 => exact h3

theorem satN_bounds {E : Env} {A : Assign} {np : NPId} {n : NodeId} (h : SatN E A np n) :
    np < E.p.nodes.length ∧ n < E.g.nodes.length := by
  cases h with
  | mk _ _ P N hP hN =>
    constructor
    · rcases Nat.lt_or_ge np E.p.nodes.length with h | h
      · exact h
      · simp [List.getElem?_eq_none h] at hP
    · rcases Nat.lt_or_ge n E.g.nodes.length with h | h
      · exact h
      · simp [List.getElem?_eq_none h] at hN

def InvS (E : Env) (rest : Stack) (c : Partial) (P : List NPId) : Prop :=
  ∀ q m, lookupNode (c :: rest) q = some m → q ∈ P ∨ SatN E (assignStack (c :: rest)) q m

theorem InvS.ext {E : Env} {rest : Stack} {c c' : Partial} {P : List NPId} (h : InvS E rest c P)
    (e : Ext c c') : InvS E rest c' P := by
  intro q m hq
  rw [lookupNode_cons, e.nb, ← lookupNode_cons] at hq
  rcases h q m hq with h | h
  · exact .inl h
  · exact .inr (satN_mono (e.le.toALeS rest) h)

/-- `enter_new_match` -/
theorem InvS.push {E : Env} {rest : Stack} {c : Partial} {P : List NPId} (h : InvS E rest c P) :
    InvS E (c :: rest) ({} : Partial) P := by
  have hpush := assignStack_push rest c
  intro q m hq
  rw [hpush.2.2 q] at hq
  exact (h q m hq).imp id (satN_mono hpush.1)

/-- `bind_node` on a node pattern not bound so far: it is in progress from now on -/
theorem InvS.bindNode {E : Env} {rest : Stack} {c : Partial} {P : List NPId} {np : NPId} (n : NodeId)
    (h : InvS E rest c P) : InvS E rest { c with nodes := c.nodes ++ [n], nb := c.nb ++ [(np, n)] } (np :: P) := by
  have l : Le c { c with nodes := c.nodes ++ [n], nb := c.nb ++ [(np, n)] } :=
    ⟨fun _ _ h => h, fun _ _ h => h, fun k x h => (List.prefix_append _ _).lookup_eq_some h, id⟩
  intro q m hq
  by_cases hqn : q = np
  · exact .inl (hqn ▸ List.mem_cons_self ..)
  · have hq1 : lookupNode (c :: rest) q = some m := by
      rw [lookupNode_cons] at hq ⊢
      have : (c.nb ++ [(np, n)]).lookup q = c.nb.lookup q := by
        simp [List.lookup_append, List.lookup, show (q == np) = false by simpa using hqn]
      exact this ▸ hq
    exact (h q m hq1).imp (List.mem_cons_of_mem _) (satN_mono (l.toALeS rest))

/-! ## The guard

A tagged `OpIdDispatchOr` ignores the result of `bind(tag_var, i)`: on a clash the partial match is marked
failed but `True` is returned and matching goes on.  What holds of a stack is therefore claimed under a
guard `G` on its success flags: the trivial guard for patterns without tagged dispatch, `allOk` for all
patterns (a failed partial match is never merged and never reported). -/

structure Guard (G : Stack → Prop) : Prop where
  le : ∀ {c c' : Partial} {rest : Stack}, Le c c' → G (c' :: rest) → G (c :: rest)
  pop : ∀ {cur : Partial} {st : Stack}, G (cur :: st) → G st
  push : ∀ {cur : Partial} {st : Stack}, cur.ok = true → G st → G (cur :: st)

def Tracks (G : Stack → Prop) : Prop := ∀ c st, G (c :: st) → c.ok = true

theorem guard_true : Guard (fun _ => True) := ⟨fun _ _ => trivial, fun _ => trivial, fun _ _ => trivial⟩

def allOk (st : Stack) : Prop := ∀ c ∈ st, c.ok = true

theorem allOk_cons {c : Partial} {rest : Stack} : allOk (c :: rest) ↔ c.ok = true ∧ allOk rest := by
  simp [allOk]

theorem guard_allOk : Guard allOk :=
  ⟨fun l h => allOk_cons.2 ⟨l.ok (allOk_cons.1 h).1, (allOk_cons.1 h).2⟩, fun h => (allOk_cons.1 h).2,
   fun hc h => allOk_cons.2 ⟨hc, h⟩⟩

theorem tracks_allOk : Tracks allOk := fun _ _ h => (allOk_cons.1 h).1

/-- every bound pattern node is either still being matched (`P`) or satisfied, as long as the guard holds -/
def InvG (G : Stack → Prop) (E : Env) (rest : Stack) (c : Partial) (P : List NPId) : Prop :=
  G (c :: rest) → InvS E rest c P

theorem InvG.empty (G : Stack → Prop) (E : Env) : InvG G E [] {} [] :=
  fun _ q m hq => by simp [lookupNode] at hq

theorem InvG.ext {G : Stack → Prop} (hG : Guard G) {E : Env} {rest : Stack} {c c' : Partial} {P : List NPId}
    (h : InvG G E rest c P) (e : Ext c c') : InvG G E rest c' P :=
  fun hg => (h (hG.le e.le hg)).ext e

def Result.assign (r : Result) : Assign :=
  { names := fun k => r.bindings.lookup k
    node := fun np => r.nb.lookup np
    leaf := fun k => r.vb.lookup k }

theorem validToReplace_removable (g : Graph) (matched : List NodeId) (outs : List Bound)
    (h : validToReplace g matched outs = true) : Removable g matched outs := by
  intro n hn gn hgn v hv hnot
  unfold validToReplace at h
  simp only [List.all_eq_true] at h
  have h1 := h n hn
  simp only [hgn, List.all_eq_true] at h1
  have h2 := h1 v hv
  have hc : outs.contains (Bound.val v) = false := by
    simpa using hnot
  simp only [hc, Bool.false_or, Bool.and_eq_true, Bool.not_eq_true', List.all_eq_true] at h2
  refine ⟨h2.1.1, fun c hc => ?_, ?_⟩
  · have := h2.1.2 c hc
    simpa using this
  · have := h2.2
    simpa using this

theorem finish_of_ok (E : Env) (rm : Bool) (r0 : R) (c' : Partial) (hst : r0.2 = [c'])
    (hok : (finish E rm r0).ok = true) :
    c'.ok = true ∧ (r0.1 = true → ∃ outs, outputValues E.p c' = some outs ∧
      (rm = true → validToReplace E.g c'.nodes outs = true) ∧ finish E rm r0 = Result.ofPartial c' outs) := by
  obtain ⟨b, st⟩ := r0
  cases hst
  cases b
  · exact ⟨hok, nofun⟩
  · cases ho : outputValues E.p c' with
    | none => simp [finish, topPartial, ho, Result.ofPartial] at hok
    | some outs =>
      by_cases hv : (rm && !validToReplace E.g c'.nodes outs) = true
      · simp [finish, topPartial, ho, hv, Result.ofPartial] at hok
      · have he : finish E rm (true, [c']) = Result.ofPartial c' outs := by simp [finish, topPartial, ho, hv]
        rw [he] at hok
        exact ⟨hok, fun _ => ⟨outs, rfl, fun hrm => by simpa [hrm] using hv, he⟩⟩

theorem finish_spec (E : Env) (rm : Bool) (r0 : R) (c' : Partial) (hst : r0.2 = [c'])
    (hF : r0.1 = false → c'.ok = false) (hok : (finish E rm r0).ok = true) :
    r0.1 = true ∧ outputValues E.p c' = some (finish E rm r0).outputs ∧
      (finish E rm r0).bindings = c'.bindings ∧ (finish E rm r0).nodes = c'.nodes ∧
      (finish E rm r0).nb = c'.nb ∧ (finish E rm r0).vb = c'.vb ∧
      (rm = true → Removable E.g c'.nodes (finish E rm r0).outputs) := by
  obtain ⟨hc, h⟩ := finish_of_ok E rm r0 c' hst hok
  have h1 : r0.1 = true := by
    cases hb : r0.1 with
    | true => rfl
    | false => rw [hF hb] at hc; cases hc
  obtain ⟨outs, ho, hv, he⟩ := h h1
  rw [he]
  exact ⟨h1, ho, rfl, rfl, rfl, rfl, fun hrm => validToReplace_removable _ _ _ (hv hrm)⟩

theorem product_length {α} : ∀ (ls : List (List α)) (c : List α), c ∈ product ls → c.length = ls.length := by
  intro ls
  induction ls with
  | nil => intro c h; simp [product] at h; simp [h]
  | cons l ls ih =>
    intro c h
    simp only [product, List.mem_flatMap, List.mem_map] at h
    obtain ⟨x, _, rest, hr, rfl⟩ := h
    simp [ih rest hr]

theorem product_head {α} (x : α) (ls : List (List α)) (c : List α) (h : c ∈ product ([x] :: ls)) :
    c.head? = some x := by
  simp only [product, List.flatMap_cons, List.flatMap_nil, List.append_nil, List.mem_map] at h
  obtain ⟨rest, _, rfl⟩ := h
  rfl

theorem candidatesRest_length (E : Env) : ∀ (l : List NPId) (b : Bool), (candidatesRest E l b).length = l.length := by
  intro l
  induction l with
  | nil => intro b; rfl
  | cons np rest ih =>
    intro b
    unfold candidatesRest
    split <;> simp [ih]

theorem finish_congr (E : Env) (rm : Bool) (r : R) :
    finish E rm (if !r.1 then r else (true, r.2)) = finish E rm r := by
  obtain ⟨b, st⟩ := r
  cases b <;> rfl

/-- with one output node `SimplePatternMatcher.match` is `_multi_match` on the one combination `[root]` -/
theorem multiMatch_single (E : Env) (rm : Bool) (root : NodeId) {np : NPId} (hnp : E.p.outputNodes = [np]) :
    multiMatch E rm [root] = finish E rm (matchNode E E.p.fuel np root [{}]) := by
  unfold multiMatch
  simp only [hnp, List.zip_cons_cons, List.zip_nil_right]
  unfold matchOutputNodes
  unfold matchOutputNodes
  exact finish_congr E rm _

theorem firstMatch_first (E : Env) (rm : Bool) : ∀ (cs : List (List NodeId)) (last : Option Result),
    (firstMatch E rm cs last).ok = true →
    (∃ pre c post, cs = pre ++ c :: post ∧ firstMatch E rm cs last = multiMatch E rm c ∧
      ∀ c' ∈ pre, (multiMatch E rm c').ok = false) ∨
      (cs = [] ∧ ∃ m, last = some m ∧ m.ok = true) := by
  intro cs
  induction cs with
  | nil =>
    intro last h
    unfold firstMatch at h
    cases last with
    | none => simp [Result.failed] at h
    | some m => exact .inr ⟨rfl, m, rfl, by simpa using h⟩
  | cons c cs ih =>
    intro last h
    unfold firstMatch at h ⊢
    dsimp only at h ⊢
    by_cases hm : (multiMatch E rm c).ok = true
    · simp only [hm, if_true]
      exact .inl ⟨[], c, cs, rfl, rfl, fun _ h => by simp at h⟩
    · simp only [hm, Bool.false_eq_true, if_false] at h ⊢
      rcases ih _ h with ⟨pre, c', post, he, hf, hpre⟩ | ⟨_, m, hm1, hm2⟩
      · refine .inl ⟨c :: pre, c', post, by simp [he], hf, fun x hx => ?_⟩
        rcases List.mem_cons.1 hx with h' | h'
        · subst h'; simpa using hm
        · exact hpre x h'
      · cases hm1
        exact absurd hm2 hm

theorem matcherMatch_first (E : Env) (root : NodeId) (rm : Bool)
    (h : (matcherMatch E root rm).ok = true) :
    ∃ pre combo post, combos E root = pre ++ combo :: post ∧
      matcherMatch E root rm = multiMatch E rm combo ∧
      combo.head? = some root ∧
      ∀ c ∈ pre, (multiMatch E rm c).ok = false := by
  unfold matcherMatch at h ⊢
  unfold combos
  split at h
  · next np hnp =>
    exact ⟨[], [root], [], rfl, (multiMatch_single E rm root hnp).symm, rfl, fun _ h => by simp at h⟩
  · next outs hne =>
    rcases firstMatch_first E rm _ none h with ⟨pre, c, post, he, hf, hpre⟩ | ⟨_, m, hm, _⟩
    · refine ⟨pre, c, post, he, hf, ?_, hpre⟩
      have hc : c ∈ product ([root] :: candidatesRest E E.p.outputNodes.tail false) := by
        rw [he]; simp
      exact product_head _ _ _ hc
    · cases hm

theorem matcherMatch_ok (E : Env) (root : NodeId) (rm : Bool)
    (h : (matcherMatch E root rm).ok = true) :
    ∃ combo, matcherMatch E root rm = multiMatch E rm combo ∧ combo.head? = some root ∧
      E.p.outputNodes.length ≤ combo.length := by
  obtain ⟨pre, combo, post, hc, he, hh, _⟩ := matcherMatch_first E root rm h
  refine ⟨combo, he, hh, ?_⟩
  have hmem : combo ∈ combos E root := hc ▸ List.mem_append_right _ (List.mem_cons_self ..)
  unfold combos at hmem
  split at hmem
  · next hnp => simp [List.mem_singleton.1 hmem, hnp]
  · have := product_length _ _ hmem
    simp only [List.length_cons, candidatesRest_length, List.length_tail] at this
    omega

end OV.C06
