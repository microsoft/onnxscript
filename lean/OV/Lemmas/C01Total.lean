import Std.Data.String.ToNat
import OV.Model.C01Convert
import OV.Lemmas.Util
/-!
# `_generate_unique_name` terminates: the fuel `used.length + 1` of the model always suffices
-/
namespace OV.C01

def candName (cand : Name) (k : Nat) : Name := cand ++ "_" ++ toString k

theorem candName_inj {cand : Name} {j k : Nat} (h : candName cand j = candName cand k) : j = k := by
  unfold candName at h
  have h2 := (String.append_right_inj (cand ++ "_")).mp h
  exact Nat.repr_injective h2

theorem genLoop_none {used : List Name} {cand : Name} :
    ∀ (fuel k : Nat), genLoop used cand fuel k = none →
      ∀ j, k ≤ j → j < k + fuel → candName cand j ∈ used := by
  intro fuel
  induction fuel with
  | zero => intro k _ j h1 h2; omega
  | succ n ih =>
    intro k h j h1 h2
    unfold genLoop at h
    simp only at h
    by_cases hc : used.contains (cand ++ "_" ++ toString k) = true
    · rw [if_pos hc] at h
      by_cases hjk : j = k
      · subst hjk; exact List.contains_iff_mem.mp hc
      · exact ih (k + 1) h j (by omega) (by omega)
    · rw [if_neg hc] at h; cases h

theorem genUnique_total (cand : Name) (s : St) : ∃ r s', genUnique cand s = .ok (r, s') := by
  unfold genUnique
  by_cases hc : s.used.contains cand = true
  · rw [if_pos hc]
    cases hg : genLoop s.used cand (s.used.length + 1) s.next with
    | some p => obtain ⟨r, k⟩ := p; exact ⟨r, _, rfl⟩
    | none =>
      obtain ⟨i, h1, h2, hi⟩ := List.exists_cand_not_mem (fun _ _ => candName_inj (cand := cand)) s.used s.next
      exact absurd (genLoop_none _ _ hg i h1 (by omega)) hi
  · rw [if_neg hc]; exact ⟨cand, _, rfl⟩

end OV.C01
