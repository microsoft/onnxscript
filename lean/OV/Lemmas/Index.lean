import OV.Model.Index
/-! C11, integer and list level.  ONNX `Slice` and CPython treat one slice bound in the same way — add
the dimension once to a negative value, clamp — and differ only in the range they clamp to
(`clampBound`, `pyBound_neg`, `pyBound_nonneg`); the comparison of the two front ends' bounds with
`slice.indices` is built on that. -/
namespace OV.Index

theorem enumerate_nil {α} (s st : Int) (n : Nat) : enumerate ([] : List α) s st n = [] := by
  induction n generalizing s with
  | zero => rfl
  | succ n ih => simp [enumerate, ih]

theorem enumerate_one {α} (l : List α) (s st : Int) :
    enumerate l s st 1 = (if 0 ≤ s then (l[s.toNat]?).toList else []) := by
  simp only [enumerate, List.append_nil]

theorem enumerate_drop {α} (l : List α) (k n : Nat) (h : k + n = l.length) :
    enumerate l (k : Int) 1 n = l.drop k := by
  induction n generalizing k with
  | zero =>
    have : k = l.length := by omega
    subst this; simp [enumerate]
  | succ n ih =>
    have hk : k < l.length := by omega
    have h0 : (0 : Int) ≤ (k : Int) := by omega
    have hcast : ((k : Int) + 1) = ((k + 1 : Nat) : Int) := by omega
    simp only [enumerate, h0, if_true, Int.toNat_natCast]
    rw [hcast, ih (k + 1) (by omega)]
    rw [List.getElem?_eq_getElem hk]
    simp only [Option.toList_some, List.singleton_append]
    exact (List.drop_eq_getElem_cons hk).symm

theorem sliceLen_one (i : Int) : sliceLen i (i + 1) 1 = 1 := by
  unfold sliceLen
  have h1 : (1 : Int) > 0 := by decide
  have h2 : i < i + 1 := by omega
  simp only [h1, h2, if_true]
  have : (i + 1 - i - 1) / 1 + 1 = 1 := by omega
  rw [this]; rfl

theorem sliceLen_pos_step (s e st : Int) (h : st > 0) : sliceLen s e st = 0 ↔ e ≤ s := by
  unfold sliceLen
  simp only [h, if_true]
  constructor
  · intro hz
    by_cases hlt : s < e
    · simp only [hlt, if_true] at hz
      have h1 : 0 ≤ (e - s - 1) / st := Int.ediv_nonneg (by omega) (by omega)
      omega
    · omega
  · intro hle
    have : ¬ s < e := by omega
    simp [this]

theorem sliceLen_neg_step (s e st : Int) (h : st < 0) : sliceLen s e st = 0 ↔ s ≤ e := by
  unfold sliceLen
  have h1 : ¬ st > 0 := by omega
  simp only [h1, h, if_true, if_false]
  constructor
  · intro hz
    by_cases hlt : e < s
    · simp only [hlt, if_true] at hz
      have h2 : 0 ≤ (s - e - 1) / (-st) := Int.ediv_nonneg (by omega) (by omega)
      omega
    · omega
  · intro hle
    have : ¬ e < s := by omega
    simp [this]

theorem pySliceList_full {α} (l : List α) : pySliceList l none none 1 = l := by
  unfold pySliceList pyAdjust sliceLen
  have h1 : ¬ ((1 : Int) < 0) := by decide
  have h2 : (1 : Int) > 0 := by decide
  simp only [h1, h2, if_true, if_false]
  by_cases hl : (0 : Int) < (l.length : Int)
  · simp only [hl, if_true]
    have : ((l.length : Int) - 0 - 1) / 1 + 1 = (l.length : Int) := by omega
    rw [this, Int.toNat_natCast]
    have := enumerate_drop l 0 l.length (by omega)
    simpa using this
  · have : l = [] := by
      cases l with
      | nil => rfl
      | cons a t => exact absurd (by simp only [List.length_cons]; omega) hl
    subst this; simp [enumerate]

/-- ONNX `Slice` on one bound; `[a, b]` is the range it clamps to. -/
def clampBound (d a b x : Int) : Int := max a (min (if x < 0 then x + d else x) b)

theorem onnxNorm_neg (d s e st : Int) (h : st < 0) :
    onnxNorm d s e st = (clampBound d 0 (d - 1) s, clampBound d (-1) (d - 1) e) := by
  unfold onnxNorm clampBound; rw [if_pos h]

theorem onnxNorm_nonneg (d s e st : Int) (h : ¬ st < 0) :
    onnxNorm d s e st = (clampBound d 0 d s, clampBound d 0 d e) := by
  unfold onnxNorm clampBound; rw [if_neg h]

/-- The two linear cases of `clampBound`, in the form `omega` takes. -/
theorem clampBound_cases (d a b x : Int) :
    (x < 0 ∧ clampBound d a b x = max a (min (x + d) b)) ∨
    (0 ≤ x ∧ clampBound d a b x = max a (min x b)) := by
  unfold clampBound
  by_cases h : x < 0
  · exact .inl ⟨h, by rw [if_pos h]⟩
  · exact .inr ⟨by omega, by rw [if_neg h]⟩

theorem clampBound_mem (d a b x : Int) (h : a ≤ b) :
    a ≤ clampBound d a b x ∧ clampBound d a b x ≤ b := by
  unfold clampBound; omega

theorem clampBound_id (d a b x : Int) (h0 : 0 ≤ x) (ha : a ≤ x) (hb : x ≤ b) :
    clampBound d a b x = x := by
  unfold clampBound; rw [if_neg (by omega)]; omega

theorem clampBound_wrap (d a b x : Int) (h0 : x < 0) (ha : a ≤ x + d) (hb : x + d ≤ b) :
    clampBound d a b x = x + d := by
  unfold clampBound; rw [if_pos h0]; omega

/-- CPython's `PySlice_AdjustIndices` on one explicit bound. -/
def pyBound (d st s : Int) : Int :=
  if s < 0 then (if s + d < 0 then (if st < 0 then -1 else 0) else s + d)
  else (if s ≥ d then (if st < 0 then d - 1 else d) else s)

theorem pyAdjust_eq (d : Int) (lo hi : Option Int) (st : Int) :
    pyAdjust d lo hi st =
      ((match lo with | none => if st < 0 then d - 1 else 0 | some s => pyBound d st s),
       (match hi with | none => if st < 0 then -1 else d | some s => pyBound d st s)) := rfl

theorem pyBound_neg (d st s : Int) (hd : 0 ≤ d) (h : st < 0) :
    pyBound d st s = clampBound d (-1) (d - 1) s := by
  unfold pyBound clampBound
  simp only [h, if_true]
  split <;> split <;> omega

theorem pyBound_nonneg (d st s : Int) (hd : 0 ≤ d) (h : ¬ st < 0) :
    pyBound d st s = clampBound d 0 d s := by
  unfold pyBound clampBound
  simp only [h, if_false]
  split <;> split <;> omega

theorem pyAdjust_bounds_pos (d : Int) (lo hi : Option Int) (st : Int) (hd : 0 ≤ d) (h1 : st > 0) :
    0 ≤ (pyAdjust d lo hi st).1 ∧ (pyAdjust d lo hi st).1 ≤ d ∧
    0 ≤ (pyAdjust d lo hi st).2 ∧ (pyAdjust d lo hi st).2 ≤ d := by
  have h2 : ¬ st < 0 := by omega
  have hc := fun s => clampBound_mem d 0 d s hd
  rw [pyAdjust_eq]
  rcases lo with _ | x <;> rcases hi with _ | y <;>
    simp only [h2, if_false, pyBound_nonneg d st _ hd h2]
  · omega
  · have := hc y; omega
  · have := hc x; omega
  · have := hc x; have := hc y; omega

theorem pyAdjust_bounds_neg (d : Int) (lo hi : Option Int) (st : Int) (hd : 0 ≤ d) (h2 : st < 0) :
    -1 ≤ (pyAdjust d lo hi st).1 ∧ (pyAdjust d lo hi st).1 ≤ d - 1 ∧
    -1 ≤ (pyAdjust d lo hi st).2 ∧ (pyAdjust d lo hi st).2 ≤ d - 1 := by
  have hc := fun s => clampBound_mem d (-1) (d - 1) s (by omega)
  rw [pyAdjust_eq]
  rcases lo with _ | x <;> rcases hi with _ | y <;>
    simp only [h2, if_true, pyBound_neg d st _ hd h2]
  · omega
  · have := hc y; omega
  · have := hc x; omega
  · have := hc x; have := hc y; omega

theorem convBounds_neg (lo hi : Option Int) (st : Int) (h : st < 0) :
    convBounds lo hi st = (lo.getD maxint, hi.getD minint) := by
  unfold convBounds; rw [if_neg (by omega)]

theorem convBounds_pos (lo hi : Option Int) (st : Int) (h : 0 < st) :
    convBounds lo hi st = (lo.getD 0, hi.getD maxint) := by
  unfold convBounds; rw [if_pos h]

/-- On explicit bounds ONNX's normalisation and `slice.indices` are the same clamp, and the int64
sentinels are clamped to CPython's defaults — with one exception: ONNX clamps the start of a negative
step to `[0, d-1]`, CPython to `[-1, d-1]`, which shows exactly when the start is explicit and below `-d`
(finding D22). -/
theorem onnxNorm_convBounds_iff (d : Int) (lo hi : Option Int) (step : Int)
    (hd0 : 0 < d) (hd : d < maxint) (hs : step ≠ 0) :
    onnxNorm d (convBounds lo hi step).1 (convBounds lo hi step).2 step = pyAdjust d lo hi step
      ↔ (step < 0 → ∀ x, lo = some x → -d ≤ x) := by
  rw [pyAdjust_eq]
  unfold maxint at hd
  by_cases hneg : step < 0
  · rw [convBounds_neg lo hi step hneg, onnxNorm_neg _ _ _ _ hneg]
    have hstop : clampBound d (-1) (d - 1) (hi.getD minint)
        = (match hi with | none => if step < 0 then -1 else d | some s => pyBound d step s) := by
      cases hi with
      | none =>
        have := clampBound_cases d (-1) (d - 1) minint
        simp only [Option.getD, hneg, if_true]; unfold minint at *; omega
      | some y => exact (pyBound_neg d step y (by omega) hneg).symm
    simp only [Prod.mk.injEq, hstop, and_true]
    cases lo with
    | none =>
      have := clampBound_cases d 0 (d - 1) maxint
      refine iff_of_true ?_ (fun _ x hx => by cases hx)
      simp only [Option.getD, hneg, if_true]; unfold maxint at *; omega
    | some x =>
      have := clampBound_cases d 0 (d - 1) x
      have := clampBound_cases d (-1) (d - 1) x
      simp only [Option.getD, pyBound_neg d step x (by omega) hneg]
      constructor
      · intro h _ y hy
        cases hy
        omega
      · intro h
        have := h hneg x rfl
        omega
  · rw [convBounds_pos lo hi step (by omega), onnxNorm_nonneg _ _ _ _ hneg]
    refine iff_of_true (Prod.ext ?_ ?_) (fun h => absurd h hneg)
    · cases lo with
      | none => simp only [Option.getD, hneg, if_false]; exact clampBound_id d 0 d 0 (by omega) (by omega) (by omega)
      | some x => exact (pyBound_nonneg d step x (by omega) hneg).symm
    · cases hi with
      | none =>
        have := clampBound_cases d 0 d maxint
        simp only [Option.getD, hneg, if_false]; unfold maxint at *; omega
      | some y => exact (pyBound_nonneg d step y (by omega) hneg).symm

theorem onnxNorm_eagerBounds (d : Int) (lo hi : Option Int) (step : Int) (hd0 : 0 < d) (hs : step ≠ 0) :
    onnxNorm d (eagerBounds d lo hi step).1 (eagerBounds d lo hi step).2 step
      = if sliceLen (pyAdjust d lo hi step).1 (pyAdjust d lo hi step).2 step = 0 then (0, 0)
        else pyAdjust d lo hi step := by
  have hbp := pyAdjust_bounds_pos d lo hi step (by omega)
  have hbn := pyAdjust_bounds_neg d lo hi step (by omega)
  unfold eagerBounds
  generalize pyAdjust d lo hi step = p at *
  obtain ⟨s, e⟩ := p
  simp only at hbp hbn ⊢
  by_cases hneg : step < 0
  · have hb := hbn hneg
    have hz := sliceLen_neg_step s e step hneg
    rw [onnxNorm_neg _ _ _ _ hneg]
    split
    · rw [clampBound_id _ _ _ 0 (by omega) (by omega) (by omega),
        clampBound_id _ _ _ 0 (by omega) (by omega) (by omega)]
    · -- non-empty: `e < s`, so `0 ≤ s`; a stop `-1` is handed over as `-(d+1)`, which wraps back to `-1`
      split
      · have : clampBound d (-1) (d - 1) (-(d + 1)) = e := by
          unfold clampBound; rw [if_pos (by omega)]; omega
        rw [clampBound_id _ _ _ s (by omega) (by omega) (by omega), this]
      · rw [clampBound_id _ _ _ s (by omega) (by omega) (by omega),
          clampBound_id _ _ _ e (by omega) (by omega) (by omega)]
  · have hb := hbp (by omega)
    have hz := sliceLen_pos_step s e step (by omega)
    rw [onnxNorm_nonneg _ _ _ _ hneg]
    split
    · rw [clampBound_id _ _ _ 0 (by omega) (by omega) (by omega)]
    · rw [if_neg (by omega), clampBound_id _ _ _ s (by omega) (by omega) (by omega),
        clampBound_id _ _ _ e (by omega) (by omega) (by omega)]

theorem onnxSliceList_convBounds {α} (l : List α) (lo hi : Option Int) (step : Int)
    (hlen : (l.length : Int) < maxint) (hs : step ≠ 0)
    (hD22 : step < 0 → ∀ x, lo = some x → -(l.length : Int) ≤ x) :
    onnxSliceList l (convBounds lo hi step).1 (convBounds lo hi step).2 step = pySliceList l lo hi step := by
  unfold onnxSliceList pySliceList
  rcases l with _ | ⟨a, t⟩
  · simp only [enumerate_nil]
  · have hpos : (0 : Int) < ((a :: t).length : Int) := by simp only [List.length_cons]; omega
    rw [(onnxNorm_convBounds_iff _ lo hi step hpos hlen hs).mpr hD22]

theorem onnxSliceList_eagerBounds {α} (l : List α) (lo hi : Option Int) (step : Int) (hs : step ≠ 0) :
    onnxSliceList l (eagerBounds l.length lo hi step).1 (eagerBounds l.length lo hi step).2 step
      = pySliceList l lo hi step := by
  unfold onnxSliceList pySliceList
  rcases l with _ | ⟨a, t⟩
  · simp only [enumerate_nil]
  · have hpos : (0 : Int) < ((a :: t).length : Int) := by simp only [List.length_cons]; omega
    rw [onnxNorm_eagerBounds _ lo hi step hpos hs]
    generalize pyAdjust ((a :: t).length : Int) lo hi step = p
    obtain ⟨s, e⟩ := p
    by_cases hz : sliceLen s e step = 0
    · -- an empty selection either way
      have h0 : sliceLen 0 0 step = 0 := by unfold sliceLen; simp
      simp only [hz, if_true, h0, enumerate]
    · simp only [hz, if_false]

theorem normIdx_cases (n : Nat) (i : Int) :
    (0 ≤ i ∧ i < n ∧ normIdx n i = some i.toNat) ∨
    (i < 0 ∧ -(n : Int) ≤ i ∧ normIdx n i = some (i + n).toNat) ∨
    ((i < -(n : Int) ∨ (n : Int) ≤ i) ∧ normIdx n i = none) := by
  unfold normIdx
  by_cases h1 : 0 ≤ i ∧ i < n
  · rw [if_pos h1]; exact .inl ⟨h1.1, h1.2, rfl⟩
  · rw [if_neg h1]
    by_cases h2 : i < 0 ∧ -(n : Int) ≤ i
    · rw [if_pos h2]; exact .inr (.inl ⟨h2.1, h2.2, rfl⟩)
    · rw [if_neg h2]; exact .inr (.inr ⟨by omega, rfl⟩)

theorem scalarStop_cases (i e : Int) :
    (i = -1 ∧ scalarStop i e = e) ∨ (i ≠ -1 ∧ scalarStop i e = i + 1) := by
  unfold scalarStop
  by_cases h : i = -1
  · exact .inl ⟨h, if_pos h⟩
  · exact .inr ⟨h, if_neg h⟩

theorem onnxSliceList_scalar {α} (l : List α) (i e : Int) (he : (l.length : Int) ≤ e) :
    onnxSliceList l i (scalarStop i e) 1 =
      (match normIdx l.length i with
       | some k => (l[k]?).toList
       | none => []) := by
  unfold onnxSliceList
  rw [onnxNorm_nonneg _ _ _ _ (by decide)]
  show enumerate l _ 1 (sliceLen _ _ 1) = _
  rcases normIdx_cases l.length i with ⟨h0, h1, hk⟩ | ⟨h0, h1, hk⟩ | ⟨hout, hk⟩
  · -- a position from the front: the slice is `i : i+1`
    rw [hk, show scalarStop i e = i + 1 from if_neg (by omega),
      clampBound_id _ _ _ i h0 h0 (by omega), clampBound_id _ _ _ (i + 1) (by omega) (by omega) (by omega),
      sliceLen_one, enumerate_one, if_pos h0]
  · -- a position from the back: `i+n : i+n+1` (for `i = -1` the stop `e ≥ n` is clamped to `n`)
    have ht := clampBound_cases l.length 0 l.length (scalarStop i e)
    have hst := scalarStop_cases i e
    rw [hk, clampBound_wrap _ _ _ i h0 (by omega) (by omega),
      show clampBound l.length 0 l.length (scalarStop i e) = i + l.length + 1 by omega,
      sliceLen_one, enumerate_one, if_pos (by omega)]
  · -- out of range: both bounds are clamped to the same end, nothing is selected
    have hs := clampBound_cases l.length 0 l.length i
    have ht := clampBound_cases l.length 0 l.length (scalarStop i e)
    have hst := scalarStop_cases i e
    rw [hk, (sliceLen_pos_step _ _ 1 (by decide)).mpr (by omega)]
    rfl

end OV.Index
