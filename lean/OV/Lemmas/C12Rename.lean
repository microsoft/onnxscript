import OV.Lemmas.C12Autocast
/-! What the casts see of a signature.  The three casts, the rule and `allRepresentable` use a signature only through
its length, the variadic/homogeneous flags and the relation "a tensor at formal `i` binds what a literal at formal `j`
looks up" (`sameLinks`, `casts_congr`).  The raw `OpSchema` reading has a non-variable string (`tensor(int64)`) where the
`OpSignature` reading has a type variable used at that one position only; to the casts it is therefore the `OpSignature`
reading, and the table check follows from `casts_eq_expected`/`casts_dtype`, which `three_agree`/`three_agree_dtype`
restate (`agree3AllG_self`, `agree3AllG_of_sameLinks`).  An injective renaming of the type-constraint names changes nothing
(`cast_rename`); the links compare names within one reading only, so a renaming injective on each reading keeps their
comparison (`sameLinks_map_rename`), and interning is one (`sameLinks_intern`): the registry table may be checked on
interned names. -/
namespace OV.Autocast
open OV.Props.C12 (WellTyped)

theorem mapE_of_map_eq {α β γ ε : Type} (f : α → Except ε γ) (g : β → Except ε γ) :
    ∀ (xs : List α) (ys : List β), xs.map f = ys.map g → mapE f xs = mapE g ys
  | [], [], _ => rfl
  | [], _ :: _, h => by cases h
  | _ :: _, [], h => by cases h
  | x :: xs, y :: ys, h => by
    simp only [List.map_cons, List.cons.injEq] at h
    simp only [mapE, h.1, mapE_of_map_eq f g xs ys h.2]

theorem all_congr_mem {α : Type} (p q : α → Bool) (l : List α) (h : ∀ x ∈ l, p x = q x) : l.all p = l.all q := by
  rw [Bool.eq_iff_iff, List.all_eq_true, List.all_eq_true]
  exact forall₂_congr fun x hx => by rw [h x hx]

theorem map_eq_of_getElem {α β γ : Type} (f : α → γ) (g : β → γ) (xs : List α) (ys : List β)
    (hl : xs.length = ys.length) (h : ∀ i (hi : i < xs.length) (hi' : i < ys.length), f xs[i] = g ys[i]) :
    xs.map f = ys.map g :=
  List.ext_getElem (by simp [hl]) (fun i h1 h2 => by
    rw [List.getElem_map, List.getElem_map]
    exact h i (by simpa using h1) (by simpa using h2))

section
variable {κ κ' : Type} [DecidableEq κ] [DecidableEq κ']

/-- A tensor in slot `s` binds what a literal in slot `t` looks up. -/
def Slot.binds : Slot κ → Slot κ → Bool
  | .tv n v, .tv m _ => v && n == m
  | _, _ => false

/-- What the argument of `p` contributes to a lookup from slot `t`: `boundTo`, said for any slot, typed or not
(`boundTo_eq_look`), so that `targetFirst`/`targetLast` are `findSome? (look t)` whatever the slot. -/
def look (t : Slot κ) (p : Slot κ × Arg) : Option (DType × Bool) :=
  match p.2 with
  | .tensor dt k => if p.1.binds t then some (dt, k) else none
  | _ => none

theorem boundTo_eq_look (tc : κ) (w : Bool) (p : Slot κ × Arg) : boundTo tc p = look (.tv tc w) p := by
  obtain ⟨s, a⟩ := p
  cases s <;> cases a <;> rfl

theorem look_untyped (p : Slot κ × Arg) : look .untyped p = none := by
  obtain ⟨s, a⟩ := p
  cases s <;> cases a <;> rfl

theorem targetFirst_eq (sa : List (Slot κ × Arg)) (t : Slot κ) : targetFirst sa t = sa.findSome? (look t) := by
  cases t with
  | untyped => exact (List.findSome?_eq_none_iff.mpr fun p _ => look_untyped p).symm
  | tv n v => exact (funext (boundTo_eq_look n v) : boundTo n = look (.tv n v)) ▸ firstBinding_eq n sa

theorem targetLast_eq (sa : List (Slot κ × Arg)) (t : Slot κ) :
    targetLast sa t = sa.reverse.findSome? (look t) := by
  cases t with
  | untyped => exact (List.findSome?_eq_none_iff.mpr fun p _ => look_untyped p).symm
  | tv n v => exact (funext (boundTo_eq_look n v) : boundTo n = look (.tv n v)) ▸ lastBinding_eq n sa

theorem targets_congr (sa : List (Slot κ × Arg)) (sb : List (Slot κ' × Arg)) (t : Slot κ) (t' : Slot κ')
    (h : sa.map (look t) = sb.map (look t')) :
    targetFirst sa t = targetFirst sb t' ∧ targetLast sa t = targetLast sb t' := by
  have e : ∀ {α : Type} (f : α → Option (DType × Bool)) (l : List α), l.findSome? f = (l.map f).findSome? id :=
    fun f l => by rw [List.findSome?_map]; rfl
  rw [targetFirst_eq, targetFirst_eq, targetLast_eq, targetLast_eq, e _ sa, e _ sb, e _ sa.reverse, e _ sb.reverse,
    List.map_reverse, List.map_reverse, h]
  exact ⟨rfl, rfl⟩

theorem emit_congr (sa : List (Slot κ × Arg)) (sb : List (Slot κ' × Arg)) (p : Slot κ × Arg) (q : Slot κ' × Arg)
    (ha : p.2 = q.2)
    (ht : ∀ l, p.2 = .lit l → targetFirst sa p.1 = targetFirst sb q.1 ∧ targetLast sa p.1 = targetLast sb q.1) :
    emitStatic sa p = emitStatic sb q ∧ emitDynamic sa p = emitDynamic sb q ∧ emitBuilder sa p = emitBuilder sb q ∧
    emitExpected sa p = emitExpected sb q ∧ reprAt sa p = reprAt sb q := by
  obtain ⟨s, a⟩ := p
  obtain ⟨s', a'⟩ := q
  subst ha
  cases a with
  | none => exact ⟨rfl, rfl, rfl, rfl, rfl⟩
  | tensor dt k => exact ⟨rfl, rfl, rfl, rfl, rfl⟩
  | lit l =>
    obtain ⟨h1, h2⟩ := ht l rfl
    simp only [emitStatic, emitDynamic, emitBuilder, emitExpected, reprAt, ruleDType, h1, h2]
    exact ⟨trivial, trivial, trivial, trivial, trivial⟩

theorem casts_congr_sa (sa : List (Slot κ × Arg)) (sb : List (Slot κ' × Arg)) (hl : sa.length = sb.length)
    (h : ∀ i (hi : i < sa.length) (hi' : i < sb.length), sa[i].2 = sb[i].2 ∧
      ∀ l, sa[i].2 = .lit l → sa.map (look sa[i].1) = sb.map (look sb[i].1)) :
    mapE (emitStatic sa) sa = mapE (emitStatic sb) sb ∧ mapE (emitDynamic sa) sa = mapE (emitDynamic sb) sb ∧
    mapE (emitBuilder sa) sa = mapE (emitBuilder sb) sb ∧ sa.map (emitExpected sa) = sb.map (emitExpected sb) ∧
    sa.all (reprAt sa) = sb.all (reprAt sb) := by
  have he := fun i hi hi' => emit_congr sa sb sa[i] sb[i] (h i hi hi').1
    (fun l hlit => targets_congr sa sb _ _ ((h i hi hi').2 l hlit))
  have e : ∀ {α : Type} (f : α → Bool) (l : List α), l.all f = (l.map f).all id := fun f l => by
    rw [List.all_map]; rfl
  exact ⟨mapE_of_map_eq _ _ sa sb (map_eq_of_getElem _ _ sa sb hl fun i hi hi' => (he i hi hi').1),
    mapE_of_map_eq _ _ sa sb (map_eq_of_getElem _ _ sa sb hl fun i hi hi' => (he i hi hi').2.1),
    mapE_of_map_eq _ _ sa sb (map_eq_of_getElem _ _ sa sb hl fun i hi hi' => (he i hi hi').2.2.1),
    map_eq_of_getElem _ _ sa sb hl fun i hi hi' => (he i hi hi').2.2.2.1,
    by rw [e _ sa, e _ sb, map_eq_of_getElem _ _ sa sb hl fun i hi hi' => (he i hi hi').2.2.2.2]⟩

/-- A tensor at formal `f` binds what a literal at formal `g` looks up: `Slot.binds` of the slots `slotAt` makes of the two
(by `rfl`; `binds_pair` is where the two meet). -/
def Formal.binds (f g : Formal κ) : Bool := f.isVar && f.tc == g.tc

/-- The casts see a signature only through its length, the variadic/homogeneous flags and which formal binds what
which other formal looks up — a formal and itself only where one slot holds several arguments. -/
def sameLinks (fs : List (Formal κ)) (gs : List (Formal κ')) : Bool :=
  fs.length == gs.length &&
  (List.range fs.length).all fun i => (List.range fs.length).all fun j =>
    match fs[i]?, fs[j]?, gs[i]?, gs[j]? with
    | some f, some f', some g, some g' =>
      f.variadic == g.variadic && f.homogeneous == g.homogeneous &&
        ((i == j && !(f.variadic && f.homogeneous)) || f.binds f' == g.binds g')
    | _, _, _, _ => false

theorem sameLinks_spec {fs : List (Formal κ)} {gs : List (Formal κ')} (h : sameLinks fs gs = true) :
    fs.length = gs.length ∧
    ∀ i j (hi : i < fs.length) (hj : j < fs.length) (hi' : i < gs.length) (hj' : j < gs.length),
      fs[i].variadic = gs[i].variadic ∧ fs[i].homogeneous = gs[i].homogeneous ∧
      ((i ≠ j ∨ (fs[i].variadic = true ∧ fs[i].homogeneous = true)) → fs[i].binds fs[j] = gs[i].binds gs[j]) := by
  simp only [sameLinks, Bool.and_eq_true, beq_iff_eq, List.all_eq_true, List.mem_range] at h
  refine ⟨h.1, fun i j hi hj hi' hj' => ?_⟩
  have := h.2 i hi j hj
  simp only [List.getElem?_eq_getElem, hi, hj, hi', hj', Bool.and_eq_true, Bool.or_eq_true, beq_iff_eq,
    Bool.not_eq_true'] at this
  refine ⟨this.1.1, this.1.2, fun hc => this.2.resolve_left ?_⟩
  rintro ⟨rfl, hv⟩
  rcases hc with hc | hc
  · exact hc rfl
  · simp [hc.1, hc.2] at hv

theorem slotAt_pair {fs : List (Formal κ)} {gs : List (Formal κ')} (h : sameLinks fs gs = true) (k : Nat) :
    (slotAt fs k = .error .tooMany ∧ slotAt gs k = .error .tooMany) ∨
    (slotAt fs k = .ok .untyped ∧ slotAt gs k = .ok .untyped) ∨
    ∃ i, ∃ (hi : i < fs.length) (hi' : i < gs.length),
      slotAt fs k = .ok (.tv fs[i].tc fs[i].isVar) ∧ slotAt gs k = .ok (.tv gs[i].tc gs[i].isVar) ∧
      (i = k ∨ (fs[i].variadic = true ∧ fs[i].homogeneous = true)) := by
  obtain ⟨hl, hf⟩ := sameLinks_spec h
  unfold slotAt
  by_cases hk : k < fs.length
  · refine .inr (.inr ⟨k, hk, hl ▸ hk, ?_, ?_, .inl rfl⟩)
    · rw [List.getElem?_eq_getElem hk]
    · rw [List.getElem?_eq_getElem (hl ▸ hk)]
  · rw [List.getElem?_eq_none (by omega), List.getElem?_eq_none (by omega), List.getLast?_eq_getElem?,
      List.getLast?_eq_getElem?]
    by_cases h0 : fs.length = 0
    · rw [List.getElem?_eq_none (by omega), List.getElem?_eq_none (by omega)]
      exact .inl ⟨rfl, rfl⟩
    · have hi : fs.length - 1 < fs.length := by omega
      have hi' : fs.length - 1 < gs.length := by omega
      rw [show gs.length - 1 = fs.length - 1 by omega, List.getElem?_eq_getElem hi, List.getElem?_eq_getElem hi']
      obtain ⟨hv, hh, _⟩ := hf _ _ hi hi hi' hi'
      simp only [← hv, ← hh]
      cases hv' : fs[fs.length - 1].variadic
      · exact .inl ⟨rfl, rfl⟩
      · cases hh' : fs[fs.length - 1].homogeneous
        · exact .inr (.inl ⟨rfl, rfl⟩)
        · exact .inr (.inr ⟨_, hi, hi', rfl, rfl, .inr ⟨hv', hh'⟩⟩)

theorem assignFrom_pair {fs : List (Formal κ)} {gs : List (Formal κ')} (h : sameLinks fs gs = true) :
    ∀ (args : List Arg) (k : Nat),
      (∃ e, assignFrom fs k args = .error e ∧ assignFrom gs k args = .error e) ∨
      (∃ sa sb, assignFrom fs k args = .ok sa ∧ assignFrom gs k args = .ok sb)
  | [], _ => .inr ⟨[], [], rfl, rfl⟩
  | a :: as, k => by
    simp only [assignFrom]
    rcases slotAt_pair h k with ⟨h1, h2⟩ | ⟨h1, h2⟩ | ⟨i, hi, hi', h1, h2, _⟩ <;> rw [h1, h2]
    · exact .inl ⟨_, rfl, rfl⟩
    all_goals
      rcases assignFrom_pair h as (k + 1) with ⟨e, e1, e2⟩ | ⟨sa, sb, e1, e2⟩ <;> rw [e1, e2]
      · exact .inl ⟨_, rfl, rfl⟩
      · exact .inr ⟨_, _, rfl, rfl⟩

theorem binds_pair {fs : List (Formal κ)} {gs : List (Formal κ')} (h : sameLinks fs gs = true) (i j : Nat)
    (hij : i ≠ j) (si sj : Slot κ) (ti tj : Slot κ') (hsi : slotAt fs i = .ok si) (hsj : slotAt fs j = .ok sj)
    (hti : slotAt gs i = .ok ti) (htj : slotAt gs j = .ok tj) : sj.binds si = tj.binds ti := by
  obtain ⟨_, hf⟩ := sameLinks_spec h
  rcases slotAt_pair h j with ⟨h1, _⟩ | ⟨h1, h2⟩ | ⟨a, ha, ha', h1, h2, hc⟩
  · rw [h1] at hsj; cases hsj
  · rw [h1] at hsj; rw [h2] at htj; cases hsj; cases htj; rfl
  rcases slotAt_pair h i with ⟨h3, _⟩ | ⟨h3, h4⟩ | ⟨b, hb, hb', h3, h4, hd⟩
  · rw [h3] at hsi; cases hsi
  · rw [h3] at hsi; rw [h4] at hti; cases hsi; cases hti
    rw [h1] at hsj; rw [h2] at htj; cases hsj; cases htj; rfl
  rw [h1] at hsj; rw [h2] at htj; rw [h3] at hsi; rw [h4] at hti
  cases hsj; cases htj; cases hsi; cases hti
  refine (hf a b ha hb ha' hb').2.2 ?_
  by_cases hab : a = b
  · subst hab
    rcases hc with rfl | hc
    · rcases hd with rfl | hd
      · exact absurd rfl hij
      · exact .inr hd
    · exact .inr hc
  · exact .inl hab

theorem casts_congr (fs : List (Formal κ)) (gs : List (Formal κ')) (h : sameLinks fs gs = true) (args : List Arg) :
    castStatic fs args = castStatic gs args ∧ castDynamic fs args = castDynamic gs args ∧
    castBuilder fs args = castBuilder gs args ∧ expected fs args = expected gs args ∧
    allRepresentable fs args = allRepresentable gs args := by
  unfold castStatic castDynamic castBuilder expected allRepresentable assign
  rcases assignFrom_pair h args 0 with ⟨e, e1, e2⟩ | ⟨sa, sb, e1, e2⟩ <;> rw [e1, e2]
  · exact ⟨rfl, rfl, rfl, rfl, rfl⟩
  obtain ⟨ma, hsa⟩ := assignFrom_slots fs args 0 sa e1
  obtain ⟨mb, hsb⟩ := assignFrom_slots gs args 0 sb e2
  have hl : sa.length = sb.length := by simpa using congrArg List.length (ma.trans mb.symm)
  have hargs : ∀ i (hi : i < sa.length) (hi' : i < sb.length), sa[i].2 = sb[i].2 := by
    intro i hi hi'
    have := List.getElem_of_eq (ma.trans mb.symm) (i := i) (by simpa using hi)
    rwa [List.getElem_map, List.getElem_map] at this
  -- position `i` holds the literal and contributes nothing to its own lookup; every other position binds alike (`binds_pair`)
  have hlook : ∀ i (hi : i < sa.length) (hi' : i < sb.length) l, sa[i].2 = .lit l →
      sa.map (look sa[i].1) = sb.map (look sb[i].1) := by
    intro i hi hi' l hlit
    refine map_eq_of_getElem _ _ sa sb hl (fun j hj hj' => ?_)
    have hb : j ≠ i → sa[j].1.binds sa[i].1 = sb[j].1.binds sb[i].1 := fun hji =>
      binds_pair h i j (Ne.symm hji) _ _ _ _ (by simpa using hsa i hi) (by simpa using hsa j hj)
        (by simpa using hsb i hi') (by simpa using hsb j hj')
    unfold look
    rw [← hargs j hj hj']
    cases hj2 : sa[j].2 with
    | tensor dt k => simp only [hb (fun hji => by subst hji; rw [hlit] at hj2; cases hj2)]
    | _ => rfl
  obtain ⟨h1, h2, h3, h4, h5⟩ := casts_congr_sa sa sb hl fun i hi hi' => ⟨hargs i hi hi', hlook i hi hi'⟩
  exact ⟨h1, h2, h3, congrArg Except.ok h4, h5⟩

/-- `agree3` for any name type (the `sig = raw` shortcut of `agree3` dropped). -/
def agree3G (sig raw : List (Formal κ)) (args : List Arg) : Bool :=
  let e := expected sig args
  resEq e (expected raw args) &&
  (if allRepresentable sig args then
    resEq (castStatic sig args) e && resEq (castDynamic sig args) e && resEq (castBuilder raw args) e
  else
    okOrOverflow (castStatic sig args) (dtypes e) && okOrOverflow (castDynamic sig args) (dtypes e)
      && okOrOverflow (castBuilder raw args) (dtypes e))

/-- `agree3All` for any name type. -/
def agree3AllG (sig raw : List (Formal κ)) : Bool :=
  decide (sig.length = raw.length) &&
  (positions sig).all (fun p => litSet.all (fun l => (probes sig.length p l).all (agree3G sig raw)))

theorem agree3G_congr (sig raw : List (Formal κ)) (h : sameLinks sig raw = true) (args : List Arg) :
    agree3G sig raw args = agree3G sig sig args := by
  obtain ⟨_, _, h3, h4, _⟩ := casts_congr sig raw h args
  simp only [agree3G, h3, h4]

end

theorem DType.beq_refl (d : DType) : d.beq d = true := by simp [DType.beq]

theorem intBeq_refl (a : Int) : intBeq a a = true := by cases a <;> simp [intBeq]

theorem SVal.beq_refl (v : SVal) : v.beq v = true := by
  cases v <;> simp [SVal.beq, intBeq_refl]

theorem listBeq_refl {α : Type} (eq : α → α → Bool) (h : ∀ a, eq a a = true) : ∀ l : List α, listBeq eq l l = true
  | [] => rfl
  | x :: xs => by simp [listBeq, h x, listBeq_refl eq h xs]

theorem Out.beq_refl (o : Out) : o.beq o = true := by
  cases o <;> simp [Out.beq, DType.beq_refl, listBeq_refl _ SVal.beq_refl]

theorem resEq_refl (r : Except Err (List Out)) : resEq r r = true := by
  cases r with
  | ok x => exact listBeq_refl _ Out.beq_refl x
  | error e => cases e <;> rfl

theorem beqNat_eq (a b : Formal Nat) (h : Formal.beqNat a b = true) : a = b := by
  cases a; cases b
  simp only [Formal.beqNat, Bool.and_eq_true, beq_iff_eq] at h
  simp [h.1.1.1, h.1.1.2, h.1.2, h.2]

theorem listBeqNat_eq : ∀ (a b : List (Formal Nat)), listBeq Formal.beqNat a b = true → a = b
  | [], [], _ => rfl
  | [], _ :: _, h => by simp [listBeq] at h
  | _ :: _, [], h => by simp [listBeq] at h
  | x :: xs, y :: ys, h => by
    simp only [listBeq, Bool.and_eq_true] at h
    rw [beqNat_eq x y h.1, listBeqNat_eq xs ys h.2]

theorem agree3_eq_G (s : IShape) (args : List Arg) : agree3 s args = agree3G s.sig s.raw args := by
  unfold agree3 agree3G
  cases hb : listBeq Formal.beqNat s.sig s.raw with
  | false => simp
  | true =>
    have := listBeqNat_eq _ _ hb
    simp only [Bool.true_or, Bool.true_and, ← this, resEq_refl]

theorem agree3All_eq_G (s : IShape) : agree3All s = agree3AllG s.sig s.raw := by
  unfold agree3All agree3AllG
  congr 1
  apply all_congr_mem; intro p _
  apply all_congr_mem; intro l _
  apply all_congr_mem; intro args _
  exact agree3_eq_G s args

theorem optDtBeq_refl (a : Option DType) : optDtBeq a a = true := by
  cases a <;> simp [optDtBeq, DType.beq_refl]

theorem okOrOverflow_of (r : Except Err (List Out)) (want : Option (List (Option DType)))
    (h : r = .error .overflow ∨ dtypes r = want) : okOrOverflow r want = true := by
  rcases h with rfl | rfl
  · rfl
  · cases r with
    | error e => cases e <;> rfl
    | ok os => exact listBeq_refl _ optDtBeq_refl _

section
variable {κ : Type} [DecidableEq κ]

theorem agree3G_self (fs : List (Formal κ)) (args : List Arg)
    (hwt : WellTyped fs args) : agree3G fs fs args = true := by
  have hd := casts_dtype fs args hwt
  simp only [List.mem_cons, List.not_mem_nil, or_false, forall_eq_or_imp, forall_eq] at hd
  unfold agree3G
  cases hr : allRepresentable fs args with
  | true =>
    obtain ⟨h1, h2, h3⟩ := casts_eq_expected fs args hwt hr
    simp [h1, h2, h3, resEq_refl]
  | false =>
    simp [resEq_refl, okOrOverflow_of _ _ hd.1, okOrOverflow_of _ _ hd.2.1, okOrOverflow_of _ _ hd.2.2]

end

theorem probes_oneDType (n p : Nat) (l : Lit) (args : List Arg) (h : args ∈ probes n p l) :
    ∃ d, ∀ d' k, Arg.tensor d' k ∈ args → d' = d := by
  have mk : ∀ (o : Arg) (m : Nat), ∀ a ∈ (List.range m).map (fun i => if i == p then Arg.lit l else o),
      a = .lit l ∨ a = o := by
    intro o m a ha
    obtain ⟨i, _, rfl⟩ := List.mem_map.mp ha
    split <;> simp
  simp only [probes, List.mem_append, List.mem_map, List.mem_cons, List.not_mem_nil, or_false] at h
  rcases h with (⟨d, _, rfl⟩ | ⟨d, _, rfl⟩) | rfl | rfl
  · exact ⟨d, fun d' k hm => by rcases mk _ _ _ hm with h | h <;> cases h; rfl⟩
  · exact ⟨d, fun d' k hm => by rcases mk _ _ _ hm with h | h <;> cases h; rfl⟩
  · exact ⟨.float, fun d' k hm => by rcases mk _ _ _ hm with h | h <;> cases h⟩
  · exact ⟨.float, fun d' k hm => by rcases mk _ _ _ hm with h | h <;> cases h⟩

/-- The check only asks what `three_agree` and `three_agree_dtype` prove, on argument lists that are well typed whatever
the signature. -/
theorem agree3AllG_self {κ : Type} [DecidableEq κ] (fs : List (Formal κ)) : agree3AllG fs fs = true := by
  simp only [agree3AllG, decide_true, Bool.true_and, List.all_eq_true]
  intro p _ l _ args ha
  obtain ⟨d, hd⟩ := probes_oneDType _ p l args ha
  exact agree3G_self fs args (wellTyped_of_oneDType fs args d hd)

theorem agree3AllG_of_sameLinks {κ : Type} [DecidableEq κ] (sig raw : List (Formal κ)) (h : sameLinks sig raw = true) :
    agree3AllG sig raw = true := by
  have hs := agree3AllG_self sig
  simp only [agree3AllG, decide_true, Bool.true_and, List.all_eq_true, (sameLinks_spec h).1] at hs ⊢
  intro p hp l hl args ha
  rw [agree3G_congr sig raw h]
  exact hs p hp l hl args ((sameLinks_spec h).1 ▸ ha)

theorem agree3All_of_sameLinks (s : IShape) (h : sameLinks s.sig s.raw = true) : agree3All s = true := by
  rw [agree3All_eq_G]
  exact agree3AllG_of_sameLinks _ _ h

section
variable {κ κ' : Type}

def Formal.rename (ρ : κ → κ') (f : Formal κ) : Formal κ' := ⟨ρ f.tc, f.isVar, f.variadic, f.homogeneous⟩

def InjOn (ρ : κ → κ') (S : List κ) : Prop := ∀ a ∈ S, ∀ b ∈ S, ρ a = ρ b → a = b

theorem injOn_subset (ρ : κ → κ') (S T : List κ) (h : InjOn ρ T) (hs : ∀ a ∈ S, a ∈ T) : InjOn ρ S :=
  fun a ha b hb e => h a (hs a ha) b (hs b hb) e

end

section
variable {κ κ' : Type} [DecidableEq κ] [DecidableEq κ']

theorem binds_rename (ρ : κ → κ') (S : List κ) (hinj : InjOn ρ S) (f g : Formal κ) (hf : f.tc ∈ S) (hg : g.tc ∈ S) :
    (f.rename ρ).binds (g.rename ρ) = f.binds g := by
  unfold Formal.binds Formal.rename
  by_cases he : f.tc = g.tc
  · simp [he]
  · rw [beq_eq_false_iff_ne.mpr he, beq_eq_false_iff_ne.mpr fun e => he (hinj _ hf _ hg e)]

theorem sameLinks_rename (ρ : κ → κ') (fs : List (Formal κ)) (hinj : InjOn ρ (fs.map (·.tc))) :
    sameLinks (fs.map (Formal.rename ρ)) fs = true := by
  simp only [sameLinks, List.length_map, beq_self_eq_true, Bool.true_and, List.all_eq_true, List.mem_range]
  intro i hi j hj
  simp only [List.getElem?_map, List.getElem?_eq_getElem hi, List.getElem?_eq_getElem hj, Option.map_some]
  rw [binds_rename ρ _ hinj _ _ (List.mem_map_of_mem (List.getElem_mem hi)) (List.mem_map_of_mem (List.getElem_mem hj))]
  simp [Formal.rename]

theorem cast_rename (ρ : κ → κ') (fs : List (Formal κ)) (hinj : InjOn ρ (fs.map (·.tc))) (args : List Arg) :
    castStatic (fs.map (Formal.rename ρ)) args = castStatic fs args ∧
    castDynamic (fs.map (Formal.rename ρ)) args = castDynamic fs args ∧
    castBuilder (fs.map (Formal.rename ρ)) args = castBuilder fs args ∧
    expected (fs.map (Formal.rename ρ)) args = expected fs args ∧
    allRepresentable (fs.map (Formal.rename ρ)) args = allRepresentable fs args :=
  casts_congr _ fs (sameLinks_rename ρ fs hinj) args

theorem sameLinks_map_rename (ρ : κ → κ') (fs gs : List (Formal κ)) (hf : InjOn ρ (fs.map (·.tc)))
    (hg : InjOn ρ (gs.map (·.tc))) :
    sameLinks (fs.map (Formal.rename ρ)) (gs.map (Formal.rename ρ)) = sameLinks fs gs := by
  unfold sameLinks
  rw [List.length_map, List.length_map]
  congr 1
  apply all_congr_mem; intro i _
  apply all_congr_mem; intro j _
  simp only [List.getElem?_map]
  cases hi : fs[i]? <;> cases hj : fs[j]? <;> cases hi' : gs[i]? <;> cases hj' : gs[j]? <;> try rfl
  simp only [Option.map_some]
  rw [binds_rename ρ _ hf _ _ (List.mem_map_of_mem (List.mem_of_getElem? hi)) (List.mem_map_of_mem (List.mem_of_getElem? hj)),
    binds_rename ρ _ hg _ _ (List.mem_map_of_mem (List.mem_of_getElem? hi')) (List.mem_map_of_mem (List.mem_of_getElem? hj'))]
  rfl

end

theorem idxOf_injOn (names : List String) : InjOn (fun n => names.idxOf n) names := by
  intro a ha b hb h
  have la : names.idxOf a < names.length := List.idxOf_lt_length_iff.mpr ha
  have lb : names.idxOf b < names.length := List.idxOf_lt_length_iff.mpr hb
  have ea := List.getElem_idxOf la
  have eb := List.getElem_idxOf lb
  simp only [h] at ea
  exact ea.symm.trans eb

theorem internWith_eq (names : List String) (fs : List SFormal) :
    internWith names fs = (fs.map SFormal.formal).map (Formal.rename (fun n => names.idxOf n)) := by
  unfold internWith
  rw [List.map_map]
  rfl

theorem sameLinks_intern (s : Shape) :
    sameLinks s.intern.sig s.intern.raw = sameLinks (s.sig.map SFormal.formal) (s.raw.map SFormal.formal) := by
  have hn : ∀ l : List SFormal, (∀ a ∈ l, a ∈ s.sig ++ s.raw) →
      InjOn (fun n => ((s.sig ++ s.raw).map (·.tc)).idxOf n) ((l.map SFormal.formal).map (·.tc)) := fun l hl =>
    injOn_subset _ _ _ (idxOf_injOn _) fun a ha => by
      obtain ⟨f, hf, rfl⟩ := List.mem_map.mp ha
      obtain ⟨g, hg, rfl⟩ := List.mem_map.mp hf
      exact List.mem_map_of_mem (hl g hg)
  simp only [Shape.intern, internWith_eq]
  exact sameLinks_map_rename _ _ _ (hn _ fun a ha => List.mem_append_left _ ha)
    (hn _ fun a ha => List.mem_append_right _ ha)

end OV.Autocast
