import OV.Lemmas.C06Sound
import OV.Model.C06Exc
/-!
  C06 — the exception-aware matcher (`OV.Model.C06Exc`) against the total one (`OV.Model.C06Match`).

  * `Keeps`: every helper of the matcher leaves the partial matches below the current one alone and, when it
    returns `True`, does not touch the success flag of the current one.
  * `StepX B …`: for patterns without tagged dispatch-OR (`B`), started on a successful current partial match:
    the exception-aware function does not raise, returns what the total function returns, on a stack
    `c :: rest` the result is `c' :: rest`, and a `True` result keeps the current partial match successful.
    (Outside `B` the two models differ also where nothing is raised: `nodeStepX` refuses every new node once
    the current partial match is failed — the truth value of the `MatchResult` that `NodePattern.matches`
    returns — while `nodeStep` goes on; both end in "no match".)
-/
namespace OV.C06

def Keeps (c : Partial) (rest : Stack) (r : R) : Prop :=
  ∃ c', r.2 = c' :: rest ∧ (r.1 = true → c'.ok = c.ok)

theorem Keeps.refl (c : Partial) (rest : Stack) : Keeps c rest (true, c :: rest) := ⟨c, rfl, fun _ => rfl⟩

theorem Keeps.failed (c : Partial) (rest : Stack) : Keeps c rest (fail (c :: rest)) :=
  ⟨_, rfl, fun h => by simp [fail] at h⟩

theorem Keeps.seq {c : Partial} {rest : Stack} {r1 : R} (h1 : Keeps c rest r1) {f : Stack → R}
    (hf : ∀ c1, Keeps c1 rest (f (c1 :: rest))) : Keeps c rest (if !r1.1 then r1 else f r1.2) := by
  obtain ⟨c1, e1, k1⟩ := h1
  cases hb : r1.1
  · exact ⟨c1, by simpa using e1, fun h => by simp [hb] at h⟩
  · obtain ⟨c2, e2, k2⟩ := hf c1
    simp only [Bool.not_true, Bool.false_eq_true, ↓reduceIte, e1]
    exact ⟨c2, e2, fun h => (k2 h).trans (k1 hb)⟩

theorem Keeps.elim {c : Partial} {rest : Stack} {r : R} (h : Keeps c rest r) :
    ∃ b c1, r = (b, c1 :: rest) ∧ (b = true → c1.ok = c.ok) := by
  obtain ⟨c1, e, k⟩ := h
  refine ⟨r.1, c1, ?_, k⟩
  cases r
  simp_all

/-- the binding steps of `C06Step` say this of `bind`, `bind_value`, `NodePattern.matches`, the constant test and the
output loop -/
theorem Step.keeps {Ar : Prop} {Rel : Partial → Partial → Prop} {rest : Stack} {c : Partial} {r : R}
    {Q : Partial → Prop} (h : Step Ar Rel rest c r (fun c' => c'.ok = c.ok ∧ Q c')) : Keeps c rest r :=
  let ⟨c', hr, _, q⟩ := h; ⟨c', hr.st, fun ht => (q ht).1⟩

theorem bindOutputs_keeps (fix : Bool) (p : GPat) (np : NPId) (gouts : List ValueId) (l : List (Option String))
    (i : Nat) (c : Partial) (rest : Stack) : Keeps c rest (bindOutputs fix p np gouts l i (c :: rest)) :=
  (bindOutputs_stepE (Ar := False) fix p np gouts rest l i c nofun).1.keeps

/-- `x` (exception-aware) against `pr` (total) on the stack `c :: rest`; `B` = "no tagged dispatch-OR here" -/
structure StepX (B : Prop) (x : RX) (pr : R) (c : Partial) (rest : Stack) : Prop where
  ref : B → c.ok = true → ∀ r, x = .ok r → pr = r ∧ ∃ c', r.2 = c' :: rest ∧ (r.1 = true → c'.ok = true)
  tot : B → c.ok = true → ∃ r, x = .ok r

theorem StepX.mk' {B : Prop} {x : RX} {pr : R} {c : Partial} {rest : Stack}
    (h : B → c.ok = true → ∃ r, x = .ok r ∧ pr = r ∧ ∃ c', r.2 = c' :: rest ∧ (r.1 = true → c'.ok = true)) :
    StepX B x pr c rest :=
  ⟨fun hb h0 r he => by
      obtain ⟨r', hx, hp, hs⟩ := h hb h0
      rw [hx] at he
      cases he
      exact ⟨hp, hs⟩,
    fun hb h0 => let ⟨r, hx, _⟩ := h hb h0; ⟨r, hx⟩⟩

theorem StepX.run {B : Prop} {x : RX} {pr : R} {c : Partial} {rest : Stack} (h : StepX B x pr c rest)
    (hb : B) (h0 : c.ok = true) :
    ∃ r, x = .ok r ∧ pr = r ∧ ∃ c', r.2 = c' :: rest ∧ (r.1 = true → c'.ok = true) := by
  obtain ⟨r, hx⟩ := h.tot hb h0
  exact ⟨r, hx, h.ref hb h0 r hx⟩

theorem StepX.ofKeeps {B : Prop} {c : Partial} {rest : Stack} {r : R} (h : Keeps c rest r) :
    StepX B (.ok r) r c rest := by
  obtain ⟨c', e, k⟩ := h
  exact ⟨fun _ hc r' he => by cases he; exact ⟨rfl, c', e, fun ht => (k ht).trans hc⟩, fun _ _ => ⟨r, rfl⟩⟩

/-- a `False` result, whatever the stack top: nothing to show about the flag -/
theorem StepX.ofFalse {B : Prop} {c c1 : Partial} {rest : Stack} : StepX B (.ok (false, c1 :: rest)) (false, c1 :: rest) c rest :=
  ⟨(fun _ _ r he => by cases he; exact ⟨rfl, c1, rfl, fun h => by simp at h⟩), fun _ _ => ⟨_, rfl⟩⟩

theorem StepX.weaken {B B' : Prop} {x : RX} {pr : R} {c : Partial} {rest : Stack} (h : StepX B x pr c rest)
    (hb : B' → B) : StepX B' x pr c rest :=
  ⟨fun b hc r he => h.ref (hb b) hc r he, fun b => h.tot (hb b)⟩

theorem StepX.ite {B : Prop} {cond : Prop} [Decidable cond] {x1 x2 : RX} {p1 p2 : R} {c : Partial} {rest : Stack}
    (h1 : cond → StepX B x1 p1 c rest) (h2 : ¬cond → StepX B x2 p2 c rest) :
    StepX B (if cond then x1 else x2) (if cond then p1 else p2) c rest := by
  by_cases h : cond
  · simp only [h, ↓reduceIte]; exact h1 h
  · simp only [h, ↓reduceIte]; exact h2 h

/-- change the partial match the success-flag clauses refer to -/
theorem StepX.reref {B : Prop} {x : RX} {pr : R} {c0 c1 : Partial} {rest : Stack}
    (hc : B → c0.ok = true → c1.ok = true) (h : StepX B x pr c1 rest) : StepX B x pr c0 rest :=
  ⟨fun b h0 r he => h.ref b (hc b h0) r he, fun b h0 => h.tot b (hc b h0)⟩

/-- a helper of the total matcher first, the rest if it returned `True`.  (Stated like `Step.bind`, for both
continuations.) -/
theorem StepX.afterKeeps {B : Prop} {c : Partial} {rest : Stack} {e : R} {K : R → RX} {Kp : R → R}
    (hk : Keeps c rest e)
    (h : ∀ c1, (c.ok = true → c1.ok = true) → StepX B (K (true, c1 :: rest)) (Kp (true, c1 :: rest)) c1 rest) :
    ∀ r, e = r → StepX B (if !r.1 then .ok r else K r) (if !r.1 then r else Kp r) c rest := by
  rintro r rfl
  obtain ⟨b, c1, rfl, k⟩ := hk.elim
  cases b
  · exact .ofKeeps ⟨c1, rfl, nofun⟩
  · exact (h c1 fun h0 => (k rfl).trans h0).reref fun _ h0 => (k rfl).trans h0

/-- an exception-aware sub-call first.  (Stated like `Step.bind`, for both continuations; the variable is the
result of the total sub-call.) -/
theorem StepX.bind {B : Prop} {x : RX} {e : R} {c : Partial} {rest : Stack} (h : StepX B x e c rest)
    {K : R → RX} {Kp : R → R}
    (hk : ∀ b c1, (B → c.ok = true → b = true → c1.ok = true) →
      StepX B (K (b, c1 :: rest)) (Kp (b, c1 :: rest)) c rest) :
    ∀ pr, e = pr → StepX B (match x with | .error e => .error e | .ok r2 => K r2) (Kp pr) c rest := by
  rintro pr rfl
  refine StepX.mk' (fun hb h0 => ?_)
  obtain ⟨r2, hx, hp, c1, e1, k1⟩ := h.run hb h0
  have hr2 : r2 = (r2.1, c1 :: rest) := by cases r2; simp_all
  rw [hx, hp]
  dsimp only
  rw [hr2]
  exact (hk r2.1 c1 (fun _ _ => k1)).run hb h0

def RecX (E : Env) (recX : NPId → NodeId → Stack → RX) (rec : NPId → NodeId → Stack → R) : Prop :=
  ∀ np n c rest, StepX (E.p.backOk = true) (recX np n (c :: rest)) (rec np n (c :: rest)) c rest

theorem matchNodeOutputX_spec (E : Env) {recX : NPId → NodeId → Stack → RX} {rec : NPId → NodeId → Stack → R}
    (hrec : RecX E recX rec) (np : NPId) (idx : Nat) (x : ValueId) (c : Partial) (rest : Stack) :
    StepX (E.p.backOk = true) (matchNodeOutputX E recX np idx x (c :: rest))
      (matchNodeOutput E rec np idx x (c :: rest)) c rest := by
  unfold matchNodeOutputX matchNodeOutput
  cases hp : E.g.producer x with
  | none => exact StepX.ofKeeps (Keeps.failed c rest)
  | some n =>
    dsimp only
    exact StepX.ite (fun _ => .ofKeeps (Keeps.failed c rest)) (fun _ => hrec np n c rest)

theorem tagBind_eq (tagVar : Option String) (t : Int) (st : Stack) : tagBind tagVar t st = (tagBindR tagVar t st).2 := by
  cases tagVar <;> rfl

theorem tagBindR_keeps (tagVar : Option String) (t : Int) (c : Partial) (rest : Stack) :
    Keeps c rest (tagBindR tagVar t (c :: rest)) := by
  cases tagVar with
  | none => exact Keeps.refl c rest
  | some tv => exact (bind_stepE rest c tv _).1.keeps

theorem bind_false (c : Partial) (rest : Stack) (k : String) (b : Bound) (h : (bind (c :: rest) k b).1 = false) :
    topOk (bind (c :: rest) k b).2 = false := by
  unfold bind at h ⊢
  split
  · next b' h1 =>
    rw [h1] at h
    dsimp only at h
    by_cases he : (b' == b) = true
    · simp [he] at h
    · simp only [he]
      rfl
  · next hn => simp [hn] at h

theorem tagBindR_false (tagVar : Option String) (t : Int) (c : Partial) (rest : Stack)
    (h : (tagBindR tagVar t (c :: rest)).1 = false) : topOk (tagBindR tagVar t (c :: rest)).2 = false := by
  cases tagVar with
  | none => simp [tagBindR] at h
  | some tv => exact bind_false c rest tv _ h

mutual
theorem matchValueX_spec (E : Env) (recX : NPId → NodeId → Stack → RX) (rec : NPId → NodeId → Stack → R)
    (hrec : RecX E recX rec) (hf8 : E.fixF8 = true) :
    ∀ (vp : VPat) (v : Option ValueId) (c : Partial) (rest : Stack),
      StepX (E.p.backOk = true ∧ vp.backOk = true) (matchValueX E recX vp v (c :: rest))
        (matchValue E rec vp v (c :: rest)) c rest
  | .any, v, c, rest => by
    unfold matchValueX matchValue
    exact StepX.ite (fun _ => .ofKeeps (Keeps.failed c rest)) (fun _ => .ofKeeps (Keeps.refl c rest))
  | .var id name isVar canNone check, v, c, rest => by
    unfold matchValueX matchValue
    refine StepX.ite (fun _ => .ofKeeps (Keeps.failed c rest)) (fun _ => ?_)
    dsimp only
    generalize hr : bindValue2 E.fixF2 E.p (c :: rest) (.var id name isVar canNone check) v = r; revert r
    refine StepX.afterKeeps (bindValue2_stepE ..).1.keeps fun c1 _ => ?_
    exact StepX.ite (fun _ => .ofKeeps (Keeps.failed c1 rest)) (fun _ => .ofKeeps (Keeps.refl c1 rest))
  | .const id kc, v, c, rest => by
    unfold matchValueX matchValue
    refine StepX.ite (fun _ => .ofKeeps (Keeps.failed c rest)) (fun _ => ?_)
    dsimp only
    generalize hr : bindValue E.p (c :: rest) (.const id kc) v = r; revert r
    refine StepX.afterKeeps (bindValue_stepE ..).1.keeps fun c1 _ => ?_
    cases v with
    | none => exact .ofKeeps (Keeps.failed c1 rest)
    | some x => exact .ofKeeps (matchConstant_stepE E kc x rest c1).1.keeps
  | .out np idx, v, c, rest => by
    unfold matchValueX matchValue
    refine StepX.ite (fun _ => .ofKeeps (Keeps.failed c rest)) (fun _ => ?_)
    dsimp only
    generalize hr : bindValue E.p (c :: rest) (.out np idx) v = r; revert r
    refine StepX.afterKeeps (bindValue_stepE ..).1.keeps fun c1 _ => ?_
    cases v with
    | none => exact .ofKeeps (Keeps.failed c1 rest)
    | some x => exact (matchNodeOutputX_spec E hrec np idx x c1 rest).weaken And.left
  | .orD id name tagVar alts, v, c, rest => by
    unfold matchValueX matchValue
    refine StepX.ite (fun _ => .ofKeeps (Keeps.failed c rest)) (fun _ => ?_)
    dsimp only
    generalize hr : bindValue E.p (c :: rest) (.orD id name tagVar alts) v = r; revert r
    refine StepX.afterKeeps (bindValue_stepE ..).1.keeps fun c1 _ => ?_
    cases v with
    | none => exact .ofKeeps (Keeps.failed c1 rest)
    | some x =>
      dsimp only
      cases hd : getDispatch E.g alts x with
      | none => exact .ofKeeps (Keeps.failed c1 rest)
      | some a =>
        dsimp only
        have h2 := (bindValue_stepE E.p rest c1 (.out a.np a.idx) (some x)).1.keeps
        generalize bindValue E.p (c1 :: rest) (.out a.np a.idx) (some x) = r2 at h2 ⊢
        obtain ⟨b2, c2, rfl, k2⟩ := h2.elim
        cases b2
        · simp only [Bool.not_false, ↓reduceIte]
          exact .ofKeeps ⟨c2, rfl, fun h => by simp at h⟩
        · simp only [Bool.not_true, Bool.false_eq_true, ↓reduceIte]
          refine StepX.reref (fun _ h0 => (k2 rfl).trans h0) ?_
          cases tagVar with
          | none =>
            dsimp only
            generalize hp : matchNodeOutput E rec a.np a.idx x (c2 :: rest) = pr; revert pr
            refine StepX.bind ((matchNodeOutputX_spec E hrec a.np a.idx x c2 rest).weaken And.left) ?_
            intro b3 c3 k3
            simp only [ite_self]
            exact ⟨(fun hb h0 r he => by cases he; exact ⟨rfl, c3, rfl, k3 hb h0⟩), fun _ _ => ⟨_, rfl⟩⟩
          | some t =>
            dsimp only
            generalize hp : matchNodeOutput E rec a.np a.idx x (c2 :: rest) = pr; revert pr
            refine StepX.bind ((matchNodeOutputX_spec E hrec a.np a.idx x c2 rest).weaken And.left) ?_
            intro b3 c3 k3
            cases b3
            · simp only [Bool.false_eq_true, ↓reduceIte]
              exact StepX.ofFalse
            · simp only [↓reduceIte]
              exact ⟨(fun hb _ r he => by
                cases he
                exact absurd hb.2 (by simp [VPat.backOk])), fun _ _ => ⟨_, rfl⟩⟩
  | .orB id name tagVar tags alts, v, c, rest => by
    unfold matchValueX matchValue
    refine StepX.ite (fun _ => .ofKeeps (Keeps.failed c rest)) (fun _ => ?_)
    dsimp only
    generalize hr : bindValue E.p (c :: rest) (.orB id name tagVar tags alts) v = r; revert r
    refine StepX.afterKeeps (bindValue_stepE ..).1.keeps fun c1 _ => ?_
    exact (matchAltsX_spec E recX rec hrec hf8 alts tags tagVar v c1 rest).weaken
      (fun h => ⟨h.1, by simpa [VPat.backOk] using h.2⟩)
theorem matchAltsX_spec (E : Env) (recX : NPId → NodeId → Stack → RX) (rec : NPId → NodeId → Stack → R)
    (hrec : RecX E recX rec) (hf8 : E.fixF8 = true) :
    ∀ (alts : List VPat) (tags : List Int) (tagVar : Option String) (v : Option ValueId) (c : Partial)
      (rest : Stack),
      StepX (E.p.backOk = true ∧ backOkL alts = true) (matchAltsX E recX alts tags tagVar v (c :: rest))
        (matchAlts E rec alts tags tagVar v (c :: rest)) c rest
  | [], tags, tagVar, v, c, rest => by
    unfold matchAltsX matchAlts
    exact .ofKeeps (Keeps.failed c rest)
  | a :: more, tags, tagVar, v, c, rest => by
    have iha : StepX (E.p.backOk = true ∧ a.backOk = true) (matchValueX E recX a v (enter (c :: rest)))
        (matchValue E rec a v (enter (c :: rest))) {} (c :: rest) :=
      matchValueX_spec E recX rec hrec hf8 a v {} (c :: rest)
    have ihm := (matchAltsX_spec E recX rec hrec hf8 more tags.tail tagVar v c rest).weaken
      (B' := E.p.backOk = true ∧ backOkL (a :: more) = true)
      (fun h => ⟨h.1, by have := h.2; simp only [backOkL, Bool.and_eq_true] at this; exact this.2⟩)
    have hBa : (E.p.backOk = true ∧ backOkL (a :: more) = true) → (E.p.backOk = true ∧ a.backOk = true) :=
      fun h => ⟨h.1, by have := h.2; simp only [backOkL, Bool.and_eq_true] at this; exact this.1⟩
    refine StepX.mk' (fun hb h0 => ?_)
    obtain ⟨ra, hx, hp, cur, ecur, kcur⟩ := iha.run (hBa hb) rfl
    unfold matchAltsX matchAlts
    dsimp only
    rw [hx]
    obtain ⟨b1, st1⟩ := ra
    dsimp only at ecur kcur
    subst ecur
    rw [hp, tagBind_eq]
    dsimp only
    cases b1
    · simp only [Bool.false_eq_true, ↓reduceIte, abandon]
      exact ihm.run hb h0
    · simp only [↓reduceIte]
      have hcur : cur.ok = true := kcur rfl
      have h2 := tagBindR_keeps tagVar (tags.headD 0) cur (c :: rest)
      have h2f := tagBindR_false tagVar (tags.headD 0) cur (c :: rest)
      generalize tagBindR tagVar (tags.headD 0) (cur :: c :: rest) = rb at h2 h2f ⊢
      obtain ⟨b2, cur2, rfl, k2⟩ := h2.elim
      cases b2
      · have : topOk (cur2 :: c :: rest) = false := h2f rfl
        simp only [Bool.false_eq_true, ↓reduceIte, this, hf8, abandon]
        exact ihm.run hb h0
      · simp only [↓reduceIte]
        have hcur2 : cur2.ok = true := (k2 rfl).trans hcur
        unfold mergeTopX
        have htop : topOk (cur2 :: c :: rest) = cur2.ok := rfl
        rw [htop]
        simp only [hcur2, h0, Bool.not_true, Bool.false_eq_true, ↓reduceIte, mergeTop]
        exact ⟨_, rfl, rfl, _, rfl, fun _ => by cases E.fixF3 <;> exact h0⟩
end

theorem matchInputsX_spec {B : Prop} (mvX : VPat → Option ValueId → Stack → RX) (mv : VPat → Option ValueId → Stack → R) :
    ∀ (pairs : List (Option ValueId × Option VPat)) (c : Partial) (rest : Stack),
      (∀ v vp, (v, some vp) ∈ pairs → ∀ c rest, StepX B (mvX vp v (c :: rest)) (mv vp v (c :: rest)) c rest) →
      StepX B (matchInputsX mvX pairs (c :: rest)) (matchInputs mv pairs (c :: rest)) c rest
  | [], c, rest, _ => by
    unfold matchInputsX matchInputs
    exact .ofKeeps (Keeps.refl c rest)
  | (v, none) :: more, c, rest, h => by
    unfold matchInputsX matchInputs
    exact StepX.ite (fun _ => matchInputsX_spec mvX mv more c rest (fun v vp hm => h v vp (List.mem_cons_of_mem _ hm)))
      (fun _ => .ofKeeps (Keeps.failed c rest))
  | (v, some vp) :: more, c, rest, h => by
    unfold matchInputsX matchInputs
    dsimp only
    generalize hp : mv vp v (c :: rest) = pr; revert pr
    refine StepX.bind (h v vp (List.mem_cons_self ..) c rest) ?_
    intro b c1 k
    cases b
    · simp only [Bool.not_false, ↓reduceIte]
      exact StepX.ofFalse
    · simp only [Bool.not_true, Bool.false_eq_true, ↓reduceIte]
      exact (matchInputsX_spec mvX mv more c1 rest (fun v vp hm => h v vp (List.mem_cons_of_mem _ hm))).reref
        (fun hb h0 => k hb h0 rfl)

theorem nodeStepX_spec (E : Env) (mvX : VPat → Option ValueId → Stack → RX) (mv : VPat → Option ValueId → Stack → R)
    (hmv : ∀ vp, (E.p.backOk = true → vp.backOk = true) → ∀ v c rest,
      StepX (E.p.backOk = true) (mvX vp v (c :: rest)) (mv vp v (c :: rest)) c rest)
    (npid : NPId) (n : NodeId) (c : Partial) (rest : Stack) :
    StepX (E.p.backOk = true) (nodeStepX E mvX npid n (c :: rest)) (nodeStep E mv npid n (c :: rest)) c rest := by
  unfold nodeStepX nodeStep
  cases hl : lookupNode (c :: rest) npid with
  | some m =>
    dsimp only
    exact StepX.ite (fun _ => .ofKeeps (Keeps.refl c rest)) (fun _ => .ofKeeps (Keeps.failed c rest))
  | none =>
    dsimp only
    cases hP : E.p.nodes[npid]? with
    | none => exact .ofKeeps (Keeps.failed c rest)
    | some np =>
      cases hG : E.g.nodes[n]? with
      | none => exact .ofKeeps (Keeps.failed c rest)
      | some gn =>
        dsimp only
        have h1 := (nodeMatches_stepE np gn rest c).1.keeps
        generalize nodeMatches np gn (c :: rest) = r1 at h1 ⊢
        obtain ⟨b, c1, rfl, k⟩ := h1.elim
        cases b
        · simp only [Bool.false_and, Bool.not_false, ↓reduceIte]
          exact .ofKeeps ⟨_, rfl, fun h => by simp [fail] at h⟩
        · have htop : topOk (c1 :: rest) = c1.ok := rfl
          rw [htop]
          cases hc1 : c1.ok
          · -- the current partial match is failed: impossible when started successful (`k`)
            exact StepX.mk' (fun _ h0 => by rw [← k rfl, hc1] at h0; cases h0)
          simp only [Bool.and_self, Bool.not_true, Bool.false_eq_true, ↓reduceIte]
          refine StepX.reref (fun _ h0 => (k rfl).trans h0) ?_
          have hbn : bindNode (c1 :: rest) npid n =
              { c1 with nodes := c1.nodes ++ [n], nb := c1.nb ++ [(npid, n)] } :: rest := rfl
          rw [hbn]
          refine StepX.reref (c1 := { c1 with nodes := c1.nodes ++ [n], nb := c1.nb ++ [(npid, n)] })
            (fun _ h0 => h0) ?_
          generalize ({ c1 with nodes := c1.nodes ++ [n], nb := c1.nb ++ [(npid, n)] } : Partial) = c2
          refine StepX.ite (fun _ => StepX.ofFalse) (fun _ => ?_)
          generalize hp : matchInputs mv (zipPad gn.inputs np.inputs) (c2 :: rest) = pr; revert pr
          refine StepX.bind (matchInputsX_spec mvX mv (zipPad gn.inputs np.inputs) c2 rest (fun v vp hm c' rest' =>
              hmv vp (fun hb => backOk_input hb hP (zipPad_mem_snd _ _ _ _ hm)) v c' rest')) ?_
          intro b3 c3 k3
          cases b3
          · simp only [Bool.not_false, ↓reduceIte]
            exact StepX.ofFalse
          · simp only [Bool.not_true, Bool.false_eq_true, ↓reduceIte]
            exact (StepX.ofKeeps (bindOutputs_keeps E.fixF1 E.p npid gn.outputs np.outputs 0 c3 rest)).reref
              (fun hb h0 => k3 hb h0 rfl)

theorem matchNodeX_spec (E : Env) (hf8 : E.fixF8 = true) : ∀ f, RecX E (matchNodeX E f) (matchNode E f)
  | 0 => fun np n c rest => by
    unfold matchNodeX matchNode
    exact .ofKeeps (Keeps.failed c rest)
  | f + 1 => fun np n c rest => by
    unfold matchNodeX matchNode
    exact nodeStepX_spec E _ _ (fun vp hvp v c rest =>
      (matchValueX_spec E _ _ (matchNodeX_spec E hf8 f) hf8 vp v c rest).weaken (fun hb => ⟨hb, hvp hb⟩)) np n c rest

theorem matchOutputNodesX_spec (E : Env) (hf8 : E.fixF8 = true) :
    ∀ (l : List (NPId × NodeId)) (c : Partial) (rest : Stack),
      StepX (E.p.backOk = true) (matchOutputNodesX E l (c :: rest)) (matchOutputNodes E l (c :: rest)) c rest
  | [], c, rest => by
    unfold matchOutputNodesX matchOutputNodes
    exact .ofKeeps (Keeps.refl c rest)
  | (np, n) :: more, c, rest => by
    unfold matchOutputNodesX matchOutputNodes
    dsimp only
    generalize hp : matchNode E E.p.fuel np n (c :: rest) = pr; revert pr
    refine StepX.bind (matchNodeX_spec E hf8 E.p.fuel np n c rest) ?_
    intro b c1 k
    cases b
    · simp only [Bool.not_false, ↓reduceIte]
      exact StepX.ofFalse
    · simp only [Bool.not_true, Bool.false_eq_true, ↓reduceIte]
      exact (matchOutputNodesX_spec E hf8 more c1 rest).reref (fun hb h0 => k hb h0 rfl)

theorem StepX.eq {B : Prop} {x : RX} {pr : R} {c : Partial} {rest : Stack} (h : StepX B x pr c rest)
    (hb : B) (h0 : c.ok = true) : x = .ok pr :=
  let ⟨_, hx, hp, _⟩ := h.run hb h0
  hp ▸ hx

theorem multiMatchX_eq (E : Env) (hf8 : E.fixF8 = true) (hb : E.p.backOk = true) (rm : Bool)
    (combo : List NodeId) : multiMatchX E rm combo = .ok (multiMatch E rm combo) := by
  unfold multiMatchX multiMatch
  rw [(matchOutputNodesX_spec E hf8 _ {} []).eq hb rfl]

theorem firstMatchX_eq (E : Env) (hf8 : E.fixF8 = true) (hb : E.p.backOk = true) (rm : Bool) :
    ∀ (l : List (List NodeId)) (last : Option Result), firstMatchX E rm l last = .ok (firstMatch E rm l last)
  | [], _ => rfl
  | c :: cs, _ => by
    unfold firstMatchX firstMatch
    rw [multiMatchX_eq E hf8 hb]
    dsimp only
    split
    · rfl
    · exact firstMatchX_eq E hf8 hb rm cs _

theorem matcherMatchX_eq (E : Env) (hf8 : E.fixF8 = true) (hb : E.p.backOk = true) (root : NodeId)
    (rm : Bool) : matcherMatchX E root rm = .ok (matcherMatch E root rm) := by
  unfold matcherMatchX matcherMatch
  split
  · next np hon => simp only [hon, (matchNodeX_spec E hf8 E.p.fuel np root {} []).eq hb rfl]
  · next hne =>
    split
    · next np hon => exact absurd hon (hne np)
    · exact firstMatchX_eq E hf8 hb rm _ none

theorem patternMatch_post (E : Env) (root : NodeId) (rm : Bool) :
    patternMatch E root rm = postMatch E (matcherMatch E root rm) := rfl

end OV.C06
