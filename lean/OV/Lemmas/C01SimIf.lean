import OV.Lemmas.C01Frag
/-!
# Lemmas for C01: forward simulation for straight-line code with nested `if`/`else`

The invariant relates only the *live* Python variables to ONNX values (`Inv`): an `If` node exports exactly
the variables that are assigned in a branch and live afterwards, so a dead variable may hold a stale value in
the graph.  Soundness of the liveness equations is what makes this enough.

Every construct that binds Python variables to fresh ONNX values — an `If` node, a `Loop` node, the inputs of a
loop body — re-establishes the invariant by the same argument, `Inv.rebind`; the three forms of assignment go
through `Inv.assignMany`.
-/
namespace OV.C01

variable {V : Type}

def restrict (ρ : Store V) (Lv : VSet) : Store V := fun x => if Lv.contains x then ρ x else none

theorem restrict_some {ρ : Store V} {Lv : VSet} {x : Name} {pv : PV V} :
    restrict ρ Lv x = some pv ↔ x ∈ Lv ∧ ρ x = some pv := by
  unfold restrict
  by_cases h : Lv.contains x = true
  · simp [List.contains_iff_mem.mp h]
  · have : x ∉ Lv := fun hm => h (List.contains_iff_mem.mpr hm)
    simp [this]

theorem evalExpr_restrict (S : Sem V) (ρ : Store V) (Lv : VSet) (e : Expr)
    (h : ∀ x, x ∈ usedVars e → x ∈ Lv) : evalExpr S (restrict ρ Lv) e = evalExpr S ρ e := by
  apply evalExpr_agree
  intro x hx
  unfold restrict
  simp [h x hx]

theorem evalExprs_restrict (S : Sem V) (ρ : Store V) (Lv : VSet) (es : List Expr)
    (h : ∀ x, x ∈ usedVarsL es → x ∈ Lv) : evalExprs S (restrict ρ Lv) es = evalExprs S ρ es := by
  apply evalExprs_agree
  intro x hx
  unfold restrict
  simp [h x hx]

/-- The simulation invariant at a program point whose live set is `Lv`. -/
structure Inv (S : Sem V) (Lv : VSet) (ρ : Store V) (L : Locals) (env : Env V) (s : St) : Prop where
  vis : VisOK s.used L
  noattr : NoAttrBind S L
  cast : CastSub s
  allT : AllT S ρ
  rel : StoreRel S (restrict ρ Lv) L env s.castable
  bound : ∀ x n, lookup L x = some (.val n) → ρ x ≠ none

theorem Inv.mono {S : Sem V} {Lv Lv' : VSet} {ρ : Store V} {L : Locals} {env : Env V} {s : St}
    (h : Inv S Lv ρ L env s) (hs : ∀ x, x ∈ Lv' → x ∈ Lv) : Inv S Lv' ρ L env s :=
  { h with rel := h.rel.of_le (fun y q hy => by
      obtain ⟨hm, hq⟩ := restrict_some.mp hy
      exact restrict_some.mpr ⟨hs y hm, hq⟩) }

theorem Inv.push {S : Sem V} {Lv : VSet} {ρ : Store V} {L : Locals} {env : Env V} {s : St}
    (h : Inv S Lv ρ L env s) : Inv S Lv ρ ([] :: L) env s :=
  { vis := h.vis.push
    noattr := h.noattr.push
    cast := h.cast
    allT := h.allT
    rel := fun y q hy => by
      obtain ⟨n, hl, hr⟩ := h.rel y q hy
      exact ⟨n, by rw [lookup_push]; exact hl, hr⟩
    bound := fun x n hl => h.bound x n (by rw [← lookup_push]; exact hl) }

theorem Inv.simAt {S : Sem V} {Lv : VSet} {ρ : Store V} {L : Locals} {env : Env V} {s : St}
    (h : Inv S Lv ρ L env s) : SimAt S (restrict ρ Lv) L env s :=
  ⟨h.vis, h.noattr, h.rel, h.cast⟩

theorem Inv.ext {S : Sem V} {Lv : VSet} {ρ : Store V} {L : Locals} {env env' : Env V} {s s' : St}
    (h : Inv S Lv ρ L env s) (k : CastOK s s') (e : ∀ n, n ∈ s.used → env' n = env n) : Inv S Lv ρ L env' s' :=
  { vis := h.vis.mono k.mono, noattr := h.noattr, cast := k.sub h.cast, allT := h.allT,
    rel := h.rel.ext h.vis ⟨e, k.ext⟩, bound := h.bound }

theorem Inv.step {S : Sem V} {Lv : VSet} {ρ : Store V} {L : Locals} {env env' : Env V} {s s' : St} {ns : List Node}
    {G : Nat} (h : Inv S Lv ρ L env s) (f : Emits s s' ns) (ev : evalNodes S G env ns = some env') :
    Inv S Lv ρ L env' s' :=
  h.ext f.1 (f.ext ev).envSame

theorem Inv.skipped {S : Sem V} {Lv : VSet} {ρ : Store V} {L : Locals} {env : Env V} {s s' : St}
    (h : Inv S Lv ρ L env s) (k : CastOK s s') : Inv S Lv ρ L env s' :=
  h.ext k fun _ _ => rfl

theorem Inv.val_of_live {S : Sem V} {Lv : VSet} {ρ : Store V} {L : Locals} {env : Env V} {s : St}
    (h : Inv S Lv ρ L env s) {x n : Name} (hx : x ∈ Lv) (hP : x ∉ S.pyVars) (hl : lookup L x = some (.val n)) :
    ∃ v, env n = some v ∧ ρ x = some (.t v) := by
  cases hq : ρ x with
  | none => exact absurd hq (h.bound x n hl)
  | some q =>
    obtain ⟨v, rfl⟩ := h.allT x q hq hP
    obtain ⟨n', hl', hr⟩ := h.rel x _ (restrict_some.mpr ⟨hx, hq⟩)
    rw [hl] at hl'
    cases hl'
    exact ⟨v, hr.1, rfl⟩

theorem Inv.vals {S : Sem V} {Lv : VSet} {ρ : Store V} {L : Locals} {env : Env V} {s : St}
    (h : Inv S Lv ρ L env s) {vs : List Name} (hs : ∀ x, x ∈ vs → x ∈ Lv) (hf : FreeOf S L vs) :
    ∀ pv, pv ∈ vs → ∀ n, lookup L pv = some (.val n) → ∃ v, env n = some v ∧ ρ pv = some (.t v) :=
  fun pv hpv _ hl => h.val_of_live (hs pv hpv) (hf pv hpv).2 hl

theorem bind_set {ρ' : Store V} : ∀ (xs rn : List Name) (rs : List V) (L : Locals) (env : Env V),
    rn.Nodup → rn.length = xs.length → All2 (fun r pv => ρ' pv = some (PV.t r)) rs xs →
    ∀ x, x ∈ xs → ∃ r v, lookup (bindVals L xs rn) x = some (.val r) ∧ (Env.setMany env rn rs) r = some v
      ∧ ρ' x = some (PV.t v) ∧ r ∈ rn := by
  intro xs
  induction xs with
  | nil => intro rn rs L env _ _ _ x hx; cases hx
  | cons y ys ih =>
    intro rn rs L env hnd hlen hall x hx
    cases rn with
    | nil => simp at hlen
    | cons r rn' =>
      cases hall with
      | cons v _ rs' _ hv hrest =>
        simp only [List.nodup_cons] at hnd
        simp only [bindVals, Env.setMany]
        by_cases hm : x ∈ ys
        · obtain ⟨r2, v2, h1, h2, h3, h4⟩ := ih rn' rs' (bindVar L y (.val r)) (env.set r v) hnd.2
            (by simpa using hlen) hrest x hm
          exact ⟨r2, v2, h1, h2, h3, List.mem_cons_of_mem _ h4⟩
        · rcases List.mem_cons.mp hx with rfl | hx'
          · refine ⟨r, v, ?_, ?_, hv, List.mem_cons_self⟩
            · rw [lookup_bindVals_notin ys rn' _ hm]; exact lookup_bindVar_same _ _ _
            · rw [envSetMany_frame rn' rs' _ r hnd.1]; exact Env.set_same _ _ _
          · exact absurd hx' hm

/-- The Python variables `xs` are bound to values `outs` (in the scope `L` the invariant held in) that hold what
the store `ρ'` has for them and are not castable; the other variables live now (`lo`) were live before (`Lv`) and
have not changed (`RunOK … d`); old names keep their values.  This is the step after an `If` node, after a `Loop`
node and at the head of a loop iteration. -/
theorem Inv.rebind {S : Sem V} {Lv lo : VSet} {ρ ρ' : Store V} {L : Locals} {env env' : Env V} {s s' : St}
    {xs outs : List Name} {d : VSet}
    (hinv : Inv S Lv ρ L env s) (k : CastOK s s') (henv : ∀ n, n ∈ s.used → env' n = env n)
    (hvis : VisOK s'.used (bindVals L xs outs)) (hxs : ∀ x, x ∈ xs → S.attrLit x = none)
    (hrun : RunOK S ρ ρ' (some d))
    (hnew : ∀ x, x ∈ xs → ∃ r v, lookup (bindVals L xs outs) x = some (.val r) ∧ env' r = some v ∧
      ρ' x = some (.t v) ∧ r ∉ s'.castable)
    (hold : ∀ y, y ∈ lo → y ∉ xs → y ∈ Lv ∧ y ∉ d) :
    Inv S lo ρ' (bindVals L xs outs) env' s' := by
  have x : Ext env env' s s' := ⟨henv, k.ext⟩
  refine ⟨hvis, hinv.noattr.bindVals _ _ hxs, k.sub hinv.cast, hrun.allT, fun y q hy => ?_, fun y n hl => ?_⟩
  · obtain ⟨hm, hq⟩ := restrict_some.mp hy
    by_cases hyx : y ∈ xs
    · obtain ⟨r, v, hl, hev, hρ, hnc⟩ := hnew y hyx
      rw [hρ] at hq
      cases hq
      exact ⟨r, hl, hev, hnc⟩
    · obtain ⟨hyL, hyd⟩ := hold y hm hyx
      rw [hrun.frame d rfl y hyd] at hq
      obtain ⟨n, hl, hr⟩ := hinv.rel y q (restrict_some.mpr ⟨hyL, hq⟩)
      exact ⟨n, by rw [lookup_bindVals_notin _ _ _ hyx]; exact hl, hr.ext (hinv.vis.lookup hl) x⟩
  · by_cases hyx : y ∈ xs
    · obtain ⟨_, _, _, _, hρ, _⟩ := hnew y hyx
      rw [hρ]; simp
    · rw [lookup_bindVals_notin _ _ _ hyx] at hl
      exact hrun.dom y (hinv.bound y n hl)

/-- The form of `hnew` after a node with fresh outputs `outs` holding `rs`. -/
theorem rebind_new {ρ' : Store V} {xs outs : List Name} {rs : List V} (L : Locals) (env : Env V) {cast : List Name}
    (hnd : outs.Nodup) (hlen : outs.length = xs.length) (hall : All2 (fun r pv => ρ' pv = some (PV.t r)) rs xs)
    (hnc : ∀ r, r ∈ outs → r ∉ cast) :
    ∀ x, x ∈ xs → ∃ r v, lookup (bindVals L xs outs) x = some (.val r) ∧ (Env.setMany env outs rs) r = some v ∧
      ρ' x = some (.t v) ∧ r ∉ cast := fun x hx => by
  obtain ⟨r, v, h1, h2, h3, h4⟩ := bind_set xs outs rs L env hnd hlen hall x hx
  exact ⟨r, v, h1, h2, h3, hnc r h4⟩

theorem genUniques_not_castable {cs outs : List Name} {s s' : St} (h : genUniques cs s = .ok (outs, s'))
    (hs : CastSub s) : ∀ r, r ∈ outs → r ∉ s'.castable := fun r hr hc => by
  rw [genUniques_castable _ h] at hc
  exact ((genUniques_fresh _ h).2.1.2 r hr).1 (hs r hc)

/-- Re-binding to the fresh outputs `outs` of a node (an `If` node, a `Loop` node) that hold what the variables
`state` hold afterwards. -/
theorem Inv.rebind_fresh {S : Sem V} {Lv lo : VSet} {ρ ρ' : Store V} {L : Locals} {env env1 : Env V} {s sB s' : St}
    {state outs : List Name} {stf : List V} {dd : VSet}
    (hinv : Inv S Lv ρ L env s) (kB : CastOK s sB) (hg : genUniques state sB = .ok (outs, s'))
    (henv1 : ∀ n, n ∈ s.used → env1 n = env n) (hvis' : VisOK s'.used (bindVals L state outs))
    (hfreeS : FreeOf S L state) (hrun : RunOK S ρ ρ' (some dd))
    (hRf : All2 (fun r x => ρ' x = some (PV.t r)) stf state) (hold : ∀ y, y ∈ lo → y ∉ state → y ∈ Lv ∧ y ∉ dd) :
    Inv S lo ρ' (bindVals L state outs) (env1.setMany outs stf) s' ∧ stf.length = outs.length := by
  obtain ⟨_, f, l⟩ := genUniques_fresh _ hg
  have inv' := hinv.rebind (lo := lo) (kB.trans ((Fresh.of_genUniques hg).1))
    (fun n hn => by rw [envSetMany_frame outs stf env1 n (fun hm => (f.2 n hm).1 (kB.mono n hn))]; exact henv1 n hn)
    hvis' (fun x hx => (TFree.of_free hinv.noattr hfreeS x hx).1) hrun
    (rebind_new L env1 f.1 l hRf (genUniques_not_castable hg (kB.sub hinv.cast))) hold
  exact ⟨inv', by rw [all2_length hRf, l]⟩

/-- From the simulation of an assignment on the live part of the store (`hsim`, one of `assign_sim`, `par_sim`,
`tuple_sim`) back to the invariant. -/
theorem Inv.assignMany {S : Sem V} {fuel : Nat} {Lv lo : VSet} {ρ : Store V} {L L' : Locals} {env : Env V}
    {s s' : St} {ns : List Node} {xs ts : List Name} {pvs : List (PV V)}
    (hinv : Inv S Lv ρ L env s) (hLv : ∀ y, y ∈ lo → y ∉ xs → y ∈ Lv) (hl : xs.length = pvs.length)
    (hallT : AllT S (ρ.setMany xs pvs))
    (hsim : StmtSim S fuel ((restrict ρ Lv).setMany xs pvs) L' env s' ns) (hL' : L' = bindVals L xs ts) :
    ∃ env', evalNodes S fuel env ns = some env' ∧ Inv S lo (ρ.setMany xs pvs) L' env' s' := by
  obtain ⟨env1, ev1, at1⟩ := hsim
  refine ⟨env1, ev1, at1.vis, at1.noattr, at1.cast, hallT, at1.rel.of_le fun y q hy => ?_, fun y n hlk => ?_⟩
  · obtain ⟨hm, hq⟩ := restrict_some.mp hy
    by_cases hyx : y ∈ xs
    · rw [(setMany_same xs pvs _ ρ y hl hyx).1]; exact hq
    · rw [setMany_frame xs pvs _ y hyx] at hq ⊢
      exact restrict_some.mpr ⟨hLv y hm hyx, hq⟩
  · subst hL'
    by_cases hyx : y ∈ xs
    · exact (setMany_same xs pvs ρ ρ y hl hyx).2
    · rw [lookup_bindVals_notin xs ts L hyx] at hlk
      exact setMany_dom_mono xs pvs ρ y (hinv.bound y n hlk)

theorem assign_step (S : Sem V) (fuel : Nat) (hConst : ∀ l, ∃ c, constOf S l = some c) {x : Name} {e : Expr}
    {lo : VSet} {ρ ρ' : Store V} {L L' : Locals} {env : Env V} {s s' : St} {ns : List Node}
    (hx : S.attrLit x = none) (hT : x ∈ S.pyVars ∨ (tensorRhs e = true ∧ TFree S (bareVar e)))
    (hinv : Inv S (liveInStmt (.assign x e) lo) ρ L env s)
    (he : evalStmt S fuel (.assign x e) ρ = some (.normal ρ'))
    (h : convStmt L (.assign x e) lo s = .ok ((L', ns), s')) :
    ∃ env', evalNodes S fuel env ns = some env' ∧ Inv S lo ρ' L' env' s' := by
  obtain ⟨pv, hee, ho⟩ := evalStmt_assign_some he
  cases ho
  obtain ⟨t, _, hL'⟩ := convStmt_assign_ok h
  have hee' : evalExpr S (restrict ρ (liveInStmt (.assign x e) lo)) e = some pv := by
    rw [evalExpr_restrict S ρ _ e (fun y hy => by unfold liveInStmt; exact mem_vunion.mpr (Or.inr hy))]; exact hee
  refine Inv.assignMany (xs := [x]) (ts := [t]) (pvs := [pv]) hinv
    (fun y hy hyx => by unfold liveInStmt; exact mem_liveIn_assign.mpr (Or.inl ⟨hy, hyx⟩)) rfl ?_
    (assign_sim S fuel hConst hinv.simAt hx hee' h) hL'
  -- the store stays all-tensor: the value is a tensor, or `x` is one of the Python-scalar variables
  rcases hT with hP | ⟨ht, hb⟩
  · intro y q hy hyP
    unfold Store.setMany Store.setMany Store.set at hy
    by_cases hyx : y = x
    · exact absurd (hyx ▸ hP) hyP
    · simp only [hyx, if_false] at hy
      exact hinv.allT y q hy hyP
  · obtain ⟨v, rfl⟩ := tensorRhs_result hinv.allT hb ht hee
    exact hinv.allT.set x v

theorem par_step (S : Sem V) (fuel : Nat) (hConst : ∀ l, ∃ c, constOf S l = some c) {xs : List Name}
    {es : List Expr} {lo : VSet} {ρ ρ' : Store V} {L L' : Locals} {env : Env V} {s s' : St} {ns : List Node}
    (hi : es.all tensorRhs = true) (hF : TFree S (targetsStmt (.par xs es)))
    (hinv : Inv S (liveInStmt (.par xs es) lo) ρ L env s)
    (he : evalStmt S fuel (.par xs es) ρ = some (.normal ρ'))
    (h : convStmt L (.par xs es) lo s = .ok ((L', ns), s')) :
    ∃ env', evalNodes S fuel env ns = some env' ∧ Inv S lo ρ' L' env' s' := by
  obtain ⟨pvs, hee, hlen, ho⟩ := evalStmt_par_some he
  cases ho
  obtain ⟨_, ts, _, hL'⟩ := convStmt_par_ok h
  have hee' : evalExprs S (restrict ρ (liveInStmt (.par xs es) lo)) es = some pvs := by
    rw [evalExprs_restrict S ρ _ es (fun y hy => by unfold liveInStmt; exact mem_vunion.mpr (Or.inr hy))]; exact hee
  exact Inv.assignMany hinv
    (fun y hy hyx => by
      unfold liveInStmt; exact mem_liveIn_assign.mpr (Or.inl ⟨hy, fun hv => hyx (mem_vofList.mp hv)⟩)) hlen.symm
    (AllT.setMany xs pvs hinv.allT
      (tensorRhs_results hinv.allT (hF.sub (fun y hy => by simp [targetsStmt, hy])) hi hee))
    (par_sim S fuel hConst hinv.simAt
      (fun y hy => (hF y (by simp [targetsStmt, hy])).1) hee' h) hL'

theorem tuple_step (S : Sem V) (fuel : Nat) (hConst : ∀ l, ∃ c, constOf S l = some c) {xs : List Name}
    {dom op : String} {sig : Sig} {args : List Expr} {attrs : List (String × AttrV)} {lo : VSet}
    {ρ ρ' : Store V} {L L' : Locals} {env : Env V} {s s' : St} {ns : List Node}
    (hxs : ∀ x, x ∈ xs → S.attrLit x = none)
    (hinv : Inv S (liveInStmt (.tuple xs (.call dom op sig args attrs)) lo) ρ L env s)
    (he : evalStmt S fuel (.tuple xs (.call dom op sig args attrs)) ρ = some (.normal ρ'))
    (h : convStmt L (.tuple xs (.call dom op sig args attrs)) lo s = .ok ((L', ns), s')) :
    ∃ env', evalNodes S fuel env ns = some env' ∧ Inv S lo ρ' L' env' s' := by
  obtain ⟨pvs, rs, hargs, hap, hl, ho⟩ := evalStmt_tuple_some he
  cases ho
  obtain ⟨_, _, _, _, _, _, _, outs, _, _, _, _, hL', _⟩ := convStmt_tuple_ok h
  have hargs' : evalExprs S (restrict ρ (liveInStmt (.tuple xs (.call dom op sig args attrs)) lo)) args
      = some pvs := by
    rw [evalExprs_restrict S ρ _ args (fun y hy => by
      unfold liveInStmt usedVars
      exact mem_vunion.mpr (Or.inr (mem_vunion.mpr (Or.inl hy))))]
    exact hargs
  exact Inv.assignMany hinv
    (fun y hy hyx => by
      unfold liveInStmt; exact mem_liveIn_assign.mpr (Or.inl ⟨hy, fun hv => hyx (mem_vofList.mp hv)⟩))
    (by simp [hl])
    (AllT.setMany xs _ hinv.allT (fun pv hpv => by
      obtain ⟨v, _, rfl⟩ := List.mem_map.mp hpv
      exact ⟨v, rfl⟩))
    (tuple_sim S fuel hConst hinv.simAt hxs hargs' hap hl h) hL'

/-- What the output loops of a branch and of a loop body conclude. -/
def OutsSim (S : Sem V) (fuel : Nat) (ρ' : Store V) (env : Env V) (os : List Name) (ns : List Node)
    (vs : List Name) : Prop :=
  ∃ env' rs, evalNodes S fuel env ns = some env' ∧ os.mapM env' = some rs ∧
    All2 (fun r pv => ρ' pv = some (PV.t r)) rs vs

/-- Both output loops (`Outs`): the value `n` a variable is bound to becomes an output as it is, or through an
`Identity` copy. -/
theorem Outs.sim (S : Sem V) (fuel : Nat) (hId : ∀ v, S.op "" "Identity" [some v] [] = some [v]) {ρ' : Store V}
    {L : Locals} {vs : List Name} {sofar : List Node} {outs : List Name} {s s' : St} {os : List Name} {ns : List Node}
    (ho : Outs L vs sofar outs s os ns s') : ∀ {env : Env V}, VisOK s.used L → FreeOf S L vs →
    (∀ pv, pv ∈ vs → ∀ n, lookup L pv = some (.val n) → ∃ v, env n = some v ∧ ρ' pv = some (.t v)) →
    OutsSim S fuel ρ' env os ns vs := by
  -- the binding the converter reads is a value
  have key : ∀ {pv rest o ns1} {s s1 : St} {env : Env V}, pyVar L pv s = .ok ((o, ns1), s1) → VisOK s.used L →
      FreeOf S L (pv :: rest) →
      (∀ q, q ∈ pv :: rest → ∀ n, lookup L q = some (.val n) → ∃ v, env n = some v ∧ ρ' q = some (.t v)) →
      ns1 = [] ∧ s1 = s ∧ o ∈ s.used ∧ ∃ v, env o = some v ∧ ρ' pv = some (.t v) := by
    intro pv rest o ns1 s s1 env h1 hL hA hf
    obtain ⟨b, hl, hb⟩ := pyVar_ok h1
    cases b with
    | attr p ty => exact absurd hl ((hA pv List.mem_cons_self).1 p ty)
    | val n =>
      obtain ⟨rfl, rfl, rfl⟩ := toOnnxVar_val_ok hb
      exact ⟨rfl, rfl, hL.lookup hl, hf pv List.mem_cons_self _ hl⟩
  induction ho with
  | nil => intro env _ _ _; exact ⟨env, [], evalNodes_nil _ _ _, rfl, All2.nil⟩
  | direct h1 _ _ rest ih =>
    intro env hL hA hf
    obtain ⟨rfl, rfl, hnu, v, hn, hρ⟩ := key h1 hL hA hf
    obtain ⟨env3, rs, ev3, hm3, a3⟩ := ih hL (hA.sub (fun x hx => List.mem_cons_of_mem _ hx))
      (fun q hq => hf q (List.mem_cons_of_mem _ hq))
    exact ⟨env3, v :: rs, by simpa using ev3, by simp [List.mapM_cons, (rest.fresh.ext ev3).envSame _ hnu, hn, hm3],
      All2.cons _ _ _ _ hρ a3⟩
  | @copy _ _ _ _ _ _ _ _ o' _ _ _ _ _ h1 h2 rest ih =>
    intro env hL hA hf
    obtain ⟨rfl, rfl, hnu, v, hn, hρ⟩ := key h1 hL hA hf
    obtain ⟨ev2, hu2⟩ := emitCopy_sim S fuel hId hn h2
    have f2 := emitCopy_fresh h2
    obtain ⟨env3, rs, ev3, hm3, a3⟩ := ih (env := env.set o' v) (hL.mono f2.1.mono) (hA.sub (fun x hx => List.mem_cons_of_mem _ hx))
      (fun q hq m hl => by
        obtain ⟨w, h1, h2⟩ := hf q (List.mem_cons_of_mem _ hq) m hl
        exact ⟨w, by rw [(f2.ext ev2).envSame m (hL.lookup hl)]; exact h1, h2⟩)
    exact ⟨env3, v :: rs, by simpa using evalNodes_seq ev2 ev3,
      by simp [List.mapM_cons, (rest.fresh.ext ev3).envSame _ hu2, Env.set_same, hm3], All2.cons _ _ _ _ hρ a3⟩

theorem blockOutputs_sim (S : Sem V) (fuel : Nat) (hId : ∀ v, S.op "" "Identity" [some v] [] = some [v])
    {ρ' : Store V} (Lt : Locals) (vs : List Name) (sofar : List Node) (outs : List Name) {env : Env V} {s s' : St}
    {os : List Name} {ns : List Node} (hL : VisOK s.used Lt) (hA : FreeOf S Lt vs)
    (hf : ∀ pv, pv ∈ vs → ∀ n, lookup Lt pv = some (.val n) → ∃ v, env n = some v ∧ ρ' pv = some (.t v))
    (h : blockOutputs Lt vs sofar outs s = .ok ((os, ns), s')) : OutsSim S fuel ρ' env os ns vs :=
  (blockOutputs_outs Lt vs sofar outs h).sim S fuel hId hL hA hf

/-- A notion `Q` of evaluating node lists that contains evaluation at the fuel of the Python run and is closed under
sequencing and under `If` nodes.  The `If` simulation is proved for any such notion; it is used with evaluation at
exactly that fuel (the `if` fragment) and with evaluation at every large enough fuel (`EvFrom`, for loops). -/
structure EvalRel (S : Sem V) (fuel : Nat) (Q : Env V → List Node → Env V → Prop) : Prop where
  of_eval : ∀ {env env' : Env V} {ns : List Node}, evalNodes S fuel env ns = some env' → Q env ns env'
  seq : ∀ {env env1 env2 : Env V} {a b : List Node}, Q env a env1 → Q env1 b env2 → Q env (a ++ b) env2
  ifN : ∀ {env envB : Env V} {c : Name} {cv : V} {b : Bool} {outs to eo : List Name} {tn en : List Node}
    {rs : List V}, env c = some cv → S.truth cv = some b → Q env (if b then tn else en) envB →
    (if b then to else eo).mapM envB = some rs → rs.length = outs.length →
    Q env [.ifN c outs tn to en eo] (env.setMany outs rs)

theorem evalNodes_ifN {S : Sem V} {G : Nat} {env envB : Env V} {c : Name} {cv : V} {b : Bool}
    {outs to eo : List Name} {tn en : List Node} {rs : List V} (hc : env c = some cv) (hb : S.truth cv = some b)
    (hB : evalNodes S G env (if b then tn else en) = some envB) (hrs : (if b then to else eo).mapM envB = some rs)
    (hl : rs.length = outs.length) : evalNodes S G env [.ifN c outs tn to en eo] = some (env.setMany outs rs) := by
  cases b <;> simp at hB hrs <;> simp [evalNodes, evalNode, hc, hb, hB, Env.getMany, hrs, hl]

theorem EvalRel.exact (S : Sem V) (fuel : Nat) :
    EvalRel S fuel (fun env ns env' => evalNodes S fuel env ns = some env') :=
  ⟨id, evalNodes_seq, evalNodes_ifN⟩

theorem targets_branch (c : Expr) (t e : List Stmt) (b : Bool) :
    ∀ y, y ∈ targetsBlock (if b then t else e) → y ∈ targetsStmt (.ite c t e) := by
  intro y hy
  simp only [targetsStmt, List.mem_append]
  cases b
  · exact Or.inr hy
  · exact Or.inl hy

theorem ite_step (S : Sem V) (fuel : Nat) (hConst : ∀ l, ∃ c, constOf S l = some c)
    (hId : ∀ v, S.op "" "Identity" [some v] [] = some [v])
    (hTL : ∀ l c b, constOf S l = some c → truthPV S (.py l) = some b → S.truth c = some b)
    {Q : Env V → List Node → Env V → Prop} (hQ : EvalRel S fuel Q)
    {c : Expr} {t e : List Stmt} {lo : VSet} {ρ ρ' : Store V} {L L' : Locals} {env : Env V} {s s' : St}
    {ns : List Node} (hnest : nestStmt (.ite c t e) lo = true)
    (hsim : ∀ (b : Bool) {ρ1 : Store V} {L1 : Locals} {envA : Env V} {sA sB : St} {bn : List Node},
      Inv S (liveInBlock (if b then t else e) lo) ρ ([] :: L) envA sA →
      evalBlock S fuel (if b then t else e) ρ = some (.normal ρ1) →
      convStmts ([] :: L) (if b then t else e) lo sA = .ok ((L1, bn), sB) →
      ∃ envT, Q envA bn envT ∧ Inv S lo ρ1 L1 envT sB)
    (hfree : FreeOf S L (targetsStmt (.ite c t e))) (hinv : Inv S (liveInStmt (.ite c t e) lo) ρ L env s)
    (he : evalStmt S fuel (.ite c t e) ρ = some (.normal ρ')) (h : convStmt L (.ite c t e) lo s = .ok ((L', ns), s')) :
    ∃ env', Q env ns env' ∧ Inv S lo ρ' L' env' s' := by
  have hvis' := convStmt_vis hinv.vis h
  have hTF : TFree S (targetsStmt (.ite c t e)) := TFree.of_free hinv.noattr hfree
  have hnb : ∀ b : Bool, nestBlock (if b then t else e) lo = true := by
    simp only [nestStmt, Bool.and_eq_true] at hnest
    intro b; cases b
    · exact hnest.2
    · exact hnest.1.2
  obtain ⟨cv, b, hc, hb, he⟩ := evalStmt_ite_some he
  obtain ⟨defs, test, ns0, s1, Lt, tn, s2, to, tn2, s3, Le, en, s4, eo, en2, s5, renamed,
    ha, h1, h2, h3, h4, h5, h6, rfl, rfl⟩ := convStmt_ite_ok h
  obtain ⟨ta, ea, hta, hea, hdefs⟩ := assignedStmt_ite_some ha
  -- the condition: a tensor, or the constant of a Python value (an attribute parameter `if flag:`)
  have hc' : evalExpr S (restrict ρ (liveInStmt (.ite c t e) lo)) c = some cv := by
    rw [evalExpr_restrict S ρ _ c (fun y hy => by unfold liveInStmt; exact mem_vunion.mpr (Or.inr hy))]; exact hc
  obtain ⟨env1, ev1, r1⟩ := convExpr_sim S fuel hConst _ L c _ hinv.simAt hc' h1
  obtain ⟨cvv, htest, hbt⟩ : ∃ cvv, env1 test = some cvv ∧ S.truth cvv = some b := by
    cases cv with
    | t v => exact ⟨v, r1.1, hb⟩
    | py l =>
      obtain ⟨⟨cc, hcc, hev⟩, _⟩ := r1
      exact ⟨cc, hev, hTL l cc b hcc hb⟩
  have f1 := convExpr_fresh L c _ h1
  have hinv1 : Inv S (liveInStmt (.ite c t e) lo) ρ L env1 s1 := hinv.step f1 ev1
  have k15 : CastOK s s5 := f1.1.trans (((convStmts_fresh _ t lo h2).1).trans (((blockOutputs_fresh _ _ _ _ h3).1).trans
    (((convStmts_fresh _ e lo h4).1).trans ((blockOutputs_fresh _ _ _ _ h5).1))))
  have l6 := (genUniques_fresh _ h6).2.2
  -- the branch that runs, with the pieces of its translation (the other one only moves the state on)
  have key : ∀ {sA sB sC : St} {Lb : Locals} {bn bn2 : List Node} {bo : List Name} {aset : VSet}, CastOK s1 sA →
      convStmts ([] :: L) (if b then t else e) lo sA = .ok ((Lb, bn), sB) →
      blockOutputs Lb (vinter lo defs) bn [] sB = .ok ((bo, bn2), sC) →
      (if b then tn ++ tn2 else en ++ en2) = bn ++ bn2 → (if b then to else eo) = bo →
      assignedBlock (if b then t else e) = some aset → (∀ x, x ∈ aset → x ∈ defs) →
      ∃ env', Q env (ns0 ++ [.ifN test renamed (tn ++ tn2) to (en ++ en2) eo]) env' ∧
        Inv S lo ρ' (bindVals L (vinter lo defs) renamed) env' s' := by
    intro sA sB sC Lb bn bn2 bo aset kA h2 h3 hn ho hasg hsub
    obtain ⟨ρ1, hρ1, run⟩ := (nestRules_run S fuel).block _ lo (hnb b)
      (hTF.sub (targets_branch c t e b)) hinv.allT he
    cases hρ1
    obtain ⟨envT, qT, invT⟩ := hsim b (((hinv1.skipped kA).mono (fun y hy => by
      unfold liveInStmt
      cases b
      · exact mem_vunion.mpr (Or.inl (mem_vunion.mpr (Or.inr hy)))
      · exact mem_vunion.mpr (Or.inl (mem_vunion.mpr (Or.inl hy))))).push) he h2
    have hfreeB : FreeOf S Lb (vinter lo defs) :=
      (hfree.sub (fun x hx => assigned_sub_targets _ ha x (mem_vinter.mp hx).2)).mono
        ((AttrMono.push L).trans (convStmts_attrMono _ _ _ h2))
    obtain ⟨envB, rs, evB, hrs, hall⟩ := blockOutputs_sim S fuel hId Lb _ bn [] invT.vis hfreeB
      (invT.vals (fun x hx => (mem_vinter.mp hx).1) hfreeB) h3
    have qN := hQ.ifN (outs := renamed) htest hbt (hn ▸ hQ.seq qT (hQ.of_eval evB)) (ho ▸ hrs)
      (by rw [all2_length hall, l6])
    obtain ⟨inv', _⟩ := hinv.rebind_fresh (lo := lo) k15 h6 (f1.ext ev1).envSame hvis'
      (hfree.sub (fun x hx => assigned_sub_targets _ ha x (mem_vinter.mp hx).2)) (hasg ▸ run) hall
      (fun y hy hyl => by
        have hnd : y ∉ defs := fun hd => hyl (mem_vinter.mpr ⟨hy, hd⟩)
        exact ⟨nestStmt_pass _ lo hnest ha hy hnd, fun hm => hnd (hsub y hm)⟩)
    exact ⟨_, hQ.seq (hQ.of_eval ev1) qN, inv'⟩
  cases b with
  | true =>
    exact key (CastOK.refl _) h2 h3 rfl rfl hta (fun x hx => hdefs ▸ mem_vunion.mpr (Or.inl hx))
  | false =>
    exact key (((convStmts_fresh _ t lo h2).1).trans ((blockOutputs_fresh _ _ _ _ h3).1)) h4 h5 rfl rfl hea
      (fun x hx => hdefs ▸ mem_vunion.mpr (Or.inr hx))

def SimStmt (S : Sem V) (fuel : Nat) (Q : Env V → List Node → Env V → Prop) (st : Stmt) (lo : VSet) : Prop :=
  ∀ {ρ ρ' : Store V} {L L' : Locals} {env : Env V} {s s' : St} {ns : List Node},
    FreeOf S L (targetsStmt st) → Inv S (liveInStmt st lo) ρ L env s →
    evalStmt S fuel st ρ = some (.normal ρ') → convStmt L st lo s = .ok ((L', ns), s') →
    ∃ env', Q env ns env' ∧ Inv S lo ρ' L' env' s'

def SimBlock (S : Sem V) (fuel : Nat) (Q : Env V → List Node → Env V → Prop) (ss : List Stmt) (lo : VSet) : Prop :=
  ∀ {ρ ρ' : Store V} {L L' : Locals} {env : Env V} {s s' : St} {ns : List Node},
    FreeOf S L (targetsBlock ss) → Inv S (liveInBlock ss lo) ρ L env s →
    evalBlock S fuel ss ρ = some (.normal ρ') → convStmts L ss lo s = .ok ((L', ns), s') →
    ∃ env', Q env ns env' ∧ Inv S lo ρ' L' env' s'

/-- Statements and blocks of the nested fragment, for any notion `Q` of evaluating node lists (`EvalRel`) and any
part `F` / `FB` of the fragment that is closed under taking branches and tails, given the simulation of its loops.
With evaluation at the fuel of the Python run there is no simulation of loops, and the part is the `if` fragment
(`ifRules_sim`); with evaluation at every large enough fuel the part is everything (`nestRules_sim`). -/
theorem fragRules_sim (S : Sem V) (fuel : Nat) (hConst : ∀ l, ∃ c, constOf S l = some c)
    (hId : ∀ v, S.op "" "Identity" [some v] [] = some [v])
    (hTL : ∀ l c b, constOf S l = some c → truthPV S (.py l) = some b → S.truth c = some b)
    {Q : Env V → List Node → Env V → Prop} (hQ : EvalRel S fuel Q) {F : Stmt → Prop} {FB : List Stmt → Prop}
    (hite : ∀ {c t e}, F (.ite c t e) → FB t ∧ FB e) (hcons : ∀ {st ss}, FB (st :: ss) → F st ∧ FB ss)
    (hfor : ∀ {i b body lo d}, NestFor i b body lo d → F (.for_ i true b body) →
      (FB body → SimBlock S fuel Q body (loopBodyLo (.for_ i true b body) lo)) → SimStmt S fuel Q (.for_ i true b body) lo)
    (hwhile : ∀ {t body lo d state}, NestWhile t body lo d state → F (.while_ (.var t) body) →
      (FB body → SimBlock S fuel Q body (loopBodyLo (.while_ (.var t) body) lo)) →
      SimStmt S fuel Q (.while_ (.var t) body) lo) :
    NestRules (fun st lo => F st → SimStmt S fuel Q st lo) (fun ss lo => FB ss → SimBlock S fuel Q ss lo) where
  assign := @fun x e lo hi _ ρ ρ' L L' env s s' ns hfree hinv he h => by
    have hF := TFree.of_free hinv.noattr hfree
    obtain ⟨env', ev, r⟩ := assign_step S fuel hConst (hF x (by simp [targetsStmt])).1
      (Or.inr ⟨hi, hF.sub (fun y hy => by simp [targetsStmt, hy])⟩) hinv he h
    exact ⟨env', hQ.of_eval ev, r⟩
  par := @fun xs es lo hi _ ρ ρ' L L' env s s' ns hfree hinv he h => by
    obtain ⟨env', ev, r⟩ := par_step S fuel hConst hi (TFree.of_free hinv.noattr hfree) hinv he h
    exact ⟨env', hQ.of_eval ev, r⟩
  tuple := @fun xs dom op sig args attrs lo _ _ ρ ρ' L L' env s s' ns hfree hinv he h => by
    obtain ⟨env', ev, r⟩ := tuple_step S fuel hConst
      (fun x hx => (TFree.of_free hinv.noattr hfree x (by simp [targetsStmt, hx])).1) hinv he h
    exact ⟨env', hQ.of_eval ev, r⟩
  skip := @fun lo _ ρ ρ' L L' env s s' ns _ hinv he h => by
    unfold evalStmt at he
    cases he
    obtain ⟨rfl, rfl, rfl⟩ := convStmt_skip_ok h
    unfold liveInStmt at hinv
    exact ⟨env, hQ.of_eval (evalNodes_nil _ _ _), hinv⟩
  ite := @fun c t e lo hn iht ihe hi ρ ρ' L L' env s s' ns hfree hinv he h => by
    refine ite_step S fuel hConst hId hTL hQ hn (fun b => ?_) hfree hinv he h
    intro ρ1 L1 envA sA sB bn hinv' he' hc'
    have hfb := (hfree.sub (targets_branch c t e b)).mono (AttrMono.push L)
    cases b with
    | true => exact iht (hite hi).1 hfb hinv' he' hc'
    | false => exact ihe (hite hi).2 hfb hinv' he' hc'
  for_ := @fun i b body lo d hf ih hi => hfor hf hi ih
  while_ := @fun t body lo d state hw ih hi => hwhile hw hi ih
  nil := @fun lo _ ρ ρ' L L' env s s' ns _ hinv he h => by
    unfold evalBlock at he
    cases he
    obtain ⟨rfl, rfl, rfl⟩ := convStmts_nil_ok h
    unfold liveInBlock at hinv
    exact ⟨env, hQ.of_eval (evalNodes_nil _ _ _), hinv⟩
  cons := @fun st ss lo hst ih1 _ ih2 hi ρ ρ' L L' env s s' ns hfree hinv he h => by
    unfold liveInBlock at hinv
    obtain ⟨o1, hs, he⟩ := evalBlock_cons_some he
    obtain ⟨ρ1, rfl, _⟩ := (nestRules_run S fuel).stmt st _ hst (TFree.of_free hinv.noattr hfree.head.1) hinv.allT hs
    obtain ⟨L1, ns1, s1, ns2, h1, h2, rfl⟩ := convStmts_cons_ok.mp h
    obtain ⟨env1, ev1, inv1⟩ := ih1 (hcons hi).1 hfree.head.1 hinv hs h1
    obtain ⟨env2, ev2, inv2⟩ := ih2 (hcons hi).2 (hfree.head.2.mono (convStmt_attrMono L st _ h1)) inv1 he h2
    exact ⟨env2, hQ.seq ev1 ev2, inv2⟩

theorem ifRules_sim (S : Sem V) (fuel : Nat) (hConst : ∀ l, ∃ c, constOf S l = some c)
    (hId : ∀ v, S.op "" "Identity" [some v] [] = some [v])
    (hTL : ∀ l c b, constOf S l = some c → truthPV S (.py l) = some b → S.truth c = some b) :
    NestRules (fun st lo => ifStmt st = true → SimStmt S fuel (fun env ns env' => evalNodes S fuel env ns = some env') st lo)
      (fun ss lo => ifBlock ss = true → SimBlock S fuel (fun env ns env' => evalNodes S fuel env ns = some env') ss lo) :=
  fragRules_sim S fuel hConst hId hTL (EvalRel.exact S fuel)
    (fun hi => by simp only [ifStmt, Bool.and_eq_true] at hi; exact ⟨hi.1.2, hi.2⟩)
    (fun hi => by simpa only [ifBlock, Bool.and_eq_true] using hi)
    (fun _ hi => by simp [ifStmt] at hi) (fun _ hi => by simp [ifStmt] at hi)

theorem ifLine_cons {st : Stmt} {ss : List Stmt} (h : ifLine (st :: ss) = true) :
    (∃ es, st = .ret es false ∧ ss = []) ∨ (ifStmt st = true ∧ ifLine ss = true) := by
  unfold ifLine at h
  cases st with
  | ret es bare =>
    cases ss with
    | nil =>
      simp only [Bool.not_eq_true'] at h
      subst h
      exact Or.inl ⟨es, rfl, rfl⟩
    | cons s2 ss2 => simp [ifStmt] at h
  | _ => right; simpa using h

theorem ret_step (S : Sem V) (fuel : Nat) (hConst : ∀ l, ∃ c, constOf S l = some c)
    (hId : ∀ v, S.op "" "Identity" [some v] [] = some [v]) {inputs : List Name} {rc : Option Nat} {es : List Expr}
    {L : Locals} {ρ : Store V} {env : Env V} {s s' : St} {ns : List Node} {outs : List Name} {pvs : List (PV V)}
    {vs : List V} (hinv : Inv S (liveInBlock [.ret es false] []) ρ L env s)
    (he : evalBlock S fuel [.ret es false] ρ = some (.returned pvs)) (hv : pvs.mapM (toTensor S) = some vs)
    (h : convTop inputs rc L [.ret es false] [] s = .ok ((ns, outs), s')) :
    ∃ env', evalNodes S fuel env ns = some env' ∧ outs.mapM env' = some vs := by
  simp only [liveInBlock, liveInStmt] at hinv
  obtain ⟨o1, hst, hrest⟩ := evalBlock_cons_some he
  obtain ⟨pvs', hes, rfl⟩ := evalStmt_ret_some hst
  cases hrest
  exact ret_sim S fuel hConst hId hinv.simAt
    (by rw [evalExprs_restrict S ρ _ es (fun _ hx => hx)]; exact hes) hv h

theorem convTop_if_sim (S : Sem V) (fuel : Nat) (hConst : ∀ l, ∃ c, constOf S l = some c)
    (hId : ∀ v, S.op "" "Identity" [some v] [] = some [v])
    (hTL : ∀ l c b, constOf S l = some c → truthPV S (.py l) = some b → S.truth c = some b) {inputs : List Name} {rc : Option Nat} :
    ∀ (body : List Stmt) (L : Locals) {ρ : Store V} {env : Env V} {s s' : St} {ns : List Node}
      {outs : List Name} {pvs : List (PV V)} {vs : List V},
      ifLine body = true → FreeOf S L (targetsBlock body) → Inv S (liveInBlock body []) ρ L env s →
      evalBlock S fuel body ρ = some (.returned pvs) → pvs.mapM (toTensor S) = some vs →
      convTop inputs rc L body [] s = .ok ((ns, outs), s') →
      ∃ env', evalNodes S fuel env ns = some env' ∧ outs.mapM env' = some vs
  | [], _, _, _, _, _, _, _, _, _, hi, _, _, _, _, _ => by simp [ifLine] at hi
  | st :: ss, L, ρ, env, s, s', ns, outs, pvs, vs, hi, hfree, hinv, he, hv, h => by
    rcases ifLine_cons hi with ⟨es, rfl, rfl⟩ | ⟨hst, hss⟩
    · exact ret_step S fuel hConst hId hinv he hv h
    · unfold liveInBlock at hinv
      obtain ⟨o1, hs, he⟩ := evalBlock_cons_some he
      obtain ⟨ρ1, rfl, _⟩ := ifStmt_run S fuel st hst (TFree.of_free hinv.noattr hfree.head.1) hinv.allT hs
      obtain ⟨L1, ns1, s1, ns2, h1, h2, rfl⟩ :=
        convTop_cons_ok (fun es b hc => by subst hc; simp [ifStmt] at hst) h
      obtain ⟨env1, ev1, inv1⟩ := (ifRules_sim S fuel hConst hId hTL).stmt st _ (ifStmt_nest st _ hst) hst hfree.head.1 hinv hs h1
      obtain ⟨env2, ev2, hm2⟩ := convTop_if_sim S fuel hConst hId hTL ss L1 hss
        (hfree.head.2.mono (convStmt_attrMono L st _ h1)) inv1 he hv h2
      exact ⟨env2, evalNodes_seq ev1 ev2, hm2⟩

theorem Inv.entry {S : Sem V} {ρ : Store V} {L : Locals} {env : Env V} {s : St} (hL : VisOK s.used L)
    (hA : NoAttrBind S L) (hs : CastSub s) (hR : StoreRel S ρ L env s.castable) (hT : AllT S ρ)
    (hb : ∀ x n, lookup L x = some (.val n) → ρ x ≠ none) (Lv : VSet) : Inv S Lv ρ L env s :=
  ⟨hL, hA, hs, hT, hR.of_le (fun _ _ hy => (restrict_some.mp hy).2), hb⟩

theorem convert_correct_if (S : Sem V) (hConst : ∀ l, ∃ c, constOf S l = some c)
    (hId : ∀ v, S.op "" "Identity" [some v] [] = some [v])
    (hTL : ∀ l c b, constOf S l = some c → truthPV S (.py l) = some b → S.truth c = some b) {f : Func} {g : Graph}
    (hil : ifLine f.body = true) (hattr : ∀ p, p ∈ attrParams f.params → p ∉ targetsBlock f.body)
    (hσ : ∀ x l, S.attrLit x = some l → ∃ ty, Param.attr x ty ∈ f.params ∧ AttrVal S x ty l)
    (hPy : ∀ x, x ∈ S.pyVars → x ∉ targetsBlock f.body)
    (hnames : (f.params.map Param.name).Nodup) (h : convert f = .ok g)
    {fuel : Nat} {args vs : List V} (he : evalFunc S fuel f args = some vs) :
    evalGraph S fuel g args = some vs := by
  obtain ⟨ρ, env, s, s', ns, outs, pvs, hc, hb, hv, hL, hA, hs, hR, hT, hbd, hfin⟩ := convert_entry S hσ hnames h he
  obtain ⟨env', ev, hm⟩ := convTop_if_sim S fuel hConst hId hTL f.body _ hil (freeOf_paramFrame _ _ hattr hPy)
    (Inv.entry hL hA hs hR hT hbd _) hb hv hc
  exact hfin fuel env' ev hm

end OV.C01
