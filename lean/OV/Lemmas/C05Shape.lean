import OV.Model.C05Shape
import OV.Lemmas.C05Bcast
import OV.Lemmas.C09Reshape
import OV.Lemmas.C09ReshapeReshape
/-!
Lemmas about the shape / index rule model (`OV/Model/C05Shape.lean`).  The reshape rules (materialize, flatten,
reshape∘reshape) rest on C09: `specReshape` is shown equal to `OV.C09.reshapeTarget` once (`specReshape_eq_reshapeTarget`),
and the rule lemmas are then instances of C09's.  Core Lean only.
-/
namespace OV.Lemmas.C05Shape
open OV.C05.Shape

theorem validPerm_iff {p : List Nat} {n : Nat} : validPerm p n = true ↔ p.length = n ∧ ∀ x ∈ p, x < n := by
  simp [validPerm]

theorem validPerm_length {p : List Nat} {n : Nat} (h : validPerm p n = true) : p.length = n := (validPerm_iff.1 h).1

theorem validPerm_mem_lt {p : List Nat} {n : Nat} (h : validPerm p n = true) {x : Nat} (hx : x ∈ p) : x < n :=
  (validPerm_iff.1 h).2 x hx

theorem getD_map_lt {α β : Type} (f : α → β) (l : List α) (i : Nat) (a : α) (b : β) (h : i < l.length) :
    (l.map f).getD i b = f (l.getD i a) := by
  simp [List.getD_eq_getElem?_getD, List.getElem?_eq_getElem h]

theorem getD_range_lt (n i : Nat) (h : i < n) : (List.range n).getD i 0 = i := by
  simp [List.getD_eq_getElem?_getD, h]

theorem map_toNat_ofNat (s : List Nat) : (s.map Int.ofNat).map Int.toNat = s := by
  rw [List.map_map]; exact List.map_id'' (fun _ => rfl) s

/-- `_apply_transposes` starts from `range`, which a valid `p1` reads back as `p1` itself: the composed permutation is `p1`
transposed by `p2`, whatever `p2` is. -/
theorem composePerms_eq {p1 : List Nat} {n : Nat} (h1 : validPerm p1 n = true) (p2 : List Nat) :
    composePerms p1 p2 = p2.map (fun p => p1.getD p 0) := by
  have : applyTranspose p1 (List.range p1.length) = p1 := by
    unfold applyTranspose
    conv => rhs; rw [← List.map_id p1]
    exact List.map_congr_left fun x hx => getD_range_lt _ _ (by rw [validPerm_length h1]; exact validPerm_mem_lt h1 hx)
  rw [composePerms, this]; rfl

/-- The length hypothesis is not needed by the proof (kept for the intended reading). -/
theorem transpose_transpose (p1 p2 s : List Nat) (n : Nat) (_hs : s.length = n)
    (h1 : validPerm p1 n = true) (h2 : validPerm p2 n = true) :
    specTransposeShape p2 (specTransposeShape p1 s) = specTransposeShape (composePerms p1 p2) s := by
  rw [composePerms_eq h1]
  unfold specTransposeShape
  rw [List.map_map]
  exact List.map_congr_left fun p hp =>
    getD_map_lt _ _ _ 0 0 (by rw [validPerm_length h1]; exact validPerm_mem_lt h2 hp)

theorem transpose_range (s : List Nat) : specTransposeShape (List.range s.length) s = s := by
  unfold specTransposeShape
  apply List.ext_getElem
  · simp
  · intro i h1 h2
    simp [List.getD_eq_getElem?_getD, h2]

theorem unsqueeze1_eq_insertIdx : ∀ (s : List Nat) (a : Nat), a ≤ s.length → specUnsqueeze1 s a = s.insertIdx a 1
  | _, 0, _ => rfl
  | [], _ + 1, h => nomatch h
  | x :: s, a + 1, h => by
    rw [List.insertIdx_succ_cons, ← unsqueeze1_eq_insertIdx s a (Nat.le_of_succ_le_succ h)]; rfl

theorem unsqueeze_unsqueeze (s : List Nat) (v1 v2 : Nat) (h1 : v1 ≤ s.length) (h2 : v2 ≤ s.length + 1) :
    specUnsqueeze1 (specUnsqueeze1 s v1) v2
      = specUnsqueezeSorted s (if v1 < v2 then [v1, v2] else [v2, v1 + 1]) := by
  split
  · rfl
  · -- `v2 ≤ v1`: inserting at `v1` then at `v2` is inserting at `v2` then at `v1 + 1`
    have h' : v2 ≤ v1 := by omega
    simp only [specUnsqueezeSorted]
    rw [unsqueeze1_eq_insertIdx s v1 h1, unsqueeze1_eq_insertIdx s v2 (by omega),
      unsqueeze1_eq_insertIdx _ v2 (by rw [List.length_insertIdx]; split <;> omega),
      unsqueeze1_eq_insertIdx _ (v1 + 1) (by rw [List.length_insertIdx]; split <;> omega)]
    exact (List.insertIdx_comm 1 1 h' h1).symm

theorem slice_full_len (d : Nat) (en : Int) (h : (d : Int) ≤ en) : specSliceLen01 d en = d := by
  unfold specSliceLen01
  have h0 : ¬ en < 0 := by omega
  simp only [h0, if_false]
  by_cases h1 : en > (d : Int)
  · simp only [h1, if_true]; omega
  · have : en = d := by omega
    subst this
    simp only [if_false, h1]; omega

/-- The `en = INT64_MAX` branch of `_check_if_redundant_slice` does not look at the shape, hence the side hypothesis `hmax`. -/
theorem collapse_slice_sound (xs : Shape) (en ax : Int) (d : Nat)
    (hfire : collapseSliceRun (some xs) (.one 0) (.one en) (.one ax) (.one 1) = .fire ())
    (hidx : pyIndex xs ax = some (.known d))
    (hmax : en = int64Max → (d : Int) ≤ int64Max) : specSliceLen01 d en = d := by
  by_cases he : en = int64Max
  · subst he; exact slice_full_len d int64Max (hmax rfl)
  · apply slice_full_len
    have he' : (en == int64Max) = false := by simpa using he
    simp only [collapseSliceRun, hidx, he'] at hfire
    simp at hfire
    omega

/-- Invariant of the scatter loop: after the prefix `pre` has been overwritten, the rest follows. -/
theorem scatter_aux {ρ : Type} (upd : List ρ) : ∀ (data pre : List ρ) (k : Nat), k = pre.length →
    data.length = upd.length →
    specScatterRows (fun _ u => u) (pre ++ data) (List.range' k upd.length) upd = pre ++ upd := by
  unfold specScatterRows
  induction upd with
  | nil => intro data pre k _ h; cases data <;> simp_all
  | cons u us ih =>
    intro data pre k hk h
    cases data with
    | nil => simp at h
    | cons d ds =>
      simp only [List.length_cons, List.range'_succ, List.zip_cons_cons, List.foldl_cons]
      have e1 : (pre ++ d :: ds)[k]? = some d := by subst hk; simp
      have e2 : (pre ++ d :: ds).set k u = (pre ++ [u]) ++ ds := by subst hk; simp
      simp only [e1, e2]
      have := ih ds (pre ++ [u]) (k + 1) (by simp [hk]) (by simpa using h)
      rw [this]; simp

theorem scatter_full_range {ρ : Type} (data upd : List ρ) (h : data.length = upd.length) :
    specScatterRows (fun _ u => u) data (List.range upd.length) upd = upd := by
  rw [List.range_eq_range']
  have := scatter_aux upd data [] 0 rfl h
  simpa using this

/-- With `reduction=add` the same rewrite is wrong. -/
theorem scatter_add_refuted :
    specScatterRows (fun (a b : Int) => a + b) [1,1,1] [0,1,2] [5,5,5] ≠ [5,5,5] := by decide +kernel

/-- The zip check of `ExpandIdentity` forces `shape = s` (as naturals). -/
theorem expand_check_toNat (s : List Nat) : ∀ (sh : List Int), (s.map Dim.known).length = sh.length →
    (List.zip (s.map Dim.known) sh).all
      (fun (d, v) => match d with | .known n => Int.ofNat n == v | _ => false) = true →
    sh.map Int.toNat = s := by
  induction s with
  | nil => intro sh hl _; cases sh <;> simp_all
  | cons a s ih =>
    intro sh hl h
    cases sh with
    | nil => simp at hl
    | cons v sh =>
      simp only [List.map_cons, List.zip_cons_cons, List.all_cons, Bool.and_eq_true, beq_iff_eq] at h
      obtain ⟨hv, hrest⟩ := h
      simp only [List.map_cons]
      rw [ih sh (by simpa using hl) hrest, ← hv]
      simp

theorem squeeze_reshape_1d (n : Nat) : specReshape (specSqueezeAll [n]) [-1] false = some [n] := by
  by_cases h : n = 1
  · subst h; decide +kernel
  · have : specSqueezeAll [n] = [n] := by simp [specSqueezeAll, h]
    rw [this]
    simp [specReshape, prodNat, List.range_succ, Nat.mod_one]

@[simp] theorem prodNat_nil : prodNat [] = 1 := rfl

theorem prodNat_cons (a : Nat) (l : List Nat) : prodNat (a :: l) = a * prodNat l := by
  unfold prodNat
  rw [List.foldl_cons, Nat.one_mul, ← List.foldl_assoc (op := fun (x y : Nat) => x * y), Nat.mul_one]

theorem prodNat_append (a b : List Nat) : prodNat (a ++ b) = prodNat a * prodNat b := by
  induction a with
  | nil => simp
  | cons x a ih => rw [List.cons_append, prodNat_cons, prodNat_cons, ih, Nat.mul_assoc]

theorem prodNat_pos (l : List Nat) (h : ∀ d ∈ l, 0 < d) : 0 < prodNat l := by
  induction l with
  | nil => simp
  | cons a l ih =>
    rw [prodNat_cons]
    exact Nat.mul_pos (h a (by simp)) (ih (fun d hd => h d (by simp [hd])))

/-! ## `specReshape` is C09's `reshapeTarget`

The development states the ONNX `Reshape` rule twice: `specReshape` here, on natural dims, for C05's rules on static shapes
without an output annotation; `OV.C09.reshapeTarget`, on integer dims, for C09's theorems about the same rules on symbolic
shapes under every binding and every annotation. -/

theorem getElem?_map_ofNat (s : List Nat) (k : Nat) :
    (s.map Int.ofNat)[k]? = if k < s.length then some (Int.ofNat (s.getD k 0)) else none := by
  by_cases h : k < s.length
  · simp [h, List.getD_eq_getElem?_getD]
  · simp [h]

/-- The zero-resolution step of `specReshape` (a `mapM` over positions, reading the target by index) is C09's structural
`resolveZeros`; with `allowzero` it changes nothing. -/
theorem resolve_eq (s : List Nat) (az : Bool) (l : List Int) : ∀ (pre : List Int) (k : Nat), k = pre.length →
    (List.range' k l.length).mapM (fun i =>
      let t := (pre ++ l).getD i 0
      if t == 0 && !az then
        (if i < s.length then some (Int.ofNat (s.getD i 0)) else none)
      else some t) = if az then some l else OV.C09.resolveZeros (s.map Int.ofNat) l k := by
  induction l with
  | nil => intro pre k _; cases az <;> rfl
  | cons t ts ih =>
    intro pre k hk
    have e : (pre ++ t :: ts).getD k 0 = t := by subst hk; simp
    have ih' := ih (pre ++ [t]) (k + 1) (by simp [hk])
    simp only [List.append_assoc, List.cons_append, List.nil_append] at ih'
    simp only [List.length_cons, List.range'_succ, List.mapM_cons, ih', e]
    cases az with
    | true => simp
    | false =>
      rw [OV.C09.resolveZeros, getElem?_map_ofNat]
      by_cases hv : t = 0
      · subst hv
        by_cases hk : k < s.length <;> simp [hk] <;> cases OV.C09.resolveZeros (s.map Int.ofNat) ts (k + 1) <;> rfl
      · have : (t == 0 && !false) = false := by simp [hv]
        simp only [this, if_neg hv]
        cases OV.C09.resolveZeros (s.map Int.ofNat) ts (k + 1) <;> rfl

theorem prodNat_toNat : ∀ (l : List Int), (∀ v ∈ l, 0 ≤ v) → (prodNat (l.map Int.toNat) : Int) = OV.C09.prodInt l
  | [], _ => rfl
  | v :: l, h => by
    rw [List.map_cons, prodNat_cons, OV.C09.prodInt_cons, Int.natCast_mul,
      prodNat_toNat l fun x hx => h x (List.mem_cons_of_mem _ hx), Int.toNat_of_nonneg (h v List.mem_cons_self)]

theorem prodNat_ofNat (s : List Nat) : OV.C09.prodInt (s.map Int.ofNat) = (prodNat s : Int) := by
  have := prodNat_toNat (s.map Int.ofNat) (by simp)
  rwa [map_toNat_ofNat, eq_comm] at this

/-- The size check / `-1` inference of `specReshape` is C09's `inferNeg`, on entries `≥ -1` (which is all the guards let through). -/
theorem infer_eq (total : Nat) (ts : List Int) (hge : ∀ v ∈ ts, -1 ≤ v) :
    Option.map (·.map Int.ofNat)
      (let knownProd := prodNat ((ts.filter (· != -1)).map Int.toNat)
       if ts.any (· == -1) then
         if knownProd == 0 then none
         else if total % knownProd != 0 then none
         else some (ts.map (fun t => if t == -1 then total / knownProd else t.toNat))
       else if knownProd == total then some (ts.map Int.toNat) else none) = OV.C09.inferNeg (total : Int) ts := by
  have hf : ∀ v ∈ ts.filter (· != -1), 0 ≤ v := fun v hv => by
    have h1 := hge v (List.mem_filter.mp hv).1
    have h2 : v ≠ -1 := by simpa using (List.mem_filter.mp hv).2
    omega
  have hK := prodNat_toNat _ hf
  have hback : ∀ x : Nat,
      (ts.map fun t => if t == -1 then x else t.toNat).map Int.ofNat = ts.map (OV.C09.sub1 (x : Int)) := fun x => by
    rw [List.map_map]
    refine List.map_congr_left fun v hv => ?_
    have := hge v hv
    simp only [Function.comp, OV.C09.sub1, beq_iff_eq]
    split
    · rfl
    · exact Int.toNat_of_nonneg (by omega)
  unfold OV.C09.inferNeg
  simp only []
  by_cases hm : (-1 : Int) ∈ ts
  · -- the cofactor, the divisibility test and the quotient are the same numbers on both sides
    rw [if_pos (List.any_eq_true.mpr ⟨-1, hm, rfl⟩), if_pos (List.contains_iff_mem.mpr hm), ← hK]
    generalize prodNat ((ts.filter (· != -1)).map Int.toNat) = K
    by_cases hk : K = 0
    · subst hk; rfl
    · have c1 : ¬ (K == 0) = true := by simpa using hk
      have c2 : ¬ (K : Int) = 0 := by omega
      rw [if_neg c1, if_neg c2, ← Int.natCast_emod, ← Int.natCast_ediv]
      by_cases hd : total % K = 0
      · have d1 : ¬ (total % K != 0) = true := by simp [hd]
        have d2 : ¬ ((total % K : Nat) : Int) ≠ 0 := by simp [hd]
        rw [if_neg d1, if_neg d2, Option.map_some, hback]
      · have d1 : (total % K != 0) = true := by simpa using hd
        have d2 : ((total % K : Nat) : Int) ≠ 0 := by omega
        rw [if_pos d1, if_pos d2]; rfl
  · have hnn : ∀ v ∈ ts, 0 ≤ v := fun v hv => by
      have := hge v hv; have : v ≠ -1 := fun e => hm (e ▸ hv); omega
    rw [if_neg (fun h => hm (by simpa using h)), if_neg (fun h => hm (List.contains_iff_mem.mp h)),
      OV.C09.filter_ne_of_not_mem hm] at *
    have hid : (ts.map Int.toNat).map Int.ofNat = ts := by
      rw [List.map_map]; conv => rhs; rw [← List.map_id ts]
      exact List.map_congr_left fun v hv => Int.toNat_of_nonneg (hnn v hv)
    by_cases hp : prodNat (ts.map Int.toNat) = total
    · rw [if_pos (by simpa using hp), if_pos (by rw [← hK, hp]), Option.map_some, hid]
    · rw [if_neg (by simpa using hp), if_neg (by rw [← hK]; exact fun h => hp (Int.ofNat.inj h))]; rfl

theorem specReshape_eq_reshapeTarget (s : List Nat) (tgt : List Int) (az : Bool) :
    (specReshape s tgt az).map (·.map Int.ofNat) = OV.C09.reshapeTarget (s.map Int.ofNat) tgt az := by
  have e0 : ∀ c : Int, tgt.any (· == c) = tgt.contains c := fun c => by rw [Bool.eq_iff_iff]; simp
  have hstep := resolve_eq s az tgt [] 0 rfl
  simp only [List.nil_append] at hstep
  rw [OV.C09.reshapeTarget_eq, prodNat_ofNat]
  unfold specReshape
  -- the first two guards stand in the other order
  by_cases g1 : tgt.any (· < -1) = true
  · rw [if_pos g1, if_pos g1]; split <;> rfl
  rw [if_neg g1, if_neg g1]
  by_cases g2 : (tgt.filter (· == -1)).length > 1
  · rw [if_pos g2, if_pos g2]; rfl
  rw [if_neg g2, if_neg g2, e0, e0]
  by_cases g3 : (az && tgt.contains 0 && tgt.contains (-1)) = true
  · rw [if_pos g3, if_pos g3]; rfl
  rw [if_neg g3, if_neg g3, List.range_eq_range', hstep]
  have hge : ∀ v ∈ tgt, -1 ≤ v := fun v hv =>
    Int.not_lt.mp fun hlt => List.any_eq_false.mp ((Bool.not_eq_true _).mp g1) v hv (decide_eq_true hlt)
  cases az with
  | true => exact infer_eq _ tgt hge
  | false =>
    rw [if_neg Bool.false_ne_true]
    cases h : OV.C09.resolveZeros (s.map Int.ofNat) tgt 0 with
    | none => rfl
    | some ts =>
      refine infer_eq _ ts ((OV.C09.resolveZeros_pw _ (by simp) tgt ts 0 h).forall_right fun a ha b hc => ?_)
      have := hge a ha
      rcases hc with rfl | ⟨_, _, h0⟩ <;> omega

theorem specReshape_eq_some_iff (s : List Nat) (tgt : List Int) (az : Bool) (t : List Nat) :
    specReshape s tgt az = some t ↔ OV.C09.reshapeTarget (s.map Int.ofNat) tgt az = some (t.map Int.ofNat) := by
  rw [← specReshape_eq_reshapeTarget, Option.map_eq_some_iff]
  exact ⟨fun h => ⟨t, h, rfl⟩, fun ⟨t', h, e⟩ => by rwa [(List.map_inj_right fun _ _ => Int.ofNat.inj).1 e] at h⟩

theorem PW2_of_index {p : Int → Int → Prop} : ∀ (l₁ l₂ : List Int), l₁.length = l₂.length →
    (∀ i (h₁ : i < l₁.length) (h₂ : i < l₂.length), p l₁[i] l₂[i]) → OV.C09.PW2 p l₁ l₂
  | [], [], _, _ => trivial
  | [], _ :: _, h, _ | _ :: _, [], h, _ => by simp at h
  | a :: l₁, b :: l₂, hl, h => ⟨h 0 (by simp) (by simp), PW2_of_index l₁ l₂ (by simpa using hl) fun i h₁ h₂ =>
      h (i + 1) (Nat.succ_lt_succ h₁) (Nat.succ_lt_succ h₂)⟩

/-- Dimension-to-target translation used by `MaterializeReshapeShape.rewrite`. -/
def matDim (d : Dim) : Int := match d with | .known n => Int.ofNat n | _ => -1

theorem matDim_neg1 (d : Dim) : (matDim d == -1) = !d.isInt := by
  cases d <;> simp [matDim, Dim.isInt] <;> omega

theorem filter_neg1_matDim (os : Shape) :
    ((os.map matDim).filter (· == -1)).length = (os.filter (fun d => !d.isInt)).length := by
  induction os with
  | nil => rfl
  | cons d os ih =>
    simp only [List.map_cons, List.filter_cons, matDim_neg1]
    split <;> simp [ih]

theorem materialize_fire_inv (os : Shape) (r : RRRepl)
    (hfire : materializeReshapeRun false (some os) = .fire r) :
    ((os.filter (fun d => !d.isInt)).length == 1 && os.any (fun d => d == .known 0)) = false ∧
    (os.filter (fun d => !d.isInt)).length ≤ 1 ∧ r.shape = os.map matDim := by
  simp only [materializeReshapeRun, Bool.false_eq_true, if_false] at hfire
  split at hfire
  · cases hfire
  · rename_i hg
    split at hfire
    · rename_i hcount
      refine ⟨(Bool.not_eq_true _).mp hg, hcount, ?_⟩
      cases hfire; rfl
    · cases hfire

theorem any_zero_matDim (os : Shape) :
    (os.map matDim).any (· == 0) = os.any (fun d => d == .known 0) := by
  induction os with
  | nil => rfl
  | cons d os ih =>
    simp only [List.map_cons, List.any_cons, ih]
    congr 1
    cases d with
    | known n =>
      by_cases hn : n = 0
      · subst hn; rfl
      · have e1 : (matDim (.known n) == 0) = false := by simp [matDim]; omega
        have e2 : (Dim.known n == Dim.known 0) = false := by simp [hn]
        rw [e1, e2]
    | sym _ => simp [matDim]
    | unknown => simp [matDim]

theorem any_neg1_matDim (os : Shape) (h : (os.map matDim).any (· == -1) = true) :
    1 ≤ (os.filter (fun d => !d.isInt)).length := by
  rw [← filter_neg1_matDim]
  obtain ⟨t, ht, he⟩ := List.any_eq_true.mp h
  exact List.length_pos_of_mem (List.mem_filter.mpr ⟨ht, he⟩)

/-- With the zero guard of commit 49df852, firing implies the materialized target never mixes `0` and `-1`. -/
theorem materialize_fire_no_zero_neg (os : Shape) (r : RRRepl)
    (hfire : materializeReshapeRun false (some os) = .fire r) :
    ¬ (r.shape.any (· == 0) && r.shape.any (· == -1)) = true := by
  obtain ⟨hg, hcount, hr⟩ := materialize_fire_inv os r hfire
  rw [hr, any_zero_matDim]
  intro h
  simp only [Bool.and_eq_true] at h
  have h1 := any_neg1_matDim os h.2
  have : (os.filter (fun d => !d.isInt)).length = 1 := by omega
  rw [this, h.1] at hg
  exact absurd hg (by decide +kernel)

/-- The witness of finding D16c2, the annotation `[N, 0]`, is refused by that guard. -/
theorem materialize_zero_witness_refused :
    materializeReshapeRun false (some [.sym "N", .known 0]) = .nofire := by decide +kernel

/-- A symbolic dim beside a zero dim materializes to `[-1, 0]` with `allowzero=1`, which is a
runtime error. -/
theorem materialize_refuted : specReshape [3,0] [-1,0] true = none := by decide +kernel

theorem allKnown_map_known (l : List Nat) : allKnown (l.map Dim.known) = some l := by
  unfold allKnown
  induction l with
  | nil => rfl
  | cons a l ih => rw [List.map_cons, List.mapM_cons, ih]; rfl

theorem any_known_zero_map (s : List Nat) :
    (s.map Dim.known).any (· == .known 0) = true ↔ 0 ∈ s := by
  induction s with
  | nil => simp
  | cons a s ih =>
    rw [List.map_cons, List.any_cons, Bool.or_eq_true, ih, List.mem_cons]
    have : (Dim.known a == Dim.known 0) = true ↔ 0 = a := by
      rw [beq_iff_eq, Dim.known.injEq]; exact eq_comm
    rw [this]

/-- The zero guard of `Flatten2Reshape.check` (fix for D6): a static zero dim refuses, whatever the target. -/
theorem flatten_finish_zero (s : List Nat) (axis : Int) (ns : List Int) (h0 : 0 ∈ s) :
    flattenToReshapeRun.finish (some (s.map Dim.known)) axis ns = .nofire := by
  have h := (any_known_zero_map s).mpr h0
  simp only [flattenToReshapeRun.finish, Option.map_some, Option.getD_some, h, if_true]

theorem flatten_finish (s : List Nat) (axis : Nat) (ns : List Int) (hns : ns.length = 2)
    (hpos : ∀ d ∈ s, 0 < d) :
    flattenToReshapeRun.finish (some (s.map Dim.known)) (axis : Int) ns
      = .fire [ (prodNat (s.take axis) : Int), (prodNat (s.drop axis) : Int) ] := by
  match ns, hns with
  | [a, b], _ =>
    have hneg : ¬ ((axis : Int) < 0) := by omega
    have hz : (s.map Dim.known).any (· == .known 0) = false := by
      rw [Bool.eq_false_iff]
      intro h
      have := hpos 0 ((any_known_zero_map s).mp h)
      omega
    simp only [flattenToReshapeRun.finish, Option.map_some, Option.getD_some, hz, Bool.false_eq_true,
      hneg, if_false, Int.toNat_natCast, ← List.map_take,
      ← List.map_drop, allKnown_map_known, setAt, List.set_cons_zero, List.set_cons_succ]
    have h1 : ¬ ((prodNat (s.take axis) : Int) = -1) := by omega
    have h2 : ¬ ((prodNat (s.drop axis) : Int) = -1) := by omega
    simp [h1, h2]

/-- `take`/`drop` are total, so the bound `_hax` on the axis is not needed. -/
theorem flatten_fires (s : List Nat) (axis : Nat) (_hax : axis ≤ s.length) (hpos : ∀ d ∈ s, 0 < d) :
    flattenToReshapeRun (some (s.map Dim.known)) (axis : Int) none
      = .fire [ (prodNat (s.take axis) : Int), (prodNat (s.drop axis) : Int) ] := by
  have hneg : ¬ ((axis : Int) < 0) := by omega
  simp only [flattenToReshapeRun, Option.map_some, hneg, if_false]
  apply flatten_finish _ _ _ _ hpos
  split
  · rfl
  · split
    · rfl
    · split <;> rfl

theorem flatten_reshape_sound (s : List Nat) (hpos : ∀ d ∈ s, 0 < d) (axis : Nat) (_hax : axis ≤ s.length) :
    specReshape s [ (prodNat (s.take axis) : Int), (prodNat (s.drop axis) : Int) ] false
      = some (specFlatten s axis) := by
  have pa : 0 < prodNat (s.take axis) := prodNat_pos _ fun d hd => hpos d (List.mem_of_mem_take hd)
  have pb : 0 < prodNat (s.drop axis) := prodNat_pos _ fun d hd => hpos d (List.mem_of_mem_drop hd)
  rw [specReshape_eq_some_iff]
  -- the target is the result itself: no hole, and no `0` since both products are positive
  refine OV.C09.reshapeTarget_punched (OV.C09.PW2.refl fun _ _ => .inl rfl) (by simp) (by simp [specFlatten])
    ?_ fun h0 => ?_
  · have : prodNat s = prodNat (s.take axis) * prodNat (s.drop axis) := by rw [← prodNat_append, List.take_append_drop]
    rw [prodNat_ofNat, prodNat_ofNat, this, specFlatten, prodNat_cons, prodNat_cons, prodNat_nil, Nat.mul_one]
  · simp at h0; omega

/-- The two transcriptions of `ReshapeReshape.check` agree where there is no output annotation. -/
theorem reshapeReshapeRun_eq (sh : List Int) (az : Int) (r : RRRepl)
    (hf : reshapeReshapeRun (some sh) none az = .fire r) :
    OV.C09.reshapeReshape (some sh) none az = .ret (some (r.shape, r.allowzero == some 1)) := by
  have hz : decide ((sh.filter (· == 0)).length > 0) = sh.contains 0 := by
    rw [Bool.eq_iff_iff, decide_eq_true_iff, gt_iff_lt, List.length_pos_iff_exists_mem, List.contains_iff_mem]
    exact ⟨fun ⟨x, hx⟩ => by have := List.mem_filter.mp hx; rw [← beq_iff_eq.mp this.2]; exact this.1,
      fun h => ⟨0, List.mem_filter.mpr ⟨h, rfl⟩⟩⟩
  simp only [reshapeReshapeRun, Bool.false_eq_true, if_false, hz] at hf
  simp only [OV.C09.reshapeReshape]
  split at hf
  · next c =>
    cases hf
    have : (decide (az = 1) && sh.contains 0) = true := by simpa using c
    rw [if_pos this]
    have haz : az = 1 := by simp only [Bool.and_eq_true, beq_iff_eq] at c; exact c.1
    simp [haz]
  · next c =>
    have c' : ¬ (decide (az = 1) && sh.contains 0) = true := by simpa using c
    rw [if_neg c']
    split at hf; · cases hf
    next c2 =>
    rw [if_neg c2]
    split at hf; · cases hf
    next c3 =>
    cases hf
    rw [if_neg c3]
    simp

theorem reshape_reshape_sound (s0 s1 : List Nat) (sh : List Int) (az : Int) (t : List Nat) (r : RRRepl)
    (h1 : specReshape s1 sh (az == 1) = some t) (hsz : prodNat s0 = prodNat s1)
    (hf : reshapeReshapeRun (some sh) none az = .fire r) :
    specReshape s0 r.shape (r.allowzero == some 1) = some t :=
  (specReshape_eq_some_iff ..).2 <|
    OV.C09.reshapeReshape_sound _ (s1.map Int.ofNat) sh _ az _ none (reshapeReshapeRun_eq sh az r hf) (fun _ => 0) _
      (by simp) (by rw [prodNat_ofNat, prodNat_ofNat, hsz]) ((specReshape_eq_some_iff ..).1 h1) nofun

end OV.Lemmas.C05Shape
