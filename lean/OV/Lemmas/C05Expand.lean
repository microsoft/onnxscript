import OV.Model.C05Linalg
import OV.Lemmas.C05Bcast
/-!
# C05 — removing `Expand` in front of a broadcasting binary op is shape-sound (all ranks, all dim sizes)

`Op(Expand(x, e), y) → Op(x, y)` under the guard `expandRemovableConst` (strategy 1, constant target), static shapes.
Guard and specification are both read on the reversed shapes, position by position (a missing position reads as `1`):
`specBroadcast` is `bcRev` of `C05Bcast`, characterised by `bcRev_eq_some_iff`; the guard says `e = 1 ∨ x = e ∨ y = e` at every
position (`guard_iff`; `getD_reverse` turns the model's `l.getD (l.length - 1 - j)` into `l.reverse.getD j`), and under that
disjunction one `bdim` step through the expanded dim gives what the direct step gives (`bdim_step`).  The definition `rget`
(the same read, spelt with the index arithmetic) enters only with the element positions, through `rget_eq`.  Core Lean only.
-/

namespace OV.Lemmas.C05Expand
open OV.C05.Shape OV.C05.Linalg OV.Lemmas.C05Bcast

theorem sanity_stretch_fires : expandRemovableConst (some [.known 1]) (some [.known 3]) [3] = true := by decide +kernel
theorem sanity_rank_change_refused : expandRemovableConst (some [.known 3]) (some [.known 3]) [1, 3] = false := by decide +kernel
theorem sanity_mixed_fires : expandRemovableConst (some [.known 2, .known 1]) (some [.known 3]) [2, 3] = true := by decide +kernel
theorem sanity_neither_matches_refused : expandRemovableConst (some [.known 1]) (some [.known 1]) [3] = false := by decide +kernel

theorem getD_reverse {α : Type} (l : List α) (j : Nat) (d d' : α) (h : j < l.length) :
    l.getD (l.length - 1 - j) d = l.reverse.getD j d' := by
  rw [List.getD_eq_getElem?_getD, List.getD_eq_getElem?_getD, List.getElem?_reverse h,
    List.getElem?_eq_getElem (by omega), Option.getD_some, Option.getD_some]

theorem getD_of_le {α : Type} (l : List α) (j : Nat) (d : α) (h : l.length ≤ j) : l.getD j d = d := by
  rw [List.getD_eq_getElem?_getD, List.getElem?_eq_none h]; rfl

theorem getD_map {α β : Type} (f : α → β) (l : List α) (j : Nat) (d : α) : (l.map f).getD j (f d) = f (l.getD j d) := by
  rw [List.getD_eq_getElem?_getD, List.getD_eq_getElem?_getD, List.getElem?_map]; cases l[j]? <;> rfl

/-- Unidirectional broadcasting (what Gemm demands of `C`). -/
theorem specBroadcast_of_fits (c s : List Nat) (hlen : c.length ≤ s.length)
    (h : (List.zip c.reverse s.reverse).all (fun (d, e) => d == 1 || d == e) = true) :
    specBroadcast c s = some s := by
  rw [specBroadcast_eq_bcRev, bcRev_of_fits _ _ (by simpa using hlen) h, Option.map_some, List.reverse_reverse]

theorem guard_iff (x y : List Nat) (e : List Int) :
    expandRemovableConst (some (x.map Dim.known)) (some (y.map Dim.known)) e = true ↔
      e.length ≤ max x.length y.length ∧
      ∀ j, e.reverse.getD j 1 = 1 ∨ (x.reverse.getD j 1 : Int) = e.reverse.getD j 1 ∨
        (y.reverse.getD j 1 : Int) = e.reverse.getD j 1 := by
  -- the annotated dim the guard reads at position `rev` of a static shape
  have annot : ∀ (x : List Nat) (rev : Nat),
      (if rev < (x.map Dim.known).length
        then (x.map Dim.known).getD ((x.map Dim.known).length - 1 - rev) Dim.unknown
        else Dim.known 1) = Dim.known (x.reverse.getD rev 1) := fun x rev => by
    split
    · next h => rw [getD_reverse _ _ _ (Dim.known 1) h, ← List.map_reverse, getD_map]
    · next h => rw [getD_of_le _ _ _ (by simpa using h)]
  unfold expandRemovableConst expandRemovableConstPrefix expandRankChanges
  simp only [annot]
  simp only [Bool.and_eq_true, Bool.not_eq_true', decide_eq_false_iff_not, Nat.not_lt, List.length_map,
    List.all_eq_true, List.mem_range]
  refine and_congr_right fun _ => ⟨fun h j => ?_, fun h j hj => ?_⟩
  · by_cases hj : j < e.length
    · have := h j hj
      rw [getD_reverse e j 0 1 hj] at this
      generalize e.reverse.getD j 1 = v at this ⊢
      by_cases h1 : v = 1
      · exact Or.inl h1
      · right; simpa [h1, Int.ofNat_eq_natCast] using this
    · exact Or.inl (getD_of_le _ _ _ (by simpa using hj))
  · have := h j
    rw [getD_reverse e j 0 1 hj]
    generalize e.reverse.getD j 1 = v at this ⊢
    by_cases h1 : v = 1
    · simp [h1]
    · simpa [h1, Int.ofNat_eq_natCast] using this

theorem getD_reverse_ofNat (en : List Nat) (j : Nat) :
    (en.map Int.ofNat).reverse.getD j 1 = (en.reverse.getD j 1 : Nat) := by
  rw [← List.map_reverse]; exact getD_map Int.ofNat _ j 1

theorem bdim_step (x y e t : Nat) (ht : bdim x e = some t) (hg : e = 1 ∨ x = e ∨ y = e) :
    bdim t y = bdim x y := by
  rcases hg with rfl | rfl | rfl
  · rw [bdim_one_right] at ht; cases ht; rfl
  · rw [bdim_self] at ht; cases ht; rfl
  · rcases bdim_eq_some _ _ _ ht with rfl | rfl
    · rfl
    · rw [ht, bdim_self]

theorem expand_removal_shape_eq (x y : List Nat) (e : List Int) (en : List Nat) (t : List Nat)
    (hguard : expandRemovableConst (some (x.map Dim.known)) (some (y.map Dim.known)) e = true)
    (he : e = en.map Int.ofNat)
    (ht : specBroadcast x en = some t) :
    specBroadcast t y = specBroadcast x y := by
  subst he
  obtain ⟨hlen, hg⟩ := (guard_iff x y _).1 hguard
  obtain ⟨htl, htp⟩ := (bcRev_eq_some_iff _ _ _).1 ((specBroadcast_eq_some_iff _ _ _).1 ht)
  simp only [List.length_reverse, List.length_map] at htl hlen
  have hpt : ∀ j, bdim (t.reverse.getD j 1) (y.reverse.getD j 1) = bdim (x.reverse.getD j 1) (y.reverse.getD j 1) :=
    fun j => bdim_step _ _ (en.reverse.getD j 1) _ (htp j) (by have := hg j; rw [getD_reverse_ofNat] at this; omega)
  apply Option.ext
  intro r
  rw [specBroadcast_eq_some_iff, specBroadcast_eq_some_iff, bcRev_eq_some_iff, bcRev_eq_some_iff]
  simp only [List.length_reverse, hpt]
  rw [show max t.length y.length = max x.length y.length by omega]

theorem expand_removal_shape_sound (x y : List Nat) (e : List Int) (en : List Nat) (t r : List Nat)
    (hguard : expandRemovableConst (some (x.map Dim.known)) (some (y.map Dim.known)) e = true)
    (he : e = en.map Int.ofNat)
    (ht : specBroadcast x en = some t)
    (hr : specBroadcast t y = some r) :
    specBroadcast x y = some r := by
  rw [← expand_removal_shape_eq x y e en t hguard he ht]; exact hr

theorem expand_removal_shape_complete (x y : List Nat) (e : List Int) (en : List Nat) (t r : List Nat)
    (hguard : expandRemovableConst (some (x.map Dim.known)) (some (y.map Dim.known)) e = true)
    (he : e = en.map Int.ofNat)
    (ht : specBroadcast x en = some t)
    (hr : specBroadcast x y = some r) :
    specBroadcast t y = some r := by
  rw [expand_removal_shape_eq x y e en t hguard he ht]; exact hr

theorem expand_valid_of_rewritten_valid (x y : List Nat) (e : List Int) (en : List Nat) (r : List Nat)
    (hguard : expandRemovableConst (some (x.map Dim.known)) (some (y.map Dim.known)) e = true)
    (he : e = en.map Int.ofNat)
    (hr : specBroadcast x y = some r) :
    ∃ t, specBroadcast x en = some t := by
  subst he
  obtain ⟨_, hg⟩ := (guard_iff x y _).1 hguard
  obtain ⟨_, hrp⟩ := (bcRev_eq_some_iff _ _ _).1 ((specBroadcast_eq_some_iff _ _ _).1 hr)
  rw [specBroadcast_isSome_iff, bcRev_isSome_iff]
  intro j
  have h1 := hg j
  rw [getD_reverse_ofNat] at h1
  have h2 : en.reverse.getD j 1 = 1 ∨ x.reverse.getD j 1 = en.reverse.getD j 1 ∨
      y.reverse.getD j 1 = en.reverse.getD j 1 := by omega
  rcases h2 with h | h | h
  · rw [h]; exact ⟨_, bdim_one_right _⟩
  · rw [← h]; exact ⟨_, bdim_self _⟩
  · rw [← h]; exact ⟨_, hrp j⟩

/-- The guard forces `e ≥ 0` entrywise, so the hypothesis `he` of the theorems above can always be met, with `en = e.map Int.toNat`. -/
theorem guard_nonneg (x y : List Nat) (e : List Int)
    (hguard : expandRemovableConst (some (x.map Dim.known)) (some (y.map Dim.known)) e = true) :
    e = (e.map Int.toNat).map Int.ofNat := by
  obtain ⟨_, hg⟩ := (guard_iff x y _).1 hguard
  rw [List.map_map]
  conv => lhs; rw [← List.map_id e]
  apply List.map_congr_left
  intro v hv
  -- `v` stands at some position of the reversed target, where it is `1` or a dim of `x` or `y`
  obtain ⟨k, hk, rfl⟩ := List.getElem_of_mem (List.mem_reverse.mpr hv)
  have := hg k
  rw [List.getD_eq_getElem?_getD, List.getElem?_eq_getElem hk, Option.getD_some] at this
  have : 0 ≤ e.reverse[k] := by omega
  exact (Int.toNat_of_nonneg this).symm

/-- The rank guard is needed: the pre-fix guard accepts `e = [1,3]` against `x = y = [3]`, the Expand and the
original op are valid with result `[1,3]`, but the rewritten op has result `[3]`. -/
theorem rank_guard_needed :
    expandRemovableConstPrefix (some [.known 3]) (some [.known 3]) [1, 3] = true ∧
    specBroadcast [3] [1, 3] = some [1, 3] ∧ specBroadcast [1, 3] [3] = some [1, 3] ∧
    specBroadcast [3] [3] = some [3] := by decide +kernel

/-! ## Element positions

A tensor of shape `s` is read at right-aligned coordinates `c : Nat → Nat` (`c j` = coordinate of the `j`-th axis
from the right; axes beyond the rank carry coordinate `0`).  Broadcasting a tensor of shape `s` to a larger shape
reads it at `bidx s c`: coordinate `0` where the source dim is `1` (or missing), the output coordinate otherwise. -/

def rget (a : List Nat) (j : Nat) : Nat :=
  if j < a.length then a.getD (a.length - 1 - j) 1 else 1

theorem rget_eq (a : List Nat) (j : Nat) : rget a j = a.reverse.getD j 1 := by
  unfold rget
  split
  · next h => exact getD_reverse a j 1 1 h
  · next h => exact (getD_of_le _ _ _ (by simpa using h)).symm

def bidx (s : List Nat) (c : Nat → Nat) : Nat → Nat :=
  fun j => if rget s j = 1 then 0 else c j

theorem expand_index_compose (x en t : List Nat) (ht : specBroadcast x en = some t) (c : Nat → Nat) :
    bidx x (bidx t c) = bidx x c := by
  obtain ⟨_, htp⟩ := (bcRev_eq_some_iff _ _ _).1 ((specBroadcast_eq_some_iff _ _ _).1 ht)
  funext j
  unfold bidx
  by_cases hx : rget x j = 1
  · rw [if_pos hx, if_pos hx]
  · rw [if_neg hx, if_neg hx, if_neg (by rw [rget_eq] at hx ⊢; exact bdim_ne_one _ _ _ (htp j) hx)]

def expandT {α : Type} (xs : List Nat) (X : (Nat → Nat) → α) : (Nat → Nat) → α :=
  fun c => X (bidx xs c)

def binopT {α : Type} (f : α → α → α) (as bs : List Nat) (A B : (Nat → Nat) → α) : (Nat → Nat) → α :=
  fun c => f (A (bidx as c)) (B (bidx bs c))

end OV.Lemmas.C05Expand
