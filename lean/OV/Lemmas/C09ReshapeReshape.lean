import OV.Lemmas.C09Reshape
/-! `ReshapeReshape.check` (`reshapeReshape`): what the update from the output annotation does to the target, and
the final case distinction. -/
namespace OV.C09

theorem Dim.posInt?_eq_some {d : Dim} {n : Int} (h : d.posInt? = some n) : d = .known n ∧ 0 < n := by
  cases d with
  | known k =>
    by_cases hk : 0 < k
    · rw [Dim.posInt?, if_pos hk] at h; cases h; exact ⟨rfl, hk⟩
    · rw [Dim.posInt?, if_neg hk] at h; cases h
  | sym a => cases h
  | unknown => cases h

/-- The update `new_shape[i] = dim` from a truthful annotation of the result `res`: the new target stands to `res` in
whatever pointwise relation `E` the old one did, `E` being reflexive: an updated entry *is* the result entry. -/
theorem rrUpdate_spec {σ : String → Nat} {E : Int → Int → Prop} {o : Shape} {t u res : List Int}
    (h : rrUpdate o t = .ret u) (ha : Admits σ o res) (hE : PW2 E t res) (hrefl : ∀ r, E r r) :
    PW2 (fun x b => b = x ∨ 0 < b) t u ∧ PW2 E u res := by
  induction ha using Admits.ind generalizing t u with
  | nil => cases t with
    | nil => cases h; exact ⟨trivial, trivial⟩
    | cons _ _ => exact hE.elim
  | @cons d o r res hd _ ih => cases t with
    | nil => exact hE.elim
    | cons x t =>
      simp only [rrUpdate] at h
      cases hr : rrUpdate o t with
      | raised => rw [hr] at h; cases h
      | ret u' =>
        rw [hr] at h
        cases h
        obtain ⟨ih1, ih2⟩ := ih hr hE.2
        cases hp : d.posInt? with
        | none => exact ⟨⟨.inl rfl, ih1⟩, ⟨hE.1, ih2⟩⟩
        | some n =>
          obtain ⟨rfl, hn⟩ := Dim.posInt?_eq_some hp
          cases hd
          exact ⟨⟨.inr hn, ih1⟩, ⟨hrefl _, ih2⟩⟩

theorem update_spec {σ : String → Nat} {E : Int → Int → Prop} {out : Option Shape} {t u res : List Int}
    (h : (match out with | some o => rrUpdate o t | none => Raised.ret t) = .ret u)
    (ha : ∀ o, out = some o → Admits σ o res) (hE : PW2 E t res) (hrefl : ∀ r, E r r) :
    PW2 (fun x b => b = x ∨ 0 < b) t u ∧ PW2 E u res := by
  cases out with
  | none => cases h; exact ⟨PW2.refl fun _ _ => .inl rfl, hE⟩
  | some o => exact rrUpdate_spec h (ha o rfl) hE hrefl

/-- `np.where(new_shape == 0, -1, new_shape)` -/
def zeroToNeg (d : Int) : Int := if d = 0 then -1 else d

theorem map_zeroToNeg_of_not_mem {l : List Int} (h : (0 : Int) ∉ l) : l.map zeroToNeg = l := by
  have : ∀ a ∈ l, zeroToNeg a = id a := fun a ha => if_neg fun (e : a = 0) => h (e ▸ ha)
  rw [List.map_congr_left this, List.map_id]

theorem zero_not_mem_map_zeroToNeg (l : List Int) : (0 : Int) ∉ l.map zeroToNeg := by
  intro h
  obtain ⟨a, _, ha⟩ := List.mem_map.mp h
  unfold zeroToNeg at ha
  split at ha
  · cases ha
  · exact absurd ha ‹_›

theorem count_map_zeroToNeg : ∀ {l : List Int}, (∀ b ∈ l, 0 ≤ b) → (l.map zeroToNeg).count (-1) = l.count 0
  | [], _ => rfl
  | a :: l, h => by
    have ih := count_map_zeroToNeg fun b hb => h b (List.mem_cons_of_mem _ hb)
    have ha := h a (List.mem_cons_self ..)
    rw [List.map_cons, List.count_cons, List.count_cons, ih, zeroToNeg]
    by_cases h0 : a = 0
    · rw [if_pos h0, h0]; rfl
    · rw [if_neg h0, if_neg (by rw [beq_iff_eq]; omega), if_neg (by rw [beq_iff_eq]; exact h0)]

/-- The outcomes of `ReshapeReshape.check` that let the rule fire, `u` being the updated target. -/
theorem reshapeReshape_ret {t tgt : List Int} {out : Option Shape} {az : Int} {az' : Bool}
    (h : reshapeReshape (some t) out az = .ret (some (tgt, az'))) :
    ∃ u, (match out with | some o => rrUpdate o t | none => Raised.ret t) = .ret u ∧
      ((az = 1 ∧ (0 : Int) ∈ u ∧ tgt = u ∧ az' = true) ∨
       (((0 : Int) ∈ u → ∀ b ∈ u, 0 ≤ b) ∧ u.count 0 ≤ 1 ∧ tgt = u.map zeroToNeg ∧ az' = false)) := by
  unfold reshapeReshape at h
  simp only at h
  split at h
  · cases h
  next u hu =>
    refine ⟨u, hu, ?_⟩
    by_cases c1 : (decide (az = 1) && u.contains 0) = true
    · rw [if_pos c1] at h
      cases h
      rw [Bool.and_eq_true, decide_eq_true_eq, List.contains_iff_mem] at c1
      exact .inl ⟨c1.1, c1.2, rfl, rfl⟩
    rw [if_neg c1] at h
    by_cases c2 : (u.contains 0 && u.any (· < 0)) = true
    · rw [if_pos c2] at h; cases h
    rw [if_neg c2] at h
    by_cases c3 : (u.filter (· == 0)).length > 1
    · rw [if_pos c3] at h; cases h
    rw [if_neg c3] at h
    cases h
    rw [← List.count_eq_length_filter] at c3
    refine .inr ⟨fun h0 b hb => Int.not_lt.mp fun hlt => c2 ?_, Nat.le_of_not_lt c3, rfl, rfl⟩
    rw [Bool.and_eq_true, List.contains_iff_mem, List.any_eq_true]
    exact ⟨h0, b, hb, decide_eq_true hlt⟩

theorem reshapeReshape_sound (inp mid t tgt : List Int) (az : Int) (az' : Bool) (out : Option Shape)
    (h : reshapeReshape (some t) out az = .ret (some (tgt, az')))
    (σ : String → Nat) (res : List Int)
    (hnn : ∀ d ∈ mid, 0 ≤ d) (hmid : prodInt mid = prodInt inp)
    (ho : reshapeTarget mid t (az == 1) = some res)
    (hout : ∀ o, out = some o → Admits σ o res) :
    reshapeTarget inp tgt az' = some res := by
  obtain ⟨g1, g2, g3, hT, hp, hres⟩ := reshapeTarget_spec hnn ho
  obtain ⟨u, hu, hcase⟩ := reshapeReshape_ret h
  obtain ⟨hK, hA⟩ := update_spec hu hout hT fun _ => .inl (.inl rfl)
  have hp' : prodInt res = prodInt inp := hp.trans hmid
  -- the update creates no `-1` and no `0`
  have hcnt : ∀ c : Int, c ≤ 0 → u.count c ≤ t.count c := fun c hc0 => hK.count_le fun x b hb e => by
    rcases hb with rfl | hb
    · exact e
    · omega
  have hmem : ∀ c : Int, c ≤ 0 → c ∈ u → c ∈ t := fun c hc0 hm =>
    List.one_le_count_iff.mp (Nat.le_trans (List.one_le_count_iff.mpr hm) (hcnt c hc0))
  have hc : u.count (-1) ≤ 1 := Nat.le_trans (hcnt (-1) (by decide)) g1
  rcases hcase with ⟨haz, h0u, rfl, rfl⟩ | ⟨hneg, hcz, rfl, rfl⟩
  · -- `allowzero` with a `0` left: zeros are literal, and the original's own guard excludes a `-1` beside them
    have haz' : (az == 1) = true := beq_iff_eq.mpr haz
    exact reshapeTarget_punched (hA.mono fun b _ r hb => hb.resolve_right fun ⟨_, e⟩ => by rw [haz'] at e; cases e)
      hc hres hp' fun _ => ⟨rfl, fun hm => g3 haz' (hmem 0 (by decide) h0u) (hmem (-1) (by decide) hm)⟩
  · by_cases h0u : (0 : Int) ∈ u
    · -- one `0` among non-negative entries: it becomes the hole, every other entry is the result's
      have hn := hneg h0u
      refine reshapeTarget_punched (hA.map_left fun b hb r hbr => ?_) (by rw [count_map_zeroToNeg hn]; exact hcz)
        hres hp' fun h0 => absurd h0 (zero_not_mem_map_zeroToNeg u)
      have := hn b hb
      unfold zeroToNeg
      split
      · exact .inr rfl
      · next hb0 =>
        rcases hbr.resolve_right fun ⟨e, _⟩ => hb0 e with e | e
        · exact .inl e
        · omega
    · -- no `0`: nothing is copied, the target is the result with at most the old hole
      rw [map_zeroToNeg_of_not_mem h0u]
      exact reshapeTarget_punched (hA.mono fun b hb r hbr => hbr.resolve_right fun ⟨e, _⟩ => h0u (e ▸ hb))
        hc hres hp' fun h0 => absurd h0 h0u

end OV.C09
