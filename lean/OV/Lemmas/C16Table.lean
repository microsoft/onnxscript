import OV.Model.C16Bind
/-!
What lets the kernel evaluate the checks over `OV.Gen.C16.registry` quickly: names are compared as numbers
(`bytesN`, `encodeCodes`, `memN`), and duplicates are looked for within the classes of a small hash only (`nodupSplit`).
-/
namespace OV.C16

theorem memN_iff (k : Nat) (l : List Nat) : memN k l = true ↔ k ∈ l := by
  induction l with
  | nil => simp [memN]
  | cons x xs ih => simp [memN, ih, eq_comm (a := k)]

theorem nodupN_sound (l : List Nat) (h : nodupN l = true) : l.Nodup := by
  induction l with
  | nil => simp
  | cons k ks ih => simp_all [nodupN, ← memN_iff]

theorem nodup_of_filter {α} (p : α → Bool) {l : List α} (h₁ : (l.filter p).Nodup)
    (h₂ : (l.filter (fun x => !p x)).Nodup) : l.Nodup := by
  induction l with
  | nil => exact List.nodup_nil
  | cons a l ih =>
    rw [List.nodup_cons]
    cases hp : p a <;> simp [hp] at h₁ h₂
    · exact ⟨h₂.1, ih h₁ h₂.2⟩
    · exact ⟨h₁.1, ih h₁.2 h₂⟩

/-- Divide on `d` bits of a small hash, compare pairwise only within the classes (`nodupN` alone is quadratic
in the length of the table).  Which bits are used matters for the cost only. -/
def nodupSplit : Nat → List Nat → Bool
  | 0, l => nodupN l
  | d + 1, l =>
    nodupSplit d (l.filter fun x => (x % 1021).testBit d) && nodupSplit d (l.filter fun x => !(x % 1021).testBit d)

theorem nodupSplit_sound (d : Nat) (l : List Nat) (h : nodupSplit d l = true) : l.Nodup := by
  induction d generalizing l with
  | zero => exact nodupN_sound l h
  | succ d ih =>
    rw [nodupSplit, Bool.and_eq_true] at h
    exact nodup_of_filter _ (ih _ h.1) (ih _ h.2)

/-- On a literal the kernel computes the UTF-8 bytes far faster than `String.toList`. -/
def bytesN (s : String) : List Nat := s.toByteArray.data.toList.map UInt8.toNat

theorem utf8_ascii : ∀ c < 128, (String.utf8EncodeChar (Char.ofNat c)).map UInt8.toNat = [c] := by decide +kernel

theorem bytesN_ofCodes (cs : List Nat) (h : ∀ c ∈ cs, c < 128) :
    bytesN (String.ofList (cs.map Char.ofNat)) = cs := by
  simp only [bytesN, String.toByteArray_ofList, List.utf8Encode, List.toList_data_toByteArray]
  induction cs with
  | nil => rfl
  | cons c cs ih =>
    simp only [List.map_cons, List.flatMap_cons, List.map_append, utf8_ascii c (h c (by simp)),
      ih (fun x hx => h x (by simp [hx])), List.singleton_append]

end OV.C16
