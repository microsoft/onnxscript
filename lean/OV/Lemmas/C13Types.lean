import OV.Model.C13Types
namespace OV.C13T

theorem itemDim_dimItem (d : Dim) : itemDim (dimItem d) = d := by cases d <;> rfl

theorem map_itemDim_dimItem (ds : List Dim) : (ds.map dimItem).map itemDim = ds := by
  induction ds with
  | nil => rfl
  | cons d ds ih => simp only [List.map_cons, itemDim_dimItem, ih]

theorem shape_of_classGetitem (ds : List Dim) (h : ds ≠ []) :
    toTypeProtoShape (classGetitem (ds.map dimItem)) = some ds := by
  match ds, h with
  | [d], _ => cases d <;> rfl
  | d1 :: d2 :: rest, _ =>
    simp only [List.map_cons, classGetitem, toTypeProtoShape, itemDim_dimItem, map_itemDim_dimItem]

theorem class_of_name : ∀ p ∈ dtypeTable, classTable.lookup p.2 = some p.1 := by decide +kernel

end OV.C13T
