import OV.Lemmas.C09Shape
/-! `reshapeTarget` taken apart: its guards, `resolveZeros`, and the inference of the `-1` entry (`inferNeg`).
The working notion is a target that is *the result with holes*: each entry is the result's entry or `-1`
(`PW2 Hole w res`).  Such a target with at most one hole, and a `0` only under `allowzero` and without a hole, yields
`res` (`reshapeTarget_punched`), and what a successful Reshape returns stands in that relation to its target, a `0`
copied without `allowzero` being a third case (`TargetOf`, `reshapeTarget_spec`). -/
namespace OV.C09

/-- Pointwise relation between two lists of the same length (core Lean has no `List.Forall₂`). -/
def PW2 (p : Int → Int → Prop) : List Int → List Int → Prop
  | [], [] => True
  | a :: as, b :: bs => p a b ∧ PW2 p as bs
  | _, _ => False

@[elab_as_elim]
theorem PW2.ind {p : Int → Int → Prop} {P : ∀ l₁ l₂, PW2 p l₁ l₂ → Prop} (nil : P [] [] trivial)
    (cons : ∀ {a b l₁ l₂} (hd : p a b) (ht : PW2 p l₁ l₂), P l₁ l₂ ht → P (a :: l₁) (b :: l₂) ⟨hd, ht⟩) :
    ∀ {l₁ l₂} (h : PW2 p l₁ l₂), P l₁ l₂ h
  | [], [], _ => nil
  | _ :: _, _ :: _, h => cons h.1 h.2 (PW2.ind nil cons h.2)
  | [], _ :: _, h => h.elim
  | _ :: _, [], h => h.elim

theorem pw_length {p : Int → Int → Prop} : ∀ {l₁ l₂ : List Int}, PW2 p l₁ l₂ → l₁.length = l₂.length :=
  fun h => h.ind rfl fun _ _ ih => congrArg (· + 1) ih

theorem PW2.mono {p q : Int → Int → Prop} {l₁ l₂ : List Int} (h : PW2 p l₁ l₂)
    (hpq : ∀ a ∈ l₁, ∀ b, p a b → q a b) : PW2 q l₁ l₂ := by
  induction h using PW2.ind with
  | nil => trivial
  | cons hd _ ih =>
    exact ⟨hpq _ (List.mem_cons_self ..) _ hd, ih fun a ha => hpq a (List.mem_cons_of_mem _ ha)⟩

theorem PW2.trans {p q r : Int → Int → Prop} {l₁ l₂ l₃ : List Int} (h₁ : PW2 p l₁ l₂) (h₂ : PW2 q l₂ l₃)
    (hpq : ∀ a b c, p a b → q b c → r a c) : PW2 r l₁ l₃ := by
  induction h₁ using PW2.ind generalizing l₃ with
  | nil => cases l₃ with
    | nil => trivial
    | cons _ _ => exact h₂.elim
  | cons hd _ ih => cases l₃ with
    | nil => exact h₂.elim
    | cons c l₃ => exact ⟨hpq _ _ _ hd h₂.1, ih h₂.2⟩

theorem PW2.refl {p : Int → Int → Prop} : ∀ {l : List Int}, (∀ a ∈ l, p a a) → PW2 p l l
  | [], _ => trivial
  | a :: _, h => ⟨h a (List.mem_cons_self ..), PW2.refl fun b hb => h b (List.mem_cons_of_mem _ hb)⟩

theorem PW2.swap {p : Int → Int → Prop} {l₁ l₂ : List Int} (h : PW2 p l₁ l₂) : PW2 (fun b a => p a b) l₂ l₁ :=
  h.ind trivial fun hd _ ih => ⟨hd, ih⟩

theorem PW2.eq_of {p : Int → Int → Prop} {l₁ l₂ : List Int} (h : PW2 p l₁ l₂)
    (hp : ∀ a ∈ l₁, ∀ b, p a b → a = b) : l₁ = l₂ := by
  induction h using PW2.ind with
  | nil => rfl
  | cons hd _ ih =>
    rw [hp _ (List.mem_cons_self ..) _ hd, ih fun a ha => hp a (List.mem_cons_of_mem _ ha)]

theorem PW2.forall_right {p : Int → Int → Prop} {Q : Int → Prop} {l₁ l₂ : List Int} (h : PW2 p l₁ l₂)
    (hp : ∀ a ∈ l₁, ∀ b, p a b → Q b) : ∀ b ∈ l₂, Q b := by
  induction h using PW2.ind with
  | nil => nofun
  | cons hd _ ih =>
    intro b hb
    rcases List.mem_cons.mp hb with rfl | hb
    · exact hp _ (List.mem_cons_self ..) _ hd
    · exact ih (fun a ha => hp a (List.mem_cons_of_mem _ ha)) b hb

theorem PW2.count_le {p : Int → Int → Prop} {c : Int} {l₁ l₂ : List Int} (h : PW2 p l₁ l₂)
    (hp : ∀ a b, p a b → b = c → a = c) : l₂.count c ≤ l₁.count c := by
  induction h using PW2.ind with
  | nil => exact Nat.le_refl _
  | @cons a b _ _ hd _ ih =>
    rw [List.count_cons, List.count_cons]
    by_cases hb : b = c
    · rw [hp a b hd hb, hb]; omega
    · rw [if_neg (by simpa only [beq_iff_eq] using hb)]; omega

theorem PW2.map_left {p q : Int → Int → Prop} {f : Int → Int} {l₁ l₂ : List Int} (h : PW2 p l₁ l₂)
    (hf : ∀ a ∈ l₁, ∀ b, p a b → q (f a) b) : PW2 q (l₁.map f) l₂ := by
  induction h using PW2.ind with
  | nil => trivial
  | cons hd _ ih =>
    exact ⟨hf _ (List.mem_cons_self ..) _ hd, ih fun a ha => hf a (List.mem_cons_of_mem _ ha)⟩

theorem PW2.map_right_self {p : Int → Int → Prop} {f : Int → Int} :
    ∀ {l : List Int}, (∀ a ∈ l, p a (f a)) → PW2 p l (l.map f)
  | [], _ => trivial
  | a :: _, h => ⟨h a (List.mem_cons_self ..), PW2.map_right_self fun b hb => h b (List.mem_cons_of_mem _ hb)⟩

def sub1 (v d : Int) : Int := if d = -1 then v else d

/-- Second half of `reshapeTarget`: infer the `-1` from the element count `P` / compare the element counts. -/
def inferNeg (P : Int) (t1 : List Int) : Option (List Int) :=
  if t1.contains (-1) then
    if prodInt (t1.filter (· != -1)) = 0 then none
    else if P % prodInt (t1.filter (· != -1)) ≠ 0 then none
    else some (t1.map (sub1 (P / prodInt (t1.filter (· != -1)))))
  else if prodInt t1 = P then some t1 else none

theorem reshapeTarget_eq (inp tgt : List Int) (az : Bool) : reshapeTarget inp tgt az =
    if (tgt.filter (· == -1)).length > 1 then none
    else if tgt.any (· < -1) then none
    else if az && tgt.contains 0 && tgt.contains (-1) then none
    else (if az then some tgt else resolveZeros inp tgt 0).bind (inferNeg (prodInt inp)) := by
  unfold reshapeTarget
  cases (if az = true then some tgt else resolveZeros inp tgt 0) <;> rfl

theorem reshapeTarget_eq_some_iff {inp tgt res : List Int} {az : Bool} : reshapeTarget inp tgt az = some res ↔
    tgt.count (-1) ≤ 1 ∧ (∀ x ∈ tgt, -1 ≤ x) ∧ (az = true → 0 ∈ tgt → -1 ∉ tgt) ∧
    ∃ t1, (if az = true then some tgt else resolveZeros inp tgt 0) = some t1 ∧
      inferNeg (prodInt inp) t1 = some res := by
  rw [reshapeTarget_eq, ← List.count_eq_length_filter, ← Option.bind_eq_some_iff]
  by_cases h1 : tgt.count (-1) > 1
  · rw [if_pos h1]; exact ⟨nofun, fun h => absurd h.1 (Nat.not_le.mpr h1)⟩
  rw [if_neg h1]
  by_cases h2 : tgt.any (· < -1) = true
  · rw [if_pos h2]
    obtain ⟨x, hx, hlt⟩ := List.any_eq_true.mp h2
    exact ⟨nofun, fun h => absurd (h.2.1 x hx) (Int.not_le.mpr (of_decide_eq_true hlt))⟩
  rw [if_neg h2]
  have g3 : (az && tgt.contains 0 && tgt.contains (-1)) = true ↔ (az = true ∧ (0 : Int) ∈ tgt) ∧ (-1 : Int) ∈ tgt := by
    rw [Bool.and_eq_true, Bool.and_eq_true, List.contains_iff_mem, List.contains_iff_mem]
  by_cases h3 : (az && tgt.contains 0 && tgt.contains (-1)) = true
  · rw [if_pos h3]
    exact ⟨nofun, fun h' => absurd (g3.mp h3).2 (h'.2.2.1 (g3.mp h3).1.1 (g3.mp h3).1.2)⟩
  rw [if_neg h3]
  exact ⟨fun h => ⟨Nat.not_lt.mp h1,
      fun x hx => Int.not_lt.mp fun hlt => h2 (List.any_eq_true.mpr ⟨x, hx, decide_eq_true hlt⟩),
      fun ha h0 hm => h3 (g3.mpr ⟨⟨ha, h0⟩, hm⟩), h⟩,
    fun h => h.2.2.2⟩

theorem map_sub1_of_not_mem (v : Int) {l : List Int} (h : (-1 : Int) ∉ l) : l.map (sub1 v) = l := by
  have : ∀ a ∈ l, sub1 v a = id a := fun a ha => if_neg fun (e : a = -1) => h (e ▸ ha)
  rw [List.map_congr_left this, List.map_id]

theorem filter_ne_of_not_mem {l : List Int} (h : (-1 : Int) ∉ l) : l.filter (· != -1) = l :=
  List.filter_eq_self.mpr fun _ ha => bne_iff_ne.mpr fun e => h (e ▸ ha)

theorem inferNeg_eq_some_iff {P : Int} {w res : List Int} : inferNeg P w = some res ↔
    ((-1 : Int) ∉ w ∧ prodInt w = P ∧ res = w) ∨
    ((-1 : Int) ∈ w ∧ prodInt (w.filter (· != -1)) ≠ 0 ∧
      ∃ v, P = prodInt (w.filter (· != -1)) * v ∧ res = w.map (sub1 v)) := by
  unfold inferNeg
  by_cases hm : (-1 : Int) ∈ w
  · rw [if_pos (List.contains_iff_mem.mpr hm)]
    by_cases hk : prodInt (w.filter (· != -1)) = 0
    · rw [if_pos hk]
      exact ⟨nofun, fun h => h.elim (fun h => absurd hm h.1) fun h => absurd hk h.2.1⟩
    rw [if_neg hk]
    constructor
    · intro h
      split at h
      · cases h
      · next hd =>
        cases h
        exact .inr ⟨hm, hk, _, (Int.mul_ediv_cancel' (Int.dvd_of_emod_eq_zero (Decidable.not_not.mp hd))).symm, rfl⟩
    · rintro (h | ⟨_, _, v, rfl, rfl⟩)
      · exact absurd hm h.1
      · rw [if_neg (not_not_intro (Int.mul_emod_right _ _)), Int.mul_ediv_cancel_left _ hk]
  · rw [if_neg (fun h => hm (List.contains_iff_mem.mp h))]
    constructor
    · intro h
      split at h
      · cases h; exact .inl ⟨hm, ‹_›, rfl⟩
      · cases h
    · rintro (⟨_, hp, rfl⟩ | h)
      · rw [if_pos hp]
      · exact absurd h.1 hm

theorem prod_sub1_one (v : Int) : ∀ {l : List Int}, l.count (-1) = 1 →
    prodInt (l.map (sub1 v)) = prodInt (l.filter (· != -1)) * v
  | [], h => by cases h
  | a :: t, h => by
    by_cases ha : a = -1
    · subst ha
      rw [List.count_cons_self] at h
      have hm : (-1 : Int) ∉ t := List.count_eq_zero.mp (Nat.succ.inj h)
      rw [List.map_cons, map_sub1_of_not_mem v hm, List.filter_cons_of_neg (by decide), filter_ne_of_not_mem hm,
        prodInt_cons, Int.mul_comm]
      rfl
    · rw [List.count_cons_of_ne ha] at h
      rw [List.map_cons, List.filter_cons_of_pos (p := (· != -1)) (bne_iff_ne.mpr ha), prodInt_cons, prodInt_cons,
        prod_sub1_one v h, Int.mul_assoc, sub1, if_neg ha]

/-- the target entry `x` is the result entry `r` itself, or the `-1` standing for it -/
def Hole (x r : Int) : Prop := x = r ∨ x = -1

theorem exists_fill {w res : List Int} (h : PW2 Hole w res) (hc : w.count (-1) ≤ 1) :
    ∃ v, res = w.map (sub1 v) := by
  induction h using PW2.ind with
  | nil => exact ⟨0, rfl⟩
  | @cons x r w res hx hw ih =>
    by_cases hx1 : x = -1
    · subst hx1
      rw [List.count_cons_self] at hc
      have hm : (-1 : Int) ∉ w := List.count_eq_zero.mp (by omega)
      refine ⟨r, ?_⟩
      rw [List.map_cons, map_sub1_of_not_mem r hm, hw.eq_of fun a ha b hab => hab.resolve_right fun e => hm (e ▸ ha)]
      rfl
    · rw [List.count_cons_of_ne hx1] at hc
      obtain ⟨v, rfl⟩ := ih hc
      exact ⟨v, by rw [List.map_cons, sub1, if_neg hx1, hx.resolve_right hx1]⟩

/-- `hz`: the element count is divided by the product of the entries beside the hole, which must not be zero. -/
theorem inferNeg_punched {P : Int} {w res : List Int} (hpw : PW2 Hole w res) (hc : w.count (-1) ≤ 1)
    (hz : (-1 : Int) ∈ w → (0 : Int) ∉ w) (hp : prodInt res = P) : inferNeg P w = some res := by
  obtain ⟨v, rfl⟩ := exists_fill hpw hc
  rw [inferNeg_eq_some_iff]
  by_cases hm : (-1 : Int) ∈ w
  · have hc1 : w.count (-1) = 1 := Nat.le_antisymm hc (List.one_le_count_iff.mpr hm)
    exact .inr ⟨hm, prodInt_ne_zero fun h0 => hz hm (List.mem_filter.mp h0).1, v,
      by rw [← hp, prod_sub1_one v hc1], rfl⟩
  · rw [map_sub1_of_not_mem v hm] at hp ⊢
    exact .inl ⟨hm, hp, rfl⟩

theorem resolveZeros_no_zero (inp : List Int) : ∀ (l : List Int) (i : Nat), (0 : Int) ∉ l →
    resolveZeros inp l i = some l
  | [], _, _ => rfl
  | a :: t, i, h => by
    have ha : a ≠ 0 := fun e => h (e ▸ List.mem_cons_self ..)
    simp only [resolveZeros, if_neg ha, resolveZeros_no_zero inp t (i + 1) fun ht => h (List.mem_cons_of_mem _ ht)]

theorem resolveZeros_self : ∀ (pre l : List Int), resolveZeros (pre ++ l) l pre.length = some l
  | _, [] => rfl
  | pre, d :: t => by
    have ih := resolveZeros_self (pre ++ [d]) t
    rw [List.append_assoc, List.singleton_append, List.length_append, List.length_singleton] at ih
    have hget : (pre ++ d :: t)[pre.length]? = some d := by
      rw [List.getElem?_append_right (Nat.le_refl _), Nat.sub_self, List.getElem?_cons_zero]
    simp only [resolveZeros, hget, ih, ite_self]

theorem resolveZeros_copy (inp : List Int) : ∀ (l t1 : List Int) (i : Nat),
    resolveZeros inp l i = some t1 → PW2 (fun x a => x = a ∨ (x = 0 ∧ a ∈ inp)) l t1
  | [], t1, _, h => by cases h; trivial
  | a :: t, t1, i, h => by
    unfold resolveZeros at h
    split at h
    · next v r hv hr =>
      cases h
      refine ⟨?_, resolveZeros_copy inp t r (i + 1) hr⟩
      by_cases ha : a = 0
      · rw [if_pos ha] at hv; exact .inr ⟨ha, List.mem_of_getElem? hv⟩
      · rw [if_neg ha] at hv; exact .inl (Option.some.inj hv)
    · cases h

/-- The reshape rules' common ground.  `res` is the intended result, `t1` the target with its `0`s resolved (itself
under `allowzero`), `hz` as in `inferNeg_punched`.  The guards on the target itself follow from what is assumed of `t1`,
since resolving only replaces `0`s.  `reshapeTarget_spec` is the converse. -/
theorem reshapeTarget_resolved {inp w t1 res : List Int} {az : Bool}
    (hr : (if az = true then some w else resolveZeros inp w 0) = some t1) (hpw : PW2 Hole t1 res)
    (hc : t1.count (-1) ≤ 1) (hz : (-1 : Int) ∈ t1 → (0 : Int) ∉ t1) (hnn : ∀ r ∈ res, 0 ≤ r)
    (hp : prodInt res = prodInt inp) : reshapeTarget inp w az = some res := by
  have hk : PW2 (fun a x => x = a ∨ x = 0) t1 w := by
    cases az with
    | true => cases hr; exact PW2.refl fun _ _ => .inl rfl
    | false => exact ((resolveZeros_copy inp w t1 0 hr).mono fun _ _ _ h => h.imp_right And.left).swap
  have ht1 : ∀ a ∈ t1, -1 ≤ a := hpw.swap.forall_right fun r hr a ha => by
    have := hnn r hr
    rcases ha with rfl | rfl <;> omega
  refine reshapeTarget_eq_some_iff.mpr ⟨Nat.le_trans (hk.count_le fun a x hx e => ?_) hc,
    hk.forall_right fun a ha x hx => ?_, fun haz h0 hm => ?_, t1, hr, inferNeg_punched hpw hc hz hp⟩
  · rcases hx with rfl | rfl
    · exact e
    · cases e
  · have := ht1 a ha
    rcases hx with rfl | rfl <;> omega
  · subst haz
    cases hr
    exact hz hm h0

/-- the case in which nothing is copied: a `0` in the target only under `allowzero`, and then no `-1` -/
theorem reshapeTarget_punched {inp w res : List Int} {az : Bool} (hpw : PW2 Hole w res) (hc : w.count (-1) ≤ 1)
    (hnn : ∀ r ∈ res, 0 ≤ r) (hp : prodInt res = prodInt inp)
    (hz : (0 : Int) ∈ w → az = true ∧ (-1 : Int) ∉ w) : reshapeTarget inp w az = some res := by
  refine reshapeTarget_resolved ?_ hpw hc (fun hm h0 => (hz h0).2 hm) hnn hp
  cases az with
  | true => rfl
  | false => exact resolveZeros_no_zero inp w 0 fun h0 => absurd (hz h0).1 nofun

theorem contains_neg1_false {l : List Int} (h : ∀ d ∈ l, 0 ≤ d) : l.contains (-1) = false :=
  Bool.eq_false_iff.mpr fun hc => absurd (h _ (List.contains_iff_mem.mp hc)) (by decide)

/-- without `allowzero` the zeros copy themselves (`resolveZeros_self`) -/
theorem reshapeTarget_self (l : List Int) (h : ∀ d ∈ l, 0 ≤ d) (az : Bool) : reshapeTarget l l az = some l := by
  have hm : (-1 : Int) ∉ l := fun hm => absurd (h _ hm) (by decide)
  refine reshapeTarget_resolved ?_ (PW2.refl fun _ _ => .inl rfl)
    (by rw [List.count_eq_zero.mpr hm]; exact Nat.zero_le _) (fun h' => absurd h' hm) h rfl
  cases az with
  | true => rfl
  | false => exact resolveZeros_self [] l

/-- the target entry `x` against the resolved entry `a`: kept, or — without `allowzero` — a `0` replaced by the
(non-negative) input dim -/
def Copy (az : Bool) (x a : Int) : Prop := x = a ∨ (x = 0 ∧ az = false ∧ 0 ≤ a)

theorem resolveZeros_pw (inp : List Int) (hnn : ∀ d ∈ inp, 0 ≤ d) (l t1 : List Int) (i : Nat)
    (h : resolveZeros inp l i = some t1) : PW2 (Copy false) l t1 :=
  (resolveZeros_copy inp l t1 i h).mono fun _ _ a hc => hc.imp_right fun ⟨h0, hm⟩ => ⟨h0, rfl, hnn a hm⟩

/-- the target entry `x` against the entry `r` of what `Reshape` returned: literal or inferred, or (without `allowzero`)
a `0` that was copied -/
def TargetOf (az : Bool) (x r : Int) : Prop := Hole x r ∨ (x = 0 ∧ az = false)

theorem reshapeTarget_spec {inp t res : List Int} {az : Bool} (hnn : ∀ d ∈ inp, 0 ≤ d)
    (h : reshapeTarget inp t az = some res) :
    t.count (-1) ≤ 1 ∧ (∀ x ∈ t, -1 ≤ x) ∧ (az = true → 0 ∈ t → -1 ∉ t) ∧
    PW2 (TargetOf az) t res ∧ prodInt res = prodInt inp ∧ ∀ r ∈ res, 0 ≤ r := by
  obtain ⟨g1, g2, g3, t1, ht1, hinf⟩ := reshapeTarget_eq_some_iff.mp h
  have hcp : PW2 (Copy az) t t1 := by
    cases az with
    | true => cases ht1; exact PW2.refl fun _ _ => .inl rfl
    | false => exact resolveZeros_pw inp hnn t t1 0 ht1
  have c1 : t1.count (-1) ≤ 1 := Nat.le_trans (hcp.count_le fun x a hc e => by
    rcases hc with rfl | ⟨_, _, h0⟩
    · exact e
    · omega) g1
  have c2 : ∀ a ∈ t1, -1 ≤ a := hcp.forall_right fun x hx a hc => by
    have := g2 x hx
    rcases hc with rfl | ⟨_, _, h0⟩ <;> omega
  have key : ∃ v, res = t1.map (sub1 v) ∧ prodInt res = prodInt inp ∧ ((-1 : Int) ∈ t1 → 0 ≤ v) := by
    rcases inferNeg_eq_some_iff.mp hinf with ⟨hm, hp, rfl⟩ | ⟨hm, hk, v, hP, rfl⟩
    · exact ⟨0, (map_sub1_of_not_mem 0 hm).symm, hp, fun h => absurd h hm⟩
    · refine ⟨v, rfl, ?_, fun _ => Int.not_lt.mp fun hv => ?_⟩
      · rw [prod_sub1_one v (Nat.le_antisymm c1 (List.one_le_count_iff.mpr hm)), hP]
      · -- the other entries multiply to > 0 and the element count is ≥ 0, so the inferred value is not negative
        have hk0 : 0 ≤ prodInt (t1.filter (· != -1)) := prodInt_nonneg fun a ha => by
          have := c2 a (List.mem_filter.mp ha).1
          have := bne_iff_ne.mp (List.mem_filter.mp ha).2
          omega
        have := prodInt_nonneg hnn
        have := Int.mul_neg_of_pos_of_neg (show 0 < prodInt (t1.filter (· != -1)) by omega) hv
        omega
  obtain ⟨v, rfl, hp, hv⟩ := key
  have hole : PW2 Hole t1 (t1.map (sub1 v)) := PW2.map_right_self fun a _ => by
    unfold Hole sub1
    split
    · exact .inr ‹_›
    · exact .inl rfl
  refine ⟨g1, g2, g3, hcp.trans hole fun x a r hc hh => ?_, hp, fun r hr => ?_⟩
  · rcases hc with rfl | ⟨h0, haz, _⟩
    · exact .inl hh
    · exact .inr ⟨h0, haz⟩
  · obtain ⟨a, ha, rfl⟩ := List.mem_map.mp hr
    unfold sub1
    split
    · exact hv (‹a = -1› ▸ ha)
    · have := c2 a ha; omega

end OV.C09
