import OV.Lemmas.C03Turn
/-!
Bookkeeping invariant (`BkA`) on fragment A: what `_clear_unused_initializers` pops is unreferenced (`removed_unreferenced`).
Use counts move along with the alias substitution (`decUse x; incUse y`), so they stay upper bounds
of the real number of occurrences; every recorded alias target is an input of a node already emitted.
-/
namespace OV.C03

theorem count_map_substOne_pos (st : St) (z : Name) (ins : List (Option Name))
    (h : 0 < (ins.map (substOne st)).count (some z)) :
    0 < ins.count (some z) ∨ ∃ x, lookupA st.sym x = some (.alias z) :=
  (mem_map_substOne (List.count_pos_iff.mp h)).imp List.count_pos_iff.mpr fun ⟨x, _, hx⟩ => ⟨x, hx⟩

/-- one step of the substitution loop moves one use from the input to what it stands for -/
theorem substStep_usesOf (st : St) (acc : List (Option Name) × St) (hs : SameIS st acc.2) (x y : Name)
    (hso : substOne st (some x) = some y) (hx1 : 1 ≤ acc.2.usesOf x) :
    SameIS st (substStep acc (some x)).2 ∧
    ∀ z, (substStep acc (some x)).2.usesOf z + (if x = z then 1 else 0) = acc.2.usesOf z + (if y = z then 1 else 0) := by
  simp only [substStep, getSym_sameIS hs]
  simp only [substOne] at hso
  split
  · rename_i y' hy'
    rw [hy'] at hso
    have hy : y' = y := Option.some.inj hso
    subst hy
    refine ⟨hs.trans ⟨rfl, rfl⟩, fun z => ?_⟩
    show ((acc.2.decUse x).incUse y').usesOf z + _ = _
    rw [usesOf_incUse, usesOf_decUse]
    by_cases hzx : x = z <;> by_cases hzy : y' = z
    · rw [if_pos hzy.symm, if_pos hzx.symm, if_pos hzx, if_pos hzy]; subst hzx; omega
    · rw [if_neg (fun e => hzy e.symm), if_pos hzx.symm, if_pos hzx, if_neg hzy]; subst hzx; omega
    · rw [if_pos hzy.symm, if_neg (fun e => hzx e.symm), if_neg hzx, if_pos hzy]
    · rw [if_neg (fun e => hzy e.symm), if_neg (fun e => hzx e.symm), if_neg hzx, if_neg hzy]
  · rename_i hna
    split at hso
    · rename_i y' hy'
      exact absurd hy' (hna y')
    · have hy : x = y := Option.some.inj hso
      subst hy
      exact ⟨hs, fun z => rfl⟩

theorem substStep_uses (st : St) (z : Name) : ∀ (ins : List (Option Name)) (acc : List (Option Name) × St),
    SameIS st acc.2 → (∀ w, ins.count (some w) ≤ acc.2.usesOf w) →
    (ins.foldl substStep acc).2.usesOf z + ins.count (some z) = acc.2.usesOf z + (ins.map (substOne st)).count (some z) := by
  intro ins
  induction ins with
  | nil => intro acc _ _; simp
  | cons a r ih =>
    intro acc hs hlb
    simp only [List.foldl_cons, List.map_cons]
    cases a with
    | none =>
      have hlb' : ∀ w, r.count (some w) ≤ acc.2.usesOf w := fun w => by
        have := hlb w; simp only [List.count_cons] at this; omega
      have := ih (substStep acc none) hs hlb'
      simp only [substStep] at this ⊢
      simp only [List.count_cons, substOne]
      simpa using this
    | some x =>
      obtain ⟨y, hso⟩ := substOne_some st x
      have cnt_hd : ∀ (u : Name) (l : List (Option Name)) w, (some u :: l).count (some w) =
          l.count (some w) + (if u = w then 1 else 0) := by
        intro u l w
        simp only [List.count_cons]
        by_cases h : u = w <;> simp [h]
      obtain ⟨hs', hu⟩ := substStep_usesOf st acc hs x y hso (by have := hlb x; rw [cnt_hd, if_pos rfl] at this; omega)
      have hih := ih (substStep acc (some x)) hs' (fun w => by
        have h1 := hlb w
        have h2 := hu w
        rw [cnt_hd] at h1
        omega)
      have := hu z
      rw [hso, cnt_hd, cnt_hd]
      omega

structure BkA (g : Graph) (st : St) (acc todo : List Node) : Prop where
  lb : ∀ x, cnt x (acc ++ todo) ≤ st.usesOf x
  gouts : ∀ o, g.outputs.contains o = true → st.gouts.contains o = true
  gins : ∀ i, g.inputs.contains i = true → st.gins.contains i = true
  rem : ∀ x, x ∈ st.removed → cnt x (acc ++ todo) = 0 ∧ g.outputs.contains x = false ∧ g.inputs.contains x = false
  nofresh : ∀ k : Nat, cnt ("%" ++ toString k) (acc ++ todo) = 0
  aliasSrc : ∀ x y, lookupA st.sym x = some (.alias y) → 0 < cnt y acc

theorem substInputs_usesEq (st : St) (n : Node) (hlb : ∀ w, n.inputs.count (some w) ≤ st.usesOf w) (z : Name) :
    (substInputs st n).2.usesOf z + n.inputs.count (some z) = st.usesOf z + (n.inputs.map (substOne st)).count (some z) := by
  unfold substInputs
  exact substStep_uses st z n.inputs ([], st) (SameIS.refl st) hlb

theorem cnt_middle (x : Name) (n : Node) (a b : List Node) :
    cnt x (a ++ n :: b) = cnt x (a ++ b) + n.inputs.count (some x) := by
  rw [cnt_append, cnt_append, cnt_cons]
  omega

theorem cnt_le_of_count (x : Name) (n : Node) (a b : List Node) : n.inputs.count (some x) ≤ cnt x (a ++ n :: b) := by
  rw [cnt_middle]
  omega

theorem BkA.subst {ctx : Ctx} {g : Graph} {st st1 : St} {acc rest : List Node} {n0 n : Node} (h : BkA g st acc (n0 :: rest))
    (hp : TurnPre ctx st n0 n st1) : BkA g st1 acc (n :: rest) := by
  obtain ⟨i, e1⟩ := constMark_writes ctx (n0.isOp "Constant") (substInputs st n0).2 n
  rw [← hp.state] at e1
  have hu : ∀ z, st1.usesOf z = (substInputs st n0).2.usesOf z := fun z => by rw [e1]; rfl
  obtain ⟨u, m, hh, e0⟩ := substInputs_writes st n0
  have heq := substInputs_usesEq st n0 (fun w => Nat.le_trans (cnt_le_of_count w n0 acc rest) (h.lb w))
  have hcn : ∀ z, cnt z (acc ++ n :: rest) = cnt z (acc ++ rest) + (n0.inputs.map (substOne st)).count (some z) := by
    intro z
    rw [cnt_middle, hp.node, setInputs_inputs]
  have hco := fun z => cnt_middle z n0 acc rest
  have hacc : ∀ z, cnt z acc ≤ cnt z (acc ++ n0 :: rest) := fun z => by rw [cnt_append]; omega
  have hzero : ∀ z, cnt z (acc ++ n0 :: rest) = 0 → (n0.inputs.map (substOne st)).count (some z) = 0 := by
    intro z hz
    cases hc : (n0.inputs.map (substOne st)).count (some z) with
    | zero => rfl
    | succ k =>
      exfalso
      rcases count_map_substOne_pos st z n0.inputs (by omega) with h1 | ⟨x, hx⟩
      · have := hco z; omega
      · have := h.aliasSrc x z hx
        have := hacc z
        omega
  refine ⟨?_, ?_, ?_, ?_, ?_, ?_⟩
  · intro z
    have := heq z
    have := h.lb z
    rw [hco] at this
    rw [hcn, hu]
    omega
  · intro o ho; rw [e1, e0]; exact h.gouts o ho
  · intro i hi; rw [e1, e0]; exact h.gins i hi
  · intro x hx
    rw [e1, e0] at hx
    obtain ⟨r1, r2, r3⟩ := h.rem x hx
    refine ⟨?_, r2, r3⟩
    rw [hcn, hzero x r1]
    have := hco x; omega
  · intro k
    have h0 := h.nofresh k
    rw [hcn, hzero _ h0]
    have := hco ("%" ++ toString k); omega
  · intro x y hx
    rw [hp.sym] at hx
    exact h.aliasSrc x y hx

theorem BkA.keep {g : Graph} {st st' : St} {acc rest : List Node} {n : Node} (h : BkA g st acc (n :: rest))
    (hbk : SameBk st st')
    (hsym : ∀ x y, lookupA st'.sym x = some (.alias y) → lookupA st.sym x = some (.alias y) ∨ n.inputs.contains (some y) = true) :
    BkA g st' (n :: acc) rest := by
  have hc : ∀ z, cnt z ((n :: acc) ++ rest) = cnt z (acc ++ n :: rest) := by
    intro z; rw [cnt_append, cnt_append, cnt_cons, cnt_cons]; omega
  refine ⟨?_, ?_, ?_, ?_, ?_, ?_⟩
  · intro z; rw [hc, hbk.usesOf]; exact h.lb z
  · intro o ho; rw [hbk.2.2.1]; exact h.gouts o ho
  · intro i hi; rw [hbk.2.1]; exact h.gins i hi
  · intro x hx; rw [hbk.2.2.2] at hx; rw [hc]; exact h.rem x hx
  · intro k; rw [hc]; exact h.nofresh k
  · intro x y hx
    rw [cnt_cons]
    rcases hsym x y hx with h1 | h1
    · have := h.aliasSrc x y h1; omega
    · have : 0 < n.inputs.count (some y) := List.count_pos_iff.mpr (by simpa using h1)
      omega

/-- `replace_node` at the head of `todo`: the node is replaced by the nodes `ms`, which read no more than it did (none at
all for a fold); `fv`, the tape's output name, occurs nowhere. -/
theorem BkA.replace {g : Graph} {st0 st3 : St} {acc rest : List Node} {n : Node} (h : BkA g st0 acc (n :: rest))
    (hbk : SameBk st0 st3) (o fv : Name) (hfv : cnt fv (acc ++ n :: rest) = 0) (ms : List Node) (l : List Name)
    (hmle : ∀ z, cnt z ms ≤ n.inputs.count (some z))
    (hsym4 : ∀ x y, lookupA (afterRepl st3 n o fv ms l).sym x = some (.alias y) → lookupA st0.sym x = some (.alias y)) :
    BkA g (afterRepl st3 n o fv ms l) acc (ms ++ rest) := by
  obtain ⟨p1, p2, p3, p4⟩ := afterRepl_parts st3 n o fv ms l
  have hcnt := fun x => cnt_middle x n acc rest
  have hcntm : ∀ x, cnt x (acc ++ (ms ++ rest)) = cnt x (acc ++ rest) + cnt x ms := by
    intro x; rw [cnt_append, cnt_append, cnt_append]; omega
  have hlb : ∀ x, cnt x (acc ++ (ms ++ rest)) ≤ (afterRepl st3 n o fv ms l).usesOf x := by
    intro x
    have hm := hmle x
    rw [hcntm, p3]
    by_cases hx : x = fv
    · rw [hcnt] at hfv
      rw [hx] at hm ⊢
      omega
    · have h1 := h.lb x
      rw [hcnt] at h1
      have h2 := usesOf_inheritInfo st3 o fv x hx
      rw [hbk.usesOf] at h2
      omega
  refine ⟨hlb, ?_, ?_, ?_, ?_, ?_⟩
  · intro o' ho'; rw [p2, hbk.2.2.1]; exact h.gouts o' ho'
  · intro i hi; rw [p1, hbk.2.1]; exact h.gins i hi
  · intro x hx
    rcases p4 x hx with h' | ⟨hu, hgo, hgi⟩
    · rw [hbk.2.2.2] at h'
      obtain ⟨r1, r2, r3⟩ := h.rem x h'
      rw [hcnt] at r1
      have hm := hmle x
      exact ⟨by rw [hcntm]; omega, r2, r3⟩
    · refine ⟨by have := hlb x; omega, ?_, ?_⟩
      · exact Bool.eq_false_iff.mpr fun hc => by
          have := h.gouts x hc
          rw [← hbk.2.2.1, hgo] at this
          exact absurd this (by decide)
      · exact Bool.eq_false_iff.mpr fun hc => by
          have := h.gins x hc
          rw [← hbk.2.1, hgi] at this
          exact absurd this (by decide)
  · intro k'
    have := h.nofresh k'
    rw [hcnt] at this
    have hm := hmle ("%" ++ toString k')
    rw [hcntm]
    omega
  · intro x y hx
    exact h.aliasSrc x y (hsym4 x y hx)

/-- what the end-to-end theorem needs about the final state and the final node list -/
def FinalBk (g : Graph) (st : St) (L : List Node) : Prop :=
  (∀ x, x ∈ st.removed → cnt x L = 0 ∧ g.outputs.contains x = false ∧ g.inputs.contains x = false) ∧
  (st.err.isSome = true ∨ ∀ x y, lookupA st.sym x = some (.alias y) → 0 < cnt y L)

theorem BkA.final {g : Graph} {st st' : St} {acc todo : List Node} (h : BkA g st acc todo)
    (hr : st'.removed = st.removed) (hs : st'.err.isSome = true ∨ st'.sym = st.sym) : FinalBk g st' (acc.reverse ++ todo) := by
  have hc : ∀ z, cnt z (acc.reverse ++ todo) = cnt z (acc ++ todo) := by
    intro z; rw [cnt_append, cnt_append, cnt_reverse]
  refine ⟨?_, ?_⟩
  · intro x hx; rw [hr] at hx; rw [hc]; exact h.rem x hx
  · rcases hs with hs | hs
    · exact Or.inl hs
    · right
      intro x y hx
      rw [hs] at hx
      have := h.aliasSrc x y hx
      rw [hc, cnt_append]; omega

theorem visitNodes_bkA (ctx : Ctx) (hnf : ctx.isFunction = false) (vg : St → Graph → St × Graph) (g : Graph) :
    ∀ (f : Nat) (todo : List Node) (st : St) (acc : List Node) (ai : List (Name × String)),
      (∀ n ∈ todo, FragBk n) → BkA g st acc todo →
      FinalBk g (visitNodes ctx vg f st todo acc ai).1 (visitNodes ctx vg f st todo acc ai).2.1 := by
  refine visitNodes_induct ctx hnf vg (motive := fun _ st todo acc _ r => BkA g st acc todo → FinalBk g r.1 r.2.1) ?_ ?_ ?_ ?_
  · intro f st todo acc ai e _ hb
    exact hb.final rfl (Or.inr rfl)
  · intro f st n0 rest acc ai n st1 st' r hp hk ih hb
    obtain ⟨i, s, fr, h, nd, hw⟩ := hk.writes
    exact ih ((hb.subst hp).keep (hw ▸ ⟨rfl, rfl, rfl, rfl⟩) fun x y hx => hk.alias hx)
  · intro f st n0 rest acc ai n st1 stG st2 st3 v c o l r hp hf ih hb
    have hb1 := hb.subst hp
    have hbk : SameBk st1 st3 := by
      obtain ⟨i, s, fr, h, rfl⟩ := hf.writes
      exact hf.bk
    exact ih (hb1.replace hbk o (freshOf st2) (hb1.nofresh st2.fresh) [] l (fun z => Nat.zero_le _)
      fun x y hx => hf.alias l hx)
  · intro f st n0 rest acc ai n st1 st2 v x x' opn attrs o l r hp hr ih hb
    have hb1 := hb.subst hp
    obtain ⟨i, fr, h, hw⟩ := hr.writes
    -- a name the node reads is not a generated name
    have hxfv : x ≠ freshOf st1 := by
      intro e
      have h0 := hb1.nofresh st1.fresh
      have h1 := cnt_le_of_count x n acc rest
      have hpos : 0 < n.inputs.count (some x) := List.count_pos_iff.mpr hr.reads
      rw [e] at h1 hpos
      unfold freshOf at h1 hpos
      omega
    obtain rfl := hr.ren hxfv
    refine ih (hb1.replace (hw ▸ ⟨rfl, rfl, rfl, rfl⟩) o (freshOf st1) (hb1.nofresh st1.fresh) [_] l ?_
      fun z y hx => hr.alias _ _ l hx)
    intro z
    rw [cnt_cons, cnt_nil, Nat.add_zero]
    show [some x'].count (some z) ≤ _
    by_cases hz : x' = z
    · subst hz
      have : 0 < n.inputs.count (some x') := List.count_pos_iff.mpr hr.reads
      simp only [List.count_cons_self, List.count_nil]
      omega
    · rw [List.count_cons_of_ne (by simpa using hz)]
      exact Nat.zero_le _

theorem replaceOutputs_mem (nodes : List Node) (outs : List Name) (st : St) (o' : Name)
    (h : o' ∈ (replaceOutputs st nodes outs).2) : o' ∈ outs ∨ ∃ o, lookupA st.sym o = some (.alias o') := by
  obtain ⟨o, ho, hk⟩ := (replaceOutputs_spec nodes outs st).1.mem_right h
  rcases hk with rfl | ⟨ha, _⟩
  · exact Or.inl ho
  · exact Or.inr ⟨o, ha⟩

theorem initialState_bkA (g : Graph) (info : List (Name × VInfo))
    (hnf : ∀ k : Nat, cnt ("%" ++ toString k) g.nodes = 0) : BkA g (initialState g info) [] g.nodes := by
  have huses : ∀ x, cnt x g.nodes ≤ (initialState g info).usesOf x := by
    intro x
    have : (initialState g info).usesOf x =
        0 + (collect (fun g => g.nodes.flatMap fun n => n.inputs.filterMap id) maxDepth g).count x := by
      unfold initialState
      simp only []
      rw [usesOf_foldl_incUse]
      rfl
    rw [this, cnt_eq_flat]
    simp only [maxDepth, collect, List.count_append]
    omega
  obtain ⟨u, e⟩ := initialState_writes g info
  refine ⟨huses, ?_, ?_, ?_, hnf, ?_⟩
  · intro o ho
    rw [e]
    simp only [maxDepth, collect, List.contains_iff_mem, List.mem_append] at ho ⊢
    exact Or.inl ho
  · intro i hi
    rw [e]
    simp only [maxDepth, collect, List.contains_iff_mem, List.mem_append] at hi ⊢
    exact Or.inl hi
  · intro x hx
    rw [e] at hx
    exact nomatch hx
  · intro x y hx
    rw [e] at hx
    exact nomatch hx

theorem removed_unreferenced (k : Nat) (ctx : Ctx) (hnf : ctx.isFunction = false) (info : List (Name × VInfo)) (g : Graph)
    (hfr : ∀ n ∈ g.nodes, FragBk n) (hnofresh : ∀ k : Nat, cnt ("%" ++ toString k) g.nodes = 0) :
    ∀ x, x ∈ (visitGraph ctx (k + 1) (initialState g info) g).1.removed →
      g.inputs.contains x = false ∧ g.outputs.contains x = false ∧
      (visitGraph ctx (k + 1) (initialState g info) g).2.outputs.contains x = false ∧
      ∀ n ∈ (visitGraph ctx (k + 1) (initialState g info) g).2.nodes, n.inputs.contains (some x) = false := by
  have hfin := visitNodes_bkA ctx hnf (visitGraph ctx k) g
    (stepFuel g + 16 * (initialState g info).uses.length) g.nodes (initialState g info) [] [] hfr
    (initialState_bkA g info hnofresh)
  obtain ⟨stN, L, added, st', outs, _, _, _, hvn, hvg, rfl, houts⟩ := visitGraph_succ ctx k (initialState g info) g
  rw [hvn] at hfin
  dsimp only at hfin
  rw [hvg]
  intro x hx
  obtain ⟨r1, r2, r3⟩ := hfin.1 x hx
  refine ⟨r3, r2, ?_, ?_⟩
  · refine Bool.eq_false_iff.mpr fun hc => ?_
    have hxo : x ∈ outs := by simpa [Graph.outputs] using hc
    rcases houts with ⟨_, _, rfl⟩ | ⟨herr, _, rfl⟩
    · rw [List.contains_iff_mem.mpr hxo] at r2
      exact absurd r2 (by decide)
    · rcases replaceOutputs_mem L g.outputs stN x hxo with h | ⟨o, ho⟩
      · rw [List.contains_iff_mem.mpr h] at r2
        exact absurd r2 (by decide)
      · rcases hfin.2 with he | ha
        · rw [herr] at he
          exact absurd he (by decide)
        · have := ha o x ho
          omega
  · intro n hn
    refine Bool.eq_false_iff.mpr fun hc => ?_
    have hpos : 0 < cnt x L := by
      unfold cnt
      exact List.count_pos_iff.mpr (List.mem_flatMap.mpr ⟨n, hn, by simpa using hc⟩)
    omega

theorem prune_ok_fragmentA (k : Nat) (ctx : Ctx) (hnf : ctx.isFunction = false) (info : List (Name × VInfo)) (g : Graph)
    (hfr : ∀ n ∈ g.nodes, FragBk n) (hnofresh : ∀ k : Nat, cnt ("%" ++ toString k) g.nodes = 0) :
    ∀ x, (visitGraph ctx (k + 1) (initialState g info) g).1.removed.contains x = true →
      g.inputs.contains x = false ∧
      (visitGraph ctx (k + 1) (initialState g info) g).2.outputs.contains x = false ∧
      ∀ n ∈ (visitGraph ctx (k + 1) (initialState g info) g).2.nodes, n.inputs.contains (some x) = false := by
  intro x hx
  obtain ⟨h1, _, h3, h4⟩ := removed_unreferenced k ctx hnf info g hfr hnofresh x (by simpa using hx)
  exact ⟨h1, h3, h4⟩

theorem no_dangling_aux (k : Nat) (ctx : Ctx) (hnf : ctx.isFunction = false) (info : List (Name × VInfo)) (g : Graph)
    (hplain : ∀ n ∈ g.nodes, Plain n) (hnofresh : ∀ k : Nat, cnt ("%" ++ toString k) g.nodes = 0) :
    ∀ x, x ∈ (visitGraph ctx (k + 1) (initialState g info) g).1.removed →
      g.inputs.contains x = false ∧ g.outputs.contains x = false ∧
      ∀ n ∈ (visitGraph ctx (k + 1) (initialState g info) g).2.nodes, n.inputs.contains (some x) = false := by
  intro x hx
  obtain ⟨h1, h2, _, h4⟩ := removed_unreferenced k ctx hnf info g (fun n hn => (hplain n hn).toBk) hnofresh x hx
  exact ⟨h1, h2, h4⟩

end OV.C03
