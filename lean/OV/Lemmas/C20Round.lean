import OV.Model.C20Save
import OV.Lemmas.C20Save
import OV.Lemmas.C20Sim
import OV.Lemmas.Util
/-!
# C20 — the fault-free run, step by step (towards the end-to-end round trip)

Every lemma about a step of the run has `s.k = none` (no fault planned) as a hypothesis and computes what the step
returns and what it leaves: the plan stays `none`, the heap only grows, files other than the data file keep their content.
The run inside `with open(dest, "wb")` is described by what a step does to the content of `dest` (`Appends`) and composed
by its rules.  Each list the model builds on the way is tied once to a list of records: the entries (`ents_ok`), the
placed tensors (`rows`), the split by `classify` (`split_ok`).  Also here: `image`, the bytes the write loop appends, with
its read-back lemma, and the predicates the round-trip theorems are stated with (`All2`, `Holds`/`InitOK`,
`Readable`/`InitR`, `zip3`).
-/
namespace OV.C20

theorem tick_ok (op : Op) (s : St) (hk : s.k = none) :
    tick op s = (.ok (), { s with calls := s.calls + 1, trace := s.trace ++ [op] }) :=
  tick_pass op s (by rw [hk]; exact fun h => by cases h)

theorem bind_apply (f : M α) (g : α → M β) (s : St) :
    (f >>= g) s = match f s with
      | (.ok a, s') => g a s'
      | (.error e, s') => (.error e, s') := rfl
theorem pure_apply (a : α) (s : St) : (pure a : M α) s = (.ok a, s) := rfl
theorem get_apply (s : St) : get s = (.ok s, s) := rfl
theorem modify_apply (g : St → St) (s : St) : modify g s = (.ok (), g s) := rfl
theorem throw_apply (e : Err) (s : St) : (throw e : M α) s = (.error e, s) := rfl

theorem bind_ok {f : M α} {g : α → M β} {s s1 s2 : St} {a : α} {b : β} (h1 : f s = (.ok a, s1))
    (h2 : g a s1 = (.ok b, s2)) : (f >>= g) s = (.ok b, s2) := by
  rw [bind_apply, h1]
  exact h2

theorem tryFinally_ok {body : M α} {fin : St → St} {s s1 s2 : St} {a : α} (h : body s = (.ok a, s1))
    (hf : fin s1 = s2) : tryFinally body fin s = (.ok a, s2) := by
  subst hf
  unfold tryFinally
  rw [h]

theorem needHandle_ok (f : String) (s : St) (h : f ∈ s.wopened) : needHandle f s = (.ok (), s) := by
  unfold needHandle
  rw [if_pos (List.contains_iff_mem.2 h)]

theorem get?_set_eq (fs : FS) (f : String) (c : Content) : FS.get? (FS.set fs f c) f = some c := by
  induction fs with
  | nil => simp only [FS.set, FS.get?, List.lookup, beq_self_eq_true]
  | cons x rest ih =>
    obtain ⟨g, d⟩ := x
    simp only [FS.set]
    split
    · next hg => subst hg; simp only [FS.get?, List.lookup, beq_self_eq_true]
    · next hg =>
      simp only [FS.get?, List.lookup, beq_false_of_ne (Ne.symm hg)]
      exact ih

theorem set_set (fs : FS) (f : String) (c d : Content) : FS.set (FS.set fs f c) f d = FS.set fs f d := by
  induction fs with
  | nil => simp only [FS.set, if_true]
  | cons x rest ih =>
    obtain ⟨g, e⟩ := x
    simp only [FS.set]
    split
    · simp only [FS.set, if_pos ‹g = f›]
    · simp only [FS.set, if_neg ‹¬g = f›, ih]

theorem set_same (fs : FS) (f : String) (c : Content) (h : FS.get? fs f = some c) : FS.set fs f c = fs := by
  induction fs with
  | nil => cases h
  | cons x rest ih =>
    obtain ⟨g, d⟩ := x
    simp only [FS.set]
    split
    · next hg =>
      subst hg
      simp only [FS.get?, List.lookup, beq_self_eq_true, Option.some.injEq] at h
      rw [h]
    · next hg =>
      simp only [FS.get?, List.lookup, beq_false_of_ne (Ne.symm hg)] at h
      rw [ih h]

theorem append_data (fs : FS) (f : String) (c b : Bytes) (h : FS.get? fs f = some (.data c)) :
    FS.append fs f b = FS.set fs f (.data (c ++ b)) := by
  unfold FS.append
  rw [h]

theorem read_congr (fs fs' : FS) (f : String) (o l : Nat) (h : FS.get? fs' f = FS.get? fs f) :
    FS.read fs' f o l = FS.read fs f o l := by
  unfold FS.read
  rw [h]

theorem read_set_ne (fs : FS) (f g : String) (c : Content) (off len : Nat) (h : g ≠ f) :
    FS.read (FS.set fs f c) g off len = FS.read fs g off len :=
  read_congr _ _ _ _ _ (get?_set_ne _ _ _ _ h)

theorem read_some {fs : FS} {f : String} {off len : Nat} {b : Bytes} (h : FS.read fs f off len = some b) (h0 : len ≠ 0) :
    ∃ whole, FS.get? fs f = some (.data whole) ∧ off + len ≤ whole.length ∧ b = slice whole off len := by
  unfold FS.read at h
  rw [if_neg h0] at h
  split at h
  · next whole hf =>
    split at h
    · next hin => exact ⟨whole, hf, hin, (Option.some.inj h).symm⟩
    · cases h
  · cases h

theorem read_len (fs : FS) (f : String) (off len : Nat) (b : Bytes) (h : FS.read fs f off len = some b) :
    b.length = len := by
  by_cases h0 : len = 0
  · unfold FS.read at h
    rw [if_pos h0] at h
    cases h
    exact h0.symm
  · obtain ⟨whole, _, hin, rfl⟩ := read_some h h0
    unfold slice
    rw [List.length_take, List.length_drop]
    omega

theorem newOffset_ge (cur size : Nat) : cur ≤ newOffset cur size := by
  unfold newOffset alignFactor alignThreshold
  split <;> omega

theorem newOffset_lt (cur size : Nat) : newOffset cur size < cur + alignFactor := by
  unfold newOffset alignFactor alignThreshold
  split <;> omega

theorem newOffset_aligned (cur size : Nat) (h : size > alignThreshold) : newOffset cur size % alignFactor = 0 := by
  unfold newOffset
  rw [if_pos h]
  exact Nat.mul_mod_left ..

theorem newOffset_small (cur size : Nat) (h : size ≤ alignThreshold) : newOffset cur size = cur := by
  unfold newOffset
  rw [if_neg (Nat.not_lt.2 h)]

/-- End of the file after writing tensors of the given sizes from `cur`. -/
def layoutEnd (cur : Nat) : List Nat → Nat
  | [] => cur
  | n :: ns => layoutEnd (newOffset cur n + n) ns

theorem layout_ge (cur : Nat) (sizes : List Nat) : ∀ e ∈ layout cur sizes, cur ≤ e.1 := by
  induction sizes generalizing cur with
  | nil => intro e h; cases h
  | cons n ns ih =>
    intro e h
    have := newOffset_ge cur n
    rcases List.mem_cons.1 h with rfl | h
    · exact this
    · have := ih _ e h
      omega

theorem layoutEnd_ge (cur : Nat) (sizes : List Nat) : cur ≤ layoutEnd cur sizes := by
  induction sizes generalizing cur with
  | nil => exact Nat.le_refl _
  | cons n ns ih =>
    have := ih (newOffset cur n + n)
    have := newOffset_ge cur n
    show cur ≤ layoutEnd (newOffset cur n + n) ns
    omega

theorem layout_within_aux (cur : Nat) (sizes : List Nat) :
    ∀ e ∈ layout cur sizes, e.1 + e.2 ≤ layoutEnd cur sizes := by
  induction sizes generalizing cur with
  | nil => intro e h; cases h
  | cons n ns ih =>
    intro e h
    rcases List.mem_cons.1 h with rfl | h
    · exact layoutEnd_ge _ _
    · exact ih _ e h

/-- Content appended to a file of length `cur` by the write loop, for tensors with the given bytes. -/
def image (cur : Nat) : List Bytes → Bytes
  | [] => []
  | b :: bs => zeros (newOffset cur b.length - cur) ++ b ++ image (newOffset cur b.length + b.length) bs

theorem placed_length (pre b : Bytes) :
    (pre ++ zeros (newOffset pre.length b.length - pre.length) ++ b).length = newOffset pre.length b.length + b.length := by
  have := newOffset_ge pre.length b.length
  simp only [List.length_append, zeros, List.length_replicate]
  omega

theorem image_length (cur : Nat) (bs : List Bytes) :
    cur + (image cur bs).length = layoutEnd cur (bs.map List.length) := by
  induction bs generalizing cur with
  | nil => rfl
  | cons b bs ih =>
    simp only [image, List.map_cons, layoutEnd, List.length_append, zeros, List.length_replicate]
    have := ih (newOffset cur b.length + b.length)
    have := newOffset_ge cur b.length
    omega

theorem slice_append_left (a b : Bytes) (off len : Nat) (h : off + len ≤ a.length) :
    slice (a ++ b) off len = slice a off len := by
  unfold slice
  rw [List.drop_append_of_le_length (by omega)]
  rw [List.take_append_of_le_length (by simp; omega)]

theorem slice_exact (a b c : Bytes) : slice (a ++ b ++ c) a.length b.length = b := by
  unfold slice
  rw [List.append_assoc, List.drop_left, List.take_left]

theorem image_cons_eq (pre b : Bytes) (bs : List Bytes) :
    pre ++ image pre.length (b :: bs) =
      (pre ++ zeros (newOffset pre.length b.length - pre.length) ++ b) ++
        image (pre ++ zeros (newOffset pre.length b.length - pre.length) ++ b).length bs := by
  rw [placed_length]
  simp only [image, List.append_assoc]

theorem image_readback_aux (bs : List Bytes) : ∀ (pre : Bytes) (i : Nat), i < bs.length →
    ∃ e, (layout pre.length (bs.map List.length))[i]? = some e ∧ e.2 = (bs[i]?.getD []).length ∧
      slice (pre ++ image pre.length bs) e.1 e.2 = bs[i]?.getD [] := by
  induction bs with
  | nil => intro pre i h; cases h
  | cons b bs ih =>
    intro pre i h
    rw [image_cons_eq]
    cases i with
    | zero =>
      refine ⟨(newOffset pre.length b.length, b.length), rfl, rfl, ?_⟩
      have hl : (pre ++ zeros (newOffset pre.length b.length - pre.length)).length = newOffset pre.length b.length :=
        Nat.add_right_cancel (List.length_append.symm.trans (placed_length pre b))
      have := slice_exact (pre ++ zeros (newOffset pre.length b.length - pre.length)) b
        (image (pre ++ zeros (newOffset pre.length b.length - pre.length) ++ b).length bs)
      rw [hl] at this
      exact this
    | succ j =>
      obtain ⟨e, he1, he2, he3⟩ := ih (pre ++ zeros (newOffset pre.length b.length - pre.length) ++ b) j
        (Nat.lt_of_succ_lt_succ h)
      rw [placed_length] at he1
      exact ⟨e, he1, he2, he3⟩

inductive All2 (R : α → β → Prop) : List α → List β → Prop
  | nil : All2 R [] []
  | cons {a b as bs} : R a b → All2 R as bs → All2 R (a :: as) (b :: bs)

theorem All2.imp_mem {R S : α → β → Prop} {l1 : List α} {l2 : List β} (H : All2 R l1 l2)
    (h : ∀ a b, a ∈ l1 → R a b → S a b) : All2 S l1 l2 := by
  induction H with
  | nil => exact .nil
  | cons hr _ ih => exact .cons (h _ _ List.mem_cons_self hr) (ih fun a b ha => h a b (List.mem_cons_of_mem _ ha))

theorem All2.imp {R S : α → β → Prop} (h : ∀ a b, R a b → S a b) {l1 : List α} {l2 : List β} (H : All2 R l1 l2) :
    All2 S l1 l2 :=
  H.imp_mem fun a b _ => h a b

theorem all2_mem_left {R : α → β → Prop} {l1 : List α} {l2 : List β} (H : All2 R l1 l2) : ∀ a ∈ l1, ∃ b, R a b := by
  induction H with
  | nil => intro a h; cases h
  | cons hr _ ih =>
    intro a h
    rcases List.mem_cons.1 h with rfl | h
    · exact ⟨_, hr⟩
    · exact ih a h

theorem all2_length {R : α → β → Prop} {l1 : List α} {l2 : List β} (H : All2 R l1 l2) : l1.length = l2.length := by
  induction H with
  | nil => rfl
  | cons _ _ ih => exact congrArg (· + 1) ih

theorem fileLen_data (f : String) (c : Bytes) (s : St) (h : FS.get? s.fs f = some (.data c)) :
    fileLen f s = (.ok c.length, s) := by
  unfold fileLen
  simp only [bind_apply, get_apply, h, pure_apply]

theorem fsOpenR_ok (f : String) (whole : Bytes) (s : St) (hk : s.k = none) (h : FS.get? s.fs f = some (.data whole)) :
    fsOpenR f s = (.ok whole, { s with calls := s.calls + 1, trace := s.trace ++ [.openR f] }) := by
  unfold fsOpenR
  simp only [bind_apply, tick_ok _ s hk, get_apply, h, pure_apply]

theorem withClose_run {body : M α} (f : String) {s s1 : St} {a : α} (h : body s = (.ok a, s1)) (hk : s1.k = none) :
    withClose f body s = (.ok a, { s1 with calls := s1.calls + 1, trace := s1.trace ++ [.close f] }) := by
  rw [withClose_ok h, bind_apply, tick_ok _ s1 hk]
  rfl

theorem fsOpenW_ok (f : String) (s : St) (hk : s.k = none) :
    fsOpenW f s = (.ok (), { s with calls := s.calls + 1, trace := s.trace ++ [.openW f], fs := FS.set s.fs f (.data []),
                                    wopened := s.wopened ++ [f] }) := by
  unfold fsOpenW
  simp only [bind_apply, tick_ok _ s hk, modify_apply]

theorem fsWriteProto_ok (f : String) (p : Proto) (s : St) (hk : s.k = none) (hw : f ∈ s.wopened) :
    fsWriteProto f p s =
      (.ok (), { s with calls := s.calls + 1, trace := s.trace ++ [.write f 0], fs := FS.set s.fs f (.proto p) }) := by
  unfold fsWriteProto
  simp only [bind_apply, needHandle_ok f s hw, tick_ok _ s hk, modify_apply]

/-- Tensor object `t` is usable by the save and denotes `b`: an in-memory tensor, or a valid external tensor that does
not live in the destination data file and whose bytes are readable. -/
def Holds (dest : String) (fs : FS) (t : TRef) (b : Bytes) : Prop :=
  match t with
  | .mem b' _ => b' = b
  | .ext f off len v => v = true ∧ f ≠ dest ∧ FS.read fs f off len = some b

theorem holds_bytesOf {dest : String} {fs : FS} {t : TRef} {b : Bytes} (h : Holds dest fs t b) : bytesOf fs t = some b := by
  cases t with
  | mem b' np => exact congrArg some h
  | ext f off len v => obtain ⟨rfl, _, h3⟩ := h; exact h3

theorem holds_nbytes {dest : String} {fs : FS} {t : TRef} {b : Bytes} (h : Holds dest fs t b) : t.nbytes = b.length := by
  cases t with
  | mem b' np => exact congrArg List.length h
  | ext f off len v => exact (read_len _ _ _ _ _ h.2.2).symm

theorem holds_set_dest {dest : String} {fs : FS} {t : TRef} {b : Bytes} (c : Content) (h : Holds dest fs t b) :
    Holds dest (FS.set fs dest c) t b := by
  cases t with
  | mem b' np => exact h
  | ext f off len v => exact ⟨h.1, h.2.1, (read_set_ne _ _ _ _ _ _ h.2.1).trans h.2.2⟩

/-- Tensor object `id` of a heap is readable on `fs`, denotes `b`, and is not empty: an empty `ExternalTensor` reads as
`[]` whether or not its file exists, but `tofile` would open the file.  What is written out is above the threshold. -/
def Writable (dest : String) (heap : List TRef) (fs : FS) (id : Nat) (b : Bytes) : Prop :=
  ∃ t, heap[id]? = some t ∧ Holds dest fs t b ∧ 0 < b.length

theorem extToMem_ok (id : Nat) (f : String) (off len : Nat) (b : Bytes) (s : St) (hk : s.k = none)
    (hobj : s.heap[id]? = some (.ext f off len true)) (hread : FS.read s.fs f off len = some b) :
    ∃ s', extToMem id s = (.ok s.heap.length, s') ∧ s'.k = s.k ∧ s'.fs = s.fs ∧ s'.heap = s.heap ++ [.mem b true] := by
  unfold extToMem
  rw [bind_apply, getObj_ok id _ s hobj]
  show ∃ s', (if len = 0 then _ else _ : M Nat) s = _ ∧ _
  by_cases h0 : len = 0
  · rw [if_pos h0]
    obtain rfl := List.eq_nil_of_length_eq_zero ((read_len _ _ _ _ _ hread).trans h0)
    exact ⟨_, rfl, rfl, rfl, rfl⟩
  · rw [if_neg h0]
    obtain ⟨whole, hfile, hin, rfl⟩ := read_some hread h0
    have hne : ¬ whole.length = 0 := by omega
    refine ⟨{ s with calls := s.calls + 1 + 1, trace := s.trace ++ [.openR f] ++ [.close f],
                     heap := s.heap ++ [.mem (slice whole off len) true] },
      bind_ok (fsOpenR_ok f whole s hk hfile) (bind_ok
        (withClose_run f (s1 := { s with calls := s.calls + 1, trace := s.trace ++ [.openR f] }) (a := ()) ?_ hk) ?_),
      rfl, rfl, rfl⟩
    · rw [if_neg hne]
      rfl
    · rw [if_pos hin]
      rfl

/-! ## Inside `with open(dest, "wb")`, fault-free

A step is described by what it does to the content of `dest`; the heap `h` and the other files `fs0` do not change, so what
is known about the tensors is said once, about them. -/

/-- State `s` is inside the fault-free `with open(dest, "wb")`, `dest` holding `c`. -/
structure Inside (dest : String) (h : List TRef) (fs0 : FS) (s : St) (c : Bytes) : Prop where
  k : s.k = none
  wo : dest ∈ s.wopened
  file : FS.get? s.fs dest = some (.data c)
  heap : s.heap = h
  rest : ∀ p, p ≠ dest → FS.get? s.fs p = FS.get? fs0 p

def Appends (dest : String) (h : List TRef) (fs0 : FS) (f : M α) (c c' : Bytes) (a : α) : Prop :=
  ∀ s, Inside dest h fs0 s c → ∃ s', f s = (.ok a, s') ∧ Inside dest h fs0 s' c'

section
variable {dest : String} {h : List TRef} {fs0 : FS}

theorem Appends.ret (a : α) (c : Bytes) : Appends dest h fs0 (pure a : M α) c c a := fun s ho => ⟨s, rfl, ho⟩

theorem Appends.bind {f : M α} {g : α → M β} {c c1 c2 : Bytes} {a : α} {b : β} (hf : Appends dest h fs0 f c c1 a)
    (hg : Appends dest h fs0 (g a) c1 c2 b) : Appends dest h fs0 (f >>= g) c c2 b := by
  intro s ho
  obtain ⟨s1, e1, ho1⟩ := hf s ho
  obtain ⟨s2, e2, ho2⟩ := hg s1 ho1
  exact ⟨s2, bind_ok e1 e2, ho2⟩

theorem Appends.call (op : Op) (c : Bytes) : Appends dest h fs0 (tick op) c c () := fun s ho =>
  ⟨_, tick_ok op s ho.k, ho.k, ho.wo, ho.file, ho.heap, ho.rest⟩

/-- Every write of the model inside the block: through the handle, optionally a counted call, then the bytes are appended. -/
theorem Appends.put {counted : M Unit} (c b : Bytes) (hc : Appends dest h fs0 counted c c ()) :
    Appends dest h fs0 (do needHandle dest; counted; modify fun s => { s with fs := s.fs.append dest b }) c (c ++ b) () := by
  intro s ho
  obtain ⟨s1, e1, ho1⟩ := hc s ho
  refine ⟨{ s1 with fs := FS.set s1.fs dest (.data (c ++ b)) }, ?_, ho1.k, ho1.wo, get?_set_eq _ _ _, ho1.heap,
    fun p hp => (get?_set_ne _ _ _ _ hp).trans (ho1.rest p hp)⟩
  simp only [bind_apply, needHandle_ok dest s ho.wo, e1, modify_apply, append_data _ _ _ _ ho1.file]

theorem Appends.write (c b : Bytes) : Appends dest h fs0 (fsWrite dest b) c (c ++ b) () := .put c b (.call _ c)

theorem Appends.cwrite (c b : Bytes) : Appends dest h fs0 (fsCWrite dest b) c (c ++ b) () := .put c b (.ret () c)

theorem Appends.len (c : Bytes) : Appends dest h fs0 (fileLen dest) c c c.length := fun s ho =>
  ⟨s, fileLen_data dest c s ho.file, ho⟩

theorem Appends.obj (c : Bytes) {id : Nat} {t : TRef} (ht : h[id]? = some t) : Appends dest h fs0 (getObj id) c c t :=
  fun s ho => ⟨s, getObj_ok id t s (ho.heap ▸ ht), ho⟩

theorem Appends.openR (c : Bytes) {f : String} {whole : Bytes} (hf : f ≠ dest) (hw : FS.get? fs0 f = some (.data whole)) :
    Appends dest h fs0 (fsOpenR f) c c whole := fun s ho =>
  ⟨_, fsOpenR_ok f whole s ho.k ((ho.rest f hf).trans hw), ho.k, ho.wo, ho.file, ho.heap, ho.rest⟩

theorem Appends.close {body : M α} {c c' : Bytes} {a : α} (f : String) (hb : Appends dest h fs0 body c c' a) :
    Appends dest h fs0 (withClose f body) c c' a := by
  intro s ho
  obtain ⟨s1, e1, ho1⟩ := hb s ho
  exact ⟨_, withClose_run f e1 ho1.k, ho1.k, ho1.wo, ho1.file, ho1.heap, ho1.rest⟩

theorem chunks_flatten (c : Nat) (hc : 0 < c) : ∀ (fuel : Nat) (l : Bytes), l.length ≤ fuel → (chunks c fuel l).flatten = l
  | 0, l, h => by
    cases List.eq_nil_of_length_eq_zero (Nat.le_zero.1 h)
    rfl
  | fuel + 1, l, h => by
    unfold chunks
    cases l with
    | nil => rfl
    | cons a as =>
      simp only [List.isEmpty_cons, Bool.false_eq_true, if_false, List.flatten_cons]
      rw [chunks_flatten c hc fuel _ (by simp only [List.length_drop, List.length_cons] at h ⊢; omega)]
      exact List.take_append_drop c (a :: as)

/-- The copy loop of `ExternalTensor.tofile`. -/
theorem Appends.copy (f : String) : ∀ (cs : List Bytes) (c : Bytes),
    Appends dest h fs0 (forM' (fun ch => do tick (.read f); fsWrite dest ch) cs) c (c ++ cs.flatten) ()
  | [], c => by rw [List.flatten_nil, List.append_nil]; exact .ret () c
  | ch :: cs, c => by
    rw [List.flatten_cons, ← List.append_assoc]
    exact .bind (.bind (.call _ c) (.write c ch)) (Appends.copy f cs (c ++ ch))

theorem tofile_ok (c : Bytes) {id : Nat} {t : TRef} {b : Bytes} (ht : h[id]? = some t) (hh : Holds dest fs0 t b)
    (hpos : 0 < b.length) : Appends dest h fs0 (tofile dest id) c (c ++ b) () := by
  unfold tofile
  refine .bind (.obj c ht) ?_
  cases t with
  | mem b' np =>
    obtain rfl : b' = b := hh
    cases np with
    | true =>
      -- `ndarray.tofile`: flush, the C-level write, `seek` to the new end
      exact .bind (.call _ c) (.bind (.cwrite c b') (.bind (.len _) (.call _ _)))
    | false => exact .write c b'
  | ext f off len v =>
    obtain ⟨rfl, hne, hread⟩ := hh
    have hlen := read_len _ _ _ _ _ hread
    obtain ⟨whole, hsrc, hin, rfl⟩ := read_some hread (by omega)
    -- open the source, seek, copy chunk by chunk; the source is long enough, so no short read
    refine .bind (.openR c hne hsrc) (.close f (.bind (.call _ c) (.bind (.copy f _ c) ?_)))
    rw [chunks_flatten chunkSize (by decide) _ _ (Nat.le_refl _), if_neg (by omega)]
    exact .ret () _

/-- One tensor of the data file: its entry and bytes, the offset it is written at, the id of the `ExternalTensor` made for it. -/
structure Row where
  ent : Ent
  bytes : Bytes
  off : Nat
  nid : Nat

/-- The rows for entries written in this order into a file of length `cur`, the heap holding `h` objects. -/
def rows (cur h : Nat) : List (Ent × Bytes) → List Row
  | [] => []
  | x :: r => ⟨x.1, x.2, newOffset cur x.2.length, h⟩ :: rows (newOffset cur x.2.length + x.2.length) (h + 1) r

def Row.obj (dest : String) (r : Row) : TRef := .ext dest r.off r.ent.size true

theorem rows_placed (eb : List (Ent × Bytes)) : ∀ (cur h : Nat), (∀ x ∈ eb, x.1.size = x.2.length) →
    zipOffsets (eb.map (·.1)) (layout cur ((eb.map (·.1)).map Ent.size)) = (rows cur h eb).map fun r => (r.ent, r.off) := by
  induction eb with
  | nil => intro _ _ _; rfl
  | cons x r ih =>
    intro cur h hsz
    simp only [List.map_cons, layout, zipOffsets, rows, hsz x List.mem_cons_self]
    rw [ih _ (h + 1) fun y hy => hsz y (List.mem_cons_of_mem _ hy)]

theorem rows_get (eb : List (Ent × Bytes)) : ∀ (cur h i : Nat) (r : Row), (rows cur h eb)[i]? = some r →
    eb[i]? = some (r.ent, r.bytes) ∧ (layout cur ((eb.map (·.2)).map List.length))[i]? = some (r.off, r.bytes.length) ∧
      r.nid = h + i := by
  induction eb with
  | nil => intro _ _ i r h; rw [rows, List.getElem?_nil] at h; cases h
  | cons x eb ih =>
    intro cur h i r hr
    cases i with
    | zero => cases hr; exact ⟨rfl, rfl, rfl⟩
    | succ i =>
      obtain ⟨h1, h2, h3⟩ := ih _ _ i r hr
      exact ⟨h1, h2, by omega⟩

theorem rows_length (eb : List (Ent × Bytes)) : ∀ (cur h : Nat), (rows cur h eb).length = eb.length := by
  induction eb with
  | nil => intro _ _; rfl
  | cons x eb ih => intro cur h; exact congrArg (· + 1) (ih _ _)

theorem row_read (dest : String) (fs : FS) (eb : List (Ent × Bytes)) (h : Nat)
    (hfile : FS.get? fs dest = some (.data (image 0 (eb.map (·.2))))) (r : Row) (i : Nat) (hr : (rows 0 h eb)[i]? = some r) :
    FS.read fs dest r.off r.bytes.length = some r.bytes := by
  obtain ⟨h1, h2, _⟩ := rows_get eb 0 h i r hr
  obtain ⟨e, he1, he2, he3⟩ := image_readback_aux (eb.map (·.2)) [] i
    (by rw [List.length_map]; exact (List.getElem?_eq_some_iff.1 h1).1)
  have hbi : (eb.map (·.2))[i]?.getD [] = r.bytes := by rw [List.getElem?_map, h1]; rfl
  rw [hbi] at he3
  obtain rfl : (r.off, r.bytes.length) = e := Option.some.inj (h2.symm.trans he1)
  unfold FS.read
  by_cases h0 : r.bytes.length = 0
  · rw [if_pos h0, List.eq_nil_of_length_eq_zero h0]
  · have hwithin := layout_within_aux 0 _ _ (List.mem_of_getElem? h2)
    rw [← image_length, Nat.zero_add] at hwithin
    rw [if_neg h0, hfile]
    exact (if_pos hwithin).trans (congrArg some he3)

theorem writeOne_ok (name : String) (c : Bytes) {id : Nat} {b : Bytes} (hobj : Writable dest h fs0 id b) :
    Appends dest h fs0 (writeOne dest false (name, id, newOffset c.length b.length)) c
      (c ++ zeros (newOffset c.length b.length - c.length) ++ b) () := by
  obtain ⟨t, ht, hh, hpos⟩ := hobj
  have hge := newOffset_ge c.length b.length
  show Appends dest h fs0 (do
    let size ← fileLen dest
    if newOffset c.length b.length > size then do
        fsWrite dest (zeros (newOffset c.length b.length - size))
        tofile dest id
      else tofile dest id) _ _ _
  refine .bind (.len c) ?_
  show Appends _ _ _ (if newOffset c.length b.length > c.length then _ else _) _ _ _
  by_cases hpad : newOffset c.length b.length > c.length
  · rw [if_pos hpad]
    exact .bind (.write c _) (tofile_ok _ ht hh hpos)
  · have h0 : newOffset c.length b.length - c.length = 0 := by omega
    rw [if_neg hpad, h0, show c ++ zeros 0 = c from List.append_nil c]
    exact tofile_ok c ht hh hpos

theorem writeRows_ok : ∀ (eb : List (Ent × Bytes)) (n : Nat) (c : Bytes),
    (∀ x ∈ eb, Writable dest h fs0 x.1.id x.2) →
    Appends dest h fs0 (forM' (writeOne dest false) ((rows c.length n eb).map fun r => (r.ent.name, r.ent.id, r.off))) c
      (c ++ image c.length (eb.map (·.2))) ()
  | [], _, c, _ => by rw [List.map_nil, image, List.append_nil]; exact .ret () c
  | x :: eb, n, c, hobjs => by
    have ih := writeRows_ok eb (n + 1) (c ++ zeros (newOffset c.length x.2.length - c.length) ++ x.2)
      (fun y hy => hobjs y (List.mem_cons_of_mem _ hy))
    rw [placed_length] at ih
    rw [List.map_cons, image, ← List.append_assoc, ← List.append_assoc]
    exact .bind (writeOne_ok x.1.name c (hobjs _ List.mem_cons_self)) ih

end

theorem writeExternalData_ok (dest : String) (eb : List (Ent × Bytes)) (n : Nat) (s : St)
    (hk : s.k = none) (hobjs : ∀ x ∈ eb, Writable dest s.heap s.fs x.1.id x.2) :
    ∃ s', writeExternalData dest false ((rows 0 n eb).map fun r => (r.ent.name, r.ent.id, r.off)) s = (.ok (), s') ∧
      Inside dest s.heap s.fs s' (image 0 (eb.map (·.2))) := by
  have ho : Inside dest s.heap s.fs
      { s with calls := s.calls + 1, trace := s.trace ++ [.openW dest], fs := FS.set s.fs dest (.data []),
               wopened := s.wopened ++ [dest] } [] :=
    ⟨hk, List.mem_append_right _ (List.mem_singleton_self _), get?_set_eq _ _ _, rfl, fun p hp => get?_set_ne _ _ _ _ hp⟩
  obtain ⟨s1, e1, ho1⟩ := writeRows_ok eb n [] hobjs _ ho
  exact ⟨_, bind_ok (fsOpenW_ok dest s hk) (withClose_run dest e1 ho1.k), ho1.k, ho1.wo, ho1.file, ho1.heap, ho1.rest⟩

theorem mem_insBySize (size : α → Nat) (x y : α) (l : List α) : y ∈ insBySize size x l ↔ y = x ∨ y ∈ l := by
  induction l with
  | nil => simp only [insBySize, List.mem_singleton, List.not_mem_nil, or_false]
  | cons z zs ih =>
    unfold insBySize
    split
    · exact List.mem_cons
    · rw [List.mem_cons, ih, List.mem_cons, or_left_comm]

theorem mem_sortBySize (size : α → Nat) (y : α) (l : List α) : y ∈ sortBySize size l ↔ y ∈ l := by
  induction l with
  | nil => exact Iff.rfl
  | cons x xs ih =>
    show y ∈ insBySize size x (sortBySize size xs) ↔ _
    rw [mem_insBySize, ih, List.mem_cons]

theorem map_insBySize (f : α → β) (g : β → Nat) (x : α) (l : List α) :
    (insBySize (fun a => g (f a)) x l).map f = insBySize g (f x) (l.map f) := by
  induction l with
  | nil => rfl
  | cons y ys ih =>
    by_cases h : g (f x) ≤ g (f y)
    · simp only [insBySize, List.map_cons, if_pos h]
    · simp only [insBySize, List.map_cons, if_neg h, ih]

theorem map_sortBySize (f : α → β) (g : β → Nat) (l : List α) :
    (sortBySize (fun a => g (f a)) l).map f = sortBySize g (l.map f) := by
  induction l with
  | nil => rfl
  | cons x xs ih =>
    show (insBySize _ x (sortBySize _ xs)).map f = insBySize g (f x) (sortBySize g (xs.map f))
    rw [map_insBySize, ih]

theorem ents_ok (inp : List (String × Nat × Bytes)) : ∀ (pos : Nat), ∃ eb : List (Ent × Bytes),
    mkEnts pos (inp.map (·.1)) (inp.map (·.2.1)) (inp.map (·.2.2.length)) = eb.map (·.1) ∧
    (∀ x ∈ eb, ∃ j, inp[j]? = some (x.1.name, x.1.id, x.2) ∧ x.1.pos = pos + j ∧ x.1.size = x.2.length) ∧
    ∀ j, j < inp.length → ∃ x ∈ eb, x.1.pos = pos + j := by
  induction inp with
  | nil => exact fun _ => ⟨[], rfl, nofun, nofun⟩
  | cons y r ih =>
    intro pos
    obtain ⟨eb, h1, h2, h3⟩ := ih (pos + 1)
    refine ⟨({ pos := pos, name := y.1, id := y.2.1, size := y.2.2.length }, y.2.2) :: eb,
      by simp only [List.map_cons, mkEnts, h1], List.forall_mem_cons.2 ⟨⟨0, rfl, rfl, rfl⟩, fun x hx => ?_⟩, fun j hj => ?_⟩
    · obtain ⟨j, g1, g2, g3⟩ := h2 x hx
      exact ⟨j + 1, g1, by omega, g3⟩
    · cases j with
      | zero => exact ⟨_, List.mem_cons_self, rfl⟩
      | succ j =>
        obtain ⟨x, hx, hp⟩ := h3 j (Nat.lt_of_succ_lt_succ hj)
        exact ⟨x, List.mem_cons_of_mem _ hx, by omega⟩

theorem sizes_ok (dest : String) (s : St) (inp : List (String × Nat × Bytes))
    (h : ∀ x ∈ inp, Writable dest s.heap s.fs x.2.1 x.2.2) :
    mapM' sizeOf (inp.map (·.2.1)) s = (.ok (inp.map (·.2.2.length)), s) := by
  induction inp with
  | nil => rfl
  | cons x r ih =>
    obtain ⟨t, ht, hh, _⟩ := h x List.mem_cons_self
    refine bind_ok (bind_ok (getObj_ok _ _ s ht) rfl) (bind_ok (ih fun y hy => h y (List.mem_cons_of_mem _ hy)) ?_)
    rw [holds_nbytes hh]
    rfl

/-- Nothing to materialise: no usable tensor lives in the destination file. -/
theorem materialize_noop (dest : String) (e : Bool) (s : St) (inp : List (String × Nat × Bytes))
    (h : ∀ x ∈ inp, Writable dest s.heap s.fs x.2.1 x.2.2) :
    mapM' (materializeOne dest e) (inp.map fun x => (x.1, x.2.1)) s = (.ok (inp.map (·.2.1)), s) := by
  induction inp with
  | nil => rfl
  | cons x r ih =>
    obtain ⟨t, ht, hh, _⟩ := h x List.mem_cons_self
    have hone : materializeOne dest e (x.1, x.2.1) s = (.ok x.2.1, s) := by
      unfold materializeOne
      cases e with
      | false => rfl
      | true =>
        refine bind_ok (getObj_ok _ _ s ht) ?_
        cases t with
        | mem b np => rfl
        | ext f o l v => exact congrFun (if_neg hh.2.1) s
    exact bind_ok hone (bind_ok (ih fun y hy => h y (List.mem_cons_of_mem _ hy)) rfl)

/-- The loop creating the new `ExternalTensor`s. -/
theorem makeRows_ok (dest : String) (eb : List (Ent × Bytes)) : ∀ (cur : Nat) (s : St),
    ∃ s', mapM' (makeExternal dest) ((rows cur s.heap.length eb).map fun r => (r.ent, r.off)) s =
        (.ok ((rows cur s.heap.length eb).map fun r => (r.ent.pos, r.nid)), s') ∧ s'.k = s.k ∧ s'.fs = s.fs ∧
      s'.heap = s.heap ++ (rows cur s.heap.length eb).map (Row.obj dest) := by
  induction eb with
  | nil => exact fun _ s => ⟨s, rfl, rfl, rfl, (List.append_nil _).symm⟩
  | cons x eb ih =>
    intro cur s
    obtain ⟨s', h1, h2, h3, h4⟩ := ih (newOffset cur x.2.length + x.2.length)
      { s with heap := s.heap ++ [TRef.ext dest (newOffset cur x.2.length) x.1.size true] }
    rw [show ({ s with heap := s.heap ++ [TRef.ext dest (newOffset cur x.2.length) x.1.size true] } : St).heap.length =
      s.heap.length + 1 from List.length_append] at h1 h4
    refine ⟨s', bind_ok (a := (x.1.pos, s.heap.length)) rfl (bind_ok h1 rfl), h2, h3, ?_⟩
    rw [h4, rows, List.map_cons, List.append_assoc]
    rfl

theorem lookup_of_key (l : List (Nat × Nat)) (k : Nat) (h : k ∈ l.map (·.1)) : ∃ v, l.lookup k = some v ∧ (k, v) ∈ l := by
  obtain ⟨p, hp, rfl⟩ := List.mem_map.1 h
  obtain ⟨v, hv⟩ := Option.isSome_iff_exists.1 (List.lookup_isSome_iff.2 ⟨p, hp, beq_self_eq_true _⟩)
  exact ⟨v, hv, List.lookup_mem hv⟩

theorem gather_spec (made : List (Nat × Nat)) (R : X → Nat → Prop) (xs : List X) : ∀ (i : Nat),
    (∀ j, j < xs.length → (i + j) ∈ made.map (·.1)) →
    (∀ j x v, xs[j]? = some x → (i + j, v) ∈ made → R x v) →
    ∃ out, gather made i xs.length = some out ∧ All2 R xs out := by
  induction xs with
  | nil => exact fun _ _ _ => ⟨[], rfl, All2.nil⟩
  | cons x xs ih =>
    intro i hk hr
    obtain ⟨v, hv1, hv2⟩ := lookup_of_key made i (hk 0 (Nat.zero_lt_succ _))
    obtain ⟨out, ho1, ho2⟩ := ih (i + 1)
      (fun j hj => by rw [Nat.add_assoc, Nat.add_comm 1]; exact hk (j + 1) (Nat.succ_lt_succ hj))
      (fun j y v hy hv => hr (j + 1) y v hy (by rw [← Nat.add_assoc, Nat.add_right_comm]; exact hv))
    refine ⟨v :: out, ?_, All2.cons (hr 0 x v rfl hv2) ho2⟩
    simp only [List.length_cons, gather, hv1, ho1]

/-- A new external tensor good for input `x`: lives in `dest`, has `x`'s length, reads back `x`'s bytes. -/
def NewExt (dest : String) (s' : St) (x : String × Nat × Bytes) (nid : Nat) : Prop :=
  ∃ o, s'.heap[nid]? = some (.ext dest o x.2.2.length true) ∧ FS.read s'.fs dest o x.2.2.length = some x.2.2

theorem placeAndWrite_ok (dest : String) (inp : List (String × Nat × Bytes)) (s : St)
    (hk : s.k = none) (hobjs : ∀ x ∈ inp, Writable dest s.heap s.fs x.2.1 x.2.2) :
    ∃ out s', placeAndWrite dest false (inp.map (·.1)) (inp.map (·.2.1)) s = (.ok out, s') ∧
      s'.k = s.k ∧ s.heap <+: s'.heap ∧ All2 (NewExt dest s') inp out := by
  -- the entries in the order they are written, each with its bytes: a rearrangement of the inputs
  obtain ⟨eb, hents, hin, hcov⟩ := ents_ok inp 0
  obtain ⟨sb, hsb⟩ : ∃ sb, sortBySize (fun (a : Ent × Bytes) => a.1.size) eb = sb := ⟨_, rfl⟩
  have hmem : ∀ x, x ∈ sb ↔ x ∈ eb := fun x => hsb ▸ mem_sortBySize _ x _
  have hsz : ∀ x ∈ sb, x.1.size = x.2.length := fun x hx => (hin x ((hmem x).1 hx)).elim fun _ h => h.2.2
  obtain ⟨s2, hw1, ho2⟩ := writeExternalData_ok dest sb s.heap.length s hk (by
    intro x hx
    obtain ⟨j, h1, _, _⟩ := hin x ((hmem x).1 hx)
    exact hobjs _ (List.mem_of_getElem? h1))
  obtain ⟨s3, hm1, hk3, hfs3, hheap3⟩ := makeRows_ok dest sb 0 s2
  rw [ho2.heap] at hm1 hheap3
  have hfile3 : FS.get? s3.fs dest = some (.data (image 0 (sb.map (·.2)))) := hfs3 ▸ ho2.file
  obtain ⟨out, hg, hall⟩ := gather_spec ((rows 0 s.heap.length sb).map fun r => (r.ent.pos, r.nid)) (NewExt dest s3) inp 0
    (by
      intro j hj
      obtain ⟨x, hx, hp⟩ := hcov j hj
      obtain ⟨i, hi⟩ := List.mem_iff_getElem?.1 ((hmem x).2 hx)
      have hil : i < (rows 0 s.heap.length sb).length := by
        rw [rows_length]; exact (List.getElem?_eq_some_iff.1 hi).1
      obtain ⟨h1, _, _⟩ := rows_get sb 0 s.heap.length i _ (List.getElem?_eq_getElem hil)
      obtain rfl : x = (_, _) := Option.some.inj (hi.symm.trans h1)
      rw [List.map_map]
      exact List.mem_map.2 ⟨_, List.getElem_mem hil, hp⟩)
    (by
      intro j y v hy hv
      -- the key belongs to a row, whose entry is the input at that position and whose object reads back its bytes
      obtain ⟨r, hr, hrv⟩ := List.mem_map.1 hv
      obtain ⟨hpos, rfl⟩ := Prod.mk.inj hrv
      obtain ⟨i, hi⟩ := List.mem_iff_getElem?.1 hr
      obtain ⟨h1, _, h3⟩ := rows_get sb 0 s.heap.length i r hi
      obtain ⟨j', g1, g2, g3⟩ := hin (r.ent, r.bytes) ((hmem _).1 (List.mem_of_getElem? h1))
      replace hpos : r.ent.pos = 0 + j := hpos
      replace g2 : r.ent.pos = 0 + j' := g2
      obtain rfl : j' = j := by omega
      obtain rfl : (r.ent.name, r.ent.id, r.bytes) = y := Option.some.inj (g1.symm.trans hy)
      refine ⟨r.off, ?_, row_read dest s3.fs sb s.heap.length hfile3 r i hi⟩
      rw [hheap3, h3, List.getElem?_append_right (Nat.le_add_right _ _), Nat.add_sub_cancel_left, List.getElem?_map, hi]
      exact congrArg (fun n => some (TRef.ext dest r.off n true)) g3)
  refine ⟨out, s3, ?_, hk3.trans (ho2.k.trans hk.symm), hheap3 ▸ List.prefix_append _ _, hall⟩
  unfold placeAndWrite
  refine bind_ok (sizes_ok dest s inp hobjs) ?_
  simp only [hents]
  rw [← map_sortBySize (fun (a : Ent × Bytes) => a.1) Ent.size, hsb, rows_placed sb 0 s.heap.length hsz, List.map_map]
  refine bind_ok hw1 (bind_ok hm1 ?_)
  rw [List.length_map, hg]
  rfl

theorem convertToExternal_ok (dest : String) (inp : List (String × Nat × Bytes)) (s : St)
    (hk : s.k = none) (hobjs : ∀ x ∈ inp, Writable dest s.heap s.fs x.2.1 x.2.2) :
    ∃ out s', convertToExternal dest false (inp.map fun x => (x.1, x.2.1)) s = (.ok out, s') ∧
      s'.k = s.k ∧ s.heap <+: s'.heap ∧ All2 (NewExt dest s') inp out := by
  obtain ⟨out, s', e, rest⟩ := placeAndWrite_ok dest inp s hk hobjs
  refine ⟨out, s', ?_, rest⟩
  unfold convertToExternal
  refine bind_ok (get_apply s) (bind_ok (materialize_noop dest _ s inp hobjs) ?_)
  rw [List.map_map]
  exact e

/-- Initializer with `const_value` `c` is initialized with a tensor the save can use (`Holds`: readable and not stored
in `dest`) denoting `b`. -/
def InitOK (dest : String) (fs : FS) (heap : List TRef) (c : Option Nat) (b : Bytes) : Prop :=
  ∃ id t, c = some id ∧ heap[id]? = some t ∧ Holds dest fs t b

theorem classify_cases {dest : String} {fs : FS} {heap : List TRef} {id : Nat} {t : TRef} {b : Bytes} (thr : Nat)
    (h1 : heap[id]? = some t) (h2 : Holds dest fs t b) :
    (classify thr heap (some id) = .ext ∧ 0 < b.length) ∨
    (classify thr heap (some id) = .mem ∧ ∃ f off len, t = .ext f off len true ∧ FS.read fs f off len = some b) ∨
    (classify thr heap (some id) = .keep ∧ ∃ np, t = .mem b np) := by
  unfold classify
  simp only [h1]
  split
  · next hbig => exact Or.inl ⟨rfl, by rw [← holds_nbytes h2]; omega⟩
  · cases t with
    | mem b' np => exact Or.inr (Or.inr ⟨rfl, np, by rw [show b' = b from h2]⟩)
    | ext f off len v =>
      obtain ⟨rfl, _, h3⟩ := h2
      exact Or.inr (Or.inl ⟨rfl, f, off, len, rfl, h3⟩)

/-- `convert_tensors_from_external` on the small external tensors. -/
theorem memLoad_ok (mb : List (Nat × Bytes)) : ∀ (s : St), s.k = none →
    (∀ x ∈ mb, ∃ f off len, s.heap[x.1]? = some (.ext f off len true) ∧ FS.read s.fs f off len = some x.2) →
    ∃ out s', mapM' extToMem (mb.map (·.1)) s = (.ok out, s') ∧ s'.k = s.k ∧ s'.fs = s.fs ∧ s.heap <+: s'.heap ∧
      All2 (fun (x : Nat × Bytes) nid => s'.heap[nid]? = some (.mem x.2 true)) mb out := by
  induction mb with
  | nil => exact fun s _ _ => ⟨[], s, rfl, rfl, rfl, List.prefix_refl _, .nil⟩
  | cons x r ih =>
    intro s hk h
    obtain ⟨f, off, len, h1, h2⟩ := h x List.mem_cons_self
    obtain ⟨s1, e1, k1, fs1, hp1⟩ := extToMem_ok x.1 f off len x.2 s hk h1 h2
    have hpre1 : s.heap <+: s1.heap := hp1 ▸ List.prefix_append _ _
    obtain ⟨out, s2, e2, k2, fs2, hp2, hall⟩ := ih s1 (k1.trans hk) (fun y hy =>
      (h y (List.mem_cons_of_mem _ hy)).imp fun f' h => h.imp fun o' h => h.imp fun l' g =>
        ⟨getElem?_prefix hpre1 g.1, fs1 ▸ g.2⟩)
    refine ⟨s.heap.length :: out, s2, bind_ok e1 (bind_ok e2 rfl), k2.trans k1, fs2.trans fs1,
      List.IsPrefix.trans hpre1 hp2, .cons (getElem?_prefix hp2 ?_) hall⟩
    rw [hp1]
    exact List.getElem?_concat_length

/-- What an initializer's `const_value` is after the swap: an in-memory tensor with the right bytes, or a new external
tensor in the data file that reads back the right bytes. -/
def FinalOK (dest : String) (sF : St) (c : Option Nat) (b : Bytes) : Prop :=
  ∃ id, c = some id ∧
    ((∃ np, sF.heap[id]? = some (.mem b np)) ∨
     (∃ o, sF.heap[id]? = some (.ext dest o b.length true) ∧ FS.read sF.fs dest o b.length = some b))

/-- The initializers split by `classify`: `eb` are those written to the data file, `mb` those loaded to memory, each with
its bytes; the last clause is the swap (`mergeCv`) once new tensors have been made for them. -/
theorem split_ok (thr : Nat) (dest : String) (fs : FS) (heap : List TRef) (tnames : List String)
    {cv : List (Option Nat)} {bs : List Bytes} (h : All2 (InitOK dest fs heap) cv bs) :
    ∃ (eb : List (String × Nat × Bytes)) (mb : List (Nat × Bytes)),
      eb.map (fun x => (x.1, x.2.1)) = extInputs thr heap tnames cv ∧ mb.map (·.1) = memInputs thr heap cv ∧
      (∀ x ∈ eb, Writable dest heap fs x.2.1 x.2.2) ∧
      (∀ x ∈ mb, ∃ f off len, heap[x.1]? = some (.ext f off len true) ∧ FS.read fs f off len = some x.2) ∧
      ∀ (sF : St) (es ms : List Nat), heap <+: sF.heap → All2 (NewExt dest sF) eb es →
        All2 (fun (x : Nat × Bytes) nid => sF.heap[nid]? = some (.mem x.2 true)) mb ms →
        All2 (FinalOK dest sF) (mergeCv thr heap cv es ms) bs := by
  induction h with
  | nil => exact ⟨[], [], rfl, rfl, nofun, nofun, fun _ _ _ _ _ _ => .nil⟩
  | @cons c b cv bs hr _ ih =>
    obtain ⟨eb, mb, h1, h2, h3, h4, h5⟩ := ih
    obtain ⟨id, t, rfl, g1, g2⟩ := hr
    rcases classify_cases thr g1 g2 with ⟨hc, hp⟩ | ⟨hc, f, off, len, rfl, g3⟩ | ⟨hc, np, rfl⟩
    · -- written out: takes the next new external tensor
      refine ⟨(tnames.getD id "", id, b) :: eb, mb, by simp only [extInputs, hc, if_true, List.map_cons, h1],
        by simp only [memInputs, hc, reduceCtorEq, if_false, h2], List.forall_mem_cons.2 ⟨⟨t, g1, g2, hp⟩, h3⟩, h4, ?_⟩
      intro sF es ms hpre he hm
      cases he with
      | cons hx hrest =>
        simp only [mergeCv, hc]
        exact .cons (hx.elim fun o g => ⟨_, rfl, Or.inr ⟨o, g⟩⟩) (h5 sF _ ms hpre hrest hm)
    · -- loaded to memory: takes the next fresh copy
      refine ⟨eb, (id, b) :: mb, by simp only [extInputs, hc, reduceCtorEq, if_false, h1],
        by simp only [memInputs, hc, if_true, List.map_cons, h2], h3, List.forall_mem_cons.2 ⟨⟨f, off, len, g1, g3⟩, h4⟩, ?_⟩
      intro sF es ms hpre he hm
      cases hm with
      | @cons _ m _ ms' hx hrest =>
        have hm' : mergeCv thr heap (some id :: cv) es (m :: ms') = some m :: mergeCv thr heap cv es ms' := by
          cases es <;> simp only [mergeCv, hc]
        rw [hm']
        exact .cons ⟨m, rfl, Or.inl ⟨true, hx⟩⟩ (h5 sF es _ hpre he hrest)
    · -- kept: the original in-memory object
      refine ⟨eb, mb, by simp only [extInputs, hc, reduceCtorEq, if_false, h1],
        by simp only [memInputs, hc, reduceCtorEq, if_false, h2], h3, h4, ?_⟩
      intro sF es ms hpre he hm
      have hm' : mergeCv thr heap (some id :: cv) es ms = some id :: mergeCv thr heap cv es ms := by
        simp only [mergeCv, hc]
      rw [hm']
      exact .cons ⟨id, rfl, Or.inl ⟨np, getElem?_prefix hpre g1⟩⟩ (h5 sF es ms hpre he hm)

theorem unload_ok (thr : Nat) (dest : String) (tnames : List String) (s : St) (bs : List Bytes)
    (hk : s.k = none) (hinit : All2 (InitOK dest s.fs s.heap) s.cv bs) :
    ∃ s', unload thr tnames dest false s = (.ok (), s') ∧ s'.k = s.k ∧ All2 (FinalOK dest s') s'.cv bs := by
  obtain ⟨eb, mb, hE, hM, hw, hr, hmerge⟩ := split_ok thr dest s.fs s.heap tnames hinit
  obtain ⟨memIds, s1, e1, k1, fs1, hp1, hmem⟩ := memLoad_ok mb s hk hr
  obtain ⟨extIds, s3, e3, k3, hp3, hext⟩ := convertToExternal_ok dest eb s1 (k1.trans hk)
    (fun x hx => (hw x hx).imp fun t g => ⟨getElem?_prefix hp1 g.1, fs1 ▸ g.2.1, g.2.2⟩)
  rw [hM] at e1
  rw [hE] at e3
  exact ⟨{ s3 with cv := mergeCv thr s.heap s.cv extIds memIds },
    bind_ok (get_apply s) (bind_ok e1 (bind_ok e3 rfl)), k3.trans k1,
    hmerge _ extIds memIds (List.IsPrefix.trans hp1 hp3) hext (hmem.imp fun x nid h => getElem?_prefix hp3 h)⟩

theorem joinPath_inj (dir a b : String) (h : joinPath dir a = joinPath dir b) : a = b := by
  unfold joinPath at h
  split at h
  · exact h
  · exact (String.append_right_inj _).1 h

theorem joinPath_ne (dir name : String) : joinPath dir (name ++ ".data") ≠ joinPath dir name := by
  intro h
  have := congrArg String.length h
  unfold joinPath at this
  split at this <;> simp [String.length_append] at this

def zip3 : List (String × Bool) → List Bytes → List (String × Bool × Bytes)
  | (n, sub) :: sig, b :: bs => (n, sub, b) :: zip3 sig bs
  | _, _ => []

/-- Reading one proto entry back (the body of `load`). -/
def loadEntry (fs : FS) (x : String × Bool × PInit) : Option (String × Bool × Bytes) :=
  match x.2.2 with
  | .inline b => some (x.1, x.2.1, b)
  | .external f off len => (fs.read f off len).map fun b => (x.1, x.2.1, b)

theorem serialize_load (dest : String) (sF : St) {cv : List (Option Nat)} {bs : List Bytes}
    (h : All2 (FinalOK dest sF) cv bs) : ∀ (sig : List (String × Bool)), sig.length = cv.length →
      ∃ p, serializeAux sF.heap sig cv = .ok p ∧
        ∀ fs', (∀ o len, FS.read fs' dest o len = FS.read sF.fs dest o len) →
          p.mapM (loadEntry fs') = some (zip3 sig bs) := by
  induction h with
  | nil =>
    intro sig hl
    cases List.eq_nil_of_length_eq_zero hl
    exact ⟨[], rfl, fun _ _ => rfl⟩
  | @cons c b cv bs hr _ ih =>
    intro sig hl
    cases sig with
    | nil => cases hl
    | cons x sig' =>
      obtain ⟨n, sub⟩ := x
      obtain ⟨p, hp1, hp2⟩ := ih sig' (Nat.succ.inj hl)
      obtain ⟨id, rfl, hobj⟩ := hr
      rcases hobj with ⟨np, hm⟩ | ⟨o, he, hrd⟩
      · refine ⟨(n, sub, PInit.inline b) :: p, by simp only [serializeAux, hp1, hm], fun fs' hread => ?_⟩
        simp only [List.mapM_cons, loadEntry, hp2 fs' hread, zip3]
        rfl
      · refine ⟨(n, sub, PInit.external dest o b.length) :: p, by simp only [serializeAux, hp1, he], fun fs' hread => ?_⟩
        simp only [List.mapM_cons, loadEntry, hread, hrd, hp2 fs' hread, zip3]
        rfl

theorem guardHits_nil (deep : Bool) (sig : List (String × Bool)) (cv : List (Option Nat)) (h : ∀ c ∈ cv, c ≠ none) :
    guardHits deep sig cv = [] := by
  unfold guardHits
  rw [List.map_eq_nil_iff, List.filter_eq_nil_iff]
  intro x hx
  cases hx2 : x.2 with
  | none => exact absurd hx2 (h x.2 (List.of_mem_zip hx).2)
  | some id => simp

theorem destHits_nil (dest : String) (fs : FS) (heap : List TRef) {cv : List (Option Nat)} {bs : List Bytes}
    (h : All2 (InitOK dest fs heap) cv bs) : destHits dest heap cv = [] := by
  refine List.filterMap_eq_nil_iff.2 (fun c hc => ?_)
  obtain ⟨b, id, t, rfl, h1, h2⟩ := all2_mem_left h c hc
  simp only [h1]
  cases t with
  | mem b np => rfl
  | ext f o l v => exact if_neg h2.2.1

/-- `onnx.save`, no fault. -/
theorem writeModel_ok (mp : String) (p : Proto) (s : St) (hk : s.k = none) :
    ∃ s', (do fsOpenW mp; withClose mp (fsWriteProto mp p)) s = (.ok (), s') ∧
      s'.fs = FS.set (FS.set s.fs mp (.data [])) mp (.proto p) :=
  ⟨_, bind_ok (fsOpenW_ok mp s hk) (withClose_run mp (fsWriteProto_ok mp p
      { s with calls := s.calls + 1, trace := s.trace ++ [.openW mp], fs := FS.set s.fs mp (.data []),
               wopened := s.wopened ++ [mp] }
      hk (List.mem_append_right _ (List.mem_singleton_self _))) hk), by rfl⟩

/-- `ir.save`, fault-free, then `load` — from the resulting file system or from any file system that agrees with it on
the two files written. -/
theorem irSave_load_ok (thr : Nat) (sig : List (String × Bool)) (tnames : List String) (dir name : String)
    (s : St) (bs : List Bytes) (hk : s.k = none) (hsig : sig.length = s.cv.length)
    (hinit : All2 (InitOK (joinPath dir (name ++ ".data")) s.fs s.heap) s.cv bs) :
    ∃ s', irSave thr sig tnames dir name (name ++ ".data") false s = (.ok (), s') ∧
      ∀ fs', FS.get? fs' (joinPath dir name) = FS.get? s'.fs (joinPath dir name) →
        FS.get? fs' (joinPath dir (name ++ ".data")) = FS.get? s'.fs (joinPath dir (name ++ ".data")) →
        load fs' dir name = some (zip3 sig bs) := by
  obtain ⟨s4, e4, k4, hfin⟩ := unload_ok thr (joinPath dir (name ++ ".data")) tnames s bs hk hinit
  obtain ⟨p, hp1, hp2⟩ := serialize_load (joinPath dir (name ++ ".data")) s4 hfin sig
    (by rw [all2_length hfin, ← all2_length hinit]; exact hsig)
  have hk4 : s4.k = none := k4.trans hk
  obtain ⟨s7, e7, hfs7⟩ := writeModel_ok (joinPath dir name) p { s4 with tn := renameAll sig s4.cv s4.tn } hk4
  refine ⟨{ s7 with cv := s.cv }, ?_, ?_⟩
  · unfold irSave
    refine bind_ok (get_apply s)
      (tryFinally_ok (s1 := s7) (bind_ok e4 (bind_ok (modify_apply _ _) (bind_ok (get_apply _) ?_))) rfl)
    rw [show serialize sig { s4 with tn := renameAll sig s4.cv s4.tn } = .ok p from hp1]
    exact e7
  · intro fs' hmp hdest
    unfold load
    rw [hmp, show FS.get? s7.fs _ = _ from hfs7 ▸ get?_set_eq _ _ _]
    refine hp2 fs' (fun o len => read_congr _ _ _ _ _ (hdest.trans ?_))
    show FS.get? s7.fs _ = _
    rw [hfs7, get?_set_ne _ _ _ _ (joinPath_ne dir name), get?_set_ne _ _ _ _ (joinPath_ne dir name)]

theorem save_load_plain (cfg : Cfg) (sig : List (String × Bool)) (tnames : List String) (dir name : String)
    (s : St) (bs : List Bytes) (hk : s.k = none) (hsig : sig.length = s.cv.length)
    (hinit : All2 (InitOK (joinPath dir (name ++ ".data")) s.fs s.heap) s.cv bs)
    (hmpf : cfg.refuseModel = false ∨ destHits (joinPath dir name) s.heap s.cv = []) :
    ∃ s', save cfg sig tnames dir name false s = (.ok (), s') ∧
      ∀ fs', FS.get? fs' (joinPath dir name) = FS.get? s'.fs (joinPath dir name) →
        FS.get? fs' (joinPath dir (name ++ ".data")) = FS.get? s'.fs (joinPath dir (name ++ ".data")) →
        load fs' dir name = some (zip3 sig bs) := by
  obtain ⟨s', h1, h2⟩ := irSave_load_ok cfg.thr sig tnames dir name s bs hk hsig hinit
  have hnr : refuses cfg sig dir name s = false := refuses_eq_false_iff.2
    ⟨guardHits_nil cfg.deep sig s.cv (fun c hc => (all2_mem_left hinit c hc).elim fun b ⟨id, _, e, _⟩ => e ▸ nofun),
      fun _ => destHits_nil _ _ _ hinit, fun hrm => hmpf.resolve_left (by rw [hrm]; nofun)⟩
  rw [save_eq, hnr, if_neg Bool.false_ne_true]
  cases cfg.keepNames with
  | true => exact ⟨_, (if_pos rfl).trans (tryFinally_ok h1 rfl), h2⟩
  | false => exact ⟨s', (if_neg Bool.false_ne_true).trans h1, h2⟩

/-- The walk above is made for the plain branch; the verbose one is the same run up to the callback log (`sim_save`). -/
theorem save_load_ok (cfg : Cfg) (sig : List (String × Bool)) (tnames : List String) (dir name : String) (verbose : Bool)
    (s : St) (bs : List Bytes) (hk : s.k = none) (hsig : sig.length = s.cv.length)
    (hinit : All2 (InitOK (joinPath dir (name ++ ".data")) s.fs s.heap) s.cv bs)
    (hmpf : cfg.refuseModel = false ∨ destHits (joinPath dir name) s.heap s.cv = []) :
    ∃ s', save cfg sig tnames dir name verbose s = (.ok (), s') ∧
      ∀ fs', FS.get? fs' (joinPath dir name) = FS.get? s'.fs (joinPath dir name) →
        FS.get? fs' (joinPath dir (name ++ ".data")) = FS.get? s'.fs (joinPath dir (name ++ ".data")) →
        load fs' dir name = some (zip3 sig bs) := by
  have hs := sim_save (ek := false) (ecb := true) cfg sig tnames dir name verbose s (fun h => by cases h)
  rw [Bool.not_true, Bool.and_false] at hs
  obtain ⟨s', h1, h2⟩ := save_load_plain cfg sig tnames dir name (er false true s) bs hk hsig hinit hmpf
  rw [hs] at h1
  obtain ⟨hr, hst⟩ := Prod.mk.inj h1
  exact ⟨_, Prod.ext hr rfl, fun fs' => by rw [← er_fs (ek := false) (ecb := true), hst]; exact h2 fs'⟩

/-- Tensor object `t` denotes `b` on `fs`: in memory, or a valid external tensor whose bytes are readable (wherever its
file is). -/
def Readable (fs : FS) (t : TRef) (b : Bytes) : Prop :=
  match t with
  | .mem b' _ => b' = b
  | .ext f off len v => v = true ∧ FS.read fs f off len = some b

/-- Initializer with `const_value` `c` is initialized with a readable tensor denoting `b`. -/
def InitR (fs : FS) (heap : List TRef) (c : Option Nat) (b : Bytes) : Prop :=
  ∃ id t, c = some id ∧ heap[id]? = some t ∧ Readable fs t b

/-- When the second guard has nothing to refuse, readable initializers are usable ones. -/
theorem initOK_of_readable (dest : String) (fs : FS) (heap : List TRef) {cv : List (Option Nat)} {bs : List Bytes}
    (h : All2 (InitR fs heap) cv bs) (hd : destHits dest heap cv = []) : All2 (InitOK dest fs heap) cv bs := by
  refine h.imp_mem ?_
  rintro c b hc ⟨id, t, rfl, h1, h2⟩
  refine ⟨id, t, rfl, h1, ?_⟩
  cases t with
  | mem b' np => exact h2
  | ext f o l v =>
    refine ⟨h2.1, ?_, h2.2⟩
    rintro rfl
    have := mem_destHits hc h1
    rw [hd] at this
    cases this

theorem initR_none (fs : FS) (heap : List TRef) : ∀ {cv bs}, All2 (InitR fs heap) cv bs → ∀ c ∈ cv, c ≠ none := by
  intro cv bs h c hc
  obtain ⟨b, id, t, rfl, _, _⟩ := all2_mem_left h c hc
  exact nofun

end OV.C20
