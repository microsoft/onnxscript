import OV.Model.C16Bind
/-!
Lemmas for `OV.Props.C16` about the binders and the rules of `OV.Model.C16Bind`: what a binding holds (`slots`),
when the binders return and that they then return `slots`, the clauses of `bindsOk` and the conditions of `bindsOkK`
and `defaultsOk` as propositions, the two extreme conforming calls.
-/
namespace OV.C16

theorem all_zipIdx {α} (l : List α) (f : α × Nat → Bool) :
    l.zipIdx.all f = true ↔ ∀ (i : Nat) (x : α), l[i]? = some x → f (x, i) = true := by
  simp only [List.all_eq_true, Prod.forall, List.mem_zipIdx_iff_getElem?]
  exact ⟨fun h i x => h x i, fun h x i => h i x⟩

theorem any_zipIdx {α} (l : List α) (f : α × Nat → Bool) :
    l.zipIdx.any f = true ↔ ∃ (i : Nat) (x : α), l[i]? = some x ∧ f (x, i) = true := by
  simp only [List.any_eq_true, Prod.exists, List.mem_zipIdx_iff_getElem?]
  exact ⟨fun ⟨x, i, h⟩ => ⟨i, x, h⟩, fun ⟨i, x, h⟩ => ⟨x, i, h⟩⟩

theorem index_of_key {α β} {f : α → β} {l : List α} (hnd : (l.map f).Nodup) {i j : Nat} {x y : α}
    (hx : l[i]? = some x) (hy : l[j]? = some y) (h : f x = f y) : i = j := by
  have hi : i < (l.map f).length := by simpa using (List.getElem?_eq_some_iff.mp hx).1
  apply (List.getElem?_inj hi hnd).mp
  simp [hx, hy, h]

theorem nodupS_iff {l : List String} : nodupS l = true ↔ l.Nodup := by
  induction l with
  | nil => simp [nodupS]
  | cons k ks ih => simp [nodupS, ih]

theorem slots_length (npos : Nat) (kws : List String) (k : Nat) (ps : List OParam) :
    (slots npos kws k ps).length = ps.length := by
  induction ps generalizing k with
  | nil => rfl
  | cons p ps ih => simp [slots, ih]

theorem slots_getElem? (npos : Nat) (kws : List String) (k : Nat) (ps : List OParam) (j : Nat) :
    (slots npos kws k ps)[j]? = (ps[j]?).map (slot npos kws (k + j)) := by
  induction ps generalizing k j with
  | nil => simp [slots]
  | cons p ps ih =>
    cases j with
    | zero => simp [slots]
    | succ j => simp only [slots, List.getElem?_cons_succ, ih, Nat.add_right_comm k 1 j, Nat.add_assoc]

section
variable {npos : Nat} {kws : List String} {k i j : Nat} {p : OParam} {n : String} {s : OsSig}

theorem slot_eq_pos : slot npos kws k p = some (.pos i) ↔ i = k ∧ k < npos := by
  by_cases h1 : k < npos <;> by_cases h2 : p.name ∈ kws <;> simp [slot, h1, h2, eq_comm]

theorem slot_eq_kw : slot npos kws k p = some (.kw n) ↔ p.name = n ∧ npos ≤ k ∧ n ∈ kws := by
  by_cases h1 : k < npos <;> by_cases h2 : p.name ∈ kws <;> simp [slot, h1, h2] <;> grind

theorem slot_eq_none : slot npos kws k p = none ↔ npos ≤ k ∧ p.name ∉ kws := by
  by_cases h1 : k < npos <;> by_cases h2 : p.name ∈ kws <;> simp [slot, h1, h2] <;> grind

theorem slots_pos : (slots npos kws 0 s)[j]? = some (some (.pos i)) ↔ ∃ p, s[j]? = some p ∧ i = j ∧ j < npos := by
  simp [slots_getElem?, slot_eq_pos]

theorem slots_kw : (slots npos kws 0 s)[j]? = some (some (.kw n)) ↔
    ∃ p, s[j]? = some p ∧ p.name = n ∧ npos ≤ j ∧ n ∈ kws := by
  simp [slots_getElem?, slot_eq_kw]

theorem slots_none : (slots npos kws 0 s)[j]? = some none ↔ ∃ p, s[j]? = some p ∧ npos ≤ j ∧ p.name ∉ kws := by
  simp [slots_getElem?, slot_eq_none]

theorem bindS_cons (ps : List OParam) : bindS npos kws k (p :: ps) =
    if p.required && (slot npos kws k p).isNone then .error .missing
    else (bindS npos kws (k + 1) ps).map (slot npos kws k p :: ·) := by
  by_cases h1 : k < npos <;> by_cases h2 : p.name ∈ kws <;> by_cases h3 : p.required = true <;>
    simp [bindS, slot, h1, h2, h3]

end

/-- The loop of `_construct_named_inputs_and_attrs` in closed form: it is the fourth guard of `bindT` and nothing else. -/
theorem bindS_eq (npos : Nat) (kws : List String) (k : Nat) (ps : List OParam) : bindS npos kws k ps =
    if (ps.zipIdx k).any (fun pj => pj.1.required && (slot npos kws pj.2 pj.1).isNone) then .error .missing
    else .ok (slots npos kws k ps) := by
  induction ps generalizing k with
  | nil => rfl
  | cons p ps ih =>
    rw [bindS_cons, ih, List.zipIdx_cons, List.any_cons, slots]
    cases p.required && (slot npos kws k p).isNone
    · simp only [Bool.false_or, Bool.false_eq_true, if_false]; split <;> rfl
    · simp

/-- The conjunct under `m = .traced`: the Python call's three further `TypeError` guards (no surplus positional, no unknown
keyword, no keyword for a parameter bound by position). -/
theorem bind_eq_ok_iff {m : Mode} {s : OsSig} {c : Call} {b : Binding} : bind m s c = .ok b ↔
    (∀ (j : Nat) (p : OParam), s[j]? = some p → p.required = true → (slot c.npos c.kws j p).isSome = true) ∧
    (m = .traced → c.npos ≤ s.length ∧ (∀ n ∈ c.kws, ∃ q ∈ s, q.name = n) ∧
      ∀ n ∈ c.kws, ∀ (j : Nat) (q : OParam), s[j]? = some q → q.name = n → c.npos ≤ j) ∧
    b = slots c.npos c.kws 0 s := by
  have e4 : s.zipIdx.any (fun pj => pj.1.required && (slot c.npos c.kws pj.2 pj.1).isNone) = true ↔
      ¬ ∀ (j : Nat) (p : OParam), s[j]? = some p → p.required = true → (slot c.npos c.kws j p).isSome = true := by
    rw [any_zipIdx]; simp
  cases m with
  | scripted => simp only [bind, bindS_eq, e4]; grind
  | traced =>
    have e2 : c.kws.any (fun n => !(s.any (fun q => q.name == n))) = true ↔ ¬ ∀ n ∈ c.kws, ∃ q ∈ s, q.name = n := by
      simp
    have e3 : c.kws.any (fun n => s.zipIdx.any (fun qj => qj.1.name == n && decide (qj.2 < c.npos))) = true ↔
        ¬ ∀ n ∈ c.kws, ∀ (j : Nat) (q : OParam), s[j]? = some q → q.name = n → c.npos ≤ j := by
      rw [List.any_eq_true]; simp only [any_zipIdx]; simp
    simp only [bind, bindT, e2, e3, e4]
    grind

theorem bind_ok_eq_slots (m : Mode) (s : OsSig) (c : Call) (b : Binding) (h : bind m s c = .ok b) :
    b = slots c.npos c.kws 0 s :=
  (bind_eq_ok_iff.mp h).2.2

theorem bind_ok_none {m : Mode} {s : OsSig} {c : Call} {b : Binding} (hb : bind m s c = .ok b) {j : Nat}
    {p : OParam} (hp : s[j]? = some p) (hle : c.npos ≤ j) (hk : p.name ∉ c.kws) : b[j]? = some none := by
  rw [bind_ok_eq_slots m s c b hb]
  exact slots_none.mpr ⟨p, hp, hle, hk⟩

theorem bindsOk_iff_clauses {m : Mode} {a : AtenSchema} {s : OsSig} :
    bindsOk m a s = true ↔ ∀ c, clauseOk m a s c = true := by
  simp only [bindsOk, List.all_eq_true]
  exact ⟨fun h c => h c (by cases c <;> simp [Clause.all]), fun h c _ => h c⟩

theorem bindsOk_clause {m : Mode} {a : AtenSchema} {s : OsSig} (h : bindsOk m a s = true) (c : Clause) :
    clauseOk m a s c = true := bindsOk_iff_clauses.mp h c

theorem failing_nil_iff (m : Mode) (a : AtenSchema) (s : OsSig) :
    failing m a s = [] ↔ bindsOk m a s = true := by
  simp [failing, bindsOk]

theorem defects_nil_iff (e : Entry) : e.defects = [] ↔
    nameOkCodes e.qcodes = true ∧ e.complexNameOk = true ∧ e.schemaFlagsOk = true ∧ sigFaithful e.sig = true ∧
      e.res ≠ .undefined ∧ (e.res ≠ .lib_absent → bindsOk e.mode e.aten e.sig = true) := by
  cases hr : e.res <;> simp [Entry.defects, hr, failing_nil_iff]

section
variable {m : Mode} {a : AtenSchema} {s : OsSig}

theorem posFits_iff : clauseOk m a s .posFits = true ↔ ∀ (i : Nat) (arg : AArg), a.positional[i]? = some arg →
    i < s.length ∨ (m.dropsUnknown = true ∧ droppable arg.name = true) := by
  simp only [clauseOk, all_zipIdx, Bool.or_eq_true, Bool.and_eq_true, decide_eq_true_eq]

theorem posAccepts_iff : clauseOk m a s .posAccepts = true ↔ ∀ (i : Nat) (arg : AArg) (p : OParam),
    a.positional[i]? = some arg → s[i]? = some p → accepts m p arg = true := by
  simp only [clauseOk, all_zipIdx]
  constructor
  · intro h i arg p hi hp; have := h i arg hi; simpa [hp] using this
  · intro h i arg hi; cases hp : s[i]? with
    | none => rfl
    | some p => exact h i arg p hi hp

theorem posNames_iff : clauseOk m a s .posNames = true ↔ ∀ (i : Nat) (arg : AArg), a.positional[i]? = some arg →
    i < s.length → ∀ (j : Nat) (q : OParam), s[j]? = some q → q.name = arg.name → j = i := by
  simp only [clauseOk, all_zipIdx, Bool.or_eq_true, decide_eq_true_eq, bne_iff_ne, beq_iff_eq]
  constructor
  · intro h i arg hi hlt j q hq hn
    exact ((h i arg hi).resolve_left (by omega) j q hq).resolve_left (fun hne => hne hn)
  · intro h i arg hi
    by_cases hlt : i < s.length
    · exact Or.inr fun j q hq =>
        Decidable.or_iff_not_imp_left.mpr fun hn => h i arg hi hlt j q hq (Decidable.not_not.mp hn)
    · exact Or.inl (by omega)

theorem kwBound_iff : clauseOk m a s .kwBound = true ↔ ∀ arg ∈ a.kwonly,
    (∃ q ∈ s, q.name = arg.name) ∨ (m.dropsUnknown = true ∧ droppable arg.name = true) := by
  simp only [clauseOk, List.all_eq_true, Bool.or_eq_true, List.any_eq_true, beq_iff_eq, Bool.and_eq_true]

theorem kwPlaced_iff : clauseOk m a s .kwPlaced = true ↔ ∀ arg ∈ a.kwonly, ∀ (j : Nat) (q : OParam),
    s[j]? = some q → q.name = arg.name → a.positional.length ≤ j ∧ accepts m q arg = true := by
  rw [clauseOk, List.all_eq_true]
  simp only [all_zipIdx, Bool.or_eq_true, bne_iff_ne, Bool.and_eq_true, decide_eq_true_eq]
  exact ⟨fun h arg ha j q hq hn => (h arg ha j q hq).resolve_left (fun hne => hne hn),
    fun h arg ha j q hq => Decidable.or_iff_not_imp_left.mpr fun hn => h arg ha j q hq (Decidable.not_not.mp hn)⟩

theorem requiredBound_iff : clauseOk m a s .requiredBound = true ↔ ∀ (j : Nat) (p : OParam), s[j]? = some p →
    p.required = true → mustSupply a j = true ∨
      (a.positional.length ≤ j ∧ ∃ x ∈ a.kwonly, x.name = p.name ∧ x.hasDefault = false) := by
  simp only [clauseOk, all_zipIdx, Bool.or_eq_true, Bool.not_eq_true', Bool.and_eq_true, decide_eq_true_eq,
    List.any_eq_true, beq_iff_eq, or_assoc]
  exact ⟨fun h j p hp hr => (h j p hp).resolve_left (by simp [hr]),
    fun h j p hp => by cases hr : p.required <;> simp_all⟩

theorem posNamed_iff {a : AtenSchema} : posNamed a s = true ↔ ∀ (i : Nat) (arg : AArg) (p : OParam),
    a.positional[i]? = some arg → s[i]? = some p → p.name = arg.name := by
  simp only [posNamed, all_zipIdx]
  constructor
  · intro h i arg p hi hp; have := h i arg hi; simpa [hp] using this
  · intro h i arg hi; cases hp : s[i]? with
    | none => rfl
    | some p => simpa using h i arg p hi hp

theorem requiredOwn_iff {a : AtenSchema} : requiredOwn a s = true ↔ ∀ (j : Nat) (p : OParam), s[j]? = some p →
    p.required = true → ∀ arg, a.positional[j]? = some arg → arg.hasDefault = false := by
  simp only [requiredOwn, all_zipIdx]
  constructor
  · intro h j p hp hr arg ha; have := h j p hp; simpa [hr, ha] using this
  · intro h j p hp
    cases hr : p.required with
    | false => rfl
    | true => cases ha : a.positional[j]? with
      | none => rfl
      | some arg => simpa using h j p hp hr arg ha

theorem accepts_tensor {p : OParam} {arg : AArg} (h : accepts m p arg = true) (hb : arg.base = .tensor) :
    p.isInput = true := by
  simpa [accepts, hb] using h

end

theorem dvAgree_self (u : DVal) : dvAgree u u = true := by simp [dvAgree]

theorem defaultsOk_iff {a : AtenSchema} {s : OsSig} {adef pdef : List DVal} : defaultsOk a s adef pdef = true ↔
    (∀ i < a.positional.length, pairAgree adef pdef i i = true) ∧
    ∀ (k : Nat) (x : AArg) (j : Nat) (p : OParam), a.kwonly[k]? = some x → s[j]? = some p → p.name = x.name →
      pairAgree adef pdef (a.positional.length + k) j = true := by
  rw [defaultsOk, Bool.and_eq_true, List.all_eq_true, all_zipIdx]
  simp only [List.mem_range, all_zipIdx, Bool.or_eq_true, bne_iff_ne]
  exact and_congr_right fun _ => ⟨fun h k x j p hx hp hn => (h k x hx j p hp).resolve_left (fun hne => hne hn),
    fun h k x hx j p hp => Decidable.or_iff_not_imp_left.mpr fun hn => h k x j p hx hp (Decidable.not_not.mp hn)⟩

theorem pos_index_of_name {a : AtenSchema} (hnd : ((a.positional ++ a.kwonly).map (·.name)).Nodup)
    {i j : Nat} {x y : AArg} (hx : a.positional[i]? = some x) (hy : a.positional[j]? = some y)
    (hn : x.name = y.name) : i = j :=
  index_of_key hnd (List.getElem?_append_left (List.getElem?_eq_some_iff.mp hx).1 ▸ hx)
    (List.getElem?_append_left (List.getElem?_eq_some_iff.mp hy).1 ▸ hy) hn

theorem posNames_of_posNamed {m : Mode} {a : AtenSchema} {s : OsSig} (hp : posNamed a s = true)
    (hn : (s.map (·.name)).Nodup) : clauseOk m a s .posNames = true :=
  posNames_iff.mpr fun i arg hi hlt _ _ hq hqn =>
    have hs := List.getElem?_eq_getElem hlt
    index_of_key hn hq hs (hqn.trans (posNamed_iff.mp hp i arg _ hi hs).symm)

theorem kReasons_nil_iff (m : Mode) (a : AtenSchema) (s : OsSig) :
    kReasons m a s = [] ↔ bindsOkK m a s = true := by
  simp [kReasons, bindsOkK, and_assoc]

theorem bindsOkK_iff {m : Mode} {a : AtenSchema} {s : OsSig} : bindsOkK m a s = true ↔ bindsOk m a s = true ∧
    (∀ (i : Nat) (arg : AArg) (p : OParam), a.positional[i]? = some arg → s[i]? = some p → p.name = arg.name) ∧
    (∀ (j : Nat) (p : OParam), s[j]? = some p → p.required = true →
      ∀ arg, a.positional[j]? = some arg → arg.hasDefault = false) ∧
    (s.map (·.name)).Nodup ∧ ((a.positional ++ a.kwonly).map (·.name)).Nodup := by
  simp only [bindsOkK, Bool.and_eq_true, posNamed_iff, requiredOwn_iff, nodupS_iff, and_assoc]

theorem index_of_posName {m : Mode} {a : AtenSchema} {s : OsSig} (h : bindsOkK m a s = true) {i j : Nat}
    {arg : AArg} {q : OParam} (hi : a.positional[i]? = some arg) (hq : s[j]? = some q) (hn : q.name = arg.name) :
    j = i := by
  obtain ⟨_, named, _, hsn, han⟩ := bindsOkK_iff.mp h
  cases hs : s[i]? with
  | some p => exact index_of_key hsn hq hs (hn.trans (named i arg p hi hs).symm)
  | none =>
    -- `q` then sits under a positional argument and has its name: two positional arguments of one name
    have hj : j < a.positional.length := by
      have := List.getElem?_eq_none_iff.mp hs
      have := (List.getElem?_eq_some_iff.mp hi).1
      have := (List.getElem?_eq_some_iff.mp hq).1
      omega
    have hj := List.getElem?_eq_getElem hj
    exact pos_index_of_name han hj hi ((named j _ q hj hq).symm.trans hn)

theorem kwBound_traced {a : AtenSchema} {s : OsSig} (h : bindsOk .traced a s = true) {arg : AArg}
    (harg : arg ∈ a.kwonly) : s.any (fun q => q.name == arg.name) = true := by
  rcases kwBound_iff.mp (bindsOk_clause h _) arg harg with ⟨q, hq, hqn⟩ | ⟨hd, _⟩
  · exact List.any_eq_true.mpr ⟨q, hq, by simp [hqn]⟩
  · cases hd

theorem mustSupply_lt {a : AtenSchema} {c : Call} (hc : Conforms a c) {j : Nat}
    (h : mustSupply a j = true) : j < c.npos := by
  unfold mustSupply at h
  rw [List.any_eq_true] at h
  obtain ⟨x, hx, hd⟩ := h
  obtain ⟨i, hi⟩ := List.mem_iff_getElem?.mp hx
  rw [List.getElem?_drop] at hi
  have := hc.required_pos (j + i) x hi (by simpa using hd)
  omega

theorem required_slot_some {m : Mode} {a : AtenSchema} {s : OsSig} (h : bindsOk m a s = true)
    {c : Call} (hc : Conforms a c) {j : Nat} {p : OParam} (hp : s[j]? = some p)
    (hr : p.required = true) : (slot c.npos c.kws j p).isSome = true := by
  rw [Option.isSome_iff_ne_none, ne_eq, slot_eq_none]
  rcases requiredBound_iff.mp (bindsOk_clause h _) j p hp hr with hms | ⟨_, x, hx, hxn, hxd⟩
  · have := mustSupply_lt hc hms; omega
  · exact fun hn => hn.2 (hxn ▸ hc.required_kw x hx hxd)

theorem mustSupply_iff (l : List AArg) (j : Nat) :
    (l.drop j).any (fun x => !x.hasDefault) = true ↔ j < nreqPos l := by
  induction l generalizing j with
  | nil => simp [nreqPos]
  | cons x xs ih =>
    have h0 := ih 0
    cases j with
    | zero => rw [nreqPos]; split <;> simp_all
    | succ j => rw [List.drop_succ_cons, ih j, nreqPos]; split <;> simp_all <;> omega

theorem nreqPos_le (l : List AArg) : nreqPos l ≤ l.length := by
  induction l with
  | nil => simp [nreqPos]
  | cons x xs ih =>
    simp only [nreqPos, List.length_cons]
    split <;> omega

theorem mustSupply_lt_length {a : AtenSchema} {j : Nat} (h : mustSupply a j = true) : j < a.positional.length :=
  Nat.lt_of_lt_of_le ((mustSupply_iff _ j).mp h) (nreqPos_le _)

theorem conforms_maxCall (a : AtenSchema) : Conforms a (maxCall a) := by
  refine ⟨Nat.le_refl _, ?_, ?_, ?_⟩
  · intro i arg hi _
    exact (List.getElem?_eq_some_iff.mp hi).1
  · intro n hn
    simp only [maxCall, List.mem_map] at hn
    exact hn
  · intro arg harg _
    simp only [maxCall, List.mem_map]
    exact ⟨arg, harg, rfl⟩

theorem conforms_minCall (a : AtenSchema) : Conforms a (minCall a) := by
  refine ⟨nreqPos_le _, ?_, ?_, ?_⟩
  · intro i arg hi hd
    apply (mustSupply_iff a.positional i).mp
    rw [List.any_eq_true]
    refine ⟨arg, ?_, by simp [hd]⟩
    rw [List.mem_iff_getElem?]
    exact ⟨0, by rw [List.getElem?_drop]; simpa using hi⟩
  · intro n hn
    simp only [minCall, List.mem_map, List.mem_filter] at hn
    obtain ⟨arg, ⟨harg, _⟩, hn⟩ := hn
    exact ⟨arg, harg, hn⟩
  · intro arg harg hd
    simp only [minCall, List.mem_map, List.mem_filter]
    exact ⟨arg, ⟨harg, by simp [hd]⟩, rfl⟩

end OV.C16
