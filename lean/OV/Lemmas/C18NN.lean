import OV.Model.C18NN
/-! C18, nn naming: string algebra of `qualifyInit` / `pfx`, the naming invariant `Named`, the correspondence
`visit = stateDict` under it, its preservation by the construction operations, and `dedupPid` over a repeated call. -/
namespace OV.C18

theorem dot_ne_empty (a b : String) : a ++ "." ++ b ≠ "" := by
  intro h
  have := congrArg String.length h
  simp only [String.length_append] at this
  have h1 : (".": String).length = 1 := by decide
  have h0 : ("" : String).length = 0 := by decide
  omega

theorem pfx_empty (k : String) : pfx "" k = k := by simp [pfx]

theorem pfx_ne (p k : String) (h : p ≠ "") : pfx p k = p ++ "." ++ k := by simp [pfx, h]

theorem joinWith_snoc (sep : String) (l : List String) (k : String) :
    joinWith sep (l ++ [k]) = if l = [] then k else joinWith sep l ++ sep ++ k := by
  induction l with
  | nil => simp [joinWith]
  | cons a t ih =>
    cases t with
    | nil => simp [joinWith]
    | cons b u =>
      simp only [List.cons_append, reduceCtorEq, if_false] at ih ⊢
      simp only [joinWith]
      rw [ih]
      simp only [String.append_assoc]

theorem qualifyInit_snoc (sc : List String) (k x : String) (hk : k ≠ "") :
    qualifyInit (sc ++ [k]) x = qualifyInit sc (k ++ "." ++ x) := by
  have hf : (sc ++ [k]).filter (fun s => decide (s ≠ "")) = sc.filter (fun s => decide (s ≠ "")) ++ [k] := by
    rw [List.filter_append]
    congr 1
    simp [hk]
  unfold qualifyInit
  simp only [hf]
  generalize sc.filter (fun s => decide (s ≠ "")) = f
  cases f with
  | nil => simp [joinWith]
  | cons a t =>
    have := joinWith_snoc "." (a :: t) k
    simp only [reduceCtorEq, if_false, List.cons_append] at this
    simp [this, String.append_assoc]

def ParamsAgree (ps : List Param) : Prop := ∀ p ∈ ps, p.name = p.attr

mutual
  /-- `Named e m`: `m` stores the name `e`; its parameters are named like their attribute; its children
      are named as its class dictates (Module / Sequential: the bare key, ModuleList: `e.key`); a
      ModuleList owns no parameters (it is never called, so they would never be realised). -/
  def Named : String → Mod → Prop
    | e, .mk k n ps cs => n = some e ∧ ParamsAgree ps ∧
        (match k with
         | .list => ps = [] ∧ NamedQual e cs
         | _ => NamedKey cs)
  def NamedQual : String → Mods → Prop
    | _, .nil => True
    | e, .cons k m r => k ≠ "" ∧ Named (e ++ "." ++ k) m ∧ NamedQual e r
  def NamedKey : Mods → Prop
    | .nil => True
    | .cons k m r => k ≠ "" ∧ Named k m ∧ NamedKey r
end

/-- the root as it is called: any stored name (or none), parameters agree, children named by key. -/
def RootNamed : Mod → Prop
  | .mk k _ ps cs => k ≠ .list ∧ ParamsAgree ps ∧ NamedKey cs

def mapKey (f : String → String) (l : List (String × Nat)) : List (String × Nat) :=
  l.map (fun x => (f x.1, x.2))

theorem mapKey_append (f : String → String) (a b : List (String × Nat)) :
    mapKey f (a ++ b) = mapKey f a ++ mapKey f b := by simp [mapKey]

theorem mapKey_mapKey (f g : String → String) (a : List (String × Nat)) :
    mapKey f (mapKey g a) = mapKey (fun x => f (g x)) a := by simp [mapKey]

theorem mapKey_congr {f g : String → String} (a : List (String × Nat)) (h : ∀ x, f x = g x) :
    mapKey f a = mapKey g a := by
  have : f = g := funext h
  rw [this]

mutual
  def KeysNE : Mod → Prop
    | .mk _ _ _ cs => KeysNEAll cs
  def KeysNEAll : Mods → Prop
    | .nil => True
    | .cons k m r => k ≠ "" ∧ KeysNE m ∧ KeysNEAll r
end

mutual
  theorem stateDict_prefix (q : String) (hq : q ≠ "") : ∀ m : Mod, KeysNE m →
      stateDict q m = mapKey (fun x => q ++ "." ++ x) (stateDict "" m)
    | .mk _ _ ps cs, h => by
      simp only [stateDict, mapKey_append]
      congr 1
      · simp [mapKey, pfx_empty, pfx_ne _ _ hq]
      · exact stateDictAll_prefix q hq cs (by simpa [KeysNE] using h)
  theorem stateDictAll_prefix (q : String) (hq : q ≠ "") : ∀ cs : Mods, KeysNEAll cs →
      stateDictAll q cs = mapKey (fun x => q ++ "." ++ x) (stateDictAll "" cs)
    | .nil, _ => by simp [stateDictAll, mapKey]
    | .cons k m r, h => by
      simp only [KeysNEAll] at h
      simp only [stateDictAll, mapKey_append, pfx_empty, pfx_ne _ _ hq]
      rw [stateDict_prefix (q ++ "." ++ k) (dot_ne_empty q k) m h.2.1,
          stateDict_prefix k h.1 m h.2.1, stateDictAll_prefix q hq r h.2.2, mapKey_mapKey]
      congr 1
      apply mapKey_congr
      intro x
      simp only [String.append_assoc]
end

mutual
  theorem Named.keysNE : ∀ (m : Mod) (e : String), Named e m → KeysNE m
    | .mk k _ _ cs, e, h => by
      simp only [Named] at h
      simp only [KeysNE]
      cases k
      · exact NamedKey.keysNE cs h.2.2
      · exact NamedQual.keysNE cs e h.2.2.2
      · exact NamedKey.keysNE cs h.2.2
  theorem NamedKey.keysNE : ∀ (cs : Mods), NamedKey cs → KeysNEAll cs
    | .nil, _ => by simp [KeysNEAll]
    | .cons k m r, h => by
      simp only [NamedKey] at h
      exact ⟨h.1, Named.keysNE m k h.2.1, NamedKey.keysNE r h.2.2⟩
  theorem NamedQual.keysNE : ∀ (cs : Mods) (e : String), NamedQual e cs → KeysNEAll cs
    | .nil, _, _ => by simp [KeysNEAll]
    | .cons k m r, e, h => by
      simp only [NamedQual] at h
      exact ⟨h.1, Named.keysNE m _ h.2.1, NamedQual.keysNE r e h.2.2⟩
end

theorem params_realize (sc : List String) (ps : List Param) (h : ParamsAgree ps) :
    ps.map (fun p => (qualifyInit sc p.name, p.pid))
      = mapKey (qualifyInit sc) (ps.map (fun q => (pfx "" q.attr, q.pid))) := by
  simp only [mapKey, List.map_map]
  apply List.map_congr_left
  intro p hp
  simp [pfx_empty, h p hp]

mutual
  theorem visit_eq : ∀ (m : Mod) (sc : List String) (e : String), e ≠ "" → Named e m →
      visit sc m = mapKey (qualifyInit (sc ++ [e])) (stateDict "" m)
    | .mk k n ps cs, sc, e, he, h => by
      simp only [Named] at h
      obtain ⟨hn, hp, hc⟩ := h
      subst hn
      cases k
      · simp only [visit, stateDict, mapKey_append, Option.getD_some]
        rw [params_realize _ _ hp, visitAll_key cs (sc ++ [e]) hc]
      · obtain ⟨hps, hq⟩ := hc
        subst hps
        simp only [visit, stateDict, List.map_nil, List.nil_append]
        exact visitAll_qual cs sc e he hq
      · simp only [visit, stateDict, mapKey_append, Option.getD_some]
        rw [params_realize _ _ hp, visitAll_key cs (sc ++ [e]) hc]
  theorem visitAll_key : ∀ (cs : Mods) (sc : List String), NamedKey cs →
      visitAll sc cs = mapKey (qualifyInit sc) (stateDictAll "" cs)
    | .nil, _, _ => by simp [visitAll, stateDictAll, mapKey]
    | .cons k m r, sc, h => by
      simp only [NamedKey] at h
      simp only [visitAll, stateDictAll, mapKey_append, pfx_empty]
      rw [visit_eq m sc k h.1 h.2.1, visitAll_key r sc h.2.2,
          stateDict_prefix k h.1 m (Named.keysNE m k h.2.1), mapKey_mapKey]
      congr 1
      apply mapKey_congr
      intro x
      exact qualifyInit_snoc sc k x h.1
  theorem visitAll_qual : ∀ (cs : Mods) (sc : List String) (e : String), e ≠ "" → NamedQual e cs →
      visitAll sc cs = mapKey (qualifyInit (sc ++ [e])) (stateDictAll "" cs)
    | .nil, _, _, _, _ => by simp [visitAll, stateDictAll, mapKey]
    | .cons k m r, sc, e, he, h => by
      simp only [NamedQual] at h
      simp only [visitAll, stateDictAll, mapKey_append, pfx_empty]
      rw [visit_eq m sc (e ++ "." ++ k) (dot_ne_empty e k) h.2.1, visitAll_qual r sc e he h.2.2,
          stateDict_prefix k h.1 m (Named.keysNE m _ h.2.1), mapKey_mapKey]
      congr 1
      apply mapKey_congr
      intro x
      rw [qualifyInit_snoc sc _ x (dot_ne_empty e k), qualifyInit_snoc sc e _ he]
      simp only [String.append_assoc]
end

theorem callRoot_eq (t : Mod) (h : RootNamed t) :
    callRoot t = mapKey (rootKey t) (stateDict "" t) := by
  cases t with
  | mk k n ps cs =>
    simp only [RootNamed] at h
    simp only [callRoot, stateDict, mapKey_append]
    rw [params_realize _ _ h.2.1, visitAll_key cs _ h.2.2]
    rfl

mutual
  theorem stateDict_pids (q : String) : ∀ m : Mod, (stateDict q m).map (·.2) = pids m
    | .mk _ _ ps cs => by
      simp only [stateDict, pids, List.map_append, List.map_map]
      rw [stateDictAll_pids q cs]
      rfl
  theorem stateDictAll_pids (q : String) : ∀ cs : Mods, (stateDictAll q cs).map (·.2) = pidsAll cs
    | .nil => by simp [stateDictAll, pidsAll]
    | .cons k m r => by
      simp only [stateDictAll, pidsAll, List.map_append]
      rw [stateDict_pids (pfx q k) m, stateDictAll_pids q r]
end

theorem mapKey_pids (f : String → String) (l : List (String × Nat)) :
    (mapKey f l).map (·.2) = l.map (·.2) := by simp [mapKey]

theorem dedupPid_of_nodup : ∀ (l : List (String × Nat)) (seen : List Nat),
    (l.map (·.2)).Nodup → (∀ x ∈ l, x.2 ∉ seen) → dedupPid l seen = l
  | [], _, _, _ => rfl
  | (n, p) :: r, seen, hn, hs => by
    have hp : p ∉ seen := hs (n, p) (by simp)
    simp only [dedupPid, hp, if_false]
    simp only [List.map_cons, List.nodup_cons] at hn
    congr 1
    apply dedupPid_of_nodup r (p :: seen) hn.2
    intro x hx
    simp only [List.mem_cons, not_or]
    refine ⟨?_, hs x (by simp [hx])⟩
    intro hxe
    apply hn.1
    rw [← hxe]
    exact List.mem_map_of_mem hx

theorem realize_eq (t : Mod) (h : RootNamed t) (hd : (pids t).Nodup) :
    realize t = mapKey (rootKey t) (stateDict "" t) := by
  unfold realize
  rw [callRoot_eq t h]
  apply dedupPid_of_nodup
  · rw [mapKey_pids, stateDict_pids]; exact hd
  · intro x _; simp

theorem dedupPid_drop_seen (n : String) (p : Nat) : ∀ (a b : List (String × Nat)) (s : List Nat), p ∈ s →
    dedupPid (a ++ (n, p) :: b) s = dedupPid (a ++ b) s
  | [], b, s, hp => by simp [dedupPid, hp]
  | (m, q) :: a, b, s, hp => by
    simp only [List.cons_append, dedupPid]
    split
    · exact dedupPid_drop_seen n p a b s hp
    · rw [dedupPid_drop_seen n p a b (q :: s) (List.mem_cons_of_mem _ hp)]

/-- the realisation attempts of an aborted call (any prefix of the full sequence) followed by a complete call give
    the same realised parameters, in the same order, as one complete call. -/
theorem dedupPid_take_append : ∀ (l : List (String × Nat)) (k : Nat) (s : List Nat),
    dedupPid (l.take k ++ l) s = dedupPid l s
  | l, 0, s => by simp
  | [], k + 1, s => by simp
  | (n, p) :: r, k + 1, s => by
    simp only [List.take_succ_cons, List.cons_append, dedupPid]
    split
    · rename_i hp
      rw [dedupPid_drop_seen n p _ _ s hp]
      exact dedupPid_take_append r k s
    · rw [dedupPid_drop_seen n p _ _ (p :: s) (by simp)]
      rw [dedupPid_take_append r k (p :: s)]

mutual
  /-- invariant of a *detached* object (its own stored name is irrelevant: whoever attaches it renames it). -/
  def GoodT : Mod → Prop
    | .mk k _ ps cs =>
      match k with
      | .module => ParamsAgree ps ∧ NamedKey cs
      | .list => ps = [] ∧ GoodAll cs
      | .seq => ParamsAgree ps ∧ GoodAll cs
  def GoodAll : Mods → Prop
    | .nil => True
    | .cons k m r => k ≠ "" ∧ GoodT m ∧ GoodAll r
end

mutual
  theorem GoodT.named : ∀ (m : Mod) (e : String), GoodT m → Named e (setName m e)
    | .mk k n ps cs, e, h => by
      cases k
      · simp only [GoodT] at h
        simp only [setName, Named]
        exact ⟨trivial, h.1, h.2⟩
      · simp only [GoodT] at h
        simp only [setName, Named]
        exact ⟨trivial, by simp [h.1, ParamsAgree], h.1, GoodAll.qual cs e h.2⟩
      · simp only [GoodT] at h
        simp only [setName, Named]
        exact ⟨trivial, h.1, GoodAll.key cs h.2⟩
  theorem GoodAll.qual : ∀ (cs : Mods) (e : String), GoodAll cs → NamedQual e (setNamesQual cs e)
    | .nil, _, _ => by simp [setNamesQual, NamedQual]
    | .cons k m r, e, h => by
      simp only [GoodAll] at h
      simp only [setNamesQual, NamedQual]
      exact ⟨h.1, GoodT.named m _ h.2.1, GoodAll.qual r e h.2.2⟩
  theorem GoodAll.key : ∀ (cs : Mods), GoodAll cs → NamedKey (setNamesKey cs)
    | .nil, _ => by simp [setNamesKey, NamedKey]
    | .cons k m r, h => by
      simp only [GoodAll] at h
      simp only [setNamesKey, NamedKey]
      exact ⟨h.1, GoodT.named m _ h.2.1, GoodAll.key r h.2.2⟩
end

mutual
  theorem GoodT.setName : ∀ (m : Mod) (x : String), GoodT m → GoodT (setName m x)
    | .mk k n ps cs, x, h => by
      cases k
      · simpa only [setName, GoodT] using h
      · simp only [GoodT] at h
        simp only [OV.C18.setName, GoodT]
        exact ⟨h.1, GoodAll.setQual cs x h.2⟩
      · simp only [GoodT] at h
        simp only [OV.C18.setName, GoodT]
        exact ⟨h.1, GoodAll.setKey cs h.2⟩
  theorem GoodAll.setQual : ∀ (cs : Mods) (x : String), GoodAll cs → GoodAll (setNamesQual cs x)
    | .nil, _, _ => by simp [setNamesQual, GoodAll]
    | .cons k m r, x, h => by
      simp only [GoodAll] at h
      simp only [setNamesQual, GoodAll]
      exact ⟨h.1, GoodT.setName m _ h.2.1, GoodAll.setQual r x h.2.2⟩
  theorem GoodAll.setKey : ∀ (cs : Mods), GoodAll cs → GoodAll (setNamesKey cs)
    | .nil, _ => by simp [setNamesKey, GoodAll]
    | .cons k m r, h => by
      simp only [GoodAll] at h
      simp only [setNamesKey, GoodAll]
      exact ⟨h.1, GoodT.setName m _ h.2.1, GoodAll.setKey r h.2.2⟩
end

theorem GoodT.rawName (m : Mod) (x : String) (h : GoodT m) : GoodT (m.rawName x) := by
  cases m with
  | mk k n ps cs => cases k <;> simpa only [Mod.rawName, GoodT] using h

/-- `P` says of a `_modules` dict that every key is non-empty and every entry satisfies `Q`: the common shape of
`NamedKey`, `NamedQual e`, `GoodAll`. -/
structure EveryChild (P : Mods → Prop) (Q : String → Mod → Prop) : Prop where
  nil : P .nil
  cons : ∀ k m r, P (.cons k m r) ↔ k ≠ "" ∧ Q k m ∧ P r

theorem namedKey_every : EveryChild NamedKey Named := ⟨trivial, fun _ _ _ => by simp only [NamedKey]⟩

theorem namedQual_every (e : String) : EveryChild (NamedQual e) (fun k m => Named (e ++ "." ++ k) m) :=
  ⟨trivial, fun _ _ _ => by simp only [NamedQual]⟩

theorem goodAll_every : EveryChild GoodAll (fun _ m => GoodT m) := ⟨trivial, fun _ _ _ => by simp only [GoodAll]⟩

theorem EveryChild.insert {P : Mods → Prop} {Q : String → Mod → Prop} (E : EveryChild P Q) :
    ∀ (cs : Mods) (k : String) (c : Mod), k ≠ "" → Q k c → P cs → P (cs.insert k c)
  | .nil, k, c, hk, hc, _ => (E.cons k c .nil).mpr ⟨hk, hc, E.nil⟩
  | .cons k' m r, k, c, hk, hc, h => by
    obtain ⟨h1, h2, h3⟩ := (E.cons k' m r).mp h
    rw [Mods.insert]
    split
    · exact (E.cons k c r).mpr ⟨hk, hc, h3⟩
    · exact (E.cons k' m _).mpr ⟨h1, h2, E.insert r k c hk hc h3⟩

theorem NamedKey.insert : ∀ (cs : Mods) (k : String) (c : Mod), k ≠ "" → Named k c → NamedKey cs →
    NamedKey (cs.insert k c)
  | cs, k, c, hk, hc, h => namedKey_every.insert cs k c hk hc h

theorem GoodAll.insert : ∀ (cs : Mods) (k : String) (c : Mod), k ≠ "" → GoodT c → GoodAll cs →
    GoodAll (cs.insert k c)
  | cs, k, c, hk, hc, h => goodAll_every.insert cs k c hk hc h

theorem NamedQual.insert : ∀ (cs : Mods) (e k : String) (c : Mod), k ≠ "" → Named (e ++ "." ++ k) c →
    NamedQual e cs → NamedQual e (cs.insert k c)
  | cs, e, k, c, hk, hc, h => (namedQual_every e).insert cs k c hk hc h

theorem ParamsAgree.insert (ps : List Param) (p : Param) (hp : p.name = p.attr) (h : ParamsAgree ps) :
    ParamsAgree (insertParam ps p) := by
  induction ps with
  | nil => intro q hq; simp only [insertParam, List.mem_singleton] at hq; subst hq; exact hp
  | cons a t ih =>
    simp only [insertParam]
    split
    · intro q hq
      simp only [List.mem_cons] at hq
      rcases hq with rfl | hq
      · exact hp
      · exact h q (by simp [hq])
    · intro q hq
      simp only [List.mem_cons] at hq
      rcases hq with rfl | hq
      · exact h _ (by simp)
      · exact ih (fun q hq => h q (by simp [hq])) q hq

theorem GoodT.listChild (ln : Option String) (key : String) (c : Mod) (hc : GoodT c) :
    GoodT (listChild ln key c) := by
  unfold OV.C18.listChild
  split
  · split
    · exact GoodT.setName c _ hc
    · exact GoodT.rawName c key hc
  · exact hc

theorem GoodT.seqChild (key : String) (c : Mod) (hc : GoodT c) : GoodT (seqChild key c) := by
  unfold OV.C18.seqChild
  split
  · exact GoodT.rawName c key hc
  · exact hc

theorem GoodT.regChildList_unnamed (l c : Mod) (key : String) (hk : key ≠ "") (hl : l.kind = .list)
    (hg : GoodT l) (hc : GoodT c) : GoodT (regChildList l key c) := by
  cases l with
  | mk k n ps cs =>
    simp only [Mod.kind] at hl
    subst hl
    simp only [GoodT] at hg
    simp only [regChildList, GoodT]
    exact ⟨hg.1, GoodAll.insert cs key _ hk (GoodT.listChild n key c hc) hg.2⟩

theorem GoodT.regChildSeq (l c : Mod) (key : String) (hk : key ≠ "") (hl : l.kind = .seq)
    (hg : GoodT l) (hc : GoodT c) : GoodT (regChildSeq l key c) := by
  cases l with
  | mk k n ps cs =>
    simp only [Mod.kind] at hl
    subst hl
    simp only [GoodT] at hg
    simp only [OV.C18.regChildSeq, GoodT]
    exact ⟨hg.1, GoodAll.insert cs key _ hk (GoodT.seqChild key c hc) hg.2⟩

theorem regChildList_kind (l c : Mod) (key : String) : (regChildList l key c).kind = l.kind := by
  cases l; simp [regChildList, Mod.kind]

theorem GoodT.append (l c : Mod) (hl : l.kind ≠ .module) (hg : GoodT l) (hc : GoodT c) :
    GoodT (append l c) := by
  unfold OV.C18.append regChild
  cases hk : l.kind with
  | module => exact absurd hk hl
  | list => exact GoodT.regChildList_unnamed l c _ Nat.repr_ne_empty hk hg hc
  | seq => exact GoodT.regChildSeq l c _ Nat.repr_ne_empty hk hg hc

theorem GoodAll.mem : ∀ (cs : Mods), GoodAll cs → ∀ x ∈ cs.toList, GoodT x.2
  | .nil, _, x, hx => by cases hx
  | .cons k m r, h, x, hx => by
    obtain ⟨_, h2, h3⟩ := (goodAll_every.cons k m r).mp h
    rcases List.mem_cons.mp hx with rfl | hx
    · exact h2
    · exact GoodAll.mem r h3 x hx

theorem GoodT.regAll : ∀ (cs : List Mod) (l : Mod) (i : Nat), l.kind = .list → GoodT l →
    (∀ c ∈ cs, GoodT c) → GoodT (regAll l i cs)
  | [], l, _, _, hg, _ => by simpa [OV.C18.regAll] using hg
  | c :: r, l, i, hl, hg, hc => by
    simp only [OV.C18.regAll]
    apply GoodT.regAll r _ (i + 1)
    · rw [regChildList_kind]; exact hl
    · exact GoodT.regChildList_unnamed l c _ Nat.repr_ne_empty hl hg (hc c (by simp))
    · intro c' hc'; exact hc c' (by simp [hc'])

theorem GoodT.slice (l : Mod) (idxs : List Nat) (hl : l.kind ≠ .module) (hg : GoodT l) :
    GoodT (slice l idxs) := by
  unfold OV.C18.slice
  apply GoodT.regAll
  · rfl
  · simp [GoodT, GoodAll]
  · intro c hc
    simp only [List.mem_filterMap] at hc
    obtain ⟨i, _, hi⟩ := hc
    cases hx : l.children.toList[i]? with
    | none => simp [hx] at hi
    | some x =>
      simp only [hx, Option.map_some, Option.some.injEq] at hi
      subst hi
      have hmem : x ∈ l.children.toList := List.mem_of_getElem? hx
      cases l with
      | mk k n ps cs =>
        cases k
        · exact absurd rfl hl
        · simp only [GoodT] at hg; exact GoodAll.mem cs hg.2 x hmem
        · simp only [GoodT] at hg; exact GoodAll.mem cs hg.2 x hmem

/-- `Parameter(name=None | attr)` assigned to `self.attr`: the stored name is the attribute name. -/
theorem param_agrees {pname : Option String} (attr : String) (pid : Nat) (hp : pname = none ∨ pname = some attr) :
    (⟨attr, pname.getD attr, pid⟩ : Param).name = (⟨attr, pname.getD attr, pid⟩ : Param).attr := by
  rcases hp with rfl | rfl <;> rfl

theorem GoodT.setParam (m : Mod) (attr : String) (pname : Option String) (pid : Nat)
    (hk : m.kind ≠ .list) (hp : pname = none ∨ pname = some attr) (hg : GoodT m) :
    GoodT (setParam m attr pname pid) := by
  have hn := param_agrees attr pid hp
  cases m with
  | mk k n ps cs =>
    cases k
    · simp only [GoodT] at hg; simp only [OV.C18.setParam, GoodT]
      exact ⟨ParamsAgree.insert ps _ hn hg.1, hg.2⟩
    · exact absurd rfl hk
    · simp only [GoodT] at hg; simp only [OV.C18.setParam, GoodT]
      exact ⟨ParamsAgree.insert ps _ hn hg.1, hg.2⟩

theorem Named.attrChild (c : Mod) (attr : String)
    (hcn : c.name = none ∨ (c.kind = .module ∧ c.name = some attr)) (hc : GoodT c) :
    Named attr (attrChild attr c) := by
  unfold OV.C18.attrChild
  rcases hcn with h | ⟨hk, h⟩
  · simp only [h]; exact GoodT.named c attr hc
  · simp only [h]
    cases c with
    | mk k' n' ps' cs' =>
      simp only [Mod.kind] at hk
      subst hk
      simp only [Mod.name] at h
      subst h
      simp only [GoodT] at hc
      simp only [Named]
      exact ⟨trivial, hc.1, hc.2⟩

theorem GoodT.setChild (m c : Mod) (attr : String) (hm : m.kind = .module) (ha : attr ≠ "")
    (hcn : c.name = none ∨ (c.kind = .module ∧ c.name = some attr)) (hg : GoodT m) (hc : GoodT c) :
    GoodT (setChild m attr c) := by
  cases m with
  | mk k n ps cs =>
    simp only [Mod.kind] at hm
    subst hm
    simp only [GoodT] at hg
    simp only [OV.C18.setChild, GoodT]
    exact ⟨hg.1, NamedKey.insert cs attr _ ha (Named.attrChild c attr hcn hc) hg.2⟩

theorem GoodT.rootNamed_module (m : Mod) (hk : m.kind = .module) (hg : GoodT m) : RootNamed m := by
  cases m with
  | mk k n ps cs =>
    simp only [Mod.kind] at hk
    subst hk
    simp only [GoodT] at hg
    simp only [RootNamed]
    exact ⟨by decide, hg.1, hg.2⟩

theorem GoodT.rootNamed_seq (m : Mod) (e : String) (hk : m.kind = .seq) (hg : GoodT m) :
    RootNamed (OV.C18.setName m e) := by
  cases m with
  | mk k n ps cs =>
    simp only [Mod.kind] at hk
    subst hk
    simp only [GoodT] at hg
    simp only [OV.C18.setName, RootNamed]
    exact ⟨by decide, hg.1, GoodAll.key cs hg.2⟩

mutual
  theorem visitB_eq_visit (ctl : List (List String)) : ∀ (m : Mod) (path top : List String)
      (rest : List (List String)), visitB SubPolicy.code ctl path top rest m = visit top m
    | .mk k n ps cs, path, top, rest => by
      cases k
      · simp only [visitB, visit, show SubPolicy.code.qualifyCurrent = true from rfl,
          show SubPolicy.code.inheritParent = true from rfl, if_true]
        split <;> rw [visitAllB_eq_visitAll ctl cs]
      · simp only [visitB, visit]
        exact visitAllB_eq_visitAll ctl cs path top rest
      · simp only [visitB, visit, show SubPolicy.code.qualifyCurrent = true from rfl,
          show SubPolicy.code.inheritParent = true from rfl, if_true]
        split <;> rw [visitAllB_eq_visitAll ctl cs]
  theorem visitAllB_eq_visitAll (ctl : List (List String)) : ∀ (cs : Mods) (path top : List String)
      (rest : List (List String)), visitAllB SubPolicy.code ctl path top rest cs = visitAll top cs
    | .nil, _, _, _ => by simp [visitAllB, visitAll]
    | .cons k m r, path, top, rest => by
      simp only [visitAllB, visitAll]
      rw [visitB_eq_visit ctl m, visitAllB_eq_visitAll ctl r]
end

theorem realizeB_eq_realize (ctl : List (List String)) (root : Mod) :
    realizeB SubPolicy.code ctl root = realize root := by
  cases root with
  | mk k n ps cs =>
    simp only [realizeB, realize, callRoot]
    split <;> rw [visitAllB_eq_visitAll ctl cs]

theorem EveryChild.go {P : Mods → Prop} {Q : String → Mod → Prop} (E : EveryChild P Q) (f : Mod → Mod)
    (T : Mod → Prop) (k : String) (ks : List String)
    (ih : ∀ (k' : String) (m : Mod), (∀ t, nodeAt ks m = some t → T t) → Q k' m → Q k' (modifyAt ks f m)) :
    ∀ cs : Mods, (∀ m t, cs.find? k = some m → nodeAt ks m = some t → T t) → P cs → P (modifyAt.go k ks f cs)
  | .nil, _, h => h
  | .cons k' m r, ht, h => by
    obtain ⟨h1, h2, h3⟩ := (E.cons k' m r).mp h
    rw [modifyAt.go]
    split
    · rename_i hk
      exact (E.cons k' _ r).mpr ⟨h1, ih k' m (fun t hn => ht m t (by simp [Mods.find?, hk]) hn) h2, h3⟩
    · rename_i hk
      exact (E.cons k' m _).mpr ⟨h1, h2,
        E.go f T k ks ih r (fun m' t hf' hn => ht m' t (by simp [Mods.find?, hk, hf']) hn) h3⟩

theorem modifyAt_named (f : Mod → Mod) (T : Mod → Prop)
    (hf : ∀ e m, T m → Named e m → Named e (f m)) :
    ∀ (path : List String) (m : Mod) (e : String), (∀ t, nodeAt path m = some t → T t) → Named e m →
      Named e (modifyAt path f m)
  | [], m, e, ht, h => by
    simp only [modifyAt]
    exact hf e m (ht m rfl) h
  | k :: ks, .mk kd n ps cs, e, ht, h => by
    have ih := modifyAt_named f T hf ks
    have ht' : ∀ m t, cs.find? k = some m → nodeAt ks m = some t → T t := by
      intro m t hm hn
      apply ht t
      simp [nodeAt, hm, hn]
    simp only [Named] at h
    simp only [modifyAt, Named]
    refine ⟨h.1, h.2.1, ?_⟩
    cases kd
    · exact namedKey_every.go f T k ks (fun k' m => ih m k') cs ht' h.2.2
    · exact ⟨h.2.2.1, (namedQual_every e).go f T k ks (fun k' m => ih m _) cs ht' h.2.2.2⟩
    · exact namedKey_every.go f T k ks (fun k' m => ih m k') cs ht' h.2.2

/-- The root as it is called, seen as named by any name `e`: its own stored name is not read, only its children
matter. -/
theorem rootNamed_iff (e : String) {k : Kind} {n : Option String} {ps : List Param} {cs : Mods} :
    RootNamed (.mk k n ps cs) ↔ k ≠ .list ∧ Named e (.mk k (some e) ps cs) := by
  cases k <;> simp [RootNamed, Named]

theorem modifyAt_rootNamed (f : Mod → Mod) (T : Mod → Prop)
    (hf : ∀ e m, T m → Named e m → Named e (f m))
    (hroot : ∀ m, T m → RootNamed m → RootNamed (f m)) (path : List String) (root : Mod)
    (ht : ∀ t, nodeAt path root = some t → T t) (h : RootNamed root) : RootNamed (modifyAt path f root) := by
  cases path with
  | nil => simp only [modifyAt]; exact hroot root (ht root rfl) h
  | cons k ks =>
    cases root with
    | mk kd n ps cs =>
      obtain ⟨hk, hN⟩ := (rootNamed_iff "r").mp h
      exact (rootNamed_iff "r").mpr ⟨hk, modifyAt_named f T hf (k :: ks) (.mk kd (some "r") ps cs) "r" ht hN⟩

theorem Named.setParam (e : String) (m : Mod) (attr : String) (pname : Option String) (pid : Nat)
    (hk : m.kind ≠ .list) (hp : pname = none ∨ pname = some attr) (h : Named e m) :
    Named e (OV.C18.setParam m attr pname pid) := by
  have hn := param_agrees attr pid hp
  cases m with
  | mk k n ps cs =>
    cases k
    · simp only [Named] at h; simp only [OV.C18.setParam, Named]
      exact ⟨h.1, ParamsAgree.insert ps _ hn h.2.1, h.2.2⟩
    · exact absurd rfl hk
    · simp only [Named] at h; simp only [OV.C18.setParam, Named]
      exact ⟨h.1, ParamsAgree.insert ps _ hn h.2.1, h.2.2⟩

theorem RootNamed.setParam (m : Mod) (attr : String) (pname : Option String) (pid : Nat)
    (hp : pname = none ∨ pname = some attr) (h : RootNamed m) :
    RootNamed (OV.C18.setParam m attr pname pid) := by
  cases m with
  | mk k n ps cs =>
    obtain ⟨hk, hN⟩ := (rootNamed_iff "r").mp h
    exact (rootNamed_iff "r").mpr ⟨hk, Named.setParam "r" (.mk k (some "r") ps cs) attr pname pid hk hp hN⟩

theorem Named.setChild (e : String) (m c : Mod) (attr : String) (hm : m.kind = .module) (ha : attr ≠ "")
    (hcn : c.name = none ∨ (c.kind = .module ∧ c.name = some attr)) (hc : GoodT c) (h : Named e m) :
    Named e (OV.C18.setChild m attr c) := by
  cases m with
  | mk k n ps cs =>
    simp only [Mod.kind] at hm
    subst hm
    simp only [Named] at h
    simp only [OV.C18.setChild, Named]
    exact ⟨h.1, h.2.1, NamedKey.insert cs attr _ ha (Named.attrChild c attr hcn hc) h.2.2⟩

theorem RootNamed.setChild (m c : Mod) (attr : String) (hm : m.kind = .module) (ha : attr ≠ "")
    (hcn : c.name = none ∨ (c.kind = .module ∧ c.name = some attr)) (hc : GoodT c) (h : RootNamed m) :
    RootNamed (OV.C18.setChild m attr c) := by
  cases m with
  | mk k n ps cs =>
    obtain ⟨hk, hN⟩ := (rootNamed_iff "r").mp h
    exact (rootNamed_iff "r").mpr ⟨hk, Named.setChild "r" (.mk k (some "r") ps cs) c attr hm ha hcn hc hN⟩

theorem Named.seqChild_module (key : String) (c : Mod) (hk : c.kind = .module) (hcn : c.name = none)
    (hc : GoodT c) : Named key (seqChild key c) := by
  cases c with
  | mk k n ps cs =>
    simp only [Mod.kind] at hk
    subst hk
    simp only [Mod.name] at hcn
    subst hcn
    simp only [GoodT] at hc
    simp only [OV.C18.seqChild, Mod.name, Mod.rawName, Named]
    exact ⟨trivial, hc.1, hc.2⟩

theorem Named.append (e : String) (l c : Mod)
    (hl : l.kind = .list ∨ (l.kind = .seq ∧ c.kind = .module)) (hc : GoodT c) (hcn : c.name = none)
    (h : Named e l) : Named e (OV.C18.append l c) := by
  cases l with
  | mk k n ps cs =>
    cases k
    · simp [Mod.kind] at hl
    · simp only [Named] at h
      obtain ⟨rfl, hp, hps, hq⟩ := h
      simp only [OV.C18.append, regChild, Mod.kind, regChildList, Named]
      refine ⟨trivial, hp, hps, NamedQual.insert cs e _ _ Nat.repr_ne_empty ?_ hq⟩
      simp only [listChild, hcn]
      exact GoodT.named c _ hc
    · have hck : c.kind = .module := by
        rcases hl with h' | h'
        · simp [Mod.kind] at h'
        · exact h'.2
      simp only [Named] at h
      simp only [OV.C18.append, regChild, Mod.kind, regChildSeq, Named]
      exact ⟨h.1, h.2.1, NamedKey.insert cs _ _ Nat.repr_ne_empty
        (Named.seqChild_module _ c hck hcn hc) h.2.2⟩

theorem RootNamed.append (l c : Mod) (hl : l.kind = .list ∨ (l.kind = .seq ∧ c.kind = .module)) (hc : GoodT c)
    (hcn : c.name = none) (h : RootNamed l) : RootNamed (OV.C18.append l c) := by
  cases l with
  | mk k n ps cs =>
    obtain ⟨hk, hN⟩ := (rootNamed_iff "r").mp h
    have := Named.append "r" (.mk k (some "r") ps cs) c hl hc hcn hN
    -- a Sequential registers a child without reading its own name
    cases k with
    | module => simp [Mod.kind] at hl
    | list => exact absurd rfl hk
    | seq => exact (rootNamed_iff "r").mpr ⟨hk, this⟩

theorem of_all {P : Mod → Prop} [DecidablePred P] {o : Option Mod}
    (h : o.all (fun t => decide (P t)) = true) : ∀ t, o = some t → P t := by
  intro t ht; subst ht; simpa using h

/-! Nothing above or in the other modules uses what follows. -/

theorem qualifyInit_snoc_empty (sc : List String) (x : String) :
    qualifyInit (sc ++ [""]) x = qualifyInit sc x := by
  unfold qualifyInit
  simp [List.filter_append]

end OV.C18
