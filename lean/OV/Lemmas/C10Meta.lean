import OV.Model.C10Meta
import OV.Lemmas.C10Dict
namespace OV.C10

namespace Meta

theorem get_append_of_has {d e : Props} {k : String} (h : d.has k = true) : Props.get (d ++ e) k = d.get k := by
  simp only [Props.has, List.any_eq_true] at h
  obtain ⟨x, hx, hk⟩ := h
  simp only [Props.get, List.find?_append]
  cases hf : d.find? (fun e => e.1 == k) with
  | some y => rfl
  | none => exact absurd hk (by simpa using List.find?_eq_none.mp hf x hx)

theorem has_iff_get {d : Props} {k : String} : d.has k = true ↔ (d.get k).isSome = true := by
  rw [show d.has k = _ from any_eq_look d k, Props.get, Option.isSome_map]

theorem merge_get (old d : Props) (k : String) : (d.merge old).get k = (d.get k).or (old.get k) := by
  have := congrArg (Option.map (·.2)) (look_mergeD old d k)
  rwa [Option.map_or] at this

theorem setdefault_get (d : Props) (k v k' : String) :
    (d.setdefault k v).get k' = (d.get k').or (if k == k' then some v else none) := by
  rw [show d.setdefault k v = d.merge [(k, v)] from rfl, merge_get]
  simp only [Props.get, List.find?_singleton]
  cases k == k' <;> rfl

end Meta

end OV.C10
