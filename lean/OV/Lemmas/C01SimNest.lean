import OV.Lemmas.C01SimFor
/-!
# C01 — loops nested in loops and branches

The facts `BodyFacts` that `for_step` / `while_step` need about a loop body hold of every block of the nested-loop
fragment (`nestBlock`): the source-level ones are in `C01Frag`, the simulation is established here as an instance
of the fragment's rule induction (`NestRules`); the simulation of a loop then applies to bodies that contain loops themselves.
-/
namespace OV.C01

variable {V : Type}

theorem nestRules_sim (S : Sem V) (fuel : Nat) (hConst : ∀ l, ∃ c, constOf S l = some c)
    (hId : ∀ v, S.op "" "Identity" [some v] [] = some [v])
    (hTL : ∀ l c b, constOf S l = some c → truthPV S (.py l) = some b → S.truth c = some b)
    (hT : S.truth (S.ofBool true) = some true)
    (hNat : ∀ k c, constOf S (.int k) = some c → S.natOf c = some k.toNat) :
    NestRules (fun st lo => True → SimStmt S fuel (EvFrom S) st lo) (fun ss lo => True → SimBlock S fuel (EvFrom S) ss lo) :=
  fragRules_sim S fuel hConst hId hTL (EvalRel.evFrom S fuel) (fun _ => ⟨trivial, trivial⟩) (fun _ => ⟨trivial, trivial⟩)
    (@fun i b body lo d hf _ ih ρ ρ' L L' env s s' ns hfree hinv he h => by
      have hTF : TFree S (targetsStmt (.for_ i true b body)) := TFree.of_free hinv.noattr hfree
      have hB := bodyFacts_of_nest S fuel hf.body (hTF.sub (fun y hy => by simp [targetsStmt, hy]))
        (fun hf' hinv' he' hc' => ih trivial hf' hinv' he' hc')
      obtain ⟨G, env', ev, r⟩ := for_step S fuel hConst hId hT hNat (pre := body) (bt := none) (by simp [brkTail])
        (Or.inl rfl) (by rw [brkLive_none]; exact hB) (fun _ hc => by cases hc) hf.assigned hf.fresh (hTF i (by simp [targetsStmt]))
        (hfree.sub (fun x hx => by simp [targetsStmt, hx])) hf.stable hinv he h
      exact ⟨env', EvFrom.of_eval ev, r⟩)
    (@fun t body lo d state hw _ ih ρ ρ' L L' env s s' ns hfree hinv he h => by
      have hTF : TFree S (targetsStmt (.while_ (.var t) body)) := TFree.of_free hinv.noattr hfree
      have hB := bodyFacts_of_nest S fuel hw.body (hTF.sub (fun y hy => by simp [targetsStmt, hy]))
        (fun hf' hinv' he' hc' => ih trivial hf' hinv' he' hc')
      obtain ⟨G, env', ev, r⟩ := while_step S fuel hId (pre := body) (bt := none) (by simp [brkTail]) (Or.inl rfl)
        (by rw [brkLive_none]; exact hB) (fun _ hc => by cases hc) hw.assigned hw.carried hw.cond hw.stable
        (hTF t (by simp [targetsStmt, bareVar])) (hfree.sub (fun x hx => by simp [targetsStmt, hx])) hinv he h
      exact ⟨env', EvFrom.of_eval ev, r⟩)

theorem nestBlock_sim (S : Sem V) (fuel : Nat) (hConst : ∀ l, ∃ c, constOf S l = some c)
    (hId : ∀ v, S.op "" "Identity" [some v] [] = some [v])
    (hTL : ∀ l c b, constOf S l = some c → truthPV S (.py l) = some b → S.truth c = some b) (hT : S.truth (S.ofBool true) = some true)
    (hNat : ∀ k c, constOf S (.int k) = some c → S.natOf c = some k.toNat) :
    ∀ (ss : List Stmt) (lo : VSet) {ρ ρ' : Store V} {L L' : Locals} {env : Env V} {s s' : St} {ns : List Node},
    nestBlock ss lo = true → FreeOf S L (targetsBlock ss) → Inv S (liveInBlock ss lo) ρ L env s →
    evalBlock S fuel ss ρ = some (.normal ρ') → convStmts L ss lo s = .ok ((L', ns), s') →
    ∃ env', EvFrom S env ns env' ∧ Inv S lo ρ' L' env' s' ∧ Ext env env' s s' ∧ Mono s s' :=
  fun ss lo _ _ _ _ _ _ _ _ hi hfree hinv he h => by
    obtain ⟨env', ⟨G, ev⟩, inv⟩ := (nestRules_sim S fuel hConst hId hTL hT hNat).block ss lo hi trivial hfree hinv he h
    have f := convStmts_fresh _ ss lo h
    exact ⟨env', ⟨G, ev⟩, inv, f.ext (ev G (Nat.le_refl _)), f.1.mono⟩

theorem nestLine_cons {st : Stmt} {ss : List Stmt} (h : nestLine (st :: ss) = true) :
    (∃ es, st = .ret es false ∧ ss = []) ∨
      (((litAssign st = true ∨ nestStmt st (liveInBlock ss []) = true) ∨ forTopStmt st (liveInBlock ss []) = true)
        ∧ nestLine ss = true) := by
  unfold nestLine at h
  cases st with
  | ret es bare =>
    cases ss with
    | nil =>
      simp only [Bool.not_eq_true'] at h
      subst h
      exact Or.inl ⟨es, rfl, rfl⟩
    | cons s2 ss2 => simp [forTopStmt, ifStmt, nestStmt, litAssign] at h
  | _ => right; simpa using h

theorem convTop_nest_sim (S : Sem V) (fuel : Nat) (hConst : ∀ l, ∃ c, constOf S l = some c)
    (hId : ∀ v, S.op "" "Identity" [some v] [] = some [v])
    (hTL : ∀ l c b, constOf S l = some c → truthPV S (.py l) = some b → S.truth c = some b) (hT : S.truth (S.ofBool true) = some true)
    (hNat : ∀ k c, constOf S (.int k) = some c → S.natOf c = some k.toNat) (hOps : BrkOps S)
    {inputs : List Name} {rc : Option Nat} :
    ∀ (body : List Stmt) (L : Locals) {ρ : Store V} {env : Env V} {s s' : St} {ns : List Node}
      {outs : List Name} {pvs : List (PV V)} {vs : List V},
      nestLine body = true → FreeOf S L (targetsTop body) →
      (∀ x, x ∈ litTargets body → S.attrLit x = none ∧ x ∈ S.pyVars) →
      Inv S (liveInBlock body []) ρ L env s →
      evalBlock S fuel body ρ = some (.returned pvs) → pvs.mapM (toTensor S) = some vs →
      convTop inputs rc L body [] s = .ok ((ns, outs), s') →
      ∃ G env', evalNodes S G env ns = some env' ∧ outs.mapM env' = some vs
  | [], _, _, _, _, _, _, _, _, _, hi, _, _, _, _, _, _ => by simp [nestLine] at hi
  | st :: ss, L, ρ, env, s, s', ns, outs, pvs, vs, hi, hfree, hLT, hinv, he, hv, h => by
    rcases nestLine_cons hi with ⟨es, rfl, rfl⟩ | ⟨hst, hss⟩
    · exact ⟨fuel, ret_step S fuel hConst hId hinv he hv h⟩
    · unfold liveInBlock at hinv
      obtain ⟨o1, hs, he⟩ := evalBlock_cons_some he
      obtain ⟨L1, ns1, s1, ns2, h1, h2, rfl⟩ := convTop_cons_ok (fun es b hc => by
        subst hc
        rcases hst with (h' | h') | h'
        · simp [litAssign] at h'
        · simp [nestStmt] at h'
        · simp [forTopStmt, ifStmt] at h') h
      -- one top-level statement: a literal assignment, a statement of the nested fragment, or a top-level loop
      obtain ⟨ρ1, rfl, G1, env1, ev1, inv1⟩ : ∃ ρ1, o1 = .normal ρ1 ∧ ∃ G env', evalNodes S G env ns1 = some env' ∧
          Inv S (liveInBlock ss []) ρ1 L1 env' s1 := by
        cases hlit : litAssign st with
        | true =>
          cases st with
          | assign y e =>
            simp only [litAssign, Bool.not_eq_true'] at hlit
            obtain ⟨hyl, hyP⟩ := hLT y (by simp [litTargets, hlit])
            obtain ⟨pv, _, rfl⟩ := evalStmt_assign_some hs
            obtain ⟨env', ev, inv'⟩ := assign_step S fuel hConst hyl (Or.inl hyP) hinv hs h1
            exact ⟨_, rfl, fuel, env', ev, inv'⟩
          | _ => simp [litAssign] at hlit
        | false =>
          have hfreeS : FreeOf S L (targetsStmt st) := hfree.sub (fun x hx => by simp [targetsTop, hlit, hx])
          rcases hst with (h' | h') | h'
          · rw [hlit] at h'; cases h'
          · obtain ⟨ρ1, rfl, _⟩ := (nestRules_run S fuel).stmt st _ h' (TFree.of_free hinv.noattr hfreeS) hinv.allT hs
            obtain ⟨env', ⟨G, ev⟩, inv'⟩ := (nestRules_sim S fuel hConst hId hTL hT hNat).stmt st _ h' trivial hfreeS hinv hs h1
            exact ⟨ρ1, rfl, G, env', ev G (Nat.le_refl _), inv'⟩
          · exact top_step S fuel hConst hId hTL hT hNat hOps st _ h' hfreeS hinv hs h1
      obtain ⟨G2, env2, ev2, hm2⟩ := convTop_nest_sim S fuel hConst hId hTL hT hNat hOps ss L1 hss
        ((hfree.sub (fun x hx => by simp [targetsTop, hx])).mono (convStmt_attrMono L st _ h1))
        (fun x hx => hLT x (by
          cases st with
          | assign y e => unfold litTargets; split <;> simp [hx]
          | _ => simpa [litTargets] using hx)) inv1 he hv h2
      exact ⟨max G1 G2, env2,
        evalNodes_seq (evalNodes_mono S ns1 G1 _ _ _ (Nat.le_max_left _ _) ev1)
          (evalNodes_mono S _ G2 _ _ _ (Nat.le_max_right _ _) ev2), hm2⟩

theorem convert_correct_nest (S : Sem V) (hConst : ∀ l, ∃ c, constOf S l = some c)
    (hId : ∀ v, S.op "" "Identity" [some v] [] = some [v])
    (hTL : ∀ l c b, constOf S l = some c → truthPV S (.py l) = some b → S.truth c = some b) (hT : S.truth (S.ofBool true) = some true)
    (hNat : ∀ k c, constOf S (.int k) = some c → S.natOf c = some k.toNat)
    (hNot : ∀ v bk, S.truth v = some bk → ∃ w, S.op "" "Not" [some v] [] = some [w] ∧ S.truth w = some (!bk))
    (hAnd : ∀ x y yb, S.truth y = some yb → ∃ w, S.op "" "And" [some x, some y] [] = some [w] ∧
      (yb = false → S.truth w = some false) ∧ (yb = true → S.truth w = S.truth x))
    {f : Func} {g : Graph}
    (hil : nestLine f.body = true) (hattr : ∀ p, p ∈ attrParams f.params → p ∉ targetsTop f.body)
    (hσ : ∀ x l, S.attrLit x = some l → ∃ ty, Param.attr x ty ∈ f.params ∧ AttrVal S x ty l)
    (hPy : ∀ x, x ∈ S.pyVars → x ∉ targetsTop f.body)
    (hLT : ∀ x, x ∈ litTargets f.body → S.attrLit x = none ∧ x ∈ S.pyVars)
    (hnames : (f.params.map Param.name).Nodup) (h : convert f = .ok g)
    {fuel : Nat} {args vs : List V} (he : evalFunc S fuel f args = some vs) :
    ∃ G, evalGraph S G g args = some vs := by
  obtain ⟨ρ, env, s, s', ns, outs, pvs, hc, hb, hv, hL, hA, hs, hR, hAT, hbd, hfin⟩ := convert_entry S hσ hnames h he
  obtain ⟨G, env', ev, hm⟩ := convTop_nest_sim S fuel hConst hId hTL hT hNat ⟨hNot, hAnd⟩ f.body _ hil
    (freeOf_paramFrame _ _ hattr hPy) hLT (Inv.entry hL hA hs hR hAT hbd _) hb hv hc
  exact ⟨G, hfin G env' ev hm⟩

theorem forLine_nestLine : ∀ (body : List Stmt), forLine body = true →
    nestLine body = true ∧ targetsTop body = targetsBlock body ∧ litTargets body = []
  | [], h => by simp [forLine] at h
  | st :: ss, h => by
    rcases forLine_cons h with ⟨es, rfl, rfl⟩ | ⟨hst, hss⟩
    · simp [nestLine, targetsTop, targetsBlock, litTargets, litAssign]
    · obtain ⟨h1, h2, h3⟩ := forLine_nestLine ss hss
      have hl : litAssign st = false := by
        cases st with
        | assign x e => simpa [forTopStmt, ifStmt, litAssign] using hst
        | _ => rfl
      refine ⟨?_, by simp [targetsTop, targetsBlock, hl, h2], ?_⟩
      · unfold nestLine
        cases st with
        | ret es b => simp [forTopStmt, ifStmt] at hst
        | _ => simp [hst, h1]
      · cases st with
        | assign x e => simp only [litAssign, Bool.not_eq_false'] at hl; simp [litTargets, hl, h3]
        | _ => simpa [litTargets] using h3

/-- The graph may need more evaluation fuel than the Python run (one unit per nesting level plus the trip
count), so the conclusion is for some fuel; by `evalNodes_mono` it then holds for every larger one. -/
theorem convert_correct_for (S : Sem V) (hConst : ∀ l, ∃ c, constOf S l = some c)
    (hId : ∀ v, S.op "" "Identity" [some v] [] = some [v])
    (hTL : ∀ l c b, constOf S l = some c → truthPV S (.py l) = some b → S.truth c = some b) (hT : S.truth (S.ofBool true) = some true)
    (hNat : ∀ k c, constOf S (.int k) = some c → S.natOf c = some k.toNat)
    (hNot : ∀ v bk, S.truth v = some bk → ∃ w, S.op "" "Not" [some v] [] = some [w] ∧ S.truth w = some (!bk))
    (hAnd : ∀ x y yb, S.truth y = some yb → ∃ w, S.op "" "And" [some x, some y] [] = some [w] ∧
      (yb = false → S.truth w = some false) ∧ (yb = true → S.truth w = S.truth x))
    {f : Func} {g : Graph}
    (hil : forLine f.body = true) (hattr : ∀ p, p ∈ attrParams f.params → p ∉ targetsBlock f.body)
    (hσ : ∀ x l, S.attrLit x = some l → ∃ ty, Param.attr x ty ∈ f.params ∧ AttrVal S x ty l)
    (hPy : ∀ x, x ∈ S.pyVars → x ∉ targetsBlock f.body)
    (hnames : (f.params.map Param.name).Nodup) (h : convert f = .ok g)
    {fuel : Nat} {args vs : List V} (he : evalFunc S fuel f args = some vs) :
    ∃ G, evalGraph S G g args = some vs := by
  obtain ⟨hn, ht, hl⟩ := forLine_nestLine f.body hil
  exact convert_correct_nest S hConst hId hTL hT hNat hNot hAnd hn (ht ▸ hattr) hσ (ht ▸ hPy)
    (fun x hx => by rw [hl] at hx; cases hx) hnames h he

end OV.C01
