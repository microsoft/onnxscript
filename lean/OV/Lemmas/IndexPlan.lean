import OV.Model.Index
import OV.Lemmas.Index
/-! C11, plan level, first part: views and `axiswise`, the positions a front end selects from a component
list, and the Slice(+Squeeze) stage of a plan fused into one function per axis (`sliceAxis`) — proved once
(`slice_stage`) for the converter and for eager mode, which differ in what a component registers. -/
namespace OV.Index

theorem runPlan_nil (v : View) : runPlan [] v = .ok v := rfl

theorem runPlan_append (p q : Plan) (v : View) :
    runPlan (p ++ q) v = (match runPlan p v with
                          | .ok v' => runPlan q v'
                          | .error e => .error e) := by
  unfold runPlan
  rw [List.foldlM_append]
  cases List.foldlM (fun v op => runOp op v) v p <;> rfl

theorem runPlan_append_ok (p q : Plan) (v r : View) :
    runPlan (p ++ q) v = .ok r ↔ ∃ v', runPlan p v = .ok v' ∧ runPlan q v' = .ok r := by
  rw [runPlan_append]
  cases runPlan p v <;> simp

theorem runPlan_singleton (op : PlanOp) (v : View) : runPlan [op] v = runOp op v := by
  unfold runPlan
  simp only [List.foldlM, bind, Except.bind, pure, Except.pure]
  cases runOp op v <;> rfl

theorem runPlan_cons_ok (op : PlanOp) (p : Plan) (v r : View) :
    runPlan (op :: p) v = .ok r ↔ ∃ v', runOp op v = .ok v' ∧ runPlan p v' = .ok r := by
  rw [show op :: p = [op] ++ p from rfl, runPlan_append_ok, runPlan_singleton]

instance : LawfulBEq Kind where
  eq_of_beq {a b} h := by cases a <;> cases b <;> first | rfl | cases h
  rfl {a} := by cases a <;> rfl

theorem slice_kind (lo hi st : Bnd) :
    (Comp.slice lo hi st).kind = if lo = .none ∧ hi = .none ∧ st = .none then Kind.skip else Kind.sliced := by
  cases lo <;> cases hi <;> cases st <;> rfl

theorem slice_kind_cases (lo hi st : Bnd) :
    (Comp.slice lo hi st).kind = Kind.skip ∨ (Comp.slice lo hi st).kind = Kind.sliced := by
  rw [slice_kind]; split <;> simp

theorem kind_scalar (c : Comp) (h : c.kind = Kind.scalar) : ∃ i, c = .int i := by
  cases c with
  | int i => exact ⟨i, rfl⟩
  | slice lo hi st => rcases slice_kind_cases lo hi st with hk | hk <;> rw [hk] at h <;> cases h
  | full => cases h
  | tScalar v => cases h
  | tVec v => cases h

theorem kind_skip_of_not (c : Comp) (h1 : (c.kind == Kind.sliced) = false)
    (h2 : (c.kind == Kind.scalar) = false) (h3 : (c.kind == Kind.nonScalar) = false) :
    c.kind = Kind.skip := by
  cases hk : c.kind <;> rw [hk] at h1 h2 h3 <;>
    first | rfl | exact absurd h1 (by decide) | exact absurd h2 (by decide) | exact absurd h3 (by decide)

def Comp.basic : Comp → Bool
  | .full => true
  | .int _ => true
  | .slice lo hi st =>
    (match lo with | .dyn _ => false | _ => true) &&
    (match hi with | .dyn _ => false | _ => true) &&
    (match st with | .dyn _ => false | _ => true)
  | _ => false

theorem basic_kind_ne_nonScalar (c : Comp) (h : c.basic = true) : (c.kind == Kind.nonScalar) = false := by
  cases c with
  | full => rfl
  | int i => rfl
  | tScalar v => cases h
  | tVec v => cases h
  | slice lo hi st => rcases slice_kind_cases lo hi st with hk | hk <;> rw [hk] <;> rfl

theorem basic_not_vec (c : Comp) (h : c.basic = true) : c.isVec = false := by
  cases c <;> first | rfl | cases h

theorem filter_isVec_basic (comps : List Comp) (h : ∀ c ∈ comps, c.basic = true) :
    comps.filter Comp.isVec = [] :=
  List.filter_eq_nil_iff.mpr (fun c hc => by rw [basic_not_vec c (h c hc)]; decide)

theorem mem_sel (F : Comp → Bool) (l : List Comp) (n : Nat) (c : Comp) (j : Nat) :
    (c, j) ∈ (l.zipIdx n).filter (fun p => F p.1) ↔ n ≤ j ∧ l[j - n]? = some c ∧ F c = true := by
  rw [List.mem_filter, List.mk_mem_zipIdx_iff_le_and_getElem?_sub, and_assoc]

theorem filter_zipIdx_none (F : Comp → Bool) (l : List Comp) (n : Nat)
    (h : ∀ c ∈ l, F c = false) : (l.zipIdx n).filter (fun p => F p.1) = [] := by
  rw [List.filter_eq_nil_iff]
  intro p hp
  rw [h p.1 (List.fst_mem_of_mem_zipIdx hp)]
  simp

theorem filter_zipIdx_nil_forall (F : Comp → Bool) (l : List Comp) (n : Nat)
    (h : (l.zipIdx n).filter (fun p => F p.1) = []) (j : Nat) (c : Comp) (hj : l[j]? = some c) :
    F c = false := by
  have := List.filter_eq_nil_iff.mp h (c, n + j)
    (List.mk_mem_zipIdx_iff_le_and_getElem?_sub.mpr ⟨by omega, by simpa using hj⟩)
  simpa using this

theorem zipIdx_filter_length (F : Comp → Bool) :
    ∀ (l : List Comp) (n : Nat), ((l.zipIdx n).filter (fun p => F p.1)).length = (l.filter F).length := by
  intro l
  induction l with
  | nil => intro n; rfl
  | cons c l ih =>
    intro n
    simp only [List.zipIdx_cons, List.filter_cons]
    cases F c <;> simp [ih (n + 1)]

theorem contains_zipIdx (F : Comp → Bool) (l : List Comp) (k : Nat) :
    ((l.zipIdx.filter (fun p => F p.1)).map (fun p => p.2)).contains k
      = (match l[k]? with | some c => F c | none => false) := by
  rw [Bool.eq_iff_iff, List.contains_iff_mem]
  simp only [List.mem_map, List.mem_filter, Prod.exists, List.mk_mem_zipIdx_iff_getElem?]
  cases h : l[k]? <;> simp [h]

theorem axiswise_cons_ok (f : Comp → List Nat → Except Err AxisMap) (c : Comp) (cs : List Comp)
    (d : Nat) (ds : List Nat) (v : View) :
    axiswise f (c :: cs) (d :: ds) = .ok v ↔
      ∃ a m, f c (List.range d) = .ok a ∧ axiswise f cs ds = .ok m ∧ v = a :: m := by
  simp only [axiswise, bind, Except.bind, pure, Except.pure]
  cases f c (List.range d) <;> cases axiswise f cs ds <;> simp [eq_comm]

theorem axiswise_congr (f g : Comp → List Nat → Except Err AxisMap) (comps : List Comp) (ds : List Nat)
    (h : ∀ c ∈ comps, ∀ srcs, f c srcs = g c srcs) : axiswise f comps ds = axiswise g comps ds := by
  induction comps generalizing ds with
  | nil => rfl
  | cons c cs ih =>
    cases ds with
    | nil => rfl
    | cons d ds =>
      simp only [axiswise, h c (by simp), ih ds (fun c' hc' => h c' (by simp [hc']))]

theorem axiswise_congr_at (f g : Comp → List Nat → Except Err AxisMap) (comps : List Comp) (ds : List Nat)
    (h : ∀ (j : Nat) (c : Comp) (d : Nat), comps[j]? = some c → ds[j]? = some d →
        f c (List.range d) = g c (List.range d)) : axiswise f comps ds = axiswise g comps ds := by
  induction comps generalizing ds with
  | nil => rfl
  | cons c cs ih =>
    cases ds with
    | nil => rfl
    | cons d ds =>
      simp only [axiswise, h 0 c d rfl rfl, ih ds (fun j c' d' hc hd => h (j + 1) c' d' hc hd)]

theorem axiswise_ok_pointwise (f : Comp → List Nat → Except Err AxisMap) :
    ∀ (comps : List Comp) (ds : List Nat) (r : View), axiswise f comps ds = .ok r →
      comps.length ≤ ds.length ∧
      ∀ (j : Nat) (c : Comp), comps[j]? = some c →
        ∃ d a, ds[j]? = some d ∧ f c (List.range d) = .ok a := by
  intro comps
  induction comps with
  | nil => intro ds r _; exact ⟨by simp, by intro j c hj; simp at hj⟩
  | cons c cs ih =>
    intro ds r h
    cases ds with
    | nil => cases h
    | cons d ds =>
      obtain ⟨a, m, ha, hm, _⟩ := (axiswise_cons_ok f c cs d ds r).mp h
      obtain ⟨hl, hp⟩ := ih ds m hm
      refine ⟨by simpa using hl, ?_⟩
      intro j c' hj
      cases j with
      | zero => cases hj; exact ⟨d, a, rfl, ha⟩
      | succ j => exact hp j c' hj

theorem axiswise_ok_of_pointwise (f : Comp → List Nat → Except Err AxisMap) :
    ∀ (comps : List Comp) (ds : List Nat), comps.length ≤ ds.length →
      (∀ (j : Nat) (c : Comp) (d : Nat), comps[j]? = some c → ds[j]? = some d →
        ∃ a, f c (List.range d) = .ok a) →
      ∃ v, axiswise f comps ds = .ok v := by
  intro comps
  induction comps with
  | nil => intro ds _ _; exact ⟨_, rfl⟩
  | cons c cs ih =>
    intro ds hl hp
    cases ds with
    | nil => simp at hl
    | cons d ds =>
      obtain ⟨a, ha⟩ := hp 0 c d rfl rfl
      obtain ⟨v, hv⟩ := ih ds (by simpa using hl) (fun j c' d' hc hd => hp (j + 1) c' d' hc hd)
      exact ⟨a :: v, (axiswise_cons_ok f c cs d ds _).mpr ⟨a, v, ha, hv, rfl⟩⟩

def pickF (_ : Comp) (srcs : List Nat) : Except Err AxisMap := .ok (.pick srcs)

theorem axiswise_pickF (comps : List Comp) (ds : List Nat) (hlen : comps.length ≤ ds.length) :
    axiswise pickF comps ds = .ok (View.init ds) := by
  induction comps generalizing ds with
  | nil => rfl
  | cons c cs ih =>
    cases ds with
    | nil => simp at hlen
    | cons d ds =>
      exact (axiswise_cons_ok pickF c cs d ds _).mpr ⟨_, _, rfl, ih ds (by simpa using hlen), rfl⟩

theorem numpyAxis_skip (c : Comp) (srcs : List Nat) (h : c.kind = Kind.skip) :
    numpyAxis c srcs = .ok (.pick srcs) := by
  cases c with
  | full => rfl
  | int i => cases h
  | tScalar v => cases h
  | tVec v => cases h
  | slice lo hi st =>
    rw [slice_kind] at h
    split at h
    · rename_i hsk
      obtain ⟨rfl, rfl, rfl⟩ := hsk
      show Except.ok (AxisMap.pick (pySliceList srcs none none 1)) = _
      rw [pySliceList_full]
    · cases h

theorem numpyAxis_isPick (c : Comp) (srcs : List Nat) (a : AxisMap) (h : numpyAxis c srcs = .ok a) :
    a.isPick = !c.isEagerScalar := by
  have hsc : ∀ i : Int, numpyAxis (.int i) srcs = .ok a → a.isPick = false := by
    intro i h
    simp only [numpyAxis] at h
    cases hn : normIdx srcs.length i with
    | none => simp [hn] at h
    | some k =>
      cases hk : srcs[k]? with
      | none => simp [hn, hk] at h
      | some s => simp only [hn, hk, Except.ok.injEq] at h; subst h; rfl
  cases c with
  | full => cases h; rfl
  | int i => exact hsc i h
  | tScalar i => exact hsc i h
  | slice lo hi st =>
    simp only [numpyAxis] at h
    split at h <;> cases h
    rfl
  | tVec vs =>
    simp only [numpyAxis] at h
    split at h <;> cases h
    rfl

theorem axiswise_all_skip (comps : List Comp) (ds : List Nat) (hlen : comps.length ≤ ds.length)
    (h : ∀ c ∈ comps, c.kind = Kind.skip) : axiswise numpyAxis comps ds = .ok (View.init ds) := by
  rw [axiswise_congr numpyAxis pickF comps ds (fun c hc srcs => numpyAxis_skip c srcs (h c hc))]
  exact axiswise_pickF comps ds hlen

theorem View.init_rank (ds : List Nat) : (View.init ds).rank = ds.length := by
  simp [View.rank, View.init, List.filter_map, Function.comp_def, AxisMap.isPick]

theorem rank_cons (a : AxisMap) (v : View) : View.rank (a :: v) = (if a.isPick then 1 else 0) + View.rank v := by
  cases a <;> simp [View.rank, List.filter_cons, AxisMap.isPick] <;> omega

theorem axiswise_shape_count (f : Comp → List Nat → Except Err AxisMap) (D : Comp → Bool)
    (hD : ∀ c srcs a, f c srcs = .ok a → a.isPick = !D c) :
    ∀ (cs : List Comp) (ds : List Nat) (v : View), axiswise f cs ds = .ok v →
      v.rank + (cs.filter D).length = ds.length := by
  intro cs
  induction cs with
  | nil =>
    intro ds v h
    cases h
    exact View.init_rank ds
  | cons c cs ih =>
    intro ds v h
    cases ds with
    | nil => cases h
    | cons d ds =>
      obtain ⟨a, m, ha, hm, rfl⟩ := (axiswise_cons_ok f c cs d ds v).mp h
      have := ih ds m hm
      have hp := hD c _ a ha
      simp only [View.rank] at this ⊢
      simp only [List.filter_cons, hp, List.length_cons]
      cases D c <;> simp <;> omega

theorem numpyIndex_ok_iff (comps : List Comp) (shape : List Nat) (r : View) :
    numpyIndex comps shape = .ok r ↔
      comps.length ≤ shape.length ∧ (comps.filter Comp.isVec).length ≤ 1 ∧
      needsTranspose comps = false ∧ axiswise numpyAxis comps shape = .ok r := by
  unfold numpyIndex
  split
  · exact iff_of_false (by simp) (fun h => by omega)
  · split
    · exact iff_of_false (by simp) (fun h => by omega)
    · by_cases hnt : needsTranspose comps = true
      · rw [if_pos hnt]
        exact iff_of_false (by simp) (fun h => by rw [h.2.2.1] at hnt; cases hnt)
      · rw [if_neg hnt]
        exact ⟨fun h => ⟨by omega, by omega, by simpa using hnt, h⟩, fun h => h.2.2.2⟩

theorem numpyIndexT_ok_iff (comps : List Comp) (shape : List Nat) (n : NView) :
    numpyIndexT comps shape = .ok n ↔
      comps.length ≤ shape.length ∧ (comps.filter Comp.isVec).length ≤ 1 ∧
      axiswise numpyAxis comps shape = .ok n.view ∧ n.front = frontOf comps := by
  unfold numpyIndexT
  split
  · exact iff_of_false (by simp) (fun h => by omega)
  · split
    · exact iff_of_false (by simp) (fun h => by omega)
    · obtain ⟨v, f⟩ := n
      cases axiswise numpyAxis comps shape with
      | error e => exact iff_of_false (by simp [bind, Except.bind]) (fun h => by cases h.2.2.1)
      | ok v' =>
        simp only [bind, Except.bind, pure, Except.pure, Except.ok.injEq, NView.mk.injEq]
        exact ⟨fun h => ⟨by omega, by omega, h.1, h.2.symm⟩, fun h => ⟨h.2.2.1, h.2.2.2.symm⟩⟩

theorem needsTranspose_basic (comps : List Comp) (h : ∀ c ∈ comps, c.basic = true) :
    needsTranspose comps = false := by
  unfold needsTranspose
  have hv : (comps.zipIdx.filter (fun p => p.1.isVec)) = [] :=
    filter_zipIdx_none Comp.isVec comps 0 (fun c hc => basic_not_vec c (h c hc))
  simp only [hv, List.map_nil]
  split <;> rfl

def gatherF (i : Int) (srcs : List Nat) : Except Err AxisMap :=
  match normIdx srcs.length i with
  | some k => (match srcs[k]? with | some s => .ok (.drop s) | none => .error .indexError)
  | none => .error .indexError

/-- A rank-0 index routed through Slice + Squeeze is the rank-0 Gather (`gatherF`), failures included. -/
theorem scalar_slice_axis (i e : Int) (srcs : List Nat) (he : (srcs.length : Int) ≤ e) :
    (do let s ← single? (onnxSliceList srcs i (scalarStop i e) 1)
        pure (AxisMap.drop s) : Except Err AxisMap) = gatherF i srcs := by
  rw [onnxSliceList_scalar srcs i e he]
  unfold gatherF
  cases normIdx srcs.length i with
  | none => rfl
  | some k => cases hk : srcs[k]? <;> (simp only [hk]; rfl)

theorem slice_go_cons_pick (E : List SliceEntry) (k : Nat) (srcs : List Nat) (rest : View) :
    opSlice.go E k (.pick srcs :: rest) =
      AxisMap.pick (lookupSlice E k srcs) :: opSlice.go E (k + 1) rest := by
  simp [opSlice.go]

theorem squeeze_go_cons_pick (S : List Nat) (k : Nat) (srcs : List Nat) (rest : View) :
    opSqueeze.go S k (.pick srcs :: rest) =
      (if S.contains k then do
          let s ← single? srcs
          let r ← opSqueeze.go S (k + 1) rest
          pure (AxisMap.drop s :: r)
        else do let r ← opSqueeze.go S (k + 1) rest; pure (AxisMap.pick srcs :: r)) := by
  simp [opSqueeze.go]

theorem squeeze_go_nil (k : Nat) (v : View) : opSqueeze.go [] k v = .ok v := by
  induction v generalizing k with
  | nil => simp [opSqueeze.go]
  | cons a rest ih =>
    cases a with
    | drop s => simp [opSqueeze.go, ih k]; rfl
    | pick srcs => simp [opSqueeze.go, ih (k + 1)]; rfl

theorem opSlice_go_rank (E : List SliceEntry) : ∀ (v : View) (k : Nat), (opSlice.go E k v).rank = v.rank := by
  intro v
  induction v with
  | nil => intro k; rfl
  | cons a rest ih =>
    intro k
    cases a with
    | drop s => simp only [opSlice.go, rank_cons, ih]
    | pick srcs => simp only [opSlice.go, rank_cons, ih, AxisMap.isPick]

theorem opSlice_ok (E : List SliceEntry) (v v' : View) :
    opSlice E v = .ok v' ↔ (∀ e ∈ E, e.step ≠ 0 ∧ e.axis < v.rank) ∧ v' = opSlice.go E 0 v := by
  unfold opSlice
  by_cases h1 : (E.any fun e => e.step == 0) = true
  · rw [if_pos h1]
    obtain ⟨e, he, hz⟩ := List.any_eq_true.mp h1
    exact iff_of_false (by simp) (fun h => (h.1 e he).1 (by simpa using hz))
  · rw [if_neg h1]
    by_cases h2 : (E.any fun e => decide (e.axis ≥ v.rank)) = true
    · rw [if_pos h2]
      obtain ⟨e, he, hz⟩ := List.any_eq_true.mp h2
      exact iff_of_false (by simp) (fun h => by have := (h.1 e he).2; simp at hz; omega)
    · rw [if_neg h2]
      simp only [List.any_eq_true, not_exists, not_and, beq_iff_eq, decide_eq_true_eq] at h1 h2
      exact ⟨fun h => ⟨fun e he => ⟨h1 e he, by have := h2 e he; omega⟩, by cases h; rfl⟩,
        fun h => by rw [h.2]⟩

theorem opSqueeze_ok (S : List Nat) (v v' : View) :
    opSqueeze S v = .ok v' ↔ (∀ a ∈ S, a < v.rank) ∧ opSqueeze.go S 0 v = .ok v' := by
  unfold opSqueeze
  by_cases h1 : (S.any fun a => decide (a ≥ v.rank)) = true
  · rw [if_pos h1]
    obtain ⟨a, ha, hz⟩ := List.any_eq_true.mp h1
    exact iff_of_false (by simp) (fun h => by have := h.1 a ha; simp at hz; omega)
  · rw [if_neg h1]
    simp only [List.any_eq_true, not_exists, not_and, decide_eq_true_eq] at h1
    exact ⟨fun h => ⟨fun a ha => by have := h1 a ha; omega, h⟩, fun h => h.2⟩

/-- `mk S` is the squeezing operator: ONNX `Squeeze` in the converter, `np.squeeze` in eager mode. -/
theorem slice_squeeze_run (mk : List Nat → PlanOp) (hmk : ∀ S v, runOp (mk S) v = opSqueeze S v)
    (E : List SliceEntry) (S : List Nat) (v0 v1 : View) :
    runPlan ([PlanOp.slice E] ++ (if S.isEmpty then [] else [mk S])) v0 = .ok v1 ↔
      (∀ e ∈ E, e.step ≠ 0 ∧ e.axis < v0.rank) ∧ (∀ a ∈ S, a < v0.rank) ∧
      opSqueeze.go S 0 (opSlice.go E 0 v0) = .ok v1 := by
  rw [runPlan_append_ok]
  simp only [runPlan_singleton, runOp, opSlice_ok]
  by_cases hS : S.isEmpty = true
  · have hSnil : S = [] := by simpa using hS
    subst hSnil
    simp only [List.isEmpty_nil, if_true, runPlan_nil, squeeze_go_nil, Except.ok.injEq]
    exact ⟨fun ⟨_, ⟨hE, rfl⟩, h⟩ => ⟨hE, by simp, h⟩, fun ⟨hE, _, h⟩ => ⟨_, ⟨hE, rfl⟩, h⟩⟩
  · rw [if_neg hS]
    simp only [runPlan_singleton, hmk, opSqueeze_ok]
    exact ⟨fun ⟨_, ⟨hE, rfl⟩, hSr, h⟩ => ⟨hE, by rwa [opSlice_go_rank] at hSr, h⟩,
      fun ⟨hE, hSr, h⟩ => ⟨_, ⟨hE, rfl⟩, by rwa [opSlice_go_rank], h⟩⟩

theorem lookupSlice_none (E : List SliceEntry) (k : Nat) (srcs : List Nat)
    (h : E.find? (fun e => e.axis == k) = none) : lookupSlice E k srcs = srcs := by
  simp [lookupSlice, h]

theorem lookupSlice_some (E : List SliceEntry) (k : Nat) (srcs : List Nat) (e : SliceEntry)
    (h : E.find? (fun e => e.axis == k) = some e) :
    lookupSlice E k srcs = onnxSliceList srcs e.start e.stop e.step := by
  simp [lookupSlice, h]

theorem slice_go_init_none (E : List SliceEntry) (k : Nat) (ds : List Nat)
    (h : ∀ j, k ≤ j → E.find? (fun e => e.axis == j) = none) :
    opSlice.go E k (View.init ds) = View.init ds := by
  induction ds generalizing k with
  | nil => rfl
  | cons d ds ih =>
    simp only [View.init, List.map_cons, slice_go_cons_pick, lookupSlice_none _ _ _ (h k (Nat.le_refl k))]
    congr 1
    exact ih (k + 1) (fun j hj => h j (by omega))

theorem squeeze_go_init_none (S : List Nat) (k : Nat) (ds : List Nat)
    (h : ∀ j, k ≤ j → S.contains j = false) :
    opSqueeze.go S k (View.init ds) = .ok (View.init ds) := by
  induction ds generalizing k with
  | nil => rfl
  | cons d ds ih =>
    have := ih (k + 1) (fun j hj => h j (by omega))
    simp only [View.init] at this
    simp only [View.init, List.map_cons, squeeze_go_cons_pick, h k (Nat.le_refl k), this]
    rfl

def applyEntry (o : Option SliceEntry) (srcs : List Nat) : List Nat :=
  match o with
  | some e => onnxSliceList srcs e.start e.stop e.step
  | none => srcs

theorem lookupSlice_eq (E : List SliceEntry) (k : Nat) (srcs : List Nat) :
    lookupSlice E k srcs = applyEntry (E.find? (fun e => e.axis == k)) srcs := by
  unfold lookupSlice applyEntry
  cases E.find? (fun e => e.axis == k) <;> rfl

/-- What `Slice` (entry `o`; a zero step is its own failure) and `Squeeze` (iff `sq`) make of one axis:
the per-axis form of the Slice(+Squeeze) prefix of either front end. -/
def sliceAxis (o : Option SliceEntry) (sq : Bool) (srcs : List Nat) : Except Err AxisMap :=
  if o.any (fun e => e.step == 0) then .error .valueError
  else if sq then (do let s ← single? (applyEntry o srcs); pure (AxisMap.drop s))
  else .ok (.pick (applyEntry o srcs))

theorem sliceAxis_isPick (o : Option SliceEntry) (sq : Bool) (srcs : List Nat) (a : AxisMap)
    (h : sliceAxis o sq srcs = .ok a) : a.isPick = !sq := by
  unfold sliceAxis at h
  split at h
  · cases h
  · cases sq with
    | false => cases h; rfl
    | true =>
      simp only [if_true, bind, Except.bind, pure, Except.pure] at h
      cases hs : single? (applyEntry o srcs) with
      | error e => rw [hs] at h; cases h
      | ok s => rw [hs] at h; cases h; rfl

/-- The walks of `Slice` and `Squeeze` on an initial view, from kept axis `k` on: axis `k + j` gets what is
registered for component `j` (`ent`, `sq`).  No entry has a zero step: that is the operator's check, not
the walk's, and `sliceAxis` fails on one. -/
theorem slice_squeeze_axiswise (E : List SliceEntry) (S : List Nat)
    (ent : Comp → Nat → Nat → Option SliceEntry) (sq : Comp → Bool)
    (axisF : Comp → List Nat → Except Err AxisMap) :
    ∀ (comps : List Comp) (ds : List Nat) (k : Nat),
      comps.length ≤ ds.length → (∀ e ∈ E, e.step ≠ 0) →
      (∀ (j : Nat) (c : Comp) (d : Nat), comps[j]? = some c → ds[j]? = some d →
          axisF c (List.range d) = sliceAxis (ent c (k + j) d) (sq c) (List.range d)) →
      (∀ j, E.find? (fun e => e.axis == k + j)
          = (match comps[j]? with | some c => ent c (k + j) (ds.getD j 0) | none => none)) →
      (∀ j, S.contains (k + j) = (match comps[j]? with | some c => sq c | none => false)) →
      opSqueeze.go S k (opSlice.go E k (View.init ds)) = axiswise axisF comps ds := by
  intro comps
  induction comps with
  | nil =>
    intro ds k _ _ _ hE hS
    have e : ∀ j, k ≤ j → k + (j - k) = j := fun j hj => by omega
    rw [slice_go_init_none E k ds (fun j hj => by simpa [e j hj] using hE (j - k)),
      squeeze_go_init_none S k ds (fun j hj => by simpa [e j hj] using hS (j - k))]
    rfl
  | cons c cs ih =>
    intro ds k hlen hstep hax hE hS
    cases ds with
    | nil => simp at hlen
    | cons d ds =>
      have e : ∀ j, k + 1 + j = k + (j + 1) := fun j => by omega
      have hrec := ih ds (k + 1) (by simpa using hlen) hstep
        (fun j c' d' hc hd => by rw [e]; exact hax (j + 1) c' d' hc hd)
        (fun j => by rw [e]; exact hE (j + 1))
        (fun j => by rw [e]; exact hS (j + 1))
      have hE0 := hE 0
      have hS0 := hS 0
      have hax0 := hax 0 c d rfl rfl
      simp only [Nat.add_zero, List.getElem?_cons_zero, List.getD_cons_zero] at hE0 hS0 hax0
      simp only [View.init] at hrec
      -- the entry `Slice` finds for this axis is one of its entries: its step is not zero
      have h0 : (ent c k d).any (fun e => e.step == 0) = false := by
        cases he : ent c k d with
        | none => rfl
        | some e => simpa using hstep e (List.mem_of_find?_eq_some (hE0.trans he))
      simp only [View.init, List.map_cons, slice_go_cons_pick, squeeze_go_cons_pick, hS0,
        lookupSlice_eq, hE0, hrec, axiswise, hax0, sliceAxis, h0, Bool.false_eq_true, if_false]
      cases sq c with
      | false =>
        simp only [Bool.false_eq_true, if_false]
        cases axiswise axisF cs ds <;> rfl
      | true =>
        simp only [if_true]
        cases single? (applyEntry (ent c k d) (List.range d)) <;> cases axiswise axisF cs ds <;> rfl

/-- Membership (`hE`) says more than the lookup: it also covers an entry that an earlier one for the same
axis would hide. -/
theorem find_of_registers (E : List SliceEntry) (reg : Nat → Option SliceEntry)
    (hax : ∀ j e, reg j = some e → e.axis = j) (hE : ∀ e, e ∈ E ↔ reg e.axis = some e) (k : Nat) :
    E.find? (fun e => e.axis == k) = reg k := by
  cases hf : E.find? (fun e => e.axis == k) with
  | some e =>
    have hk : e.axis = k := by simpa using List.find?_some hf
    rw [← hk]; exact ((hE e).mp (List.mem_of_find?_eq_some hf)).symm
  | none =>
    cases hr : reg k with
    | none => rfl
    | some e =>
      have hk := hax k e hr
      have := List.find?_eq_none.mp hf e ((hE e).mpr (by rw [hk]; exact hr))
      simp [hk] at this

/-- The Slice(+Squeeze) stage of a plan, for either front end.  `Slice` gets exactly the entries that `ent`
registers for the components (`hE`), `Squeeze` — by the operator `mk` — exactly the positions of the
components selected by `sq` (`hS`), and `axisF` is what the two make of an axis (`hF`).  The operators' own
checks do not show on the right: the axes are positions of components, hence in range (`hlen`), and on a
zero step `sliceAxis` fails. -/
theorem slice_stage (mk : List Nat → PlanOp) (hmk : ∀ S v, runOp (mk S) v = opSqueeze S v)
    (E : List SliceEntry) (S : List Nat) (ent : Comp → Nat → Nat → Option SliceEntry) (sq : Comp → Bool)
    (axisF : Comp → List Nat → Except Err AxisMap) (comps : List Comp) (shape : List Nat) (v1 : View)
    (hlen : comps.length ≤ shape.length)
    (hent : ∀ c j d e, ent c j d = some e → e.axis = j)
    (hE : ∀ e, e ∈ E ↔ (comps[e.axis]?.bind (fun c => ent c e.axis (shape.getD e.axis 0))) = some e)
    (hS : ∀ j, S.contains j = (match comps[j]? with | some c => sq c | none => false))
    (hF : ∀ j c d, comps[j]? = some c → shape[j]? = some d →
        axisF c (List.range d) = sliceAxis (ent c j d) (sq c) (List.range d)) :
    runPlan ([PlanOp.slice E] ++ (if S.isEmpty then [] else [mk S])) (View.init shape) = .ok v1 ↔
      axiswise axisF comps shape = .ok v1 := by
  rw [slice_squeeze_run mk hmk, View.init_rank]
  have hfind := find_of_registers E (fun j => comps[j]?.bind (fun c => ent c j (shape.getD j 0)))
    (fun j e h => by
      obtain ⟨c, _, he⟩ := Option.bind_eq_some_iff.mp h
      exact hent c j _ e he) hE
  have hreg : ∀ e ∈ E, ∃ c d, comps[e.axis]? = some c ∧ shape[e.axis]? = some d ∧ ent c e.axis d = some e := by
    intro e he
    obtain ⟨c, hc, hce⟩ := Option.bind_eq_some_iff.mp ((hE e).mp he)
    have hlt : e.axis < shape.length := by have := (List.getElem?_eq_some_iff.mp hc).1; omega
    refine ⟨c, shape[e.axis], hc, List.getElem?_eq_getElem hlt, ?_⟩
    rwa [List.getD_eq_getElem?_getD, List.getElem?_eq_getElem hlt] at hce
  have hfuse : (∀ e ∈ E, e.step ≠ 0) →
      opSqueeze.go S 0 (opSlice.go E 0 (View.init shape)) = axiswise axisF comps shape := fun hstep =>
    slice_squeeze_axiswise E S ent sq axisF comps shape 0 hlen hstep
      (fun j c d hc hd => by rw [Nat.zero_add]; exact hF j c d hc hd)
      (fun j => by rw [Nat.zero_add, hfind]; cases comps[j]? <;> rfl)
      (fun j => by rw [Nat.zero_add]; exact hS j)
  constructor
  · rintro ⟨hstep, _, h⟩
    rw [← hfuse (fun e he => (hstep e he).1)]; exact h
  · intro h
    obtain ⟨_, hpw⟩ := axiswise_ok_pointwise axisF comps shape v1 h
    have hstep : ∀ e ∈ E, e.step ≠ 0 ∧ e.axis < shape.length := by
      intro e he
      obtain ⟨c, d, hc, hd, hce⟩ := hreg e he
      obtain ⟨d', a, hd', ha⟩ := hpw e.axis c hc
      rw [hd] at hd'; cases hd'
      refine ⟨fun h0 => ?_, (List.getElem?_eq_some_iff.mp hd).1⟩
      simp [hF _ c d hc hd, sliceAxis, hce, h0] at ha
    refine ⟨hstep, fun a ha => ?_, by rw [hfuse (fun e he => (hstep e he).1)]; exact h⟩
    have := hS a
    rw [List.contains_iff_mem.mpr ha] at this
    cases hc : comps[a]? with
    | none => rw [hc] at this; cases this
    | some c => have := (List.getElem?_eq_some_iff.mp hc).1; omega

/-! ### Stated for their own sake

Nothing in the development rests on these.  (One Gather is the chain `gather_chain_iff` of `IndexGather`
with one selected component; `gatherOp_run` there says what the first two say, for every Gather.) -/

theorem opGatherScalar_eq (axis : Nat) (i : Int) (v : View) :
    opGatherScalar axis i v = modifyPick axis (gatherF i) v := rfl

theorem numpyAxis_int (i : Int) (srcs : List Nat) : numpyAxis (.int i) srcs = gatherF i srcs := rfl

theorem gather_axiswise (i : Int) :
    ∀ (comps : List Comp) (ds : List Nat) (j : Nat) (r : View),
      comps.length ≤ ds.length →
      comps[j]? = some (.int i) →
      (∀ j' c, j' ≠ j → comps[j']? = some c → c.kind = Kind.skip) →
      modifyPick j (gatherF i) (View.init ds) = .ok r →
      axiswise numpyAxis comps ds = .ok r := by
  intro comps
  induction comps with
  | nil => intro ds j r _ hj; simp at hj
  | cons c cs ih =>
    intro ds j r hlen hj hskip h
    cases ds with
    | nil => simp at hlen
    | cons d ds =>
      have hlen' : cs.length ≤ ds.length := by simpa using hlen
      simp only [View.init, List.map_cons, modifyPick, bind, Except.bind, pure, Except.pure] at h
      rw [axiswise_cons_ok]
      cases j with
      | zero =>
        cases hj
        have hall : ∀ c ∈ cs, c.kind = Kind.skip := by
          intro c' hc'
          obtain ⟨n, hn⟩ := List.getElem?_of_mem hc'
          exact hskip (n + 1) c' (by omega) hn
        cases hg : gatherF i (List.range d) with
        | error e => simp [hg] at h
        | ok a => exact ⟨a, _, hg, axiswise_all_skip cs ds hlen' hall, by simpa [hg, View.init] using h.symm⟩
      | succ j =>
        cases hr : modifyPick j (gatherF i) (List.map (fun d => AxisMap.pick (List.range d)) ds) with
        | error e => simp [hr] at h
        | ok r' =>
          exact ⟨_, r', numpyAxis_skip c _ (hskip 0 c (by omega) rfl),
            ih ds j r' hlen' hj (fun j' c' hne hc' => hskip (j' + 1) c' (by omega) hc') hr,
            by simpa [hr] using h.symm⟩

theorem filter_zipIdx_singleton (F : Comp → Bool) :
    ∀ (l : List Comp) (n : Nat) (c : Comp) (j : Nat),
      (l.zipIdx n).filter (fun p => F p.1) = [(c, j)] →
      n ≤ j ∧ l[j - n]? = some c ∧ ∀ (j' : Nat) (c' : Comp), j' ≠ j - n → l[j']? = some c' → F c' = false := by
  intro l n c j h
  have hm := fun c' j' => mem_sel F l n c' j'
  simp only [h, List.mem_singleton, Prod.mk.injEq] at hm
  obtain ⟨hle, hget, _⟩ := (hm c j).mp ⟨rfl, rfl⟩
  refine ⟨hle, hget, fun j' c' hne hc' => Bool.eq_false_iff.mpr (fun hF => ?_)⟩
  have := ((hm c' (n + j')).mpr ⟨by omega, by rwa [Nat.add_sub_cancel_left], hF⟩).2
  omega

end OV.Index
