import OV.Lemmas.C09Reshape
/-! `MaterializeReshapeShape`: the emitted target is the annotated result with its non-static dim as the hole. -/
namespace OV.C09

/-- the entry `materialize` emits for a dim -/
def matF : Dim → Int
  | .known n => n
  | _ => -1

def nonInts (o : Shape) : Nat := (o.filter (fun d => !d.isInt)).length

theorem materialize_eq (o : Shape) (tgt : List Int) (h : materialize (some o) false = some tgt) :
    nonInts o ≤ 1 ∧ tgt = o.map matF ∧ (nonInts o = 1 → Dim.known 0 ∉ o) := by
  simp only [materialize, Bool.false_eq_true, if_false] at h
  split at h
  · cases h
  next hg =>
  split at h
  · next hc =>
    cases h
    refine ⟨hc, List.map_congr_left fun d _ => by cases d <;> rfl, fun h1 hm => hg ?_⟩
    rw [Bool.and_eq_true, decide_eq_true_eq, List.any_eq_true]
    exact ⟨h1, _, hm, decide_eq_true rfl⟩
  · cases h

theorem mat_hole {σ : String → Nat} {o : Shape} {lo : List Int} (h : Admits σ o lo) (hn : ∀ d ∈ lo, 0 ≤ d) :
    PW2 Hole (o.map matF) lo ∧ (o.map matF).count (-1) = nonInts o := by
  induction h using Admits.ind with
  | nil => exact ⟨trivial, rfl⟩
  | @cons d o v lo hd _ ih =>
    obtain ⟨ih1, ih2⟩ := ih fun d hd => hn d (List.mem_cons_of_mem _ hd)
    have hv := hn v (List.mem_cons_self ..)
    cases d with
    | known n =>
      have hn1 : n ≠ -1 := fun e => by rw [e] at hd; rw [← hd] at hv; exact absurd hv (by decide)
      refine ⟨⟨.inl hd, ih1⟩, ?_⟩
      show List.count (-1) (n :: o.map matF) = nonInts o
      rw [List.count_cons_of_ne hn1, ih2]
    | _ =>
      refine ⟨⟨.inr rfl, ih1⟩, ?_⟩
      show List.count (-1) (-1 :: o.map matF) = nonInts o + 1
      rw [List.count_cons_self, ih2]

theorem mat_zero_mem {o : Shape} (h : (0 : Int) ∈ o.map matF) : Dim.known 0 ∈ o := by
  obtain ⟨d, hd, he⟩ := List.mem_map.mp h
  cases d with
  | known n => cases he; exact hd
  | sym a => cases he
  | unknown => cases he

end OV.C09
