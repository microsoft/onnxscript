import OV.Lemmas.C03Turn
/-!
`DtOK L st ρf`: every element type the state records for a value is the element type of that value
in the *final* environment of the node list (values are single-assignment, so the final environment
agrees with every intermediate one on the names already bound).  The `cast`/`cast_like` evaluators
read these annotations; this file has what is needed to carry the invariant through a step, the facts about
`evalNode` on operator nodes that the soundness of the evaluators rests on, and the typing hypotheses.
-/
namespace OV.C03

variable {V : Type}

def DtOK {sem : Sem V} (L : OpLaws sem) (st : St) (ρf : Env V) : Prop :=
  (∀ x v dt, ρf x = some v → (st.getInfo x).dtype = some dt → L.hasDtype v dt) ∧
  (∀ x dt, (st.getInfo x).dtype = some dt → NF x)

theorem DtOK.step {sem : Sem V} {L : OpLaws sem} {st st' : St} {ρf : Env V} (h : DtOK L st ρf)
    (hnew : ∀ x dt, (st'.getInfo x).dtype = some dt → (st.getInfo x).dtype = some dt ∨
      (NF x ∧ ∀ v, ρf x = some v → L.hasDtype v dt)) : DtOK L st' ρf := by
  refine ⟨?_, ?_⟩
  · intro x v dt hv hd
    rcases hnew x dt hd with h1 | h1
    · exact h.1 x v dt hv h1
    · exact h1.2 v hv
  · intro x dt hd
    rcases hnew x dt hd with h1 | h1
    · exact h.2 x dt h1
    · exact h1.1

theorem getInfo_sameIS {st st' : St} (h : SameIS st st') (x : Name) : st'.getInfo x = st.getInfo x := by
  simp only [St.getInfo, h.1]

theorem DtOK.sameIS {sem : Sem V} {L : OpLaws sem} {st st' : St} {ρf : Env V} (h : DtOK L st ρf) (hs : SameIS st st') :
    DtOK L st' ρf :=
  h.step (fun x dt hd => Or.inl (by rw [getInfo_sameIS hs] at hd; exact hd))

theorem processConstant_info (ctx : Ctx) (st0 : St) (n : Node) (x : Name) :
    (processConstant ctx st0 n).getInfo x = st0.getInfo x ∨ n.outputs.contains x = true := by
  rcases processConstant_eq ctx st0 n with h | ⟨o, c, ho, h⟩ <;> rw [h]
  · exact Or.inl rfl
  · rw [getInfo_setInfo]
    by_cases hx : x = o
    · exact Or.inr (by rw [ho, hx]; simp)
    · exact Or.inl (if_neg hx)

theorem evalNode_congr_op (sem : Sem V) (sub) (ρ : Env V) (n m : Node) (hns : n.subs = []) (hms : m.subs = [])
    (hnc : n.isOp "Constant" = false) (hmc : m.isOp "Constant" = false) (hout : m.outputs = n.outputs)
    (a1 a2 : List (Option V)) (h1 : lookupAll ρ n.inputs = some a1) (h2 : lookupAll ρ m.inputs = some a2)
    (hop : sem.op m.op m.domain m.attrs a2 = sem.op n.op n.domain n.attrs a1) :
    evalNode sem sub ρ m = evalNode sem sub ρ n := by
  simp only [evalNode, h1, h2, Option.bind, nodeOutputs, hns, hms, List.isEmpty_nil, if_true,
    constDenote_not_constant sem n hnc, constDenote_not_constant sem m hmc, hop, hout]

theorem evalNode_unary (sem : Sem V) (sub) (ρ ρ1 : Env V) (n : Node) (x o : Name)
    (hsubs : n.subs = []) (hnc : n.isOp "Constant" = false) (hin : n.inputs = [some x]) (hout : n.outputs = [o])
    (he : evalNode sem sub ρ n = some ρ1) :
    ∃ v w ws, ρ x = some v ∧ sem.op n.op n.domain n.attrs [some v] = some (w :: ws) ∧ ρ1 = ρ.set o w := by
  simp only [evalNode, hin, lookupAll, lookupIn] at he
  cases hx : ρ x with
  | none => simp [hx] at he
  | some v =>
    simp only [hx, Option.map, Option.bind, nodeOutputs, hsubs, List.isEmpty_nil, if_true,
      constDenote_not_constant sem n hnc, hout] at he
    cases hop : sem.op n.op n.domain n.attrs [some v] with
    | none => simp [hop] at he
    | some vs =>
      cases vs with
      | nil => simp [hop, bindOuts] at he
      | cons w ws =>
        simp only [hop, bindOuts, Option.some.injEq] at he
        exact ⟨v, w, ws, rfl, hop, he.symm⟩

theorem evalNode_first_input (sem : Sem V) (sub) (ρ ρ1 : Env V) (n : Node) (x o : Name) (tl : List (Option Name))
    (hsubs : n.subs = []) (hnc : n.isOp "Constant" = false) (hin : n.inputs = some x :: tl) (hout : n.outputs = [o])
    (hlaw : ∀ v args vs, ρ x = some v → lookupAll ρ tl = some args →
      sem.op n.op n.domain n.attrs (some v :: args) = some vs → vs.head? = some v)
    (hid : ∀ v, sem.op "Identity" "" [] [some v] = some [v])
    (he : evalNode sem sub ρ n = some ρ1) :
    evalNode sem sub ρ (mkNode "Identity" [some x] [o]) = some ρ1 := by
  simp only [evalNode, hin, lookupAll, lookupIn] at he
  cases hx : ρ x with
  | none => simp [hx] at he
  | some v =>
    cases htl : lookupAll ρ tl with
    | none => simp [hx, htl] at he
    | some args =>
      simp only [hx, htl, Option.map, Option.bind, nodeOutputs, hsubs, List.isEmpty_nil, if_true,
        constDenote_not_constant sem n hnc, hout] at he
      cases hop : sem.op n.op n.domain n.attrs (some v :: args) with
      | none => simp [hop] at he
      | some vs =>
        have hhd := hlaw v args vs hx htl hop
        cases vs with
        | nil => simp at hhd
        | cons w ws =>
          have hw : w = v := by simpa using hhd
          subst hw
          simp only [hop, bindOuts, Option.some.injEq] at he
          have hc : ("Identity" == "Constant") = false := by decide
          simp only [evalNode, mkNode, Node.inputs, lookupAll, lookupIn, hx, Option.map, Option.bind, nodeOutputs, Node.subs,
            List.isEmpty_nil, if_true, constDenote, Node.isOp, Node.op, Node.domain, Node.attrs, hc, Bool.false_and,
            Bool.false_eq_true, if_false, hid w, Node.outputs, bindOuts]
          rw [he]

/-- `Cast` produces a value of the requested element type -/
def CastTyped {sem : Sem V} (L : OpLaws sem) : Prop :=
  ∀ attrs (v w : V) ws (dt : Int), sem.op "Cast" "" attrs [some v] = some (w :: ws) →
    (attrs.find? (·.1 == "to")).map (·.2) = some (Attr.int dt) → L.hasDtype w dt.toNat

theorem intAttr_some' {n : Node} {k : String} {i : Int} (h : intAttr n k none = some i) :
    (n.attrs.find? (·.1 == k)).map (·.2) = some (Attr.int i) := by
  unfold intAttr Node.attr at h
  split at h
  · rename_i j hj
    simp only [Option.some.injEq] at h
    subst h
    exact hj
  · simp at h
  · split at h <;> simp at h

theorem cast_to_annotated {sem : Sem V} (L : OpLaws sem) (st : St) (n : Node) (x : Name) (to : Int) (v : V)
    (hattr : intAttr n "to" none = some to) (hto : intAttr n "to" none ≠ some 0)
    (het : ((((st.getInfo x).dtype).getD 0 : Nat) : Int) = to)
    (hv : ∀ dt, (st.getInfo x).dtype = some dt → L.hasDtype v dt) :
    sem.op "Cast" "" n.attrs [some v] = some [v] := by
  cases hdx : (st.getInfo x).dtype with
  | none =>
    rw [hdx] at het
    exact absurd (by rw [hattr, ← het]; rfl) hto
  | some dx =>
    rw [hdx, Option.getD_some] at het
    exact L.cast_same n.attrs v dx (hv dx hdx) (by rw [het]; exact intAttr_some' hattr)

/-- the oracle's answers carry their true element type -/
def OracleTyped {sem : Sem V} (L : OpLaws sem) (ctx : Ctx) : Prop :=
  ∀ key (c : CInfo), lookupA ctx.oracle key = some (.single c) → L.hasDtype (sem.tensor c.tok) c.dtype

/-- whatever element type `_process_constant_node` newly records for the output of a `Constant` node is the
element type of the value the node evaluates to -/
def ConstMarkTyped {sem : Sem V} (L : OpLaws sem) (ctx : Ctx) (n : Node) : Prop :=
  ∀ (sub : Env V → Graph → List (Option V) → Option (List V)) (st0 : St) (x : Name) (dt : Nat) (ρ ρ1 : Env V) (v : V),
    (processConstant ctx st0 n).getInfo x ≠ st0.getInfo x → ((processConstant ctx st0 n).getInfo x).dtype = some dt →
    evalNode sem sub ρ n = some ρ1 → ρ1 x = some v → L.hasDtype v dt

end OV.C03
