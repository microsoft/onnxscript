import OV.Model.C01Convert
import OV.Lemmas.C01Induct
/-!
The converter's functions live in the state-and-error monad `M`.  Every fact about what they emit starts from
a run `f … s = .ok (r, s')` and needs the runs of the steps `f` is made of.  That decomposition is done here,
once per function:

* for a function without recursion, and for each statement form of `convStmt`, as an inversion lemma (`…_ok`) that
  keeps the guard selecting each case (the simulation has to match it with the case the source semantics takes);
* for a recursion over a list as an induction principle over its successful runs (`…_induct`), whose cases are
  the rules by which a run is built;
* for the two mutually recursive groups as a structure of such rules (`ExprRules`, `StmtRules`) together with the
  induction they justify (`ExprRules.expr/.args`, `StmtRules.stmt/.stmts/.body`): a property of all runs is an
  instance of the structure, one line per rule.
-/
namespace OV.C01

theorem bind_ok {α β} {m : M α} {f : α → M β} {s s'' : St} {b : β}
    (h : (m >>= f) s = .ok (b, s'')) : ∃ a s', m s = .ok (a, s') ∧ f a s' = .ok (b, s'') := by
  change M.bind m f s = _ at h
  unfold M.bind at h
  cases hm : m s with
  | error e => rw [hm] at h; cases h
  | ok p =>
    obtain ⟨a, s'⟩ := p
    rw [hm] at h
    exact ⟨a, s', rfl, h⟩

theorem pure_ok {α} {a b : α} {s s' : St} (h : (pure a : M α) s = .ok (b, s')) : a = b ∧ s = s' := by
  change M.pure a s = _ at h
  unfold M.pure at h
  cases h
  exact ⟨rfl, rfl⟩

theorem failM_ok {α} {e : Err} {b : α} {s s' : St} (h : (failM e : M α) s = .ok (b, s')) : False := by
  unfold failM at h
  cases h

/-- `mbind h with a s ha`: split `h : (m >>= f) s0 = .ok _` into `ha : m s0 = .ok (a, s)` and the rest,
which replaces `h` (the old `h` is cleared so that later `subst`s cannot resurrect it). -/
syntax "mbind " ident " with " ident ident ident : tactic
macro_rules
  | `(tactic| mbind $h with $a $s $ha) =>
    `(tactic| (have hx__ := bind_ok $h; clear $h; have ⟨$a, $s, $ha, $h⟩ := hx__; clear hx__))

theorem liftE_ok {α} {e : Except Err α} {a : α} {s s' : St} (h : liftE e s = .ok (a, s')) :
    e = .ok a ∧ s' = s := by
  unfold liftE at h
  split at h
  · cases h; exact ⟨rfl, rfl⟩
  · cases h

theorem needState_ok {α : Type} {state : List Name} {a r : α} {s s' : St}
    (h : needState state a s = .ok (r, s')) : state ≠ [] ∧ a = r ∧ s = s' := by
  unfold needState at h
  cases state with
  | nil => exact (failM_ok (s := s) h).elim
  | cons x xs => exact ⟨List.cons_ne_nil _ _, pure_ok h⟩

theorem onlyLast_ok {α : Type} {last : Bool} {m : M α} {r : α} {s s' : St}
    (h : onlyLast last m s = .ok (r, s')) : last = true ∧ m s = .ok (r, s') := by
  unfold onlyLast at h
  cases last with
  | true => exact ⟨rfl, h⟩
  | false => exact (failM_ok (s := s) h).elim

theorem genUniques_induct {P : List Name → St → List Name → St → Prop} (nil : ∀ {s}, P [] s [] s)
    (cons : ∀ {c cs s r s1 rs s'}, genUnique c s = Except.ok (r, s1) → genUniques cs s1 = Except.ok (rs, s') →
      P cs s1 rs s' → P (c :: cs) s (r :: rs) s') :
    ∀ {cs s rs s'}, genUniques cs s = Except.ok (rs, s') → P cs s rs s' := by
  intro cs
  induction cs with
  | nil =>
    intro s rs s' h
    obtain ⟨rfl, rfl⟩ := pure_ok h
    exact nil
  | cons c cs ih =>
    intro s rs s' h
    unfold genUniques at h
    mbind h with r s1 hr
    mbind h with rs' s2 hrs
    obtain ⟨rfl, rfl⟩ := pure_ok h
    exact cons hr hrs (ih hrs)

theorem emitConst_ok {l : Lit} {sug : Option Name} {x : Name} {ns : List Node} {s s' : St}
    (h : emitConst l sug s = .ok ((x, ns), s')) :
    ∃ s1, genUnique (sug.getD (litDefaultName l)) s = .ok (x, s1) ∧ markCastable x s1 = .ok ((), s') ∧
      ns = [.op "" "Constant" [] [x] [("value", .const (litPayload l))]] := by
  unfold emitConst at h
  mbind h with n s1 hn
  mbind h with u s2 hm
  obtain ⟨e, rfl⟩ := pure_ok h
  cases e
  exact ⟨s1, hn, hm, rfl⟩

theorem emitCopy_ok {o sug x : Name} {ns : List Node} {s s' : St}
    (h : emitCopy o sug s = .ok ((x, ns), s')) :
    genUnique sug s = .ok (x, s') ∧ ns = [.op "" "Identity" [some o] [x] []] := by
  unfold emitCopy at h
  mbind h with n s1 hn
  obtain ⟨e, rfl⟩ := pure_ok h
  cases e
  exact ⟨hn, rfl⟩

theorem toOnnxVar_val_ok {n t x : Name} {ns : List Node} {s s' : St}
    (h : toOnnxVar (.val n) t s = .ok ((x, ns), s')) : x = n ∧ ns = [] ∧ s' = s := by
  obtain ⟨e, rfl⟩ := pure_ok h
  cases e
  exact ⟨rfl, rfl, rfl⟩

theorem toOnnxVar_attr_ok {p : Name} {ty : AttrTy} {t x : Name} {ns : List Node} {s s' : St}
    (h : toOnnxVar (.attr p ty) t s = .ok ((x, ns), s')) :
    ∃ an r s1, attrValueName ty = some an ∧ genUnique t s = .ok (r, s1) ∧
      ((ty ≠ .bool ∧ x = r ∧ markCastable r s1 = .ok ((), s') ∧ ns = [.op "" "Constant" [] [r] [(an, .ref p)]]) ∨
       (∃ s2, ty = .bool ∧ genUnique (r ++ "_as_bool") s1 = .ok (x, s2) ∧ markCastable x s2 = .ok ((), s') ∧
          ns = [.op "" "Constant" [] [r] [(an, .ref p)], .op "" "Cast" [some r] [x] [("to", .const "i:9")]])) := by
  unfold toOnnxVar at h
  simp only at h
  mbind h with r s1 hr
  cases hav : attrValueName ty with
  | none => simp only [hav] at h; exact (failM_ok h).elim
  | some an =>
    simp only [hav] at h
    refine ⟨an, r, s1, rfl, hr, ?_⟩
    by_cases hb : ty = AttrTy.bool
    · rw [if_pos hb] at h
      mbind h with rb s2 hrb
      mbind h with u s3 hm
      obtain ⟨e, rfl⟩ := pure_ok h
      cases e
      exact Or.inr ⟨s2, hb, hrb, hm, rfl⟩
    · rw [if_neg hb] at h
      mbind h with u s3 hm
      obtain ⟨e, rfl⟩ := pure_ok h
      cases e
      exact Or.inl ⟨hb, rfl, hm, rfl⟩

theorem pyVar_ok {L : Locals} {v : Name} {r : Name × List Node} {s s' : St}
    (h : pyVar L v s = .ok (r, s')) : ∃ b, lookup L v = some b ∧ toOnnxVar b v s = .ok (r, s') := by
  unfold pyVar at h
  cases hl : lookup L v with
  | none => simp only [hl] at h; exact (failM_ok h).elim
  | some b => simp only [hl] at h; exact ⟨b, rfl, h⟩

theorem castOne_ok {a : Name} {tgt : Option Name} {x : Name} {ns : List Node} {s s' : St}
    (h : castOne a tgt s = .ok ((x, ns), s')) :
    ((tgt = none ∨ s.castable.contains a = false) ∧ x = a ∧ ns = [] ∧ s' = s) ∨
    (∃ y, tgt = some y ∧ s.castable.contains a = true ∧ genUnique (a ++ "_cast") s = .ok (x, s') ∧
      ns = [.op "" "CastLike" [some a, some y] [x] []]) := by
  unfold castOne at h
  cases tgt with
  | none => cases h; exact Or.inl ⟨Or.inl rfl, rfl, rfl, rfl⟩
  | some y =>
    simp only at h
    cases hc : s.castable.contains a with
    | false => simp only [hc, Bool.false_eq_true, if_false] at h; cases h; exact Or.inl ⟨Or.inr rfl, rfl, rfl, rfl⟩
    | true =>
      simp only [hc, if_true] at h
      cases hg : genUnique (a ++ "_cast") s with
      | error e => simp only [hg] at h; cases h
      | ok p =>
        obtain ⟨xc, s1⟩ := p
        simp only [hg] at h
        cases h
        exact Or.inr ⟨y, rfl, rfl, rfl, rfl⟩

theorem castArgs_induct {sig : Sig} {bs : List (String × Name)}
    {P : List Name → Nat → St → List Name → List Node → St → Prop}
    (nil : ∀ {i s}, P [] i s [] [] s)
    (cons : ∀ {a as i s x n1 s1 xs ns s'}, castOne a (castTarget sig bs i) s = Except.ok ((x, n1), s1) →
      castArgs sig bs as (i + 1) s1 = Except.ok ((xs, ns), s') → P as (i + 1) s1 xs ns s' →
      P (a :: as) i s (x :: xs) (n1 ++ ns) s') :
    ∀ {as i s xs ns s'}, castArgs sig bs as i s = Except.ok ((xs, ns), s') → P as i s xs ns s' := by
  intro as
  induction as with
  | nil =>
    intro i s xs ns s' h
    obtain ⟨e, rfl⟩ := pure_ok h
    cases e
    exact nil
  | cons a as ih =>
    intro i s xs ns s' h
    unfold castArgs at h
    mbind h with p s1 hc
    obtain ⟨x, n1⟩ := p
    mbind h with p s2 hr
    obtain ⟨rest, ns'⟩ := p
    obtain ⟨e, rfl⟩ := pure_ok h
    cases e
    exact cons hc hr (ih hr)

theorem castInputs_ok {sig : Sig} {as xs : List Name} {ns : List Node} {s s' : St}
    (h : castInputs sig as s = .ok ((xs, ns), s')) :
    (sig.known = false ∧ xs = as ∧ ns = [] ∧ s' = s) ∨
    (∃ bs, sig.known = true ∧ castBindings sig s.castable as 0 [] = some bs ∧
      castArgs sig bs as 0 s = .ok ((xs, ns), s')) := by
  unfold castInputs at h
  cases hk : sig.known with
  | false => simp only [hk, Bool.not_false, if_true] at h; cases h; exact Or.inl ⟨rfl, rfl, rfl, rfl⟩
  | true =>
    simp only [hk, Bool.not_true, Bool.false_eq_true, if_false] at h
    cases hbs : castBindings sig s.castable as 0 [] with
    | none => simp only [hbs] at h; cases h
    | some bs => simp only [hbs] at h; exact Or.inr ⟨bs, rfl, rfl, h⟩

theorem const1d_ok {c c' : IntCache} {v : Int} {x : Name} {ns : List Node} {s s' : St}
    (h : const1d c v s = .ok ((x, ns, c'), s')) :
    (cacheFind c v = some x ∧ ns = [] ∧ c' = c ∧ s' = s) ∨
    (emitConst (.ints [v]) none s = .ok ((x, ns), s') ∧ c' = (v, x) :: c) := by
  unfold const1d at h
  cases hf : cacheFind c v with
  | some n =>
    simp only [hf] at h
    obtain ⟨e, rfl⟩ := pure_ok h
    cases e
    exact Or.inl ⟨rfl, rfl, rfl, rfl⟩
  | none =>
    simp only [hf] at h
    mbind h with p s1 h1
    obtain ⟨n, ns'⟩ := p
    obtain ⟨e, rfl⟩ := pure_ok h
    cases e
    exact Or.inr ⟨h1, rfl⟩

theorem convSlice_ok {c c' : IntCache} {lo up st : Option Int} {ln un sn : Name} {ns : List Node} {s s' : St}
    (h : convSlice c lo up st s = .ok (((ln, un, sn), ns, c'), s')) :
    ∃ ns1 c1 s1 ns2 c2 s2 ns3,
      const1d c (st.getD 1) s = .ok ((sn, ns1, c1), s1) ∧
      const1d c1 (lo.getD (if st.getD 1 > 0 then 0 else maxInt64)) s1 = .ok ((ln, ns2, c2), s2) ∧
      const1d c2 (up.getD (if st.getD 1 > 0 then maxInt64 else minInt64)) s2 = .ok ((un, ns3, c'), s') ∧
      ns = ns1 ++ (ns2 ++ ns3) := by
  unfold convSlice at h
  mbind h with p s1 h1
  obtain ⟨sn', ns1, c1⟩ := p
  mbind h with p s2 h2
  obtain ⟨ln', ns2, c2⟩ := p
  mbind h with p s3 h3
  obtain ⟨un', ns3, c3⟩ := p
  obtain ⟨e, rfl⟩ := pure_ok h
  cases e
  exact ⟨ns1, c1, s1, ns2, c2, s2, ns3, h1, h2, h3, rfl⟩

theorem convSlices_induct
    {P : IntCache → List SliceEl → St → List Name → List Name → List Name → List Name → List Node →
      IntCache → St → Prop}
    (nil : ∀ {c s}, P c [] s [] [] [] [] [] c s)
    (cons : ∀ {c ax lo up st rest s an ns0 c0 s0 l u sn ns1 c1 s1 ls us as ss ns2 c' s'},
      const1d c (Int.ofNat ax) s = Except.ok ((an, ns0, c0), s0) →
      convSlice c0 lo up st s0 = Except.ok (((l, u, sn), ns1, c1), s1) →
      convSlices c1 rest s1 = Except.ok (((ls, us, as, ss), ns2, c'), s') → P c1 rest s1 ls us as ss ns2 c' s' →
      P c ((ax, lo, up, st) :: rest) s (l :: ls) (u :: us) (an :: as) (sn :: ss) (ns0 ++ (ns1 ++ ns2)) c' s') :
    ∀ {els c s starts ends axes steps ns c' s'},
      convSlices c els s = Except.ok (((starts, ends, axes, steps), ns, c'), s') →
      P c els s starts ends axes steps ns c' s' := by
  intro els
  induction els with
  | nil =>
    intro c s starts ends axes steps ns c' s' h
    obtain ⟨e, rfl⟩ := pure_ok h
    cases e
    exact nil
  | cons el rest ih =>
    intro c s starts ends axes steps ns c' s' h
    obtain ⟨ax, lo, up, st⟩ := el
    unfold convSlices at h
    mbind h with p s1 h1
    obtain ⟨an, ns0, c0⟩ := p
    mbind h with p s2 h2
    obtain ⟨⟨l, u, sn⟩, ns1, c1⟩ := p
    mbind h with p s3 h3
    obtain ⟨⟨ls, us, as, ss⟩, ns2, c2⟩ := p
    obtain ⟨e, rfl⟩ := pure_ok h
    cases e
    exact cons h1 h2 h3 (ih h3)

theorem pickOrConcat_ok {cand : Name} {xs : List Name} {x : Name} {ns : List Node} {s s' : St}
    (h : pickOrConcat cand xs s = .ok ((x, ns), s')) :
    (xs = [x] ∧ ns = [] ∧ s' = s) ∨
    (genUnique cand s = .ok (x, s') ∧ ns = [.op "" "Concat" (xs.map some) [x] [("axis", .const "i:0")]]) := by
  have hc : ∀ {s s' : St} {x : Name} {ns : List Node},
      (do let r ← genUnique cand
          pure (r, [Node.op "" "Concat" (xs.map some) [r] [("axis", AttrV.const "i:0")]]) : M (Name × List Node)) s
        = .ok ((x, ns), s') →
      genUnique cand s = .ok (x, s') ∧ ns = [.op "" "Concat" (xs.map some) [x] [("axis", .const "i:0")]] := by
    intro s s' x ns h
    mbind h with r s1 h1
    obtain ⟨e, rfl⟩ := pure_ok h
    cases e
    exact ⟨h1, rfl⟩
  unfold pickOrConcat at h
  cases xs with
  | nil => exact Or.inr (hc h)
  | cons a t =>
    cases t with
    | nil =>
      obtain ⟨e, rfl⟩ := pure_ok h
      cases e
      exact Or.inl ⟨rfl, rfl, rfl⟩
    | cons b t' => exact Or.inr (hc h)

/-- The list `all` of `convSubscript`. -/
def sliceEls (idx : List Idx) : List SliceEl :=
  slicedOf 0 idx ++
    (scalarsOf 0 idx).map (fun p => (p.1, some p.2, some (if p.2 = -1 then maxInt64 else p.2 + 1), some 1))

/-- The three shapes of a translated subscript; in each the target name is generated first and defined by the
last node. -/
theorem convSubscript_ok {var : Name} {tgt : Option Name} {idx : List Idx} {x : Name} {ns : List Node}
    {s s' : St} (h : convSubscript var tgt idx s = .ok ((x, ns), s')) :
    ∃ s0, genUnique (tgt.getD (var ++ "_subscripted")) s = .ok (x, s0) ∧
      ((∃ starts ends axes steps ns1 cc s1 sv n1 s2 ev n2 s3 av n3 s4 tv n4 s5,
          convSlices [] (sliceEls idx) s0 = .ok (((starts, ends, axes, steps), ns1, cc), s1) ∧
          pickOrConcat (var ++ "_start") starts s1 = .ok ((sv, n1), s2) ∧
          pickOrConcat (var ++ "_end") ends s2 = .ok ((ev, n2), s3) ∧
          pickOrConcat (var ++ "_axis") axes s3 = .ok ((av, n3), s4) ∧
          pickOrConcat (var ++ "_step") steps s4 = .ok ((tv, n4), s5) ∧
          ((s' = s5 ∧ ns = (ns1 ++ (n1 ++ (n2 ++ (n3 ++ n4)))) ++
              [.op "" "Slice" [some var, some sv, some ev, some av, some tv] [x] []]) ∨
           (∃ sliced s6 sq n5, genUnique (var ++ "_sliced") s5 = .ok (sliced, s6) ∧
              emitConst (.ints ((scalarsOf 0 idx).map (fun p => Int.ofNat p.1))) (some "squeezed_axes") s6
                = .ok ((sq, n5), s') ∧
              ns = ((ns1 ++ (n1 ++ (n2 ++ (n3 ++ n4)))) ++
                (.op "" "Slice" [some var, some sv, some ev, some av, some tv] [sliced] [] :: n5)) ++
                  [.op "" "Squeeze" [some sliced, some sq] [x] []]))) ∨
       (s' = s0 ∧ ns = [.op "" "Identity" [some var] [x] []]) ∨
       (∃ (ax : Nat) (k : Int) (iv : Name) (n1 : List Node), emitConst (.int k) none s0 = .ok ((iv, n1), s') ∧
          ns = n1 ++ [.op "" "Gather" [some var, some iv] [x] [("axis", .const ("i:" ++ toString ax))]])) := by
  unfold convSubscript at h
  mbind h with target s0 h0
  by_cases hc : (!(slicedOf 0 idx).isEmpty || decide ((scalarsOf 0 idx).length > 1)) = true
  · rw [if_pos hc] at h
    mbind h with p s1 h1
    obtain ⟨⟨starts, ends, axes, steps⟩, ns1, cc⟩ := p
    mbind h with p s2 h2
    obtain ⟨sv, n1⟩ := p
    mbind h with p s3 h3
    obtain ⟨ev, n2⟩ := p
    mbind h with p s4 h4
    obtain ⟨av, n3⟩ := p
    mbind h with p s5 h5
    obtain ⟨tv, n4⟩ := p
    dsimp only at h
    by_cases hsc : (scalarsOf 0 idx).isEmpty = true
    · rw [if_pos hsc] at h
      obtain ⟨e, rfl⟩ := pure_ok h
      cases e
      exact ⟨s0, h0, Or.inl ⟨_, _, _, _, _, _, _, _, _, _, _, _, _, _, _, _, _, _, _, h1, h2, h3, h4, h5,
        Or.inl ⟨rfl, by simp only [List.append_assoc]⟩⟩⟩
    · rw [if_neg hsc] at h
      mbind h with sliced s6 h6
      mbind h with p s7 h7
      obtain ⟨sq, n5⟩ := p
      obtain ⟨e, rfl⟩ := pure_ok h
      cases e
      exact ⟨s0, h0, Or.inl ⟨_, _, _, _, _, _, _, _, _, _, _, _, _, _, _, _, _, _, _, h1, h2, h3, h4, h5,
        Or.inr ⟨_, _, _, _, h6, h7, by simp only [List.append_assoc, List.cons_append]⟩⟩⟩
  · rw [if_neg hc] at h
    cases hsc : scalarsOf 0 idx with
    | nil =>
      simp only [hsc] at h
      obtain ⟨e, rfl⟩ := pure_ok h
      cases e
      exact ⟨s0, h0, Or.inr (Or.inl ⟨rfl, rfl⟩)⟩
    | cons p rest =>
      obtain ⟨ax, k⟩ := p
      simp only [hsc] at h
      mbind h with q s1 h1
      obtain ⟨iv, n1⟩ := q
      obtain ⟨e, rfl⟩ := pure_ok h
      cases e
      exact ⟨s0, h0, Or.inr (Or.inr ⟨ax, k, iv, n1, h1, rfl⟩)⟩

/-- The rules by which a successful run of `convExpr` / `convArgs` in the scope `L` is put together from runs of
its parts, as premises of an induction: `PE`, `PA` hold of every run if they are preserved by each rule
(`ExprRules.expr`, `ExprRules.args`). -/
structure ExprRules (L : Locals) (PE : Expr → Option Name → St → Name → List Node → St → Prop)
    (PA : List Expr → St → List Name → List Node → St → Prop) : Prop where
  var : ∀ {v tgt s x ns s'}, pyVar L v s = Except.ok ((x, ns), s') → PE (Expr.var v) tgt s x ns s'
  lit : ∀ {l tgt s x ns s'}, emitConst l tgt s = Except.ok ((x, ns), s') → PE (Expr.lit l) tgt s x ns s'
  call : ∀ {dom op sig args attrs tgt s as ns1 s1 attrs' as' ns2 s2 r s'},
    convArgs L args s = Except.ok ((as, ns1), s1) → PA args s as ns1 s1 →
    convAttrs L attrs = Except.ok attrs' →
    castInputs sig as s1 = Except.ok ((as', ns2), s2) →
    genUnique (tgt.getD "tmp") s2 = Except.ok (r, s') →
    PE (Expr.call dom op sig args attrs) tgt s r (ns1 ++ (ns2 ++ [Node.op dom op (as'.map some) [r] attrs'])) s'
  binop : ∀ {o a b tgt oname s l ns1 s1 r ns2 s2 as' ns3 s3 res s'}, primop o = some oname →
    convExpr L a none s = Except.ok ((l, ns1), s1) → PE a none s l ns1 s1 →
    convExpr L b none s1 = Except.ok ((r, ns2), s2) → PE b none s1 r ns2 s2 →
    castInputs (sigOfPrim oname) [l, r] s2 = Except.ok ((as', ns3), s3) →
    genUnique (tgt.getD "tmp") s3 = Except.ok (res, s') →
    PE (Expr.binop o a b) tgt s res (ns1 ++ (ns2 ++ (ns3 ++ [Node.op "" oname (as'.map some) [res]
      (if o = "Mod" && isFloatConst b then [("fmod", AttrV.const "i:1")] else [])]))) s'
  neg : ∀ {o a tgt oname l s x ns s'}, primop o = some oname → negatedLiteral o a = some l →
    emitConst (negLit l) none s = Except.ok ((x, ns), s') → PE (Expr.unop o a) tgt s x ns s'
  unop : ∀ {o a tgt oname s y ns1 s1 res s'}, primop o = some oname → negatedLiteral o a = none →
    convExpr L a none s = Except.ok ((y, ns1), s1) → PE a none s y ns1 s1 →
    genUnique (tgt.getD "tmp") s1 = Except.ok (res, s') →
    PE (Expr.unop o a) tgt s res (ns1 ++ [Node.op "" oname [some y] [res] []]) s'
  cmpNe : ∀ {o a b tgt s l ns1 s1 r ns2 s2 as' ns3 s3 tmp s4 res s'}, primop o = some "NotEqual" →
    convExpr L a none s = Except.ok ((l, ns1), s1) → PE a none s l ns1 s1 →
    convExpr L b none s1 = Except.ok ((r, ns2), s2) → PE b none s1 r ns2 s2 →
    castInputs binSig [l, r] s2 = Except.ok ((as', ns3), s3) →
    genUnique "tmp" s3 = Except.ok (tmp, s4) → genUnique (tgt.getD "tmp") s4 = Except.ok (res, s') →
    PE (Expr.cmp o a b) tgt s res (ns1 ++ (ns2 ++ (ns3 ++
      [Node.op "" "Equal" (as'.map some) [tmp] [], Node.op "" "Not" [some tmp] [res] []]))) s'
  cmp : ∀ {o a b tgt oname s l ns1 s1 r ns2 s2 as' ns3 s3 res s'}, primop o = some oname →
    oname ≠ "NotEqual" →
    convExpr L a none s = Except.ok ((l, ns1), s1) → PE a none s l ns1 s1 →
    convExpr L b none s1 = Except.ok ((r, ns2), s2) → PE b none s1 r ns2 s2 →
    castInputs binSig [l, r] s2 = Except.ok ((as', ns3), s3) →
    genUnique (tgt.getD "tmp") s3 = Except.ok (res, s') →
    PE (Expr.cmp o a b) tgt s res (ns1 ++ (ns2 ++ (ns3 ++ [Node.op "" oname (as'.map some) [res] []]))) s'
  subscript : ∀ {base idx tgt s v ns1 s1 r ns2 s'},
    convExpr L base none s = Except.ok ((v, ns1), s1) → PE base none s v ns1 s1 →
    convSubscript v tgt idx s1 = Except.ok ((r, ns2), s') →
    PE (Expr.subscript base idx) tgt s r (ns1 ++ ns2) s'
  nil : ∀ {s}, PA [] s [] [] s
  cons : ∀ {e es s x ns1 s1 xs ns2 s'},
    convExpr L e none s = Except.ok ((x, ns1), s1) → PE e none s x ns1 s1 →
    convArgs L es s1 = Except.ok ((xs, ns2), s') → PA es s1 xs ns2 s' →
    PA (e :: es) s (x :: xs) (ns1 ++ ns2) s'

namespace ExprRules

theorem all {L PE PA} (R : ExprRules L PE PA) :
    (∀ (e : Expr) (tgt : Option Name) {x : Name} {ns : List Node} {s s' : St},
      convExpr L e tgt s = .ok ((x, ns), s') → PE e tgt s x ns s') ∧
    (∀ (es : List Expr) {xs : List Name} {ns : List Node} {s s' : St},
      convArgs L es s = .ok ((xs, ns), s') → PA es s xs ns s') := by
  apply expr_induct
  case var =>
    intro v tgt x ns s s' h
    unfold convExpr at h
    exact R.var h
  case lit =>
    intro l tgt x ns s s' h
    unfold convExpr at h
    exact R.lit h
  case call =>
    intro dom op sig args attrs iha tgt x ns s s' h
    unfold convExpr at h
    mbind h with p s1 h1
    obtain ⟨as, ns1⟩ := p
    mbind h with attrs' s2 h2
    obtain ⟨ha, rfl⟩ := liftE_ok h2
    mbind h with p s3 h3
    obtain ⟨as', ns2⟩ := p
    mbind h with r s4 h4
    obtain ⟨e, rfl⟩ := pure_ok h
    cases e
    exact R.call h1 (iha h1) ha h3 h4
  case binop =>
    intro o a b iha ihb tgt x ns s s' h
    unfold convExpr at h
    cases hp : primop o with
    | none => simp only [hp] at h; exact (failM_ok h).elim
    | some oname =>
      simp only [hp] at h
      mbind h with p s1 h1
      obtain ⟨l, ns1⟩ := p
      mbind h with p s2 h2
      obtain ⟨r, ns2⟩ := p
      mbind h with p s3 h3
      obtain ⟨as', ns3⟩ := p
      mbind h with res s4 h4
      obtain ⟨e, rfl⟩ := pure_ok h
      cases e
      exact R.binop hp h1 (iha none h1) h2 (ihb none h2) h3 h4
  case unop =>
    intro o a iha tgt x ns s s' h
    unfold convExpr at h
    cases hp : primop o with
    | none => simp only [hp] at h; exact (failM_ok h).elim
    | some oname =>
      simp only [hp] at h
      cases hn : negatedLiteral o a with
      | some l => simp only [hn] at h; exact R.neg hp hn h
      | none =>
        simp only [hn] at h
        mbind h with p s1 h1
        obtain ⟨y, ns1⟩ := p
        mbind h with res s4 h4
        obtain ⟨e, rfl⟩ := pure_ok h
        cases e
        exact R.unop hp hn h1 (iha none h1) h4
  case cmp =>
    intro o a b iha ihb tgt x ns s s' h
    unfold convExpr at h
    cases hp : primop o with
    | none => simp only [hp] at h; exact (failM_ok h).elim
    | some oname =>
      simp only [hp] at h
      mbind h with p s1 h1
      obtain ⟨l, ns1⟩ := p
      mbind h with p s2 h2
      obtain ⟨r, ns2⟩ := p
      mbind h with p s3 h3
      obtain ⟨as', ns3⟩ := p
      by_cases hne : oname = "NotEqual"
      · subst hne
        rw [if_pos rfl] at h
        mbind h with tmp s4 h4
        mbind h with res s5 h5
        obtain ⟨e, rfl⟩ := pure_ok h
        cases e
        exact R.cmpNe hp h1 (iha none h1) h2 (ihb none h2) h3 h4 h5
      · rw [if_neg hne] at h
        mbind h with res s4 h4
        obtain ⟨e, rfl⟩ := pure_ok h
        cases e
        exact R.cmp hp hne h1 (iha none h1) h2 (ihb none h2) h3 h4
  case subscript =>
    intro base idx ihb tgt x ns s s' h
    unfold convExpr at h
    mbind h with p s1 h1
    obtain ⟨v, ns1⟩ := p
    mbind h with p s2 h2
    obtain ⟨r, ns2⟩ := p
    obtain ⟨e, rfl⟩ := pure_ok h
    cases e
    exact R.subscript h1 (ihb none h1) h2
  case other =>
    intro us tgt x ns s s' h
    unfold convExpr at h
    exact (failM_ok h).elim
  case nil =>
    intro xs ns s s' h
    unfold convArgs at h
    obtain ⟨e, rfl⟩ := pure_ok h
    cases e
    exact R.nil
  case cons =>
    intro e es ihe ihes xs ns s s' h
    unfold convArgs at h
    mbind h with p s1 h1
    obtain ⟨y, ns1⟩ := p
    mbind h with p s2 h2
    obtain ⟨ys, ns2⟩ := p
    obtain ⟨e', rfl⟩ := pure_ok h
    cases e'
    exact R.cons h1 (ihe none h1) h2 (ihes h2)

theorem expr {L PE PA} (R : ExprRules L PE PA) (e : Expr) (tgt : Option Name) {x : Name} {ns : List Node} {s s' : St}
    (h : convExpr L e tgt s = .ok ((x, ns), s')) : PE e tgt s x ns s' :=
  R.all.1 e tgt h

theorem args {L PE PA} (R : ExprRules L PE PA) (es : List Expr) {xs : List Name} {ns : List Node} {s s' : St}
    (h : convArgs L es s = .ok ((xs, ns), s')) : PA es s xs ns s' :=
  R.all.2 es h

end ExprRules

theorem lookup_of_currentScopeFind {L : Locals} {x : Name} {b : Bind} (h : currentScopeFind L x = some b) :
    lookup L x = some b := by
  cases L with
  | nil => cases h
  | cons f fs => simp only [currentScopeFind] at h; simp only [lookup, h]

/-- The runs of the two output loops `blockOutputs` and `loopOutputs`: each variable is read in the scope; its
value is listed as it is if a node of this graph produced it and it is not listed yet, and through a fresh
`Identity` otherwise. -/
inductive Outs (L : Locals) : List Name → List Node → List Name → St → List Name → List Node → St → Prop
  | nil {sofar : List Node} {outs : List Name} {s : St} : Outs L [] sofar outs s [] [] s
  | direct {pv : Name} {rest : List Name} {sofar : List Node} {outs : List Name} {s : St} {o : Name}
      {ns1 : List Node} {s1 : St} {os : List Name} {ns2 : List Node} {s' : St} :
      pyVar L pv s = .ok ((o, ns1), s1) → o ∈ topDefs (sofar ++ ns1) → o ∉ outs →
      Outs L rest (sofar ++ ns1) (outs ++ [o]) s1 os ns2 s' →
      Outs L (pv :: rest) sofar outs s (o :: os) (ns1 ++ ns2) s'
  | copy {pv : Name} {rest : List Name} {sofar : List Node} {outs : List Name} {s : St} {o : Name}
      {ns1 : List Node} {s1 : St} {o' : Name} {nc : List Node} {s2 : St} {os : List Name} {ns2 : List Node}
      {s' : St} :
      pyVar L pv s = .ok ((o, ns1), s1) → emitCopy o pv s1 = .ok ((o', nc), s2) →
      Outs L rest (sofar ++ (ns1 ++ nc)) (outs ++ [o']) s2 os ns2 s' →
      Outs L (pv :: rest) sofar outs s (o' :: os) (ns1 ++ (nc ++ ns2)) s'

theorem loopOutputs_outs (L : Locals) : ∀ (vs : List Name) (sofar : List Node) (outs : List Name)
    {os : List Name} {ns : List Node} {s s' : St},
    loopOutputs L vs sofar outs s = .ok ((os, ns), s') → Outs L vs sofar outs s os ns s' := by
  intro vs
  induction vs with
  | nil =>
    intro sofar outs os ns s s' h
    obtain ⟨e, rfl⟩ := pure_ok h
    cases e
    exact .nil
  | cons pv rest ih =>
    intro sofar outs os ns s s' h
    unfold loopOutputs at h
    mbind h with p s1 h1
    obtain ⟨o, ns1⟩ := p
    dsimp only at h
    split at h
    · rename_i hin
      simp only [Bool.and_eq_true, Bool.not_eq_true', Bool.eq_false_iff, ne_eq, List.contains_iff_mem] at hin
      mbind h with p s2 h2
      obtain ⟨os', ns2⟩ := p
      obtain ⟨e, rfl⟩ := pure_ok h
      cases e
      exact .direct h1 hin.1 hin.2 (ih _ _ h2)
    · mbind h with p s2 h2
      obtain ⟨o', nc⟩ := p
      mbind h with p s3 h3
      obtain ⟨os', ns2⟩ := p
      obtain ⟨e, rfl⟩ := pure_ok h
      cases e
      exact .copy h1 h2 (ih _ _ h3)

theorem blockOutputs_outs (L : Locals) : ∀ (vs : List Name) (sofar : List Node) (outs : List Name)
    {os : List Name} {ns : List Node} {s s' : St},
    blockOutputs L vs sofar outs s = .ok ((os, ns), s') → Outs L vs sofar outs s os ns s' := by
  intro vs
  induction vs with
  | nil =>
    intro sofar outs os ns s s' h
    obtain ⟨e, rfl⟩ := pure_ok h
    cases e
    exact .nil
  | cons pv rest ih =>
    intro sofar outs os ns s s' h
    unfold blockOutputs at h
    have hpy : ∀ {b}, lookup L pv = some b → pyVar L pv = toOnnxVar b pv := fun hl => by
      unfold pyVar; rw [hl]
    cases hc : currentScopeFind L pv with
    | some b =>
      simp only [hc] at h
      mbind h with p s1 h1
      obtain ⟨o, ns1⟩ := p
      rw [← hpy (lookup_of_currentScopeFind hc)] at h1
      dsimp only at h
      split at h
      · rename_i hin
        simp only [Bool.and_eq_true, Bool.not_eq_true', Bool.eq_false_iff, ne_eq, List.contains_iff_mem] at hin
        mbind h with p s2 h2
        obtain ⟨os', ns2⟩ := p
        obtain ⟨e, rfl⟩ := pure_ok h
        cases e
        exact .direct h1 hin.1 hin.2 (ih _ _ h2)
      · mbind h with p s2 h2
        obtain ⟨o', nc⟩ := p
        mbind h with p s3 h3
        obtain ⟨os', ns2⟩ := p
        obtain ⟨e, rfl⟩ := pure_ok h
        cases e
        exact .copy h1 h2 (ih _ _ h3)
    | none =>
      simp only [hc] at h
      cases hl : lookup L pv with
      | none => simp only [hl] at h; exact (failM_ok h).elim
      | some b =>
        simp only [hl] at h
        mbind h with p s1 h1
        obtain ⟨o, ns1⟩ := p
        rw [← hpy hl] at h1
        mbind h with p s2 h2
        obtain ⟨o', nc⟩ := p
        mbind h with p s3 h3
        obtain ⟨os', ns2⟩ := p
        obtain ⟨e, rfl⟩ := pure_ok h
        cases e
        exact .copy h1 h2 (ih _ _ h3)

theorem loopInits_induct {L : Locals} {P : List Name → St → List Name → List Node → St → Prop}
    (nil : ∀ {s}, P [] s [] [] s)
    (cons : ∀ {pv rest s o ns1 s1 os ns2 s'}, pyVar L pv s = Except.ok ((o, ns1), s1) →
      loopInits L rest s1 = Except.ok ((os, ns2), s') → P rest s1 os ns2 s' → P (pv :: rest) s (o :: os) (ns1 ++ ns2) s') :
    ∀ {vs s os ns s'},
      loopInits L vs s = Except.ok ((os, ns), s') → P vs s os ns s' := by
  intro vs
  induction vs with
  | nil =>
    intro s os ns s' h
    obtain ⟨e, rfl⟩ := pure_ok h
    cases e
    exact nil
  | cons pv rest ih =>
    intro s os ns s' h
    unfold loopInits at h
    mbind h with p s1 h1
    obtain ⟨o, ns1⟩ := p
    mbind h with p s2 h2
    obtain ⟨os', ns2⟩ := p
    obtain ⟨e, rfl⟩ := pure_ok h
    cases e
    exact cons h1 h2 (ih h2)

theorem loopParams_induct {P : Locals → List Name → St → Locals → List Name → St → Prop}
    (nil : ∀ {L s}, P L [] s L [] s)
    (cons : ∀ {L pv rest s p s1 L' ps s'}, genUnique pv s = Except.ok (p, s1) →
      loopParams (bindVar L pv (Bind.val p)) rest s1 = Except.ok ((L', ps), s') →
      P (bindVar L pv (Bind.val p)) rest s1 L' ps s' → P L (pv :: rest) s L' (p :: ps) s') :
    ∀ {vs L s L' ps s'},
      loopParams L vs s = Except.ok ((L', ps), s') → P L vs s L' ps s' := by
  intro vs
  induction vs with
  | nil =>
    intro L s L' ps s' h
    obtain ⟨e, rfl⟩ := pure_ok h
    cases e
    exact nil
  | cons pv rest ih =>
    intro L s L' ps s' h
    unfold loopParams at h
    mbind h with p s1 h1
    mbind h with q s2 h2
    obtain ⟨L'', ps'⟩ := q
    obtain ⟨e, rfl⟩ := pure_ok h
    cases e
    exact cons h1 h2 (ih h2)

theorem convParExprs_induct {L : Locals}
    {P : List Name → List Expr → St → List Name → List Node → St → Prop}
    (nil : ∀ {xs es s}, xs = [] ∨ es = [] → P xs es s [] [] s)
    (cons : ∀ {x xs e es s t ns1 s1 ts ns2 s'}, convExpr L e (some x) s = Except.ok ((t, ns1), s1) →
      convParExprs L xs es s1 = Except.ok ((ts, ns2), s') → P xs es s1 ts ns2 s' →
      P (x :: xs) (e :: es) s (t :: ts) (ns1 ++ ns2) s') :
    ∀ {xs es s ts ns s'},
      convParExprs L xs es s = Except.ok ((ts, ns), s') → P xs es s ts ns s' := by
  intro xs
  induction xs with
  | nil =>
    intro es s ts ns s' h
    unfold convParExprs at h
    obtain ⟨e, rfl⟩ := pure_ok h
    cases e
    exact nil (Or.inl rfl)
  | cons x xs ih =>
    intro es s ts ns s' h
    cases es with
    | nil =>
      unfold convParExprs at h
      obtain ⟨e, rfl⟩ := pure_ok h
      cases e
      exact nil (Or.inr rfl)
    | cons e es =>
      unfold convParExprs at h
      mbind h with p s1 h1
      obtain ⟨t, ns1⟩ := p
      mbind h with p s2 h2
      obtain ⟨ts', ns2⟩ := p
      obtain ⟨e', rfl⟩ := pure_ok h
      cases e'
      exact cons h1 h2 (ih h2)

theorem loopEnter_ok {L : Locals} {v : Name} {bindIt : Bool} {state : List Name} {L1 : Locals} {iv : Name}
    {ps : List Name} {s s' : St} (h : loopEnter L v bindIt state s = .ok ((L1, iv, ps), s')) :
    ∃ s1, genUnique v s = .ok (iv, s1) ∧ loopParams (loopScope L v bindIt iv) state s1 = .ok ((L1, ps), s') := by
  unfold loopEnter at h
  mbind h with iv' s1 h1
  mbind h with p s2 h2
  obtain ⟨L1', ps'⟩ := p
  obtain ⟨e, rfl⟩ := pure_ok h
  cases e
  exact ⟨s1, h1, h2⟩

theorem condNodes_ok {whileVar brkCond : Option Name} {oc co : Name} {cns : List Node} {s s' : St}
    (h : condNodes whileVar brkCond oc s = .ok ((co, cns), s')) :
    ((whileVar = none ∨ brkCond = none) ∧ genUnique "cond_out" s = .ok (co, s') ∧ cns = [condNode brkCond oc co]) ∨
    (∃ w b nb s1, whileVar = some w ∧ brkCond = some b ∧ genUnique "not_break" s = .ok (nb, s1) ∧
      genUnique "cond_out" s1 = .ok (co, s') ∧
      cns = [.op "" "Not" [some b] [nb] [], .op "" "And" [some oc, some nb] [co] []]) := by
  have hone : ∀ {s s' : St} {co : Name} {cns : List Node},
      (do let co ← genUnique "cond_out"
          pure (co, [condNode brkCond oc co]) : M (Name × List Node)) s = .ok ((co, cns), s') →
      genUnique "cond_out" s = .ok (co, s') ∧ cns = [condNode brkCond oc co] := by
    intro s s' co cns h
    mbind h with c s1 h1
    obtain ⟨e, rfl⟩ := pure_ok h
    cases e
    exact ⟨h1, rfl⟩
  unfold condNodes at h
  cases whileVar with
  | none => exact Or.inl ⟨Or.inl rfl, hone h⟩
  | some w =>
    cases brkCond with
    | none => exact Or.inl ⟨Or.inr rfl, hone h⟩
    | some b =>
      simp only at h
      mbind h with nb s1 h1
      mbind h with c s2 h2
      obtain ⟨e, rfl⟩ := pure_ok h
      cases e
      exact Or.inr ⟨w, b, nb, s1, rfl, rfl, h1, h2, rfl⟩

theorem loopFinish_ok {L L2 : Locals} {state : List Name} {bound cond : Option Name}
    {condIn iv : Name} {ps : List Name} {whileVar : Option Name} {bn : List Node}
    {brkCond : Option Name} {L' : Locals} {nl : List Node} {s s' : St}
    (h : loopFinish L L2 state bound cond condIn iv ps whileVar bn brkCond s = .ok ((L', nl), s')) :
    ∃ oc condOut cns s1 os ns3 s2 inits ns4 s3 outs,
      loopCondName L2 whileVar condIn = some oc ∧
      condNodes whileVar brkCond oc s = .ok ((condOut, cns), s1) ∧
      loopOutputs L2 state (bn ++ cns) [condOut] s1 = .ok ((os, ns3), s2) ∧
      loopInits L state s2 = .ok ((inits, ns4), s3) ∧
      genUniques state s3 = .ok (outs, s') ∧
      L' = bindVals L state outs ∧
      nl = ns4 ++ [.loop bound cond inits outs (iv :: condIn :: ps) (bn ++ (cns ++ ns3)) (condOut :: os)] := by
  unfold loopFinish at h
  cases hc : loopCondName L2 whileVar condIn with
  | none => simp only [hc] at h; exact (failM_ok h).elim
  | some oc =>
    simp only [hc] at h
    mbind h with p s1 h1
    obtain ⟨condOut, cns⟩ := p
    mbind h with p s2 h2
    obtain ⟨os, ns3⟩ := p
    mbind h with p s3 h3
    obtain ⟨inits, ns4⟩ := p
    mbind h with outs s4 h4
    obtain ⟨e, rfl⟩ := pure_ok h
    cases e
    exact ⟨oc, condOut, cns, s1, os, ns3, s2, inits, ns4, s3, outs, rfl, h1, h2, h3, h4, rfl, rfl⟩

theorem loopCondName_ok {L2 : Locals} {whileVar : Option Name} {condIn oc : Name}
    (h : loopCondName L2 whileVar condIn = some oc) :
    (whileVar = none ∧ oc = condIn) ∨ ∃ w, whileVar = some w ∧ currentScopeFind L2 w = some (.val oc) := by
  unfold loopCondName at h
  cases whileVar with
  | none => cases h; exact Or.inl ⟨rfl, rfl⟩
  | some w =>
    simp only at h
    split at h
    · rename_i n hf; cases h; exact Or.inr ⟨w, rfl, hf⟩
    · cases h

theorem convLoopBody_cons_nonbrk (L : Locals) (s : Stmt) (ss : List Stmt) (lo : VSet)
    (hb : ∀ c, s ≠ .brk c) :
    convLoopBody L (s :: ss) lo = (do
      let (L1, ns1) ← convStmt L s (liveInBlock ss lo)
      let (L2, ns2, bc) ← convLoopBody L1 ss lo
      pure (L2, ns1 ++ ns2, bc)) := by
  cases s with
  | brk c => exact absurd rfl (hb c)
  | _ => rw [convLoopBody]; intro c hc; exact hb c hc

theorem convStmt_skip_ok {L L' : Locals} {lo : VSet} {ns : List Node} {s s' : St}
    (h : convStmt L .skip lo s = .ok ((L', ns), s')) : L' = L ∧ ns = [] ∧ s' = s := by
  unfold convStmt at h
  obtain ⟨e, rfl⟩ := pure_ok h
  cases e
  exact ⟨rfl, rfl, rfl⟩

theorem convStmt_assign_ok {L L' : Locals} {x : Name} {e : Expr} {lo : VSet} {ns : List Node} {s s' : St}
    (h : convStmt L (.assign x e) lo s = .ok ((L', ns), s')) :
    ∃ t, convExpr L e (some x) s = .ok ((t, ns), s') ∧ L' = bindVar L x (.val t) := by
  unfold convStmt at h
  mbind h with p s1 h1
  obtain ⟨t, ns1⟩ := p
  obtain ⟨e1, e2⟩ := pure_ok h
  cases e1; subst e2
  exact ⟨t, h1, rfl⟩

theorem convStmt_par_ok {L L' : Locals} {xs : List Name} {es : List Expr} {lo : VSet} {ns : List Node} {s s' : St}
    (h : convStmt L (.par xs es) lo s = .ok ((L', ns), s')) :
    xs.length = es.length ∧ ∃ ts, convParExprs L xs es s = .ok ((ts, ns), s') ∧ L' = bindVals L xs ts := by
  unfold convStmt at h
  by_cases hl : xs.length ≠ es.length
  · rw [if_pos hl] at h; exact (failM_ok h).elim
  · rw [if_neg hl] at h
    unfold convPar at h
    mbind h with p s1 h1
    obtain ⟨ts, ns1⟩ := p
    obtain ⟨e1, e2⟩ := pure_ok h
    cases e1; subst e2
    exact ⟨by simpa using hl, ts, h1, rfl⟩

theorem convStmt_tuple_ok {L L' : Locals} {xs : List Name} {dom op : String} {sig : Sig} {args : List Expr}
    {attrs : List (String × AttrV)} {lo : VSet} {ns : List Node} {s s' : St}
    (h : convStmt L (.tuple xs (.call dom op sig args attrs)) lo s = .ok ((L', ns), s')) :
    ∃ as ns1 s1 attrs' as' ns2 s3 outs,
      convArgs L args s = .ok ((as, ns1), s1) ∧ convAttrs L attrs = .ok attrs' ∧
      castInputs sig as s1 = .ok ((as', ns2), s3) ∧ genUniques xs s3 = .ok (outs, s') ∧
      L' = bindVals L xs outs ∧ ns = ns1 ++ (ns2 ++ [.op dom op (as'.map some) outs attrs']) := by
  unfold convStmt at h
  simp only at h
  mbind h with p s1 h1
  obtain ⟨as, ns1⟩ := p
  mbind h with attrs' s2 h2
  obtain ⟨hattrs, rfl⟩ := liftE_ok h2
  mbind h with p s3 h3
  obtain ⟨as', ns2⟩ := p
  mbind h with outs s4 h4
  obtain ⟨e1, e2⟩ := pure_ok h
  cases e1; subst e2
  exact ⟨as, ns1, s2, attrs', as', ns2, s3, outs, h1, hattrs, h3, h4, rfl, rfl⟩

theorem convStmt_ite_ok {L L' : Locals} {c : Expr} {t e : List Stmt} {lo : VSet} {ns : List Node} {s s' : St}
    (h : convStmt L (.ite c t e) lo s = .ok ((L', ns), s')) :
    ∃ defs test ns0 s1 Lt tn s2 to tn2 s3 Le en s4 eo en2 s5 renamed,
      assignedStmt (.ite c t e) = some defs ∧
      convExpr L c (some "cond") s = .ok ((test, ns0), s1) ∧
      convStmts ([] :: L) t lo s1 = .ok ((Lt, tn), s2) ∧
      blockOutputs Lt (vinter lo defs) tn [] s2 = .ok ((to, tn2), s3) ∧
      convStmts ([] :: L) e lo s3 = .ok ((Le, en), s4) ∧
      blockOutputs Le (vinter lo defs) en [] s4 = .ok ((eo, en2), s5) ∧
      genUniques (vinter lo defs) s5 = .ok (renamed, s') ∧
      L' = bindVals L (vinter lo defs) renamed ∧
      ns = ns0 ++ [.ifN test renamed (tn ++ tn2) to (en ++ en2) eo] := by
  unfold convStmt at h
  cases ha : assignedStmt (.ite c t e) with
  | none => simp only [ha] at h; exact (failM_ok h).elim
  | some defs =>
    simp only [ha] at h
    mbind h with p s1 h1
    obtain ⟨test, ns0⟩ := p
    mbind h with p s2 h2
    obtain ⟨Lt, tn⟩ := p
    mbind h with p s3 h3
    obtain ⟨to, tn2⟩ := p
    mbind h with p s4 h4
    obtain ⟨Le, en⟩ := p
    mbind h with p s5 h5
    obtain ⟨eo, en2⟩ := p
    mbind h with renamed s6 h6
    by_cases hre : renamed.isEmpty = true
    · rw [if_pos hre] at h; exact (failM_ok h).elim
    · rw [if_neg hre] at h
      by_cases hrt : (renamed == [test]) = true
      · rw [if_pos hrt] at h; exact (failM_ok h).elim
      · rw [if_neg hrt] at h
        obtain ⟨e1, e2⟩ := pure_ok h
        cases e1; subst e2
        exact ⟨defs, test, ns0, s1, Lt, tn, s2, to, tn2, s3, Le, en, s4, eo, en2, s5, renamed,
          rfl, h1, h2, h3, h4, h5, h6, rfl, rfl⟩

theorem convStmt_for_ok {L L' : Locals} {i : Name} {ok : Bool} {b : Expr} {body : List Stmt} {lo : VSet}
    {ns : List Node} {s s' : St} (h : convStmt L (.for_ i ok b body) lo s = .ok ((L', ns), s')) :
    ok = true ∧ i ∉ lo ∧ ∃ state ob ns0 s1 condIn s2 L1 iv ps s3 L2 bn bc s4 nl,
      loopState body lo = some state ∧ state ≠ [] ∧
      convExpr L b (some "loop_bound") s = .ok ((ob, ns0), s1) ∧
      genUnique "cond_in" s1 = .ok (condIn, s2) ∧
      loopEnter L i true state s2 = .ok ((L1, iv, ps), s3) ∧
      convLoopBody L1 body (loopBodyLo (.for_ i ok b body) lo) s3 = .ok ((L2, bn, bc), s4) ∧
      loopFinish L L2 state (some ob) none condIn iv ps none bn bc s4 = .ok ((L', nl), s') ∧
      ns = ns0 ++ nl := by
  unfold convStmt at h
  cases ok with
  | false => simp only [Bool.not_false, if_true] at h; exact (failM_ok h).elim
  | true =>
    simp only [Bool.not_true, Bool.false_eq_true, if_false] at h
    cases hs : loopState body lo with
    | none => simp only [hs] at h; exact (failM_ok h).elim
    | some state =>
      simp only [hs] at h
      mbind h with p s1 h1
      obtain ⟨ob, ns0⟩ := p
      mbind h with condIn s2 h2
      unfold forCondIn at h2
      mbind h2 with c' sx hx
      cases hl : lo.contains i with
      | true => simp only [hl, if_true] at h2; exact (failM_ok h2).elim
      | false =>
        simp only [hl, Bool.false_eq_true, if_false] at h2
        obtain ⟨hne, e1, e2⟩ := needState_ok h2
        subst e1; subst e2
        mbind h with p s3 h3
        obtain ⟨L1, iv, ps⟩ := p
        mbind h with p s4 h4
        obtain ⟨L2, bn, bc⟩ := p
        mbind h with p s5 h5
        obtain ⟨L'', nl⟩ := p
        obtain ⟨e1, e2⟩ := pure_ok h
        cases e1; subst e2
        refine ⟨rfl, fun hm => ?_, state, ob, ns0, s1, c', sx, L1, iv, ps, s3, L2, bn, bc, s4, nl,
          rfl, hne, h1, hx, h3, h4, h5, rfl⟩
        rw [List.contains_iff_mem.mpr hm] at hl
        cases hl

theorem convStmt_while_ok {L L' : Locals} {c : Expr} {body : List Stmt} {lo : VSet}
    {ns : List Node} {s s' : St} (h : convStmt L (.while_ c body) lo s = .ok ((L', ns), s')) :
    ∃ t state condIn s2 oc ns0 s2' L1 iv ps s3 L2 bn bc s4 nl,
      c = .var t ∧ loopState body lo = some state ∧ state ≠ [] ∧
      genUnique t s = .ok (condIn, s2) ∧ pyVar L t s2 = .ok ((oc, ns0), s2') ∧
      loopEnter L "infinite_loop" false state s2' = .ok ((L1, iv, ps), s3) ∧
      convLoopBody L1 body (loopBodyLo (.while_ c body) lo) s3 = .ok ((L2, bn, bc), s4) ∧
      loopFinish L L2 state none (some oc) condIn iv ps (some t) bn bc s4 = .ok ((L', nl), s') ∧
      ns = ns0 ++ nl := by
  cases c with
  | var t =>
    unfold convStmt at h
    simp only at h
    cases hs : loopState body lo with
    | none => simp only [hs] at h; exact (failM_ok h).elim
    | some state =>
      simp only [hs] at h
      mbind h with condIn s2 h2
      mbind h with p s2' h1
      obtain ⟨oc, ns0⟩ := p
      unfold whileCond at h1
      mbind h1 with r' sx hx
      obtain ⟨hne, e1, e2⟩ := needState_ok h1
      subst e1; subst e2
      mbind h with p s3 h3
      obtain ⟨L1, iv, ps⟩ := p
      mbind h with p s4 h4
      obtain ⟨L2, bn, bc⟩ := p
      mbind h with p s5 h5
      obtain ⟨L'', nl⟩ := p
      obtain ⟨e1, e2⟩ := pure_ok h
      cases e1; subst e2
      exact ⟨t, state, condIn, s2, oc, ns0, sx, L1, iv, ps, s3, L2, bn, bc, s4, nl,
        rfl, rfl, hne, h2, hx, h3, h4, h5, rfl⟩
  | _ => unfold convStmt at h; exact (failM_ok h).elim

theorem convStmts_nil_ok {L L' : Locals} {lo : VSet} {ns : List Node} {s s' : St}
    (h : convStmts L [] lo s = .ok ((L', ns), s')) : L' = L ∧ ns = [] ∧ s' = s := by
  unfold convStmts at h
  obtain ⟨e1, e2⟩ := pure_ok h
  cases e1
  exact ⟨rfl, rfl, e2.symm⟩

theorem convStmts_cons_ok {L L' : Locals} {st : Stmt} {ss : List Stmt} {lo : VSet} {ns : List Node} {s s' : St} :
    convStmts L (st :: ss) lo s = .ok ((L', ns), s') ↔
    ∃ L1 ns1 s1 ns2, convStmt L st (liveInBlock ss lo) s = .ok ((L1, ns1), s1) ∧
      convStmts L1 ss lo s1 = .ok ((L', ns2), s') ∧ ns = ns1 ++ ns2 := by
  constructor
  · intro h
    unfold convStmts at h
    mbind h with p s1 h1
    obtain ⟨L1, ns1⟩ := p
    mbind h with p s2 h2
    obtain ⟨L2, ns2⟩ := p
    obtain ⟨e1, e2⟩ := pure_ok h
    cases e1; subst e2
    exact ⟨L1, ns1, s1, ns2, h1, h2, rfl⟩
  · rintro ⟨L1, ns1, s1, ns2, h1, h2, rfl⟩
    unfold convStmts
    show M.bind _ _ s = _
    unfold M.bind
    rw [h1]
    show M.bind _ _ s1 = _
    unfold M.bind
    rw [h2]
    rfl

theorem convLoopBody_nil_ok {L L' : Locals} {lo : VSet} {ns : List Node} {bc : Option Name} {s s' : St}
    (h : convLoopBody L [] lo s = .ok ((L', ns, bc), s')) : L' = L ∧ ns = [] ∧ bc = none ∧ s' = s := by
  unfold convLoopBody at h
  obtain ⟨e, rfl⟩ := pure_ok h
  cases e
  exact ⟨rfl, rfl, rfl, rfl⟩

theorem convLoopBody_brk_ok {L L' : Locals} {c : Expr} {ss : List Stmt} {lo : VSet} {ns : List Node}
    {bc : Option Name} {s s' : St} (h : convLoopBody L (.brk c :: ss) lo s = .ok ((L', ns, bc), s')) :
    ∃ t n, c = .var t ∧ ss = [] ∧ currentScopeFind L t = some (.val n) ∧ L' = L ∧ ns = [] ∧ bc = some n ∧ s' = s := by
  unfold convLoopBody at h
  cases c with
  | var t =>
    simp only at h
    cases ss with
    | cons s2 ss2 => exact (failM_ok (s := s) h).elim
    | nil =>
      simp only [List.isEmpty_nil, Bool.not_true, Bool.false_eq_true, if_false] at h
      cases hf : currentScopeFind L t with
      | none => rw [hf] at h; exact (failM_ok h).elim
      | some b =>
        cases b with
        | val n =>
          rw [hf] at h
          obtain ⟨e, rfl⟩ := pure_ok h
          cases e
          exact ⟨t, n, rfl, rfl, hf, rfl, rfl, rfl, rfl⟩
        | attr p ty => rw [hf] at h; exact (failM_ok h).elim
  | _ => exact (failM_ok h).elim

theorem convLoopBody_cons_ok {L L' : Locals} {st : Stmt} {ss : List Stmt} {lo : VSet} {ns : List Node}
    {bc : Option Name} {s s' : St} (hb : ∀ c, st ≠ .brk c)
    (h : convLoopBody L (st :: ss) lo s = .ok ((L', ns, bc), s')) :
    ∃ L1 ns1 s1 ns2, convStmt L st (liveInBlock ss lo) s = .ok ((L1, ns1), s1) ∧
      convLoopBody L1 ss lo s1 = .ok ((L', ns2, bc), s') ∧ ns = ns1 ++ ns2 := by
  rw [convLoopBody_cons_nonbrk L st ss lo hb] at h
  mbind h with p s1 h1
  obtain ⟨L1, ns1⟩ := p
  mbind h with p s2 h2
  obtain ⟨L2, ns2, bc'⟩ := p
  obtain ⟨e1, e2⟩ := pure_ok h
  cases e1; subst e2
  exact ⟨L1, ns1, s1, ns2, h1, h2, rfl⟩

/-- The rules by which a successful run of `convStmt` / `convStmts` / `convLoopBody` is put together, as premises
of an induction (`StmtRules.stmt`, `.stmts`, `.body`).  The motives see the scope before, the statement(s) and
`live_out`, the state before, and the scope, nodes (and break condition) and state after. -/
structure StmtRules (PS : Locals → Stmt → VSet → St → Locals → List Node → St → Prop)
    (PSS : Locals → List Stmt → VSet → St → Locals → List Node → St → Prop)
    (PB : Locals → List Stmt → VSet → St → Locals → List Node → Option Name → St → Prop) : Prop where
  assign : ∀ {L x e lo s t ns s'},
    convExpr L e (some x) s = Except.ok ((t, ns), s') → PS L (Stmt.assign x e) lo s (bindVar L x (Bind.val t)) ns s'
  par : ∀ {L xs es lo s ts ns s'}, xs.length = es.length → convParExprs L xs es s = Except.ok ((ts, ns), s') →
    PS L (Stmt.par xs es) lo s (bindVals L xs ts) ns s'
  tuple : ∀ {L xs dom op sig args attrs lo s as ns1 s1 attrs' as' ns2 s2 outs s'},
    convArgs L args s = Except.ok ((as, ns1), s1) → convAttrs L attrs = Except.ok attrs' →
    castInputs sig as s1 = Except.ok ((as', ns2), s2) → genUniques xs s2 = Except.ok (outs, s') →
    PS L (Stmt.tuple xs (Expr.call dom op sig args attrs)) lo s (bindVals L xs outs)
      (ns1 ++ (ns2 ++ [Node.op dom op (as'.map some) outs attrs'])) s'
  ite : ∀ {L c t e lo defs s test ns0 s1 Lt tn s2 to tn2 s3 Le en s4 eo en2 s5 renamed s'},
    assignedStmt (Stmt.ite c t e) = some defs →
    convExpr L c (some "cond") s = Except.ok ((test, ns0), s1) →
    convStmts ([] :: L) t lo s1 = Except.ok ((Lt, tn), s2) → PSS ([] :: L) t lo s1 Lt tn s2 →
    blockOutputs Lt (vinter lo defs) tn [] s2 = Except.ok ((to, tn2), s3) →
    convStmts ([] :: L) e lo s3 = Except.ok ((Le, en), s4) → PSS ([] :: L) e lo s3 Le en s4 →
    blockOutputs Le (vinter lo defs) en [] s4 = Except.ok ((eo, en2), s5) →
    genUniques (vinter lo defs) s5 = Except.ok (renamed, s') →
    PS L (Stmt.ite c t e) lo s (bindVals L (vinter lo defs) renamed)
      (ns0 ++ [Node.ifN test renamed (tn ++ tn2) to (en ++ en2) eo]) s'
  for_ : ∀ {L i bound body lo state s ob ns0 s1 condIn s2 L1 iv ps s3 L2 bn bc s4 L' nl s'},
    loopState body lo = some state →
    convExpr L bound (some "loop_bound") s = Except.ok ((ob, ns0), s1) →
    genUnique "cond_in" s1 = Except.ok (condIn, s2) →
    loopEnter L i true state s2 = Except.ok ((L1, iv, ps), s3) →
    convLoopBody L1 body (loopBodyLo (Stmt.for_ i true bound body) lo) s3 = Except.ok ((L2, bn, bc), s4) →
    PB L1 body (loopBodyLo (Stmt.for_ i true bound body) lo) s3 L2 bn bc s4 →
    loopFinish L L2 state (some ob) none condIn iv ps none bn bc s4 = Except.ok ((L', nl), s') →
    PS L (Stmt.for_ i true bound body) lo s L' (ns0 ++ nl) s'
  while_ : ∀ {L t body lo state s condIn s1 oc ns0 s2 L1 iv ps s3 L2 bn bc s4 L' nl s'},
    loopState body lo = some state →
    genUnique t s = Except.ok (condIn, s1) →
    pyVar L t s1 = Except.ok ((oc, ns0), s2) →
    loopEnter L "infinite_loop" false state s2 = Except.ok ((L1, iv, ps), s3) →
    convLoopBody L1 body (loopBodyLo (Stmt.while_ (Expr.var t) body) lo) s3 = Except.ok ((L2, bn, bc), s4) →
    PB L1 body (loopBodyLo (Stmt.while_ (Expr.var t) body) lo) s3 L2 bn bc s4 →
    loopFinish L L2 state none (some oc) condIn iv ps (some t) bn bc s4 = Except.ok ((L', nl), s') →
    PS L (Stmt.while_ (Expr.var t) body) lo s L' (ns0 ++ nl) s'
  skip : ∀ {L lo s}, PS L Stmt.skip lo s L [] s
  nil : ∀ {L lo s}, PSS L [] lo s L [] s
  cons : ∀ {L st ss lo s L1 ns1 s1 L2 ns2 s'},
    convStmt L st (liveInBlock ss lo) s = Except.ok ((L1, ns1), s1) → PS L st (liveInBlock ss lo) s L1 ns1 s1 →
    convStmts L1 ss lo s1 = Except.ok ((L2, ns2), s') → PSS L1 ss lo s1 L2 ns2 s' →
    PSS L (st :: ss) lo s L2 (ns1 ++ ns2) s'
  bodyNil : ∀ {L lo s}, PB L [] lo s L [] none s
  bodyBrk : ∀ {L t lo s n},
    currentScopeFind L t = some (Bind.val n) → PB L [Stmt.brk (Expr.var t)] lo s L [] (some n) s
  bodyCons : ∀ {L st ss lo s L1 ns1 s1 L2 ns2 bc s'},
    convStmt L st (liveInBlock ss lo) s = Except.ok ((L1, ns1), s1) → PS L st (liveInBlock ss lo) s L1 ns1 s1 →
    convLoopBody L1 ss lo s1 = Except.ok ((L2, ns2, bc), s') → PB L1 ss lo s1 L2 ns2 bc s' →
    PB L (st :: ss) lo s L2 (ns1 ++ ns2) bc s'

namespace StmtRules

theorem all {PS PSS PB} (R : StmtRules PS PSS PB) :
    (∀ (st : Stmt) (L : Locals) (lo : VSet) {L' : Locals} {ns : List Node} {s s' : St},
      convStmt L st lo s = .ok ((L', ns), s') → PS L st lo s L' ns s') ∧
    (∀ (ss : List Stmt), (∀ (L : Locals) (lo : VSet) {L' : Locals} {ns : List Node} {s s' : St},
      convStmts L ss lo s = .ok ((L', ns), s') → PSS L ss lo s L' ns s') ∧
      (∀ (L : Locals) (lo : VSet) {L' : Locals} {ns : List Node} {bc : Option Name} {s s' : St},
      convLoopBody L ss lo s = .ok ((L', ns, bc), s') → PB L ss lo s L' ns bc s')) := by
  apply stmt_block_induct
  case hleaf =>
    intro st hl L lo L' ns s s' h
    cases st with
    | assign x e =>
      obtain ⟨t, h1, rfl⟩ := convStmt_assign_ok h
      exact R.assign h1
    | par xs es =>
      obtain ⟨hl, ts, h1, rfl⟩ := convStmt_par_ok h
      exact R.par hl h1
    | tuple xs e =>
      cases e with
      | call dom op sig args attrs =>
        obtain ⟨as, ns1, s1, attrs', as', ns2, s2, outs, h1, ha, h3, h4, rfl, rfl⟩ := convStmt_tuple_ok h
        exact R.tuple h1 ha h3 h4
      | _ => unfold convStmt at h; exact (failM_ok h).elim
    | skip =>
      obtain ⟨rfl, rfl, rfl⟩ := convStmt_skip_ok h
      exact R.skip
    | ite _ _ _ => cases hl
    | for_ _ _ _ _ => cases hl
    | while_ _ _ => cases hl
    | _ => unfold convStmt at h; exact (failM_ok h).elim
  case hite =>
    intro c t e iht ihe L lo L' ns s s' h
    obtain ⟨defs, test, ns0, s1, Lt, tn, s2, to, tn2, s3, Le, en, s4, eo, en2, s5, renamed,
      ha, h1, h2, h3, h4, h5, h6, rfl, rfl⟩ := convStmt_ite_ok h
    exact R.ite ha h1 h2 (iht.1 _ lo h2) h3 h4 (ihe.1 _ lo h4) h5 h6
  case hfor =>
    intro i ok b body ih L lo L' ns s s' h
    obtain ⟨rfl, _, state, ob, ns0, s1, condIn, s2, L1, iv, ps, s3, L2, bn, bc, s4, nl,
      hs, _, h1, h2, h3, h4, h5, rfl⟩ := convStmt_for_ok h
    exact R.for_ hs h1 h2 h3 h4 (ih.2 _ _ h4) h5
  case hwhile =>
    intro c body ih L lo L' ns s s' h
    obtain ⟨t, state, condIn, s1, oc, ns0, s2, L1, iv, ps, s3, L2, bn, bc, s4, nl,
      rfl, hs, _, h1, h2, h3, h4, h5, rfl⟩ := convStmt_while_ok h
    exact R.while_ hs h1 h2 h3 h4 (ih.2 _ _ h4) h5
  case hnil =>
    refine ⟨fun L lo L' ns s s' h => ?_, fun L lo L' ns bc s s' h => ?_⟩
    · obtain ⟨rfl, rfl, rfl⟩ := convStmts_nil_ok h
      exact R.nil
    · obtain ⟨rfl, rfl, rfl, rfl⟩ := convLoopBody_nil_ok h
      exact R.bodyNil
  case hcons =>
    intro st ss ih1 ih2
    refine ⟨fun L lo L' ns s s' h => ?_, fun L lo L' ns bc s s' h => ?_⟩
    · obtain ⟨L1, ns1, s1, ns2, h1, h2, rfl⟩ := convStmts_cons_ok.mp h
      exact R.cons h1 (ih1 L _ h1) h2 (ih2.1 L1 lo h2)
    · by_cases hb : ∃ c, st = .brk c
      · obtain ⟨c, rfl⟩ := hb
        obtain ⟨t, n, rfl, rfl, hf, rfl, rfl, rfl, rfl⟩ := convLoopBody_brk_ok h
        exact R.bodyBrk hf
      · obtain ⟨L1, ns1, s1, ns2, h1, h2, rfl⟩ := convLoopBody_cons_ok (fun c hc => hb ⟨c, hc⟩) h
        exact R.bodyCons h1 (ih1 L _ h1) h2 (ih2.2 L1 lo h2)

theorem stmt {PS PSS PB} (R : StmtRules PS PSS PB) (L : Locals) (st : Stmt) (lo : VSet) {L' : Locals} {ns : List Node}
    {s s' : St} (h : convStmt L st lo s = .ok ((L', ns), s')) : PS L st lo s L' ns s' :=
  R.all.1 st L lo h

theorem stmts {PS PSS PB} (R : StmtRules PS PSS PB) (L : Locals) (ss : List Stmt) (lo : VSet) {L' : Locals}
    {ns : List Node} {s s' : St} (h : convStmts L ss lo s = .ok ((L', ns), s')) : PSS L ss lo s L' ns s' :=
  (R.all.2 ss).1 L lo h

theorem body {PS PSS PB} (R : StmtRules PS PSS PB) (L : Locals) (ss : List Stmt) (lo : VSet) {L' : Locals}
    {ns : List Node} {bc : Option Name} {s s' : St} (h : convLoopBody L ss lo s = .ok ((L', ns, bc), s')) :
    PB L ss lo s L' ns bc s' :=
  (R.all.2 ss).2 L lo h

end StmtRules

def CopyIf (c : Prop) (x sug : Name) (s : St) (x' : Name) (nc : List Node) (s' : St) : Prop :=
  (c ∧ emitCopy x sug s = .ok ((x', nc), s')) ∨ (¬c ∧ x' = x ∧ nc = [] ∧ s' = s)

theorem convRetOne_ok {L : Locals} {inputs : List Name} {e : Expr} {pref : Name} {outs : List Name}
    {o : Name} {ns : List Node} {s s' : St} (h : convRetOne L inputs e pref outs s = .ok ((o, ns), s')) :
    ∃ rv ns1 s1 rv2 ns2 s2 ns3, convExpr L e (some pref) s = .ok ((rv, ns1), s1) ∧
      CopyIf (rv ∈ inputs) rv pref s1 rv2 ns2 s2 ∧
      CopyIf (rv2 ∈ outs) rv2 (valueRepr rv2 ++ "_copy") s2 o ns3 s' ∧ ns = ns1 ++ (ns2 ++ ns3) := by
  unfold convRetOne at h
  mbind h with p s1 h1
  obtain ⟨rv, ns1⟩ := p
  mbind h with p s2 h2
  obtain ⟨rv2, ns2⟩ := p
  have c1 : CopyIf (rv ∈ inputs) rv pref s1 rv2 ns2 s2 := by
    unfold returnsInput at h2
    by_cases hi : rv ∈ inputs
    · rw [if_pos (List.contains_iff_mem.mpr hi)] at h2; exact Or.inl ⟨hi, h2⟩
    · rw [if_neg (fun hc => hi (List.contains_iff_mem.mp hc))] at h2
      obtain ⟨e', rfl⟩ := pure_ok h2
      cases e'
      exact Or.inr ⟨hi, rfl, rfl, rfl⟩
  refine ⟨rv, ns1, s1, rv2, ns2, s2, ?_⟩
  dsimp only at h
  by_cases ho : rv2 ∈ outs
  · rw [if_pos (List.contains_iff_mem.mpr ho)] at h
    mbind h with p s3 h3
    obtain ⟨rv3, ns3⟩ := p
    obtain ⟨e', rfl⟩ := pure_ok h
    cases e'
    exact ⟨ns3, h1, c1, Or.inl ⟨ho, h3⟩, rfl⟩
  · rw [if_neg (fun hc => ho (List.contains_iff_mem.mp hc))] at h
    obtain ⟨e', rfl⟩ := pure_ok h
    cases e'
    exact ⟨[], h1, c1, Or.inr ⟨ho, rfl, rfl, rfl⟩, by rw [List.append_nil]⟩

theorem convRetAll_induct {L : Locals} {inputs : List Name} {single : Bool}
    {P : List Expr → Nat → List Name → St → List Name → List Node → St → Prop}
    (nil : ∀ {i outs s}, P [] i outs s outs [] s)
    (cons : ∀ {e es i outs s o ns1 s1 outs' ns2 s'},
      convRetOne L inputs e (if single then "return_val" else "return_val" ++ toString i) outs s
        = Except.ok ((o, ns1), s1) →
      convRetAll L inputs single es (i + 1) (outs ++ [o]) s1 = Except.ok ((outs', ns2), s') →
      P es (i + 1) (outs ++ [o]) s1 outs' ns2 s' → P (e :: es) i outs s outs' (ns1 ++ ns2) s') :
    ∀ {es i outs s outs' ns s'},
      convRetAll L inputs single es i outs s = Except.ok ((outs', ns), s') → P es i outs s outs' ns s' := by
  intro es
  induction es with
  | nil =>
    intro i outs s outs' ns s' h
    obtain ⟨e, rfl⟩ := pure_ok h
    cases e
    exact nil
  | cons e es ih =>
    intro i outs s outs' ns s' h
    unfold convRetAll at h
    mbind h with p s1 h1
    obtain ⟨o, ns1⟩ := p
    mbind h with p s2 h2
    obtain ⟨outs2, ns2⟩ := p
    obtain ⟨e', rfl⟩ := pure_ok h
    cases e'
    exact cons h1 h2 (ih h2)

theorem convRetStmt_ok {L : Locals} {inputs : List Name} {rc : Option Nat} {es : List Expr} {bare : Bool}
    {outs : List Name} {r : List Name × List Node} {s s' : St}
    (h : convRetStmt L inputs rc es bare outs s = .ok (r, s')) :
    convRetAll L inputs (es.length == 1) es 0 outs s = .ok (r, s') := by
  unfold convRetStmt at h
  split at h
  · exact (failM_ok h).elim
  · split at h
    · split at h
      · exact (failM_ok h).elim
      · exact h
    · exact h

theorem convTop_cons_nonret (inputs : List Name) (rc : Option Nat) (L : Locals) (st : Stmt)
    (ss : List Stmt) (outs : List Name) (hb : ∀ es b, st ≠ .ret es b) :
    convTop inputs rc L (st :: ss) outs = (do
      let (L1, ns1) ← convStmt L st (liveInBlock ss [])
      let (ns2, outs') ← convTop inputs rc L1 ss outs
      pure (ns1 ++ ns2, outs')) := by
  cases st with
  | ret es b => exact absurd rfl (hb es b)
  | _ => rw [convTop]; intro es b hc; exact hb es b hc

theorem convTop_cons_ok {inputs : List Name} {rc : Option Nat} {L : Locals} {st : Stmt} {ss : List Stmt}
    {outs outs' : List Name} {ns : List Node} {s s' : St} (hb : ∀ es b, st ≠ .ret es b)
    (h : convTop inputs rc L (st :: ss) outs s = .ok ((ns, outs'), s')) :
    ∃ L1 ns1 s1 ns2, convStmt L st (liveInBlock ss []) s = .ok ((L1, ns1), s1) ∧
      convTop inputs rc L1 ss outs s1 = .ok ((ns2, outs'), s') ∧ ns = ns1 ++ ns2 := by
  rw [convTop_cons_nonret inputs rc L st ss outs hb] at h
  mbind h with p s1 h1
  obtain ⟨L1, ns1⟩ := p
  mbind h with p s2 h2
  obtain ⟨ns2, outs2⟩ := p
  obtain ⟨e1, e2⟩ := pure_ok h
  cases e1; subst e2
  exact ⟨L1, ns1, s1, ns2, h1, h2, rfl⟩

theorem convTop_ret_ok {inputs : List Name} {rc : Option Nat} {L : Locals} {es : List Expr}
    {outs : List Name} {ns : List Node} {s s' : St}
    (h : convTop inputs rc L [.ret es false] [] s = .ok ((ns, outs), s')) :
    ∃ single, convRetAll L inputs single es 0 [] s = .ok ((outs, ns), s') := by
  unfold convTop at h
  mbind h with p s1 h1
  have h1 := (onlyLast_ok h1).2
  obtain ⟨outs1, ns1⟩ := p
  mbind h with p s2 h2
  obtain ⟨ns2, outs2⟩ := p
  unfold convTop at h2
  obtain ⟨e1, e2⟩ := pure_ok h2
  cases e1; subst e2
  obtain ⟨e1, e2⟩ := pure_ok h
  cases e1; subst e2
  rw [List.append_nil]
  exact ⟨_, convRetStmt_ok h1⟩

theorem convTop_induct {inputs : List Name} {rc : Option Nat}
    {P : Locals → List Stmt → List Name → St → List Node → List Name → St → Prop}
    (nil : ∀ {L outs s}, P L [] outs s [] outs s)
    (ret : ∀ {L es bare ss outs s outs1 ns1 s1 ns2 outs2 s'},
      convRetAll L inputs (es.length == 1) es 0 outs s = Except.ok ((outs1, ns1), s1) →
      convTop inputs rc L ss outs1 s1 = Except.ok ((ns2, outs2), s') → P L ss outs1 s1 ns2 outs2 s' →
      P L (Stmt.ret es bare :: ss) outs s (ns1 ++ ns2) outs2 s')
    (stmt : ∀ {L st ss outs s L1 ns1 s1 ns2 outs' s'},
      convStmt L st (liveInBlock ss []) s = Except.ok ((L1, ns1), s1) →
      convTop inputs rc L1 ss outs s1 = Except.ok ((ns2, outs'), s') → P L1 ss outs s1 ns2 outs' s' →
      P L (st :: ss) outs s (ns1 ++ ns2) outs' s') :
    ∀ {ss L outs s ns outs' s'},
      convTop inputs rc L ss outs s = Except.ok ((ns, outs'), s') → P L ss outs s ns outs' s' := by
  intro ss
  induction ss with
  | nil =>
    intro L outs s ns outs' s' h
    obtain ⟨e, rfl⟩ := pure_ok h
    cases e
    exact nil
  | cons st ss ih =>
    intro L outs s ns outs' s' h
    by_cases hb : ∃ es b, st = .ret es b
    · obtain ⟨es, b, rfl⟩ := hb
      unfold convTop at h
      mbind h with p s1 h1
      obtain ⟨outs1, ns1⟩ := p
      mbind h with p s2 h2
      obtain ⟨ns2, outs2⟩ := p
      obtain ⟨e, rfl⟩ := pure_ok h
      cases e
      exact ret (convRetStmt_ok (onlyLast_ok h1).2) h2 (ih h2)
    · obtain ⟨L1, ns1, s1, ns2, h1, h2, rfl⟩ := convTop_cons_ok (fun es b hc => hb ⟨es, b, hc⟩) h
      exact stmt h1 h2 (ih h2)

theorem convert_ok {f : Func} {g : Graph} (h : convert f = .ok g) :
    ∃ ns outs s', convTop (tensorParams f.params) f.retCount [paramFrame f.params] f.body []
        { used := (tensorParams f.params).reverse, next := 0, castable := [] } = .ok ((ns, outs), s') ∧
      g = { inputs := tensorParams f.params, attrs := attrParams f.params, nodes := ns, outputs := outs } := by
  have h := (convert_core h).1
  unfold convertCore at h
  dsimp only at h
  split at h
  · cases h
  · rename_i ns outs s' hc
    cases h
    exact ⟨ns, outs, s', hc, rfl⟩

/-! ## The refusals added by 9b326d7, fc696f7 and 9f69276 -/

theorem for_live_target_refused (L : Locals) (i : Name) (ok : Bool) (b : Expr) (body : List Stmt) (lo : VSet)
    (hi : i ∈ lo) (s : St) (r : (Locals × List Node) × St) :
    convStmt L (.for_ i ok b body) lo s ≠ .ok r := fun h => by
  obtain ⟨⟨L', ns⟩, s'⟩ := r
  exact (convStmt_for_ok h).2.1 hi

theorem stateless_for_refused (L : Locals) (i : Name) (ok : Bool) (b : Expr) (body : List Stmt) (lo : VSet)
    (hs : loopState body lo = some []) (s : St) (r : (Locals × List Node) × St) :
    convStmt L (.for_ i ok b body) lo s ≠ .ok r := fun h => by
  obtain ⟨⟨L', ns⟩, s'⟩ := r
  obtain ⟨_, _, state, _, _, _, _, _, _, _, _, _, _, _, _, _, _, hs', hne, _⟩ := convStmt_for_ok h
  rw [hs] at hs'
  cases hs'
  exact hne rfl

theorem stateless_while_refused (L : Locals) (t : Name) (body : List Stmt) (lo : VSet)
    (hs : loopState body lo = some []) (s : St) (r : (Locals × List Node) × St) :
    convStmt L (.while_ (.var t) body) lo s ≠ .ok r := fun h => by
  obtain ⟨⟨L', ns⟩, s'⟩ := r
  obtain ⟨_, state, _, _, _, _, _, _, _, _, _, _, _, _, _, _, _, hs', hne, _⟩ := convStmt_while_ok h
  rw [hs] at hs'
  cases hs'
  exact hne rfl

theorem non_last_return_refused (inputs : List Name) (rc : Option Nat) (L : Locals) (es : List Expr) (bare : Bool)
    (st : Stmt) (ss : List Stmt) (outs : List Name) (s : St) (r : (List Node × List Name) × St) :
    convTop inputs rc L (.ret es bare :: st :: ss) outs s ≠ .ok r := by
  intro h
  obtain ⟨⟨ns, outs'⟩, s'⟩ := r
  unfold convTop at h
  mbind h with p s1 h1
  have := (onlyLast_ok h1).1
  simp at this

end OV.C01
