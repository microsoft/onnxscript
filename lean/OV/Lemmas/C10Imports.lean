import OV.Model.C10Imports
import OV.Lemmas.C10Dict
namespace OV.C10.Imports

theorem has_append_left {d e : Dict} {k : String} (h : d.has k = true) : Dict.has (d ++ e) k = true := by
  simp only [Dict.has, List.any_append, Bool.or_eq_true] at *; exact Or.inl h

theorem has_addMissing (d f : Dict) (k : String) : (d.addMissing f).has k = (d.has k || f.has k) := by
  -- by definition `Dict.addMissing d f` is `mergeD d f` and `Dict.has` is `List.any` on the keys
  show (mergeD d f).any _ = _
  simp only [Dict.has, any_eq_look, look_mergeD, Option.isSome_or]

theorem has_foldl_addMissing (fs : List Dict) : ∀ (d : Dict) (k : String),
    (fs.foldl Dict.addMissing d).has k = (d.has k || fs.any (·.has k)) := by
  induction fs with
  | nil => intro d k; simp
  | cons f fs ih => intro d k; simp only [List.foldl_cons, ih, has_addMissing, List.any_cons, Bool.or_assoc]

theorem removeUnused_keeps {d : Dict} {used : List String} {k : String} (h : d.has k = true) (hu : k ∈ used) :
    (removeUnused d used).has k = true := by
  simp only [Dict.has, removeUnused, List.any_eq_true, List.mem_filter] at *
  obtain ⟨e, he, hk⟩ := h
  have hk' : e.1 = k := by simpa using hk
  exact ⟨e, ⟨he, by rw [hk']; simp [hu]⟩, hk⟩

/-- The entry map of `Dict.set` (`d[k] = v` on a dict that has `k`) keeps every key. -/
theorem set_key (k : String) (v : Nat) (e : String × Nat) : (if e.1 == k then (k, v) else e).1 = e.1 := by
  split
  · rename_i h; exact (beq_iff_eq.mp h).symm
  · rfl

theorem set_keeps {d : Dict} {k k' : String} {v : Nat} (h : d.has k = true) : (d.set k' v).has k = true := by
  unfold Dict.set
  split
  · simpa only [Dict.has, List.any_map, Function.comp_def, set_key] using h
  · exact has_append_left h

theorem get_set (d : Dict) (k : String) (v : Nat) : (d.set k v).get k = some v := by
  unfold Dict.set Dict.get
  split
  · rename_i hc
    obtain ⟨e, he, hk⟩ := List.any_eq_true.mp hc
    rw [List.find?_map]
    simp only [Function.comp_def, set_key]
    cases hf : d.find? (fun e => e.1 == k) with
    | none => exact absurd hk (by simpa using List.find?_eq_none.mp hf e he)
    | some e' => simp [show e'.1 = k by simpa using List.find?_some hf]
  · rename_i hc
    have hn : d.find? (fun e => e.1 == k) = none :=
      List.find?_eq_none.mpr fun e he hk => hc (List.any_eq_true.mpr ⟨e, he, hk⟩)
    simp [List.find?_append, hn]
end OV.C10.Imports
