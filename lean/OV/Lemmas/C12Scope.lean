import OV.Model.C12Scope
/-! Refinement: the flat castable set keyed by unique value names = a literal flag on every binding (`Rel`, `rel_run`;
all value ids stay below the counter, so a new castable id touches no earlier binding).  On the flag side: a literal
binding stays visible through the scopes that do not rebind it (`Vis`, `vis_run`), and a name bound to an If/Loop output
or body parameter reads `false` (`lookupS_bindAll_false`).  The scope stack is as deep as the brackets say (`foldl_depth`). -/
namespace OV.Scope

def flagScope (c : List VId) (s : List (PyName × VId)) : List (PyName × Bool) :=
  s.map (fun p => (p.1, c.contains p.2))

def flagEnv (c : List VId) (l : List (List (PyName × VId))) : List (List (PyName × Bool)) :=
  l.map (flagScope c)

def Fresh (l : List (List (PyName × VId))) (c : List VId) (next : VId) : Prop :=
  (∀ s ∈ l, ∀ p ∈ s, p.2 < next) ∧ (∀ v ∈ c, v < next)

theorem lookupScope_flag (c : List VId) (n : PyName) : ∀ s : List (PyName × VId),
    lookupScopeS n (flagScope c s) = (lookupScope n s).map (fun v => c.contains v)
  | [] => rfl
  | (m, v) :: rest => by
    simp only [flagScope, List.map, lookupScopeS, lookupScope]
    by_cases h : (m == n) = true
    · simp [h]
    · simp only [h]
      exact lookupScope_flag c n rest

theorem lookup_flag (c : List VId) (n : PyName) : ∀ l : List (List (PyName × VId)),
    lookupS n (flagEnv c l) = (lookup n l).map (fun v => c.contains v)
  | [] => rfl
  | s :: rest => by
    simp only [flagEnv, List.map, lookupS, lookup]
    rw [lookupScope_flag]
    cases lookupScope n s with
    | some v => rfl
    | none => exact lookup_flag c n rest

theorem any_unbound_flag (c : List VId) (l : List (List (PyName × VId))) (names : List PyName) :
    names.any (fun n => (lookupS n (flagEnv c l)).isNone) = names.any (fun n => (lookup n l).isNone) := by
  simp only [lookup_flag, Option.isNone_map]

theorem bind_flag (c : List VId) (n : PyName) (v : VId) (l : List (List (PyName × VId))) :
    flagEnv c (bind n v l) = bindS n (c.contains v) (flagEnv c l) := by
  cases l <;> rfl

theorem flagEnv_tail (c : List VId) (l : List (List (PyName × VId))) : (flagEnv c l).tail = flagEnv c l.tail := by
  simp [flagEnv, List.map_tail]

theorem flagEnv_cons_fresh (c : List VId) (next : VId) (l : List (List (PyName × VId)))
    (h : ∀ s ∈ l, ∀ p ∈ s, p.2 < next) : flagEnv (next :: c) l = flagEnv c l := by
  unfold flagEnv
  apply List.map_congr_left
  intro s hs
  unfold flagScope
  apply List.map_congr_left
  intro p hp
  have hlt : p.2 < next := h s hs p hp
  have hne : p.2 ≠ next := Nat.ne_of_lt hlt
  have hb : (p.2 == next) = false := by simpa using hne
  simp only [List.contains_cons, hb, Bool.false_or]

theorem not_contains_of_fresh (c : List VId) (next : VId) (h : ∀ v ∈ c, v < next) : c.contains next = false := by
  cases hc : c.contains next with
  | false => rfl
  | true =>
    have := h next (List.contains_iff_mem.mp hc)
    exact absurd this (Nat.lt_irrefl _)

theorem fresh_bind (l : List (List (PyName × VId))) (c : List VId) (next : VId) (n : PyName)
    (h : Fresh l c next) : Fresh (bind n next l) c (next + 1) := by
  refine ⟨?_, fun v hv => Nat.lt_succ_of_lt (h.2 v hv)⟩
  intro s hs p hp
  cases l with
  | nil =>
    simp only [bind, List.mem_singleton] at hs
    subst hs
    simp only [List.mem_singleton] at hp
    subst hp
    exact Nat.lt_succ_self _
  | cons s0 rest =>
    simp only [bind, List.mem_cons] at hs
    rcases hs with rfl | hs
    · simp only [List.mem_cons] at hp
      rcases hp with rfl | hp
      · exact Nat.lt_succ_self _
      · exact Nat.lt_succ_of_lt (h.1 s0 List.mem_cons_self p hp)
    · exact Nat.lt_succ_of_lt (h.1 s (List.mem_cons_of_mem _ hs) p hp)

theorem fresh_tail (l : List (List (PyName × VId))) (c : List VId) (next : VId) (h : Fresh l c next) :
    Fresh l.tail c next :=
  ⟨fun s hs p hp => h.1 s (List.mem_of_mem_tail hs) p hp, h.2⟩

theorem fresh_push (l : List (List (PyName × VId))) (c : List VId) (next : VId) (h : Fresh l c next) :
    Fresh ([] :: l) c next := by
  refine ⟨?_, h.2⟩
  intro s hs p hp
  rcases List.mem_cons.mp hs with rfl | hs
  · cases hp
  · exact h.1 s hs p hp

theorem bindOuts_spec (c : List VId) : ∀ (outs : List PyName) (l : List (List (PyName × VId))) (next : VId),
    Fresh l c next →
    flagEnv c (bindOuts outs l next).1 = outs.foldl (fun e n => bindS n false e) (flagEnv c l) ∧
    Fresh (bindOuts outs l next).1 c (bindOuts outs l next).2
  | [], l, next, h => ⟨rfl, h⟩
  | n :: rest, l, next, h => by
    have hb := fresh_bind l c next n h
    obtain ⟨ih1, ih2⟩ := bindOuts_spec c rest (bind n next l) (next + 1) hb
    simp only [bindOuts, List.foldl] at ih1 ih2 ⊢
    refine ⟨?_, ih2⟩
    rw [ih1, bind_flag, not_contains_of_fresh c next h.2]

def Rel (st : St) (sp : Sp) : Prop :=
  sp.env = flagEnv st.castable st.locals ∧ sp.obs = st.obs ∧ Fresh st.locals st.castable st.next ∧ sp.err = st.err

theorem rel_step (st : St) (sp : Sp) (h : Rel st sp) (i : Instr) : Rel (step st i) (stepS sp i) := by
  obtain ⟨he, ho, hf, herr⟩ := h
  cases i with
  | bindLit n =>
    refine ⟨?_, ho, ?_, herr⟩
    · simp only [step, stepS]
      rw [bind_flag, he]
      have h1 : flagEnv (st.next :: st.castable) st.locals = flagEnv st.castable st.locals :=
        flagEnv_cons_fresh _ _ _ hf.1
      simp [h1]
    · have := fresh_bind st.locals st.castable st.next n hf
      refine ⟨this.1, ?_⟩
      intro v hv
      simp only [step, List.mem_cons] at hv
      rcases hv with rfl | hv
      · exact Nat.lt_succ_self _
      · exact Nat.lt_succ_of_lt (hf.2 v hv)
  | bindTensor n =>
    refine ⟨?_, ho, fresh_bind st.locals st.castable st.next n hf, herr⟩
    simp only [step, stepS]
    rw [bind_flag, he, not_contains_of_fresh _ _ hf.2]
  | use n =>
    refine ⟨he, ?_, hf, herr⟩
    simp only [step, stepS]
    rw [ho, he, lookup_flag]
  | enter =>
    refine ⟨?_, ho, fresh_push _ _ _ hf, herr⟩
    simp only [step, stepS, he]; rfl
  | exit outs =>
    have ht := fresh_tail _ _ _ hf
    obtain ⟨h1, h2⟩ := bindOuts_spec st.castable outs st.locals.tail st.next ht
    refine ⟨?_, ho, h2, herr⟩
    simp only [step, stepS]
    rw [h1, he, flagEnv_tail]
  | enterLoop lv state =>
    obtain ⟨h1, h2⟩ := bindOuts_spec st.castable (lv.toList ++ state) ([] :: st.locals) st.next (fresh_push _ _ _ hf)
    refine ⟨?_, ho, h2, ?_⟩
    · simp only [step, stepS]
      rw [h1, he]; rfl
    · simp only [step, stepS, herr]
  | exitLoop state =>
    have ht := fresh_tail _ _ _ hf
    obtain ⟨h1, h2⟩ := bindOuts_spec st.castable state st.locals.tail st.next ht
    refine ⟨?_, ho, h2, ?_⟩
    · simp only [step, stepS]
      rw [h1, he, flagEnv_tail]
    · simp only [step, stepS, herr, he, flagEnv_tail, any_unbound_flag]
  | exitBranch outs =>
    refine ⟨?_, ho, fresh_tail _ _ _ hf, ?_⟩
    · simp only [step, stepS, he, flagEnv_tail]
    · simp only [step, stepS, herr, he, any_unbound_flag]
  | endIf outs =>
    obtain ⟨h1, h2⟩ := bindOuts_spec st.castable outs st.locals st.next hf
    refine ⟨?_, ho, h2, ?_⟩
    · simp only [step, stepS]
      rw [h1, he]
    · simp only [step, stepS, herr]

theorem rel_init : Rel St.init Sp.init := by
  refine ⟨rfl, rfl, ⟨?_, ?_⟩, rfl⟩
  · intro s hs p hp
    simp only [St.init, List.mem_singleton] at hs
    subst hs
    cases hp
  · intro v hv
    cases hv

theorem rel_run : ∀ (prog : List Instr) (st : St) (sp : Sp), Rel st sp →
    Rel (prog.foldl step st) (prog.foldl stepS sp)
  | [], _, _, h => h
  | i :: rest, st, sp, h => rel_run rest _ _ (rel_step st sp h i)

/-- `is` never rebinds `a` (no assignment to `a`, `a` not among the outputs of a block that is left) and never
leaves a scope it did not enter (`d` = scopes entered so far). -/
def safe (a : PyName) : Nat → List Instr → Bool
  | _, [] => true
  | d, .bindLit n :: r => (n != a) && safe a d r
  | d, .bindTensor n :: r => (n != a) && safe a d r
  | d, .use _ :: r => safe a d r
  | d, .enter :: r => safe a (d + 1) r
  | d, .exit outs :: r => decide (0 < d) && !(outs.contains a) && safe a (d - 1) r
  | d, .enterLoop lv state :: r => !((lv.toList ++ state).contains a) && safe a (d + 1) r
  | d, .exitLoop state :: r => decide (0 < d) && !(state.contains a) && safe a (d - 1) r
  | d, .exitBranch _ :: r => decide (0 < d) && safe a (d - 1) r
  | d, .endIf outs :: r => !(outs.contains a) && safe a d r

/-- `env` is `d` scopes that do not bind `a`, on top of an environment in which `a` is a literal. -/
def Vis (a : PyName) (d : Nat) (env : List (List (PyName × Bool))) : Prop :=
  ∃ X E, env = X ++ E ∧ X.length = d ∧ (∀ s ∈ X, lookupScopeS a s = none) ∧ lookupS a E = some true

theorem vis_lookup (a : PyName) (d : Nat) (env : List (List (PyName × Bool))) (h : Vis a d env) :
    lookupS a env = some true := by
  obtain ⟨X, E, rfl, hlen, hX, hE⟩ := h
  clear hlen
  induction X with
  | nil => exact hE
  | cons x xs ih =>
    simp only [List.cons_append, lookupS, hX x List.mem_cons_self]
    exact ih (fun s hs => hX s (List.mem_cons_of_mem _ hs))

theorem vis_bind (a n : PyName) (b : Bool) (hn : (n != a) = true) (d : Nat) (env : List (List (PyName × Bool)))
    (h : Vis a d env) : Vis a d (bindS n b env) := by
  obtain ⟨X, E, rfl, hd, hX, hE⟩ := h
  have hne : (n == a) = false := by simpa [bne] using hn
  cases X with
  | nil =>
    cases E with
    | nil => simp [lookupS] at hE
    | cons s rest =>
      refine ⟨[], ((n, b) :: s) :: rest, rfl, hd, (fun _ h => by cases h), ?_⟩
      simp only [lookupS, lookupScopeS, hne] at hE ⊢
      exact hE
  | cons x xs =>
    refine ⟨((n, b) :: x) :: xs, E, rfl, hd, ?_, hE⟩
    intro s hs
    rcases List.mem_cons.mp hs with rfl | hs
    · simp only [lookupScopeS, hne]
      exact hX x List.mem_cons_self
    · exact hX s (List.mem_cons_of_mem _ hs)

theorem vis_outs (a : PyName) : ∀ (outs : List PyName) (d : Nat) (env : List (List (PyName × Bool))),
    outs.contains a = false → Vis a d env → Vis a d (outs.foldl (fun e n => bindS n false e) env)
  | [], _, _, _, h => h
  | n :: rest, d, env, hc, h => by
    simp only [List.contains_cons, Bool.or_eq_false_iff] at hc
    have hn : (n != a) = true := bne_iff_ne.mpr fun e => by simp [e] at hc
    exact vis_outs a rest d _ hc.2 (vis_bind a n false hn d env h)

theorem vis_push (a : PyName) (d : Nat) (env : List (List (PyName × Bool))) (h : Vis a d env) :
    Vis a (d + 1) ([] :: env) := by
  obtain ⟨X, E, he, hd, hX, hE⟩ := h
  refine ⟨[] :: X, E, by simp [he], by simp [hd], ?_, hE⟩
  intro s hs
  rcases List.mem_cons.mp hs with rfl | hs
  · rfl
  · exact hX s hs

theorem vis_pop (a : PyName) (d : Nat) (env : List (List (PyName × Bool))) (hd0 : 0 < d) (h : Vis a d env) :
    Vis a (d - 1) env.tail := by
  obtain ⟨X, E, he, hd, hX, hE⟩ := h
  cases X with
  | nil => simp at hd; omega
  | cons x xs =>
    exact ⟨xs, E, by simp [he], by simp at hd; omega, fun s hs => hX s (List.mem_cons_of_mem _ hs), hE⟩

theorem vis_run (a : PyName) : ∀ (is : List Instr) (d : Nat) (sp : Sp), safe a d is = true → Vis a d sp.env →
    ∃ d', Vis a d' (is.foldl stepS sp).env
  | [], d, sp, _, h => ⟨d, h⟩
  | i :: rest, d, sp, hs, h => by
    cases i with
    | bindLit n =>
      simp only [safe, Bool.and_eq_true] at hs
      exact vis_run a rest d _ hs.2 (vis_bind a n true hs.1 d sp.env h)
    | bindTensor n =>
      simp only [safe, Bool.and_eq_true] at hs
      exact vis_run a rest d _ hs.2 (vis_bind a n false hs.1 d sp.env h)
    | use n => exact vis_run a rest d _ (by simpa [safe] using hs) h
    | enter => exact vis_run a rest (d + 1) _ (by simpa [safe] using hs) (vis_push a d sp.env h)
    | exit outs | exitLoop outs =>
      simp only [safe, Bool.and_eq_true, decide_eq_true_eq, Bool.not_eq_true'] at hs
      exact vis_run a rest (d - 1) _ hs.2 (vis_outs a outs (d - 1) _ hs.1.2 (vis_pop a d sp.env hs.1.1 h))
    | enterLoop lv state =>
      simp only [safe, Bool.and_eq_true, Bool.not_eq_true'] at hs
      exact vis_run a rest (d + 1) _ hs.2 (vis_outs a _ (d + 1) _ hs.1 (vis_push a d sp.env h))
    | exitBranch outs =>
      simp only [safe, Bool.and_eq_true, decide_eq_true_eq] at hs
      exact vis_run a rest (d - 1) _ hs.2 (vis_pop a d sp.env hs.1 h)
    | endIf outs =>
      simp only [safe, Bool.and_eq_true, Bool.not_eq_true'] at hs
      exact vis_run a rest d _ hs.2 (vis_outs a outs d _ hs.1 h)

theorem lookupS_bindS (n m : PyName) (b : Bool) (env : List (List (PyName × Bool))) :
    lookupS n (bindS m b env) = if (m == n) = true then some b else lookupS n env := by
  cases env with
  | nil => by_cases h : (m == n) = true <;> simp [bindS, lookupS, lookupScopeS, h]
  | cons s rest => by_cases h : (m == n) = true <;> simp [bindS, lookupS, lookupScopeS, h]

theorem lookupS_bindAll_false (n : PyName) : ∀ (names : List PyName) (env : List (List (PyName × Bool))),
    (lookupS n env = some false ∨ n ∈ names) →
    lookupS n (names.foldl (fun e m => bindS m false e) env) = some false
  | [], env, h => by
    rcases h with h | h
    · exact h
    · cases h
  | m :: rest, env, h => by
    simp only [List.foldl_cons]
    apply lookupS_bindAll_false n rest
    rw [lookupS_bindS]
    by_cases hm : (m == n) = true
    · left; simp [hm]
    · simp only [hm]
      rcases h with h | h
      · left; exact h
      · rcases List.mem_cons.mp h with rfl | h
        · simp at hm
        · right; exact h

/-- Scope depth after a program started at depth `d` (number of blocks entered and not yet left); `none` when the
program leaves a block it never entered. -/
def depthAfter : Nat → List Instr → Option Nat
  | d, [] => some d
  | d, .bindLit _ :: r => depthAfter d r
  | d, .bindTensor _ :: r => depthAfter d r
  | d, .use _ :: r => depthAfter d r
  | d, .endIf _ :: r => depthAfter d r
  | d, .enter :: r => depthAfter (d + 1) r
  | d, .enterLoop _ _ :: r => depthAfter (d + 1) r
  | d, .exit _ :: r => if 0 < d then depthAfter (d - 1) r else none
  | d, .exitLoop _ :: r => if 0 < d then depthAfter (d - 1) r else none
  | d, .exitBranch _ :: r => if 0 < d then depthAfter (d - 1) r else none

theorem bind_length (n : PyName) (v : VId) (l : List (List (PyName × VId))) (h : 0 < l.length) :
    (bind n v l).length = l.length := by
  cases l with
  | nil => simp at h
  | cons s rest => rfl

theorem bindOuts_length : ∀ (outs : List PyName) (l : List (List (PyName × VId))) (next : VId), 0 < l.length →
    (bindOuts outs l next).1.length = l.length
  | [], _, _, _ => rfl
  | n :: rest, l, next, h => by
    have hb := bind_length n next l h
    have := bindOuts_length rest (bind n next l) (next + 1) (by omega)
    simp only [bindOuts, List.foldl] at this ⊢
    rw [this, hb]

theorem step_depth (st : St) (i : Instr) (d d' : Nat) (rest : List Instr) (hl : st.locals.length = d + 1)
    (h : depthAfter d (i :: rest) = some d') :
    ∃ d1, (step st i).locals.length = d1 + 1 ∧ depthAfter d1 rest = some d' := by
  cases i with
  | bindLit n => exact ⟨d, by simp only [step]; rw [bind_length _ _ _ (by omega), hl], h⟩
  | bindTensor n => exact ⟨d, by simp only [step]; rw [bind_length _ _ _ (by omega), hl], h⟩
  | use n => exact ⟨d, hl, h⟩
  | enter => exact ⟨d + 1, by simp [step, hl], h⟩
  | endIf outs => exact ⟨d, by simp only [step]; rw [bindOuts_length _ _ _ (by omega), hl], h⟩
  | enterLoop lv state =>
    refine ⟨d + 1, ?_, h⟩
    simp only [step]
    rw [bindOuts_length _ _ _ (by simp)]
    simp [hl]
  | exit outs | exitLoop outs =>
    simp only [depthAfter] at h
    split at h
    · refine ⟨d - 1, ?_, h⟩
      simp only [step]
      rw [bindOuts_length _ _ _ (by simp; omega)]
      simp; omega
    · cases h
  | exitBranch outs =>
    simp only [depthAfter] at h
    split at h
    · refine ⟨d - 1, ?_, h⟩
      simp only [step]
      simp; omega
    · cases h

theorem foldl_depth : ∀ (prog : List Instr) (st : St) (d d' : Nat), st.locals.length = d + 1 →
    depthAfter d prog = some d' → (prog.foldl step st).locals.length = d' + 1
  | [], st, d, d', hl, h => by
    simp only [depthAfter, Option.some.injEq] at h
    subst h
    exact hl
  | i :: rest, st, d, d', hl, h => by
    obtain ⟨d1, h1, h2⟩ := step_depth st i d d' rest hl h
    exact foldl_depth rest (step st i) d1 d' h1 h2

end OV.Scope
