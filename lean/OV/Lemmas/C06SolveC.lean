import OV.Lemmas.C06Solve
/-!
  C06 — the exhaustive search `solve` is complete: whenever some assignment makes the subgraph an
  instance (OR patterns included, any number of output nodes), `solve` returns a solution, provided no checker
  of the pattern rejects (`checksOk`: `solve` evaluates checkers inline) and the pattern outputs are outputs of
  its output nodes.  Then `solve` as a checker of concrete witnesses.
-/
namespace OV.C06

mutual
/-- no value-level checker inside the value pattern rejects -/
def VPat.checksOk : VPat → Bool
  | .var _ _ _ _ check => check != some false
  | .orB _ _ _ _ alts => checksOkL alts
  | _ => true
def checksOkL : List VPat → Bool
  | [] => true
  | a :: rest => a.checksOk && checksOkL rest
end

/-- no checker attached to the pattern rejects (checkers are opaque booleans) -/
def GPat.checksOk (p : GPat) : Bool :=
  p.nodes.all (fun n => n.check != some false &&
    n.inputs.all (fun i => match i with | some v => v.checksOk | none => true))

/-- the search state agrees with `A` -/
structure SAsub (a : SA) (A : Assign) : Prop where
  b : ∀ k x, (k, x) ∈ a.names → A.names k = some x
  v : ∀ k x, (k, x) ∈ a.leaf → A.leaf k = some x
  n : ∀ k x, (k, x) ∈ a.node → A.node k = some x

theorem SAsub.toALe {a : SA} {A : Assign} (h : SAsub a A) : ALe a.assign A :=
  ⟨fun k x hl => h.b k x (List.lookup_mem hl), fun k x hl => h.n k x (List.lookup_mem hl),
   fun k x hl => h.v k x (List.lookup_mem hl)⟩

theorem bindName_complete (a : SA) (A : Assign) (k : String) (b : Bound) (h : SAsub a A)
    (hA : A.names k = some b) : ∃ a', a.bindName k b = some a' ∧ SAsub a' A := by
  unfold SA.bindName
  cases hl : a.names.lookup k with
  | some b' =>
    have : b' = b := Option.some.inj ((h.b k b' (List.lookup_mem hl)).symm.trans hA)
    subst this
    exact ⟨a, by simp, h⟩
  | none =>
    exact ⟨_, rfl, ⟨agree_snoc h.b hA, h.v, h.n⟩⟩

theorem bindV_complete (p : GPat) (a : SA) (A : Assign) (vp : VPat) (v : Option ValueId)
    (h : SAsub a A) (hA : A.boundTo p vp v) : ∃ a', a.bindV p vp v = some a' ∧ SAsub a' A := by
  unfold SA.bindV
  unfold Assign.boundTo at hA
  rcases hn : p.vname vp with _ | nm <;> simp only [hn] at hA ⊢
  · rcases hk : vp.key with _ | k <;> simp only [hk] at hA ⊢
    · exact ⟨a, rfl, h⟩
    · cases hl : a.leaf.lookup k with
      | some v' =>
        have : v' = v := Option.some.inj ((h.v k v' (List.lookup_mem hl)).symm.trans hA)
        subst this
        exact ⟨a, by simp, h⟩
      | none =>
        exact ⟨_, rfl, ⟨h.b, agree_snoc h.v hA, h.n⟩⟩
  · exact bindName_complete a A nm _ h hA

theorem bindTag_complete (tagVar : Option String) (t : Int) (a : SA) (A : Assign) (h : SAsub a A)
    (hA : ∀ tv, tagVar = some tv → A.names tv = some (.tag t)) :
    ∃ a', bindTag tagVar t a = some a' ∧ SAsub a' A := by
  unfold bindTag
  cases tagVar with
  | none => exact ⟨a, rfl, h⟩
  | some tv => exact bindName_complete a A tv _ h (hA tv rfl)

theorem solveAttrs_complete (n : GNode) (A : Assign) : ∀ (l : List (String × APat)) (a : SA),
    SAsub a A →
    (∀ name ap, (name, ap) ∈ l → attrOk n name ap ∧
      ∀ nm, ap.name = some nm → A.names nm = some (Bound.ofAttr (n.attr name))) →
    ∃ a', solveAttrs n l a = some a' ∧ SAsub a' A := by
  intro l
  induction l with
  | nil => intro a h _; exact ⟨a, rfl, h⟩
  | cons hd rest ih =>
    intro a h hall
    obtain ⟨name, ap⟩ := hd
    have h0 := hall name ap (List.mem_cons_self ..)
    have hrest := fun name ap hm => hall name ap (List.mem_cons_of_mem _ hm)
    unfold solveAttrs
    simp only [attrBad_of_ok h0.1, Bool.false_eq_true, if_false]
    rcases hnm : ap.name with _ | nm <;> dsimp only
    · exact ih a h hrest
    · obtain ⟨a1, e1, s1⟩ := bindName_complete a A nm _ h (h0.2 nm hnm)
      simp only [e1]
      exact ih a1 s1 hrest

theorem solveOutputs_complete (p : GPat) (A : Assign) (np : NPId) (gouts : List ValueId) :
    ∀ (rest : List (Option String)) (i : Nat) (a : SA), SAsub a A →
      (∀ j, i ≤ j → j < i + rest.length → ∃ x, gouts[j]? = some x ∧ A.boundTo p (.out np j) (some x)) →
      ∃ a', solveOutputs p np gouts rest i a = some a' ∧ SAsub a' A := by
  intro rest
  induction rest with
  | nil => intro i a h _; exact ⟨a, rfl, h⟩
  | cons hd rest ih =>
    intro i a h hall
    unfold solveOutputs
    obtain ⟨x, hx, hb⟩ := hall i (Nat.le_refl _) (by simp)
    simp only [hx]
    obtain ⟨a1, e1, s1⟩ := bindV_complete p a A _ _ h hb
    simp only [e1]
    exact ih (i + 1) a1 s1 (fun j h1 h2 => hall j (by omega) (by simp only [List.length_cons]; omega))

/-- the recursive node solver finds an extension agreeing with `A` for every node pattern below `f`
that `A` satisfies -/
def NodeCS (E : Env) (A : Assign) (rec : NPId → NodeId → SA → List SA) (f : Nat) : Prop :=
  ∀ np n a, np < f → SatN E A np n → SAsub a A → ∃ a', a' ∈ rec np n a ∧ SAsub a' A

theorem solveOut_complete (E : Env) (A : Assign) (rec : NPId → NodeId → SA → List SA) (f : Nat)
    (hrec : NodeCS E A rec f) (np : NPId) (idx : Nat) (x : ValueId) (a : SA)
    (hs : SatV E A (.out np idx) (some x)) (h : SAsub a A) (hq : np < f) :
    ∃ a', a' ∈ solveOut E rec np idx x a ∧ SAsub a' A := by
  cases hs with
  | out _ _ _ n hb hf hp hi hn =>
    unfold solveOut
    simp only [hp, hi, bne_self_eq_false, Bool.false_eq_true, if_false]
    obtain ⟨a1, e1, s1⟩ := bindV_complete E.p a A _ _ h hb
    simp only [e1]
    exact hrec np n a1 hq hn s1

mutual
theorem solveV_complete (E : Env) (A : Assign) (rec : NPId → NodeId → SA → List SA) (f : Nat)
    (hrec : NodeCS E A rec f) : ∀ (vp : VPat) (v : Option ValueId) (a : SA),
      SatV E A vp v → SAsub a A → vp.checksOk = true → (∀ q ∈ vp.refs, q < f) →
      ∃ a', a' ∈ solveV E rec vp v a ∧ SAsub a' A
  | .any, v, a, _, h, _, _ => by
    unfold solveV
    simp only [crossGraphBad_false (vp := .any) fun _ _ _ => rfl, Bool.false_eq_true, if_false]
    exact ⟨a, List.mem_singleton_self _, h⟩
  | .var id name isVar canNone check, v, a, hs, h, hc, _ => by
    cases hs with
    | var _ _ _ _ _ _ hb h1 h2 =>
      obtain ⟨a1, e1, s1⟩ := bindV_complete E.p a A _ v h hb
      have hck : (check == some false) = false := by simpa [VPat.checksOk] using hc
      have hnn : (v.isNone && !canNone) = false := by
        cases v with
        | none => simp [h1 rfl]
        | some x => rfl
      refine ⟨a1, ?_, s1⟩
      unfold solveV
      simp only [crossGraphBad_false (vp := .var id name isVar canNone check) h2, hck, hnn, e1,
        Bool.false_eq_true, if_false, Option.toList_some, List.mem_singleton]
  | .const id c, v, a, hs, h, _, _ => by
    cases hs with
    | const _ _ x cv hb h1 h2 =>
      obtain ⟨a1, e1, s1⟩ := bindV_complete E.p a A _ _ h hb
      refine ⟨a1, ?_, s1⟩
      unfold solveV
      simp only [crossGraphBad_false (vp := .const id c) fun _ _ _ => rfl, h1, h2, e1, Bool.false_eq_true,
        if_false, if_true, Option.toList_some, List.mem_singleton]
  | .out np idx, v, a, hs, h, _, hq => by
    cases hs with
    | out _ _ x n hb hf hp hi hn =>
      unfold solveV
      simp only [crossGraphBad_own hf, Bool.false_eq_true, if_false]
      exact solveOut_complete E A rec f hrec np idx x a (.out np idx x n hb hf hp hi hn) h
        (hq np (List.mem_singleton_self _))
  | .orD id name tagVar alts, v, a, hs, h, _, hq => by
    cases hs with
    | orD _ _ _ _ x d hb hf hd hso ht =>
      obtain ⟨a1, e1, s1⟩ := bindV_complete E.p a A _ _ h hb
      obtain ⟨a2, m2, s2⟩ := solveOut_complete E A rec f hrec d.np d.idx x a1 hso s1
        (hq d.np (List.mem_map.2 ⟨d, getDispatch_mem hd, rfl⟩))
      obtain ⟨a3, e3, s3⟩ := bindTag_complete tagVar d.tag a2 A s2 ht
      refine ⟨a3, ?_, s3⟩
      unfold solveV
      simp only [crossGraphBad_own hf, Bool.false_eq_true, if_false, hd, e1]
      exact List.mem_filterMap.2 ⟨a2, m2, e3⟩
  | .orB id name tagVar tags alts, v, a, hs, h, hc, hq => by
    cases hs with
    | orB _ _ _ _ _ _ i alt hb hf hi hsa ht =>
      have hcg : crossGraphBad E.g (.orB id name tagVar tags alts) v = false :=
        crossGraphBad_false fun x hx hfo => by simp [hf x hx] at hfo
      obtain ⟨a1, e1, s1⟩ := bindV_complete E.p a A _ _ h hb
      unfold solveV
      simp only [hcg, Bool.false_eq_true, if_false, e1]
      exact solveAlts_complete E A rec f hrec alts tags tagVar v a1 i alt hi hsa ht s1 hc hq
theorem solveAlts_complete (E : Env) (A : Assign) (rec : NPId → NodeId → SA → List SA) (f : Nat)
    (hrec : NodeCS E A rec f) : ∀ (alts : List VPat) (tags : List Int) (tagVar : Option String)
      (v : Option ValueId) (a : SA) (i : Nat) (alt : VPat),
      alts[i]? = some alt → SatV E A alt v →
      (∀ t, tagVar = some t → A.names t = some (.tag (tags.getD i 0))) →
      SAsub a A → checksOkL alts = true → (∀ q ∈ refsL alts, q < f) →
      ∃ a', a' ∈ solveAlts E rec alts tags tagVar v a ∧ SAsub a' A
  | [], _, _, _, _, i, _, hi, _, _, _, _, _ => by simp at hi
  | first :: rest, tags, tagVar, v, a, 0, alt, hi, hs, ht, h, hc, hq => by
    simp at hi
    subst hi
    unfold solveAlts
    simp only [checksOkL, Bool.and_eq_true] at hc
    obtain ⟨a1, m1, s1⟩ := solveV_complete E A rec f hrec first v a hs h hc.1
      (fun q hq' => hq q (by simp [refsL, hq']))
    obtain ⟨a2, e2, s2⟩ := bindTag_complete tagVar (tags.headD 0) a1 A s1
      (fun t e => by have := ht t e; cases tags <;> simpa using this)
    exact ⟨a2, List.mem_append_left _ (List.mem_filterMap.2 ⟨a1, m1, e2⟩), s2⟩
  | first :: rest, tags, tagVar, v, a, i + 1, alt, hi, hs, ht, h, hc, hq => by
    unfold solveAlts
    simp only [checksOkL, Bool.and_eq_true] at hc
    obtain ⟨a', m, s⟩ := solveAlts_complete E A rec f hrec rest tags.tail tagVar v a i alt
      (by simpa using hi) hs (fun t e => by rw [getD_tail]; exact ht t e) h hc.2
      (fun q hq' => hq q (by simp [refsL, hq']))
    exact ⟨a', List.mem_append_right _ m, s⟩
end

theorem checksOk_input {p : GPat} (h : p.checksOk = true) {np : NPId} {Pn : NPat}
    (hP : p.nodes[np]? = some Pn) : Pn.check ≠ some false ∧
      ∀ vp, some vp ∈ Pn.inputs → vp.checksOk = true := by
  unfold GPat.checksOk at h
  simp only [List.all_eq_true, Bool.and_eq_true] at h
  have h1 := h Pn (List.mem_of_getElem? hP)
  exact ⟨by simpa using h1.1, fun vp hm => h1.2 (some vp) hm⟩

theorem solveInputs_complete (E : Env) (A : Assign) (rec : NPId → NodeId → SA → List SA) (f : Nat)
    (hrec : NodeCS E A rec f) (n : GNode) :
    ∀ (ins : List (Option VPat)) (i : Nat) (a : SA), SAsub a A →
      (∀ j, ins[j]? = some none → inputAt n (i + j) = none) →
      (∀ j vp, ins[j]? = some (some vp) → SatV E A vp (inputAt n (i + j))) →
      (∀ vp, some vp ∈ ins → vp.checksOk = true ∧ ∀ q ∈ vp.refs, q < f) →
      ∃ a', a' ∈ solveInputs (solveV E rec) ins i n a ∧ SAsub a' A := by
  intro ins
  induction ins with
  | nil => intro i a h _ _ _; exact ⟨a, by simp [solveInputs], h⟩
  | cons hd rest ih =>
    intro i a h hnone hsome hwf
    have hnone' : ∀ j, rest[j]? = some none → inputAt n (i + 1 + j) = none :=
      fun j hj => Nat.succ_add_eq_add_succ i j ▸ hnone (j + 1) hj
    have hsome' : ∀ j vp, rest[j]? = some (some vp) → SatV E A vp (inputAt n (i + 1 + j)) :=
      fun j vp hj => Nat.succ_add_eq_add_succ i j ▸ hsome (j + 1) vp hj
    have hwf' : ∀ vp, some vp ∈ rest → vp.checksOk = true ∧ ∀ q ∈ vp.refs, q < f :=
      fun vp hm => hwf vp (List.mem_cons_of_mem _ hm)
    cases hd with
    | none =>
      unfold solveInputs
      have := hnone 0 rfl
      simp only [Nat.add_zero] at this
      simp only [this, Option.isNone_none, if_true]
      exact ih (i + 1) a h hnone' hsome' hwf'
    | some vp =>
      unfold solveInputs
      have hs := hsome 0 vp rfl
      simp only [Nat.add_zero] at hs
      obtain ⟨hc, hq⟩ := hwf vp (List.mem_cons_self ..)
      obtain ⟨a1, m1, s1⟩ := solveV_complete E A rec f hrec vp _ a hs h hc hq
      obtain ⟨a2, m2, s2⟩ := ih (i + 1) a1 s1 hnone' hsome' hwf'
      exact ⟨a2, List.mem_flatMap.2 ⟨a1, m1, m2⟩, s2⟩

theorem solveNodeStep_complete (E : Env) (A : Assign) (rec : NPId → NodeId → SA → List SA) (f : Nat)
    (hrec : NodeCS E A rec f) (htopo : E.p.topoDeep) (hchk : E.p.checksOk = true) :
    ∀ np n a, np ≤ f → SatN E A np n → SAsub a A →
      ∃ a', a' ∈ solveNodeStep E (solveV E rec) np n a ∧ SAsub a' A := by
  intro np n a hnf hs h
  cases hs with
  | mk _ _ P N hP hN hnode hop hdom hattrs hlen hnone hsome houts =>
    unfold solveNodeStep
    cases hl : a.node.lookup np with
    | some m =>
      have : m = n := Option.some.inj ((h.n np m (List.lookup_mem hl)).symm.trans hnode)
      subst this
      exact ⟨a, by simp, h⟩
    | none =>
      simp only [hP, hN]
      obtain ⟨hck, hin⟩ := checksOk_input hchk hP
      have h1 : (P.check == some false) = false := by simpa using hck
      have h2 : (!P.op.matches N.op || !P.domain.matches N.domain) = false := by simp [hop, hdom]
      simp only [h1, h2, otherAttrs_guard hattrs, otherInputs_guard hlen, Bool.false_eq_true, if_false]
      obtain ⟨a1, e1, s1⟩ := solveAttrs_complete N A P.attrs a h hattrs.1
      simp only [e1]
      have s2 : SAsub { a1 with node := a1.node ++ [(np, n)] } A :=
        ⟨s1.b, s1.v, agree_snoc s1.n hnode⟩
      obtain ⟨a3, m3, s3⟩ := solveInputs_complete E A rec f hrec N P.inputs 0 _ s2
        (fun j hj => by simpa using hnone j hj)
        (fun j vp hj => by simpa using hsome j vp hj)
        (fun vp hm => ⟨hin vp hm, fun q hq => Nat.lt_of_lt_of_le (htopo np P hP vp hm q hq) hnf⟩)
      obtain ⟨a4, e4, s4⟩ := solveOutputs_complete E.p A np N.outputs P.outputs 0 a3 s3
        (fun j _ hj => houts j (by omega))
      exact ⟨a4, List.mem_filterMap.2 ⟨a3, m3, e4⟩, s4⟩

theorem solveN_complete (E : Env) (A : Assign) (htopo : E.p.topoDeep) (hchk : E.p.checksOk = true) :
    ∀ f, NodeCS E A (solveN E f) f
  | 0 => fun _ _ _ h => absurd h (Nat.not_lt_zero _)
  | f + 1 => fun np n a hlt =>
    solveNodeStep_complete E A (solveN E f) f (solveN_complete E A htopo hchk f) htopo hchk np n a
      (Nat.le_of_lt_succ hlt)

theorem solveOutNodes_complete (E : Env) (A : Assign) (htopo : E.p.topoDeep)
    (hchk : E.p.checksOk = true) : ∀ (l : List NPId) (a : SA), SAsub a A →
    (∀ np ∈ l, ∃ n, SatN E A np n) → ∃ a', a' ∈ solveOutNodes E l a ∧ SAsub a' A := by
  intro l
  induction l with
  | nil => intro a h _; exact ⟨a, by simp [solveOutNodes], h⟩
  | cons np rest ih =>
    intro a h hall
    obtain ⟨n, hn⟩ := hall np (List.mem_cons_self ..)
    obtain ⟨hb1, hb2⟩ := satN_bounds hn
    obtain ⟨a1, m1, s1⟩ := solveN_complete E A htopo hchk E.p.fuel np n a
      (Nat.lt_succ_of_lt hb1) hn h
    obtain ⟨a2, m2, s2⟩ := ih a1 s1 (fun np' hm => hall np' (List.mem_cons_of_mem _ hm))
    unfold solveOutNodes
    exact ⟨a2, List.mem_flatMap.2 ⟨n, List.mem_range.2 hb2, List.mem_flatMap.2 ⟨a1, m1, m2⟩⟩, s2⟩

theorem solve_complete_core (E : Env) (root : NodeId) (A : Assign) (htopo : E.p.topoDeep)
    (hchk : E.p.checksOk = true) (houts : OutputsOfOutputNodes E.p) (hinst : Instance E root A) :
    ∃ s, s ∈ solve E root false ∧ E.p.outputs.mapM (A.outputOf E.p) = some s.outputs ∧
      (∀ n ∈ s.nodes, ∃ np, A.node np = some n) ∧
      (Removable E.g s.nodes s.outputs → s ∈ solve E root true) := by
  have s0 : SAsub ({} : SA) A :=
    ⟨fun _ _ h => by simp at h, fun _ _ h => by simp at h, fun _ _ h => by simp at h⟩
  have hstart : ∃ a, a ∈ solveStarts E root ∧ SAsub a A := by
    unfold solveStarts
    cases hon : E.p.outputNodes with
    | nil => exact ⟨{}, by simp, s0⟩
    | cons np rest =>
      dsimp only
      have hs := hinst.satN_root (congrArg List.head? hon)
      obtain ⟨hb1, _⟩ := satN_bounds hs
      obtain ⟨a1, m1, s1⟩ := solveN_complete E A htopo hchk E.p.fuel np root {}
        (Nat.lt_succ_of_lt hb1) hs s0
      obtain ⟨a2, m2, s2⟩ := solveOutNodes_complete E A htopo hchk rest a1 s1
        (fun np' hm => by
          obtain ⟨n', _, hs'⟩ := hinst.outNodes np' (by simp [hon, hm])
          exact ⟨n', hs'⟩)
      exact ⟨a2, List.mem_flatMap.2 ⟨a1, m1, m2⟩, s2⟩
  obtain ⟨a, ha, hsub⟩ := hstart
  -- the state found agrees with `A`, so the solution read off it is the one for `A`
  have hle := hsub.toALe
  have r1 := (solveStarts_spec E root htopo hinst.cond a ha).outNodes
  obtain ⟨outs, ho⟩ := outputOf_of_outputNodes houts fun q hq => let ⟨n, _, hs⟩ := r1 q hq; ⟨n, hs⟩
  have hcond : (!E.p.cond) = false := by simp [hinst.cond]
  have hmem : ∀ rm, (rm && !validToReplace E.g a.matched outs) = false →
      ({ names := bindInputs E.p.inputs a.names, outputs := outs, nodes := a.matched } : Sol) ∈ solve E root rm :=
    fun rm hv => by
      unfold solve
      simp only [hcond, Bool.false_eq_true, if_false, List.mem_filterMap]
      exact ⟨a, ha, by unfold finishSol; simp only [ho, hv, Bool.false_eq_true, if_false]⟩
  refine ⟨_, hmem false rfl, mapM_mono (fun vp b => outputOf_mono hle E.p vp b) ho, fun n hn => ?_,
    fun hrem => hmem true (by rw [removable_validToReplace _ _ _ hrem]; rfl)⟩
  have : n ∈ a.node.map (·.2) := by simpa [SA.matched, List.mem_eraseDups] using hn
  obtain ⟨⟨np, n'⟩, hm, rfl⟩ := List.mem_map.1 this
  exact ⟨np, hsub.n np n' hm⟩

/-! ## `solve` as a checker of concrete witnesses

A concrete assignment is an instance as soon as the search reaches a state it extends (soundness of `solve`,
monotonicity of `SatN`); the side conditions of the witness are then finite checks. -/

instance (a : SA) (A : Assign) : Decidable (SAsub a A) :=
  decidable_of_iff ((∀ kv ∈ a.names, A.names kv.1 = some kv.2) ∧ (∀ kv ∈ a.leaf, A.leaf kv.1 = some kv.2) ∧
      (∀ kv ∈ a.node, A.node kv.1 = some kv.2))
    ⟨fun h => ⟨fun k x hm => h.1 (k, x) hm, fun k x hm => h.2.1 (k, x) hm, fun k x hm => h.2.2 (k, x) hm⟩,
     fun h => ⟨fun kv hm => h.b kv.1 kv.2 hm, fun kv hm => h.v kv.1 kv.2 hm, fun kv hm => h.n kv.1 kv.2 hm⟩⟩

instance (A : Assign) (p : GPat) (vp : VPat) (v : Option ValueId) : Decidable (A.boundTo p vp v) := by
  unfold Assign.boundTo
  split
  · infer_instance
  · split <;> infer_instance

theorem Instance.mono {E : Env} {root : NodeId} {A A' : Assign} (h : Instance E root A) (hle : ALe A A') :
    Instance E root A' :=
  ⟨fun np hh => hle.node _ _ (h.rootNode np hh), fun np hm =>
    let ⟨n, hn, hsat⟩ := h.outNodes np hm; ⟨n, hle.node _ _ hn, satN_mono hle hsat⟩, h.cond⟩

theorem instance_of_solve {E : Env} {root : NodeId} {A : Assign} (htopo : E.p.topoDeep)
    (hcond : E.p.cond = true) (h : ∃ a ∈ solveStarts E root, SAsub a A) : Instance E root A := by
  obtain ⟨a, ha, hs⟩ := h
  exact (solveStarts_spec E root htopo hcond a ha).mono hs.toALe

def GPat.topoDeepB (p : GPat) : Bool :=
  (List.range p.nodes.length).all fun np =>
    match p.nodes[np]? with
    | some P => P.inputs.all fun o => match o with
      | some vp => vp.refs.all (· < np)
      | none => true
    | none => true

theorem GPat.topoDeep_of_check {p : GPat} (h : p.topoDeepB = true) : p.topoDeep := by
  intro np P hP vp hin q hq
  have h1 := List.all_eq_true.1 h np (List.mem_range.2 (List.getElem?_eq_some_iff.1 hP).1)
  simp only [hP] at h1
  simpa using List.all_eq_true.1 (List.all_eq_true.1 h1 (some vp) hin) q hq

theorem checksPass_of_all {p : GPat} (A : Assign) (h1 : p.nodes.all (fun n => n.check != some false) = true)
    (h2 : p.valueChecks.all (fun kv => kv.2) = true) : ChecksPass p A := by
  refine ⟨fun np n P _ hP => ?_, fun id v _ hl => ?_⟩
  · simpa using List.all_eq_true.1 h1 P (List.mem_of_getElem? hP)
  · exact absurd (List.all_eq_true.1 h2 _ (List.lookup_mem hl)) (by simp)

end OV.C06
