import OV.Model.C16Bind
/-!
The registry of `OV.Model.C16Bind` as a state machine: what `register` does to the names of the records and to every
lookup, a module body (`runDecls`) as a history of registrations, and `get_torchlib_ops` yielding each (name, kind) once.
-/
namespace OV.C16

theorem addTo_name (o : Overloaded) (f : Nat) (cx : Bool) : (addTo o f cx).name = o.name := by
  unfold addTo
  cases cx <;> simp <;> split <;> rfl

theorem addTo_full {o : Overloaded} {f : Nat} {cx : Bool}
    (h : (if cx then o.complex else o.overloads) ≠ []) : addTo o f cx = o := by
  unfold addTo
  cases cx <;> simp_all [List.isEmpty_iff]

theorem register_names (r : Reg) (x : Registration) :
    (register r x).map (·.name) = if x.name ∈ r.map (·.name) then r.map (·.name) else r.map (·.name) ++ [x.name] := by
  induction r with
  | nil => simp [register, addTo_name]
  | cons o os ih =>
    simp only [register]
    by_cases e : o.name = x.name
    · simp [e, addTo_name]
    · have e' : ¬ x.name = o.name := fun h => e h.symm
      simp only [beq_iff_eq, e, if_false, List.map_cons, ih, List.mem_cons, e', false_or]
      split <;> simp

theorem register_nodup (r : Reg) (x : Registration) (h : (r.map (·.name)).Nodup) :
    ((register r x).map (·.name)).Nodup := by
  rw [register_names]
  split
  · exact h
  · rw [List.nodup_append]
    exact ⟨h, by simp, by simp_all⟩

theorem foldl_register_nodup (rs : List Registration) (r : Reg) (h : (r.map (·.name)).Nodup) :
    ((rs.foldl register r).map (·.name)).Nodup := by
  induction rs generalizing r with
  | nil => exact h
  | cons x xs ih => exact ih _ (register_nodup r x h)

theorem name_of_mem_foldl (rs : List Registration) (r : Reg) :
    ∀ n ∈ (rs.foldl register r).map (·.name), n ∈ r.map (·.name) ∨ ∃ x ∈ rs, x.name = n := by
  induction rs generalizing r with
  | nil => exact fun n hn => .inl hn
  | cons x xs ih =>
    intro n hn
    rcases ih _ n hn with h | ⟨y, hy, rfl⟩
    · rw [register_names] at h
      split at h
      · exact .inl h
      · rcases List.mem_append.mp h with h | h
        · exact .inl h
        · exact .inr ⟨x, by simp, (List.mem_singleton.mp h).symm⟩
    · exact .inr ⟨y, by simp [hy], rfl⟩

/-- The registrations one `@torch_op` declaration makes. -/
def regsOf (d : Decl) : List Registration :=
  if d.isPrivate then [] else d.names.map (⟨d.func, ·, d.isComplex⟩)

theorem torchOp_eq_some {r r' : Reg} {d : Decl} (h : torchOp r d = some r') :
    r' = (regsOf d).foldl register r ∧ ∀ x ∈ regsOf d, nameOk x.name = true := by
  unfold torchOp at h
  split at h
  · rename_i hall
    cases h
    unfold regsOf
    split
    · exact ⟨rfl, by simp⟩
    · exact ⟨by rw [List.foldl_map], by simpa using hall⟩
  · cases h

/-- What holds after every history of `register` therefore holds after every import that succeeds. -/
theorem runDecls_eq_foldl {ds : List Decl} {r r' : Reg} (h : runDecls r ds = some r') :
    r' = (ds.flatMap regsOf).foldl register r ∧ ∀ x ∈ ds.flatMap regsOf, nameOk x.name = true := by
  induction ds generalizing r with
  | nil => cases h; exact ⟨rfl, by simp⟩
  | cons d ds ih =>
    rw [runDecls] at h
    cases ht : torchOp r d with
    | none => rw [ht] at h; cases h
    | some r1 =>
      rw [ht] at h
      obtain ⟨rfl, h1⟩ := torchOp_eq_some ht
      obtain ⟨rfl, h2⟩ := ih h
      rw [List.flatMap_cons, List.foldl_append]
      exact ⟨rfl, fun x hx => (List.mem_append.mp hx).elim (h1 x) (h2 x)⟩

theorem lookup_addTo (o : Overloaded) (f : Nat) (cx cx' : Bool) :
    (if cx' then (addTo o f cx).complex else (addTo o f cx).overloads) =
      (if cx = cx' ∧ (if cx' then o.complex else o.overloads) = [] then [f]
       else (if cx' then o.complex else o.overloads)) := by
  unfold addTo
  cases cx <;> cases cx' <;> simp <;> split <;> simp_all

theorem lookup_cons (o : Overloaded) (os : Reg) (n : String) (cx : Bool) :
    lookup (o :: os) n cx = if o.name = n then (if cx then o.complex else o.overloads) else lookup os n cx := by
  by_cases h : o.name = n <;> simp [lookup, h]

theorem lookup_of_mem {r : Reg} {o : Overloaded} (ho : o ∈ r) (hnd : (r.map (·.name)).Nodup) (cx : Bool) :
    lookup r o.name cx = if cx then o.complex else o.overloads := by
  induction r with
  | nil => cases ho
  | cons q qs ih =>
    rw [List.map_cons, List.nodup_cons] at hnd
    rw [lookup_cons]
    rcases List.mem_cons.mp ho with rfl | hm
    · simp
    · rw [if_neg fun e : q.name = o.name => hnd.1 (e ▸ List.mem_map_of_mem hm), ih hm hnd.2]

theorem lookup_register (r : Reg) (x : Registration) (n : String) (cx : Bool) :
    lookup (register r x) n cx =
      if x.name = n ∧ x.isComplex = cx ∧ lookup r n cx = [] then [x.func] else lookup r n cx := by
  induction r with
  | nil => by_cases hn : x.name = n <;> simp [register, addTo_name, hn, lookup_addTo, lookup]
  | cons o os ih =>
    rw [register, lookup_cons]
    by_cases e : o.name = x.name
    · rw [if_pos (by simpa using e), lookup_cons, addTo_name, lookup_addTo, ← e]
      by_cases hn : o.name = n <;> simp [hn]
    · rw [if_neg (by simpa using e), lookup_cons, ih]
      by_cases hn : o.name = n
      · have : ¬ x.name = n := fun h => e (hn.trans h.symm)
        simp [hn, this]
      · simp [hn]

/-- The (qualified name, is_complex) pairs `get_torchlib_ops` returns. -/
def opsKeys (r : Reg) : List (String × Bool) := (torchlibOps r).map (fun t => (t.1, t.2.2))

def entryKeys (o : Overloaded) : List (String × Bool) :=
  o.overloads.map (fun _ => (o.name, false)) ++ o.complex.map (fun _ => (o.name, true))

theorem opsKeys_cons (o : Overloaded) (os : Reg) :
    opsKeys (o :: os) =
      (if !(internalPrefix.isPrefixOf o.name.toList) then entryKeys o else []) ++ opsKeys os := by
  unfold opsKeys torchlibOps entryKeys
  by_cases hk : (!(internalPrefix.isPrefixOf o.name.toList)) = true
  · simp [hk, List.flatMap_cons, List.map_append, List.map_map, Function.comp_def]
  · simp [hk]

theorem fst_of_mem_entryKeys {o : Overloaded} {k : String × Bool} (h : k ∈ entryKeys o) : k.1 = o.name := by
  simp only [entryKeys, List.mem_append, List.mem_map] at h
  rcases h with ⟨_, _, rfl⟩ | ⟨_, _, rfl⟩ <;> rfl

theorem mem_opsKeys_name (r : Reg) (k : String × Bool) (h : k ∈ opsKeys r) : k.1 ∈ r.map (·.name) := by
  induction r with
  | nil => simp [opsKeys, torchlibOps] at h
  | cons o os ih =>
    rw [opsKeys_cons] at h
    rcases List.mem_append.mp h with h | h
    · split at h
      · simp [fst_of_mem_entryKeys h]
      · cases h
    · simp [ih h]

def AtMostOne (r : Reg) : Prop := ∀ o ∈ r, o.overloads.length ≤ 1 ∧ o.complex.length ≤ 1

theorem entryKeys_nodup (o : Overloaded) (h : o.overloads.length ≤ 1 ∧ o.complex.length ≤ 1) :
    (entryKeys o).Nodup := by
  unfold entryKeys
  obtain ⟨h1, h2⟩ := h
  match ho : o.overloads, hc : o.complex with
  | [], [] => simp
  | [_], [] => simp
  | [], [_] => simp
  | [_], [_] => simp
  | _ :: _ :: _, _ => rw [ho] at h1; simp at h1
  | _, _ :: _ :: _ => rw [hc] at h2; simp at h2

theorem opsKeys_nodup (r : Reg) (h1 : AtMostOne r) (h2 : (r.map (·.name)).Nodup) : (opsKeys r).Nodup := by
  induction r with
  | nil => simp [opsKeys, torchlibOps]
  | cons o os ih =>
    rw [opsKeys_cons]
    simp only [List.map_cons, List.nodup_cons] at h2
    have ihos := ih (fun q hq => h1 q (by simp [hq])) h2.2
    rw [List.nodup_append]
    refine ⟨?_, ihos, ?_⟩
    · split
      · exact entryKeys_nodup o (h1 o (by simp))
      · simp
    · intro a ha b hb hab
      subst hab
      split at ha
      · exact h2.1 (fst_of_mem_entryKeys ha ▸ mem_opsKeys_name os a hb)
      · cases ha

end OV.C16
