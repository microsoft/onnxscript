import OV.Lemmas.C01Separate
/-! `separate_input_attributes_from_arguments` on signatures with one variadic input (Sum, Max, Concat, …). -/
namespace OV.C01.Eager
open OV.C01

theorem separate_variadic {A} (allowExtraKw allowExtraArgs : Bool) (d : SigParam → A) (pre post : List SigParam)
    (p : SigParam) (args : List A) (kw : List (Name × A)) (hp : (p.isInput && p.variadic) = true)
    (hpre : noVariadic pre = true) (hpost : noVariadic post = true)
    (hr1 : requiredGiven kw args 0 pre = true) (hr2 : requiredGiven kw [] (pre.length + 1) post = true)
    (hk : kw.any (fun e => !((pre ++ p :: post).any (fun q => q.name = e.1))) = false ∨ allowExtraKw = true) :
    separate false allowExtraKw allowExtraArgs d (pre ++ p :: post) args kw =
      .ok (trimNone (inputSlots kw args 0 pre ++ (args.drop pre.length).map some ++ inputSlots kw [] (pre.length + 1) post),
           attrSlots kw args 0 pre ++ attrSlots kw [] (pre.length + 1) post) := by
  have hc : (kw.any (fun e => !((pre ++ p :: post).any (fun q => q.name = e.1))) && !allowExtraKw) = false := by
    rcases hk with h | h
    · rw [h]; rfl
    · rw [h]; simp
  simp only [separate, hc, Bool.false_eq_true, if_false]
  rw [sepLoop_append d kw args pre (p :: post) 0 ⟨[], 0, [], false⟩ hpre hr1 rfl]
  unfold sepLoop
  simp only [hp, if_true, Nat.zero_add, List.nil_append]
  -- the variadic step keeps the counter right: it is reset exactly if a value is appended
  rw [sepLoop_spec d kw [] post (pre.length + 1) _ hpost hr2 (countTrail_append_values _ _).symm]
  simp [trimNone]

end OV.C01.Eager
