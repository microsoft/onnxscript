/-! The merge law (`look_mergeD`) of a `setdefault` loop over an insertion-ordered dict.
`_restore_metadata`'s merge of `metadata_props` (`Meta.Props.merge`) and the inliner's merge of opset imports
(`Imports.Dict.addMissing`) are both that loop: each unfolds to `mergeD`; `get` of either dict is `(look d k).map (·.2)`, and
`has` is `(look d k).isSome` (`any_eq_look`). -/
namespace OV.C10

variable {β : Type}

abbrev look (d : List (String × β)) (k : String) : Option (String × β) := d.find? (fun e => e.1 == k)

/-- `for e in old: d.setdefault(e.key, e.value)` -/
abbrev mergeD (d old : List (String × β)) : List (String × β) :=
  old.foldl (fun a e => if a.any (fun x => x.1 == e.1) then a else a ++ [e]) d

theorem any_eq_look (d : List (String × β)) (k : String) : d.any (fun x => x.1 == k) = (look d k).isSome := by
  induction d with
  | nil => rfl
  | cons x d ih => simp only [List.any_cons, look, List.find?_cons]; cases x.1 == k <;> simp [ih, look]

theorem look_mergeD (old : List (String × β)) : ∀ (d : List (String × β)) (k : String),
    look (mergeD d old) k = (look d k).or (look old k) := by
  induction old with
  | nil => intro d k; simp [look, mergeD]
  | cons e old ih =>
    intro d k
    have := ih (if d.any (fun x => x.1 == e.1) then d else d ++ [e]) k
    simp only [mergeD, List.foldl_cons, look] at this ⊢
    rw [this, List.find?_cons]
    split
    · -- nothing is appended: if `k = e.1` the dict already answers
      rename_i h
      rw [any_eq_look] at h
      by_cases hk : (e.1 == k) = true
      · obtain rfl : e.1 = k := by simpa using hk
        obtain ⟨x, hx⟩ := Option.isSome_iff_exists.mp h
        simp only [look] at hx
        simp [hx]
      · simp [hk]
    · simp only [List.find?_append, List.find?_singleton]
      cases d.find? (fun x => x.1 == k) <;> by_cases hk : (e.1 == k) = true <;> simp [hk]

end OV.C10
