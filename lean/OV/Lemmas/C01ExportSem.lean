import OV.Lemmas.C01Export
/-! The meaning of the main graph `to_model_proto` builds: the function's graph read with every attribute
reference resolved to the attribute's default (C01/C02, 3382c7a). -/
namespace OV.C01
variable {V : Type}

/-- The operator meaning `S` with the attribute parameters at their defaults `ds`: a reference `@p` an operator
receives is first replaced by the default of `p` (left alone when `p` has none). -/
def Sem.atDefaults (S : Sem V) (ds : List (Name × Option String)) : Sem V where
  op := fun d n ins attrs => S.op d n ins (attrs.map (exportAttr ds))
  truth := S.truth
  natOf := S.natOf
  ofNat := S.ofNat
  ofBool := S.ofBool
  attrLit := S.attrLit
  pyVars := S.pyVars

theorem loopIter_atDefaults (S : Sem V) (ds : List (Name × Option String))
    (body : Nat → V → List V → Option (V × List V)) :
    ∀ (fuel : Nat) (left : Option Nat) (i : Nat) (c : V) (st : List V),
      loopIter (S.atDefaults ds) body fuel left i c st = loopIter S body fuel left i c st
  | 0, _, _, _, _ => rfl
  | fuel + 1, left, i, c, st => by
    simp only [loopIter, loopIter_atDefaults S ds body fuel]
    rfl

theorem loopResult_atDefaults (S : Sem V) (ds : List (Name × Option String))
    (body : Nat → V → List V → Option (V × List V)) (fuel : Nat) (bv cv : Option V) (st0 : List V) :
    loopResult (S.atDefaults ds) body fuel bv cv st0 = loopResult S body fuel bv cv st0 := by
  unfold loopResult
  have h1 : loopTrip (S.atDefaults ds) bv = loopTrip S bv := rfl
  have h2 : loopCond0 (S.atDefaults ds) cv = loopCond0 S cv := by cases cv <;> rfl
  rw [h1, h2]
  cases loopTrip S bv with
  | none => rfl
  | some left => exact loopIter_atDefaults S ds body fuel left 0 _ st0

theorem loopBodyFn_atDefaults (S : Sem V) (ds : List (Name × Option String)) (ev : Env V → Option (Env V))
    (ρ : Env V) (bi bo : List Name) :
    loopBodyFn (S.atDefaults ds) ev ρ bi bo = loopBodyFn S ev ρ bi bo := rfl

theorem export_eval_both (S : Sem V) (ds : List (Name × Option String)) :
    (∀ (n : Node) (fuel : Nat) (ρ : Env V),
      evalNode S fuel ρ (exportNode ds n) = evalNode (S.atDefaults ds) fuel ρ n) ∧
    (∀ (ns : List Node) (fuel : Nat) (ρ : Env V),
      evalNodes S fuel ρ (exportNodes ds ns) = evalNodes (S.atDefaults ds) fuel ρ ns) := by
  apply node_induct
  case op =>
    intro dom name ins outs attrs fuel ρ
    simp only [exportNode, evalNode, Sem.atDefaults]
  case ifN =>
    intro c outs tn to en eo iht ihe fuel ρ
    simp only [exportNode, evalNode, iht fuel ρ, ihe fuel ρ]
    rfl
  case loop =>
    intro b c inits outs bi bn bo ih fuel ρ
    cases fuel with
    | zero => simp only [exportNode, evalNode]
    | succ f =>
      simp only [exportNode, evalNode]
      have hb : (fun e => evalNodes S f e (exportNodes ds bn)) = (fun e => evalNodes (S.atDefaults ds) f e bn) :=
        funext (fun e => ih f e)
      rw [hb, loopBodyFn_atDefaults]
      cases ρ.getOpt b <;> cases ρ.getOpt c <;> cases ρ.getMany inits <;>
        simp only [loopResult_atDefaults]
  case nil =>
    intro fuel ρ
    simp only [exportNodes, evalNodes]
  case cons =>
    intro n ns ihn ihns fuel ρ
    simp only [exportNodes, evalNodes, ihn fuel ρ]
    cases evalNode (S.atDefaults ds) fuel ρ n with
    | none => rfl
    | some ρ' => exact ihns fuel ρ'

theorem exportNode_eval (S : Sem V) (ds : List (Name × Option String)) :
    ∀ (n : Node) (fuel : Nat) (ρ : Env V),
      evalNode S fuel ρ (exportNode ds n) = evalNode (S.atDefaults ds) fuel ρ n :=
  (export_eval_both S ds).1

theorem exportNodes_eval (S : Sem V) (ds : List (Name × Option String)) :
    ∀ (ns : List Node) (fuel : Nat) (ρ : Env V),
      evalNodes S fuel ρ (exportNodes ds ns) = evalNodes (S.atDefaults ds) fuel ρ ns :=
  (export_eval_both S ds).2

theorem exportModel_eval (S : Sem V) {ds : List (Name × Option String)} {g g' : Graph}
    (h : exportModel ds g = .ok g') (fuel : Nat) (args : List V) :
    evalGraph S fuel g' args = evalGraph (S.atDefaults ds) fuel g args := by
  obtain ⟨_, rfl⟩ := exportModel_ok h
  unfold evalGraph
  simp only [exportNodes_eval]

end OV.C01
