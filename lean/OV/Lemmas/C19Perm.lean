import OV.Model.C19Fusions
import OV.Model.C19Index
import Mathlib.Tactic.SplitIfs
/-! The axis maps of `OV.Model.C19Fusions` and the rule table of `fused_matmul_rule_sets`.

Case descriptions of the maps on an axis `k < n`, written without `≠` and without truncated subtraction, so that a
composition of two maps is closed by `omega` with the maps kept opaque (each disequality or `n - 1` would double the
cases `omega` has to visit).  From them the five facts that tie the maps to the swap `S = axSwap` and the batch rotation
`B = axBatch` (`effAxis n tb t` is `B^tb ∘ S^t`): `S∘S = id`, `axRotL = B∘S`, `axBatchInv∘B = id`, `axRotR∘axRotL = id`,
`axSwap0L∘B = axRotL`. -/
namespace OV.C19
theorem axSwap_cases (n k : Nat) (hn : 2 ≤ n) (hk : k < n) :
    (k + 2 = n ∧ axSwap n k = k + 1) ∨ (k + 1 = n ∧ axSwap n k + 1 = k) ∨ (k + 2 < n ∧ axSwap n k = k) := by
  unfold axSwap; split_ifs with h1 h2
  · exact .inl ⟨h1, by omega⟩
  · exact .inr (.inl ⟨h2, by omega⟩)
  · exact .inr (.inr ⟨by omega, rfl⟩)

theorem axRotL_cases (n k : Nat) (hk : k < n) : (k + 1 = n ∧ axRotL n k = 0) ∨ (k + 1 < n ∧ axRotL n k = k + 1) := by
  unfold axRotL; split_ifs with h1
  · exact .inl ⟨h1, rfl⟩
  · exact .inr ⟨by omega, rfl⟩

theorem axRotR_cases (n k : Nat) (hk : k < n) : (k = 0 ∧ axRotR n k + 1 = n) ∨ (0 < k ∧ axRotR n k + 1 = k) := by
  unfold axRotR; split_ifs with h1
  · exact .inl ⟨h1, by omega⟩
  · exact .inr ⟨by omega, by omega⟩

theorem axBatch_cases (n k : Nat) (hk : k < n) :
    (k + 1 = n ∧ axBatch n k = k) ∨ (k + 2 = n ∧ axBatch n k = 0) ∨ (k + 2 < n ∧ axBatch n k = k + 1) := by
  unfold axBatch; split_ifs with h1 h2
  · exact .inl ⟨h1, by omega⟩
  · exact .inr (.inl ⟨h2, rfl⟩)
  · exact .inr (.inr ⟨by omega, rfl⟩)

theorem axBatchInv_cases (n k : Nat) (hn : 2 ≤ n) (hk : k < n) :
    (k + 1 = n ∧ axBatchInv n k = k) ∨ (k = 0 ∧ axBatchInv n k + 2 = n)
      ∨ (0 < k ∧ k + 1 < n ∧ axBatchInv n k + 1 = k) := by
  unfold axBatchInv; split_ifs with h1 h2
  · exact .inl ⟨h1, by omega⟩
  · exact .inr (.inl ⟨h2, by omega⟩)
  · exact .inr (.inr ⟨by omega, by omega, by omega⟩)

theorem axSwap0L_cases (n k : Nat) (hk : k < n) :
    (k = 0 ∧ axSwap0L n k + 1 = n) ∨ (0 < k ∧ k + 1 = n ∧ axSwap0L n k = 0)
      ∨ (0 < k ∧ k + 1 < n ∧ axSwap0L n k = k) := by
  unfold axSwap0L; split_ifs with h1 h2
  · exact .inl ⟨h1, by omega⟩
  · exact .inr (.inl ⟨by omega, h2, rfl⟩)
  · exact .inr (.inr ⟨by omega, by omega, rfl⟩)

variable {n k : Nat}

theorem axSwap_lt (hn : 2 ≤ n) (hk : k < n) : axSwap n k < n := by
  have := axSwap_cases n k hn hk; omega

theorem effAxis_lt (hn : 2 ≤ n) (hk : k < n) (tb t : Bool) : effAxis n tb t k < n := by
  have a1 := axSwap_cases n k hn hk; have a2 := axBatch_cases n k hk; have a3 := axRotL_cases n k hk
  cases tb <;> cases t <;> simp only [effAxis] <;> omega

theorem axSwap_swap (hn : 2 ≤ n) (hk : k < n) : axSwap n (axSwap n k) = k := by
  have a1 := axSwap_cases n k hn hk
  have a2 := axSwap_cases n (axSwap n k) hn (by omega)
  omega

theorem axBatch_swap (hn : 2 ≤ n) (hk : k < n) : axBatch n (axSwap n k) = axRotL n k := by
  have a1 := axSwap_cases n k hn hk
  have a2 := axRotL_cases n k hk
  have a4 := axBatch_cases n (axSwap n k) (by omega)
  omega

theorem axBatchInv_batch (hn : 2 ≤ n) (hk : k < n) : axBatchInv n (axBatch n k) = k := by
  have a3 := axBatch_cases n k hk
  have a5 := axBatchInv_cases n (axBatch n k) hn (by omega)
  omega

theorem axRotR_rotL (hk : k < n) : axRotR n (axRotL n k) = k := by
  have a2 := axRotL_cases n k hk
  have a6 := axRotR_cases n (axRotL n k) (by omega)
  omega

theorem axSwap0L_batch (hk : k < n) : axSwap0L n (axBatch n k) = axRotL n k := by
  have a2 := axRotL_cases n k hk
  have a3 := axBatch_cases n k hk
  have a4 := axSwap0L_cases n (axBatch n k) (by omega)
  omega

/-- The rule table of `fused_matmul_rule_sets`: the axis map whose `perm` a rule accepts in front of an operand with
`transBatch = tb`, by the flags `(flipBatch, flipTrans)` the rule flips.  The row `(false, false, true)` is the basic rule
(`Transpose(Fused)MatMul1/2`, decided in `fmm` before `batchRule`), the five rows below it are the outcomes of
`batchRule`; no rule flips nothing, and the first row (the identity) is there to make the table total. -/
def ruleAxis : (tb fb ft : Bool) → Nat → Nat → Nat
  | _, false, false => fun _ k => k
  | false, false, true => axSwap
  | false, true, false => axBatch
  | false, true, true => axRotL
  | true, false, true => axSwap0L
  | true, true, false => axBatchInv
  | true, true, true => axRotR

theorem ruleAxis_sound (hn : 2 ≤ n) (hk : k < n) (tb fb ft t : Bool) :
    ruleAxis tb fb ft n (effAxis n tb t k) = effAxis n (tb != fb) (t != ft) k := by
  have hs := axSwap_lt hn hk
  have SS := axSwap_swap hn hk
  have BS := axBatch_swap hn hk
  have BS' : axBatch n k = axRotL n (axSwap n k) := by rw [← axBatch_swap hn hs, SS]
  cases tb <;> cases fb <;> cases ft <;> cases t <;> try rfl
  · show axSwap n (axSwap n k) = k
    exact SS
  · show axBatch n (axSwap n k) = axRotL n k
    exact BS
  · show axRotL n (axSwap n k) = axBatch n k
    exact BS'.symm
  · show axSwap0L n (axBatch n k) = axRotL n k
    exact axSwap0L_batch hk
  · show axSwap0L n (axRotL n k) = axBatch n k
    rw [← BS, axSwap0L_batch hs, BS']
  · show axBatchInv n (axBatch n k) = k
    exact axBatchInv_batch hn hk
  · show axBatchInv n (axRotL n k) = axSwap n k
    rw [← BS, axBatchInv_batch hn hs]
  · show axRotR n (axBatch n k) = axSwap n k
    rw [BS', axRotR_rotL hs]
  · show axRotR n (axRotL n k) = k
    exact axRotR_rotL hk

theorem batchRule_eq {p : List Int} {tb fb ft : Bool} (h : batchRule (if tb then 1 else 0) p = some (fb, ft)) :
    p = permOf (ruleAxis tb fb ft) p.length := by
  cases tb
  · simp only [batchRule, Bool.false_eq_true, if_false, beq_self_eq_true, if_true, show ((0 : Int) == 1) = false from rfl,
      Bool.and_false] at h
    split_ifs at h with h1 h2 <;> cases h
    · exact eq_of_beq h1
    · exact eq_of_beq h2
  · simp only [batchRule, if_true, show ((1 : Int) == 0) = false from rfl, Bool.false_eq_true, if_false, beq_self_eq_true,
      Bool.and_true] at h
    split_ifs at h with h1 h2 h3 <;> cases h
    · exact eq_of_beq h1
    · exact eq_of_beq h2
    · exact eq_of_beq h3

end OV.C19
