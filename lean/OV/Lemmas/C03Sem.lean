import OV.Model.C03Pass
import OV.Lemmas.Util
/-!
Frame property of `evalGraph` (`evalGraph_frame`): binding a name a graph does not mention cannot change what the graph
computes.  `mentionsG d g o` is syntactic occurrence of the name `o` anywhere in `g`, bodies included up to depth `d`, and
conservatively `true` below that.
`lookupAll` and `lookupOuts` are `List.mapM` (`lookupAll_eq_mapM`, `lookupOuts_eq_mapM`); their congruences come from there.
-/
namespace OV.C03

variable {V : Type}

theorem Env.set_get_same (ρ : Env V) (x : Name) (v : V) : (ρ.set x v) x = some v := by
  simp [Env.set]

theorem Env.set_get_ne (ρ : Env V) {x y : Name} (v : V) (h : y ≠ x) : (ρ.set x v) y = ρ y := by
  simp [Env.set, h]

theorem Env.set_comm (ρ : Env V) {x y : Name} (v w : V) (h : x ≠ y) :
    (ρ.set x v).set y w = (ρ.set y w).set x v := by
  funext z
  simp only [Env.set]
  by_cases h1 : z = y <;> by_cases h2 : z = x <;> simp_all

def mentionsN (mg : Graph → Name → Bool) (n : Node) (o : Name) : Bool :=
  n.inputs.contains (some o) || n.outputs.contains o || n.subs.any (fun s => mg s.2 o)

def mentionsG : Nat → Graph → Name → Bool
  | 0, _, _ => true
  | d + 1, g, o =>
    g.inputs.contains o || g.inits.any (fun p => p.1 == o) || g.outputs.contains o ||
      g.nodes.any (fun n => mentionsN (mentionsG d) n o)

theorem lookupIn_set {ρ : Env V} {o : Name} {v : V} {x : Option Name} (h : x ≠ some o) :
    lookupIn (ρ.set o v) x = lookupIn ρ x := by
  cases x with
  | none => rfl
  | some y =>
    have : y ≠ o := fun e => h (by rw [e])
    simp [lookupIn, Env.set, this]

theorem lookupAll_eq_mapM (ρ : Env V) (xs : List (Option Name)) : lookupAll ρ xs = xs.mapM (lookupIn ρ) := by
  induction xs with
  | nil => rfl
  | cons x xs ih => rw [lookupAll, ih, List.mapM_cons]; cases lookupIn ρ x <;> cases List.mapM (lookupIn ρ) xs <;> rfl

/-- (`Env` is a `def`: the function is written `fun x => ρ x` so that facts about `mapM` rewrite) -/
theorem lookupOuts_eq_mapM (ρ : Env V) (xs : List Name) : lookupOuts ρ xs = xs.mapM (fun x => ρ x) := by
  induction xs with
  | nil => rfl
  | cons x xs ih =>
    rw [lookupOuts, ih]
    refine Eq.trans ?_ (List.mapM_cons (f := fun x => ρ x)).symm
    cases ρ x <;> cases List.mapM (fun x => ρ x) xs <;> rfl

theorem lookupAll_congr_in {ρ ρ' : Env V} {xs : List (Option Name)} (h : ∀ x ∈ xs, lookupIn ρ' x = lookupIn ρ x) :
    lookupAll ρ' xs = lookupAll ρ xs := by
  rw [lookupAll_eq_mapM, lookupAll_eq_mapM]
  exact List.mapM_congr_some h

theorem lookupOuts_congr {ρ ρ' : Env V} {xs : List Name} (h : ∀ x ∈ xs, ρ' x = ρ x) : lookupOuts ρ' xs = lookupOuts ρ xs := by
  rw [lookupOuts_eq_mapM, lookupOuts_eq_mapM]
  exact List.mapM_congr_some h

theorem lookupAll_set {ρ : Env V} {o : Name} {v : V} {xs : List (Option Name)}
    (h : xs.contains (some o) = false) : lookupAll (ρ.set o v) xs = lookupAll ρ xs :=
  lookupAll_congr_in fun x hx => lookupIn_set fun e => by
    rw [List.contains_iff_mem.mpr (e ▸ hx)] at h
    cases h

theorem lookupOuts_set {ρ : Env V} {o : Name} {v : V} {xs : List Name}
    (h : xs.contains o = false) : lookupOuts (ρ.set o v) xs = lookupOuts ρ xs :=
  lookupOuts_congr fun x hx => Env.set_get_ne ρ v fun e => by
    rw [List.contains_iff_mem.mpr (e ▸ hx)] at h
    cases h

theorem bindOuts_set {o : Name} {v : V} : ∀ {xs : List Name} {vs : List V} {ρ : Env V},
    xs.contains o = false → bindOuts (ρ.set o v) xs vs = (bindOuts ρ xs vs).map (·.set o v)
  | [], [], _, _ => rfl
  | [], _ :: _, _, _ => rfl
  | _ :: _, [], _, _ => rfl
  | x :: xs, w :: ws, ρ, h => by
    simp only [List.contains_cons, Bool.or_eq_false_iff] at h
    have hx : o ≠ x := by
      intro e; subst e; simp at h
    simp only [bindOuts]
    rw [Env.set_comm ρ v w hx]
    exact bindOuts_set h.2

theorem bindInits_set (sem : Sem V) {o : Name} {v : V} : ∀ {l : List (Name × String)} {ρ : Env V},
    l.any (fun p => p.1 == o) = false → bindInits sem (ρ.set o v) l = (bindInits sem ρ l).set o v
  | [], _, _ => rfl
  | (x, t) :: r, ρ, h => by
    simp only [List.any_cons, Bool.or_eq_false_iff, beq_eq_false_iff_ne] at h
    simp only [bindInits]
    rw [Env.set_comm ρ v (sem.tensor t) (Ne.symm h.1)]
    exact bindInits_set sem h.2

theorem bindInputs_set {o : Name} {v : V} (hd : Name → Bool) : ∀ {xs : List Name} {as : List (Option V)} {ρ : Env V},
    xs.contains o = false → bindInputs hd (ρ.set o v) xs as = (bindInputs hd ρ xs as).map (·.set o v)
  | [], [], _, _ => rfl
  | [], _ :: _, _, _ => rfl
  | _ :: _, [], _, _ => rfl
  | x :: xs, some w :: as, ρ, h => by
    simp only [List.contains_cons, Bool.or_eq_false_iff] at h
    have hx : o ≠ x := by
      intro e; subst e; simp at h
    simp only [bindInputs]
    rw [Env.set_comm ρ v w hx]
    exact bindInputs_set hd h.2
  | x :: xs, none :: as, ρ, h => by
    simp only [List.contains_cons, Bool.or_eq_false_iff] at h
    simp only [bindInputs]
    split
    · exact bindInputs_set hd h.2
    · rfl

def SubFrame (sub : Env V → Graph → List (Option V) → Option (List V)) (o : Name) (n : Node) : Prop :=
  ∀ (ρ : Env V) (v : V) (s : String × Graph), s ∈ n.subs → ∀ args, sub (ρ.set o v) s.2 args = sub ρ s.2 args

theorem Node.sub_mem {n : Node} {k : String} {g : Graph} (h : n.sub k = some g) : ∃ k', (k', g) ∈ n.subs := by
  unfold Node.sub at h
  cases hf : n.subs.find? (fun x => x.1 == k) with
  | none => simp [hf] at h
  | some p =>
    simp [hf] at h
    exact ⟨p.1, by rw [← h]; exact List.mem_of_find?_eq_some hf⟩

theorem nodeOutputs_set (sem : Sem V) {sub} {o : Name} {n : Node} (hs : SubFrame sub o n)
    (ρ : Env V) (v : V) (args : List (Option V)) :
    nodeOutputs sem sub (ρ.set o v) n args = nodeOutputs sem sub ρ n args := by
  unfold nodeOutputs
  split
  · rfl
  · split
    · -- If
      cases hthen : n.sub "then_branch" with
      | none => simp
      | some t =>
        cases helse : n.sub "else_branch" with
        | none => simp
        | some e =>
          obtain ⟨kt, hkt⟩ := Node.sub_mem hthen
          obtain ⟨ke, hke⟩ := Node.sub_mem helse
          rcases args with _ | ⟨a, _ | ⟨b, r⟩⟩
          · rfl
          · cases a with
            | none => rfl
            | some c =>
              simp only []
              cases sem.truth c with
              | none => rfl
              | some b =>
                simp only [Option.bind]
                cases b
                · exact hs ρ v (ke, e) hke []
                · exact hs ρ v (kt, t) hkt []
          · cases a <;> rfl
    · congr 1
      apply List.map_congr_left
      intro s hsmem
      funext vs
      exact hs ρ v s hsmem _

theorem evalNode_set (sem : Sem V) {sub} {o : Name} {n : Node}
    (hin : n.inputs.contains (some o) = false) (hout : n.outputs.contains o = false)
    (hs : SubFrame sub o n) (ρ : Env V) (v : V) :
    evalNode sem sub (ρ.set o v) n = (evalNode sem sub ρ n).map (·.set o v) := by
  unfold evalNode
  rw [lookupAll_set hin]
  cases lookupAll ρ n.inputs with
  | none => rfl
  | some args =>
    simp only [Option.bind]
    rw [nodeOutputs_set sem hs]
    cases nodeOutputs sem sub ρ n args with
    | none => rfl
    | some vs => exact bindOuts_set hout

theorem evalNodes_set (sem : Sem V) {sub} {o : Name} {v : V} : ∀ {ns : List Node} {ρ : Env V},
    (∀ n ∈ ns, n.inputs.contains (some o) = false ∧ n.outputs.contains o = false ∧ SubFrame sub o n) →
    evalNodes (evalNode sem sub) (ρ.set o v) ns = (evalNodes (evalNode sem sub) ρ ns).map (·.set o v)
  | [], _, _ => rfl
  | n :: ns, ρ, h => by
    have hn := h n (List.mem_cons_self)
    simp only [evalNodes]
    rw [evalNode_set sem hn.1 hn.2.1 hn.2.2]
    cases evalNode sem sub ρ n with
    | none => rfl
    | some ρ' =>
      simp only [Option.map, Option.bind]
      exact evalNodes_set sem (fun m hm => h m (List.mem_cons_of_mem _ hm))

theorem subFrame_of (mg : Graph → Name → Bool) {sub : Env V → Graph → List (Option V) → Option (List V)} (o : Name) (n : Node)
    (hfr : ∀ g ρ (v : V) args, mg g o = false → sub (ρ.set o v) g args = sub ρ g args)
    (h : mentionsN mg n o = false) :
    n.inputs.contains (some o) = false ∧ n.outputs.contains o = false ∧ SubFrame sub o n := by
  simp only [mentionsN, Bool.or_eq_false_iff] at h
  refine ⟨h.1.1, h.1.2, fun ρ' v' s hsmem args' => hfr s.2 ρ' v' args' ?_⟩
  simpa using List.any_eq_false.mp h.2 s hsmem

theorem evalGraph_frame (sem : Sem V) : ∀ (d : Nat) (g : Graph) (o : Name) (ρ : Env V) (v : V) (args : List (Option V)),
    mentionsG d g o = false → evalGraph sem d (ρ.set o v) g args = evalGraph sem d ρ g args
  | 0, _, _, _, _, _, _ => rfl
  | d + 1, g, o, ρ, v, args, h => by
    simp only [mentionsG, Bool.or_eq_false_iff] at h
    obtain ⟨⟨⟨hin, hinit⟩, hout⟩, hnodes⟩ := h
    have hstart : startEnv sem (ρ.set o v) g args = (startEnv sem ρ g args).map (·.set o v) := by
      unfold startEnv
      rw [bindInits_set sem hinit]
      exact bindInputs_set _ hin
    simp only [evalGraph, hstart]
    cases startEnv sem ρ g args with
    | none => rfl
    | some ρ0 =>
      simp only [Option.map, Option.bind]
      rw [evalNodes_set sem fun n hn => subFrame_of (mentionsG d) o n
        (fun g' ρ' v' args' hg => evalGraph_frame sem d g' o ρ' v' args' hg)
        (by simpa using List.any_eq_false.mp hnodes n hn)]
      cases evalNodes (evalNode sem (evalGraph sem d)) ρ0 g.nodes with
      | none => rfl
      | some ρ1 =>
        simp only [Option.map]
        exact lookupOuts_set hout

theorem subFrame_of_mentions (sem : Sem V) (d : Nat) (o : Name) (n : Node)
    (h : mentionsN (mentionsG d) n o = false) :
    n.inputs.contains (some o) = false ∧ n.outputs.contains o = false ∧ SubFrame (evalGraph sem d) o n :=
  subFrame_of (mentionsG d) o n (fun g ρ v args hg => evalGraph_frame sem d g o ρ v args hg) h

theorem constDenote_not_constant (sem : Sem V) (n : Node) (h : n.isOp "Constant" = false) : constDenote sem n = none := by
  unfold constDenote
  simp [h]

theorem evalNode_op (sem : Sem V) (sub) (ρ : Env V) (n : Node) (hs : n.subs = []) (hc : n.isOp "Constant" = false) :
    evalNode sem sub ρ n = (lookupAll ρ n.inputs).bind fun args =>
      (sem.op n.op n.domain n.attrs args).bind fun vs => bindOuts ρ n.outputs vs := by
  simp only [evalNode, nodeOutputs, hs, List.isEmpty_nil, if_true, constDenote_not_constant sem n hc]

end OV.C03
