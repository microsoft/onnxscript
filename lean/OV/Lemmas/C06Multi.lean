import OV.Lemmas.C06SolveC
import OV.Lemmas.C06Complete
/-!
  C06 — completeness of the transcribed matcher for patterns with several output nodes: a leftmost instance is
  found on its own candidate combination whenever that combination is among the candidates (`CandidatesComplete`:
  repair C06-F5, or the region outside that finding); OR-free patterns, whose instances are all leftmost, follow.
-/
namespace OV.C06

theorem firstMatch_ok_of_mem (E : Env) (rm : Bool) : ∀ (cs : List (List NodeId)) (last : Option Result)
    (c : List NodeId), c ∈ cs → (multiMatch E rm c).ok = true → (firstMatch E rm cs last).ok = true := by
  intro cs
  induction cs with
  | nil => intro _ c h; simp at h
  | cons c0 cs ih =>
    intro last c hc hok
    unfold firstMatch
    dsimp only
    by_cases h0 : (multiMatch E rm c0).ok = true
    · simp [h0]
    · simp only [h0, Bool.false_eq_true, if_false]
      rcases List.mem_cons.1 hc with he | hm
      · subst he; exact absurd hok h0
      · exact ih _ c hm hok

/-- every output node after the first has an operator identifier (exact domain and op given as `str`) -/
def LaterOutputsIdentified (p : GPat) : Prop :=
  ∀ np ∈ p.outputNodes.tail, ∃ P d o, p.nodes[np]? = some P ∧ P.opId = some (d, o)

def NoOverloads (g : Graph) : Prop := ∀ N ∈ g.nodes, N.overload = ""

theorem opIdF_exact {b : Bool} {P : NPat} {d o : String} (h : P.opIdF b = some (d, o)) :
    P.domain = .exact d ∧ P.op = .exact o := by
  unfold NPat.opIdF at h
  split at h
  · cases h
  · split at h
    · next d' o' hd ho => cases h; exact ⟨hd, ho⟩
    · cases h

theorem opId_opIdF {b : Bool} {P : NPat} {x : String × String} (h : P.opId = some x) : P.opIdF b = some x := by
  unfold NPat.opId at h
  unfold NPat.opIdF
  split at h
  · cases h
  · next hs =>
    have : P.opIsStr = true := by simpa using hs
    simp only [this, Bool.not_true, Bool.false_and, Bool.false_eq_true, if_false]
    exact h

/-- the condition under which every node an output pattern can match is among its candidates: repair C06-F5,
or — for the code before it — identifiers on all later output nodes and no overloads in the graph -/
def CandidatesComplete (E : Env) : Prop :=
  E.fixF5 = true ∨ (LaterOutputsIdentified E.p ∧ NoOverloads E.g)

/-- the instance's nodes for the later output nodes form one of the candidate combinations -/
theorem candidates_cover (E : Env) (A : Assign) :
    ∀ (l : List NPId) (b : Bool),
      (E.fixF5 = true ∨ ((∀ np ∈ l, ∃ P d o, E.p.nodes[np]? = some P ∧ P.opId = some (d, o)) ∧ NoOverloads E.g)) →
      (∀ np ∈ l, ∃ n, SatN E A np n) →
      ∃ ns, ns ∈ product (candidatesRest E l b) ∧ ∀ np n, (np, n) ∈ l.zip ns → SatN E A np n := by
  intro l
  induction l with
  | nil => intro b _ _; exact ⟨[], by simp [candidatesRest, product], fun _ _ h => by simp at h⟩
  | cons np rest ih =>
    intro b hid hsat
    obtain ⟨n, hn⟩ := hsat np (List.mem_cons_self ..)
    have hid' : E.fixF5 = true ∨ ((∀ np ∈ rest, ∃ P d o, E.p.nodes[np]? = some P ∧ P.opId = some (d, o)) ∧ NoOverloads E.g) :=
      hid.imp id (fun h => ⟨fun np' hm => h.1 np' (List.mem_cons_of_mem _ hm), h.2⟩)
    have hsat' : ∀ np ∈ rest, ∃ n, SatN E A np n := fun np' hm => hsat np' (List.mem_cons_of_mem _ hm)
    have hlt : n < E.g.nodes.length := (satN_bounds hn).2
    have hcons : ∀ ns, (∀ np' n', (np', n') ∈ rest.zip ns → SatN E A np' n') →
        ∀ np' n', (np', n') ∈ (np :: rest).zip (n :: ns) → SatN E A np' n' := fun ns hz np' n' hm => by
      rcases List.mem_cons.1 (List.zip_cons_cons ▸ hm) with he | hm
      · cases he; exact hn
      · exact hz np' n' hm
    cases hn with
    | mk _ _ P N hP hN _ hopm hdom =>
      unfold candidatesRest
      simp only [hP, Option.bind_some]
      cases hop : P.opIdF E.fixF5b with
      | none =>
        dsimp only
        have hnotid : E.fixF5 = true := by
          rcases hid with h | h
          · exact h
          · obtain ⟨P', d, o, hP', hop'⟩ := h.1 np (List.mem_cons_self ..)
            rw [hP] at hP'; cases hP'
            rw [opId_opIdF hop'] at hop
            cases hop
        obtain ⟨ns, hns, hz⟩ := ih true hid' hsat'
        refine ⟨n :: ns, ?_, hcons ns hz⟩
        simp only [hnotid, Bool.not_true, Bool.and_false, Bool.false_eq_true, if_false, product,
          List.mem_flatMap, List.mem_map]
        exact ⟨n, List.mem_range.2 hlt, ns, hns, rfl⟩
      | some x =>
        obtain ⟨d, o⟩ := x
        dsimp only
        obtain ⟨hd, ho⟩ := opIdF_exact hop
        have h1 : N.op = o := by rw [ho] at hopm; exact (by simpa [StrPat.matches] using hopm : o = N.op).symm
        have h2 : N.domain = d := by rw [hd] at hdom; exact (by simpa [StrPat.matches] using hdom : d = N.domain).symm
        have hcand : isCandidate E d o n = true := by
          unfold isCandidate
          simp only [hN]
          rcases hid with h | h
          · simp [h, h1, h2]
          · by_cases hf : E.fixF5 = true
            · simp [hf, h1, h2]
            · have h3 := h.2 N (List.mem_of_getElem? hN)
              simp [hf, GNode.opKey, h1, h2, h3]
        obtain ⟨ns, hns, hz⟩ := ih b hid' hsat'
        refine ⟨n :: ns, ?_, hcons ns hz⟩
        simp only [product, List.mem_flatMap, List.mem_map, List.mem_filter, List.mem_range]
        exact ⟨n, ⟨hlt, hcand⟩, ns, hns, rfl⟩

theorem matcher_complete_multi_leftmost (E : Env) (A : Assign) (root : NodeId)
    (hm : E.fixF3 = true ∨ E.p.dispOk = true) (hbk : E.p.backOk = true) (hnu : E.fixF2 = false ∨ E.p.nuOk)
    (htopo : E.p.topoDeep) (houts : OutputsOfOutputNodes E.p) (hcc : CandidatesComplete E)
    (hinstL : InstanceL E root A) :
    ∃ combo, combo ∈ combos E root ∧ (multiMatch E false combo).ok = true ∧
      (matcherMatch E root false).ok = true := by
  obtain ⟨hinst, hleft⟩ := hinstL
  obtain ⟨ns, hns, hz⟩ := candidates_cover E A E.p.outputNodes.tail false hcc
    (fun np hm => by
      obtain ⟨n, _, hs⟩ := hinst.outNodes np (List.mem_of_mem_tail hm)
      exact ⟨n, hs⟩)
  have hnsl : ns.length = E.p.outputNodes.tail.length := by
    have := product_length _ _ hns
    simpa [candidatesRest_length] using this
  have hsat : ∀ np n, (np, n) ∈ E.p.outputNodes.zip (root :: ns) → SatN E A np n := by
    intro np n hm
    cases hon : E.p.outputNodes with
    | nil => simp [hon] at hm
    | cons np0 rest =>
      simp only [hon, List.zip_cons_cons, List.mem_cons, List.tail_cons] at hm hz
      rcases hm with he | hm
      · cases he; exact hinst.satN_root (congrArg List.head? hon)
      · exact hz np n hm
  have hlen : E.p.outputNodes.length ≤ (root :: ns).length := by
    simp only [List.length_cons, hnsl, List.length_tail]
    omega
  have hok : (multiMatch E false (root :: ns)).ok = true := by
    obtain ⟨c, outs, ok, _, ho, hmm⟩ := multiMatch_complete E A (root :: ns) hm hbk hnu htopo houts hlen
      fun np n hmem => hleft np (List.of_mem_zip hmem).1 n (satN_node (hsat np n hmem))
    rw [hmm]; unfold finish
    simp only [topPartial, ho, Bool.not_true, Bool.false_eq_true, if_false, Bool.false_and]
    exact ok
  have hmem : (root :: ns) ∈ product ([root] :: candidatesRest E E.p.outputNodes.tail false) := by
    simp only [product, List.flatMap_cons, List.flatMap_nil, List.append_nil, List.mem_map]
    exact ⟨ns, hns, rfl⟩
  unfold combos matcherMatch
  split
  · next np hnp =>
    have hns0 : ns = [] := by
      have : ns.length = 0 := by simp [hnsl, hnp]
      exact List.length_eq_zero_iff.1 this
    subst hns0
    exact ⟨[root], by simp, hok, multiMatch_single E false root hnp ▸ hok⟩
  · exact ⟨root :: ns, hmem, hok, firstMatch_ok_of_mem E false _ none _ hmem hok⟩

/-- an OR-free pattern never merges and every instance of it is leftmost -/
theorem matcher_complete_multi (E : Env) (A : Assign) (root : NodeId)
    (hno : E.p.noOr = true) (htopo : E.p.topo) (hnc : E.fixF2 = false ∨ NamedVarsUnchecked E.p)
    (houts : OutputsOfOutputNodes E.p) (hcc : CandidatesComplete E)
    (hinst : Instance E root A) :
    ∃ combo, combo ∈ combos E root ∧ (multiMatch E false combo).ok = true ∧
      (matcherMatch E root false).ok = true :=
  matcher_complete_multi_leftmost E A root (.inr (E.p.noOr_dispOk hno)) (E.p.dispOk_backOk (E.p.noOr_dispOk hno))
    (hnc.imp_right (nuOk_of_namedVarsUnchecked hno)) (E.p.topo_topoDeep hno htopo) houts hcc
    (instance_leftmost_of (exclIn_of_noOr hno) hinst)

theorem valueChecks_ok_aux : ∀ (vp : VPat), vp.checksOk = true → ∀ id b, (id, b) ∈ vpChecks vp → b = true
  | .var id' _ _ _ (some b'), h, id, b, hm => by
    simp only [vpChecks, List.mem_singleton, Prod.mk.injEq] at hm
    simp only [VPat.checksOk] at h
    obtain ⟨_, rfl⟩ := hm
    cases b <;> simp_all
  | .var _ _ _ _ none, _, _, _, hm => by simp [vpChecks] at hm
  | .any, _, _, _, hm => by simp [vpChecks] at hm
  | .const .., _, _, _, hm => by simp [vpChecks] at hm
  | .out .., _, _, _, hm => by simp [vpChecks] at hm
  | .orD .., _, _, _, hm => by simp [vpChecks] at hm
  | .orB _ _ _ _ alts, h, id, b, hm => by
    simp only [vpChecks] at hm
    simp only [VPat.checksOk] at h
    exact valueChecksL_ok_aux alts h id b hm
where
  valueChecksL_ok_aux : ∀ (l : List VPat), checksOkL l = true → ∀ id b, (id, b) ∈ vpChecksL l → b = true
  | [], _, _, _, hm => by simp [vpChecksL] at hm
  | a :: rest, h, id, b, hm => by
    simp only [checksOkL, Bool.and_eq_true] at h
    simp only [vpChecksL, List.mem_append] at hm
    rcases hm with h1 | h2
    · exact valueChecks_ok_aux a h.1 id b h1
    · exact valueChecksL_ok_aux rest h.2 id b h2

theorem checksOk_valueChecks (p : GPat) (hc : p.checksOk = true) (houts : OutputsOfOutputNodes p) :
    ∀ id b, (id, b) ∈ p.valueChecks → b = true := by
  intro id b hm
  unfold GPat.valueChecks at hm
  rcases List.mem_append.1 hm with h1 | h2
  · simp only [List.mem_flatMap] at h1
    obtain ⟨n, hn, i, hi, hx⟩ := h1
    cases i with
    | none => simp at hx
    | some vp =>
      unfold GPat.checksOk at hc
      simp only [List.all_eq_true, Bool.and_eq_true] at hc
      exact valueChecks_ok_aux vp ((hc n hn).2 (some vp) hi) id b hx
  · simp only [List.mem_flatMap] at h2
    obtain ⟨vp, hvp, hx⟩ := h2
    obtain ⟨q, idx, P, rfl, _⟩ := houts vp hvp
    simp [vpChecks] at hx

/-- `Pattern.match` reports a match on every instance of an OR-free multi-output pattern (with repair C06-F5, or
outside the region of that finding), when no opaque checker rejects -/
theorem patternMatch_complete_multi (E : Env) (A : Assign) (root : NodeId)
    (hno : E.p.noOr = true) (htopo : E.p.topo) (hnc : E.fixF2 = false ∨ NamedVarsUnchecked E.p)
    (houts : OutputsOfOutputNodes E.p) (hcc : CandidatesComplete E)
    (hchk : E.p.checksOk = true) (hinst : Instance E root A) :
    (patternMatch E root false).isSome = true := by
  obtain ⟨_, _, _, hok⟩ := matcher_complete_multi E A root hno htopo hnc houts hcc hinst
  obtain ⟨r, hr, _⟩ := patternMatch_of_ok E root false hok (fun _ _ _ _ hP => (checksOk_input hchk hP).1)
    (fun id _ _ hl => nomatch checksOk_valueChecks E.p hchk houts id false (List.lookup_mem hl)) hinst.cond
  rw [hr]
  rfl

end OV.C06
