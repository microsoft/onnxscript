import OV.Lemmas.C07Splice
/-! What the steps of `tryRule` around the splice do: initializer registration and naming, opset dicts and
`_update_opset_imports`, `as_function`, metadata tagging, Identity routing. -/
namespace OV.C07

/-! ### initializer registration before fix 340a24c, under fresh names -/

theorem registerInitsPrefix_fresh (d : Nat) (is : List (Name × String)) :
    ∀ (g : Graph), (is.map (·.1)).Nodup → (∀ x ∈ is.map (·.1), x ∉ g.initNames) →
      registerInitsPrefix d g is = g.setInits (g.inits ++ is) := by
  induction is with
  | nil => intro g _ _; cases g; simp [registerInitsPrefix, Graph.setInits, Graph.inits, Graph.inputs, Graph.nodes, Graph.outputs]
  | cons p rest ih =>
    intro g hnd hfresh
    obtain ⟨x, t⟩ := p
    obtain ⟨hxr, hnd'⟩ := List.nodup_cons.mp hnd
    have hx : x ∉ g.initNames := hfresh _ (List.mem_cons_self ..)
    have hstep : registerInitPrefix d g x t = g.setInits (g.inits ++ [(x, t)]) := by
      unfold registerInitPrefix
      rw [if_neg (by simpa using hx)]
    have hfresh' : ∀ y ∈ rest.map (·.1), y ∉ (g.setInits (g.inits ++ [(x, t)])).initNames := by
      intro y hy
      rw [setInits_initNames, List.map_append, List.mem_append, not_or]
      exact ⟨hfresh y (List.mem_cons_of_mem _ hy), fun h => hxr (List.mem_singleton.mp h ▸ hy)⟩
    unfold registerInitsPrefix at ih ⊢
    show List.foldl _ (registerInitPrefix d g x t) rest = _
    rw [hstep, ih _ hnd' hfresh', setInits_setInits, setInits_inits, List.append_assoc]
    rfl

theorem freshIn_spec (names : List Name) (base y : Name) (h : freshIn names base = some y) : y ∉ names := by
  simpa using List.find?_some h

theorem freshInitName_spec (names taken : List Name) (x y : Name) (hsub : ∀ z ∈ taken, z ∈ names)
    (h : freshInitName names taken x = some y) : y ∉ taken ∧ y ∉ names := by
  unfold freshInitName at h
  split at h
  · rename_i hc
    obtain rfl := Option.some.inj h
    simpa using hc
  · have hn := freshIn_spec names x y h
    exact ⟨fun hm => hn (hsub y hm), hn⟩

theorem lookup_filter_key (l : List (String × Nat)) (p : String → Bool) (k : String) :
    (l.filter (fun kv => p kv.1)).lookup k = if p k then l.lookup k else none := by
  induction l with
  | nil => simp
  | cons a r ih =>
    obtain ⟨d, v⟩ := a
    by_cases hk : k = d
    · subst hk
      cases hp : p k <;> simp [List.lookup, hp, ih]
    · have : (k == d) = false := beq_eq_false_iff_ne.mpr hk
      cases hp : p d <;> simp [List.lookup, hp, ih, this]

theorem lookup_isSome_eq_any (l : List (String × Nat)) (d : String) :
    (l.lookup d).isSome = l.any (fun kv => kv.1 == d) := by
  induction l with
  | nil => rfl
  | cons a r ih =>
    obtain ⟨k, v⟩ := a
    by_cases hk : d = k
    · simp [List.lookup, hk]
    · simp [List.lookup, beq_eq_false_iff_ne.mpr hk, ih, Ne.symm hk]

theorem mergeOpsets_lookup (base over : List (String × Nat)) (d : String) :
    (mergeOpsets base over).lookup d = (over.lookup d).or (base.lookup d) := by
  have hmap : (base.map fun kv => (kv.1, (over.lookup kv.1).getD kv.2)).lookup d =
      (base.lookup d).map fun v => (over.lookup d).getD v := by
    induction base with
    | nil => rfl
    | cons a r ih =>
      obtain ⟨k, v⟩ := a
      by_cases hk : d = k
      · simp [List.lookup, hk]
      · simp [List.lookup, beq_eq_false_iff_ne.mpr hk, ih]
  unfold mergeOpsets
  rw [List.lookup_append, hmap, lookup_filter_key over (fun k => !(base.any fun mv => mv.1 == k)) d,
    ← lookup_isSome_eq_any]
  cases base.lookup d <;> cases over.lookup d <;> rfl

theorem updOpsets_cons {imports imports' : List (String × Nat)} {d : String} {v : Option Nat}
    {rest : List (String × Option Nat)} (h : updOpsets imports ((d, v) :: rest) = some imports') :
    (imports.lookup d = none ∧ updOpsets (imports ++ [(d, v.getD 1)]) rest = some imports') ∨
    ((imports.lookup d).isSome ∧ updOpsets imports rest = some imports') := by
  rw [updOpsets] at h
  split at h
  · rename_i hl; exact Or.inl ⟨hl, h⟩
  · rename_i cur hl
    refine Or.inr ⟨by rw [hl]; rfl, ?_⟩
    split at h
    · split at h
      · cases h
      · exact h
    · exact h

theorem asFunction_some {g : Graph} {po : List (String × Nat)} {funcs : List Func} {m : Match}
    {call call' : Node} {fn : Func} (h : asFunction g po funcs m [call] = some (call', fn)) :
    (∀ n ∈ g.nodes.filter (fun n => m.nodes.contains n.id), ∀ x ∈ n.inputNames,
      x ∈ call.inputs.map (·.getD "") ++ (g.nodes.filter fun n => m.nodes.contains n.id).flatMap (·.outputs)) ∧
    ∃ ov, call' = call.setOverload ov ∧
      fn = { domain := call.domain, name := call.op, overload := ov,
             opsets := po.filter fun kv => ((g.nodes.filter fun n => m.nodes.contains n.id).map (·.domain)).contains kv.1,
             body := .mk (call.inputs.map (·.getD "")) [] (g.nodes.filter fun n => m.nodes.contains n.id) m.outputs } := by
  rw [asFunction] at h
  simp only [Option.ite_none_left_eq_some, Option.some.injEq, Prod.mk.injEq] at h
  obtain ⟨_, hk, _, rfl, rfl⟩ := h
  refine ⟨fun n hn x hx => ?_, _, rfl, rfl⟩
  simp only [Bool.not_eq_eq_eq_not, Bool.not_true, Bool.not_eq_false] at hk
  simpa using List.all_eq_true.mp (List.all_eq_true.mp hk n hn) x hx

theorem asFunction_opsets_lookup {g : Graph} {po : List (String × Nat)} {funcs : List Func} {m : Match}
    {call call' : Node} {fn : Func} (h : asFunction g po funcs m [call] = some (call', fn)) :
    ∀ n ∈ fn.body.nodes, fn.opsets.lookup n.domain = po.lookup n.domain := by
  obtain ⟨_, ov, rfl, rfl⟩ := asFunction_some h
  intro n (hn : n ∈ g.nodes.filter fun n => m.nodes.contains n.id)
  show (po.filter _).lookup n.domain = _
  rw [lookup_filter_key po (fun k => ((g.nodes.filter fun n => m.nodes.contains n.id).map (·.domain)).contains k),
    if_pos (List.contains_iff_mem.mpr (List.mem_map.mpr ⟨n, hn, rfl⟩))]

theorem map_setMeta_keeps {β} (π : Node → β) (hπ : ∀ n m, π (n.setMeta m) = π n)
    (F : Node → List (String × String)) (l : List Node) : (l.map fun n => n.setMeta (F n)).map π = l.map π := by
  rw [List.map_map]
  exact List.map_congr_left fun n _ => hπ n _

theorem tagAndMerge_keeps {β} (π : Node → β) (hπ : ∀ n m, π (n.setMeta m) = π n) (name : String)
    (from_ to : List Node) : (tagAndMerge name from_ to).map π = to.map π := by
  have htag : (if name != "" then to.map fun n => n.setMeta (metaSet n.mprops RULE_NAME_TAG name) else to).map π =
      to.map π := by
    split
    · exact map_setMeta_keeps π hπ _ _
    · rfl
  rw [tagAndMerge, ← htag]
  split
  · rename_i t heq
    rw [heq]
    exact map_setMeta_keeps π hπ (fun _ => _) [t]
  · exact map_setMeta_keeps π hπ _ _

theorem mem_addIdentities_existing (R : List Name) (x : Name) (outs : List NewOut) (base : Nat) :
    NewOut.existing x ∈ (addIdentities R base outs).2 ↔ NewOut.existing x ∈ outs ∧ x ∉ R := by
  fun_induction addIdentities R base outs with
  | case1 => simp
  | case2 base y rest hy ih =>
    have hyR : y ∈ R := List.contains_iff_mem.mp hy
    simp only [List.mem_cons, ih, reduceCtorEq, false_or, NewOut.existing.injEq]
    exact ⟨fun h => ⟨Or.inr h.1, h.2⟩, fun h => ⟨h.1.resolve_left fun e => h.2 (e ▸ hyR), h.2⟩⟩
  | case3 base y rest hy ih =>
    have hyR : y ∉ R := fun hm => hy (List.contains_iff_mem.mpr hm)
    simp only [List.mem_cons, ih, NewOut.existing.injEq]
    exact ⟨fun h => h.elim (fun e => ⟨Or.inl e, e ▸ hyR⟩) fun h => ⟨Or.inr h.1, h.2⟩,
      fun h => h.1.elim Or.inl fun h' => Or.inr ⟨h', h.2⟩⟩
  | case4 base t rest ih => simp only [List.mem_cons, ih, reduceCtorEq, false_or]
  | case5 base rest ih => simp only [List.mem_cons, ih, reduceCtorEq, false_or]

end OV.C07
