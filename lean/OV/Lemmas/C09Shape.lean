import OV.Model.C09Shape
/-! Shared by the C09 lemma modules (core Lean only): `Admits` as a pointwise relation, Python slicing and indexing
against the operator specification, `denote`, the comparison functions, `prodInt`. -/
namespace OV.C09

theorem seqOpt_cons {α} (o : Option α) (t : List (Option α)) :
    seqOpt (o :: t) = o.bind fun a => (seqOpt t).map (a :: ·) := by
  cases o <;> rfl

theorem seqOpt_some_length {α} : ∀ (l : List (Option α)) (r : List α), seqOpt l = some r → r.length = l.length
  | [], r, h => by cases h; rfl
  | none :: t, r, h => by cases h
  | some a :: t, r, h => by
    obtain ⟨r', hr', rfl⟩ := Option.map_eq_some_iff.mp h
    rw [List.length_cons, List.length_cons, seqOpt_some_length t r' hr']

theorem seqOpt_eq_none_iff {α} (l : List (Option α)) : seqOpt l = none ↔ none ∈ l := by
  induction l with
  | nil => exact ⟨nofun, nofun⟩
  | cons a t ih =>
    cases a with
    | none => exact ⟨fun _ => List.mem_cons_self .., fun _ => rfl⟩
    | some v =>
      rw [seqOpt_cons, Option.bind_some, Option.map_eq_none_iff, ih]
      exact ⟨List.mem_cons_of_mem _, fun h => (List.mem_cons.mp h).resolve_left nofun⟩

/-- Induction along a truthful annotation: only the two cases in which `Admits` can hold. -/
@[elab_as_elim]
theorem Admits.ind {σ : String → Nat} {P : ∀ s l, Admits σ s l → Prop} (nil : P [] [] trivial)
    (cons : ∀ {d s v l} (hd : d.Admits σ v) (ht : Admits σ s l), P s l ht → P (d :: s) (v :: l) ⟨hd, ht⟩) :
    ∀ {s l} (h : Admits σ s l), P s l h
  | [], [], _ => nil
  | _ :: _, _ :: _, h => cons h.1 h.2 (Admits.ind nil cons h.2)
  | [], _ :: _, h => h.elim
  | _ :: _, [], h => h.elim

theorem admits_length {σ : String → Nat} {s : Shape} {l : List Int} (h : Admits σ s l) : s.length = l.length :=
  h.ind rfl fun _ _ ih => congrArg (· + 1) ih

theorem admits_append {σ : String → Nat} {s1 s2 : Shape} {l1 l2 : List Int}
    (h1 : Admits σ s1 l1) (h2 : Admits σ s2 l2) : Admits σ (s1 ++ s2) (l1 ++ l2) :=
  h1.ind h2 fun hd _ ih => ⟨hd, ih⟩

theorem admits_reverse {σ : String → Nat} {s : Shape} {l : List Int} (h : Admits σ s l) :
    Admits σ s.reverse l.reverse :=
  h.ind trivial fun hd _ ih => by
    rw [List.reverse_cons, List.reverse_cons]
    exact admits_append ih ⟨hd, trivial⟩

/-- head (`1` once exhausted) and tail of a reversed shape, as the broadcasting loops read them -/
theorem admits_hd_tl {σ : String → Nat} {s : Shape} {l : List Int} (h : Admits σ s l) :
    (hd1 s).Admits σ (l.headD 1) ∧ Admits σ s.tail l.tail :=
  h.ind ⟨rfl, trivial⟩ fun hd ht _ => ⟨hd, ht⟩

theorem admits_take {σ : String → Nat} {s : Shape} {l : List Int} (h : Admits σ s l) (n : Nat) :
    Admits σ (s.take n) (l.take n) := by
  induction h using Admits.ind generalizing n with
  | nil => rw [List.take_nil, List.take_nil]; trivial
  | cons hd _ ih => cases n with
    | zero => trivial
    | succ n => exact ⟨hd, ih n⟩

theorem admits_drop {σ : String → Nat} {s : Shape} {l : List Int} (h : Admits σ s l) (n : Nat) :
    Admits σ (s.drop n) (l.drop n) := by
  induction h using Admits.ind generalizing n with
  | nil => rw [List.drop_nil, List.drop_nil]; trivial
  | cons hd ht ih => cases n with
    | zero => exact ⟨hd, ht⟩
    | succ n => exact ih n

theorem admits_getElem? {σ : String → Nat} {s : Shape} {l : List Int} (h : Admits σ s l) {n : Nat} {d : Dim}
    (hd : s[n]? = some d) : ∃ v, l[n]? = some v ∧ d.Admits σ v := by
  induction h using Admits.ind generalizing n with
  | nil => cases hd
  | cons hd' _ ih => cases n with
    | zero => cases hd; exact ⟨_, rfl, hd'⟩
    | succ n => exact ih hd

theorem admits_map_known {σ : String → Nat} {t l : List Int} : Admits σ (t.map Dim.known) l ↔ l = t := by
  induction t generalizing l with
  | nil => cases l <;> simp only [List.map_nil, Admits, reduceCtorEq]
  | cons a t ih =>
    cases l with
    | nil => simp only [List.map_cons, Admits, reduceCtorEq]
    | cons v l => simp only [List.map_cons, Admits, Dim.Admits, ih, List.cons.injEq, eq_comm]

theorem Dim.admits_det {σ : String → Nat} {d : Dim} {v w : Int} (hd : d.isUnknown = false)
    (h1 : d.Admits σ v) (h2 : d.Admits σ w) : v = w := by
  cases d with
  | known k => exact h1.symm.trans h2
  | sym a => exact h1.symm.trans h2
  | unknown => cases hd

theorem hasUnknown_cons (d : Dim) (s : Shape) : hasUnknown (d :: s) = (d.isUnknown || hasUnknown s) := rfl

theorem admits_det {σ : String → Nat} {s : Shape} {l1 l2 : List Int} (hu : hasUnknown s = false)
    (h1 : Admits σ s l1) (h2 : Admits σ s l2) : l1 = l2 := by
  induction h1 using Admits.ind generalizing l2 with
  | nil => cases l2 with
    | nil => rfl
    | cons _ _ => exact h2.elim
  | cons hd _ ih => cases l2 with
    | nil => exact h2.elim
    | cons w l2 =>
      rw [hasUnknown_cons, Bool.or_eq_false_iff] at hu
      rw [Dim.admits_det hu.1 hd h2.1, ih hu.2 h2.2]

theorem Dim.admits_merge {σ : String → Nat} {d₁ d₂ : Dim} {v : Int} (h₁ : d₁.Admits σ v) (h₂ : d₂.Admits σ v) :
    (mergeDim d₁ d₂).Admits σ v := by
  unfold mergeDim
  by_cases e : d₁ = d₂
  · rw [if_pos e]; exact h₁
  · -- the merge is one of its two arguments
    rw [if_neg e]
    cases d₁ <;> cases d₂ <;> first | exact h₁ | exact h₂

theorem admits_zipWith_mergeDim {σ : String → Nat} {p o : Shape} {l : List Int} (hp : Admits σ p l)
    (ho : Admits σ o l) : Admits σ (List.zipWith mergeDim p o) l := by
  induction hp using Admits.ind generalizing o with
  | nil => cases o <;> trivial
  | cons hd _ ih => cases o with
    | nil => exact ho.elim
    | cons d' o => exact ⟨Dim.admits_merge hd ho.1, ih ho.2⟩

theorem mergeShapes_sound {σ : String → Nat} {l : List Int} {i o r : Option Shape} (h : mergeShapes i o = .ok r)
    (hi : ∀ s, i = some s → Admits σ s l) (ho : ∀ s, o = some s → Admits σ s l) : ∀ s, r = some s → Admits σ s l := by
  unfold mergeShapes at h
  split at h
  · cases h; exact ho
  · cases h; exact hi
  · split at h
    · cases h
    · cases h
      rintro _ ⟨⟩
      exact admits_zipWith_mergeDim (hi _ rfl) (ho _ rfl)

theorem allInts_eq_map {s : Shape} {c : List Int} (h : allInts s = some c) : s = c.map Dim.known := by
  induction s generalizing c with
  | nil => cases h; rfl
  | cons d s ih =>
    cases d with
    | known n =>
      obtain ⟨c', hc', rfl⟩ := Option.map_eq_some_iff.mp h
      rw [List.map_cons, ih hc']
    | sym a => cases h
    | unknown => cases h

theorem allInts_admits {σ : String → Nat} {s : Shape} {c l : List Int} (h : allInts s = some c)
    (ha : Admits σ s l) : l = c :=
  admits_map_known.mp (allInts_eq_map h ▸ ha)

theorem admits_pySlice {σ : String → Nat} {s : Shape} {l : List Int} (h : Admits σ s l) (a b : Option Int) :
    Admits σ (pySlice s a b) (pySlice l a b) := by
  simp only [pySlice, admits_length h]
  exact admits_drop (admits_take h _) _

/-- Whether `l[i]` raises `IndexError`, and the position `n` it reads otherwise, depend on the length only. -/
theorem pyIndex_of_length {α β} {a : List α} {b : List β} (h : a.length = b.length) (i : Int) :
    (pyIndex a i = none ∧ pyIndex b i = none) ∨
    ∃ (n : Nat) (x : α) (y : β), a[n]? = some x ∧ b[n]? = some y ∧ pyIndex a i = some x ∧ pyIndex b i = some y := by
  simp only [pyIndex, h]
  by_cases hn : (if i < 0 then i + (b.length : Int) else i) < 0
  · exact .inl ⟨if_pos hn, if_pos hn⟩
  · rw [if_neg hn, if_neg hn]
    generalize (if i < 0 then i + (b.length : Int) else i).toNat = n
    by_cases hl : n < b.length
    · exact .inr ⟨n, a[n]'(h ▸ hl), b[n], List.getElem?_eq_getElem _, List.getElem?_eq_getElem _,
        List.getElem?_eq_getElem _, List.getElem?_eq_getElem _⟩
    · exact .inl ⟨List.getElem?_eq_none (h ▸ Nat.le_of_not_lt hl), List.getElem?_eq_none (Nat.le_of_not_lt hl)⟩

theorem admits_pyIndex {σ : String → Nat} {s : Shape} {l : List Int} {d : Dim} (h : Admits σ s l) (i : Int)
    (hd : pyIndex s i = some d) : ∃ v, pyIndex l i = some v ∧ d.Admits σ v := by
  rcases pyIndex_of_length (admits_length h) i with ⟨e, _⟩ | ⟨n, x, y, hx, hy, e1, e2⟩
  · rw [e] at hd; cases hd
  · cases e1.symm.trans hd
    obtain ⟨v, hv, hav⟩ := admits_getElem? h hx
    exact ⟨v, e2.trans (hy.symm.trans hv), hav⟩

theorem onnxShapeSlice_eq_pySlice (l : List Int) (st : Int) (en : Option Int) :
    onnxShapeSlice l st en = pySlice l (some st) en := by
  have hc : ∀ i : Int, (max 0 (min (l.length : Int) (if i < 0 then i + (l.length : Int) else i))).toNat
      = pyClamp l.length i := by
    intro i
    unfold pyClamp
    by_cases hi : i < 0
    · rw [if_pos hi, if_pos hi]; omega
    · rw [if_neg hi, if_neg hi]; omega
  cases en <;> simp only [onnxShapeSlice, pySlice, hc]

theorem onnxShapeSlice_zero_none (l : List Int) : onnxShapeSlice l 0 none = l := by
  rw [onnxShapeSlice_eq_pySlice]
  show (l.take l.length).drop (pyClamp l.length 0) = l
  rw [List.take_length, pyClamp, if_neg (by decide), Int.toNat_zero, Nat.zero_min, List.drop_zero]

/-- Python's `l[i]` (negative wrap, IndexError out of range) is the ONNX Gather bounds rule. -/
theorem pyIndex_eq_onnx {α} (l : List α) (i : Int) :
    pyIndex l i = (if -(l.length : Int) ≤ i ∧ i < (l.length : Int) then
      l[(if i < 0 then i + (l.length : Int) else i).toNat]? else none) := by
  simp only [pyIndex]
  by_cases hr : -(l.length : Int) ≤ i ∧ i < (l.length : Int)
  · rw [if_pos hr, if_neg (by omega)]
  · rw [if_neg hr]
    by_cases hn : (if i < 0 then i + (l.length : Int) else i) < 0
    · exact if_pos hn
    · rw [if_neg hn]; exact List.getElem?_eq_none (by omega)

theorem Dim.val_admits {σ : String → Nat} {d : Dim} {v : Int} (h : d.val σ = some v) : d.Admits σ v := by
  cases d with
  | known k => exact Option.some.inj h
  | sym a => exact Option.some.inj h
  | unknown => cases h

theorem Dim.val_isSome {σ : String → Nat} {d : Dim} (h : d.isUnknown = false) : ∃ v, d.val σ = some v := by
  cases d with
  | known k => exact ⟨k, rfl⟩
  | sym a => exact ⟨σ a, rfl⟩
  | unknown => cases h

theorem denote_cons (σ : String → Nat) (d : Dim) (s : Shape) :
    denote σ (d :: s) = (d.val σ).bind fun v => (denote σ s).map (v :: ·) :=
  seqOpt_cons ..

theorem denote_isSome {σ : String → Nat} : ∀ {s : Shape}, hasUnknown s = false → ∃ l, denote σ s = some l
  | [], _ => ⟨[], rfl⟩
  | d :: s, hu => by
    rw [hasUnknown_cons, Bool.or_eq_false_iff] at hu
    obtain ⟨v, hv⟩ := Dim.val_isSome (σ := σ) hu.1
    obtain ⟨l, hl⟩ := denote_isSome (σ := σ) hu.2
    exact ⟨v :: l, by rw [denote_cons, hv, hl]; rfl⟩

theorem denote_admits {σ : String → Nat} : ∀ {s : Shape} {l : List Int}, denote σ s = some l → Admits σ s l
  | [], l, h => by cases h; trivial
  | d :: s, l, h => by
    rw [denote_cons] at h
    obtain ⟨v, hv, h⟩ := Option.bind_eq_some_iff.mp h
    obtain ⟨l', hl', rfl⟩ := Option.map_eq_some_iff.mp h
    exact ⟨Dim.val_admits hv, denote_admits hl'⟩

theorem sameShape_iff {a b : Shape} : sameShape (some a) (some b) = true ↔ a = b ∧ hasUnknown a = false := by
  simp only [sameShape]
  by_cases e : a = b
  · subst e
    cases hasUnknown a <;> simp only [Bool.or_self, Bool.false_eq_true, if_true, if_false, decide_true, and_self,
      and_false, reduceCtorEq]
  · simp only [e, decide_false, ite_self, Bool.false_eq_true, false_and]

theorem sameShapeFold_iff {a b : Shape} : sameShapeFold a b = true ↔ a = b ∧ hasUnknown a = false := by
  simp only [sameShapeFold]
  cases hasUnknown a <;>
    simp only [Bool.false_eq_true, if_true, if_false, decide_eq_true_eq, and_true, and_false, reduceCtorEq]

theorem sameDim_iff {d₁ d₂ : Dim} : sameDim d₁ d₂ = true ↔ d₁ = d₂ ∧ d₁.isUnknown = false := by
  cases d₁ <;> cases d₂ <;>
    simp only [sameDim, Dim.isUnknown, decide_eq_true_eq, Dim.known.injEq, Dim.sym.injEq, and_true, and_false,
      reduceCtorEq, Bool.false_eq_true]

/-- What a positive answer of `same_shape` / `_same_shape` gives: the conclusion the two property theorems share. -/
theorem same_of_eq {a b : Shape} (e : a = b) (hu : hasUnknown a = false) (σ : String → Nat) :
    (∃ l, denote σ a = some l ∧ denote σ b = some l) ∧
    (∀ l₁ l₂, Admits σ a l₁ → Admits σ b l₂ → l₁ = l₂) := by
  subst e
  obtain ⟨l, hl⟩ := denote_isSome (σ := σ) hu
  exact ⟨⟨l, hl, hl⟩, fun _ _ => admits_det hu⟩

theorem prodInt_nil : prodInt [] = 1 := rfl

theorem prodInt_cons (a : Int) (l : List Int) : prodInt (a :: l) = a * prodInt l := rfl

theorem prodInt_append (a b : List Int) : prodInt (a ++ b) = prodInt a * prodInt b := List.prod_append

theorem prodInt_pos {l : List Int} (h : ∀ d ∈ l, 0 < d) : 0 < prodInt l := by
  induction l with
  | nil => decide
  | cons a t ih =>
    exact Int.mul_pos (h a (List.mem_cons_self ..)) (ih fun d hd => h d (List.mem_cons_of_mem _ hd))

theorem prodInt_nonneg {l : List Int} (h : ∀ d ∈ l, 0 ≤ d) : 0 ≤ prodInt l := by
  induction l with
  | nil => decide
  | cons a t ih =>
    exact Int.mul_nonneg (h a (List.mem_cons_self ..)) (ih fun d hd => h d (List.mem_cons_of_mem _ hd))

theorem prodInt_ne_zero {l : List Int} (h : (0 : Int) ∉ l) : prodInt l ≠ 0 := by
  induction l with
  | nil => decide
  | cons a t ih =>
    exact Int.mul_ne_zero (fun e => h (e ▸ List.mem_cons_self ..)) (ih fun hd => h (List.mem_cons_of_mem _ hd))

end OV.C09
