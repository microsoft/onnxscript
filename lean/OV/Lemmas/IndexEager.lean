import OV.Model.Index
import OV.Lemmas.Index
import OV.Lemmas.IndexPlan
import OV.Lemmas.IndexGather
/-! C11, plan level, fourth part: the plans of eager mode (`Tensor.__getitem__`), axis by axis.  A plan
is a prefix — nothing, one rank-0 Gather, or Slice + `np.squeeze` — followed by the 1-D Gathers in
ascending axis order; `eager_index_iff` sets the whole against NumPy's per-axis maps. -/
namespace OV.Index

/-- What eager mode's Slice(+squeeze) prefix makes of an axis: a 1-D index is not touched by it. -/
def eagerPre (c : Comp) (srcs : List Nat) : Except Err AxisMap :=
  match c with
  | .tVec _ => .ok (.pick srcs)
  | c => eagerAxisSlicePath c srcs

theorem eagerPre_not_vec (c : Comp) (srcs : List Nat) (h : c.isVec = false) :
    eagerPre c srcs = eagerAxisSlicePath c srcs := by
  cases c <;> first | rfl | cases h

theorem eagerPre_vec (c : Comp) (srcs : List Nat) (h : c.isVec = true) :
    eagerPre c srcs = .ok (.pick srcs) := by
  cases c <;> first | rfl | cases h

theorem entryOfEager_axis (c : Comp) (j d : Nat) (e : SliceEntry)
    (he : entryOfEager c j d = some e) : e.axis = j := by
  cases c with
  | full => cases he
  | tVec v => cases he
  | int i => cases he; rfl
  | tScalar i => cases he; rfl
  | slice lo hi st =>
    simp only [entryOfEager] at he
    split at he <;> cases he
    rfl

theorem mem_eagerEntriesOf (comps : List Comp) (shape : List Nat) (e : SliceEntry) :
    e ∈ eagerEntriesOf comps shape
      ↔ (comps[e.axis]?.bind (fun c => entryOfEager c e.axis (shape.getD e.axis 0))) = some e := by
  simp only [eagerEntriesOf, eSlicedOf, eScalarsOf, List.mem_filterMap, List.mem_append,
    List.mem_filter, Prod.exists, List.mk_mem_zipIdx_iff_getElem?, Option.bind_eq_some_iff]
  constructor
  · rintro ⟨c, j, h, he⟩
    have := entryOfEager_axis c j _ e he
    subst this
    exact ⟨c, by rcases h with h | h <;> exact h.1, he⟩
  · rintro ⟨c, hc, he⟩
    refine ⟨c, e.axis, ?_, he⟩
    cases c with
    | full => cases he
    | tVec v => cases he
    | int i => exact .inr ⟨hc, rfl⟩
    | tScalar i => exact .inr ⟨hc, rfl⟩
    | slice lo hi st =>
      refine .inl ⟨hc, ?_⟩
      by_cases hsk : lo = .none ∧ hi = .none ∧ st = .none
      · simp [entryOfEager, hsk] at he
      · simp [Comp.isEagerSliced, hsk]

theorem contains_eScalarsOf (comps : List Comp) (j : Nat) :
    ((eScalarsOf comps).map (fun p => p.2)).contains j
      = (match comps[j]? with | some c => c.isEagerScalar | none => false) :=
  contains_zipIdx Comp.isEagerScalar comps j

theorem eagerPre_eq (c : Comp) (j : Nat) (srcs : List Nat) :
    eagerPre c srcs = sliceAxis (entryOfEager c j srcs.length) c.isEagerScalar srcs := by
  cases c with
  | tScalar v => simp [eagerPre, eagerAxisSlicePath, sliceAxis, entryOfEager, applyEntry, Comp.isEagerScalar]
  | tVec v => rfl
  | full => rfl
  | int i => simp [eagerPre, eagerAxisSlicePath, sliceAxis, entryOfEager, applyEntry, Comp.isEagerScalar]
  | slice lo hi st =>
    by_cases hsk : lo = .none ∧ hi = .none ∧ st = .none
    · obtain ⟨rfl, rfl, rfl⟩ := hsk; rfl
    · simp only [eagerPre, eagerAxisSlicePath, sliceAxis, entryOfEager, applyEntry, Comp.isEagerScalar,
        if_neg hsk, Option.any_some]
      split <;> rfl

theorem eagerPre_isPick (c : Comp) (srcs : List Nat) (a : AxisMap) (h : eagerPre c srcs = .ok a) :
    a.isPick = !c.isEagerScalar :=
  sliceAxis_isPick _ _ _ a (by rwa [eagerPre_eq c 0] at h)

/-- No hypothesis like the converter's D22 one: `slice.indices` has normalised the bounds. -/
theorem eagerAxisSlicePath_eq_numpy (c : Comp) (srcs : List Nat) (hv : c.isVec = false) :
    eagerAxisSlicePath c srcs = numpyAxis c srcs := by
  cases c with
  | full => rfl
  | tVec vs => cases hv
  | int i => exact scalar_slice_axis i _ srcs (Int.le_refl _)
  | tScalar i => exact scalar_slice_axis i _ srcs (Int.le_refl _)
  | slice lo hi st =>
    simp only [eagerAxisSlicePath, numpyAxis]
    split
    · rename_i hskip
      obtain ⟨rfl, rfl, rfl⟩ := hskip
      exact (numpyAxis_skip (.slice .none .none .none) srcs rfl).symm
    · split
      · rfl
      · rename_i h0
        rw [onnxSliceList_eagerBounds srcs _ _ _ (by simpa using h0)]

theorem eager_slice_stage (comps : List Comp) (shape : List Nat) (v1 : View)
    (hlen : comps.length ≤ shape.length) :
    runPlan ([PlanOp.slice (eagerEntriesOf comps shape)]
            ++ (if (eScalarsOf comps).isEmpty then []
                else [PlanOp.npSqueeze ((eScalarsOf comps).map (fun p => p.2))])) (View.init shape) = .ok v1
      ↔ axiswise eagerPre comps shape = .ok v1 := by
  rw [← List.isEmpty_map (f := fun (p : Comp × Nat) => p.2)]
  exact slice_stage PlanOp.npSqueeze (fun _ _ => rfl) _ _ entryOfEager Comp.isEagerScalar eagerPre
    comps shape v1 hlen entryOfEager_axis (mem_eagerEntriesOf comps shape) (contains_eScalarsOf comps)
    (fun j c d _ _ => by rw [eagerPre_eq c j, List.length_range])

theorem vec_not_scalar (c : Comp) (h : c.isVec = true) : c.isEagerScalar = false := by
  cases c <;> first | rfl | cases h

theorem numpyAxis_vec_isPick (c : Comp) (srcs : List Nat) (a : AxisMap) (hv : c.isVec = true)
    (h : numpyAxis c srcs = .ok a) : a.isPick = true := by
  rw [numpyAxis_isPick c srcs a h, vec_not_scalar c hv]; rfl

theorem gatherOp_isSome_of_vec (c : Comp) (a : Nat) (h : c.isVec = true) : (gatherOp a c).isSome = true := by
  cases c <;> first | rfl | cases h

/-- The 1-D Gathers at the end of `Tensor.__getitem__` — any number of them, in ascending order, each
on the axis that is left of its source axis once the rank-0-indexed axes are gone. -/
theorem eager_vec_stage (comps : List Comp) (shape : List Nat) (v1 r : View)
    (preF : Comp → List Nat → Except Err AxisMap)
    (hG : ∀ c srcs, c.isVec = true → preF c srcs = .ok (.pick srcs))
    (hD : ∀ c srcs a, preF c srcs = .ok a → a.isPick = !c.isEagerScalar)
    (hpre : axiswise preF comps shape = .ok v1) :
    runPlan ((eVecsOf comps).filterMap
        (fun p => gatherOp (gatherAxis ((eScalarsOf comps).map (fun p => p.2)) p.2) p.1)) v1 = .ok r
      ↔ axiswise (withGather Comp.isVec preF) comps shape = .ok r := by
  have := gather_chain_asc_iff Comp.isVec Comp.isEagerScalar preF
    (gatherAxis ((eScalarsOf comps).map (fun p => p.2))) hG gatherOp_isSome_of_vec
    numpyAxis_vec_isPick hD comps shape 0 [] v1 r
    (fun i c hi _ => gatherAxis_chain Comp.isEagerScalar comps i c hi) hpre
  simpa [eVecsOf] using this

theorem kind_skip_of_not_eager (c : Comp) (h1 : c.isEagerSliced = false) (h2 : c.isEagerScalar = false)
    (h3 : c.isVec = false) : c.kind = Kind.skip := by
  cases c with
  | full => rfl
  | int i => cases h2
  | tScalar v => cases h2
  | tVec v => cases h3
  | slice lo hi st =>
    have : lo = .none ∧ hi = .none ∧ st = .none := by simpa [Comp.isEagerSliced] using h1
    obtain ⟨rfl, rfl, rfl⟩ := this
    rfl

theorem filterMap_gatherOp_scalars (l : List (Comp × Nat)) (hl : ∀ p ∈ l, p.1.isEagerScalar = true) :
    l.filterMap (fun p => gatherOp (gatherAxis [] p.2) p.1)
      = l.map (fun p => PlanOp.gatherScalar p.2 p.1.scalarVal) := by
  induction l with
  | nil => rfl
  | cons p l ih =>
    have hp := hl p (by simp)
    rw [List.filterMap_cons, List.map_cons, ih (fun q hq => hl q (by simp [hq]))]
    obtain ⟨c, j⟩ := p
    cases c with
    | full => cases hp
    | tVec v => cases hp
    | slice lo hi st => cases hp
    | int i => simp [gatherOp, gatherAxis_nil, Comp.scalarVal]
    | tScalar i => simp [gatherOp, gatherAxis_nil, Comp.scalarVal]

theorem reverse_of_length_le_one {α} (l : List α) (h : l.length ≤ 1) : l.reverse = l := by
  cases l with
  | nil => rfl
  | cons a t =>
    cases t with
    | nil => rfl
    | cons b t' => simp at h

/-- The prefix of a Gather-only plan: the Gather of the rank-0 index, if there is one. -/
theorem eager_scalar_stage (comps : List Comp) (shape : List Nat) (v1 : View)
    (hlen : comps.length ≤ shape.length) (hone : (eScalarsOf comps).length ≤ 1) :
    runPlan ((eScalarsOf comps).map (fun p => PlanOp.gatherScalar p.2 p.1.scalarVal)) (View.init shape) = .ok v1
      ↔ axiswise (withGather Comp.isEagerScalar pickF) comps shape = .ok v1 := by
  have := gather_chain_iff Comp.isEagerScalar (fun _ => false) pickF (gatherAxis []) (fun _ _ _ => rfl)
    (fun c a hg => by cases c <;> first | rfl | cases hg) (fun c srcs a ha => by cases ha; rfl)
    comps shape 0 [] (View.init shape) v1 (fun i c hi _ => gatherAxis_chain_nil comps i c hi)
    (axiswise_pickF comps shape hlen)
  simp only [List.nil_append, exists_eq_left'] at this
  rw [← this, ← eScalarsOf, reverse_of_length_le_one _ hone,
    filterMap_gatherOp_scalars (eScalarsOf comps) (fun p hp => (List.mem_filter.mp hp).2)]

/-- The code's own zero-step check needs no clause: NumPy has no result on such an axis either. -/
theorem eager_index_iff (comps : List Comp) (shape : List Nat) (r : View) :
    eagerIndex comps shape = .ok r ↔
      comps.length ≤ shape.length ∧ axiswise numpyAxis comps shape = .ok r := by
  unfold eagerIndex planEager
  by_cases hlen : comps.length > shape.length
  · rw [if_pos hlen]
    exact iff_of_false (by simp [bind, Except.bind]) (fun h => absurd h.1 (by omega))
  rw [if_neg hlen]
  have hlen' : comps.length ≤ shape.length := by omega
  by_cases hz0 : (comps.any (fun c => c.isEagerSliced && c.stepVal == 0)) = true
  · -- a zero step: refused while the index is read, as NumPy refuses it
    rw [if_pos hz0]
    refine iff_of_false (by simp [bind, Except.bind]) (fun h => ?_)
    obtain ⟨c, hc, hz⟩ := List.any_eq_true.mp hz0
    obtain ⟨j, hj⟩ := List.getElem?_of_mem hc
    obtain ⟨d, a, _, ha⟩ := (axiswise_ok_pointwise _ comps shape r h.2).2 j c hj
    cases c with
    | slice lo hi st =>
      simp only [Comp.isEagerSliced, Comp.stepVal, Bool.and_eq_true, beq_iff_eq] at hz
      simp [numpyAxis, hz.2] at ha
    | full => cases hz
    | int i => cases hz
    | tScalar i => cases hz
    | tVec v => cases hz
  rw [if_neg hz0, and_iff_right hlen']
  -- `Tensor.__getitem__` gets by with Gathers only: no non-trivial slice, at most one rank-0 index
  by_cases hgo : ((eSlicedOf comps).isEmpty && decide ((eScalarsOf comps).length ≤ 1)) = true
  · obtain ⟨hsl, hone⟩ : eSlicedOf comps = [] ∧ (eScalarsOf comps).length ≤ 1 := by
      simpa using hgo
    have hG : ∀ c srcs, c.isVec = true →
        withGather Comp.isEagerScalar pickF c srcs = .ok (.pick srcs) := fun c srcs hv =>
      withGather_neg pickF (by rw [vec_not_scalar c hv]; decide) srcs
    -- every component is `:`, a rank-0 index or a 1-D index: NumPy's per-axis maps are what the
    -- two Gather stages compute
    rw [axiswise_congr numpyAxis (withGather Comp.isVec (withGather Comp.isEagerScalar pickF)) comps shape
      (fun c hc srcs => by
        obtain ⟨j, hj⟩ := List.getElem?_of_mem hc
        by_cases hv : c.isVec = true
        · rw [withGather_pos _ hv]
        · rw [withGather_neg _ hv]
          by_cases hs : c.isEagerScalar = true
          · rw [withGather_pos _ hs]
          · rw [withGather_neg _ hs]
            exact numpyAxis_skip c srcs (kind_skip_of_not_eager c
              (filter_zipIdx_nil_forall Comp.isEagerSliced comps 0 hsl j c hj)
              (by simpa using hs) (by simpa using hv))),
      ← two_stage_iff _ _ (View.init shape) r Comp.isVec _ comps shape hG
        (fun v1 => eager_scalar_stage comps shape v1 hlen' hone)
        (fun v1 hv1 => eager_vec_stage comps shape v1 r _ hG (fun c srcs a ha => by
          by_cases hs : c.isEagerScalar = true
          · rw [withGather_pos _ hs] at ha; exact numpyAxis_isPick c srcs a ha
          · rw [withGather_neg _ hs] at ha; cases ha; simp [hs, AxisMap.isPick]) hv1)]
    -- the plan is the rank-0 Gather (if any) followed by the 1-D Gathers; `Identity` when there is neither
    rw [hsl]
    cases hsc : eScalarsOf comps with
    | nil =>
      by_cases hv : eVecsOf comps = []
      · simp [hv, bind, Except.bind, runPlan_singleton, runOp, runPlan_nil]
      · simp [hv, bind, Except.bind]
    | cons p t =>
      have ht : t = [] := by rw [hsc] at hone; simpa using hone
      subst ht
      simp [bind, Except.bind]
  · -- the Slice(+squeeze) treatment of a component is NumPy's on its axis
    rw [axiswise_congr numpyAxis (withGather Comp.isVec eagerPre) comps shape (fun c _ srcs => by
        by_cases hv : c.isVec = true
        · rw [withGather_pos _ hv]
        · rw [withGather_neg _ hv, eagerPre_not_vec c _ (by simpa using hv),
            eagerAxisSlicePath_eq_numpy c _ (by simpa using hv)]),
      ← two_stage_iff ([PlanOp.slice (eagerEntriesOf comps shape)] ++
          (if (eScalarsOf comps).isEmpty then []
           else [PlanOp.npSqueeze ((eScalarsOf comps).map (fun p => p.2))]))
        ((eVecsOf comps).filterMap
          (fun p => gatherOp (gatherAxis ((eScalarsOf comps).map (fun p => p.2)) p.2) p.1))
        (View.init shape) r Comp.isVec eagerPre comps shape eagerPre_vec
        (fun v1 => eager_slice_stage comps shape v1 hlen')
        (fun v1 hv1 => eager_vec_stage comps shape v1 r eagerPre eagerPre_vec eagerPre_isPick hv1)]
    -- there is a non-trivial slice, or there are two rank-0 indices: the plan starts with Slice
    have hns : (eSlicedOf comps).isEmpty = true → 1 < (eScalarsOf comps).length := by
      simpa using hgo
    cases h1 : (eSlicedOf comps).isEmpty
    · simp [bind, Except.bind]
    · have := hns h1
      have h2 : (eScalarsOf comps).isEmpty = false := by
        cases h : eScalarsOf comps with
        | nil => rw [h] at this; cases this
        | cons p t => rfl
      have h3 : ((eScalarsOf comps).length == 1) = false := by simp; omega
      simp [h2, h3, bind, Except.bind]

def stepOk (c : Comp) : Prop :=
  ∀ lo hi st, c = .slice lo hi st → ¬ (lo = .none ∧ hi = .none ∧ st = .none) → (st.val?).getD 1 ≠ 0

/-- `hvec`, `hstep` and `hsl` are not used: `eager_index_iff` has none of them. -/
theorem eager_index_complete (comps : List Comp) (shape : List Nat) (r : View)
    (hlen : comps.length ≤ shape.length)
    (hvec : (comps.filter Comp.isVec).length ≤ 1)
    (hstep : ∀ c ∈ comps, stepOk c)
    (hnp : axiswise numpyAxis comps shape = .ok r)
    (hsl : axiswise (withGather Comp.isVec eagerPre) comps shape = .ok r) :
    eagerIndex comps shape = .ok r :=
  (eager_index_iff comps shape r).mpr ⟨hlen, hnp⟩

end OV.Index
