import OV.Model.C19Core
/-! The query path of an attention block under the stages of `fuse_xformers` (`OV.Model.C19Core`).

A round only sees its `mha_scale` / `mha_bias` keys: the fold over a stage list is the fold over the list filtered
to those two (`pipeRoundOf_filter`).  So what a stage table does to the query path is read off from the filtered
table, which is evaluated once. -/
namespace OV.C19

theorem dropLast_append_of_getLast? {α : Type} {l : List α} {x : α} (h : l.getLast? = some x) :
    l.dropLast ++ [x] = l := by
  obtain ⟨ys, rfl⟩ := List.getLast?_eq_some_iff.mp h
  rw [List.dropLast_concat]

theorem peelMul_spec (ops : List QOp) : (peelMul ops).1 ++ (if (peelMul ops).2 then [.mul] else []) = ops := by
  unfold peelMul
  split
  · rename_i h; exact dropLast_append_of_getLast? h
  · exact List.append_nil _

theorem peelAdd_spec (ops : List QOp) : (peelAdd ops).1 ++ (if (peelAdd ops).2 then [.add] else []) = ops := by
  unfold peelAdd
  split
  · rename_i h; exact dropLast_append_of_getLast? h
  · exact List.append_nil _

/-- the two stages that touch the query path -/
def isQKey (k : String) : Bool := k == "mha_scale" || k == "mha_bias"

theorem runQStage_other {fix16 ob : Bool} {st : QState} {k : String} (h : isQKey k = false) :
    runQStage fix16 ob st k = st := by
  simp only [isQKey, Bool.or_eq_false_iff] at h
  simp only [runQStage, h.1, h.2, Bool.false_eq_true, if_false]

theorem runQStage_scale (fix16 ob : Bool) (st : QState) : runQStage fix16 ob st "mha_scale" = pipeSecondRound fix16 st :=
  rfl

theorem runQStage_bias (fix16 ob : Bool) (st : QState) : runQStage fix16 ob st "mha_bias" =
    if st.2.2.2 then st else
      if (peelAdd st.1).2 || ob then ((peelAdd st.1).1, st.2.1, st.2.2.1 || (peelAdd st.1).2, true) else st :=
  rfl

theorem secondRound_unbiased (fix16 : Bool) (o : List QOp) (m qb : Bool) :
    pipeSecondRound fix16 (o, m, qb, false) = ((peelMul o).1, m || (peelMul o).2, qb, false)
      ∧ pipeSecondPeels fix16 (o, m, qb, false) = (peelMul o).2 := by
  cases fix16 <;> exact ⟨rfl, rfl⟩

theorem secondRound_biased (o : List QOp) (m qb : Bool) :
    pipeSecondRound true (o, m, qb, true) = (o, m, qb, true) ∧ pipeSecondPeels true (o, m, qb, true) = false :=
  ⟨rfl, rfl⟩

theorem pipeStagesOf_eq (keys : List String) (ops : List QOp) (ob : Bool) :
    pipeStagesOf keys ops ob = pipeRoundOf true keys ob (ops, false, false, false) :=
  rfl

theorem pipeRoundOf_filter (fix16 ob : Bool) (keys : List String) (st : QState) :
    pipeRoundOf fix16 keys ob st = pipeRoundOf fix16 (keys.filter isQKey) ob st := by
  induction keys generalizing st with
  | nil => rfl
  | cons k ks ih =>
    rw [List.filter_cons]
    cases h : isQKey k
    · exact (congrArg (pipeRoundOf fix16 ks ob) (runQStage_other h)).trans (ih _)
    · exact ih _

theorem pipeStagesOf_scale_bias {keys : List String} (h : keys.filter isQKey = ["mha_scale", "mha_bias"])
    (ops : List QOp) (ob : Bool) : pipeStagesOf keys ops ob = qstateOf (pipeStages ops ob) ob := by
  rw [pipeStagesOf_eq, pipeRoundOf_filter, h]
  show runQStage true ob (runQStage true ob (ops, false, false, false) "mha_scale") "mha_bias" = _
  rw [runQStage_scale, (secondRound_unbiased true ops false false).1, runQStage_bias]
  -- `mha_bias` and `pipeStages` branch on the same test
  unfold pipeStages
  cases h2 : (peelAdd (peelMul ops).1).2 || ob
  · obtain ⟨-, rfl⟩ := Bool.or_eq_false_iff.mp h2
    simp only [h2, Bool.false_eq_true, if_false]; rfl
  · simp only [h2, if_true, Bool.false_eq_true, if_false, qstateOf, Bool.false_or]

theorem pipeRoundOf_scale {keys : List String} (h : keys.filter isQKey = ["mha_scale"]) (fix16 ob : Bool)
    (st : QState) : pipeRoundOf fix16 keys ob st = pipeSecondRound fix16 st := by
  rw [pipeRoundOf_filter, h]
  exact runQStage_scale fix16 ob st

end OV.C19
