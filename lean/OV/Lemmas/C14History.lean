import OV.Model.C14History
import OV.Lemmas.Util
/-! One idea carries the rule stashes, the rewriting loop and the process as a whole: an operation reads of the
persistent state only what every operation leaves as it found it (`__init__`-only fields, the builder global) or what
it assigns first (the opset cache apart, see `Sigma.Alike`), so states that agree on that part answer alike, and every
operation keeps the agreement (`AgreeOn` for one stash, `AgreeAll` for the installed rules, `Sigma.Alike` for the
process).  Between them stand the small facts about interning, the builder, sorting, import lists and globals that the
per-component theorems of `Props/C14` cite. -/
namespace OV.C14

theorem applyWrites_not_mem (ws : List (Field × Val)) (s : Stash) (f : Field)
    (h : f ∉ ws.map Prod.fst) : applyWrites ws s f = s f := by
  induction ws generalizing s with
  | nil => rfl
  | cons p ws ih =>
    obtain ⟨g, v⟩ := p
    simp only [List.map_cons, List.mem_cons, not_or] at h
    simp only [applyWrites]
    rw [ih _ h.2]
    simp only [Stash.set, h.1, if_false]

theorem applyWrites_congr (ws : List (Field × Val)) (s s' : Stash) (f : Field)
    (h : f ∈ ws.map Prod.fst ∨ s f = s' f) : applyWrites ws s f = applyWrites ws s' f := by
  induction ws generalizing s s' with
  | nil => exact h.resolve_left List.not_mem_nil
  | cons p ws ih =>
    refine ih _ _ ?_
    by_cases hf : f = p.1
    · exact Or.inr (by simp only [Stash.set, hf, if_true])
    · exact h.imp (fun hm => (List.mem_cons.1 hm).resolve_left hf)
        (fun he => by simp only [Stash.set, hf, if_false]; exact he)

theorem AgreeOn.refl (fs : List Field) (s : Stash) : AgreeOn fs s s := fun _ _ => rfl
theorem AgreeOn.symm {fs : List Field} {s s' : Stash} (h : AgreeOn fs s s') : AgreeOn fs s' s :=
  fun f hf => (h f hf).symm
theorem AgreeOn.trans {fs : List Field} {s s' s'' : Stash} (h : AgreeOn fs s s') (h' : AgreeOn fs s' s'') :
    AgreeOn fs s s'' := fun f hf => (h f hf).trans (h' f hf)

theorem AgreeOn.set_cons {fs : List Field} {s s' : Stash} (h : AgreeOn fs s s') (f : Field) (v : Val) :
    AgreeOn (f :: fs) (s.set f v) (s'.set f v) := by
  intro g hg
  simp only [Stash.set]
  split
  · rfl
  · rename_i hne
    exact h g ((List.mem_cons.1 hg).resolve_left hne)

theorem AgreeOn.set {fs : List Field} {s s' : Stash} (h : AgreeOn fs s s') (f : Field) (v : Val) :
    AgreeOn fs (s.set f v) (s'.set f v) :=
  fun g hg => h.set_cons f v g (List.mem_cons_of_mem f hg)

theorem applyWrites_keeps (fs : List Field) (ws : List (Field × Val)) (s : Stash)
    (h : ∀ p, p ∈ ws → p.1 ∉ fs) : AgreeOn fs s (applyWrites ws s) := by
  intro f hf
  rw [applyWrites_not_mem]
  intro hmem
  rcases List.mem_map.1 hmem with ⟨p, hp, rfl⟩
  exact h p hp hf

theorem ok_reads {spec : RuleSpec} (h : spec.ok = true) :
    spec.checkEarlyReads = [] ∧ ∀ f, f ∈ spec.rewriteReads → f ∈ spec.checkWrites := by
  unfold RuleSpec.ok at h
  simp only [Bool.and_eq_true, List.all_eq_true, List.isEmpty_iff, List.contains_iff_mem] at h
  exact ⟨h.1.2, fun f hf => h.1.1 f hf⟩

theorem tryRewrite_consts {I O : Type} {spec : RuleSpec} {b : RuleBeh I O} (hr : Respects spec b)
    (s : Stash) (i : I) : AgreeOn spec.consts s (tryRewrite b s i).1 := by
  unfold tryRewrite
  have h1 : AgreeOn spec.consts s (applyWrites (b.check s i).2 s) :=
    applyWrites_keeps _ _ _ (hr.consts_kept_check s i)
  by_cases hc : (b.check s i).1 = true
  · simp only [hc, if_true]
    exact h1.trans (applyWrites_keeps _ _ _ (hr.consts_kept_rewrite _ i))
  · simp only [hc]
    exact h1

theorem tryRewrite_indep {I O : Type} {spec : RuleSpec} {b : RuleBeh I O}
    (hok : spec.ok = true) (hr : Respects spec b) (s s' : Stash) (i : I)
    (hag : AgreeOn spec.consts s s') :
    (tryRewrite b s i).2 = (tryRewrite b s' i).2 := by
  obtain ⟨he, hrw⟩ := ok_reads hok
  have hcheck : b.check s i = b.check s' i := by
    apply hr.check_reads
    rw [he, List.nil_append]
    exact hag
  unfold tryRewrite
  rw [← hcheck]
  by_cases hc : (b.check s i).1 = true
  · simp only [hc, if_true]
    have : b.rewrite (applyWrites (b.check s i).2 s) i = b.rewrite (applyWrites (b.check s i).2 s') i := by
      apply hr.rewrite_reads
      intro f hf
      apply applyWrites_congr
      rcases List.mem_append.1 hf with hf | hf
      · exact Or.inl (hr.check_writes s i hc f (hrw f hf))
      · exact Or.inr (hag f hf)
    rw [this]
  · simp only [hc, Bool.false_eq_true, if_false]

/-- stashes of all installed rules agree on their `__init__`-only fields -/
def AgreeAll {I O : Type} (w : World I O) (σ σ' : Stashes) : Prop :=
  ∀ r p, w.rules[r]? = some p → AgreeOn p.1.consts (σ (w.owner r)) (σ' (w.owner r))

theorem AgreeAll.refl {I O : Type} (w : World I O) (σ : Stashes) : AgreeAll w σ σ :=
  fun _ _ _ => AgreeOn.refl _ _
theorem AgreeAll.trans {I O : Type} {w : World I O} {σ σ' σ'' : Stashes}
    (h : AgreeAll w σ σ') (h' : AgreeAll w σ' σ'') : AgreeAll w σ σ'' :=
  fun r p hp => (h r p hp).trans (h' r p hp)
theorem AgreeAll.symm {I O : Type} {w : World I O} {σ σ' : Stashes}
    (h : AgreeAll w σ σ') : AgreeAll w σ' σ := fun r p hp => (h r p hp).symm

theorem agreeAll_set {I O : Type} {w : World I O} (hw : w.Ok) (σ : Stashes) (r : Nat)
    (p : RuleSpec × RuleBeh I O) (hp : w.rules[r]? = some p) (i : I) :
    AgreeAll w σ (σ.set (w.owner r) (tryRewrite p.2 (σ (w.owner r)) i).1) := by
  intro k q hq
  unfold Stashes.set
  by_cases hk : w.owner k = w.owner r
  · simp only [hk, if_true]
    have hc : q.1.consts = p.1.consts := hw.2 k r q p hq hp hk
    rw [hc]
    exact tryRewrite_consts (hw.1 p (List.mem_of_getElem? hp)).2 _ _
  · simp only [hk, if_false]
    exact AgreeOn.refl _ _

theorem runRewrite_consts {I O : Type} {w : World I O} (hw : w.Ok) (strat : List (Option O) → Next I)
    (n : Nat) (acc : List (Option O)) (σ : Stashes) :
    AgreeAll w σ (runRewrite w strat n acc σ).1 := by
  induction n generalizing acc σ with
  | zero => exact AgreeAll.refl _ _
  | succ n ih =>
    unfold runRewrite
    split
    · exact AgreeAll.refl _ _
    · exact AgreeAll.refl _ _
    · rename_i r i _
      split
      · rename_i p hp
        exact (agreeAll_set hw σ r p hp i).trans (ih _ _)
      · exact AgreeAll.refl _ _

theorem runRewrite_indep {I O : Type} {w : World I O} (hw : w.Ok) (strat : List (Option O) → Next I)
    (n : Nat) (acc : List (Option O)) (σ σ' : Stashes) (hag : AgreeAll w σ σ') :
    (runRewrite w strat n acc σ).2 = (runRewrite w strat n acc σ').2 := by
  induction n generalizing acc σ σ' with
  | zero => rfl
  | succ n ih =>
    unfold runRewrite
    split
    · rfl
    · rfl
    · rename_i r i _
      split
      · rename_i p hp
        have hp' := hw.1 p (List.mem_of_getElem? hp)
        have hout := tryRewrite_indep hp'.1 hp'.2 (σ (w.owner r)) (σ' (w.owner r)) i (hag r p hp)
        simp only []
        rw [hout]
        apply ih
        exact ((agreeAll_set hw σ r p hp i).symm.trans hag).trans (agreeAll_set hw σ' r p hp i)
      · rfl

theorem intern_eq (cache : List OpsetKey) (k : OpsetKey) :
    intern cache k = (if k ∈ cache then cache else cache ++ [k], (k.domain, k.version)) := by
  unfold intern
  split
  · rename_i c hc
    have hk : c = k := by simpa using List.find?_some hc
    rw [if_pos (hk ▸ List.mem_of_find?_eq_some hc), hk]
  · rename_i hn
    rw [if_neg fun hm => by simpa using List.find?_eq_none.1 hn k hm]

theorem intern_fields (cache : List OpsetKey) (k : OpsetKey) : (intern cache k).2 = (k.domain, k.version) := by
  rw [intern_eq]

theorem internAll_fields (cache : List OpsetKey) (ks : List OpsetKey) :
    (internAll cache ks).2 = ks.map (fun k => (k.domain, k.version)) := by
  induction ks generalizing cache with
  | nil => rfl
  | cons k ks ih => simp only [internAll, List.map_cons, intern_fields, ih]

theorem runEvent_global (st : BState) (e : BEv) : (runEvent true st e).global = st.global := by
  cases e with
  | sugar => simp only [runEvent]
  | raise => simp only [runEvent]
  | nested b body => simp only [runEvent, Bool.not_true, Bool.and_false, Bool.false_eq_true, if_false]

theorem runEvents_global (st : BState) (es : List BEv) : (runEvents true st es).global = st.global := by
  induction es generalizing st with
  | nil => simp only [runEvents]
  | cons e es ih =>
    simp only [runEvents]
    split
    · exact runEvent_global st e
    · rw [ih, runEvent_global]

theorem leStr_trans (a b c : String) : leStr a b = true → leStr b c = true → leStr a c = true := by
  unfold leStr; simp only [decide_eq_true_eq]; exact String.le_trans
theorem leStr_total (a b : String) : (leStr a b || leStr b a) = true := by
  unfold leStr; simp only [Bool.or_eq_true, decide_eq_true_eq]; exact String.le_total a b
theorem leStr_antisymm (a b : String) : leStr a b = true → leStr b a = true → a = b := by
  unfold leStr; simp only [decide_eq_true_eq]; exact String.le_antisymm

theorem key_inj (a b : UsedOpset) (h1 : a.1 = b.1) (hk : a.key = b.key) : a = b := by
  obtain ⟨ad, av⟩ := a
  obtain ⟨bd, bv⟩ := b
  simp only [UsedOpset.key] at hk
  simp only at h1
  subst h1
  cases av <;> cases bv <;> simp at hk <;> simp [hk]

theorem leOpset_iff (a b : UsedOpset) : leOpset a b = true ↔ a.1 ≤ b.1 ∧ (a.1 = b.1 → a.key ≤ b.key) := by
  unfold leOpset
  split
  · rename_i h
    exact ⟨fun hk => ⟨h ▸ String.le_refl _, fun _ => of_decide_eq_true hk⟩, fun hh => decide_eq_true (hh.2 h)⟩
  · rename_i h
    exact ⟨fun hk => ⟨of_decide_eq_true hk, fun e => absurd e h⟩, fun hh => decide_eq_true hh.1⟩

theorem leOpset_total (a b : UsedOpset) : (leOpset a b || leOpset b a) = true := by
  rw [Bool.or_eq_true, leOpset_iff, leOpset_iff]
  by_cases h : a.1 = b.1
  · exact (Nat.le_total a.key b.key).imp (fun hk => ⟨h ▸ String.le_refl _, fun _ => hk⟩)
      (fun hk => ⟨h ▸ String.le_refl _, fun _ => hk⟩)
  · exact (String.le_total a.1 b.1).imp (fun hs => ⟨hs, fun e => absurd e h⟩)
      (fun hs => ⟨hs, fun e => absurd e.symm h⟩)

theorem leOpset_antisymm (a b : UsedOpset) (hab : leOpset a b = true) (hba : leOpset b a = true) : a = b := by
  rw [leOpset_iff] at hab hba
  have h := String.le_antisymm hab.1 hba.1
  exact key_inj a b h (Nat.le_antisymm (hab.2 h) (hba.2 h.symm))

theorem leOpset_trans (a b c : UsedOpset) (hab : leOpset a b = true) (hbc : leOpset b c = true) :
    leOpset a c = true := by
  rw [leOpset_iff] at *
  refine ⟨String.le_trans hab.1 hbc.1, fun e => ?_⟩
  have hba : b.1 = a.1 := String.le_antisymm (e ▸ hbc.1) hab.1
  exact Nat.le_trans (hab.2 hba.symm) (hbc.2 (hba.trans e))

theorem addDomain_prefix (imps : List (String × Nat)) (f : SubFn) : imps <+: addDomain imps f := by
  unfold addDomain
  split
  · exact List.prefix_rfl
  · exact List.prefix_append _ _

theorem addStd_prefix (imps : List (String × Nat)) (f : SubFn) : imps <+: addStd imps f := by
  unfold addStd
  split
  · split
    · exact List.prefix_rfl
    · exact List.prefix_append _ _
  · exact List.prefix_rfl

theorem addFuncImports_prefix (imps : List (String × Nat)) (fs : List SubFn) :
    imps <+: addFuncImports imps fs := by
  induction fs generalizing imps with
  | nil => exact List.prefix_rfl
  | cons f fs ih => exact ((addDomain_prefix imps f).trans (addStd_prefix _ f)).trans (ih _)

theorem modelOpsetImports_prefix (g : List (String × Nat)) (fs : List SubFn) (kw : Option Nat) (latest : Nat) :
    g <+: modelOpsetImports g fs kw latest := by
  unfold modelOpsetImports
  simp only
  split
  · exact addFuncImports_prefix g fs
  · exact (addFuncImports_prefix g fs).trans (List.prefix_append _ _)

theorem translate_eval (g : Globals) (x : Val) (e : SExp) : (translate g e).eval x = e.evalPy g x := by
  induction e with
  | x => rfl
  | glob n =>
    simp only [translate, SExp.evalPy]
    cases g.lookup n <;> rfl
  | add a b iha ihb => simp only [translate, GExp.eval, SExp.evalPy, iha, ihb]
  | mul a b iha ihb => simp only [translate, GExp.eval, SExp.evalPy, iha, ihb]

theorem evalPy_congr {g g' : Globals} (x : Val) (e : SExp)
    (h : ∀ n, n ∈ e.globalsOf → g.lookup n = g'.lookup n) : e.evalPy g x = e.evalPy g' x := by
  induction e with
  | x => rfl
  | glob n => exact h n (List.mem_singleton_self n)
  | add a b iha ihb =>
    simp only [SExp.evalPy, iha fun n hn => h n (List.mem_append_left _ hn),
      ihb fun n hn => h n (List.mem_append_right _ hn)]
  | mul a b iha ihb =>
    simp only [SExp.evalPy, iha fun n hn => h n (List.mem_append_left _ hn),
      ihb fun n hn => h n (List.mem_append_right _ hn)]

/-- `h` holds for one of two reasons, one per use: the converter copies (`copy = true`), or the body mentions no
mutable global (`NoSharedMutablePayload`). -/
theorem translateR_frozen (copy : Bool) (g : RGlobals) (cells cells' : Cells) (e : SExp)
    (h : ∀ n, n ∈ e.globalsOf → ∀ c, g.lookup n = some (.ref c) → copy = true) :
    (translateR copy g cells e).toProto cells' = (translateR copy g cells e).toProto cells := by
  induction e with
  | x => rfl
  | glob n =>
    simp only [translateR]
    cases hl : g.lookup n with
    | none => rfl
    | some v =>
      cases v with
      | imm v => rfl
      | ref c => rw [h n (List.mem_singleton_self n) c hl]; rfl
  | add a b iha ihb =>
    simp only [translateR, RExp.toProto, iha fun n hn => h n (List.mem_append_left _ hn),
      ihb fun n hn => h n (List.mem_append_right _ hn)]
  | mul a b iha ihb =>
    simp only [translateR, RExp.toProto, iha fun n hn => h n (List.mem_append_left _ hn),
      ihb fun n hn => h n (List.mem_append_right _ hn)]

theorem iterProto_spec (n : Nat) (f : OnnxFn) :
    (iterProto n f).2 = f ∧ ∀ p, p ∈ (iterProto n f).1 → p = f.ir := by
  induction n generalizing f with
  | zero => exact ⟨rfl, fun p hp => by simp [iterProto] at hp⟩
  | succ n ih =>
    simp only [iterProto, toProto]
    refine ⟨(ih f).1, ?_⟩
    intro p hp
    simp only [List.mem_cons] at hp
    rcases hp with hp | hp
    · exact hp
    · exact (ih f).2 p hp

/-- Two process states are *alike* when they differ only in what no operation's result depends on: the rule stashes
agree on every `__init__`-only field and the builder global is the same.  The fold pass object and the opset cache may
hold anything: `foldCall` resets the one before reading it, and what `intern` returns does not depend on the other
(`intern_fields`). -/
def Sigma.Alike {I O : Type} (w : World I O) (σ σ' : Sigma) : Prop :=
  AgreeAll w σ.stashes σ'.stashes ∧ σ.builder = σ'.builder

theorem Sigma.Alike.refl {I O : Type} (w : World I O) (σ : Sigma) : Sigma.Alike w σ σ := ⟨AgreeAll.refl _ _, rfl⟩
theorem Sigma.Alike.symm {I O : Type} {w : World I O} {σ σ' : Sigma} (h : Sigma.Alike w σ σ') :
    Sigma.Alike w σ' σ := ⟨h.1.symm, h.2.symm⟩
theorem Sigma.Alike.trans {I O : Type} {w : World I O} {σ σ' σ'' : Sigma} (h : Sigma.Alike w σ σ')
    (h' : Sigma.Alike w σ' σ'') : Sigma.Alike w σ σ'' := ⟨h.1.trans h'.1, h.2.trans h'.2⟩

theorem step_alike {I O : Type} {w : World I O} (hw : w.Ok) (σ : Sigma) (op : ProcOp I O) :
    Sigma.Alike w σ (step w σ op).1 := by
  cases op with
  | rewrite op => exact ⟨runRewrite_consts hw _ _ _ _, rfl⟩
  | pattern b body => exact ⟨AgreeAll.refl _ _, (runEvent_global ⟨σ.builder, [], false⟩ (.nested b body)).symm⟩
  | _ => exact Sigma.Alike.refl w σ

theorem step_result_eq {I O : Type} {w : World I O} (hw : w.Ok) {σ σ' : Sigma} (h : Sigma.Alike w σ σ')
    (op : ProcOp I O) : (step w σ op).2 = (step w σ' op).2 := by
  cases op with
  | rewrite op => exact congrArg Res.rewrite (runRewrite_indep hw _ _ _ _ _ h.1)
  | fold m => rfl
  | opset k => simp only [step, intern_fields]
  | pattern b body => simp only [step, h.2]
  | sugar => simp only [step, h.2]
  | translate st ks iter => simp only [step, internAll_fields]
  | pure v e => rfl

theorem run_results {I O : Type} {w : World I O} (hw : w.Ok) {σ σ₀ : Sigma} (h : Sigma.Alike w σ σ₀)
    (H : List (ProcOp I O)) : (run w σ H).2 = H.map fun op => (step w σ₀ op).2 := by
  induction H generalizing σ with
  | nil => rfl
  | cons op H ih =>
    simp only [run, List.map_cons, step_result_eq hw h op, ih ((step_alike hw σ op).symm.trans h)]

end OV.C14
