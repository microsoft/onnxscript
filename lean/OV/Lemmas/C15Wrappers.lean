import OV.Model.C15Wrappers
namespace OV.C15

theorem route_eq (f : Api) (e : Entry) (k : OptKey) : route f e k = k := by
  unfold route; split <;> rfl

theorem keptByConvert_iff (c : Carrier) :
    keptByConvert c = true ↔ c.inGraph = false ∧ c ≠ .functions ∧ c ≠ .opsetImports := by
  simp only [keptByConvert, Bool.and_eq_true, Bool.not_eq_true', bne_iff_ne, ne_eq, and_assoc]

theorem carrier_cases (c : Carrier) :
    keptByConvert c = true ∨ c.inGraph = true ∨ c = .functions ∨ c = .opsetImports := by
  cases c <;> decide

theorem kept_untouched {c : Carrier} : keptByConvert c = true → touches .convertVersion c = false := by
  cases c <;> decide

theorem kept_holds_no_tensors {c : Carrier} : keptByConvert c = true → c.holdsTensors = false := by
  cases c <;> decide

theorem inGraph_of_not_kept_untouched {c : Carrier} (hk : keptByConvert c ≠ true)
    (ht : touches .convertVersion c = false) : c.inGraph = true := by
  rcases carrier_cases c with h | h | rfl | rfl
  · exact absurd h hk
  · exact h
  · cases ht
  · cases ht

variable {P : Type} (e : P) (M S : Rec P)

theorem spliceConverted_kept {c : Carrier} (h : keptByConvert c = true) : spliceConverted e M S c = M c := by
  obtain ⟨hg, hf, ho⟩ := (keptByConvert_iff c).1 h
  simp only [spliceConverted, hg, hf, ho, Bool.false_eq_true, if_false]

theorem spliceConverted_inGraph {c : Carrier} (h : c.inGraph = true) : spliceConverted e M S c = S c := by
  simp only [spliceConverted, h, if_true]

theorem spliceConverted_functions : spliceConverted e M S .functions = e := rfl

theorem spliceConverted_opsetImports : spliceConverted e M S .opsetImports = S .opsetImports := rfl

theorem spliceConverted_eq_iff :
    spliceConverted e M S = S ↔ (∀ c, keptByConvert c = true → S c = M c) ∧ S .functions = e := by
  constructor
  · intro h
    exact ⟨fun c hc => by rw [← spliceConverted_kept e M S hc, h], by rw [← h]; rfl⟩
  · rintro ⟨hk, hf⟩
    funext c
    rcases carrier_cases c with h | h | rfl | rfl
    · rw [spliceConverted_kept e M S h, hk c h]
    · exact spliceConverted_inGraph e M S h
    · exact hf.symm
    · rfl

/-! One step of object tracking looks at `cur` and at the shape of the return, not at the API. -/

section Track
variable {P I W : Type} (s : Serde P I) (T : Api → Opts W → Rec I → Rec I)

theorem protoTrackStep_current (t : Track P) (c : Api × Opts W) :
    (protoTrackStep s T t c).current = (protoPath s T c.1 c.2 t.current).result := by
  simp only [protoTrackStep]
  generalize protoPath s T c.1 c.2 t.current = out
  rcases t with ⟨orig, _ | cur⟩ <;> rcases out with ⟨a, _ | _ | _ | _ | _⟩ <;> rfl

theorem protoTrackStep_some (orig cur : Rec P) (c : Api × Opts W) :
    ∃ cur', protoTrackStep s T ⟨orig, some cur⟩ c = ⟨orig, some cur'⟩ := by
  simp only [protoTrackStep]
  generalize protoPath s T c.1 c.2 _ = out
  rcases out with ⟨a, _ | _ | _ | _ | _⟩ <;> exact ⟨_, rfl⟩

end Track

end OV.C15
