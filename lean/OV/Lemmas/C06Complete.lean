import OV.Lemmas.C06Sound
/-!
  C06 — completeness of `Pattern.match`: the completeness half of the walk of `C06Walk` read off.

  * the binding steps, in the form "from a successful state that agrees with `A` on something `A` has, the step
    returns `True` and leaves such a state";
  * the `BacktrackingOr` loop for mutually exclusive alternatives and for leftmost instances;
  * one run of the output-node loop on a combination of nodes that `A` satisfies leftmost (`multiMatch_complete`, any
    number of output nodes); with one output node `Pattern.match` is read off it (`patternMatch_complete_leftmost`),
    with its corollaries for exclusive alternatives and the two-sided `patternMatch_iff_instance`.  `C06Multi` reads
    it for several output nodes.
-/
namespace OV.C06

theorem bindValue_completeS (p : GPat) (rest : Stack) (c : Partial) (A : Assign) (vp : VPat)
    (v : Option ValueId) (hok : c.ok = true) (h : SubS (c :: rest) A) (hA : A.boundTo p vp v) :
    ∃ c', bindValue p (c :: rest) vp v = (true, c' :: rest) ∧ c'.ok = true ∧ SubS (c' :: rest) A :=
  (bindValue_stepE p rest c vp v).2 trivial A hA hok h

theorem bindValue2_completeS (fix2 : Bool) (p : GPat) (rest : Stack) (c : Partial) (A : Assign) (vp : VPat)
    (v : Option ValueId) (hok : c.ok = true) (h : SubS (c :: rest) A) (hA : A.boundTo p vp v)
    (hnc : NamedUnchecked p vp) :
    ∃ c', bindValue2 fix2 p (c :: rest) vp v = (true, c' :: rest) ∧ c'.ok = true ∧ SubS (c' :: rest) A :=
  (bindValue2_stepE fix2 p rest c vp v).2 (.inr hnc) A hA hok h

theorem nodeMatches_completeS (A : Assign) (P : NPat) (N : GNode) (rest : Stack) (c : Partial)
    (hok : c.ok = true) (h : SubS (c :: rest) A)
    (hop : P.op.matches N.op = true) (hdom : P.domain.matches N.domain = true) (ha : attrsSat A P N) :
    ∃ c', nodeMatches P N (c :: rest) = (true, c' :: rest) ∧ c'.ok = true ∧ SubS (c' :: rest) A :=
  (nodeMatches_stepE P N rest c).2 trivial A ⟨hop, hdom, ha⟩ hok h

theorem bindOutputs_completeS (fix : Bool) (p : GPat) (A : Assign) (np : NPId) (gouts : List ValueId)
    (rest : Stack) :
    ∀ (outs : List (Option String)) (i : Nat) (c : Partial), c.ok = true → SubS (c :: rest) A →
      (∀ j, i ≤ j → j < i + outs.length → ∃ x, gouts[j]? = some x ∧ A.boundTo p (.out np j) (some x)) →
      ∃ c', bindOutputs fix p np gouts outs i (c :: rest) = (true, c' :: rest) ∧ c'.ok = true ∧
        SubS (c' :: rest) A :=
  fun outs i c hok h hall => (bindOutputs_stepE (Ar := False) fix p np gouts rest outs i c nofun).2 trivial A hall hok h

theorem tagBind_completeS (tagVar : Option String) (t : Int) (rest : Stack) (c : Partial) (A : Assign)
    (hok : c.ok = true) (h : SubS (c :: rest) A) (hf : FreshP rest c)
    (hA : ∀ tv, tagVar = some tv → A.names tv = some (.tag t)) :
    ∃ c', tagBind tagVar t (c :: rest) = c' :: rest ∧ c'.ok = true ∧ SubS (c' :: rest) A ∧ FreshP rest c' :=
  let ⟨c', e, g, _, hc⟩ := tagBind_exact tagVar t rest c
  ⟨c', e, (hc A hA hok h).1, (hc A hA hok h).2, g.fresh hf⟩

/-- no *named* value pattern among the inputs of the node patterns carries a checker -/
def NamedVarsUnchecked (p : GPat) : Prop :=
  ∀ P ∈ p.nodes, ∀ vp, some vp ∈ P.inputs → NamedUnchecked p vp

theorem nuOk_of_namedVarsUnchecked {p : GPat} (hno : p.noOr = true) (h : NamedVarsUnchecked p) : p.nuOk :=
  fun P hP vp hin => by
    obtain ⟨np, hnp⟩ := List.mem_iff_getElem?.1 hP
    have hv := noOr_input hno hnp hin
    have hu := h P hP vp hin
    cases vp with
    | var id name isVar canNone check =>
      cases name with
      | none => rfl
      | some nm => simp [VPat.nu, show check = none from hu rfl]
    | any => rfl
    | const => rfl
    | out => rfl
    | orD => cases hv
    | orB => cases hv

/-- every pattern output is an output of the (single) output node `np0` -/
def OutputsOfRoot (p : GPat) (np0 : NPId) : Prop :=
  ∀ vp ∈ p.outputs, ∃ idx P, vp = .out np0 idx ∧ p.nodes[np0]? = some P ∧ idx < P.outputs.length

theorem OutputsOfRoot.toNodes {p : GPat} {np0 : NPId} (hsingle : p.outputNodes = [np0]) (h : OutputsOfRoot p np0) :
    OutputsOfOutputNodes p := fun vp hvp =>
  let ⟨idx, P, e, hP, hi⟩ := h vp hvp; ⟨np0, idx, P, e, by simp [hsingle], hP, hi⟩

theorem patternMatch_of_ok (E : Env) (root : NodeId) (rm : Bool)
    (hok : (matcherMatch E root rm).ok = true)
    (hn : ∀ k x, (k, x) ∈ (matcherMatch E root rm).nb → ∀ P, E.p.nodes[k]? = some P → P.check ≠ some false)
    (hv : ∀ id x, (.leaf id, x) ∈ (matcherMatch E root rm).vb → E.p.valueChecks.lookup id ≠ some false)
    (hcond : E.p.cond = true) :
    ∃ r, patternMatch E root rm = some r ∧ r.nodes = (matcherMatch E root rm).nodes ∧
      r.outputs = (matcherMatch E root rm).outputs := by
  unfold patternMatch
  have h1 : ∀ r : Result, r.nb = (matcherMatch E root rm).nb → checksPass E.p r = true := by
    intro r hr
    unfold checksPass
    simp only [List.all_eq_true, hr]
    intro kv hkv
    cases hP : E.p.nodes[kv.1]? with
    | none => rfl
    | some P => simpa using hn kv.1 kv.2 hkv P hP
  have h2 : ∀ r : Result, r.vb = (matcherMatch E root rm).vb → valueChecksPass E.p r = true := by
    intro r hr
    unfold valueChecksPass
    simp only [List.all_eq_true, hr]
    rintro ⟨k, v⟩ hkv
    cases k with
    | outp a b => rfl
    | leaf id => simpa using hv id v hkv
  refine ⟨{ matcherMatch E root rm with
    bindings := bindInputs E.p.inputs (matcherMatch E root rm).bindings }, ?_, rfl, rfl⟩
  dsimp only
  rw [if_neg (by simp [hok]), if_neg (by simp [h1]), if_neg (by simp [h2]), if_neg (by simp [hcond])]

theorem patternMatch_none_of_not_ok (E : Env) (root : NodeId) (rm : Bool)
    (hok : (matcherMatch E root rm).ok = false) : patternMatch E root rm = none := by
  unfold patternMatch
  simp [hok]

/-- when the matcher's result is that of a successful run of the output-node loop whose final state `c` agrees with
`A` and binds the pattern outputs: `Pattern.match` reports a match without the removability test, and with it
exactly when the nodes found are removable -/
theorem patternMatch_complete_of_run (E : Env) (A : Assign) (root : NodeId) (hcond : E.p.cond = true)
    (hchk : ChecksPass E.p A) {c : Partial} {outs : List Bound} (ok : c.ok = true) (s : SubS [c] A)
    (ho : outputValues E.p c = some outs) (hmm : ∀ rm, matcherMatch E root rm = finish E rm (true, [c])) :
    ∃ r, patternMatch E root false = some r ∧
      ((patternMatch E root true).isSome = true ↔ Removable E.g r.nodes r.outputs) := by
  obtain ⟨_, sv, sn⟩ := s.top
  have hf : matcherMatch E root false = Result.ofPartial c outs := by
    rw [hmm]; unfold finish
    simp [topPartial, ho]
  have ht : matcherMatch E root true =
      if validToReplace E.g c.nodes outs then Result.ofPartial c outs
      else Result.ofPartial { c with ok := false } [] := by
    rw [hmm]; unfold finish
    simp only [topPartial, ho, Bool.not_true, Bool.false_eq_true, if_false, Bool.true_and]
    cases validToReplace E.g c.nodes outs <;> simp
  obtain ⟨r, hr, hrn, hro⟩ := patternMatch_of_ok E root false (by rw [hf]; exact ok)
    (by rw [hf]; exact fun k x h P => hchk.nodes k x P (sn k x h))
    (by rw [hf]; exact fun id x h => hchk.values id x (sv _ x h)) hcond
  refine ⟨r, hr, ?_⟩
  rw [hrn, hro, hf]
  dsimp only [Result.ofPartial]
  cases hvr : validToReplace E.g c.nodes outs with
  | false =>
    have hnone : patternMatch E root true = none :=
      patternMatch_none_of_not_ok E root true (by rw [ht, hvr]; rfl)
    simp only [hnone, Option.isSome_none, Bool.false_eq_true, false_iff]
    intro hrem
    rw [removable_validToReplace _ _ _ hrem] at hvr
    cases hvr
  | true =>
    rw [hvr, if_pos rfl] at ht
    obtain ⟨r', hr', _⟩ := patternMatch_of_ok E root true (by rw [ht]; exact ok)
      (by rw [ht]; exact fun k x h P => hchk.nodes k x P (sn k x h))
      (by rw [ht]; exact fun id x h => hchk.values id x (sv _ x h)) hcond
    simp only [hr', Option.isSome_some, true_iff]
    exact validToReplace_removable _ _ _ hvr

/-- a recursive node matcher that is sound (`NodeSpecS`) and complete, below `f`, for what `SNA` describes under
the one assignment `A` (the form of `NodeCSt`, `NodeCL`) -/
theorem NodeSpecE.ofS {Ar : Prop} {E : Env} {A : Assign} {rec : NPId → NodeId → Stack → R} {f : Nat}
    {SNA : NPId → NodeId → Prop} (hS : NodeSpecS E rec)
    (hC : ∀ np n rest c P, np < f → SNA np n → c.ok = true → SubS (c :: rest) A → InvS E rest c P →
      FreshP rest c → (∀ x ∈ P, np < x) →
      ∃ c', rec np n (c :: rest) = (true, c' :: rest) ∧ c'.ok = true ∧ SubS (c' :: rest) A) :
    NodeSpecE Ar (fun _ => True) E True (fun A' np n => A' = A ∧ SNA np n) f rec :=
  fun np n rest c P hinv hlt hf =>
    ⟨(hS.toE np n rest c P hinv hlt hf).1,
     fun ⟨_, _, hl⟩ _ ⟨hA, hs⟩ ok s => hA ▸ hC np n rest c P hl hs ok (hA ▸ s) (hinv trivial) hf hlt⟩

theorem matchAlts_completeS (E : Env) (A : Assign) (rec : NPId → NodeId → Stack → R) (f : Nat)
    (hrecS : NodeSpecS E rec) (hrecC : NodeCSt E A rec f) (hf3 : E.fixF3 = true) :
    ∀ (alts : List VPat) (tags : List Int) (tagVar : Option String) (v : Option ValueId) (rest : Stack)
      (c : Partial) (P : List NPId) (i : Nat) (ai : VPat),
      alts[i]? = some ai → SatV E A ai v →
      (∀ t, tagVar = some t → A.names t = some (.tag (tags.getD i 0))) →
      (∀ j, j < i → ∀ aj, alts[j]? = some aj → Unsat E aj v) →
      c.ok = true → SubS (c :: rest) A → InvS E rest c P → FreshP rest c →
      backOkL alts = true → exclL E alts → nuL alts = true →
      (∀ q ∈ refsL alts, ∀ x ∈ P, q < x) → (∀ q ∈ refsL alts, q < f) →
      ∃ c', matchAlts E rec alts tags tagVar v (c :: rest) = (true, c' :: rest) ∧ c'.ok = true ∧
        SubS (c' :: rest) A :=
  fun alts tags tagVar v rest c P i ai hi hsa ht hun hok h hinv hfr hbk hex hnu hqP hqf =>
    (matchAlts_exact (Ar := True) guard_true (NodeSpecE.ofS hrecS hrecC) hf3 alts tags tagVar v rest c P (.inr hbk)
      (fun _ => hinv) hfr hqP).2 ⟨fun _ => trivial, trivial, hbk, .inr hnu, hqf⟩ A
      ⟨i, ai, hi, (satV_exclG hsa (satV_exclG.exclL_get hex hi)).mono fun _ _ h => ⟨rfl, h⟩, ht, hun⟩ hok h

theorem matchAlts_completeL (E : Env) (A : Assign) (rec : NPId → NodeId → Stack → R) (f : Nat)
    (hrecS : NodeSpecS E rec) (hrecC : NodeCL E A rec f) (hf3 : E.fixF3 = true) :
    ∀ (alts : List VPat) (tags : List Int) (tagVar : Option String) (v : Option ValueId) (rest : Stack)
      (c : Partial) (P : List NPId) (i : Nat) (ai : VPat),
      alts[i]? = some ai → SatVL E A ai v →
      (∀ t, tagVar = some t → A.names t = some (.tag (tags.getD i 0))) →
      (∀ j, j < i → ∀ aj, alts[j]? = some aj → Unsat E aj v) →
      c.ok = true → SubS (c :: rest) A → InvS E rest c P → FreshP rest c →
      backOkL alts = true → nuL alts = true →
      (∀ q ∈ refsL alts, ∀ x ∈ P, q < x) → (∀ q ∈ refsL alts, q < f) →
      ∃ c', matchAlts E rec alts tags tagVar v (c :: rest) = (true, c' :: rest) ∧ c'.ok = true ∧
        SubS (c' :: rest) A :=
  fun alts tags tagVar v rest c P i ai hi hsa ht hun hok h hinv hfr hbk hnu hqP hqf =>
    (matchAlts_exact (Ar := True) guard_true (NodeSpecE.ofS hrecS hrecC) hf3 alts tags tagVar v rest c P (.inr hbk)
      (fun _ => hinv) hfr hqP).2 ⟨fun _ => trivial, trivial, hbk, .inr hnu, hqf⟩ A
      ⟨i, ai, hi, hsa.toG.mono fun _ _ h => ⟨rfl, h⟩, ht, hun⟩ hok h

/-- one run of the output-node loop on a combination whose nodes `A` satisfies leftmost: its final state agrees with
`A` (completeness half) and satisfies the output nodes, so it binds the pattern outputs (soundness half).  Neither
half needs the arity hypothesis; the repaired `merge` is needed only where there is something to merge -/
theorem multiMatch_complete (E : Env) (A : Assign) (combo : List NodeId)
    (hm : E.fixF3 = true ∨ E.p.dispOk = true) (hbk : E.p.backOk = true) (hnu : E.fixF2 = false ∨ E.p.nuOk)
    (htopo : E.p.topoDeep) (houts : OutputsOfOutputNodes E.p) (hlen : E.p.outputNodes.length ≤ combo.length)
    (hsat : ∀ np n, (np, n) ∈ E.p.outputNodes.zip combo → SatNL E A np n) :
    ∃ c outs, c.ok = true ∧ SubS [c] A ∧ outputValues E.p c = some outs ∧
      ∀ rm, multiMatch E rm combo = finish E rm (true, [c]) := by
  -- the completeness clause does not depend on the arity marker: the walk is read at `Ar := False`
  obtain ⟨⟨c', r1, _, q1⟩, hC⟩ := matchOutputNodes_exact (Ar := False) guard_true hm (.inr hbk) htopo nofun
    (E.p.outputNodes.zip combo) {} (InvG.empty _ E) (FreshP.empty [])
  obtain ⟨c, e, ok, s⟩ := hC ⟨fun _ => trivial, ⟨hbk, hnu⟩, fun np n hmem =>
    Nat.lt_succ_of_lt (satN_bounds (hsat np n hmem).toSatN).1⟩ A hsat rfl (SubS.single A)
  cases r1.eq e
  have s1 := fun np n hm => satN_mono (assignStack_single c') ((q1 (by rw [e])).2 trivial np n hm)
  obtain ⟨outs, ho⟩ := outputOf_of_outputNodes (A := assignOf c') houts fun q hq => by
    obtain ⟨i, hi⟩ := List.mem_iff_getElem?.1 hq
    have hic : i < combo.length := Nat.lt_of_lt_of_le (List.getElem?_eq_some_iff.1 hi).1 hlen
    exact ⟨combo[i], s1 q _ (List.mem_iff_getElem?.2
      ⟨i, List.getElem?_zip_eq_some.2 ⟨hi, List.getElem?_eq_getElem hic⟩⟩)⟩
  exact ⟨c', outs, ok, s, outputValues_eq .. ▸ ho, fun rm => by unfold multiMatch; rw [e]⟩

/-- with one output node the combination is `[root]` -/
theorem patternMatch_complete_leftmost_of (E : Env) (A : Assign) (root : NodeId) (np0 : NPId)
    (hm : E.fixF3 = true ∨ E.p.dispOk = true) (hbk : E.p.backOk = true) (hnu : E.fixF2 = false ∨ E.p.nuOk)
    (htopo : E.p.topoDeep) (hsingle : E.p.outputNodes = [np0])
    (hroot : OutputsOfRoot E.p np0) (hinstL : InstanceL E root A) (hchk : ChecksPass E.p A) :
    ∃ r, patternMatch E root false = some r ∧
      ((patternMatch E root true).isSome = true ↔ Removable E.g r.nodes r.outputs) := by
  obtain ⟨c, outs, ok, s, ho, hmm⟩ := multiMatch_complete E A [root] hm hbk hnu htopo (hroot.toNodes hsingle)
    (by simp [hsingle]) fun np n hmem => by
      simp only [hsingle, List.zip_cons_cons, List.zip_nil_right, List.mem_singleton, Prod.mk.injEq] at hmem
      obtain ⟨rfl, rfl⟩ := hmem
      exact hinstL.2 np (by simp [hsingle]) n (hinstL.1.rootNode np (by simp [hsingle]))
  exact patternMatch_complete_of_run E A root hinstL.1.cond hchk ok s ho fun rm => by
    rw [← hmm, multiMatch_single E rm root hsingle]; unfold matcherMatch; simp only [hsingle]

theorem patternMatch_complete_leftmost (E : Env) (A : Assign) (root : NodeId) (np0 : NPId) (hf3 : E.fixF3 = true)
    (hbk : E.p.backOk = true) (hnu : E.p.nuOk) (htopo : E.p.topoDeep)
    (har : E.fixF1 = true ∨ OutputArityOk E.p E.g) (hsingle : E.p.outputNodes = [np0])
    (hroot : OutputsOfRoot E.p np0) (hinstL : InstanceL E root A) (hchk : ChecksPass E.p A) :
    ∃ r, patternMatch E root false = some r ∧
      ((patternMatch E root true).isSome = true ↔ Removable E.g r.nodes r.outputs) :=
  patternMatch_complete_leftmost_of E A root np0 (.inl hf3) hbk (.inr hnu) htopo hsingle hroot hinstL hchk

theorem patternMatch_complete_or (E : Env) (A : Assign) (root : NodeId) (np0 : NPId) (hf3 : E.fixF3 = true)
    (hbk : E.p.backOk = true) (hex : GPat.exclOk E) (htopo : E.p.topoDeep)
    (har : E.fixF1 = true ∨ OutputArityOk E.p E.g) (hsingle : E.p.outputNodes = [np0])
    (hroot : OutputsOfRoot E.p np0) (hinst : Instance E root A) (hchk : ChecksPass E.p A) :
    ∃ r, patternMatch E root false = some r ∧
      ((patternMatch E root true).isSome = true ↔ Removable E.g r.nodes r.outputs) :=
  patternMatch_complete_leftmost E A root np0 hf3 hbk (exclOk_nuOk hex) htopo har hsingle hroot
    (instance_leftmost_of_excl hex hinst) hchk

theorem patternMatch_iff_instance (E : Env) (root : NodeId) (np0 : NPId) (hf3 : E.fixF3 = true)
    (hbk : E.p.backOk = true) (hex : GPat.exclOk E) (htopo : E.p.topoDeep)
    (har : E.fixF1 = true ∨ OutputArityOk E.p E.g) (hsingle : E.p.outputNodes = [np0])
    (hroot : OutputsOfRoot E.p np0) :
    ((patternMatch E root false).isSome = true ↔ ∃ A, Instance E root A ∧ ChecksPass E.p A) ∧
    ((patternMatch E root true).isSome = true ↔
      ∃ r, patternMatch E root false = some r ∧ Removable E.g r.nodes r.outputs) := by
  have sound : ∀ {rm r}, patternMatch E root rm = some r → Instance E root r.assign ∧ ChecksPass E.p r.assign :=
    fun hr => let ⟨hi, hc, _⟩ := patternMatch_sound_all E root _ _ (.inl hf3) htopo har hr; ⟨hi, hc⟩
  have complete := fun A (hA : Instance E root A ∧ ChecksPass E.p A) =>
    patternMatch_complete_or E A root np0 hf3 hbk hex htopo har hsingle hroot hA.1 hA.2
  refine ⟨⟨fun h => ?_, fun ⟨A, hA⟩ => ?_⟩, fun h => ?_, fun ⟨r, hr, hrem⟩ => ?_⟩
  · obtain ⟨r, hr⟩ := Option.isSome_iff_exists.1 h
    exact ⟨r.assign, sound hr⟩
  · obtain ⟨r, hr, _⟩ := complete A hA
    simp [hr]
  · obtain ⟨r', hr'⟩ := Option.isSome_iff_exists.1 h
    obtain ⟨r, hr, hiff⟩ := complete r'.assign (sound hr')
    exact ⟨r, hr, hiff.1 h⟩
  · obtain ⟨r2, hr2, hiff⟩ := complete r.assign (sound hr)
    cases hr.symm.trans hr2
    exact hiff.2 hrem

end OV.C06
