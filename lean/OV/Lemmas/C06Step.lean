import OV.Model.C06Spec
import OV.Lemmas.Util
/-!
  C06 — the matcher's state as the proofs see it.

  * the order on partial matches (`Le`, `Ext`) and on assignments (`ALe`), under which `SatV`/`SatN` are monotone;
  * the assignment read through the whole stack (`assignStack`) and freshness of keys across the
    stack (`FreshP`), which makes `merge` invisible to every lookup;
  * `Step`: the outcome of a matcher function run on `c :: rest`, with one rule for the skeleton all
    matcher functions are written in (`let r := f st; if !r.1 then r else k r.2`);
  * `SubS`: the stack agrees with an assignment; `StepE`: `Step`, and towards which assignments the run is bound
    to succeed — the exact outcome, proved by one analysis of each matcher function.
-/
namespace OV.C06

def assignOf (c : Partial) : Assign :=
  { names := fun k => c.bindings.lookup k
    node := fun np => c.nb.lookup np
    leaf := fun k => c.vb.lookup k }

structure Le (c c' : Partial) : Prop where
  b : ∀ k x, c.bindings.lookup k = some x → c'.bindings.lookup k = some x
  v : ∀ k x, c.vb.lookup k = some x → c'.vb.lookup k = some x
  n : ∀ k x, c.nb.lookup k = some x → c'.nb.lookup k = some x
  ok : c'.ok = true → c.ok = true := by first | exact id | exact (fun h => Bool.noConfusion h) | (intro h; simpa using h)

theorem Le.refl (c : Partial) : Le c c := ⟨fun _ _ h => h, fun _ _ h => h, fun _ _ h => h, id⟩

theorem Le.trans {a b c : Partial} (h1 : Le a b) (h2 : Le b c) : Le a c :=
  ⟨fun k x h => h2.b k x (h1.b k x h), fun k x h => h2.v k x (h1.v k x h),
   fun k x h => h2.n k x (h1.n k x h), fun h => h1.ok (h2.ok h)⟩

structure ALe (A A' : Assign) : Prop where
  names : ∀ k x, A.names k = some x → A'.names k = some x
  node : ∀ k x, A.node k = some x → A'.node k = some x
  leaf : ∀ k x, A.leaf k = some x → A'.leaf k = some x

theorem Le.toALe {c c' : Partial} (h : Le c c') : ALe (assignOf c) (assignOf c') :=
  ⟨h.b, h.n, h.v⟩

theorem boundTo_mono {A A' : Assign} (h : ALe A A') (p : GPat) (vp : VPat) (v : Option ValueId) :
    A.boundTo p vp v → A'.boundTo p vp v := by
  unfold Assign.boundTo
  split
  · exact h.names _ _
  · split
    · exact h.leaf _ _
    · exact id

theorem attrsSat_mono {A A' : Assign} (h : ALe A A') (P : NPat) (N : GNode) :
    attrsSat A P N → attrsSat A' P N :=
  fun hs => ⟨fun name ap hm => ⟨(hs.1 name ap hm).1, fun nm hn => h.names _ _ ((hs.1 name ap hm).2 nm hn)⟩, hs.2⟩

def clrStr (n : NPat) : NPat := { n with opIsStr := false }

theorem clrStr_fields {P1 P2 : NPat} (h : clrStr P1 = clrStr P2) :
    P1.domain = P2.domain ∧ P1.op = P2.op ∧ P1.inputs = P2.inputs ∧ P1.attrs = P2.attrs ∧
    P1.allowOtherAttrs = P2.allowOtherAttrs ∧ P1.allowOtherInputs = P2.allowOtherInputs ∧
    P1.outputs = P2.outputs ∧ P1.check = P2.check := by
  unfold clrStr at h
  simp only [NPat.mk.injEq] at h
  exact ⟨h.1, h.2.1, h.2.2.2.1, h.2.2.2.2.1, h.2.2.2.2.2.1, h.2.2.2.2.2.2.1, h.2.2.2.2.2.2.2.1, h.2.2.2.2.2.2.2.2⟩

section
variable {E : Env} {p2 : GPat} {A A' : Assign} (h : ALe A A')
  (hb : ∀ vp v, A'.boundTo E.p vp v → A'.boundTo p2 vp v)
  (hP : ∀ (np : NPId) (P : NPat), E.p.nodes[np]? = some P → ∃ P', p2.nodes[np]? = some P' ∧ clrStr P = clrStr P')
include h hb hP

theorem satN_mk_map {np : NPId} {n : NodeId} {P : NPat} {N : GNode} (h1 : E.p.nodes[np]? = some P)
    (h2 : E.g.nodes[n]? = some N) (h3 : A.node np = some n) (h4 : P.op.matches N.op = true)
    (h5 : P.domain.matches N.domain = true) (h6 : attrsSat A P N)
    (h7 : N.inputs.length ≤ P.inputs.length ∨ P.allowOtherInputs = true)
    (h8 : ∀ i : Nat, P.inputs[i]? = some none → inputAt N i = none)
    (h9 : ∀ (i : Nat) (vp : VPat), P.inputs[i]? = some (some vp) → SatV { E with p := p2 } A' vp (inputAt N i))
    (h10 : ∀ i, i < P.outputs.length → ∃ x, N.outputs[i]? = some x ∧ A.boundTo E.p (.out np i) (some x)) :
    SatN { E with p := p2 } A' np n := by
  obtain ⟨P', hP', he⟩ := hP np P h1
  obtain ⟨fd, fo, fi, fa, faa, fai, fout, _⟩ := clrStr_fields he
  refine .mk np n P' N hP' h2 (h.node _ _ h3) (fo ▸ h4) (fd ▸ h5) ?_ (by rw [← fi, ← fai]; exact h7)
    (fun i hi => h8 i (fi ▸ hi)) (fun i vp hi => h9 i vp (fi ▸ hi))
    (fun i hi => let ⟨x, e1, e2⟩ := h10 i (fout ▸ hi); ⟨x, e1, hb _ _ (boundTo_mono h _ _ _ e2)⟩)
  unfold attrsSat at h6 ⊢
  rw [← fa, ← faa]
  exact ⟨fun name ap hm => ⟨(h6.1 name ap hm).1, fun nm hn => h.names _ _ ((h6.1 name ap hm).2 nm hn)⟩, h6.2⟩

/-- `SatV`/`SatN` read the assignment only through `boundTo`, `names` and `node`, and the pattern only through
`boundTo` and the fields of the node patterns other than the `str`-op flag: they pass to a larger assignment
and to a pattern that agrees on these -/
theorem satV_map {vp : VPat} {v : Option ValueId} (hs : SatV E A vp v) : SatV { E with p := p2 } A' vp v :=
  hs.rec (motive_1 := fun vp v _ => SatV { E with p := p2 } A' vp v)
    (motive_2 := fun np n _ => SatN { E with p := p2 } A' np n)
    (any := fun v => .any v)
    (var := fun id name isVar canNone check v hb0 h1 h2 =>
      .var id name isVar canNone check v (hb _ _ (boundTo_mono h _ _ _ hb0)) h1 h2)
    (const := fun id c x cv hb0 h1 h2 => .const id c x cv (hb _ _ (boundTo_mono h _ _ _ hb0)) h1 h2)
    (out := fun np idx x n hb0 hf hp hi _ ih => .out np idx x n (hb _ _ (boundTo_mono h _ _ _ hb0)) hf hp hi ih)
    (orD := fun id name tagVar alts x a hb0 hf hd _ ht ih =>
      .orD id name tagVar alts x a (hb _ _ (boundTo_mono h _ _ _ hb0)) hf hd ih (fun t e => h.names _ _ (ht t e)))
    (orB := fun id name tagVar tags alts v i alt hb0 hf ha _ ht ih =>
      .orB id name tagVar tags alts v i alt (hb _ _ (boundTo_mono h _ _ _ hb0)) hf ha ih
        (fun t e => h.names _ _ (ht t e)))
    (mk := fun _ _ _ _ h1 h2 h3 h4 h5 h6 h7 h8 _ h10 ih => satN_mk_map h hb hP h1 h2 h3 h4 h5 h6 h7 h8 ih h10)

theorem satN_map {np : NPId} {n : NodeId} : SatN E A np n → SatN { E with p := p2 } A' np n
  | .mk _ _ _ _ h1 h2 h3 h4 h5 h6 h7 h8 h9 h10 =>
    satN_mk_map h hb hP h1 h2 h3 h4 h5 h6 h7 h8 (fun i vp e => satV_map h hb hP (h9 i vp e)) h10

end

theorem satV_mono {E : Env} {A A' : Assign} (h : ALe A A') {vp : VPat} {v : Option ValueId}
    (hs : SatV E A vp v) : SatV E A' vp v :=
  satV_map h (fun _ _ x => x) (fun _ P hP => ⟨P, hP, rfl⟩) hs

theorem satN_mono {E : Env} {A A' : Assign} (h : ALe A A') {np : NPId} {n : NodeId}
    (hs : SatN E A np n) : SatN E A' np n :=
  satN_map h (fun _ _ x => x) (fun _ P hP => ⟨P, hP, rfl⟩) hs

structure Ext (c c' : Partial) : Prop where
  le : Le c c'
  nb : c'.nb = c.nb
  nodes : c'.nodes = c.nodes

theorem Ext.refl (c : Partial) : Ext c c := ⟨Le.refl c, rfl, rfl⟩
theorem Ext.trans {a b c : Partial} (h1 : Ext a b) (h2 : Ext b c) : Ext a c :=
  ⟨h1.le.trans h2.le, h2.nb.trans h1.nb, h2.nodes.trans h1.nodes⟩

theorem ext_failed (c : Partial) : Ext c { c with ok := false } :=
  ⟨⟨fun _ _ h => h, fun _ _ h => h, fun _ _ h => h, fun h => Bool.noConfusion h⟩, rfl, rfl⟩

theorem findSome?_reverse_cons {α β} (f : α → Option β) (c : α) (rest : List α) :
    (c :: rest).reverse.findSome? f = (rest.reverse.findSome? f).or (f c) := by
  simp [List.findSome?_append]

theorem lookupBinding_cons (c : Partial) (rest : Stack) (k : String) :
    lookupBinding (c :: rest) k = (lookupBinding rest k).or (c.bindings.lookup k) :=
  findSome?_reverse_cons _ c rest
theorem lookupVB_cons (c : Partial) (rest : Stack) (k : VKey) :
    lookupVB (c :: rest) k = (lookupVB rest k).or (c.vb.lookup k) :=
  findSome?_reverse_cons _ c rest
theorem lookupNode_cons (c : Partial) (rest : Stack) (k : NPId) :
    lookupNode (c :: rest) k = (lookupNode rest k).or (c.nb.lookup k) :=
  findSome?_reverse_cons _ c rest

@[simp] theorem lookupBinding_single (c : Partial) (k : String) :
    lookupBinding [c] k = c.bindings.lookup k := lookupBinding_cons c [] k
@[simp] theorem lookupVB_single (c : Partial) (k : VKey) : lookupVB [c] k = c.vb.lookup k :=
  lookupVB_cons c [] k
@[simp] theorem lookupNode_single (c : Partial) (k : NPId) : lookupNode [c] k = c.nb.lookup k :=
  lookupNode_cons c [] k

theorem or_some_of_some {α} {a b : Option α} {x : α} (h : b = some x → True) :
    ∀ {b' : Option α}, (b = some x → b' = some x) → (a.or b = some x → a.or b' = some x) := by
  intro b' hb hab
  cases a with
  | some y => simpa using hab
  | none => simp at hab ⊢; exact hb hab

/-- the assignment carried by a stack of partial matches: the matcher's own lookups -/
def assignStack (st : Stack) : Assign :=
  { names := fun k => lookupBinding st k
    node := fun np => lookupNode st np
    leaf := fun k => lookupVB st k }

theorem Le.toALeS {c c' : Partial} (h : Le c c') (rest : Stack) :
    ALe (assignStack (c :: rest)) (assignStack (c' :: rest)) := by
  refine ⟨fun k x hk => ?_, fun k x hk => ?_, fun k x hk => ?_⟩
  · show lookupBinding (c' :: rest) k = some x
    rw [lookupBinding_cons]
    exact or_some_of_some (fun _ => trivial) (h.b k x) (lookupBinding_cons c rest k ▸ hk)
  · show lookupNode (c' :: rest) k = some x
    rw [lookupNode_cons]
    exact or_some_of_some (fun _ => trivial) (h.n k x) (lookupNode_cons c rest k ▸ hk)
  · show lookupVB (c' :: rest) k = some x
    rw [lookupVB_cons]
    exact or_some_of_some (fun _ => trivial) (h.v k x) (lookupVB_cons c rest k ▸ hk)

theorem assignStack_single (c : Partial) : ALe (assignStack [c]) (assignOf c) :=
  ⟨fun k _ h => (lookupBinding_single c k).symm.trans h, fun k _ h => (lookupNode_single c k).symm.trans h,
   fun k _ h => (lookupVB_single c k).symm.trans h⟩

theorem lookup_snoc_self {α β} [BEq α] [LawfulBEq α] (l : List (α × β)) (k : α) (b : β)
    (h : l.lookup k = none) : (l ++ [(k, b)]).lookup k = some b := by
  simp [List.lookup_append, h, List.lookup]

theorem dictUpd_fresh {α β} [BEq α] [LawfulBEq α] (d : List (α × β)) (k : α) (b : β)
    (h : d.lookup k = none) : dictUpd d k b = d ++ [(k, b)] := by
  unfold dictUpd
  have : d.any (fun kv => kv.1 == k) = false :=
    List.any_eq_false.2 fun kv hkv he => by simpa [eq_of_beq he] using List.lookup_eq_none_iff.1 h kv hkv
  simp [this]

theorem lookup_snoc {α β} [BEq α] [LawfulBEq α] (l : List (α × β)) (k k' : α) (b x : β)
    (h : (l ++ [(k, b)]).lookup k' = some x) : l.lookup k' = some x ∨ (k' = k ∧ x = b) := by
  simp only [List.lookup_append, List.lookup] at h
  cases h1 : l.lookup k' with
  | some y => simp [h1] at h; exact .inl (by rw [h])
  | none =>
    simp only [h1, Option.none_or] at h
    split at h
    · next he => cases h; exact .inr ⟨by simpa using he, rfl⟩
    · cases h

theorem lookup_append_none {α β} [BEq α] (l1 l2 : List (α × β)) (k : α)
    (h1 : l1.lookup k = none) (h2 : l2.lookup k = none) : (l1 ++ l2).lookup k = none := by
  simp [List.lookup_append, h1, h2]

theorem mem_keys_lookup_none_ne {α β} [BEq α] [LawfulBEq α] (l : List (α × β)) (k k' : α) (x : β)
    (hm : (k', x) ∈ l) (hn : l.lookup k = none) : k' ≠ k :=
  fun he => by simpa [he] using List.lookup_eq_none_iff.1 hn _ hm

theorem foldl_dictUpd_append {α β} [BEq α] [LawfulBEq α] : ∀ (l2 l1 : List (α × β)),
    (∀ kv ∈ l2, l1.lookup kv.1 = none) → (l2.map (·.1)).Nodup →
    l2.foldl (fun d kv => dictUpd d kv.1 kv.2) l1 = l1 ++ l2
  | [], l1, _, _ => (List.append_nil l1).symm
  | (k, b) :: tl, l1, hfr, hnd => by
    simp only [List.map_cons, List.nodup_cons] at hnd
    rw [List.foldl_cons, dictUpd_fresh l1 k b (hfr (k, b) (List.mem_cons_self ..)),
      foldl_dictUpd_append tl (l1 ++ [(k, b)]) ?_ hnd.2, List.append_assoc, List.singleton_append]
    intro kv hkv
    refine lookup_append_none _ _ _ (hfr kv (List.mem_cons_of_mem _ hkv)) ?_
    have hne : (kv.1 == k) = false := beq_false_of_ne fun he => hnd.1 (List.mem_map.2 ⟨kv, hkv, he⟩)
    simp [List.lookup, hne]

/-- `f` stands for the lookup through the partial matches below (`lookupBinding rest` and the like); with
fresh distinct keys `dict.update` appends -/
theorem fresh_append {α β} [BEq α] [LawfulBEq α] {f : α → Option β} {l1 l2 : List (α × β)}
    (h1 : ∀ k x, (k, x) ∈ l1 → f k = none) (d1 : (l1.map (·.1)).Nodup)
    (h2 : ∀ k x, (k, x) ∈ l2 → (f k).or (l1.lookup k) = none) (d2 : (l2.map (·.1)).Nodup) :
    l2.foldl (fun d kv => dictUpd d kv.1 kv.2) l1 = l1 ++ l2 ∧
      (∀ k x, (k, x) ∈ l1 ++ l2 → f k = none) ∧ ((l1 ++ l2).map (·.1)).Nodup := by
  have h2' : ∀ kv ∈ l2, l1.lookup kv.1 = none := fun kv hkv => (Option.or_eq_none_iff.1 (h2 kv.1 kv.2 hkv)).2
  refine ⟨foldl_dictUpd_append l2 l1 h2' d2,
    fun k x hm => (List.mem_append.1 hm).elim (h1 k x) fun h => (Option.or_eq_none_iff.1 (h2 k x h)).1, ?_⟩
  rw [List.map_append, List.nodup_append]
  refine ⟨d1, d2, fun a ha b hb => ?_⟩
  obtain ⟨⟨a, x⟩, hax, rfl⟩ := List.mem_map.1 ha
  obtain ⟨kv, hkv, rfl⟩ := List.mem_map.1 hb
  exact mem_keys_lookup_none_ne l1 kv.1 a x hax (h2' kv hkv)

theorem fresh_snoc {α β} [BEq α] [LawfulBEq α] {f : α → Option β} {l : List (α × β)} {k : α} {b : β}
    (hl : ∀ k' x, (k', x) ∈ l → f k' = none) (hd : (l.map (·.1)).Nodup)
    (h : (f k).or (l.lookup k) = none) :
    (∀ k' x, (k', x) ∈ l ++ [(k, b)] → f k' = none) ∧ ((l ++ [(k, b)]).map (·.1)).Nodup :=
  (fresh_append hl hd (fun k' x hm => by cases List.mem_singleton.1 hm; exact h) (by simp)).2

theorem getD_tail (tags : List Int) (i : Nat) : tags.tail.getD i 0 = tags.getD (i + 1) 0 := by
  cases tags <;> simp

/-- every key of the current partial match is unbound in the partial matches below it, and bound once -/
structure FreshP (rest : Stack) (c : Partial) : Prop where
  b : ∀ k x, (k, x) ∈ c.bindings → lookupBinding rest k = none
  v : ∀ k x, (k, x) ∈ c.vb → lookupVB rest k = none
  n : ∀ k x, (k, x) ∈ c.nb → lookupNode rest k = none
  bd : (c.bindings.map (·.1)).Nodup
  vd : (c.vb.map (·.1)).Nodup
  nd : (c.nb.map (·.1)).Nodup
  nbn : c.nodes = c.nb.map (·.2)

theorem FreshP.empty (rest : Stack) : FreshP rest ({} : Partial) :=
  ⟨fun _ _ h => by simp at h, fun _ _ h => by simp at h, fun _ _ h => by simp at h,
   by simp, by simp, by simp, rfl⟩

theorem FreshP.failed {rest : Stack} {c : Partial} (h : FreshP rest c) : FreshP rest { c with ok := false } :=
  ⟨h.b, h.v, h.n, h.bd, h.vd, h.nd, h.nbn⟩

structure Res (c : Partial) (r : R) (c' : Partial) : Prop where
  st : r.2 = [c']
  okT : r.1 = true → c'.ok = c.ok
  okF : r.1 = false → c'.ok = false

theorem fail_single (c : Partial) : fail [c] = (false, [{ c with ok := false }]) := rfl

theorem Res.failed (c : Partial) : Res c (fail [c]) { c with ok := false } :=
  ⟨rfl, nofun, fun _ => rfl⟩

structure ResS (rest : Stack) (r : R) (c' : Partial) : Prop where
  st : r.2 = c' :: rest
  okF : r.1 = false → c'.ok = false

theorem fail_cons (c : Partial) (rest : Stack) : fail (c :: rest) = (false, { c with ok := false } :: rest) := rfl

theorem ResS.failed (rest : Stack) (c : Partial) : ResS rest (fail (c :: rest)) { c with ok := false } :=
  ⟨rfl, fun _ => rfl⟩

theorem ResS.chain {rest : Stack} {c1 c2 : Partial} {r2 : R} (h2 : ResS rest r2 c2) : ResS rest r2 c2 := h2

/-- `ResS`, except that `False` is known to come with a failed partial match only under `Ar`.  Before repair
C06-F1 the output loop of `_match_node` returns `False` without failing the match when the node has too few
outputs; `Ar` stands for "that branch is not met" (the arity hypothesis of the statements about `Pattern.match`).
Only this clause of the outcome of a step depends on it, and only the output loop looks at it. -/
structure ResA (Ar : Prop) (rest : Stack) (r : R) (c' : Partial) : Prop where
  st : r.2 = c' :: rest
  okF : Ar → r.1 = false → c'.ok = false

theorem ResS.toA {Ar : Prop} {rest : Stack} {r : R} {c' : Partial} (h : ResS rest r c') : ResA Ar rest r c' :=
  ⟨h.st, fun _ => h.okF⟩

theorem ResA.toS {Ar : Prop} {rest : Stack} {r : R} {c' : Partial} (h : ResA Ar rest r c') (har : Ar) :
    ResS rest r c' :=
  ⟨h.st, h.okF har⟩

theorem ResA.true_of_ok {Ar : Prop} {rest : Stack} {r : R} {c' : Partial} (h : ResA Ar rest r c') (har : Ar)
    (hok : c'.ok = true) : r.1 = true := by
  cases hr : r.1 with
  | true => rfl
  | false => rw [h.okF har hr] at hok; cases hok

theorem ResA.eq {Ar : Prop} {rest : Stack} {r : R} {c' c'' : Partial} {b : Bool} (h : ResA Ar rest r c')
    (e : r = (b, c'' :: rest)) : c'' = c' :=
  (List.cons.inj ((congrArg Prod.snd e).symm.trans h.st)).1

/-- a way for the current partial match to change during a step -/
class Growth (Rel : Partial → Partial → Prop) : Prop where
  refl (c : Partial) : Rel c c
  trans {a b c : Partial} : Rel a b → Rel b c → Rel a c
  failed (c : Partial) : Rel c { c with ok := false }

/-- change by a binding step: no node is bound -/
structure GrowsB (rest : Stack) (c c' : Partial) : Prop where
  ext : Ext c c'
  fresh : FreshP rest c → FreshP rest c'

structure Grows (rest : Stack) (c c' : Partial) : Prop where
  le : Le c c'
  fresh : FreshP rest c → FreshP rest c'

instance (rest : Stack) : Growth (GrowsB rest) :=
  ⟨fun c => ⟨Ext.refl c, id⟩, fun h1 h2 => ⟨h1.ext.trans h2.ext, fun h => h2.fresh (h1.fresh h)⟩,
   fun c => ⟨ext_failed c, FreshP.failed⟩⟩

instance (rest : Stack) : Growth (Grows rest) :=
  ⟨fun c => ⟨Le.refl c, id⟩, fun h1 h2 => ⟨h1.le.trans h2.le, fun h => h2.fresh (h1.fresh h)⟩,
   fun c => ⟨(ext_failed c).le, FreshP.failed⟩⟩

theorem GrowsB.grows {rest : Stack} {c c' : Partial} (h : GrowsB rest c c') : Grows rest c c' :=
  ⟨h.ext.le, h.fresh⟩

/-- `r` is the outcome of a matcher function run on `c :: rest`: the stack below the current partial
match is untouched, the current one has changed to some `c'` by `Rel`; `Q c'` if `True` was returned, and
(under `Ar`) `c'` is failed if `False` was -/
def Step (Ar : Prop) (Rel : Partial → Partial → Prop) (rest : Stack) (c : Partial) (r : R) (Q : Partial → Prop) :
    Prop :=
  ∃ c', ResA Ar rest r c' ∧ Rel c c' ∧ (r.1 = true → Q c')

section
variable {Ar : Prop} {Rel : Partial → Partial → Prop} [Growth Rel] {rest : Stack} {c : Partial}
  {Q Q' : Partial → Prop}

theorem Step.ret (h : Q c) : Step Ar Rel rest c (true, c :: rest) Q :=
  ⟨c, ⟨rfl, nofun⟩, Growth.refl c, fun _ => h⟩

theorem Step.fail : Step Ar Rel rest c (fail (c :: rest)) Q :=
  ⟨_, (ResS.failed rest c).toA, Growth.failed c, nofun⟩

theorem Step.test {b : Bool} {r : R} (h : ¬ b = true → Step Ar Rel rest c r Q) :
    Step Ar Rel rest c (if b then C06.fail (c :: rest) else r) Q := by
  cases b
  · exact h nofun
  · exact .fail

/-- the matcher's sequencing `let r := f st; if !r.1 then r else k r`: go on with `k` if the first step
returned `True`, else return its result.  (`r` is kept a variable so that `k` can be read off the goal:
`generalize h : f st = r; revert r` first.) -/
theorem Step.bind {Q1 : Partial → Prop} {e : R} {k : R → R} (h1 : Step Ar Rel rest c e Q1)
    (h2 : ∀ c1, Rel c c1 → Q1 c1 → Step Ar Rel rest c1 (k (true, c1 :: rest)) Q) :
    ∀ r, e = r → Step Ar Rel rest c (if !r.1 then r else k r) Q := by
  rintro ⟨b, s⟩ rfl
  obtain ⟨c1, ⟨st, okF⟩, g1, q1⟩ := h1
  cases st
  cases b
  · exact ⟨c1, ⟨rfl, okF⟩, g1, nofun⟩
  · obtain ⟨c2, r2, g2, q2⟩ := h2 c1 g1 (q1 rfl)
    exact ⟨c2, r2, Growth.trans g1 g2, q2⟩

end

section
variable {Ar : Prop} {rest : Stack} {c : Partial} {Q Q' : Partial → Prop} {r : R}

theorem Step.after {Rel : Partial → Partial → Prop} [Growth Rel] {c0 : Partial} (g : Rel c c0)
    (h : Step Ar Rel rest c0 r Q) : Step Ar Rel rest c r Q :=
  let ⟨c', hr, g', q⟩ := h; ⟨c', hr, Growth.trans g g', q⟩

theorem Step.mono {Rel : Partial → Partial → Prop} (h : Step Ar Rel rest c r Q)
    (hq : ∀ c', Rel c c' → Q c' → Q' c') : Step Ar Rel rest c r Q' :=
  let ⟨c', hr, g, q⟩ := h; ⟨c', hr, g, fun ht => hq c' g (q ht)⟩

/-- a binding step seen as a matching step; the continuation still learns that no node was bound -/
theorem Step.ofB (h : Step Ar (GrowsB rest) rest c r Q) : Step Ar (Grows rest) rest c r (fun c' => Ext c c' ∧ Q c') :=
  let ⟨c', hr, g, q⟩ := h; ⟨c', hr, g.grows, fun ht => ⟨g.ext, q ht⟩⟩

/-- the form in which `C06Sound` states a matching step (`NodeSpecS`, `matchAlts_specS`) -/
theorem Step.leFresh (h : Step Ar (Grows rest) rest c r Q) (har : Ar) (hf : FreshP rest c) :
    ∃ c', ResS rest r c' ∧ Le c c' ∧ FreshP rest c' ∧ (r.1 = true → Q c') :=
  let ⟨c', hr, g, q⟩ := h; ⟨c', hr.toS har, g.le, g.fresh hf, q⟩

theorem Step.ofLeFresh (h : ∃ c', ResS rest r c' ∧ Le c c' ∧ FreshP rest c' ∧ (r.1 = true → Q c')) :
    Step Ar (Grows rest) rest c r Q :=
  let ⟨c', hr, l, f, q⟩ := h; ⟨c', hr.toA, ⟨l, fun _ => f⟩, q⟩

end

/-- every binding held anywhere in the stack is what `A` says -/
structure SubS (st : Stack) (A : Assign) : Prop where
  b : ∀ p ∈ st, ∀ k x, (k, x) ∈ p.bindings → A.names k = some x
  v : ∀ p ∈ st, ∀ k x, (k, x) ∈ p.vb → A.leaf k = some x
  n : ∀ p ∈ st, ∀ k x, (k, x) ∈ p.nb → A.node k = some x

theorem stackLookup_mem {α β} [BEq α] [LawfulBEq α] (f : Partial → List (α × β)) {st : Stack} {k : α}
    {x : β} (h : st.reverse.findSome? (fun c => (f c).lookup k) = some x) : ∃ p ∈ st, (k, x) ∈ f p :=
  let ⟨p, hp, hl⟩ := List.exists_of_findSome?_eq_some h
  ⟨p, List.mem_reverse.1 hp, List.lookup_mem hl⟩

theorem lookupNode_mem : ∀ (st : Stack) (k : NPId) (x : NodeId),
    lookupNode st k = some x → ∃ p ∈ st, (k, x) ∈ p.nb :=
  fun _ _ _ => stackLookup_mem (·.nb)

theorem SubS.names {st : Stack} {A : Assign} (h : SubS st A) {k : String} {x : Bound}
    (hl : lookupBinding st k = some x) : A.names k = some x :=
  let ⟨p, hp, hm⟩ := stackLookup_mem (·.bindings) hl
  h.b p hp k x hm

theorem SubS.leaf {st : Stack} {A : Assign} (h : SubS st A) {k : VKey} {x : Option ValueId}
    (hl : lookupVB st k = some x) : A.leaf k = some x :=
  let ⟨p, hp, hm⟩ := stackLookup_mem (·.vb) hl
  h.v p hp k x hm

theorem SubS.node {st : Stack} {A : Assign} (h : SubS st A) {k : NPId} {x : NodeId}
    (hl : lookupNode st k = some x) : A.node k = some x :=
  let ⟨p, hp, hm⟩ := lookupNode_mem st k x hl
  h.n p hp k x hm

theorem SubS.setTop {c c' : Partial} {rest : Stack} {A : Assign} (h : SubS (c :: rest) A)
    (hb : ∀ k x, (k, x) ∈ c'.bindings → A.names k = some x)
    (hv : ∀ k x, (k, x) ∈ c'.vb → A.leaf k = some x)
    (hn : ∀ k x, (k, x) ∈ c'.nb → A.node k = some x) : SubS (c' :: rest) A :=
  ⟨List.forall_mem_cons.2 ⟨hb, fun p hp => h.b p (List.mem_cons_of_mem _ hp)⟩,
   List.forall_mem_cons.2 ⟨hv, fun p hp => h.v p (List.mem_cons_of_mem _ hp)⟩,
   List.forall_mem_cons.2 ⟨hn, fun p hp => h.n p (List.mem_cons_of_mem _ hp)⟩⟩

theorem SubS.top {c : Partial} {rest : Stack} {A : Assign} (h : SubS (c :: rest) A) :
    (∀ k x, (k, x) ∈ c.bindings → A.names k = some x) ∧ (∀ k x, (k, x) ∈ c.vb → A.leaf k = some x) ∧
      (∀ k x, (k, x) ∈ c.nb → A.node k = some x) :=
  ⟨h.b c (List.mem_cons_self ..), h.v c (List.mem_cons_self ..), h.n c (List.mem_cons_self ..)⟩

theorem SubS.push {c : Partial} {rest : Stack} {A : Assign} (h : SubS (c :: rest) A) :
    SubS (({} : Partial) :: c :: rest) A :=
  ⟨List.forall_mem_cons.2 ⟨fun _ _ hm => (nomatch hm), h.b⟩,
   List.forall_mem_cons.2 ⟨fun _ _ hm => (nomatch hm), h.v⟩,
   List.forall_mem_cons.2 ⟨fun _ _ hm => (nomatch hm), h.n⟩⟩

theorem SubS.single (A : Assign) : SubS [({} : Partial)] A :=
  ⟨List.forall_mem_cons.2 ⟨fun _ _ hm => (nomatch hm), fun _ hp => (nomatch hp)⟩,
   List.forall_mem_cons.2 ⟨fun _ _ hm => (nomatch hm), fun _ hp => (nomatch hp)⟩,
   List.forall_mem_cons.2 ⟨fun _ _ hm => (nomatch hm), fun _ hp => (nomatch hp)⟩⟩

theorem agree_snoc {α β} {f : α → Option β} {l : List (α × β)} {k : α} {b : β}
    (h : ∀ k x, (k, x) ∈ l → f k = some x) (hk : f k = some b) :
    ∀ k' x, (k', x) ∈ l ++ [(k, b)] → f k' = some x := by
  intro k' x hx
  rcases List.mem_append.1 hx with h1 | he
  · exact h _ _ h1
  · cases List.mem_singleton.1 he; exact hk

/-! ## The exact outcome of a matcher step

What a run does to the state (`Step`), and towards which assignments it is bound to succeed: from a successful
state that agrees with an assignment `A` having `N` — what the step is after — the run returns `True` into a
successful state that still agrees with `A`, provided the conditions `C` on the run hold (none for the binding
steps other than `bindValue2`).  The two clauses are proved by one analysis of the function: a branch that fails
says why no assignment the state agrees with has `N`, a branch that binds says why the new entry is what `A`
says. -/

def StepE (Ar : Prop) (Rel : Partial → Partial → Prop) (rest : Stack) (c : Partial) (r : R) (Q : Partial → Prop)
    (C : Prop) (N : Assign → Prop) : Prop :=
  Step Ar Rel rest c r Q ∧ (C → ∀ A, N A → c.ok = true → SubS (c :: rest) A →
    ∃ c', r = (true, c' :: rest) ∧ c'.ok = true ∧ SubS (c' :: rest) A)

section
variable {Ar : Prop} {Rel : Partial → Partial → Prop} [Growth Rel] {rest : Stack} {c : Partial}
  {Q : Partial → Prop} {C : Prop} {N : Assign → Prop}

theorem StepE.ret (h : Q c) : StepE Ar Rel rest c (true, c :: rest) Q C N :=
  ⟨.ret h, fun _ _ _ ok s => ⟨c, rfl, ok, s⟩⟩

theorem StepE.fail (h : C → ∀ A, N A → SubS (c :: rest) A → False) : StepE Ar Rel rest c (fail (c :: rest)) Q C N :=
  ⟨.fail, fun hC A hN _ s => (h hC A hN s).elim⟩

theorem StepE.test {b : Bool} {r : R} (hb : C → ∀ A, N A → SubS (c :: rest) A → ¬ b = true)
    (h : ¬ b = true → StepE Ar Rel rest c r Q C N) :
    StepE Ar Rel rest c (if b then C06.fail (c :: rest) else r) Q C N := by
  cases b
  · exact h nofun
  · exact .fail fun hC A hN s => hb hC A hN s rfl

theorem StepE.bind {Q1 : Partial → Prop} {C1 : Prop} {N1 : Assign → Prop} {e : R} {k : R → R}
    (h1 : StepE Ar Rel rest c e Q1 C1 N1) (hC : C → C1) (hN : ∀ A, N A → N1 A)
    (h2 : ∀ c1, Rel c c1 → Q1 c1 → StepE Ar Rel rest c1 (k (true, c1 :: rest)) Q C N) :
    ∀ r, e = r → StepE Ar Rel rest c (if !r.1 then r else k r) Q C N := by
  rintro r rfl
  refine ⟨h1.1.bind (fun c1 g q => (h2 c1 g q).1) _ rfl, fun hc A hA ok s => ?_⟩
  obtain ⟨c1, e1, ok1, s1⟩ := h1.2 (hC hc) A (hN A hA) ok s
  obtain ⟨c1', r1, g1, q1⟩ := h1.1
  cases r1.eq e1
  rw [e1]
  exact (h2 c1 g1 (q1 (by rw [e1]))).2 hc A hA ok1 s1

theorem StepE.after {c0 : Partial} {r : R} (g : Rel c c0) (h : StepE Ar Rel rest c0 r Q C N)
    (hc : ∀ A, N A → c.ok = true → SubS (c :: rest) A → c0.ok = true ∧ SubS (c0 :: rest) A) :
    StepE Ar Rel rest c r Q C N :=
  ⟨h.1.after g, fun hC A hA ok s => let ⟨ok0, s0⟩ := hc A hA ok s; h.2 hC A hA ok0 s0⟩

end

section
variable {Ar : Prop} {rest : Stack} {c : Partial} {Q Q' : Partial → Prop} {C C' : Prop} {N N' : Assign → Prop}
  {r : R}

theorem StepE.mono {Rel : Partial → Partial → Prop} (h : StepE Ar Rel rest c r Q C N)
    (hq : ∀ c', Rel c c' → Q c' → Q' c') (hc : C' → C) (hn : ∀ A, N' A → N A) : StepE Ar Rel rest c r Q' C' N' :=
  ⟨h.1.mono hq, fun hC A hA => h.2 (hc hC) A (hn A hA)⟩

theorem StepE.ofB (h : StepE Ar (GrowsB rest) rest c r Q C N) :
    StepE Ar (Grows rest) rest c r (fun c' => Ext c c' ∧ Q c') C N :=
  ⟨h.1.ofB, h.2⟩

/-- the binding steps other than the output loop do not depend on the arity condition -/
theorem StepE.ar {Rel : Partial → Partial → Prop} (h : StepE True Rel rest c r Q C N) : StepE Ar Rel rest c r Q C N :=
  let ⟨⟨c', hr, g, q⟩, hc⟩ := h; ⟨⟨c', ⟨hr.st, fun _ => hr.okF trivial⟩, g, q⟩, hc⟩

theorem StepE.ofStep {Rel : Partial → Partial → Prop} (h : Step Ar Rel rest c r Q) (hN : C → ∀ A, ¬ N A) :
    StepE Ar Rel rest c r Q C N :=
  ⟨h, fun hC A hA => (hN hC A hA).elim⟩

end

theorem FreshP.snocB {rest : Stack} {c : Partial} {k : String} (b : Bound) (hf : FreshP rest c)
    (h : lookupBinding (c :: rest) k = none) : FreshP rest { c with bindings := c.bindings ++ [(k, b)] } :=
  have ⟨h1, h2⟩ := fresh_snoc (b := b) hf.b hf.bd (lookupBinding_cons c rest k ▸ h)
  ⟨h1, hf.v, hf.n, h2, hf.vd, hf.nd, hf.nbn⟩

theorem FreshP.snocV {rest : Stack} {c : Partial} {k : VKey} (v : Option ValueId) (hf : FreshP rest c)
    (h : lookupVB (c :: rest) k = none) : FreshP rest { c with vb := c.vb ++ [(k, v)] } :=
  have ⟨h1, h2⟩ := fresh_snoc (b := v) hf.v hf.vd (lookupVB_cons c rest k ▸ h)
  ⟨hf.b, h1, hf.n, hf.bd, h2, hf.nd, hf.nbn⟩

theorem FreshP.snocN {rest : Stack} {c : Partial} {np : NPId} (n : NodeId) (hf : FreshP rest c)
    (h : lookupNode (c :: rest) np = none) :
    FreshP rest { c with nodes := c.nodes ++ [n], nb := c.nb ++ [(np, n)] } :=
  have ⟨h1, h2⟩ := fresh_snoc (b := n) hf.n hf.nd (lookupNode_cons c rest np ▸ h)
  ⟨hf.b, hf.v, h1, hf.bd, hf.vd, h2, by simp [hf.nbn]⟩

/-- `MatchResult.bind` -/
theorem bind_stepE (rest : Stack) (c : Partial) (k : String) (b : Bound) :
    StepE True (GrowsB rest) rest c (bind (c :: rest) k b)
      (fun c' => c'.ok = c.ok ∧ lookupBinding (c' :: rest) k = some b) True (fun A => A.names k = some b) := by
  unfold bind
  cases hl : lookupBinding (c :: rest) k with
  | some b' =>
    dsimp only
    split
    · next h => exact .ret ⟨rfl, eq_of_beq h ▸ hl⟩
    · next h => exact .fail fun _ A hA s => h (by simpa using Option.some.inj ((s.names hl).symm.trans hA))
  | none =>
    have hc := (Option.or_eq_none_iff.1 (lookupBinding_cons c rest k ▸ hl)).2
    refine ⟨⟨{ c with bindings := c.bindings ++ [(k, b)] }, ⟨rfl, nofun⟩,
      ⟨⟨⟨fun _ _ h => (List.prefix_append _ _).lookup_eq_some h, fun _ _ h => h, fun _ _ h => h, id⟩, rfl, rfl⟩,
        fun hf => hf.snocB b hl⟩, fun _ => ⟨rfl, ?_⟩⟩,
      fun _ A hA ok s => let ⟨tb, tv, tn⟩ := s.top; ⟨_, rfl, ok, s.setTop (agree_snoc tb hA) tv tn⟩⟩
    rw [lookupBinding_cons] at hl ⊢
    rw [(Option.or_eq_none_iff.1 hl).1]
    exact lookup_snoc_self _ _ _ hc

/-- `MatchResult.bind_value` -/
theorem bindValue_stepE (p : GPat) (rest : Stack) (c : Partial) (vp : VPat) (v : Option ValueId) :
    StepE True (GrowsB rest) rest c (bindValue p (c :: rest) vp v)
      (fun c' => c'.ok = c.ok ∧ (assignStack (c' :: rest)).boundTo p vp v) True (fun A => A.boundTo p vp v) := by
  unfold bindValue Assign.boundTo
  rcases p.vname vp with _ | nm <;> dsimp only
  · rcases vp.key with _ | k <;> dsimp only
    · exact .ret ⟨rfl, trivial⟩
    · cases hl : lookupVB (c :: rest) k with
      | some v' =>
        dsimp only
        split
        · next h => exact .ret ⟨rfl, eq_of_beq h ▸ hl⟩
        · next h => exact .fail fun _ A hA s => h (by simpa using Option.some.inj ((s.leaf hl).symm.trans hA))
      | none =>
        have hc := (Option.or_eq_none_iff.1 (lookupVB_cons c rest k ▸ hl)).2
        refine ⟨⟨{ c with vb := c.vb ++ [(k, v)] }, ⟨rfl, nofun⟩,
          ⟨⟨⟨fun _ _ h => h, fun _ _ h => (List.prefix_append _ _).lookup_eq_some h, fun _ _ h => h, id⟩, rfl, rfl⟩,
            fun hf => hf.snocV v hl⟩, fun _ => ⟨rfl, ?_⟩⟩,
          fun _ A hA ok s => let ⟨tb, tv, tn⟩ := s.top; ⟨_, rfl, ok, s.setTop tb (agree_snoc tv hA) tn⟩⟩
        show lookupVB (_ :: rest) k = some v
        rw [lookupVB_cons] at hl ⊢
        rw [(Option.or_eq_none_iff.1 hl).1]
        exact lookup_snoc_self _ _ _ hc
  · exact bind_stepE rest c nm (Bound.ofVal v)

/-- with repair C06-F2 a named pattern carrying a checker is recorded in `value_bindings` under its
object id, which the declarative assignment does not constrain; completeness is stated for patterns
whose named variables carry no checker (checkers of unnamed patterns are unrestricted) -/
def NamedUnchecked (p : GPat) (vp : VPat) : Prop := (p.vname vp).isSome = true → vp.check = none

/-- `bind_value` with repair C06-F2: the extra `value_bindings` entry of a named pattern changes nothing
the pattern is looked up by; it is made only for a named pattern with a checker, which no assignment is
waiting for -/
theorem bindValue2_stepE (fix2 : Bool) (p : GPat) (rest : Stack) (c : Partial) (vp : VPat)
    (v : Option ValueId) :
    StepE True (GrowsB rest) rest c (bindValue2 fix2 p (c :: rest) vp v)
      (fun c' => c'.ok = c.ok ∧ (assignStack (c' :: rest)).boundTo p vp v)
      (fix2 = false ∨ NamedUnchecked p vp) (fun A => A.boundTo p vp v) := by
  obtain ⟨⟨c1, r1, g1, b1⟩, c1C⟩ := bindValue_stepE p rest c vp v
  unfold bindValue2
  dsimp only
  split
  · next hcond =>
    simp only [Bool.and_eq_true] at hcond
    refine .ofStep ?_ fun hC _ _ => ?_
    · split
      · next k hk =>
        rw [r1.st]
        split
        · next hnone =>
          refine ⟨{ c1 with vb := c1.vb ++ [(k, v)] }, ⟨rfl, nofun⟩, Growth.trans g1
            ⟨⟨⟨fun _ _ h => h, fun _ _ h => (List.prefix_append _ _).lookup_eq_some h, fun _ _ h => h, id⟩, rfl, rfl⟩,
              fun hf => hf.snocV v (Option.isNone_iff_eq_none.1 hnone)⟩, fun _ => ⟨(b1 hcond.1.1.2).1, ?_⟩⟩
          have hb := (b1 hcond.1.1.2).2
          obtain ⟨nm, hn⟩ := Option.isSome_iff_exists.1 hcond.1.2
          unfold Assign.boundTo at hb ⊢
          simp only [hn] at hb ⊢
          exact (lookupBinding_cons _ rest nm).trans ((lookupBinding_cons c1 rest nm).symm.trans hb)
        · exact ⟨c1, r1, g1, b1⟩
      · exact ⟨c1, r1, g1, b1⟩
    · rcases hC with h | h
      · simp [h] at hcond
      · simp [h hcond.1.2] at hcond
  · exact ⟨⟨c1, r1, g1, b1⟩, fun _ => c1C trivial⟩

theorem attrOk_of_not_bad {n : GNode} {name : String} {ap : APat} (h : ¬ attrBad n name ap = true) :
    attrOk n name ap := by
  unfold attrOk
  unfold attrBad at h
  revert h
  cases n.attr name <;> simp

theorem attrBad_of_ok {n : GNode} {name : String} {ap : APat} (h : attrOk n name ap) :
    attrBad n name ap = false := by
  unfold attrOk at h
  unfold attrBad
  split at h <;> simp [*]

theorem attrsLoop_stepE (n : GNode) (rest : Stack) : ∀ (l : List (String × APat)) (c : Partial),
    StepE True (GrowsB rest) rest c (attrsLoop n l (c :: rest))
      (fun c' => c'.ok = c.ok ∧ ∀ name ap, (name, ap) ∈ l → attrOk n name ap ∧
        ∀ nm, ap.name = some nm → lookupBinding (c' :: rest) nm = some (Bound.ofAttr (n.attr name)))
      True (fun A => ∀ name ap, (name, ap) ∈ l → attrOk n name ap ∧
        ∀ nm, ap.name = some nm → A.names nm = some (Bound.ofAttr (n.attr name)))
  | [], c => .ret ⟨rfl, nofun⟩
  | (name, ap) :: tl, c => by
    unfold attrsLoop
    refine .test (fun _ A hA _ hbad => by simp [attrBad_of_ok (hA name ap (List.mem_cons_self ..)).1] at hbad)
      fun hbad => ?_
    have hgood := attrOk_of_not_bad hbad
    have htl : ∀ A : Assign, (∀ name' ap', (name', ap') ∈ (name, ap) :: tl → attrOk n name' ap' ∧
        ∀ nm, ap'.name = some nm → A.names nm = some (Bound.ofAttr (n.attr name'))) →
        ∀ name' ap', (name', ap') ∈ tl → attrOk n name' ap' ∧
        ∀ nm, ap'.name = some nm → A.names nm = some (Bound.ofAttr (n.attr name')) :=
      fun _ h name' ap' hm => h name' ap' (List.mem_cons_of_mem _ hm)
    split
    · next nm hnm =>
      dsimp only
      generalize hr : bind (c :: rest) nm (Bound.ofAttr (n.attr name)) = r; revert r
      refine (bind_stepE ..).bind id (fun A hA => (hA name ap (List.mem_cons_self ..)).2 nm hnm)
        fun c1 _ ⟨ok1, b1⟩ => ?_
      refine (attrsLoop_stepE n rest tl c1).mono (fun c' g' ⟨ok', h'⟩ => ⟨ok'.trans ok1, fun name' ap' hm => ?_⟩) id htl
      rcases List.mem_cons.1 hm with he | hm
      · cases he
        exact ⟨hgood, fun nm' e => by cases hnm.symm.trans e; exact (g'.ext.le.toALeS rest).names _ _ b1⟩
      · exact h' name' ap' hm
    · next hnm =>
      refine (attrsLoop_stepE n rest tl c).mono (fun c' _ ⟨ok', h'⟩ => ⟨ok', fun name' ap' hm => ?_⟩) id htl
      rcases List.mem_cons.1 hm with he | hm
      · cases he
        exact ⟨hgood, fun nm' e => by cases hnm.symm.trans e⟩
      · exact h' name' ap' hm

/-- the guard of `NodePattern.matches` on attributes without a pattern does not fire on a node `A` satisfies -/
theorem otherAttrs_guard {A : Assign} {P : NPat} {N : GNode} (ha : attrsSat A P N) :
    (!P.allowOtherAttrs && N.attrs.any fun a => !P.attrs.any fun kv => kv.1 == a.name) = false := by
  cases hao : P.allowOtherAttrs with
  | true => rfl
  | false =>
    simp only [Bool.not_false, Bool.true_and, List.any_eq_false, Bool.not_eq_true']
    intro a ham hx
    obtain ⟨ap, hap⟩ := ha.2 hao a ham
    exact hx (a.name, ap) hap BEq.rfl

/-- `NodePattern.matches` -/
theorem nodeMatches_stepE (np : NPat) (n : GNode) (rest : Stack) (c : Partial) :
    StepE True (GrowsB rest) rest c (nodeMatches np n (c :: rest))
      (fun c' => c'.ok = c.ok ∧ np.op.matches n.op = true ∧ np.domain.matches n.domain = true ∧
        attrsSat (assignStack (c' :: rest)) np n)
      True (fun A => np.op.matches n.op = true ∧ np.domain.matches n.domain = true ∧ attrsSat A np n) := by
  unfold nodeMatches
  refine .test (fun _ A hA _ => by simp [hA.1]) fun hop => .test (fun _ A hA _ => by simp [hA.2.1]) fun hdom => ?_
  dsimp only
  generalize hr : attrsLoop n np.attrs (c :: rest) = r; revert r
  refine (attrsLoop_stepE ..).bind id (fun A hA => hA.2.2.1) fun c1 _ ⟨ok1, a1⟩ => ?_
  refine .test (fun _ A hA _ => by simp [otherAttrs_guard hA.2.2]) fun hx => ?_
  refine .ret ⟨ok1, by simpa using hop, by simpa using hdom, a1, fun hao a ha => ?_⟩
  simp only [hao, Bool.not_false, Bool.true_and, List.any_eq_true, Bool.not_eq_true',
    not_exists, not_and, Bool.not_eq_false] at hx
  obtain ⟨kv, hk1, hk2⟩ := hx a ha
  exact ⟨kv.2, (beq_iff_eq.1 hk2) ▸ hk1⟩

theorem matchConstant_stepE (E : Env) (k : ConstPat) (x : ValueId) (rest : Stack) (c : Partial) :
    StepE True (GrowsB rest) rest c (matchConstant E k x (c :: rest))
      (fun c' => c'.ok = c.ok ∧ ∃ cv, E.g.constOf x = some cv ∧ constOk E.close k cv = true)
      True (fun _ => ∃ cv, E.g.constOf x = some cv ∧ constOk E.close k cv = true) := by
  unfold matchConstant
  split
  · next hnone => exact .fail fun _ _ ⟨_, h1, _⟩ _ => by rw [hnone] at h1; cases h1
  next cv hcv =>
  split
  · next hok => exact .ret ⟨rfl, cv, hcv, hok⟩
  · next hok => exact .fail fun _ _ ⟨_, h1, h2⟩ _ => by cases hcv.symm.trans h1; exact hok h2

/-- the output loop of `_match_node`; before repair C06-F1 (`fix = false`) a missing output returned
`False` without failing the match: the one branch whose outcome is described only under `Ar` -/
theorem bindOutputs_stepE (fix : Bool) (p : GPat) (np : NPId) (gouts : List ValueId) (rest : Stack) :
    ∀ (outs : List (Option String)) (i : Nat) (c : Partial), (Ar → fix = true ∨ i + outs.length ≤ gouts.length) →
      StepE Ar (GrowsB rest) rest c (bindOutputs fix p np gouts outs i (c :: rest))
        (fun c' => c'.ok = c.ok ∧ ∀ j, i ≤ j → j < i + outs.length →
          ∃ x, gouts[j]? = some x ∧ (assignStack (c' :: rest)).boundTo p (.out np j) (some x))
        True (fun A => ∀ j, i ≤ j → j < i + outs.length →
          ∃ x, gouts[j]? = some x ∧ A.boundTo p (.out np j) (some x))
  | [], i, c, _ => .ret ⟨rfl, fun j h1 h2 => by simp at h2; omega⟩
  | _ :: tl, i, c, hlen => by
    unfold bindOutputs
    simp only [List.length_cons] at hlen
    split
    · next hnone =>
      have hN : ∀ A : Assign, (∀ j, i ≤ j → j < i + (tl.length + 1) →
          ∃ x, gouts[j]? = some x ∧ A.boundTo p (.out np j) (some x)) → False := fun A hA => by
        obtain ⟨x, hx, _⟩ := hA i (Nat.le_refl _) (by omega)
        rw [hnone] at hx
        cases hx
      cases fix
      · refine .ofStep ⟨c, ⟨rfl, fun har => ?_⟩, Growth.refl c, nofun⟩ (fun _ A hA => hN A hA)
        rcases hlen har with h | h
        · cases h
        · have : i < gouts.length := by omega
          simp at hnone
          omega
      · exact .fail fun _ A hA _ => hN A hA
    · next x hx =>
      dsimp only
      generalize hr : bindValue p (c :: rest) (.out np i) (some x) = r; revert r
      refine (bindValue_stepE ..).ar.bind id (fun A hA => by
        obtain ⟨x', hx', hb⟩ := hA i (Nat.le_refl _) (by simp)
        cases hx.symm.trans hx'
        exact hb) fun c1 _ ⟨ok1, b1⟩ => ?_
      refine (bindOutputs_stepE fix p np gouts rest tl (i + 1) c1 (fun h => (hlen h).imp id (by omega))).mono
        (fun c' g' ⟨ok', h'⟩ => ⟨ok'.trans ok1, fun j hj1 hj2 => ?_⟩)
        id (fun A hA j hj1 hj2 => hA j (by omega) (by simp only [List.length_cons]; omega))
      by_cases hji : j = i
      · subst hji
        exact ⟨x, hx, boundTo_mono (g'.ext.le.toALeS rest) _ _ _ b1⟩
      · exact h' j (by omega) (by simp only [List.length_cons] at hj2; omega)

/-! ## Sub-matches: `enter_new_match`, `merge_current_match` -/

theorem assignStack_push (rest : Stack) (c : Partial) :
    ALe (assignStack (c :: rest)) (assignStack (({} : Partial) :: c :: rest)) ∧
    ALe (assignStack (({} : Partial) :: c :: rest)) (assignStack (c :: rest)) ∧
    (∀ q, lookupNode (({} : Partial) :: c :: rest) q = lookupNode (c :: rest) q) :=
  have hb k : lookupBinding (({} : Partial) :: c :: rest) k = lookupBinding (c :: rest) k :=
    (lookupBinding_cons {} _ k).trans Option.or_none
  have hv k : lookupVB (({} : Partial) :: c :: rest) k = lookupVB (c :: rest) k :=
    (lookupVB_cons {} _ k).trans Option.or_none
  have hn k : lookupNode (({} : Partial) :: c :: rest) k = lookupNode (c :: rest) k :=
    (lookupNode_cons {} _ k).trans Option.or_none
  ⟨⟨fun k _ h => (hb k).trans h, fun k _ h => (hn k).trans h, fun k _ h => (hv k).trans h⟩,
    ⟨fun k _ h => (hb k).symm.trans h, fun k _ h => (hn k).symm.trans h, fun k _ h => (hv k).symm.trans h⟩, hn⟩

/-- merging a successful alternative into its parent (repaired `merge`): with fresh keys the lists are
appended and stay fresh -/
theorem mergeAll_spec (rest : Stack) (c cur : Partial) (hc : FreshP rest c) (hcur : FreshP (c :: rest) cur) :
    (c.mergeAll cur).bindings = c.bindings ++ cur.bindings ∧
    (c.mergeAll cur).vb = c.vb ++ cur.vb ∧ (c.mergeAll cur).nb = c.nb ++ cur.nb ∧
    (c.mergeAll cur).ok = c.ok ∧ FreshP rest (c.mergeAll cur) := by
  obtain ⟨e1, f1, n1⟩ := fresh_append hc.b hc.bd (fun k x h => lookupBinding_cons c rest k ▸ hcur.b k x h) hcur.bd
  obtain ⟨e2, f2, n2⟩ := fresh_append hc.v hc.vd (fun k x h => lookupVB_cons c rest k ▸ hcur.v k x h) hcur.vd
  obtain ⟨e3, f3, n3⟩ := fresh_append hc.n hc.nd (fun k x h => lookupNode_cons c rest k ▸ hcur.n k x h) hcur.nd
  have e1 : (c.mergeAll cur).bindings = c.bindings ++ cur.bindings := e1
  have e2 : (c.mergeAll cur).vb = c.vb ++ cur.vb := e2
  have e3 : (c.mergeAll cur).nb = c.nb ++ cur.nb := e3
  refine ⟨e1, e2, e3, rfl, ?_, ?_, ?_, ?_, ?_, ?_, ?_⟩
  · rwa [e1]
  · rwa [e2]
  · rwa [e3]
  · rwa [e1]
  · rwa [e2]
  · rwa [e3]
  · rw [e3, List.map_append, ← hc.nbn, ← hcur.nbn]
    rfl

theorem mergeAll_le (rest : Stack) (c cur : Partial) (hc : FreshP rest c) (hcur : FreshP (c :: rest) cur) :
    Le c (c.mergeAll cur) := by
  obtain ⟨e1, e2, e3, e4, _⟩ := mergeAll_spec rest c cur hc hcur
  exact ⟨fun k x h => by rw [e1, List.lookup_append, h]; rfl, fun k x h => by rw [e2, List.lookup_append, h]; rfl,
    fun k x h => by rw [e3, List.lookup_append, h]; rfl, fun h => e4 ▸ h⟩

theorem mergeAll_assign (rest : Stack) (c cur : Partial) (hc : FreshP rest c) (hcur : FreshP (c :: rest) cur) :
    ALe (assignStack (cur :: c :: rest)) (assignStack (c.mergeAll cur :: rest)) ∧
    (∀ q, lookupNode (c.mergeAll cur :: rest) q = lookupNode (cur :: c :: rest) q) := by
  obtain ⟨e1, e2, e3, _, _⟩ := mergeAll_spec rest c cur hc hcur
  have hb k : lookupBinding (c.mergeAll cur :: rest) k = lookupBinding (cur :: c :: rest) k := by
    rw [lookupBinding_cons, lookupBinding_cons, lookupBinding_cons, e1, List.lookup_append, Option.or_assoc]
  have hv k : lookupVB (c.mergeAll cur :: rest) k = lookupVB (cur :: c :: rest) k := by
    rw [lookupVB_cons, lookupVB_cons, lookupVB_cons, e2, List.lookup_append, Option.or_assoc]
  have hn k : lookupNode (c.mergeAll cur :: rest) k = lookupNode (cur :: c :: rest) k := by
    rw [lookupNode_cons, lookupNode_cons, lookupNode_cons, e3, List.lookup_append, Option.or_assoc]
  exact ⟨⟨fun k _ h => (hb k).trans h, fun k _ h => (hn k).trans h, fun k _ h => (hv k).trans h⟩, hn⟩

end OV.C06
