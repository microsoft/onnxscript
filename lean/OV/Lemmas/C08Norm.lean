import OV.Model.C08Norm
import OV.Lemmas.C08
/-! Lemmas behind `OV.Props.C08` for the functions of `OV.Model.C08Norm` (layer_norm, sort, addmm, baddbmm, glu): `expandableRev`
against ONNX broadcasting first, then the agreement of each `model` with its `spec`. -/
namespace OV.Lemmas.C08
open OV.C08

theorem bcastRev_eq_right_iff (c t : List Nat) : bcastRev c t = some t ↔ expandableRev c t = true := by
  induction c generalizing t with
  | nil => simp [bcastRev, expandableRev]
  | cons x xs ih =>
    cases t with
    | nil => simp [bcastRev, expandableRev]
    | cons y ys =>
      simp only [expandableRev, Bool.and_eq_true, Bool.or_eq_true, beq_iff_eq, ← ih]
      rw [bcastRev]
      generalize bcastRev xs ys = r
      by_cases e : x = y
      · subst e; cases r <;> simp
      · by_cases h1 : x = 1
        · subst h1; cases r <;> simp [e]
        · by_cases hy : y = 1 <;> cases r <;> simp [e, h1, hy] <;> omega

theorem lnOp_eq {s : Shape} {axis : Int} {a : Nat} (ha : normAxis s.length axis = some a) (w : Shape) (b : Option Shape)
    (hblk : numel (s.drop a) ≠ 0) (hw : numel w = numel (s.drop a)) (hb : b = none ∨ b.map numel = some (numel (s.drop a))) :
    layer_norm.lnOp s w b axis
      = some [s, s.take a ++ List.replicate (s.length - a) 1, s.take a ++ List.replicate (s.length - a) 1] := by
  simp only [layer_norm.lnOp, ha, hblk, hw, ne_eq, not_true_eq_false, if_false]
  rw [if_neg (fun hh => hh.2 (hb.resolve_left hh.1))]

theorem layer_norm_agrees (native : Bool) (s ns : Shape) (w b : Option Shape) (out : List Shape)
    (hne : numel ns ≠ 0) (h : layer_norm.spec native s ns w b = some out) :
    layer_norm.model native s ns.length w b = some out := by
  unfold layer_norm.spec at h
  simp only [ite_none_eq_some] at h
  obtain ⟨hk, hd, hw, hb, h⟩ := h
  have hd' : s.drop (s.length - ns.length) = ns := by simpa using hd
  have hw' : w = none ∨ w = some ns := by
    cases w with
    | none => exact .inl rfl
    | some ws => exact .inr (Classical.not_not.mp fun h2 => hw ⟨by simp, h2⟩)
  have hb' : b = none ∨ b.map numel = some (numel (s.drop (s.length - ns.length))) := by
    cases b with
    | none => exact .inl rfl
    | some bs => rw [Classical.not_not.mp fun h2 => hb ⟨by simp, h2⟩, hd']; exact .inr rfl
  unfold layer_norm.model
  rcases hw' with rfl | rfl <;> dsimp only <;>
    rw [lnOp_eq (normAxis_eq_some.mpr (by omega)) _ b (by rw [hd']; exact hne) (by simp [hd']) hb',
      show s.length - (s.length - ns.length) = ns.length by omega] <;>
    cases native <;> exact h

theorem sort_agrees (s : Shape) (dim : Int) (out : List Shape) (h : sort.spec s dim = some out) :
    sort.model s dim = some out := by
  obtain ⟨a, ha, rfl⟩ := Option.map_eq_some_iff.mp h
  unfold sort.model
  rcases torchDim_cases ha with ⟨hr, -⟩ | ⟨hr, han⟩
  · rw [if_pos hr, List.length_eq_zero_iff.mp hr]
  · simp only [hr, if_false, han, setAt_getD_self]

theorem baddbmm_agrees (c a b out : Shape) (h : baddbmm.spec c a b = some out) : baddbmm.model c a b = some out := by
  unfold baddbmm.spec at h
  split at h
  · next b1 m k b2 k' n =>
    obtain ⟨⟨rfl, rfl, he⟩, h'⟩ := ite_some_eq_some.mp h
    rw [← Option.some.inj h']
    unfold torchExpandable at he
    have this : bcastRev [n, m, b1] c.reverse = some [n, m, b1] := by
      simpa using (bcastRev_comm _ _).trans ((bcastRev_eq_right_iff _ _).mpr he)
    simp only [baddbmm.model, bmm_core, bcast2]
    simp [this]
  · cases h

theorem glu_agrees_partial (s : Shape) (dim : Int) (out : Shape)
    (hd : ∀ a, normAxis s.length dim = some a → s.getD a 0 ≠ 0)
    (h : glu.spec s dim = some out) : glu.model s dim = some out := by
  unfold glu.spec at h
  rw [ite_none_eq_some] at h
  obtain ⟨-, h⟩ := h
  split at h
  · cases h
  next a hn =>
  simp only [ite_none_eq_some, Option.some.injEq] at h
  obtain ⟨hev, rfl⟩ := h
  have hd0 := hd a hn
  -- an even non-empty axis is split into its two halves
  have hsp : splitNumOutputs (s.getD a 0) 2 = some [s.getD a 0 / 2, s.getD a 0 / 2] := by
    rw [splitNumOutputs_eq (by omega) (by omega) (by omega), show (s.getD a 0 + 2 - 1) / 2 = s.getD a 0 / 2 by omega,
      show s.getD a 0 - (2 - 1) * (s.getD a 0 / 2) = s.getD a 0 / 2 by omega]
    rfl
  simp only [glu.model, hn, hsp, bcast2, bcastRev_self]
  simp

theorem addmm_exact (c a b : Shape) : addmm.model c a b = addmm.spec c a b := by
  unfold addmm.model addmm.spec
  split
  · next m k k' n =>
    by_cases hk : k = k'
    · subst hk
      simp only [ne_eq, not_true_eq_false, if_false, true_and]
      by_cases he : torchExpandable c [m, n] = true
      · have this : bcastRev c.reverse [n, m] = some [n, m] := by
          simpa [torchExpandable] using (bcastRev_eq_right_iff _ _).mpr he
        simp [he, expandOp, this]
      · have : ¬ expandOp c [m, n] = some [m, n] := by
          intro hx
          apply he
          unfold torchExpandable
          apply (bcastRev_eq_right_iff _ _).mp
          have hx' : bcastRev c.reverse [n, m] = some [n, m] := by simpa [expandOp] using hx
          simpa using hx'
        simp [he, this]
    · simp [hk]
  · rfl

theorem addmm_agrees (c a b out : Shape) (h : addmm.spec c a b = some out) : addmm.model c a b = some out :=
  addmm_exact c a b ▸ h

end OV.Lemmas.C08
