import OV.Lemmas.C06Vocab
/-!
  C06 — what `BacktrackingOr` can be bound to find.  The matcher commits to the first alternative that succeeds,
  so it finds an instance whose choice at every `BacktrackingOr` is *leftmost*: no earlier alternative describes
  the value under any assignment (`Unsat`).  `SatVG` states this once, relative to whatever node-level relation
  the recursive node matcher is complete for; mutually exclusive alternatives (`VPat.excl`, here) and leftmost
  instances (`SatVL`, `C06Greedy`) are its two uses.  The walk (`C06Walk`) finds what `SatVG` describes.
-/
namespace OV.C06

def Unsat (E : Env) (vp : VPat) (v : Option ValueId) : Prop := ∀ A, ¬ SatV E A vp v

/-- no value satisfies two alternatives of the list: if a later one can be satisfied, every earlier one cannot -/
def ExclAlts (E : Env) (alts : List VPat) : Prop :=
  ∀ (v : Option ValueId) (i j : Nat) (ai aj : VPat), i < j → alts[i]? = some ai → alts[j]? = some aj →
    (∃ A, SatV E A aj v) → Unsat E ai v

mutual
/-- the alternatives of every `BacktrackingOr` inside the value pattern are mutually exclusive -/
def VPat.excl (E : Env) : VPat → Prop
  | .orB _ _ _ _ alts => ExclAlts E alts ∧ exclL E alts
  | _ => True
def exclL (E : Env) : List VPat → Prop
  | [] => True
  | a :: rest => a.excl E ∧ exclL E rest
end

mutual
/-- no *named* variable inside the value pattern carries a checker -/
def VPat.nu : VPat → Bool
  | .var _ name _ _ check => name.isNone || check.isNone
  | .orB _ _ _ _ alts => nuL alts
  | _ => true
def nuL : List VPat → Bool
  | [] => true
  | a :: rest => a.nu && nuL rest
end

/-- completeness of the recursive node matcher below `f`, from any state that agrees with `A` -/
def NodeCSt (E : Env) (A : Assign) (rec : NPId → NodeId → Stack → R) (f : Nat) : Prop :=
  ∀ np n rest c P, np < f → SatN E A np n → c.ok = true → SubS (c :: rest) A → InvS E rest c P →
    FreshP rest c → (∀ x ∈ P, np < x) →
    ∃ c', rec np n (c :: rest) = (true, c' :: rest) ∧ c'.ok = true ∧ SubS (c' :: rest) A

def NPat.exclOk (E : Env) (n : NPat) : Prop := ∀ vp, some vp ∈ n.inputs → vp.excl E ∧ vp.nu = true

/-- every `BacktrackingOr` of the pattern has mutually exclusive alternatives, and no named variable
carries a checker -/
def GPat.exclOk (E : Env) : Prop := ∀ P ∈ E.p.nodes, NPat.exclOk E P

/-- `SatV` relative to a node-level relation `SN`, with the leftmost choice at every `BacktrackingOr`.  The node
level is a parameter because `matchAlts_completeS` speaks of a recursive node matcher that is complete for plain
`SatN` (`NodeCSt`) under the exclusivity of these alternatives only, which `SatVL` (whose `out` rule is `SatNL`)
cannot express; the walk itself only ever takes `SN := SatNL`. -/
inductive SatVG (E : Env) (A : Assign) (SN : NPId → NodeId → Prop) : VPat → Option ValueId → Prop
  | any (v : Option ValueId) : SatVG E A SN .any v
  | var (id : Nat) (name : Option String) (isVar canNone : Bool) (check : Option Bool) (v : Option ValueId) :
      A.boundTo E.p (.var id name isVar canNone check) v →
      (v = none → canNone = true) →
      (∀ x, v = some x → E.g.isForeign x = true → isVar = true) →
      SatVG E A SN (.var id name isVar canNone check) v
  | const (id : Nat) (c : ConstPat) (x : ValueId) (cv : ConstVal) :
      A.boundTo E.p (.const id c) (some x) →
      E.g.constOf x = some cv → constOk E.close c cv = true →
      SatVG E A SN (.const id c) (some x)
  | out (np : NPId) (idx : Nat) (x : ValueId) (n : NodeId) :
      A.boundTo E.p (.out np idx) (some x) →
      E.g.isForeign x = false →
      E.g.producer x = some n → E.g.index x = some idx →
      SN np n →
      SatVG E A SN (.out np idx) (some x)
  | orD (id : Nat) (name tagVar : Option String) (alts : List DAlt) (x : ValueId) (a : DAlt) :
      A.boundTo E.p (.orD id name tagVar alts) (some x) →
      E.g.isForeign x = false →
      getDispatch E.g alts x = some a →
      SatVG E A SN (.out a.np a.idx) (some x) →
      (∀ t, tagVar = some t → A.names t = some (.tag a.tag)) →
      SatVG E A SN (.orD id name tagVar alts) (some x)
  | orB (id : Nat) (name tagVar : Option String) (tags : List Int) (alts : List VPat) (v : Option ValueId)
      (i : Nat) (alt : VPat) :
      A.boundTo E.p (.orB id name tagVar tags alts) v →
      (∀ x, v = some x → E.g.isForeign x = false) →
      alts[i]? = some alt →
      SatVG E A SN alt v →
      (∀ t, tagVar = some t → A.names t = some (.tag (tags.getD i 0))) →
      (∀ j, j < i → ∀ aj, alts[j]? = some aj → Unsat E aj v) →
      SatVG E A SN (.orB id name tagVar tags alts) v

theorem SatVG.mono {E : Env} {A : Assign} {SN SN' : NPId → NodeId → Prop} (h : ∀ np n, SN np n → SN' np n)
    {vp : VPat} {v : Option ValueId} (hs : SatVG E A SN vp v) : SatVG E A SN' vp v := by
  induction hs with
  | any v => exact .any v
  | var id name isVar canNone check v hb h1 h2 => exact .var id name isVar canNone check v hb h1 h2
  | const id c x cv hb h1 h2 => exact .const id c x cv hb h1 h2
  | out np idx x n hb hf hp hi hn => exact .out np idx x n hb hf hp hi (h np n hn)
  | orD id name tagVar alts x a hb hf hd _ ht ih => exact .orD id name tagVar alts x a hb hf hd ih ht
  | orB id name tagVar tags alts v i alt hb hf ha _ ht hun ih =>
    exact .orB id name tagVar tags alts v i alt hb hf ha ih ht hun

theorem satVG_crossGraph {E : Env} {A : Assign} {SN : NPId → NodeId → Prop} {vp : VPat} {v : Option ValueId}
    (h : SatVG E A SN vp v) : crossGraphBad E.g vp v = false := by
  cases h with
  | any => exact crossGraphBad_false (vp := .any) fun _ _ _ => rfl
  | var _ _ _ _ _ _ _ _ h2 => exact crossGraphBad_false h2
  | const => exact crossGraphBad_false (vp := .const _ _) fun _ _ _ => rfl
  | out _ _ _ _ _ hf => exact crossGraphBad_own hf _
  | orD _ _ _ _ _ _ _ hf => exact crossGraphBad_own hf _
  | orB _ _ _ _ _ _ _ _ _ hf => exact crossGraphBad_false fun x hx hfo => by simp [hf x hx] at hfo

/-- with mutually exclusive alternatives every choice is leftmost -/
theorem satV_exclG {E : Env} {A : Assign} :
    ∀ {vp : VPat} {v : Option ValueId}, SatV E A vp v → vp.excl E → SatVG E A (SatN E A) vp v :=
  fun hs => hs.rec (motive_1 := fun vp v _ => vp.excl E → SatVG E A (SatN E A) vp v) (motive_2 := fun _ _ _ => True)
    (any := fun v _ => .any v)
    (var := fun id name isVar canNone check v hb h1 h2 _ => .var id name isVar canNone check v hb h1 h2)
    (const := fun id c x cv hb h1 h2 _ => .const id c x cv hb h1 h2)
    (out := fun np idx x n hb hf hp hi hn _ _ => .out np idx x n hb hf hp hi hn)
    (orD := fun id name tagVar alts x a hb hf hd _ ht ih _ => .orD id name tagVar alts x a hb hf hd (ih trivial) ht)
    (orB := fun id name tagVar tags alts v i alt hb hf ha hs ht ih he =>
      have he : ExclAlts E alts ∧ exclL E alts := by simpa only [VPat.excl] using he
      .orB id name tagVar tags alts v i alt hb hf ha (ih (exclL_get he.2 ha)) ht
        (fun j hj aj haj => he.1 v j i aj alt hj haj ha ⟨A, hs⟩))
    (mk := by intros; trivial)
where
  exclL_get {E : Env} : ∀ {alts : List VPat} {i : Nat} {a : VPat}, exclL E alts → alts[i]? = some a → a.excl E
    | [], _, _, _, h => by simp at h
    | b :: rest, 0, a, hex, h => by
      cases Option.some.inj (List.getElem?_cons_zero.symm.trans h)
      exact (exclL.eq_2 .. ▸ hex).1
    | b :: rest, i + 1, a, hex, h => exclL_get (exclL.eq_2 .. ▸ hex).2 (List.getElem?_cons_succ.symm.trans h)

theorem nu_namedUnchecked {p : GPat} {id : Nat} {name : Option String} {isVar canNone : Bool}
    {check : Option Bool} (hnu : (VPat.var id name isVar canNone check).nu = true) :
    NamedUnchecked p (.var id name isVar canNone check) := by
  intro hn
  simp only [VPat.nu, Bool.or_eq_true, Option.isNone_iff_eq_none] at hnu
  rcases hnu with rfl | rfl
  · cases hn
  · rfl

end OV.C06
