import OV.Lemmas.C12Autocast
/-! What held of the GraphBuilder constant cache while it was keyed by Python `==` (before 610a39a): two keys that are
`==` denote the same tensor element under every dtype unless one is a negative zero or a conversion is outside the
model (`pyEq_cast_same`).  Kept for the record beside `OV.Props.C12.cache_sound_prefix_refuted`; no other module rests
on it. -/
namespace OV.Autocast

theorem cross_div (n1 d1 n2 d2 : Nat) (h1 : 0 < d1) (h2 : 0 < d2) (h : n1 * d2 = n2 * d1) :
    n1 / d1 = n2 / d2 := by
  have a : n1 * d2 / (d1 * d2) = n1 / d1 := Nat.mul_div_mul_right n1 d1 h2
  have b : n2 * d1 / (d2 * d1) = n2 / d2 := Nat.mul_div_mul_right n2 d2 h1
  rw [← a, ← b, h, Nat.mul_comm d1 d2]

theorem cross_zero (n1 d1 n2 d2 : Nat) (h1 : 0 < d1) (h2 : 0 < d2) (h : n1 * d2 = n2 * d1) :
    n1 = 0 ↔ n2 = 0 := by
  constructor
  · intro hz; subst hz
    have : n2 * d1 = 0 := by omega
    rcases Nat.mul_eq_zero.mp this with h | h <;> omega
  · intro hz; subst hz
    have : n1 * d2 = 0 := by omega
    rcases Nat.mul_eq_zero.mp this with h | h <;> omega

/-- sign-insensitive: a zero carries no negative sign -/
def SIn (s : Bool) (n : Nat) : Prop := n = 0 → s = false

theorem signed_cross (s1 s2 : Bool) (n1 d1 n2 d2 : Nat) (h1 : 0 < d1) (h2 : 0 < d2)
    (h : signed s1 n1 * (d2 : Int) = signed s2 n2 * (d1 : Int)) (i1 : SIn s1 n1) (i2 : SIn s2 n2) :
    s1 = s2 ∧ n1 * d2 = n2 * d1 := by
  cases s1 <;> cases s2 <;> simp only [signed, Bool.false_eq_true, if_false, if_true] at h
  · exact ⟨rfl, by exact_mod_cast h⟩
  · rw [Int.neg_mul] at h
    have e : ((n1 * d2 : Nat) : Int) = -((n2 * d1 : Nat) : Int) := by push_cast; exact h
    have z : n2 * d1 = 0 := by omega
    rcases Nat.mul_eq_zero.mp z with hz | hz
    · exact absurd (i2 hz) (by decide)
    · omega
  · rw [Int.neg_mul] at h
    have e : -((n1 * d2 : Nat) : Int) = ((n2 * d1 : Nat) : Int) := by push_cast; exact h
    have z : n1 * d2 = 0 := by omega
    rcases Nat.mul_eq_zero.mp z with hz | hz
    · exact absurd (i1 hz) (by decide)
    · omega
  · rw [Int.neg_mul, Int.neg_mul] at h
    have e : ((n1 * d2 : Nat) : Int) = ((n2 * d1 : Nat) : Int) := by push_cast; omega
    exact ⟨rfl, by exact_mod_cast e⟩

/-- Two materialised elements denote the same number (floats: same sign — also of zero —, same
rounding path, same rational). -/
def SVal.eqv : SVal → SVal → Prop
  | .b x, .b y => x = y
  | .i x, .i y => x = y
  | .f s n d v, .f s' n' d' v' => s = s' ∧ v = v' ∧ n * d' = n' * d
  | .unmodelled, .unmodelled => True
  | _, _ => False

def resEqvS : Except Err SVal → Except Err SVal → Prop
  | .ok a, .ok b => a.eqv b
  | .error a, .error b => a = b
  | _, _ => False

def Scalar.norm : Scalar → Bool × Nat × Nat
  | .b v => (false, boolNat v, 1)
  | .i v => (decide (v < 0), v.natAbs, 1)
  | .f s n d => (s, n, d)

def Scalar.WF (x : Scalar) : Prop := 0 < x.norm.2.2
def Scalar.SI (x : Scalar) : Prop := SIn x.norm.1 x.norm.2.1
def Modelled (x : Scalar) (dt : DType) : Prop := npCast x dt ≠ .ok .unmodelled

theorem frac_norm (x : Scalar) : x.frac = (signed x.norm.1 x.norm.2.1, x.norm.2.2) := by
  cases x with
  | b v => cases v <;> rfl
  | i v => simp only [Scalar.frac, Scalar.norm, signed_natAbs]
  | f s n d => rfl

theorem npCast_norm (x : Scalar) (dt : DType) (hm : Modelled x dt) :
    npCast x dt = npCast (.f x.norm.1 x.norm.2.1 x.norm.2.2) dt := by
  cases x with
  | f s n d => rfl
  | b v =>
    have hs : signed false (boolNat v) = boolInt v := by cases v <;> rfl
    cases hc : dt.cls <;> simp only [npCast, hc, Scalar.norm, Nat.div_one, hs]
    · rw [if_pos (inRange_boolInt dt hc v)]
    · cases v <;> rfl
  | i v =>
    unfold Modelled at hm
    cases hc : dt.cls <;> simp only [npCast, hc, Scalar.norm, Nat.div_one, signed_natAbs, natAbs_bne] at hm ⊢
    split at hm
    · rename_i h; simp [h]
    · exact absurd rfl hm

theorem SVal.eqv_refl (v : SVal) : v.eqv v := by
  cases v <;> simp [SVal.eqv]

theorem resEqvS_refl (r : Except Err SVal) : resEqvS r r := by
  cases r with
  | ok v => exact SVal.eqv_refl v
  | error e => rfl

theorem npCastF_eqv (s : Bool) (n1 d1 n2 d2 : Nat) (h1 : 0 < d1) (h2 : 0 < d2)
    (hc : n1 * d2 = n2 * d1) (dt : DType) :
    resEqvS (npCast (.f s n1 d1) dt) (npCast (.f s n2 d2) dt) := by
  cases hcls : dt.cls <;> simp only [npCast, hcls]
  · exact ⟨rfl, rfl, hc⟩
  · rw [cross_div n1 d1 n2 d2 h1 h2 hc]
    split
    · simp [resEqvS, SVal.eqv]
    · simp [resEqvS]
  · have := cross_zero n1 d1 n2 d2 h1 h2 hc
    by_cases hz : n1 = 0
    · have hz2 := this.mp hz
      simp [resEqvS, SVal.eqv, hz, hz2]
    · have hz2 : n2 ≠ 0 := fun h => hz (this.mpr h)
      have e1 : (n1 != 0) = true := bne_iff_ne.mpr hz
      have e2 : (n2 != 0) = true := bne_iff_ne.mpr hz2
      simp [resEqvS, SVal.eqv, e1, e2]

theorem pyEqS_cast_same (x y : Scalar) (dt : DType) (hx : x.WF) (hy : y.WF) (sx : x.SI) (sy : y.SI)
    (mx : Modelled x dt) (my : Modelled y dt) (h : pyEqS x y = true) :
    resEqvS (npCast x dt) (npCast y dt) := by
  unfold pyEqS at h
  rw [frac_norm x, frac_norm y] at h
  simp only [beq_iff_eq] at h
  obtain ⟨hs, hc⟩ := signed_cross _ _ _ _ _ _ hx hy h sx sy
  rw [npCast_norm x dt mx, npCast_norm y dt my, hs]
  exact npCastF_eqv _ _ _ _ _ hx hy hc dt

def Lit.WF (l : Lit) : Prop := ∀ e ∈ l.elems, e.WF
def Lit.SI (l : Lit) : Prop := ∀ e ∈ l.elems, e.SI
def LitModelled (l : Lit) (dt : DType) : Prop := ∀ e ∈ l.elems, Modelled e dt

def listEqv : List SVal → List SVal → Prop
  | [], [] => True
  | a :: as, b :: bs => a.eqv b ∧ listEqv as bs
  | _, _ => False

def valsEqv : Except Err (List SVal) → Except Err (List SVal) → Prop
  | .ok a, .ok b => listEqv a b
  | .error _, .error _ => True
  | _, _ => False

theorem valsEqv_refl (vs : List SVal) : valsEqv (.ok vs) (.ok vs) := by
  induction vs with
  | nil => exact True.intro
  | cons v vs ih => exact ⟨SVal.eqv_refl v, ih⟩

theorem pyEqList_cast_same (dt : DType) : ∀ (xs ys : List Scalar),
    (∀ e ∈ xs, e.WF ∧ e.SI ∧ Modelled e dt) → (∀ e ∈ ys, e.WF ∧ e.SI ∧ Modelled e dt) →
    pyEqList xs ys = true →
    valsEqv (mapE (fun e => npCast e dt) xs) (mapE (fun e => npCast e dt) ys)
  | [], [], _, _, _ => True.intro
  | [], _ :: _, _, _, h => by simp [pyEqList] at h
  | _ :: _, [], _, _, h => by simp [pyEqList] at h
  | x :: xs, y :: ys, hx, hy, h => by
    simp only [pyEqList, Bool.and_eq_true] at h
    have hx0 := hx x List.mem_cons_self
    have hy0 := hy y List.mem_cons_self
    have h0 := pyEqS_cast_same x y dt hx0.1 hy0.1 hx0.2.1 hy0.2.1 hx0.2.2 hy0.2.2 h.1
    have ih := pyEqList_cast_same dt xs ys (fun e he => hx e (List.mem_cons_of_mem _ he))
      (fun e he => hy e (List.mem_cons_of_mem _ he)) h.2
    simp only [mapE]
    cases hcx : npCast x dt <;> cases hcy : npCast y dt <;> rw [hcx, hcy] at h0 <;>
      simp only [resEqvS] at h0
    · trivial
    · cases hmx : mapE (fun e => npCast e dt) xs <;> cases hmy : mapE (fun e => npCast e dt) ys <;>
        rw [hmx, hmy] at ih <;> simp only [valsEqv] at ih ⊢
      exact ⟨h0, ih⟩

theorem pyEq_cast_same (k l : Lit) (dt : DType) (hk : k.WF ∧ k.SI ∧ LitModelled k dt)
    (hl : l.WF ∧ l.SI ∧ LitModelled l dt) (h : pyEq k l = true) :
    valsEqv (mapE (fun e => npCast e dt) k.elems) (mapE (fun e => npCast e dt) l.elems) := by
  have hk' : ∀ e ∈ k.elems, e.WF ∧ e.SI ∧ Modelled e dt := fun e he => ⟨hk.1 e he, hk.2.1 e he, hk.2.2 e he⟩
  have hl' : ∀ e ∈ l.elems, e.WF ∧ e.SI ∧ Modelled e dt := fun e he => ⟨hl.1 e he, hl.2.1 e he, hl.2.2 e he⟩
  cases k with
  | s x =>
    cases l with
    | s y =>
      apply pyEqList_cast_same dt [x] [y] hk' hl'
      simpa [pyEqList, pyEq] using h
    | l y ys => simp [pyEq] at h
  | l x xs =>
    cases l with
    | s y => simp [pyEq] at h
    | l y ys => exact pyEqList_cast_same dt (x :: xs) (y :: ys) hk' hl' (by simpa [pyEq] using h)

theorem pyEqS_refl (x : Scalar) : pyEqS x x = true := by
  unfold pyEqS
  simp
theorem pyEq_refl_s (x : Scalar) : pyEq (.s x) (.s x) = true := pyEqS_refl x

/-- `CacheOk` for the cache before 610a39a: in addition the keys are well formed, without negative zero and within the
model. -/
def CacheOkPre (c : Cache) : Prop :=
  ∀ e ∈ c, mapE (fun s => npCast s e.dtype) e.key.elems = .ok e.vals ∧ e.dtype = e.keyDt.getD (irDefault e.key)
    ∧ e.key.WF ∧ e.key.SI ∧ LitModelled e.key e.dtype

end OV.Autocast
