import OV.Model.C05More
import OV.Lemmas.C05Bcast
/-!
# C05 — `check_if_not_need_reshape` (`matmulOutShape`) is sound w.r.t. the NumPy/ONNX MatMul shape (`specMatMulShape`)

For all ranks, `matmulOutShape a b = some out` implies `specMatMulShape a b = some out` (`matmul_out_shape_sound`) under two
hypotheses, each forced by what the Python loop does and each shown necessary by a witness: the inner dims agree (the loop only
tests `a[-1] ∈ {1, b[-2]}`), and no aligned pair of batch dims is `(da, db) = (1, 0)` (the loop emits `max(1, 0) = 1`, NumPy
broadcasts `1` with `0` to `0`).  Both definitions are first evaluated on the operand forms `[k]` and `A ++ [m, k]` the rank
analysis distinguishes (`list_cases2`; `matmulOutShape_22/_12/_21`, `specMatMulShape_22/_12/_21`); the batch loop is `bcRev` of `C05Bcast`
(`bcLoop_bcRev`); the 1-D promotion cases need no hypothesis.  Core Lean only.
-/

namespace OV.Lemmas.C05Matmul
open OV.C05.More OV.C05.Shape
open OV.Lemmas.C05Bcast

theorem getLastD_app2 (A : List Nat) (m k d : Nat) : (A ++ [m, k]).getLastD d = k := by
  have : A ++ [m, k] = (A ++ [m]) ++ [k] := by simp
  rw [this, List.getLastD_concat]

theorem getD_app2 (A : List Nat) (m k d : Nat) : (A ++ [m, k]).getD A.length d = m := by
  simp [List.getD_eq_getElem?_getD]

theorem take_app2 (A : List Nat) (m k : Nat) : List.take A.length (A ++ [m, k]) = A := List.take_left' rfl

theorem take_app2_pred (A : List Nat) (m k : Nat) : List.take (A.length + 2 - 1) (A ++ [m, k]) = A ++ [m] := by
  have : A ++ [m, k] = (A ++ [m]) ++ [k] := by simp
  rw [this]; exact List.take_left' (by simp)

theorem exists_app2 (l : List Nat) (h : 2 ≤ l.length) : ∃ A m k, l = A ++ [m, k] := by
  have h2 : (l.drop (l.length - 2)).length = 2 := by simp; omega
  match hd : l.drop (l.length - 2), h2 with
  | [m, k], _ => exact ⟨l.take (l.length - 2), m, k, by rw [← hd, List.take_append_drop]⟩

theorem list_cases2 : ∀ l : List Nat, l = [] ∨ (∃ k, l = [k]) ∨ ∃ A m k, l = A ++ [m, k]
  | [] => .inl rfl
  | [k] => .inr (.inl ⟨k, rfl⟩)
  | _ :: _ :: _ => .inr (.inr (exists_app2 _ (by simp)))

/-- The loop of `check_if_not_need_reshape` walks the reversed batch dims exactly as `bcRev` does, but accepts a pair only
one-sidedly (`da ∈ {1, db}`) and emits `max da db`; where no pair is `(1, 0)` that is the broadcast dim.  The loop stops
at the shorter operand (the caller prepends the rest of the longer one), `bcRev` keeps it. -/
theorem bcLoop_bcRev : ∀ (X Y : List Nat) (i : Nat) (acc r : List Nat),
    bcLoop X Y (i + 1) acc = some r → (∀ p ∈ List.zip X Y, ¬ (p.1 = 1 ∧ p.2 = 0)) →
    ∃ W, r = W ++ acc ∧ bcRev X Y = some (W.reverse ++ (X.drop Y.length ++ Y.drop X.length))
  | [], Y, i, acc, r, h, _ => by
    cases Y <;> exact ⟨[], by simpa [bcLoop] using h.symm, by simp [bcRev]⟩
  | x :: X, [], i, acc, r, h, _ => ⟨[], by simpa [bcLoop] using h.symm, by simp⟩
  | x :: X, y :: Y, i, acc, r, h, hz => by
    simp only [bcLoop, Nat.succ_pos, if_true] at h
    split at h
    case isFalse => cases h
    rename_i hc
    obtain ⟨W, rfl, hW⟩ := bcLoop_bcRev X Y (i + 1) _ r h fun p hp => hz p (List.mem_cons_of_mem _ hp)
    have hb : bdim x y = some (max x y) := by
      have hy : ¬ (x = 1 ∧ y = 0) := hz (x, y) (by simp)
      simp only [Bool.or_eq_true, beq_iff_eq] at hc
      rcases hc with rfl | rfl
      · rw [bdim_one_left]; congr 1; omega
      · rw [bdim_self, Nat.max_self]
    exact ⟨W ++ [max x y], by simp, by simp [bcRev, hb, hW]⟩

theorem bcLoop_nil_right (X : List Nat) (i : Nat) (acc : List Nat) : bcLoop X [] i acc = some acc := by
  cases X <;> rfl

theorem batch_sound (A B acc r : List Nat) (h : bcLoop A.reverse B.reverse 1 acc = some r)
    (hz : ∀ p ∈ List.zip A.reverse B.reverse, ¬ (p.1 = 1 ∧ p.2 = 0)) :
    ∃ W, r = W ++ acc ∧
      specBroadcast A B =
        some ((if A.length > B.length then A.take (A.length - B.length) else B.take (B.length - A.length)) ++ W) := by
  obtain ⟨W, hr, hW⟩ := bcLoop_bcRev _ _ 0 acc r h hz
  refine ⟨W, hr, ?_⟩
  rw [specBroadcast_eq_bcRev, hW]
  -- of the two leftovers one is empty
  split
  · next hlt => simp [List.drop_reverse, Nat.sub_eq_zero_of_le (Nat.le_of_lt hlt)]
  · next hlt => simp [List.drop_reverse, Nat.sub_eq_zero_of_le (Nat.le_of_not_lt hlt)]

theorem matmulOutShape_nil_left (b : List Nat) : matmulOutShape [] b = none := by
  unfold matmulOutShape; simp

theorem matmulOutShape_nil_right (a : List Nat) : matmulOutShape a [] = none := by
  unfold matmulOutShape; simp

theorem matmulOutShape_11 (x y : Nat) : matmulOutShape [x] [y] = none := by
  unfold matmulOutShape; simp

theorem matmulOutShape_22 (A B : List Nat) (M K K' N : Nat) :
    matmulOutShape (A ++ [M, K]) (B ++ [K', N]) =
      (if K == 1 || K == K' then
        match bcLoop A.reverse B.reverse 1 [M, N] with
        | none => none
        | some out =>
          some ((if A.length > B.length then A.take (A.length - B.length) else B.take (B.length - A.length)) ++ out)
       else none) := by
  unfold matmulOutShape
  have r1 : ¬ (A.length + 2 < 2) := by omega
  have r2 : ¬ (B.length + 2 < 2) := by omega
  simp only [List.length_append, List.length_cons, List.length_nil, Nat.zero_add, Nat.reduceAdd, r1, r2,
    decide_false, Bool.false_and, Bool.false_eq_true, if_false, Bool.not_true, Nat.add_sub_cancel,
    getLastD_app2, getD_app2]
  have z1 : (A.length + 2 == 0 || B.length + 2 == 0) = false := by simp
  rw [take_app2, take_app2_pred, z1]
  simp only [Bool.false_eq_true, if_false, List.reverse_append, List.reverse_cons, List.reverse_nil,
    List.nil_append, List.cons_append, bcLoop, Nat.lt_irrefl, gt_iff_lt, Nat.zero_add]
  by_cases hc : (K == 1 || K == K') = true
  · simp only [hc, if_true]
    by_cases hlt : B.length < A.length
    · have : B.length + 2 < A.length + 2 := by omega
      simp only [this, hlt, if_true, List.length_append, List.length_cons, List.length_nil]
      rw [show A.length + (0 + 1 + 1) - (B.length + (0 + 1 + 1)) = A.length - B.length by omega,
        List.take_append_of_le_length (by omega)]
      cases bcLoop A.reverse B.reverse 1 [M, N] <;> rfl
    · have : ¬ (B.length + 2 < A.length + 2) := by omega
      simp only [this, hlt, if_false, List.length_append, List.length_cons, List.length_nil]
      rw [show B.length + (0 + 1 + 1) - (A.length + (0 + 1 + 1)) = B.length - A.length by omega,
        List.take_append_of_le_length (by omega)]
      cases bcLoop A.reverse B.reverse 1 [M, N] <;> rfl
  · simp only [hc]; simp

theorem specMatMulShape_22 (A B : List Nat) (M K K' N : Nat) :
    specMatMulShape (A ++ [M, K]) (B ++ [K', N]) =
      (if K != K' then none else
        match specBroadcast A B with
        | none => none
        | some batch => some (batch ++ [M, N])) := by
  unfold specMatMulShape
  have r1 : ¬ (A.length + 2 = 1) := by omega
  have r2 : ¬ (B.length + 2 = 1) := by omega
  have z1 : (A.length + 2 == 0 || B.length + 2 == 0) = false := by simp
  simp only [List.length_append, List.length_cons, List.length_nil, Nat.zero_add, Nat.reduceAdd, r1, r2, z1,
    beq_iff_eq, Bool.false_eq_true, if_false, Nat.add_sub_cancel, getLastD_app2, getD_app2, take_app2,
    List.cons_append, List.nil_append]
  by_cases hk : (K != K') = true
  · simp only [hk, if_true]
  · simp only [hk]; cases specBroadcast A B <;> rfl

theorem matmulOutShape_12 (k : Nat) (B : List Nat) (K' N : Nat) :
    matmulOutShape [k] (B ++ [K', N]) = (if k == K' then some (B ++ [N]) else none) := by
  unfold matmulOutShape
  have r2 : ¬ (B.length + 2 < 2) := by omega
  have l12 : (1 : Nat) < 2 := Nat.one_lt_two
  simp only [List.length_append, List.length_cons, List.length_nil, Nat.zero_add, Nat.reduceAdd, r2,
    decide_false, Bool.false_and, Bool.and_false, Bool.false_eq_true, if_false, Bool.not_true, Nat.add_sub_cancel,
    getLastD_app2, getD_app2, l12, if_true, decide_true, Bool.true_and, List.getLastD_cons, List.getLastD_nil,
    Nat.sub_self, List.take_zero, List.nil_append, List.getD_cons_zero, beq_self_eq_true]
  have z1 : ((1 : Nat) == 0 || B.length + 2 == 0) = false := by simp
  rw [take_app2, take_app2_pred, z1]
  by_cases hk : k = K'
  · subst hk
    simp only [Bool.false_eq_true, if_false, beq_self_eq_true, Bool.not_true, List.reverse_append,
      List.reverse_cons, List.reverse_nil, List.nil_append, List.cons_append, bcLoop, Bool.or_true, if_true,
      gt_iff_lt, Nat.lt_irrefl, List.length_cons, List.length_nil, Nat.zero_add,
      Nat.reduceAdd, Nat.add_sub_cancel]
    rw [List.eraseIdx_append_of_length_le (Nat.le_refl _)]
    simp
  · have : (k == K') = false := by simpa using hk
    simp [this]

theorem matmulOutShape_21 (A : List Nat) (M K k : Nat) :
    matmulOutShape (A ++ [M, K]) [k] = (if k == K then some (A ++ [M]) else none) := by
  unfold matmulOutShape
  have r1 : ¬ (A.length + 2 < 2) := by omega
  have l12 : (1 : Nat) < 2 := Nat.one_lt_two
  simp only [List.length_append, List.length_cons, List.length_nil, Nat.zero_add, Nat.reduceAdd, r1,
    decide_false, Bool.false_and, Bool.false_eq_true, if_false, Bool.not_true, Nat.add_sub_cancel,
    getLastD_app2, getD_app2, l12, if_true, decide_true, Bool.true_and, List.getLastD_cons, List.getLastD_nil,
    List.nil_append, beq_self_eq_true, List.cons_append]
  have z1 : (A.length + 2 == 0 || (1 : Nat) == 0) = false := by simp
  rw [take_app2, z1]
  by_cases hk : k = K
  · subst hk
    simp only [Bool.false_eq_true, if_false, beq_self_eq_true, Bool.not_true, List.reverse_append,
      List.reverse_cons, List.reverse_nil, List.nil_append, List.cons_append, bcLoop, Bool.or_true, if_true,
      gt_iff_lt, Nat.lt_irrefl, List.length_cons, List.length_nil, Nat.zero_add, List.take_succ_cons, List.take_zero,
      Nat.reduceSub, bcLoop_nil_right]
    by_cases hA : 2 < A.length + 2
    · simp only [hA, if_true, List.length_append, List.length_cons, List.length_nil, Nat.zero_add, Nat.reduceAdd,
        Nat.add_sub_cancel]
      rw [List.take_left' rfl]
      have : A ++ [M, 1] = (A ++ [M]) ++ [1] := by simp
      rw [this]
      congr 1
      exact List.take_left' (by simp)
    · have hA0 : A = [] := by
        cases A with
        | nil => rfl
        | cons _ _ => simp at hA
      subst hA0
      simp
  · have : (k == K) = false := by simpa using hk
    simp [this]

theorem specMatMulShape_12 (k : Nat) (B : List Nat) (K' N : Nat) :
    specMatMulShape [k] (B ++ [K', N]) = (if k != K' then none else some (B ++ [N])) := by
  unfold specMatMulShape
  have r2 : ¬ (B.length + 2 = 1) := by omega
  have z1 : ((1 : Nat) == 0 || B.length + 2 == 0) = false := by simp
  simp only [List.length_append, List.length_cons, List.length_nil, Nat.zero_add, Nat.reduceAdd, r2, z1,
    beq_iff_eq, Bool.false_eq_true, if_false, if_true, Nat.add_sub_cancel, getLastD_app2, getD_app2, take_app2,
    List.nil_append, Nat.sub_self, List.take_zero, specBroadcast_nil_left, List.getLastD_cons, List.getLastD_nil]

theorem specMatMulShape_21 (A : List Nat) (M K k : Nat) :
    specMatMulShape (A ++ [M, K]) [k] = (if K != k then none else some (A ++ [M])) := by
  unfold specMatMulShape
  have r1 : ¬ (A.length + 2 = 1) := by omega
  have z1 : (A.length + 2 == 0 || (1 : Nat) == 0) = false := by simp
  simp only [List.length_append, List.length_cons, List.length_nil, Nat.zero_add, Nat.reduceAdd, r1, z1,
    beq_iff_eq, Bool.false_eq_true, if_false, if_true, Nat.add_sub_cancel, getLastD_app2, getD_app2, take_app2,
    List.cons_append, List.nil_append, Nat.sub_self, List.take_zero, specBroadcast_nil_right,
    List.getLastD_cons, List.getLastD_nil, List.append_nil, List.getD_cons_zero]

theorem matmul_out_shape_sound_22 (A B : List Nat) (M K K' N : Nat) (out : List Nat)
    (h : matmulOutShape (A ++ [M, K]) (B ++ [K', N]) = some out)
    (hinner : K = K') (hnz : ∀ p ∈ List.zip A.reverse B.reverse, ¬ (p.1 = 1 ∧ p.2 = 0)) :
    specMatMulShape (A ++ [M, K]) (B ++ [K', N]) = some out := by
  subst hinner
  rw [matmulOutShape_22] at h
  rw [specMatMulShape_22]
  simp only [beq_self_eq_true, Bool.or_true, if_true] at h
  cases hb : bcLoop A.reverse B.reverse 1 [M, N] with
  | none => rw [hb] at h; simp at h
  | some r =>
    rw [hb] at h
    obtain ⟨W, hr, hs⟩ := batch_sound A B [M, N] r hb hnz
    simp only [Option.some.injEq] at h
    rw [hs]
    simp only [bne_self_eq_false, Bool.false_eq_true, if_false, Option.some.injEq]
    rw [← h, hr, List.append_assoc]

theorem matmul_out_shape_sound_12 (k : Nat) (B : List Nat) (K' N : Nat) (out : List Nat)
    (h : matmulOutShape [k] (B ++ [K', N]) = some out) :
    specMatMulShape [k] (B ++ [K', N]) = some out := by
  rw [matmulOutShape_12] at h
  rw [specMatMulShape_12]
  by_cases hk : k = K'
  · subst hk; simpa using h
  · have : (k == K') = false := by simpa using hk
    simp [this] at h

theorem matmul_out_shape_sound_21 (A : List Nat) (M K k : Nat) (out : List Nat)
    (h : matmulOutShape (A ++ [M, K]) [k] = some out) :
    specMatMulShape (A ++ [M, K]) [k] = some out := by
  rw [matmulOutShape_21] at h
  rw [specMatMulShape_21]
  by_cases hk : k = K
  · subst hk; simpa using h
  · have : (k == K) = false := by simpa using hk
    simp [this] at h

theorem matmul_out_shape_sound (a b out : List Nat) (h : matmulOutShape a b = some out)
    (hinner : a.getLastD 0 = (if b.length == 1 then b.getLastD 0 else b.getD (b.length - 2) 0))
    (hnz : ∀ p ∈ List.zip (a.take (a.length - 2)).reverse (b.take (b.length - 2)).reverse,
      ¬ (p.1 = 1 ∧ p.2 = 0)) :
    specMatMulShape a b = some out := by
  rcases list_cases2 a with rfl | ⟨k, rfl⟩ | ⟨A, M, K, rfl⟩
  · rw [matmulOutShape_nil_left] at h; cases h
  · rcases list_cases2 b with rfl | ⟨k', rfl⟩ | ⟨B, K', N, rfl⟩
    · rw [matmulOutShape_nil_right] at h; cases h
    · rw [matmulOutShape_11] at h; cases h
    · exact matmul_out_shape_sound_12 k B K' N out h
  · rcases list_cases2 b with rfl | ⟨k', rfl⟩ | ⟨B, K', N, rfl⟩
    · rw [matmulOutShape_nil_right] at h; cases h
    · exact matmul_out_shape_sound_21 A M K k' out h
    · refine matmul_out_shape_sound_22 A B M K K' N out h ?_ ?_
      · have r2 : ¬ (B.length + 2 = 1) := by omega
        simpa [getLastD_app2, getD_app2, r2] using hinner
      · simpa only [List.length_append, List.length_cons, List.length_nil, Nat.zero_add, Nat.reduceAdd,
        Nat.add_sub_cancel, take_app2] using hnz

theorem matmul_out_shape_sound_of_nonzero (a b out : List Nat) (h : matmulOutShape a b = some out)
    (hinner : a.getLastD 0 = (if b.length == 1 then b.getLastD 0 else b.getD (b.length - 2) 0))
    (hnz : ∀ d ∈ b.take (b.length - 2), d ≠ 0) :
    specMatMulShape a b = some out :=
  matmul_out_shape_sound a b out h hinner (fun p hp hc =>
    hnz p.2 (List.mem_reverse.mp (List.of_mem_zip (a := p.1) (b := p.2) hp).2) hc.2)

theorem matmul_out_shape_inner_needed :
    matmulOutShape [2,1] [5,3] = some [2,3] ∧ specMatMulShape [2,1] [5,3] = none := by decide +kernel

theorem matmul_out_shape_zero_batch_needed :
    matmulOutShape [1,3,4] [0,4,5] = some [1,3,5] ∧ specMatMulShape [1,3,4] [0,4,5] = some [0,3,5] := by decide +kernel

example : matmulOutShape [2,3,4] [4,5] = some [2,3,5] := by decide +kernel
example : matmulOutShape [4] [2,4,5] = some [2,5] := by decide +kernel
example : matmulOutShape [3,4] [4] = some [3] := by decide +kernel
example : matmulOutShape [2,3,4] [4] = some [2,3] := by decide +kernel
example : matmulOutShape [1,3,4] [2,4,5] = some [2,3,5] := by decide +kernel
example : matmulOutShape [2,3,4] [1,4,5] = none := by decide +kernel
example : specMatMulShape [2,3,4] [1,4,5] = some [2,3,5] := by decide +kernel
example : matmulOutShape [7,2,3,4] [2,4,5] = some [7,2,3,5] := by decide +kernel
example : matmulOutShape [2,3,4] [7,2,4,5] = some [7,2,3,5] := by decide +kernel
example : matmulOutShape [4] [4] = none := by decide +kernel
example : specMatMulShape [4] [4] = some [] := by decide +kernel
example : specMatMulShape [1,3,4] [2,4,5] = some [2,3,5] := by decide +kernel

end OV.Lemmas.C05Matmul
