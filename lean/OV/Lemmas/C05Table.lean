import OV.Model.C05Table
/-! The evaluation of the rule table (`OV/Model/C05Table.lean` against the regenerated `OV/Gen/C05RuleTable.lean`): string keys are
compared through an injective numeral code, all in one kernel evaluation.  Core Lean only. -/
namespace OV.Lemmas.C05

/-- The bytes of a string as base-256 digits of a numeral (behind a leading 1).  The kernel compares two numerals in one
step, but to tell two different string literals apart it first decodes each into its bytes, at a cost quadratic in the
literal's length.  The table facts are therefore decided on the codes, all in the one evaluation `table_checked`, so that
every key is decoded once; `code_injective` carries the verdicts back to the strings.  Equal literals are recognised
without decoding, which is all `rows_modelled` and `rows_modelledCond` need. -/
def code (s : String) : Nat := s.toByteArray.data.toList.foldr (fun b a => a * 256 + b.toNat) 1

theorem code_injective : Function.Injective code := by
  have pos : ∀ l : List UInt8, 0 < l.foldr (fun b a => a * 256 + b.toNat) 1 := by
    intro l; induction l with
    | nil => decide
    | cons b l ih => rw [List.foldr_cons]; omega
  have inj : ∀ l l' : List UInt8,
      l.foldr (fun b a => a * 256 + b.toNat) 1 = l'.foldr (fun b a => a * 256 + b.toNat) 1 → l = l' := by
    intro l
    induction l with
    | nil => intro l' h; cases l' with
      | nil => rfl
      | cons b l' => have := pos l'; rw [List.foldr_cons, List.foldr_nil] at h; omega
    | cons b l ih => intro l' h; cases l' with
      | nil => have := pos l; rw [List.foldr_cons, List.foldr_nil] at h; omega
      | cons b' l' =>
        rw [List.foldr_cons, List.foldr_cons] at h
        have := b.toNat_lt; have := b'.toNat_lt
        rw [ih l' (by omega), show b = b' from UInt8.toNat_inj.mp (by omega)]
  intro s t h
  exact String.toByteArray_inj.mp (ByteArray.ext (Array.toList_inj.mp (inj _ _ h)))

theorem subset_of_codes {l m : List String} (h : (l.map code).all (fun c => (m.map code).contains c) = true) :
    ∀ r ∈ l, r ∈ m := fun _ hr => by
  obtain ⟨y, hy, e⟩ := List.mem_map.mp (List.contains_iff_mem.mp (List.all_eq_true.mp h _ (List.mem_map_of_mem hr)))
  exact code_injective e ▸ hy

/-- Distinctness is asked of the keys under some function `c`, so that the verdict of `table_checked` on the codes serves
as it stands. -/
theorem find?_of_nodup_keys {ρ β γ : Type} (key : ρ → String) (val : ρ → β) (c : String → γ) :
    ∀ (l : List ρ), (l.map fun r => c (key r)).Nodup → ∀ r ∈ l,
      (l.map fun r => (key r, val r)).find? (fun e => e.1 == key r) = some (key r, val r)
  | a :: l, h, r, hr => by
    obtain ⟨ha, hl⟩ := List.nodup_cons.mp h
    rw [List.map_cons, List.find?_cons]
    rcases List.mem_cons.mp hr with rfl | hr
    · rw [beq_self_eq_true]
    · have : (key a == key r) = false :=
        beq_eq_false_iff_ne.mpr fun e => ha (List.mem_map.mpr ⟨r, hr, congrArg c e.symm⟩)
      rw [this]; exact find?_of_nodup_keys key val c l hl r hr

open OV.C05 OV.Gen.C05 in
theorem table_checked :
    (rows.map fun r => code r.key).Nodup ∧
    (exportedRules.map code).all (fun c => ((Table.provedRules ++ Table.listedUnproved).map code).contains c) = true ∧
    (defaultRules.map code).all (fun c => ((Table.provedRules ++ Table.listedUnproved).map code).contains c) = true ∧
    (Table.provedRules.map code).all (fun c => !(Table.listedUnproved.map code).contains c) = true := by
  decide +kernel

theorem rows_modelled :
    OV.Gen.C05.rows.map (fun r => (r.key, r.skeleton, r.removeNodes)) = OV.C05.Table.modelled := rfl

theorem rows_modelledCond :
    OV.Gen.C05.rows.map (fun r => (r.key, r.condHash)) = OV.C05.Table.modelledCond := rfl

end OV.Lemmas.C05
