import OV.Lemmas.C01Scope
import OV.Lemmas.C01Inv
/-!
What every translation preserves, whether the translated code is executed or not.

* `genUniques_castable`: generating names marks none castable.  (That every translation is a `CastOK` step, needed
  for the branch of an `if` that is *not* taken, comes with freshness: `C01Names`.)
* `AttrMono L L'`: translation only ever adds value bindings, so the attribute bindings in scope after a
  statement are among those before it (`stmtRules_attrMono`).  Carries "the assigned variables are not attribute
  parameters" (`FreeOf`) and "every attribute binding refers to a parameter of the function" (`AttrIn`) along.
* `assigned_sub_targets`: what the analyser reports as assigned is among the names the statement may bind.
-/
namespace OV.C01

theorem genUniques_castable (cs : List Name) {rs : List Name} {s s' : St} (h : genUniques cs s = .ok (rs, s')) :
    s'.castable = s.castable :=
  genUniques_induct (P := fun _ s _ s' => s'.castable = s.castable) rfl
    (fun h1 _ ih => by rw [ih, (genUnique_spec h1).2.2]) h

def AttrMono (L L' : Locals) : Prop := ∀ x p ty, lookup L' x = some (.attr p ty) → lookup L x = some (.attr p ty)

theorem AttrMono.refl (L : Locals) : AttrMono L L := fun _ _ _ h => h
theorem AttrMono.trans {a b c : Locals} (h1 : AttrMono a b) (h2 : AttrMono b c) : AttrMono a c :=
  fun x p ty h => h1 x p ty (h2 x p ty h)

theorem AttrMono.push (L : Locals) : AttrMono L ([] :: L) := fun x p ty h => by
  rw [lookup_push] at h; exact h

theorem AttrMono.bindVal (L : Locals) (x n : Name) : AttrMono L (bindVar L x (.val n)) := by
  intro y p ty hl
  by_cases hy : y = x
  · subst hy
    rw [lookup_bindVar_same] at hl
    cases hl
  · rw [lookup_bindVar_ne hy] at hl
    exact hl

theorem AttrMono.bindVals : ∀ (xs ns : List Name) (L : Locals), AttrMono L (OV.C01.bindVals L xs ns)
  | [], ns, L => by cases ns <;> exact AttrMono.refl L
  | _ :: _, [], L => AttrMono.refl L
  | x :: xs, n :: ns, L => (AttrMono.bindVal L x n).trans (AttrMono.bindVals xs ns _)

theorem loopFinish_attrMono {L L2 L' : Locals} {state : List Name} {bound cond : Option Name} {condIn iv : Name}
    {ps : List Name} {whileVar : Option Name} {bn nl : List Node} {bc : Option Name} {s s' : St}
    (h : loopFinish L L2 state bound cond condIn iv ps whileVar bn bc s = .ok ((L', nl), s')) : AttrMono L L' := by
  obtain ⟨_, _, _, _, _, _, _, _, _, _, _, _, _, _, _, _, rfl, _⟩ := loopFinish_ok h
  exact AttrMono.bindVals _ _ _

theorem loopParams_eq {state : List Name} {L0 L1 : Locals} {ps : List Name} {s s' : St}
    (h : loopParams L0 state s = .ok ((L1, ps), s')) :
    L1 = bindVals L0 state ps ∧ ps.length = state.length ∧ s'.castable = s.castable :=
  loopParams_induct
    (P := fun L0 state s L1 ps s' => L1 = bindVals L0 state ps ∧ ps.length = state.length ∧ s'.castable = s.castable)
    ⟨rfl, rfl, rfl⟩
    (fun h1 _ ⟨r1, r2, r3⟩ => ⟨by rw [r1]; rfl, by simp [r2], by rw [r3, (genUnique_spec h1).2.2]⟩) h

theorem loopEnter_parts {L : Locals} {v : Name} {bindIt : Bool} {state : List Name} {L1 : Locals} {iv : Name}
    {ps : List Name} {s s' : St} (h : loopEnter L v bindIt state s = .ok ((L1, iv, ps), s')) :
    L1 = bindVals (loopScope L v bindIt iv) state ps ∧ ps.length = state.length ∧ s'.castable = s.castable := by
  obtain ⟨s1, h1, h2⟩ := loopEnter_ok h
  obtain ⟨r1, r2, r3⟩ := loopParams_eq h2
  exact ⟨r1, r2, by rw [r3, (genUnique_spec h1).2.2]⟩

theorem loopEnter_attrMono {L : Locals} {v : Name} {bindIt : Bool} {state : List Name} {L1 : Locals} {iv : Name}
    {ps : List Name} {s s' : St} (h : loopEnter L v bindIt state s = .ok ((L1, iv, ps), s')) : AttrMono L L1 := by
  rw [(loopEnter_parts h).1]
  refine (AttrMono.push L).trans (AttrMono.trans ?_ (AttrMono.bindVals state ps _))
  cases bindIt
  · exact AttrMono.refl _
  · exact AttrMono.bindVal _ v iv

theorem stmtRules_attrMono : StmtRules (fun L _ _ _ L' _ _ => AttrMono L L') (fun L _ _ _ L' _ _ => AttrMono L L')
    (fun L _ _ _ L' _ _ _ => AttrMono L L') where
  assign _ := AttrMono.bindVal _ _ _
  par _ _ := AttrMono.bindVals _ _ _
  tuple _ _ _ _ := AttrMono.bindVals _ _ _
  ite _ _ _ _ _ _ _ _ _ := AttrMono.bindVals _ _ _
  for_ _ _ _ _ _ _ h := loopFinish_attrMono h
  while_ _ _ _ _ _ _ h := loopFinish_attrMono h
  skip := AttrMono.refl _
  nil := AttrMono.refl _
  cons _ ih1 _ ih2 := ih1.trans ih2
  bodyNil := AttrMono.refl _
  bodyBrk _ := AttrMono.refl _
  bodyCons _ ih1 _ ih2 := ih1.trans ih2

theorem convStmt_attrMono (L : Locals) (st : Stmt) (lo : VSet) {L' : Locals} {ns : List Node} {s s' : St}
    (h : convStmt L st lo s = .ok ((L', ns), s')) : AttrMono L L' :=
  stmtRules_attrMono.stmt L st lo h

theorem convStmts_attrMono (ss : List Stmt) (L : Locals) (lo : VSet) {L' : Locals} {ns : List Node} {s s' : St}
    (h : convStmts L ss lo s = .ok ((L', ns), s')) : AttrMono L L' :=
  stmtRules_attrMono.stmts L ss lo h

theorem convLoopBody_attrMono (ss : List Stmt) (L : Locals) (lo : VSet) {L' : Locals} {ns : List Node}
    {bc : Option Name} {s s' : St} (h : convLoopBody L ss lo s = .ok ((L', ns, bc), s')) : AttrMono L L' :=
  stmtRules_attrMono.body L ss lo h

theorem assignedStmt_ite_some {c : Expr} {t e : List Stmt} {d : VSet} (h : assignedStmt (.ite c t e) = some d) :
    ∃ a b, assignedBlock t = some a ∧ assignedBlock e = some b ∧ d = vunion a b := by
  simp only [assignedStmt] at h
  cases hta : assignedBlock t with
  | none => simp [hta] at h
  | some a =>
    cases hea : assignedBlock e with
    | none => simp [hta, hea] at h
    | some b => simp only [hta, hea] at h; cases h; exact ⟨a, b, rfl, rfl, rfl⟩

theorem assignedBlock_cons_some {st : Stmt} {ss : List Stmt} {d : VSet} (h : assignedBlock (st :: ss) = some d) :
    ∃ a b, assignedStmt st = some a ∧ assignedBlock ss = some b ∧ d = vunion a b := by
  unfold assignedBlock at h
  cases ha : assignedStmt st with
  | none => simp only [ha] at h; cases h
  | some a =>
    cases hb : assignedBlock ss with
    | none => simp only [ha, hb] at h; cases h
    | some b => simp only [ha, hb] at h; cases h; exact ⟨a, b, rfl, rfl, rfl⟩

theorem assigned_sub_targets_both :
    (∀ (st : Stmt) {d : VSet}, assignedStmt st = some d → ∀ x, x ∈ d → x ∈ targetsStmt st) ∧
    (∀ (ss : List Stmt) {d : VSet}, assignedBlock ss = some d → ∀ x, x ∈ d → x ∈ targetsBlock ss) := by
  apply stmt_block_induct
  case hleaf =>
    intro st hl d h x hx
    cases st with
    | assign y e =>
      simp only [assignedStmt] at h; cases h
      simp only [targetsStmt, List.mem_cons]
      exact Or.inl (by simpa using hx)
    | par ys es =>
      simp only [assignedStmt] at h; cases h
      simp only [targetsStmt, List.mem_append]
      exact Or.inl (mem_vofList.mp hx)
    | tuple ys e => simp only [assignedStmt] at h; cases h; simpa [targetsStmt] using mem_vofList.mp hx
    | badAssign ys e => simp only [assignedStmt] at h; cases h; simpa [targetsStmt] using mem_vofList.mp hx
    | unsupported => simp [assignedStmt] at h
    | ite _ _ _ => cases hl
    | for_ _ _ _ _ => cases hl
    | while_ _ _ => cases hl
    | _ => simp only [assignedStmt] at h; cases h; cases hx
  case hite =>
    intro c t e iht ihe d h x hx
    obtain ⟨a, b, hta, hea, rfl⟩ := assignedStmt_ite_some h
    simp only [targetsStmt, List.mem_append]
    exact (mem_vunion.mp hx).imp (iht hta x) (ihe hea x)
  case hfor =>
    intro i ok b body ih d h x hx
    simp only [assignedStmt] at h
    cases hb : assignedBlock body with
    | none => simp [hb] at h
    | some a =>
      simp only [hb] at h
      cases h
      simp only [targetsStmt, List.mem_cons]
      rcases mem_vunion.mp hx with h' | h'
      · exact Or.inr (ih hb x h')
      · simp only [List.mem_singleton] at h'; exact Or.inl h'
  case hwhile =>
    intro c body ih d h x hx
    simp only [assignedStmt] at h
    simp only [targetsStmt, List.mem_append]
    exact Or.inr (ih h x hx)
  case hnil => intro d h x hx; simp only [assignedBlock] at h; cases h; cases hx
  case hcons =>
    intro st ss ih1 ih2 d h x hx
    obtain ⟨a, b, ha, hb, rfl⟩ := assignedBlock_cons_some h
    simp only [targetsBlock, List.mem_append]
    exact (mem_vunion.mp hx).imp (ih1 ha x) (ih2 hb x)

theorem assigned_sub_targets (st : Stmt) {d : VSet} (h : assignedStmt st = some d) : ∀ x, x ∈ d → x ∈ targetsStmt st :=
  assigned_sub_targets_both.1 st h

theorem assignedBlock_sub_targets (ss : List Stmt) {d : VSet} (h : assignedBlock ss = some d) :
    ∀ x, x ∈ d → x ∈ targetsBlock ss :=
  assigned_sub_targets_both.2 ss h

end OV.C01
