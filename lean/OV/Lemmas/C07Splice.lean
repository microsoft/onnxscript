import OV.Model.C07Apply
/-! The splice as an operation on graphs and node lists: `insertAfter` (on nodes, and `insAfterIds` on ids), what
the step keeps (`renamePassthru_keeps`, `applyAt_keeps`), and that it changes the id list by insertion and
filtering only. -/
namespace OV.C07

@[simp] theorem setNodes_nodes (g : Graph) (ns : List Node) : (g.setNodes ns).nodes = ns := by cases g; rfl
@[simp] theorem setNodes_inputs (g : Graph) (ns : List Node) : (g.setNodes ns).inputs = g.inputs := by cases g; rfl
@[simp] theorem setNodes_inits (g : Graph) (ns : List Node) : (g.setNodes ns).inits = g.inits := by cases g; rfl
@[simp] theorem setNodes_initNames (g : Graph) (ns : List Node) : (g.setNodes ns).initNames = g.initNames := by
  cases g; rfl
@[simp] theorem setNodes_outputs (g : Graph) (ns : List Node) : (g.setNodes ns).outputs = g.outputs := by
  cases g; rfl
@[simp] theorem setInits_nodes (g : Graph) (i : List (Name × String)) : (g.setInits i).nodes = g.nodes := by
  cases g; rfl
@[simp] theorem setInits_inputs (g : Graph) (i : List (Name × String)) : (g.setInits i).inputs = g.inputs := by
  cases g; rfl
@[simp] theorem setInits_inits (g : Graph) (i : List (Name × String)) : (g.setInits i).inits = i := by cases g; rfl
@[simp] theorem setInits_initNames (g : Graph) (i : List (Name × String)) :
    (g.setInits i).initNames = i.map (·.1) := by cases g; rfl
@[simp] theorem setInits_outputs (g : Graph) (i : List (Name × String)) : (g.setInits i).outputs = g.outputs := by
  cases g; rfl
@[simp] theorem setInits_setInits (g : Graph) (i j : List (Name × String)) :
    (g.setInits i).setInits j = g.setInits j := by cases g; rfl

theorem setBodies_outputs (n : Node) (c : List Name) (s : List (String × Graph)) :
    (n.setBodies c s).outputs = n.outputs := by cases n; rfl

theorem setBodies_reads (n : Node) (c : List Name) (s : List (String × Graph)) :
    (n.setBodies c s).reads = n.inputNames ++ c := by cases n; rfl

theorem setBodies_id (n : Node) (c : List Name) (s : List (String × Graph)) : (n.setBodies c s).id = n.id := by
  cases n; rfl

theorem setOutputs_id (n : Node) (o : List Name) : (n.setOutputs o).id = n.id := by cases n; rfl

@[simp] theorem retireOld_inputs (g : Graph) (m : Match) (rm : Bool) : (retireOld g m rm).inputs = g.inputs := by
  cases rm <;> cases g <;> rfl
@[simp] theorem retireOld_outputs (g : Graph) (m : Match) (rm : Bool) : (retireOld g m rm).outputs = g.outputs := by
  cases rm <;> cases g <;> rfl
@[simp] theorem retireOld_inits (g : Graph) (m : Match) (rm : Bool) : (retireOld g m rm).inits = g.inits := by
  cases rm <;> cases g <;> rfl

def insAfterIds (ids : List Nat) (cur : Nat) (new : List Nat) : List Nat :=
  ids.flatMap fun i => if i == cur then i :: new else [i]

theorem flatMap_insert_self {α} (p : α → Bool) (new l : List α) (h : ∀ a ∈ l, p a = false) :
    l.flatMap (fun a => if p a then a :: new else [a]) = l := by
  induction l with
  | nil => rfl
  | cons a t ih =>
    rw [List.flatMap_cons, ih (fun b hb => h b (List.mem_cons_of_mem _ hb)), h a (List.mem_cons_self ..)]
    rfl

theorem flatMap_insert_split {α} (p : α → Bool) (new pre post : List α) (c : α) (hc : p c = true)
    (hpre : ∀ a ∈ pre, p a = false) (hpost : ∀ a ∈ post, p a = false) :
    (pre ++ c :: post).flatMap (fun a => if p a then a :: new else [a]) = pre ++ c :: new ++ post := by
  rw [List.flatMap_append, List.flatMap_cons, flatMap_insert_self p new pre hpre,
    flatMap_insert_self p new post hpost, hc]
  simp

theorem insertAfter_split (pre post new : List Node) (r : Node)
    (hpre : ∀ n ∈ pre, n.id ≠ r.id) (hpost : ∀ n ∈ post, n.id ≠ r.id) :
    insertAfter (pre ++ r :: post) r.id new = pre ++ r :: new ++ post :=
  flatMap_insert_split (fun n : Node => n.id == r.id) new pre post r (beq_self_eq_true _)
    (fun n hn => beq_eq_false_iff_ne.mpr (hpre n hn)) (fun n hn => beq_eq_false_iff_ne.mpr (hpost n hn))

theorem insertAfter_filter_new (ns new : List Node) (root : Nat) (hfresh : ∀ n ∈ ns, ∀ n' ∈ new, n.id ≠ n'.id) :
    (insertAfter ns root new).filter (fun n => !(new.any (·.id == n.id))) = ns := by
  have hnew : new.filter (fun n => !(new.any (·.id == n.id))) = [] :=
    List.filter_eq_nil_iff.mpr fun n hn => by
      rw [List.any_eq_true.mpr ⟨n, hn, beq_self_eq_true n.id⟩]; decide
  unfold insertAfter
  induction ns with
  | nil => rfl
  | cons a r ih =>
    have ha : (!(new.any (·.id == a.id))) = true := by
      simpa using fun n' hn' => (hfresh a (List.mem_cons_self ..) n' hn').symm
    rw [List.flatMap_cons, List.filter_append, ih (fun n hn => hfresh n (List.mem_cons_of_mem _ hn))]
    split
    · rw [List.filter_cons, if_pos ha, hnew]; rfl
    · rw [List.filter_cons, if_pos ha]; rfl

theorem mem_insertAfter_new (ns new : List Node) (root : Nat) (hroot : ∃ r ∈ ns, r.id = root) :
    ∀ n ∈ new, n ∈ insertAfter ns root new := by
  intro n hn
  obtain ⟨r, hr, hid⟩ := hroot
  exact List.mem_flatMap.mpr ⟨r, hr, by simp [hid, hn]⟩

theorem mem_insertAfter_old (ns new : List Node) (root : Nat) : ∀ n ∈ ns, n ∈ insertAfter ns root new := by
  intro n hn
  refine List.mem_flatMap.mpr ⟨n, hn, ?_⟩
  split <;> simp

theorem mem_insertAfter (ns new : List Node) (root : Nat) :
    ∀ n ∈ insertAfter ns root new, n ∈ ns ∨ n ∈ new := by
  intro n hn
  obtain ⟨a, ha, hna⟩ := List.mem_flatMap.mp hn
  split at hna
  · rcases List.mem_cons.mp hna with rfl | h'
    · exact Or.inl ha
    · exact Or.inr h'
  · exact Or.inl (List.mem_singleton.mp hna ▸ ha)

theorem insAfterIds_split (pre post new : List Nat) (c : Nat) (h1 : c ∉ pre) (h2 : c ∉ post) :
    insAfterIds (pre ++ c :: post) c new = pre ++ c :: new ++ post :=
  flatMap_insert_split (· == c) new pre post c (beq_self_eq_true c)
    (fun a ha => beq_eq_false_iff_ne.mpr fun (e : a = c) => h1 (e ▸ ha))
    (fun a ha => beq_eq_false_iff_ne.mpr fun (e : a = c) => h2 (e ▸ ha))

theorem map_renName_of_notMem (x o : Name) (l : List Name) (h : x ∉ l) : l.map (renName x o) = l := by
  refine (List.map_congr_left fun y hy => ?_).trans (List.map_id' l)
  exact if_neg fun (e : (y == x) = true) => h (beq_iff_eq.mp e ▸ hy)

/-- a component `π` of the graph that `renGraph x o` keeps whenever `ok x (π g)` (for inputs and outputs: `x` is
not among them; for the ids: always) is kept by `renamePassthru` when `ok` holds of every returned existing value -/
theorem renamePassthru_keeps {α} (π : Graph → α) (ok : Name → α → Prop) (d : Nat)
    (hπ : ∀ x o g, ok x (π g) → π (renGraph x o d g) = π g) (pairs : List (Name × NewOut)) :
    ∀ g : Graph, (∀ p ∈ pairs, ∀ x, p.2 = .existing x → ok x (π g)) → π (renamePassthru d pairs g) = π g := by
  unfold renamePassthru
  induction pairs with
  | nil => exact fun _ _ => rfl
  | cons p rest ih =>
    intro g h
    obtain ⟨o, nv⟩ := p
    rw [List.foldl_cons]
    cases nv with
    | existing x =>
      have e := hπ x o g (h (o, .existing x) (List.mem_cons_self ..) x rfl)
      exact (ih _ fun q hq y hy => e ▸ h q (List.mem_cons_of_mem _ hq) y hy).trans e
    | fresh t => exact ih g fun q hq => h q (List.mem_cons_of_mem _ hq)
    | none => exact ih g fun q hq => h q (List.mem_cons_of_mem _ hq)

/-- the same for the whole step, when `setNodes` and the retiring of kept producers do not touch the component -/
theorem applyAt_keeps {α} (π : Graph → α) (ok : Name → α → Prop) (d : Nat)
    (hset : ∀ g ns, π (Graph.setNodes g ns) = π g) (hπ : ∀ x o g, ok x (π g) → π (renGraph x o d g) = π g)
    (g : Graph) (m : Match) (new : List Node) (outs : List NewOut) (rm : Bool)
    (hret : π (retireOld g m rm) = π g) (h : ∀ x, NewOut.existing x ∈ outs → ok x (π g)) :
    π (applyAt d g m new outs rm) = π g := by
  unfold applyAt
  rw [renamePassthru_keeps π ok d hπ, hset, hret]
  intro p hp x hx
  rw [hset, hret]
  exact h x (hx ▸ (List.of_mem_zip hp).2)

theorem renNode_id (a b : Name) (d : Nat) (n : Node) : (renNode a b d n).id = n.id := by
  cases d <;> cases n <;> rfl

theorem map_ids_map (f : Node → Node) (hf : ∀ n, (f n).id = n.id) (l : List Node) :
    (l.map f).map (·.id) = l.map (·.id) := by
  rw [List.map_map]
  exact List.map_congr_left fun n _ => hf n

theorem renGraph_ids (a b : Name) (d : Nat) (g : Graph) : (renGraph a b d g).ids = g.ids := by
  cases d with
  | zero => rfl
  | succ d => cases g; exact map_ids_map _ (renNode_id a b d) _

theorem renamePassthru_ids (d : Nat) (pairs : List (Name × NewOut)) (g : Graph) :
    (renamePassthru d pairs g).ids = g.ids :=
  renamePassthru_keeps Graph.ids (fun _ _ => True) d (fun x o g _ => renGraph_ids x o d g) pairs g
    fun _ _ _ _ => trivial

theorem transferNames_ids (pairs : List (Name × NewOut)) :
    ∀ new : List Node, (transferNames pairs new).map (·.id) = new.map (·.id) := by
  unfold transferNames
  induction pairs with
  | nil => exact fun _ => rfl
  | cons p rest ih =>
    intro new
    obtain ⟨o, nv⟩ := p
    rw [List.foldl_cons, ih]
    cases nv with
    | fresh t => exact map_ids_map _ (renNode_id t o 1) new
    | existing _ => rfl
    | none => rfl

theorem retireOld_ids (g : Graph) (m : Match) (rm : Bool) : (retireOld g m rm).ids = g.ids := by
  cases rm with
  | true => rfl
  | false =>
    show ((g.setNodes _).nodes.map (·.id)) = _
    rw [setNodes_nodes]
    refine map_ids_map _ (fun n => ?_) _
    split
    · exact setOutputs_id ..
    · rfl

theorem insertAfter_ids (ns new : List Node) (root : Nat) :
    (insertAfter ns root new).map (·.id) = insAfterIds (ns.map (·.id)) root (new.map (·.id)) := by
  unfold insertAfter insAfterIds
  rw [List.map_flatMap, List.flatMap_map]
  exact congrArg (List.flatMap · ns) (funext fun n => by split <;> rfl)

theorem spliceNodes_ids (ns new : List Node) (root : Nat) (matched : List Nat) (rm : Bool) :
    (spliceNodes ns root matched new rm).map (·.id) =
      (insAfterIds (ns.map (·.id)) root (new.map (·.id))).filter (fun i => !(rm && matched.contains i)) := by
  unfold spliceNodes
  rw [← insertAfter_ids]
  cases rm with
  | true => rw [if_pos rfl, List.filter_map]; rfl
  | false => exact (List.filter_eq_self.mpr fun _ _ => rfl).symm

end OV.C07
