import OV.Model.C13Export
/-! C13, refusals: a node of the main graph that `translateNode` refuses in every state makes `exportModel` fail. -/
namespace OV.C13

theorem nodesLoop_error_of_mem (f : Node → St → R) (n : Node)
    (hn : ∀ st, ∃ e, f n st = .error e) :
    ∀ (nodes : List Node), n ∈ nodes → ∀ st, ∃ e, nodesLoop f nodes st = .error e
  | [], h, _ => by cases h
  | m :: ms, h, st => by
    simp only [nodesLoop]
    cases hm : f m st with
    | error e => exact ⟨e, rfl⟩
    | ok r =>
      obtain ⟨l1, st1⟩ := r
      simp only
      rcases List.mem_cons.mp h with h | h
      · subst h; obtain ⟨e, he⟩ := hn st; rw [he] at hm; cases hm
      · obtain ⟨e, he⟩ := nodesLoop_error_of_mem f n hn ms h st1
        rw [he]; exact ⟨e, rfl⟩

theorem graphBody_error_of_sparse (o : Opts) (rec : Node → St → R) (g : Graph) (st : St)
    (h : g.nSparse > 0) : ∃ e, graphBody o rec g st = .error e := by
  unfold graphBody
  cases initsLoop o rec g.inits st with
  | error e => exact ⟨e, rfl⟩
  | ok r => simp only [h, if_true]; exact ⟨_, rfl⟩

theorem graphBody_error_of_node (o : Opts) (rec : Node → St → R) (g : Graph) (st : St) (n : Node)
    (hn : ∀ st, ∃ e, rec n st = .error e) (hmem : n ∈ g.nodes) : ∃ e, graphBody o rec g st = .error e := by
  unfold graphBody
  cases initsLoop o rec g.inits st with
  | error e => exact ⟨e, rfl⟩
  | ok r =>
    simp only
    split
    · exact ⟨_, rfl⟩
    · obtain ⟨e, he⟩ := nodesLoop_error_of_mem rec n hn g.nodes hmem r.2
      rw [he]; exact ⟨e, rfl⟩

theorem exportModel_error_of_body (o : Opts) (d : Nat) (m : ModelP)
    (h : ∀ indent st, ∃ e, graphBody o (translateNode o m.opsets d indent) m.graph st = .error e) :
    ∃ e, exportModel o d m = .error e := by
  unfold exportModel exportModelT translateGraph
  split
  · exact ⟨_, rfl⟩
  · unfold graphProg
    obtain ⟨e, he⟩ := h (if o.skipInit then 2 else 1)
      { remaps := [[]], namesRead := m.graph.outputs ++ namesReadBy d m.graph.nodes,
        uniq := reservedTable (reservedNames [] [m.opsets] []) }
    simp only [he]
    exact ⟨e, rfl⟩

theorem exportModel_error_of_node (o : Opts) (d : Nat) (m : ModelP) (n : Node) (hmem : n ∈ m.graph.nodes)
    (hn : ∀ indent st, ∃ e, translateNode o m.opsets d indent n st = .error e) :
    ∃ e, exportModel o d m = .error e :=
  exportModel_error_of_body o d m (fun indent st => graphBody_error_of_node o _ m.graph st n (hn indent) hmem)

theorem translateNode_scan (o : Opts) (ops : List (String × Nat)) (d indent : Nat) (n : Node) (st : St)
    (h : n.op = "Scan") : ∃ e, translateNode o ops d indent n st = .error e := by
  cases d with
  | zero => exact ⟨_, rfl⟩
  | succ d =>
    refine ⟨.scan, ?_⟩
    simp only [translateNode, h]
    simp

theorem translateNode_plain (o : Opts) (ops : List (String × Nat)) (d indent : Nat) (n : Node) (st : St)
    (h1 : n.op ≠ "Constant") (h2 : n.op ≠ "If") (h3 : n.op ≠ "Loop") (h4 : n.op ≠ "Scan") :
    translateNode o ops (d + 1) indent n st = translatePlain o ops n indent st := by
  simp only [translateNode]
  have e1 : (n.op == "Constant") = false := by simpa using h1
  have e2 : (n.op == "If") = false := by simpa using h2
  have e3 : (n.op == "Loop") = false := by simpa using h3
  have e4 : (n.op == "Scan") = false := by simpa using h4
  simp [e1, e2, e3, e4]

/-- not with the same error: at depth 0 `translateNode` refuses for want of fuel (`.depth`) -/
theorem translateNode_error_of_plain (o : Opts) (ops : List (String × Nat)) (d indent : Nat) (n : Node) (st : St)
    (h1 : n.op ≠ "Constant") (h2 : n.op ≠ "If") (h3 : n.op ≠ "Loop") (h4 : n.op ≠ "Scan")
    (h : ∃ e, translatePlain o ops n indent st = .error e) : ∃ e, translateNode o ops d indent n st = .error e := by
  cases d with
  | zero => exact ⟨_, rfl⟩
  | succ d => rw [translateNode_plain o ops d indent n st h1 h2 h3 h4]; exact h

theorem translateAttrs_error_of_unsupported : ∀ (attrs : List (String × Attr)) (k : String),
    (k, Attr.unsupported) ∈ attrs → ∃ e, translateAttrs attrs = .error e
  | [], _, h => by cases h
  | (k', a) :: rest, k, h => by
    rcases List.mem_cons.mp h with h | h
    · cases h; exact ⟨_, rfl⟩
    · obtain ⟨e, he⟩ := translateAttrs_error_of_unsupported rest k h
      cases a <;> simp only [translateAttrs, he, Except.map] <;> exact ⟨_, rfl⟩

theorem translatePlain_graphAttr (o : Opts) (ops : List (String × Nat)) (n : Node) (indent : Nat) (st : St)
    (h : n.attrs.any (·.2.isGraph) = true) : translatePlain o ops n indent st = .error .graphAttr := by
  simp only [translatePlain, h, if_true]

theorem translatePlain_unsupported (o : Opts) (ops : List (String × Nat)) (n : Node) (indent : Nat) (st : St)
    (k : String) (h : (k, Attr.unsupported) ∈ n.attrs)
    (hs : o.useOps = false ∨ opsTable.lookup n.op = none) :
    ∃ e, translatePlain o ops n indent st = .error e := by
  unfold translatePlain
  split
  · exact ⟨_, rfl⟩
  · have : (if o.useOps = true then opsTable.lookup n.op else none) = none := by
      rcases hs with hs | hs <;> simp [hs]
    simp only [this]
    cases ops.lookup n.domain with
    | none => exact ⟨_, rfl⟩
    | some v =>
      obtain ⟨e, he⟩ := translateAttrs_error_of_unsupported n.attrs k h
      simp only [he]
      exact ⟨_, rfl⟩

end OV.C13
