import OV.Lemmas.C07Splice
/-! The cursor discipline of `passLoop` on lists of node ids: what is left to visit (`todo`) after a turn,
and that the potential `mu` drops at every turn. -/
namespace OV.C07

def todo (ids : List Nat) : Option Nat → List Nat
  | none => []
  | some c => ids.dropWhile (· != c)

/-- potential: what is left to visit, original nodes weighted by the size bound of a replacement -/
def mu (base K : Nat) (ids : List Nat) (cur : Option Nat) : Nat :=
  (todo ids cur).length + K * ((todo ids cur).filter (· < base)).length

theorem nodup_split {pre post : List Nat} {c : Nat} (h : (pre ++ c :: post).Nodup) :
    c ∉ pre ∧ c ∉ post ∧ ∀ x ∈ post, x ∉ pre := by
  obtain ⟨_, h2, h3⟩ := List.nodup_append.mp h
  exact ⟨fun hm => h3 c hm c (List.mem_cons_self ..) rfl, (List.nodup_cons.mp h2).1,
    fun x hx hm => h3 x hm x (List.mem_cons_of_mem _ hx) rfl⟩

theorem dropWhile_split (c : Nat) (pre post : List Nat) (h : c ∉ pre) :
    (pre ++ c :: post).dropWhile (· != c) = c :: post := by
  rw [List.dropWhile_append_of_pos (fun a ha => bne_iff_ne.mpr fun (e : a = c) => h (e ▸ ha)),
    List.dropWhile_cons_of_neg (by simp)]

theorem dropWhile_none (c : Nat) (l : List Nat) (h : c ∉ l) : l.dropWhile (· != c) = [] := by
  have := List.dropWhile_append_of_pos (l₂ := []) (fun a ha => bne_iff_ne.mpr fun (e : a = c) => h (e ▸ ha))
  rwa [List.append_nil] at this

theorem todo_suffix (pre l : List Nat) (h : ∀ n, l.head? = some n → n ∉ pre) : todo (pre ++ l) l.head? = l := by
  cases l with
  | nil => rfl
  | cons n rest => exact dropWhile_split n pre rest (h n rfl)

theorem successor_linked (before pre post : List Nat) (c : Nat) (h : c ∉ pre) :
    successor before (pre ++ c :: post) c = post.head? := by
  unfold successor
  rw [dropWhile_split c pre post h]
  cases post <;> rfl

theorem successor_unlinked (pre post after : List Nat) (c : Nat) (h : c ∉ pre) (ha : c ∉ after) :
    successor (pre ++ c :: post) after c = post.find? (after.contains ·) := by
  unfold successor
  rw [dropWhile_none c after ha, dropWhile_split c pre post h]
  rfl

theorem todo_successor_same (pre post : List Nat) (c : Nat) (hnd : (pre ++ c :: post).Nodup) :
    todo (pre ++ c :: post) (successor (pre ++ c :: post) (pre ++ c :: post) c) = post := by
  obtain ⟨hc, hc2, hpp⟩ := nodup_split hnd
  rw [successor_linked _ pre post c hc, List.append_cons]
  refine todo_suffix (pre ++ [c]) post fun n hn hm => ?_
  have hnp := List.mem_of_mem_head? hn
  rcases List.mem_append.mp hm with h | h
  · exact hpp n hnp h
  · exact hc2 (List.mem_singleton.mp h ▸ hnp)

/-- an application at the cursor: what is left to visit afterwards is the new nodes followed by the
surviving part of the old tail — whatever the splice removed, and whether or not it inserted -/
theorem todo_applied (pre post new : List Nat) (c : Nat) (keep : Nat → Bool)
    (hnd : (pre ++ c :: post).Nodup) (hpos : ∀ i ∈ pre ++ c :: post, 0 < i)
    (hfresh : ∀ i ∈ new, i ∉ pre ++ c :: post) (hkeep : ∀ i ∈ new, keep i = true) :
    let ids' := (insAfterIds (pre ++ c :: post) c new).filter keep
    let first := new.head?.getD 0
    todo ids' (if ids'.contains first then some first else successor (pre ++ c :: post) ids' c) =
      new ++ post.filter keep := by
  obtain ⟨hc1, hc2, hpp⟩ := nodup_split hnd
  intro ids' first
  have hids : ids' = (pre.filter keep ++ [c].filter keep) ++ (new ++ post.filter keep) := by
    show (insAfterIds (pre ++ c :: post) c new).filter keep = _
    rw [insAfterIds_split pre post new c hc1 hc2, List.append_assoc, List.cons_append, List.append_cons pre,
      List.filter_append, List.filter_append, List.filter_append, List.filter_eq_self.mpr hkeep]
  have hold : ∀ x ∈ pre.filter keep ++ [c].filter keep, x ∈ pre ++ c :: post ∧ x ∉ post := by
    intro x hx
    rcases List.mem_append.mp hx with h | h
    · have := (List.mem_filter.mp h).1
      exact ⟨List.mem_append_left _ this, fun hp => hpp x hp this⟩
    · obtain rfl := List.mem_singleton.mp (List.mem_filter.mp h).1
      exact ⟨List.mem_append_right _ (List.mem_cons_self ..), hc2⟩
  cases new with
  | cons f rest =>
    have hcont : ids'.contains first = true := by
      rw [hids]; simp [first]
    rw [if_pos hcont, hids]
    exact todo_suffix _ (f :: rest ++ post.filter keep) fun n hn hm =>
      hfresh n (Option.some.inj hn ▸ List.mem_cons_self ..) (hold n hm).1
  | nil =>
    have hz : ids'.contains first = false := by
      refine Bool.eq_false_iff.mpr fun hcon => ?_
      have hm : (0 : Nat) ∈ ids' := List.contains_iff_mem.mp hcon
      rw [hids, List.nil_append] at hm
      have : (0 : Nat) ∈ pre ++ c :: post := by
        rcases List.mem_append.mp hm with h | h
        · exact (hold 0 h).1
        · exact List.mem_append_right _ (List.mem_cons_of_mem _ (List.mem_filter.mp h).1)
      exact Nat.lt_irrefl 0 (hpos 0 this)
    rw [List.nil_append] at hids ⊢
    rw [if_neg (by rw [hz]; exact Bool.false_ne_true)]
    have hs : successor (pre ++ c :: post) ids' c = (post.filter keep).head? := by
      cases hk : keep c with
      | true =>
        rw [hids, List.filter_cons_of_pos hk, List.filter_nil, List.append_assoc]
        exact successor_linked _ _ _ c fun hm => hc1 (List.mem_filter.mp hm).1
      | false =>
        rw [List.filter_cons_of_neg (by simp [hk]), List.filter_nil, List.append_nil] at hids
        have hcn : c ∉ ids' := by
          rw [hids]
          exact fun hm => (List.mem_append.mp hm).elim (fun h => hc1 (List.mem_filter.mp h).1)
            (fun h => hc2 (List.mem_filter.mp h).1)
        rw [successor_unlinked pre post ids' c hc1 hcn, ← List.head?_filter]
        refine congrArg _ (List.filter_congr fun x hx => ?_)
        rw [hids]
        simp [hx, hpp x hx]
    rw [hs, hids]
    exact todo_suffix _ _ fun n hn hm => (hold n hm).2 (List.mem_filter.mp (List.mem_of_mem_head? hn)).1

theorem ids_applied_nodup (pre post new : List Nat) (c : Nat) (keep : Nat → Bool)
    (hnd : (pre ++ c :: post).Nodup) (hnew : new.Nodup) (hfresh : ∀ i ∈ new, i ∉ pre ++ c :: post) :
    ((insAfterIds (pre ++ c :: post) c new).filter keep).Nodup := by
  obtain ⟨hc1, hc2, hpp⟩ := nodup_split hnd
  obtain ⟨hpre, hcpost, _⟩ := List.nodup_append.mp hnd
  rw [insAfterIds_split pre post new c hc1 hc2, List.append_assoc, List.cons_append]
  refine List.Nodup.sublist List.filter_sublist (List.nodup_append.mpr ⟨hpre, List.nodup_cons.mpr ⟨?_, ?_⟩, ?_⟩)
  · exact fun hm => (List.mem_append.mp hm).elim (fun h => hfresh c h (List.mem_append_right _ (List.mem_cons_self ..))) hc2
  · exact List.nodup_append.mpr ⟨hnew, (List.nodup_cons.mp hcpost).2,
      fun a ha b hb hab => hfresh a ha (List.mem_append_right _ (List.mem_cons_of_mem _ (hab ▸ hb)))⟩
  · intro a ha b hb hab
    subst hab
    rcases List.mem_cons.mp hb with h | h
    · exact hc1 (h ▸ ha)
    · exact (List.mem_append.mp h).elim (fun h => hfresh a h (List.mem_append_left _ ha)) (fun h => hpp a h ha)

theorem ids_applied_pos (pre post new : List Nat) (c : Nat) (keep : Nat → Bool) (base : Nat) (hb : 0 < base)
    (hpos : ∀ i ∈ pre ++ c :: post, 0 < i) (hnew : ∀ i ∈ new, base ≤ i) :
    ∀ i ∈ (insAfterIds (pre ++ c :: post) c new).filter keep, 0 < i := by
  intro i hi
  obtain ⟨a, ha, hia⟩ := List.mem_flatMap.mp (List.mem_filter.mp hi).1
  split at hia
  · rcases List.mem_cons.mp hia with rfl | h
    · exact hpos _ ha
    · exact Nat.lt_of_lt_of_le hb (hnew i h)
  · exact List.mem_singleton.mp hia ▸ hpos _ ha

theorem mu_step_same (base K : Nat) (c : Nat) (post : List Nat) (ids : List Nat) (next : Option Nat)
    (h0 : todo ids (some c) = c :: post) (h1 : todo ids next = post) :
    mu base K ids next < mu base K ids (some c) := by
  unfold mu
  rw [h0, h1, List.filter_cons]
  split
  · simp only [List.length_cons, Nat.mul_succ]; omega
  · simp only [List.length_cons]; omega

theorem mu_step_applied (base K : Nat) (c : Nat) (post new : List Nat) (keep : Nat → Bool)
    (ids ids' : List Nat) (next : Option Nat) (hc : c < base) (hK : new.length ≤ K)
    (hnew : ∀ i ∈ new, base ≤ i)
    (h0 : todo ids (some c) = c :: post) (h1 : todo ids' next = new ++ post.filter keep) :
    mu base K ids' next < mu base K ids (some c) := by
  unfold mu
  rw [h0, h1]
  have hn0 : new.filter (· < base) = [] :=
    List.filter_eq_nil_iff.mpr fun i hi => by simpa using hnew i hi
  have hl : (post.filter keep).length ≤ post.length := List.length_filter_le _ _
  have ho : ((post.filter keep).filter (· < base)).length ≤ (post.filter (· < base)).length :=
    ((List.filter_sublist (l := post) (p := keep)).filter _).length_le
  have := Nat.mul_le_mul_left K ho
  simp only [List.length_append, List.filter_append, hn0, List.nil_append, List.length_cons, List.filter_cons,
    hc, decide_true, if_true, Nat.mul_succ]
  omega

theorem mu_same (base K : Nat) (ids : List Nat) (c : Nat) (hc : c ∈ ids) (hnd : ids.Nodup) :
    mu base K ids (successor ids ids c) < mu base K ids (some c) := by
  obtain ⟨pre, post, rfl⟩ := List.append_of_mem hc
  exact mu_step_same base K c post _ _ (dropWhile_split c pre post (nodup_split hnd).1)
    (todo_successor_same pre post c hnd)

theorem mu_applied (base K : Nat) (hb : 0 < base) (ids ids' new : List Nat) (c first : Nat) (keep : Nat → Bool)
    (hc : c ∈ ids) (hnd : ids.Nodup) (hpos : ∀ i ∈ ids, 0 < i) (hlt : c < base) (hK : new.length ≤ K)
    (hnewnd : new.Nodup) (hnewp : ∀ i ∈ new, base ≤ i ∧ i ∉ ids ∧ keep i = true)
    (hids' : ids' = (insAfterIds ids c new).filter keep) (hfirst : first = new.head?.getD 0) :
    ids'.Nodup ∧ (∀ i ∈ ids', 0 < i) ∧
      mu base K ids' (if ids'.contains first then some first else successor ids ids' c) < mu base K ids (some c) := by
  obtain ⟨pre, post, rfl⟩ := List.append_of_mem hc
  subst hids' hfirst
  have hfresh : ∀ i ∈ new, i ∉ pre ++ c :: post := fun i hi => (hnewp i hi).2.1
  have hge : ∀ i ∈ new, base ≤ i := fun i hi => (hnewp i hi).1
  exact ⟨ids_applied_nodup pre post new c keep hnd hnewnd hfresh, ids_applied_pos pre post new c keep base hb hpos hge,
    mu_step_applied base K c post new keep _ _ _ hlt hK hge (dropWhile_split c pre post (nodup_split hnd).1)
      (todo_applied pre post new c keep hnd hpos hfresh fun i hi => (hnewp i hi).2.2)⟩

end OV.C07
