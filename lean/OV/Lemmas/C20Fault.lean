import OV.Model.C20Save
import OV.Lemmas.C20Save
/-!
# C20 — a planned fault is never swallowed

`Unfired k0 s`: the fault plan is `k0` and the planned call has not been made yet.  As a stable pair with `True` for the
exceptional exits it says: started before the fault, a **normal** return of the save ends before the fault — so if the
fault fires inside the save, the save ends with an exception.
-/
namespace OV.C20

def Quiet (g : St → St) : Prop := ∀ s, (g s).k = s.k ∧ (g s).calls = s.calls

theorem quiet_of_rfl {g : St → St} (h : ∀ s, (g s).k = s.k ∧ (g s).calls = s.calls) : Quiet g := h

def Unfired (k0 : Option Nat) (s : St) : Prop := s.k = k0 ∧ ∀ n, k0 = some n → s.calls ≤ n

theorem stable_unfired (k0 : Option Nat) (dest mp : String) : Stable dest mp (Unfired k0) (fun _ => True) :=
  have tick : ∀ s : St, Unfired k0 s → s.k ≠ some s.calls → Unfired k0 { s with calls := s.calls + 1 } :=
    fun s ⟨hk, hn⟩ hne => ⟨hk, fun n h => by
      have := hn n h
      have : s.calls ≠ n := fun e => hne (by rw [hk, h, e])
      show s.calls + 1 ≤ n
      omega⟩
  { tick := fun s _ h hne => tick s h hne
    openW := fun s _ _ _ h hne => tick s h hne }

end OV.C20
