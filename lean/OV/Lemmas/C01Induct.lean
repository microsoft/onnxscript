import OV.Model.C01Graph
/-!
`Expr`, `Stmt` and `Node` are nested inductive types (a call has a list of arguments, a statement has blocks, an
`If` or `Loop` node has body graphs), so a fact about all of them needs a second motive for lists.  Their
recursors are restated with both conclusions side by side, so that `apply …_induct` finds the two motives and
names the cases.
-/
namespace OV.C01

def leaf : Stmt → Bool
  | .ite _ _ _ => false
  | .for_ _ _ _ _ => false
  | .while_ _ _ => false
  | _ => true

theorem stmt_block_induct {P : Stmt → Prop} {Q : List Stmt → Prop}
    (hleaf : ∀ st, leaf st = true → P st) (hite : ∀ c t e, Q t → Q e → P (.ite c t e))
    (hfor : ∀ i ok b body, Q body → P (.for_ i ok b body)) (hwhile : ∀ c body, Q body → P (.while_ c body))
    (hnil : Q []) (hcons : ∀ s ss, P s → Q ss → Q (s :: ss)) : (∀ st, P st) ∧ (∀ ss, Q ss) :=
  ⟨Stmt.rec (motive_2 := Q) (fun _ _ => hleaf _ rfl) (fun _ _ => hleaf _ rfl) (fun _ _ => hleaf _ rfl)
      (fun _ _ => hleaf _ rfl) hite hfor hwhile (fun _ => hleaf _ rfl) (fun _ _ => hleaf _ rfl) (hleaf _ rfl)
      (hleaf _ rfl) hnil hcons,
    Stmt.rec_1 (motive_1 := P) (fun _ _ => hleaf _ rfl) (fun _ _ => hleaf _ rfl) (fun _ _ => hleaf _ rfl)
      (fun _ _ => hleaf _ rfl) hite hfor hwhile (fun _ => hleaf _ rfl) (fun _ _ => hleaf _ rfl) (hleaf _ rfl)
      (hleaf _ rfl) hnil hcons⟩

theorem expr_induct {P : Expr → Prop} {Q : List Expr → Prop} (var : ∀ x, P (.var x)) (lit : ∀ l, P (.lit l))
    (call : ∀ dom op sig args attrs, Q args → P (.call dom op sig args attrs))
    (binop : ∀ o a b, P a → P b → P (.binop o a b)) (unop : ∀ o a, P a → P (.unop o a))
    (cmp : ∀ o a b, P a → P b → P (.cmp o a b)) (subscript : ∀ base idx, P base → P (.subscript base idx))
    (other : ∀ us, P (.other us)) (nil : Q []) (cons : ∀ e es, P e → Q es → Q (e :: es)) :
    (∀ e, P e) ∧ (∀ es, Q es) :=
  ⟨Expr.rec (motive_2 := Q) var lit call binop unop cmp subscript other nil cons,
    Expr.rec_1 (motive_1 := P) var lit call binop unop cmp subscript other nil cons⟩

theorem node_induct {P : Node → Prop} {Q : List Node → Prop}
    (op : ∀ dom name ins outs attrs, P (.op dom name ins outs attrs))
    (ifN : ∀ c outs tn to en eo, Q tn → Q en → P (.ifN c outs tn to en eo))
    (loop : ∀ b c inits outs bi bn bo, Q bn → P (.loop b c inits outs bi bn bo))
    (nil : Q []) (cons : ∀ n ns, P n → Q ns → Q (n :: ns)) : (∀ n, P n) ∧ (∀ ns, Q ns) :=
  ⟨Node.rec (motive_2 := Q) op ifN loop nil cons, Node.rec_1 (motive_1 := P) op ifN loop nil cons⟩

end OV.C01
