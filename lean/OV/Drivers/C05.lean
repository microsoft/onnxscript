import OV.Model.C05Order
import OV.Model.C05Unit
import OV.Model.C05Shape
import OV.Model.C05Linalg
import OV.Model.C05More
import OV.Model.C05Chain
import OV.Model.C09Shape
import OV.Drivers.Loop
/-! Line-protocol driver for C05: `C05 <family> key=value …` → `nofire` | `raise` | `fire <replacement> hyp=<0|1>`.
`hyp` is the model's own side condition under which the `_sound`/`_partial` theorem of the family applies
(`hyp=0` ⇔ the case lies in a recorded finding's region). -/
namespace OV.Drivers.C05
open OV.C05

def kv (args : List String) (k : String) : Option String :=
  args.findSome? (fun a => if a.startsWith (k ++ "=") then some (a.drop (k.length + 1)).toString else none)

def getS (args : List String) (k : String) : String := (kv args k).getD "-"

def parseIntList (s : String) : Option (List Int) :=
  if s == "." then some [] else (s.splitOn ",").mapM (fun t => t.toInt?)

def getInt (args : List String) (k : String) (dflt : Int := 0) : Int :=
  ((kv args k).bind (·.toInt?)).getD dflt

def getNat (args : List String) (k : String) (dflt : Nat := 0) : Nat := (getInt args k dflt).toNat

def getBool (args : List String) (k : String) : Bool := getS args k == "1"

def getOptInt (args : List String) (k : String) : Option Int := (kv args k).bind (·.toInt?)

def getOptInts (args : List String) (k : String) : Option (List Int) :=
  match kv args k with
  | none => none
  | some "-" => none
  | some s => parseIntList s

def parseRat (s : String) : Option Rat :=
  match s.splitOn "/" with
  | [n] => n.toInt?.map (fun i => (i : Rat))
  | [n, d] => do
    let n ← n.toInt?; let d ← d.toNat?
    if d == 0 then none else some ((n : Rat) / (d : Rat))
  | _ => none

def parseDim (t : String) : Shape.Dim :=
  if t == "?" then .unknown
  else match t.toNat? with
    | some n => .known n
    | none => .sym t

def parseShape (s : String) : Option Shape.Shape :=
  if s == "-" then none
  else if s == "." then some []
  else some ((s.splitOn ",").map parseDim)

def getShape (args : List String) (k : String) : Option Shape.Shape := parseShape (getS args k)

def showInts (l : List Int) : String := if l.isEmpty then "." else ",".intercalate (l.map toString)
def showNats (l : List Nat) : String := if l.isEmpty then "." else ",".intercalate (l.map toString)
def showOptInt : Option Int → String
  | some v => toString v
  | none => "-"
def b2s (b : Bool) : String := if b then "1" else "0"

/-! ### order family -/
def parseBound (s : String) : Order.Bound Int :=
  if s == "-" then .absent
  else if s == "n" then .dynamic
  else if s.startsWith "c" then ((s.drop 1).toString.toInt?.map .const).getD .dynamic
  else if s.startsWith "g" then ((s.drop 1).toString.toInt?.map .constInput).getD .dynamic
  else .dynamic

def showClip (o : Order.Outcome (Order.ClipRepl Int)) (hyp : Bool) : String :=
  match o with
  | .nofire => "nofire"
  | .raises => "raise"
  | .fire r => s!"fire lo={showOptInt r.lo} hi={showOptInt r.hi} hyp={b2s hyp}"

def parseMMConst (s : String) : Order.MMConst Int :=
  if s == "n" then .dynamic
  else match s.splitOn ":" with
    | [r, d] => match r.toNat?, (d.splitOn "/").mapM (·.toInt?) with
      | some r, some d => .const r d
      | _, _ => .dynamic
    | _ => .dynamic

def parseMMList (s : String) : List (Order.MMConst Int) :=
  if s == "." || s == "-" then [] else (s.splitOn ";").map parseMMConst

def parseKind (s : String) : Order.MMKind :=
  if s == "minMin" then .minMin else if s == "maxMax" then .maxMax else if s == "maxMin" then .maxMin else .minMax

/-! ### handlers -/
def parseScalar1 (s : String) : Shape.Scalar1 :=
  if s == "n" then .dynamic else if s == "o" then .sizeOther else (s.toInt?.map .one).getD .dynamic

def parseOptConstInts (s : String) : Linalg.OptConst (List Int) :=
  if s == "-" then .absent else if s == "n" then .dynamic else ((parseIntList s).map .const).getD .dynamic

def showU (o : Shape.Outcome Unit) (hyp : Bool) : String :=
  match o with
  | .nofire => "nofire" | .raises => "raise" | .fire _ => s!"fire hyp={b2s hyp}"

def fireIf (c : Bool) (hyp : Bool) (extra : String := "") : String :=
  if c then s!"fire {extra}hyp={b2s hyp}" else "nofire"

def handle1 (args : List String) : String :=
  match args with
  | "clipclip" :: a =>
    let p : Order.ClipClip Int := { a := parseBound (getS a "a"), b := parseBound (getS a "b"), c := parseBound (getS a "c"), d := parseBound (getS a "d"), dtype1 := getS a "dt1" != "0", dtype2 := getS a "dt2" != "0", opsetGe11 := !getBool a "old" }
    showClip p.run true
  | "cliprelu" :: a =>
    let p : Order.ReluClip Int := { a := parseBound (getS a "a"), b := parseBound (getS a "b"), dtype1 := getS a "dt1" != "0", opsetGe11 := !getBool a "old" }
    showClip (p.run 0) true
  | "reluclip" :: a =>
    let p : Order.ReluClip Int := { a := parseBound (getS a "a"), b := parseBound (getS a "b"), dtype1 := getS a "dt1" != "0", opsetGe11 := !getBool a "old" }
    showClip (p.runReluClip 0) true
  | "relurelu" :: _ => "fire hyp=1"
  | "minmax" :: a =>
    let p : Order.MinMax Int := { kind := parseKind (getS a "kind"), first := parseMMList (getS a "first"), second := parseMMList (getS a "second"), xRank := (getOptInt a "rx").map Int.toNat, opsetGe11 := !getBool a "old" }
    (match p.run with
     | .nofire => "nofire"
     | .raises => "raise"
     | .fire (.sameOp r d) => s!"fire same rank={r} data={showInts d} hyp={b2s (!getBool a "ginit")}"
     | .fire (.clip lo hi) => s!"fire clip lo={lo} hi={hi} hyp={b2s (!getBool a "ginit")}")
  | "unit" :: a =>
    let op : Unit.Op := match getS a "op" with | "add" => .add | "mul" => .mul | "sub" => .sub | _ => .div
    let origin : Unit.Origin := match getS a "origin" with
      | "init" => .initializer | "cnode" => .constantNode | "ginit" => .inputWithDefault | _ => .input
    (match parseRat (getS a "val") with
     | none => "badline"
     | some v =>
       let p : Unit.Params := { op := op, constOnLeft := getBool a "left", origin := origin, rank := getNat a "rank", value := v }
       fireIf p.check p.exact)
  | "dropout" :: a =>
    let p : Unit.Dropout := { zeroRule := getBool a "zero", ratioAttr := parseRat (getS a "ratio"), trainingModeAttr := getOptInt a "tm", nInputs := getNat a "nin", maskUsed := getBool a "mask" }
    fireIf p.check true
  | "bias" :: a =>
    let vals := if getS a "vals" == "." then some [] else ((getS a "vals").splitOn ",").mapM parseRat
    (match vals with
     | none => "badline"
     | some vs => fireIf (Unit.Bias.check { isConst := getBool a "const", values := vs }) true)
  | "notranspose" :: a =>
    (match getOptInts a "perm" with
     | some p => fireIf (Shape.noOpTransposeCheck p) true
     | none => "nofire")   -- attribute pattern `perm=perm` needs the attribute to be present
  | "transtrans" :: a =>
    (match getOptInts a "p1", getOptInts a "p2" with
     | some p1, some p2 =>
       (match Shape.transposeTransposeRun (p1.map Int.toNat) (p2.map Int.toNat) with
        | .nofire => "nofire" | .raises => "raise"
        | .fire .identity => "fire identity hyp=1"
        | .fire (.transpose p) => s!"fire perm={showNats p} hyp=1")
     | _, _ => "badline")
  | "unsq" :: a =>
    (match Shape.unsqueezeUnsqueezeRun (getOptInt a "v1") (getOptInt a "v2") with
     | .nofire => "nofire" | .raises => "raise"
     | .fire ax => s!"fire axes={showInts ax} hyp=1")
  | "sqreshape" :: a =>
    -- the pattern literal `[-1]` is matched by `_match_constant` (shape (1,), isclose — exact on ints)
    fireIf (getInt a "lit" (-1) == -1 && Shape.squeezeReshape1dCheck ((getOptInt a "rank").map Int.toNat)) true
  | "flatten" :: a =>
    (match Shape.flattenToReshapeRun (getShape a "x") (getInt a "axis" 1) (getShape a "out") with
     | .nofire => "nofire" | .raises => "raise"
     | .fire ns =>
       -- what `flatten_to_reshape_fire_pos` proves of a fired rule: the input has no dimension known to be 0 (finding D6 otherwise)
       let ok := !((getShape a "x").getD []).any (· == .known 0)
       s!"fire shape={showInts ns} hyp={b2s ok}")
  | "reshape2" :: a =>
    (match Shape.reshapeReshapeRun (getOptInts a "shape") (getShape a "out") (getInt a "az" 0) with
     | .nofire => "nofire" | .raises => "raise"
     | .fire r => s!"fire shape={showInts r.shape} az={showOptInt r.allowzero} hyp=1")
  | "expandid" :: a => fireIf (Shape.noOpExpandCheck (getShape a "x") (getOptInts a "shape")) true
  | "materialize" :: a =>
    (match Shape.materializeReshapeRun (getBool a "const") (getShape a "out") with
     | .nofire => "nofire" | .raises => "raise"
     | .fire r =>
       let bad := r.shape.any (· == 0) && r.shape.any (· == -1)
       s!"fire shape={showInts r.shape} az={showOptInt r.allowzero} hyp={b2s (!bad)}")
  | "slice1" :: a =>
    showU (Shape.collapseSliceRun (getShape a "data") (parseScalar1 (getS a "st")) (parseScalar1 (getS a "en"))
      (parseScalar1 (getS a "ax")) (parseScalar1 (getS a "sp"))) true
  | "slice12" :: a =>
    -- RewriteRuleSet([collapse_slice_rule, collapse_slice2_rule]): the first rule whose check passes rewrites
    (match Shape.collapseSliceRun (getShape a "data") (parseScalar1 (getS a "st")) (parseScalar1 (getS a "en"))
        (parseScalar1 (getS a "ax")) (parseScalar1 (getS a "sp")) with
     | .raises => "raise"
     | .fire _ => "fire hyp=1"
     | .nofire => fireIf (Shape.collapseSlice2Check (getShape a "data") (getShape a "out") (getOptInts a "steps")) true)
  | "slice2" :: a => fireIf (Shape.collapseSlice2Check (getShape a "data") (getShape a "out") (getOptInts a "steps")) true
  | "scatter" :: a =>
    let idx : Option (List (List Int)) := match getS a "idx" with
      | "-" => none
      | "." => some []
      | s => (s.splitOn ";").mapM parseIntList
    showU (Shape.staticScatterRun (getS a "red" == "none" || getS a "red" == "-") (getShape a "data") (getShape a "upd") idx) true
  | "cast" :: a => fireIf (Linalg.noOpCastCheck ((getOptInt a "x").map Int.toNat) (getNat a "to")) true
  | "castcast" :: a =>
    fireIf (Linalg.castCastCheck ((getOptInt a "x").map Int.toNat) (getNat a "t2") (getNat a "t3")) true s!"to={getNat a "t3"} "
  | "gemm" :: a =>
    let ro (k : String) : Option Nat := (getOptInt a k).map Int.toNat
    let cs : Option (List Nat) := (getOptInts a "c").map (·.map Int.toNat)
    fireIf (Linalg.matmulAddCheck (ro "ra") (ro "rb") (getNat a "m") (getNat a "n") cs) true s!"transA={getS a "ta"} transB={getS a "tb"} "
  | "padconv" :: a =>
    let cv : Linalg.OptConst Int := match getS a "cv" with
      | "-" => .absent | "n" => .dynamic | s => ((s.toInt?).map .const).getD .dynamic
    let p : Linalg.PadConv := { xRank := (getOptInt a "rank").map Int.toNat, mode := (kv a "mode").bind (fun m => if m == "-" then none else some m), pads := parseOptConstInts (getS a "pads"), constantValue := cv, cvIsZero := getS a "cvz" != "0", axes := parseOptConstInts (getS a "axes"), autoPad := getS a "autopad", convPads := getOptInts a "cpads", zeroPoint := (match getS a "zp" with | "-" => .absent | "n" => .dynamic | t => ((t.toInt?).map .const).getD .dynamic) }
    (match Linalg.padConvRun p with
     | .nofire => "nofire" | .raises => "raise"
     | .fire pads => s!"fire pads={showInts pads} hyp=1")
  | "normpad" :: a =>
    let nats (k : String) : List Nat := ((getOptInts a k).getD []).map Int.toNat
    let p : Linalg.NormPad := { autoPad := (kv a "ap").bind (fun m => if m == "-" then none else some m), inShape := getShape a "in", outShape := getShape a "out", kernel := nats "k", strides := nats "s", dilations := nats "dil", padsAttr := getOptInts a "pads" }
    (match Linalg.normPadRun p with
     | .nofire => "nofire" | .raises => "raise"
     | .fire r =>
       s!"fire pads={match r.pads with | some l => showInts l | none => "-"} hyp=1")
  | "bn" :: a =>
    let flags : List Linalg.InitFlags := ((getS a "flags").splitOn ";").map (fun t =>
      let cs := t.toList
      { isInitializer := cs.getD 0 '0' == '1', hasConst := cs.getD 1 '0' == '1', isGraphInput := cs.getD 2 '0' == '1' })
    let p : Linalg.BatchNorm := { inits := flags, sharedOutside := getBool a "shared", inChannelsModGroup := getNat a "mod", gemmBetaIsOne := getS a "beta1" != "0", trainingMode := getBool a "train" }
    fireIf (Linalg.batchNormCheck p) true
  | "expandbin" :: a =>
    -- all three strategies of `_check_expand_removable`: the shared model `OV.C09.expandRemovable` (restated once, by C09);
    -- for a constant target it is cross-checked against C05's own strategy-1 model (the one the value theorem talks about)
    let c9 (t : String) : OV.C09.Dim := if t == "?" then .unknown else match t.toInt? with | some n => .known n | none => .sym t
    let c9shape (k : String) : Option OV.C09.Shape :=
      match getS a k with
      | "-" => none
      | "." => some []
      | sh => some ((sh.splitOn ",").map c9)
    let const := getOptInts a "e"
    let v := OV.C09.expandRemovable (c9shape "x") (c9shape "y") const (c9shape "eo") (c9shape "bo")
    let side : Nat := if getBool a "second" then 1 else 0
    let fires := OV.C09.expandRuleFires (getS a "op") side true v
    let agree := match const with
      | some e => Linalg.expandRemovableConst (getShape a "x") (getShape a "y") e == v.removable
      | none => true
    if !agree then "modelsdisagree" else fireIf fires true
  | "mmreshape" :: a =>
    let p : More.MatmulReshape := { a := getShape a "a", b := getShape a "b", shapeC := getOptInts a "c", shapeCRank1 := getS a "c1" != "0" }
    fireIf (More.matmulReshapeCheck p) true
  | "gemm2mm" :: a =>
    let core : More.MatmulReshape := { a := getShape a "a", b := getShape a "b", shapeC := getOptInts a "c", shapeCRank1 := getS a "c1" != "0" }
    let p : More.GemmToMatmul := { core := core, alphaAttr := parseRat (getS a "alpha"), betaAttr := parseRat (getS a "beta"), transA := getBool a "ta", transB := getBool a "tb" }
    fireIf (More.gemmToMatmulCheck p) true
  | "hardsig" :: a =>
    let p : More.HardSig := { clipMin := parseRat (getS a "cmin"), clipMax := parseRat (getS a "cmax"), bias := parseRat (getS a "bias"), divisor := parseRat (getS a "div") }
    fireIf p.check p.exact
  | "hsw2" :: a => fireIf (More.hardSwishFromSigmoidCheck (parseRat (getS a "alpha")) (parseRat (getS a "beta"))) true
  | "convaffine" :: a =>
    fireIf (More.ConvAffine.check { wConst := getBool a "w", bConst := getBool a "b", scaleSingleton := getBool a "s", offsetSingleton := getBool a "o", padsZeroAttr := getS a "pads" != "0" }) true
  | "dynscatter" :: a => showU (More.dynScatterRun (getOptInt a "axis") (getShape a "data") (getShape a "t")) true
  | "slicesplit" :: a =>
    let p : More.SliceSplit := { xShape := getShape a "x", axes0 := getOptInts a "a0", axes1 := getOptInts a "a1", begin0 := getOptInts a "b0", end0 := getOptInts a "e0", begin1 := getOptInts a "b1", end1 := getOptInts a "e1", opsetGe18 := getS a "lt18" != "1" }
    fireIf (More.sliceSplitFires p.check (getBool a "hifirst")) true
  | "norm" :: a =>
    let kind : More.NormKind := match getS a "kind" with | "ln" => .layerNorm | "lnbias" => .layerNormBias | _ => .rmsNorm
    let on (k : String) : Option Nat := (getOptInt a k).map Int.toNat
    let p : More.NormFusion := { kind := kind, xDtype := on "x", scaleDtype := on "sc", epsSingleton := getBool a "eps1", epsIsFloat := getS a "epsf" != "0", computeDtype := on "cd", xRank := on "xr", otherRank := on "or", opset := getNat a "opset" }
    (match p.run with
     | .fire r => s!"fire stash={match r.stashType with | some t => toString t | none => "-"} hyp={b2s p.hyp}"
     | .raises => "raise"
     | .nofire => "nofire")
  | "ccos" :: a =>
    (match More.castConstantOfShapeRun (getNat a "to") (parseRat (getS a "val")) with
     | .fire t => s!"fire to={t} hyp=1"
     | .raises => "raise"
     | .nofire => "nofire")
  | _ => "badline"

/-! ### rule-set driver on a chain host (`OV.Model.C05Chain`) -/
def parseOpd (s : String) : Chain.Opd Int :=
  if s == "-" then .absent
  else if s == "n" then .dyn 0
  else if s.startsWith "c" then ((s.drop 1).toString.toInt?.map .const).getD (.dyn 0)
  else if s.startsWith "g" then ((s.drop 1).toString.toInt?.map .ginit).getD (.dyn 0)
  else .dyn 0

def parseMOpd (s : String) : Chain.MOpd Int :=
  if s.startsWith "c" then ((s.drop 1).toString.toInt?.map .const).getD (.dyn 0) else .dyn 0

def parseCOp (s : String) : Option (Chain.COp Int) :=
  match s.splitOn ":" with
  | ["R"] => some .relu
  | ["C", lo, hi] => some (.clip (parseOpd lo) (parseOpd hi))
  | ["N", c] => some (.mn (parseMOpd c))
  | ["X", c] => some (.mx (parseMOpd c))
  | _ => none

def showOpd : Chain.Opd Int → String
  | .absent => "-" | .const v => s!"c{v}" | .ginit v => s!"g{v}" | .dyn _ => "n"
def showMOpd : Chain.MOpd Int → String
  | .const v => s!"c{v}" | .dyn _ => "n"
def showCOp : Chain.COp Int → String
  | .relu => "R" | .clip lo hi => s!"C:{showOpd lo}:{showOpd hi}" | .mn c => s!"N:{showMOpd c}" | .mx c => s!"X:{showMOpd c}"
def showChain (l : List (Chain.Node Int)) : String :=
  ";".intercalate (l.map (fun n => showCOp n.op ++ (if n.shared then "*" else "")))

/-- `chain ops=<op;op;…> sh=<0|1,…> order=<permutation of 0..7>`: two successive `apply_to_model` calls of one rule set. -/
def handleChain (a : List String) : String :=
  let ops := ((getS a "ops").splitOn ";").mapM parseCOp
  let sh := (parseIntList (getS a "sh")).getD []
  let order := (parseIntList (getS a "order")).getD [0, 1, 2, 3, 4, 5, 6, 7]
  match ops with
  | none => "badline"
  | some ops =>
    if sh.length != ops.length then "badline" else
    let all := Chain.chainRules (0 : Int)
    let rules := order.filterMap (fun i => all[i.toNat]?)
    let chain : List (Chain.Node Int) := (ops.zip sh).map (fun (o, s) => { op := o, shared := s != 0 })
    let n1 := Chain.count rules chain
    let r1 := Chain.sweep rules chain
    let n2 := Chain.count rules r1
    let r2 := Chain.sweep rules r1
    if n1 == 0 then "nofire" else s!"fire n={n1} n2={n2} ops={showChain r2} hyp=1"

/-- Rules with `remove_nodes=True` whose pattern has an inner node: the matcher (`_valid_to_replace`) rejects the
match when an inner value is a graph output or has a consumer outside the match — before `check()` runs. -/
def multiNodeRemoving : List String :=
  ["clipclip", "cliprelu", "reluclip", "relurelu", "minmax", "castcast", "transtrans", "unsq", "reshape2", "gemm", "bn", "mmreshape", "gemm2mm", "hardsig", "hsw2", "convaffine", "ccos", "norm"]

def handle (args : List String) : String :=
  match args with
  | "chain" :: a => handleChain a
  | fam :: a => if getBool a "extra" && multiNodeRemoving.contains fam then "nofire" else handle1 args
  | [] => "badline"

end OV.Drivers.C05

def main : IO Unit := OV.Drivers.run OV.Drivers.C05.handle
