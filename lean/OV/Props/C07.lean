import OV.Lemmas.C07Splice
import OV.Lemmas.C07Rule
import OV.Lemmas.C07Eval
import OV.Lemmas.C07Wf
import OV.Lemmas.C07Term
import OV.Lemmas.C07Pass
import OV.Lemmas.C07Match
import OV.Lemmas.C07Ex
/-!
  C07 — applying a rewrite replaces only the match and leaves a valid, equivalent graph.

  Model: `OV.Model.C07Graph` (graphs with bodies, `evalGraph`), `OV.Model.C07Apply`
  (`applyAt`, `registerInits`, `updOpsets`, `passLoop`/`applyRules`, `applyToModel`, `asFunction`).
  Every theorem is about the model; the model is tied to /repo by `harness/c07.py` on every run.

  SCOPE, said plainly.  The frame, equivalence, validity and single-assignment theorems (`applyAt_frame_*`,
  `applyAt_position`, `applyAt_equiv*`, `applyAt_wf`, `applyAt_defs_once`) are statements about the splice on
  node lists, `g.setNodes (spliceNodes g.nodes root matched repl true)` — `remove_nodes=True`, `repl` given
  with its final names — NOT about the model's whole step `applyAt = renamePassthru ∘ setNodes (spliceNodes
  (retireOld …) … (transferNames …))`.  The link is `applyAt_eq_splice` / `applyAt_equiv_applyAt`
  (`remove_nodes=True`, `NoPassthru`).  About `applyAt` itself: `applyAt_ids`, `applyAt_signature(_fresh)`.
  Nothing semantic is proved about `tryRule`/`tryRules` (instantiate, naming, tagging, as_function): the
  `applyRules_*` theorems ASSUME the per-application step (`hstep`), `passLoop_terminates` ASSUMES `StepShape`.
  The match may be given (`SpliceOK`) or produced by the model's own matcher `matchAt` (section matcher ∘ splice).
-/
namespace OV.Props.C07
open OV.C07

/-! ## Frame: exactly the matched nodes go, the replacement sits after the root, the rest stays -/

/-- `remove_nodes=True`: deleting the replacement nodes from the result gives back the host's
node list minus exactly the matched nodes — same nodes (inputs, attributes, metadata, bodies),
same order, same multiplicities. -/
theorem applyAt_frame_removed (ns new : List Node) (root : Nat) (matched : List Nat)
    (hfresh : ∀ n ∈ ns, ∀ n' ∈ new, n.id ≠ n'.id) :
    (spliceNodes ns root matched new true).filter (fun n => !(new.any (·.id == n.id))) =
      ns.filter (fun n => !(matched.contains n.id)) := by
  -- the two filters commute; without the replacement nodes `insertAfter` is the host list
  rw [spliceNodes, if_pos rfl, List.filter_filter, List.filter_congr (fun _ _ => Bool.and_comm ..),
    ← List.filter_filter, insertAfter_filter_new ns new root hfresh]

/-- `remove_nodes=False`: nothing of the host is removed. -/
theorem applyAt_frame_kept (ns new : List Node) (root : Nat) (matched : List Nat)
    (hfresh : ∀ n ∈ ns, ∀ n' ∈ new, n.id ≠ n'.id) :
    (spliceNodes ns root matched new false).filter (fun n => !(new.any (·.id == n.id))) = ns := by
  rw [spliceNodes, if_neg Bool.false_ne_true]
  exact insertAfter_filter_new ns new root hfresh

/-- No matched node survives, and every replacement node is present. -/
theorem applyAt_removes_exactly (ns new : List Node) (root : Nat) (matched : List Nat)
    (hroot : ∃ r ∈ ns, r.id = root) (hnew : ∀ n' ∈ new, matched.contains n'.id = false) :
    (∀ n ∈ spliceNodes ns root matched new true, matched.contains n.id = false) ∧
    (∀ n' ∈ new, n' ∈ spliceNodes ns root matched new true) := by
  rw [spliceNodes, if_pos rfl]
  exact ⟨fun n hn => by simpa using (List.mem_filter.mp hn).2,
    fun n' hn' => List.mem_filter.mpr ⟨mem_insertAfter_new ns new root hroot n' hn', by simpa using hnew n' hn'⟩⟩

/-- Position: the replacement is inserted immediately after the root node (then the matched
nodes are filtered out). -/
theorem applyAt_position (pre post new : List Node) (r : Node) (matched : List Nat) (rm : Bool)
    (hpre : ∀ n ∈ pre, n.id ≠ r.id) (hpost : ∀ n ∈ post, n.id ≠ r.id) :
    spliceNodes (pre ++ r :: post) r.id matched new rm =
      if rm then (pre ++ r :: new ++ post).filter (fun n => !(matched.contains n.id))
      else pre ++ r :: new ++ post := by
  unfold spliceNodes
  rw [insertAfter_split pre post new r hpre hpost]

/-! ## Equivalence: the spliced graph computes what the host computed

`P` marks the matched nodes.  The host's node list is `pre0 ++ root :: post`; `H` are the names
that may differ afterwards: the interior values of the match (gone) and the interior values of
the replacement (new). -/

/-- What a (given) match and its replacement must satisfy at a root:
* `rootMatched`, `postUnmatched`: the root is the last matched node;
* `sorted`: the host list is in definition-before-use, single-assignment order;
* `interior` (**OutputsAtRoot**): matched nodes other than the root only produce interior values —
  every pattern output is an output of the root;
* `unread` (**Removable** ∧ fresh replacement names): no unmatched node — directly or from inside
  one of its bodies (`reads` includes `caps`) — reads a hidden name;
* `outsVisible`: no hidden name is a graph output. -/
structure SpliceOK (P : Node → Bool) (pre0 : List Node) (root : Node) (post : List Node)
    (H outs : List Name) : Prop where
  rootMatched : P root = true
  postUnmatched : ∀ b ∈ post, P b = false
  sorted : List.Pairwise (fun a b => follows a b = true) pre0
  interior : ∀ a ∈ pre0, P a = true → ∀ x ∈ a.outputs, x ∈ H
  unread : ∀ b ∈ pre0 ++ post, P b = false → ∀ x ∈ b.reads, x ∉ H
  outsVisible : ∀ o ∈ outs, o ∉ H

/-- "The replacement computes the same function as the matched nodes": from every environment
both are defined or both undefined, and when defined the environments agree on every name that
is not hidden — matched nodes and replacement write nothing but their own outputs, so this is
agreement on the pattern outputs (which carry the same names after name transfer). -/
def ReplEquiv {V} (sem : Sem V) (sub : Env V → Graph → List (Option V) → Option (List V))
    (H : List Name) (matchedNodes repl : List Node) : Prop :=
  ∀ ρ : Env V, ORel H (evalNodes (evalNode sem sub) ρ matchedNodes) (evalNodes (evalNode sem sub) ρ repl)

theorem disjoint_spec (a b : List Name) (h : disjoint a b = true) : ∀ x ∈ a, x ∉ b := by
  intro x hx hb
  unfold disjoint at h
  have := List.all_eq_true.mp h x hx
  simp [hb] at this

/-- Node-list form: for matches in any node list — a main graph, an `If`/`Loop` body (the
environment `ρ` already holds the outer values), a function body — evaluating the spliced list
agrees with evaluating the host list on every non-hidden name, and fails iff it fails. -/
theorem applyAt_equiv_nodes {V} (sem : Sem V) (sub) (P : Node → Bool) (pre0 post repl : List Node)
    (root : Node) (H outs : List Name) (ok : SpliceOK P pre0 root post H outs)
    (hrepl : ReplEquiv sem sub H (pre0.filter P ++ [root]) repl) (ρ : Env V) :
    ORel H (evalNodes (evalNode sem sub) ρ (pre0 ++ root :: post))
      (evalNodes (evalNode sem sub) ρ (pre0.filter (fun n => !P n) ++ (repl ++ post))) := by
  -- a matched node and a later unmatched one are independent: what the first writes is hidden, and
  -- the host is sorted
  have hpw : List.Pairwise (fun a b => P a = true → P b = false → Indep a b) pre0 := by
    refine (List.Pairwise.and_mem.mp ok.sorted).imp fun {a b} hab ha hb => ?_
    obtain ⟨hma, hmb, hf⟩ := hab
    have hf' := Bool.and_eq_true_iff.mp hf
    exact ⟨fun x hx hr => ok.unread b (List.mem_append_left _ hmb) hb x hr (ok.interior a hma ha x hx),
      disjoint_spec _ _ hf'.1, fun x hx hbo => disjoint_spec _ _ hf'.2 x hbo hx⟩
  -- sink the matched nodes to the root, run the common unmatched prefix, swap in the replacement,
  -- and carry the agreement through the tail
  rw [sink sem sub P pre0 (root :: post) hpw ρ, evalNodes_append, evalNodes_append]
  cases evalNodes (evalNode sem sub) ρ (pre0.filter fun n => !P n) with
  | none => trivial
  | some ρ1 =>
    show ORel H (evalNodes _ ρ1 (pre0.filter P ++ root :: post)) (evalNodes _ ρ1 (repl ++ post))
    rw [List.append_cons, evalNodes_append _ (pre0.filter P ++ [root]) post, evalNodes_append _ repl post]
    exact orel_iff.mpr ((orel_iff.mp (hrepl ρ1)).bind (evalNodes_agree sem sub _ post
      fun n hn x hx => ok.unread n (List.mem_append_right _ hn) (ok.postUnmatched n hn) x hx))

/-- the node list `spliceNodes` produces (`remove_nodes=True`) when `matched` holds the ids of the
marked nodes and the replacement's ids are new -/
theorem spliceNodes_eq (pre0 post repl : List Node) (root : Node) (matched : List Nat)
    (hroot : matched.contains root.id = true)
    (hpre : ∀ n ∈ pre0, n.id ≠ root.id) (hpost : ∀ n ∈ post, n.id ≠ root.id)
    (hpostU : ∀ n ∈ post, matched.contains n.id = false)
    (hnew : ∀ n ∈ repl, matched.contains n.id = false) :
    spliceNodes (pre0 ++ root :: post) root.id matched repl true =
      pre0.filter (fun n => !(matched.contains n.id)) ++ (repl ++ post) := by
  have h1 : repl.filter (fun n => !(matched.contains n.id)) = repl :=
    List.filter_eq_self.mpr (fun n hn => by rw [hnew n hn]; rfl)
  have h2 : post.filter (fun n => !(matched.contains n.id)) = post :=
    List.filter_eq_self.mpr (fun n hn => by rw [hpostU n hn]; rfl)
  rw [applyAt_position pre0 post repl root matched true hpre hpost, if_pos rfl, List.append_assoc,
    List.filter_append, List.cons_append, List.filter_cons_of_neg (by rw [hroot]; decide), List.filter_append, h1, h2]

/-- **Equivalence of the splice (node-list form of the step; `remove_nodes=True` only).**  This is about
`g.setNodes (spliceNodes …)` with `repl` given under its final names, under `SpliceOK`, `hnew`, `ReplEquiv`;
for the model's `applyAt` see `applyAt_equiv_applyAt`.  For a host graph (main graph, body or function body) whose
node list is `pre0 ++ root :: post`, a match given by the ids `matched` whose last node is the
root, and a replacement that computes the same function as the matched nodes: the graph with
`spliceNodes … true` as its node list has the same meaning as the host — for every operator
semantics, every outer environment, every argument list, every nesting depth. -/
theorem applyAt_equiv {V} (sem : Sem V) (d : Nat) (outer : Env V) (args : List (Option V))
    (g : Graph) (pre0 post repl : List Node) (root : Node) (matched : List Nat) (H : List Name)
    (hg : g.nodes = pre0 ++ root :: post)
    (hpre : ∀ n ∈ pre0, n.id ≠ root.id) (hpost : ∀ n ∈ post, n.id ≠ root.id)
    (hnew : ∀ n ∈ repl, matched.contains n.id = false)
    (ok : SpliceOK (fun n => matched.contains n.id) pre0 root post H g.outputs)
    (hrepl : ReplEquiv sem (evalGraph sem d) H (pre0.filter (fun n => matched.contains n.id) ++ [root]) repl) :
    evalGraph sem (d + 1) outer (g.setNodes (spliceNodes g.nodes root.id matched repl true)) args =
      evalGraph sem (d + 1) outer g args := by
  refine evalGraph_setNodes_of_agree sem d outer g _ args (· ∉ H) ok.outsVisible fun ρ => orel_iff.mp ?_
  rw [hg, spliceNodes_eq pre0 post repl root matched ok.rootMatched hpre hpost ok.postUnmatched hnew]
  exact applyAt_equiv_nodes sem (evalGraph sem d) (fun n => matched.contains n.id) pre0 post repl root H
    g.outputs ok hrepl ρ

/-! ### non-vacuity: a concrete instance of `SpliceOK`/`ReplEquiv`, and the theorem applied
(the host `exHost`, the rule and the match are in `OV.Lemmas.C07Ex`, with the facts the examples share) -/

example : SpliceOK (fun n => [2, 1].contains n.id) [exNeg, exOther] exRelu [exAbs] ["n"] ["z", "w"] :=
  ⟨rfl, ex_postU, ex_sorted, ex_interior, ex_unread, by decide⟩

/-- the interleaved, unmatched `Exp` stays; `Relu(Neg x)` is replaced by its re-emission; same
meaning for every operator semantics -/
example {V} (sem : Sem V) (d : Nat) (outer : Env V) (args : List (Option V)) :
    evalGraph sem (d + 1) outer (exHost.setNodes (spliceNodes exHost.nodes 2 [2, 1] exRepl true)) args =
      evalGraph sem (d + 1) outer exHost args :=
  applyAt_equiv sem d outer args exHost [exNeg, exOther] [exAbs] exRepl exRelu [2, 1] ["n"] rfl
    ex_pre ex_post ex_new ⟨rfl, ex_postU, ex_sorted, ex_interior, ex_unread, by decide⟩ (ex_repl sem _ _)

/-! ## matcher ∘ splice: `Removable` and "the root is matched" are derived from `matchAt`

`matchAt` is the model's rendering of `RewriteRule._matcher.match` for the pattern classes of the tie
(`SimplePatternMatcher`: structural match, then `_valid_to_replace`, then the condition function).
The theorems above take `SpliceOK` as given; here the part of it that is the *matcher's* duty is
proved from a successful `matchAt`, so that what remains assumed about a match is only
**OutputsAtRoot** (needed: C07-D3 is its failure) and facts about the host (sorted) and the
replacement (fresh interior names). -/

/-- **What a successful match of a node-removing rule guarantees** (every graph, rule, node, ghost
set): the match is rooted at the node offered, that node is among the matched nodes, and every
interior value of the match (an output of a matched node that is not a pattern output) is not a
graph output, is not held by a discarded replacement, and is read by no unmatched node of the graph
— neither directly nor from inside a nested body. -/
theorem matchAt_removable (g : Graph) (r : Rule) (node : Node) (ghost : List Name) (m : Match)
    (h : matchAt g r node ghost = some m) (hrm : r.removeNodes = true) :
    m.root = node.id ∧ m.nodes.contains node.id = true ∧
    ∀ x ∈ interiorOf g m.nodes m.outputs,
      x ∉ g.outputs ∧ x ∉ ghost ∧ ∀ b ∈ g.nodes, m.nodes.contains b.id = false → x ∉ b.reads := by
  obtain ⟨hroot, first, t, st, _, hc, hnodes⟩ := matchAt_some h
  obtain ⟨hvalid, hghost⟩ := (matchCombo_some hc).2.2 hrm
  rw [← hnodes] at hvalid hghost
  refine ⟨hroot, matchAt_root_matched g r node ghost m h, fun x hx => ?_⟩
  obtain ⟨ho, hr⟩ := validToReplace_spec g m.nodes m.outputs hvalid x hx
  exact ⟨ho, hghost x hx, hr⟩

/-- **`SpliceOK` from the matcher.**  Host node list `pre0 ++ root :: post`, `matchAt` succeeded at
`root` for a node-removing rule.  Then `SpliceOK` holds with the hidden names = interior values of
the match ++ `Hn` (interior names of the replacement), given only
* `hpostU`, `hsorted`: the matched nodes precede the root and the host is sorted (host facts),
* `hroot` (**OutputsAtRoot**): matched nodes before the root produce no pattern output,
* `hfresh`: the replacement's interior names are new to the host.
`rootMatched`, `unread` (**Removable**) and `outsVisible` come from the matcher. -/
theorem spliceOK_of_matchAt (g : Graph) (r : Rule) (ghost : List Name) (m : Match)
    (pre0 post : List Node) (root : Node) (Hn : List Name)
    (hm : matchAt g r root ghost = some m) (hrm : r.removeNodes = true)
    (hg : g.nodes = pre0 ++ root :: post)
    (hpostU : ∀ b ∈ post, m.nodes.contains b.id = false)
    (hsorted : List.Pairwise (fun a b => follows a b = true) pre0)
    (hroot : ∀ a ∈ pre0, m.nodes.contains a.id = true → ∀ x ∈ a.outputs, x ∉ m.outputs)
    (hfresh : ∀ x ∈ Hn, x ∉ g.outputs ∧ ∀ b ∈ g.nodes, x ∉ b.reads) :
    SpliceOK (fun n => m.nodes.contains n.id) pre0 root post (interiorOf g m.nodes m.outputs ++ Hn) g.outputs := by
  obtain ⟨_, hrootM, hint⟩ := matchAt_removable g r root ghost m hm hrm
  refine ⟨hrootM, hpostU, hsorted, fun a ha hP x hx => ?_, fun b hb hP x hx hH => ?_, fun o ho hH => ?_⟩
  · exact List.mem_append_left _ (mem_interiorOf.mpr
      ⟨⟨a, by rw [hg]; exact List.mem_append_left _ ha, hP, hx⟩, hroot a ha hP x hx⟩)
  · have hbg : b ∈ g.nodes := by
      rw [hg]
      exact (List.mem_append.mp hb).elim (List.mem_append_left _)
        fun h => List.mem_append_right _ (List.mem_cons_of_mem _ h)
    exact (List.mem_append.mp hH).elim (fun h1 => (hint x h1).2.2 b hbg hP hx) (fun h1 => (hfresh x h1).2 b hbg hx)
  · exact (List.mem_append.mp hH).elim (fun h1 => (hint o h1).1 ho) (fun h1 => (hfresh o h1).1 ho)

/-- **End-to-end: matcher, then splice, is meaning-preserving.**  `applyAt_equiv` with the match
produced by `matchAt` instead of a given `SpliceOK`. -/
theorem applyAt_equiv_of_matchAt {V} (sem : Sem V) (d : Nat) (outer : Env V) (args : List (Option V))
    (g : Graph) (r : Rule) (ghost : List Name) (m : Match) (pre0 post repl : List Node) (root : Node)
    (Hn : List Name)
    (hm : matchAt g r root ghost = some m) (hrm : r.removeNodes = true)
    (hg : g.nodes = pre0 ++ root :: post)
    (hpre : ∀ n ∈ pre0, n.id ≠ root.id) (hpost : ∀ n ∈ post, n.id ≠ root.id)
    (hnew : ∀ n ∈ repl, m.nodes.contains n.id = false)
    (hpostU : ∀ b ∈ post, m.nodes.contains b.id = false)
    (hsorted : List.Pairwise (fun a b => follows a b = true) pre0)
    (hroot : ∀ a ∈ pre0, m.nodes.contains a.id = true → ∀ x ∈ a.outputs, x ∉ m.outputs)
    (hfresh : ∀ x ∈ Hn, x ∉ g.outputs ∧ ∀ b ∈ g.nodes, x ∉ b.reads)
    (hrepl : ReplEquiv sem (evalGraph sem d) (interiorOf g m.nodes m.outputs ++ Hn)
      (pre0.filter (fun n => m.nodes.contains n.id) ++ [root]) repl) :
    evalGraph sem (d + 1) outer (g.setNodes (spliceNodes g.nodes m.root m.nodes repl true)) args =
      evalGraph sem (d + 1) outer g args := by
  rw [(matchAt_removable g r root ghost m hm hrm).1]
  exact applyAt_equiv sem d outer args g pre0 post repl root m.nodes _ hg hpre hpost hnew
    (spliceOK_of_matchAt g r ghost m pre0 post root Hn hm hrm hg hpostU hsorted hroot hfresh) hrepl

/-- **OutputsAtRoot from the matcher** (`hsingle`: all outputs of the pattern are outputs of its first
output node): in a host `pre0 ++ root :: post` whose node ids are distinct
from the root's and whose prefix up to the root is sorted (single assignment), a matched node before
the root produces no output of the match.  For patterns with several output nodes the statement is
false (C07-D3: `applyAt_wf_prefix_refuted`; the code sorts the graph afterwards instead).  `hsingle` asks
more than `has_single_output_node` (`(outputNodes r.pat).length = 1`, the test that decides about the
sort): a pattern that returns its output node's value and an interior one, `(Relu(n), n)` with
`n = Neg(x)`, has one output node and fails `hsingle`; the statement is false for it too, and neither
the model nor the code sorts then. -/
theorem outputsAtRoot_of_matchAt (g : Graph) (r : Rule) (ghost : List Name) (m : Match)
    (pre0 post : List Node) (root : Node)
    (hm : matchAt g r root ghost = some m)
    (hsingle : ∀ first, (outputNodes r.pat).head? = some first → ∀ o ∈ r.pat.outputs, ∃ j, o = PRef.out first j)
    (hg : g.nodes = pre0 ++ root :: post)
    (hpre : ∀ n ∈ pre0, n.id ≠ root.id) (hpost : ∀ n ∈ post, n.id ≠ root.id)
    (hsorted : List.Pairwise (fun a b => follows a b = true) (pre0 ++ [root])) :
    (∀ x ∈ m.outputs, x ∈ root.outputs) ∧
    ∀ a ∈ pre0, m.nodes.contains a.id = true → ∀ x ∈ a.outputs, x ∉ m.outputs := by
  have huid : ∀ n ∈ g.nodes, n.id = root.id → n.outputs = root.outputs := by
    intro n hn hid
    rw [hg] at hn
    rcases List.mem_append.mp hn with h1 | h1
    · exact absurd hid (hpre n h1)
    · rcases List.mem_cons.mp h1 with rfl | h2
      · rfl
      · exact absurd hid (hpost n h2)
  have hout := matchAt_outputs_at_root g r root ghost m huid hsingle hm
  refine ⟨hout, fun a ha _ x hx hxo => ?_⟩
  -- single assignment: the root writes nothing an earlier node wrote
  have hfa : follows a root = true :=
    (List.pairwise_append.mp hsorted).2.2 a ha root (List.mem_singleton.mpr rfl)
  exact disjoint_spec _ _ (Bool.and_eq_true_iff.mp hfa).2 x (hout x hxo) hx

/-- **End-to-end for patterns whose outputs all belong to one node (`hsingle`): neither OutputsAtRoot
nor Removable is assumed.**
What is left are facts about the host (ids distinct from the root's, sorted up to the root, the
matched nodes precede the root) and about the replacement (`hnew`, `hfresh`, `ReplEquiv`). -/
theorem applyAt_equiv_of_matchAt_single {V} (sem : Sem V) (d : Nat) (outer : Env V) (args : List (Option V))
    (g : Graph) (r : Rule) (ghost : List Name) (m : Match) (pre0 post repl : List Node) (root : Node)
    (Hn : List Name)
    (hm : matchAt g r root ghost = some m) (hrm : r.removeNodes = true)
    (hsingle : ∀ first, (outputNodes r.pat).head? = some first → ∀ o ∈ r.pat.outputs, ∃ j, o = PRef.out first j)
    (hg : g.nodes = pre0 ++ root :: post)
    (hpre : ∀ n ∈ pre0, n.id ≠ root.id) (hpost : ∀ n ∈ post, n.id ≠ root.id)
    (hnew : ∀ n ∈ repl, m.nodes.contains n.id = false)
    (hpostU : ∀ b ∈ post, m.nodes.contains b.id = false)
    (hsorted : List.Pairwise (fun a b => follows a b = true) (pre0 ++ [root]))
    (hfresh : ∀ x ∈ Hn, x ∉ g.outputs ∧ ∀ b ∈ g.nodes, x ∉ b.reads)
    (hrepl : ReplEquiv sem (evalGraph sem d) (interiorOf g m.nodes m.outputs ++ Hn)
      (pre0.filter (fun n => m.nodes.contains n.id) ++ [root]) repl) :
    evalGraph sem (d + 1) outer (g.setNodes (spliceNodes g.nodes m.root m.nodes repl true)) args =
      evalGraph sem (d + 1) outer g args :=
  applyAt_equiv_of_matchAt sem d outer args g r ghost m pre0 post repl root Hn hm hrm hg hpre hpost hnew hpostU
    (List.pairwise_append.mp hsorted).1
    (outputsAtRoot_of_matchAt g r ghost m pre0 post root hm hsingle hg hpre hpost hsorted).2 hfresh hrepl

/-- non-vacuity: the matcher succeeds on `exHost` at `Relu` (matched `[2, 1]`, interior `n`), and
the end-to-end theorem applies with the match it returns -/
example : matchAt exHost exRule exRelu = some exMatch ∧
    interiorOf exHost exMatch.nodes exMatch.outputs = ["n"] := ⟨ex_match, by decide⟩

example {V} (sem : Sem V) (d : Nat) (outer : Env V) (args : List (Option V)) :
    evalGraph sem (d + 1) outer (exHost.setNodes (spliceNodes exHost.nodes 2 [2, 1] exRepl true)) args =
      evalGraph sem (d + 1) outer exHost args :=
  applyAt_equiv_of_matchAt sem d outer args exHost exRule [] exMatch [exNeg, exOther] [exAbs] exRepl exRelu []
    ex_match rfl rfl ex_pre ex_post ex_new ex_postU ex_sorted (by decide)
    (fun _ h => nomatch h) (ex_repl sem _ _)

example {V} (sem : Sem V) (d : Nat) (outer : Env V) (args : List (Option V)) :
    evalGraph sem (d + 1) outer (exHost.setNodes (spliceNodes exHost.nodes 2 [2, 1] exRepl true)) args =
      evalGraph sem (d + 1) outer exHost args :=
  applyAt_equiv_of_matchAt_single sem d outer args exHost exRule [] exMatch [exNeg, exOther] [exAbs] exRepl exRelu []
    ex_match rfl
    (by
      intro first hf o ho
      cases (hf : some 1 = some first)
      exact ⟨0, List.mem_singleton.mp ho⟩)
    rfl ex_pre ex_post ex_new ex_postU (by decide)
    (fun _ h => nomatch h) (ex_repl sem _ _)

theorem nodeById_spec (g : Graph) (cur : Nat) (node : Node) (h : nodeById g cur = some node) :
    node ∈ g.nodes ∧ node.id = cur :=
  nodeById_some h

/-! ## Repeated and overlapping applications in one pass

`passLoop` is the iteration of `_apply_to_graph_or_function` over the mutating node list.  Any
relation between the graph before and after that is reflexive, transitive, kept by each single
application (`tryRules … = applied`) and by writing rewritten bodies back into the visited node
holds between the input and the output of `passLoop` — however many applications there were,
and also when a later application consumes nodes an earlier one produced.  (`applyRules` is `passLoop`
followed by `sortGraph` when a rule with several output nodes applied; the sort is not covered.)  With
`R g g' := ∀ d outer args, evalGraph sem d outer g' args = evalGraph sem d outer g args`,
`hstep` is what `applyAt_equiv` is meant to provide for one application — it is an ASSUMPTION here: it is
nowhere discharged for `tryRules`, and no instance with a non-empty rule list is exhibited.  This theorem (and
`applyRules_wf`, `applyRules_equiv`, which instantiate it) is an induction scheme over the pass.
Trap: `hstep` ranges over every pass state and `hbody` over every graph `g1`, not only those the pass
reaches; see at the two instances what that leaves of their hypotheses.  The scheme over the states the pass
reaches is `OV.C07.passLoop_preserves_inv` (hypotheses under an invariant `I st lo g`, `hbody` for the node the
turn started at and the graph the rule loop left); this theorem is its instance for the invariant that always
holds. -/
theorem applyRules_preserves (rules : List Rule) (kind : Kind)
    (recurse : PassSt → Graph → Except Err (PassSt × Graph))
    (R : Graph → Graph → Prop) (hrefl : ∀ g, R g g) (htrans : ∀ a b c, R a b → R b c → R a c)
    (hstep : ∀ st lo g node st' lo' g' first,
      tryRules kind rules st lo g node = .ok (.applied st' lo' g' first) → R g g')
    (hbody : ∀ st (node : Node) st' subs' g1, recurseBodies recurse st node.subs = .ok (st', subs') →
      R g1 (g1.setNodes (g1.nodes.map fun n => if n.id == node.id then n.setBodies (capsOf BIG subs') subs' else n))) :
    ∀ (fuel : Nat) (st : PassSt) (lo : List (String × Nat)) (g : Graph) (cur : Option Nat) st' lo' g',
      passLoop rules kind recurse fuel st lo g cur = .ok (st', lo', g') → R g g' :=
  -- `passLoop_preserves_inv` with the invariant that always holds
  fun _ _ _ _ _ _ _ _ h => (passLoop_preserves_inv (PassInv.trivial rules kind recurse) R hrefl htrans
    (fun _ _ ht => hstep _ _ _ _ _ _ _ _ ht)
    (fun hn _ _ hr => (nodeById_some hn).2 ▸ hbody _ _ _ _ _ hr) trivial h).1

/-! ## Validity: the spliced graph is well-formed -/

/-- What a (given) match and its replacement must satisfy for validity.  `H` = hidden names (interior
values of the match, interior values of the replacement).
* `interior` (**OutputsAtRoot**), `clean` (**Removable** ∧ fresh replacement names: unmatched nodes
  neither read — directly or from a body — nor write a hidden name), `rootOuts`/`outsVisible`
  (pattern outputs and graph outputs are not hidden);
* `replWf`: at the insertion point the replacement reads only values that are available once the
  matched nodes are gone (so: no interior matched value — the condition C07-D6 violates), writes
  names not yet available, each node's outputs distinct;
* `replOuts₁/₂`: the replacement defines exactly the root's outputs (name transfer) plus hidden names. -/
structure SpliceWF (outer : List Name) (g : Graph) (P : Node → Bool) (pre0 : List Node) (root : Node)
    (post repl : List Node) (H : List Name) : Prop where
  rootMatched : P root = true
  postUnmatched : ∀ b ∈ post, P b = false
  interior : ∀ a ∈ pre0, P a = true → ∀ o ∈ a.outputs, o ∈ H
  clean : ∀ b ∈ pre0 ++ post, P b = false → (∀ x ∈ b.reads, x ∉ H) ∧ (∀ o ∈ b.outputs, o ∉ H)
  rootOuts : ∀ o ∈ root.outputs, o ∉ H
  outsVisible : ∀ o ∈ g.outputs, o ∉ H
  replWf : wfNodes (outer ++ g.inputs ++ g.initNames ++ (pre0.filter fun n => !P n).flatMap (·.outputs)) repl = true
  replOuts₁ : ∀ x ∈ repl.flatMap (·.outputs), x ∈ root.outputs ∨ x ∈ H
  replOuts₂ : ∀ x ∈ root.outputs, x ∈ repl.flatMap (·.outputs)

/-- **Validity of the splice** (about `g.setNodes (spliceNodes …)`, `remove_nodes=True`, under `SpliceWF`; not
about the whole `applyAt`; one scope level: single assignment, no redefinition of a visible
name, definition before use including the reads of bodies, graph outputs defined): if the host
graph is well-formed in a scope where `outer` is visible, so is the graph with `spliceNodes … true`
as its node list. -/
theorem applyAt_wf (outer : List Name) (g : Graph) (pre0 post repl : List Node) (root : Node)
    (matched : List Nat) (H : List Name) (hg : g.nodes = pre0 ++ root :: post)
    (hpre : ∀ n ∈ pre0, n.id ≠ root.id) (hpost : ∀ n ∈ post, n.id ≠ root.id)
    (hnew : ∀ n ∈ repl, matched.contains n.id = false)
    (ok : SpliceWF outer g (fun n => matched.contains n.id) pre0 root post repl H)
    (hwf : wfGraph outer g = true) :
    wfGraph outer (g.setNodes (spliceNodes g.nodes root.id matched repl true)) = true := by
  rw [hg, spliceNodes_eq pre0 post repl root matched ok.rootMatched hpre hpost ok.postUnmatched hnew]
  rw [wfGraph_iff, hg] at hwf
  rw [wfGraph_iff, setNodes_nodes, setNodes_inputs, setNodes_initNames, setNodes_outputs]
  obtain ⟨w, i⟩ := wfNodes_splice H _ (fun n => matched.contains n.id) pre0 post repl root ok.interior ok.clean
    ok.postUnmatched ok.replWf ok.replOuts₁ ok.replOuts₂ hwf.1
  exact ⟨w, fun o ho => i.2 o (hwf.2 o ho) (ok.outsVisible o ho)⟩

/-- non-vacuity of `SpliceWF`: the host of the equivalence example, `outer = []` -/
example : SpliceWF [] exHost (fun n => [2, 1].contains n.id) [exNeg, exOther] exRelu [exAbs]
    [.mk 5 "Neg" "" "" [some "x"] ["%5_0"] [] [] [] [], .mk 6 "Relu" "" "" [some "%5_0"] ["r"] [] [] [] []]
    ["n", "%5_0"] := by
  constructor <;> decide

/-- Writing rewritten bodies back into the visited node keeps the enclosing graph well-formed when
the bodies capture no more outer names than before (a rewrite inside a body only reads values the
matched nodes already read). -/
theorem writeBack_wf (outer : List Name) (g : Graph) (cur : Nat) (subs' : List (String × Graph))
    (hcaps : ∀ n ∈ g.nodes, n.id = cur → ∀ x ∈ capsOf BIG subs', x ∈ n.caps)
    (hwf : wfGraph outer g = true) :
    wfGraph outer (g.setNodes (g.nodes.map fun n =>
      if n.id == cur then n.setBodies (capsOf BIG subs') subs' else n)) = true := by
  rw [wfGraph_iff] at hwf
  rw [wfGraph_iff, setNodes_nodes, setNodes_inputs, setNodes_initNames, setNodes_outputs]
  have hout : ∀ n ∈ g.nodes,
      (if n.id == cur then n.setBodies (capsOf BIG subs') subs' else n).outputs = n.outputs := by
    intro n _
    split
    · exact setBodies_outputs ..
    · rfl
  rw [flatMap_outputs_map _ _ hout]
  refine ⟨wfNodes_map_shrink _ g.nodes hout (fun n hn x hx => ?_) _ hwf.1, hwf.2⟩
  split at hx
  · rename_i hid
    rw [setBodies_reads] at hx
    exact (List.mem_append.mp hx).elim (List.mem_append_left _)
      fun h => List.mem_append_right _ (hcaps n hn (beq_iff_eq.mp hid) x h)
  · exact hx

/-- **Validity through a whole pass** (induction scheme: `hstep` is assumed, not discharged for
`tryRules`): if every single application keeps the graph well-formed (`applyAt_wf` for the given
matches) and rewritten bodies capture no more than before, the output of `passLoop` — any number of
repeated/overlapping applications — is well-formed.  `hcaps` speaks of every node of every graph `g1`
with the visited node's id, among them one that captures nothing: it holds only when the rewritten
bodies are closed (`capsOf BIG subs' = []`). -/
theorem applyRules_wf (outer : List Name) (rules : List Rule) (kind : Kind)
    (recurse : PassSt → Graph → Except Err (PassSt × Graph))
    (hstep : ∀ st lo g node st' lo' g' first,
      tryRules kind rules st lo g node = .ok (.applied st' lo' g' first) →
      wfGraph outer g = true → wfGraph outer g' = true)
    (hcaps : ∀ st (node : Node) st' subs' (g1 : Graph), recurseBodies recurse st node.subs = .ok (st', subs') →
      ∀ n ∈ g1.nodes, n.id = node.id → ∀ x ∈ capsOf BIG subs', x ∈ n.caps)
    (fuel : Nat) (st : PassSt) (lo : List (String × Nat)) (g : Graph) (cur : Option Nat) st' lo' g'
    (h : passLoop rules kind recurse fuel st lo g cur = .ok (st', lo', g')) :
    wfGraph outer g = true → wfGraph outer g' = true :=
  applyRules_preserves rules kind recurse (fun a b => wfGraph outer a = true → wfGraph outer b = true)
    (fun _ h => h) (fun _ _ _ h1 h2 h => h2 (h1 h)) hstep
    (fun st node st' subs' g1 hrec hw => writeBack_wf outer g1 node.id subs' (hcaps st node st' subs' g1 hrec) hw)
    fuel st lo g cur st' lo' g' h

/-! ## Equivalence through a whole pass -/

/-- same meaning at nesting depth `d + 1`, in every enclosing environment, for all arguments -/
def GraphEquiv {V} (sem : Sem V) (d : Nat) (g g' : Graph) : Prop :=
  ∀ outer args, evalGraph sem (d + 1) outer g' args = evalGraph sem (d + 1) outer g args

/-- **A graph's meaning depends on the enclosing scopes only through the names it mentions**
(`mentions g` = what its nodes read, captures of their bodies included, and its outputs): two
enclosing environments that agree on these names give the same result, at every depth. -/
theorem evalGraph_depends_on_mentions {V} (sem : Sem V) (d : Nat) (g : Graph) (outer outer' : Env V)
    (args : List (Option V)) (h : ∀ x ∈ mentions g, outer x = outer' x) :
    evalGraph sem d outer g args = evalGraph sem d outer' g args :=
  evalGraph_congr_outer sem d g outer outer' args h

/-- **Write-back of rewritten bodies (`hbody` of `applyRules_preserves`, for If/Loop bodies alike),
captures may shrink.**  If the bodies handed back by the recursion are pairwise equivalent to the
node's bodies (as functions of enclosing environment and arguments, at depth `d`), the new
captures are among the old ones, and every formerly captured name a new body still mentions is
still captured (`BodiesShrink`), the enclosing graph keeps its meaning.  A replacement that drops
a bound input (so the body captures *fewer* outer names) is covered. -/
theorem writeBack_equiv {V} (sem : Sem V) (d : Nat) (g : Graph) (cur : Nat) (subs' : List (String × Graph))
    (h : ∀ n ∈ g.nodes, n.id = cur → (∀ x ∈ capsOf BIG subs', x ∈ n.caps) ∧
      BodiesShrink sem d n.caps (capsOf BIG subs') subs' n.subs) :
    GraphEquiv sem d g (g.setNodes (g.nodes.map fun n =>
      if n.id == cur then n.setBodies (capsOf BIG subs') subs' else n)) := by
  intro outer args
  refine evalGraph_setNodes_of_agree sem d outer g _ args (fun _ => True) (fun _ _ => trivial) fun ρ => ?_
  rw [evalNodes_map_congr]
  · exact Option.Rel.refl (fun _ _ _ => rfl) _
  · intro n hn ρ
    split
    · rename_i hid
      obtain ⟨hc, hb⟩ := h n hn (beq_iff_eq.mp hid)
      exact evalNode_setBodies_shrink sem d ρ n _ subs' hc hb
    · rfl

/-- `BodiesShrink` when the captures stay the same: pairwise equivalent bodies suffice -/
theorem bodiesShrink_of_same_caps {V} (sem : Sem V) (d : Nat) (C : List Name) (a : List (String × Graph)) :
    ∀ b, BodiesEquiv (evalGraph sem d) a b → BodiesShrink sem d C C a b := by
  induction a with
  | nil =>
    intro b h
    cases b with
    | nil => trivial
    | cons _ _ => exact h.elim
  | cons x a ih =>
    intro b h
    cases b with
    | nil => exact h.elim
    | cons y b => exact ⟨⟨h.1, fun _ _ hc => hc⟩, ih b h.2⟩

/-- non-vacuity of `BodiesShrink` with captures that really shrink: a body mentioning only `a`, in a
node that used to capture `a` and `b` -/
example {V} (sem : Sem V) (d : Nat) :
    BodiesShrink sem d ["a", "b"] ["a"]
      [("then_branch", Graph.mk [] [] [.mk 7 "Relu" "" "" [some "a"] ["t"] [] [] [] []] ["t"])]
      [("then_branch", Graph.mk [] [] [.mk 7 "Relu" "" "" [some "a"] ["t"] [] [] [] []] ["t"])] :=
  ⟨⟨fun _ _ => rfl, by decide⟩, trivial⟩

/-- **Equivalence through a whole pass**: if every single application keeps the meaning
(`applyAt_equiv` for the given matches — the assumption `hstep`, not discharged for `tryRules`) and
the recursion into bodies hands back equivalent bodies whose captures are the old ones or fewer
(`BodiesShrink`), the output of `passLoop` — any number of repeated/overlapping applications — has the
meaning of its input.  `hrec` as stated cannot be met: for a visited node without bodies `subs' = []`, and
`g1` may hold a node of that id with a body, where `BodiesShrink … [] (_ :: _)` is `False`; a usable
version would speak of the graph the pass holds at that point. -/
theorem applyRules_equiv {V} (sem : Sem V) (d : Nat) (rules : List Rule) (kind : Kind)
    (recurse : PassSt → Graph → Except Err (PassSt × Graph))
    (hstep : ∀ st lo g node st' lo' g' first,
      tryRules kind rules st lo g node = .ok (.applied st' lo' g' first) → GraphEquiv sem d g g')
    (hrec : ∀ st (node : Node) st' subs' (g1 : Graph), recurseBodies recurse st node.subs = .ok (st', subs') →
      ∀ n ∈ g1.nodes, n.id = node.id → (∀ x ∈ capsOf BIG subs', x ∈ n.caps) ∧
        BodiesShrink sem d n.caps (capsOf BIG subs') subs' n.subs)
    (fuel : Nat) (st : PassSt) (lo : List (String × Nat)) (g : Graph) (cur : Option Nat) st' lo' g'
    (h : passLoop rules kind recurse fuel st lo g cur = .ok (st', lo', g')) : GraphEquiv sem d g g' :=
  applyRules_preserves rules kind recurse (GraphEquiv sem d)
    (fun _ _ _ => rfl) (fun _ _ _ h1 h2 outer args => (h2 outer args).trans (h1 outer args)) hstep
    (fun st node st' subs' g1 hr => writeBack_equiv sem d g1 node.id subs' (hrec st node st' subs' g1 hr))
    fuel st lo g cur st' lo' g' h

/-! ## Termination of one pass under *no re-match* (C07-D2 is the refutation without it)

`base` separates the ids of the nodes the pass starts with (`< base`) from the ids of nodes created
by replacements (`≥ base`).  `StepShape` is what one application does to the list of node ids — the
shape `applyAt` gives it — together with **NoRematch**: a rule only ever applies at an original
node.  `K` bounds the number of nodes one application inserts.  `applied` ranges over every state and
every graph with distinct ids and concludes `node.id < base`: it fails as soon as some rule of the list
fires at a node with an id `≥ base` in any graph at all, so it cannot be derived for `tryRules` as it
stands.  The version tied to the states the pass reaches is `OV.C07.passLoop_terminates_inv` (the shape is
required under an invariant `I st lo g`, which can say `∀ i ∈ g.ids, i < st.nextId`, `base ≤ st.nextId`);
`passLoop_terminates` below is its instance for the invariant that always holds. -/

structure StepShape (kind : Kind) (rules : List Rule) (base K : Nat) : Prop where
  applied : ∀ st lo (g : Graph) (node : Node) st' lo' (g' : Graph) first,
    node ∈ g.nodes → g.ids.Nodup →
    tryRules kind rules st lo g node = .ok (.applied st' lo' g' first) →
    node.id < base ∧ ∃ (new : List Nat) (keep : Nat → Bool), new.length ≤ K ∧ new.Nodup ∧
      (∀ i ∈ new, base ≤ i ∧ i ∉ g.ids ∧ keep i = true) ∧
      g'.ids = (insAfterIds g.ids node.id new).filter keep ∧ first = new.head?.getD 0
  noFuel : ∀ st lo g node, tryRules kind rules st lo g node ≠ .error .fuel

theorem recurseBodies_noFuel (recurse : PassSt → Graph → Except Err (PassSt × Graph))
    (h : ∀ st b, recurse st b ≠ .error .fuel) :
    ∀ (subs : List (String × Graph)) st, recurseBodies recurse st subs ≠ .error .fuel :=
  recurseBodies_ne_fuel recurse h

theorem ids_writeBack (g : Graph) (cur : Nat) (c : List Name) (subs' : List (String × Graph)) :
    (g.setNodes (g.nodes.map fun n => if n.id == cur then n.setBodies c subs' else n)).ids = g.ids :=
  setBodiesAt_ids g cur c subs'

/-- **One pass terminates under NoRematch** (ASSUMES `StepShape` for `tryRules`, which is not derived; the
only witnesses in this file use the empty rule list): with fuel above the potential `mu` — the number of
nodes at or after the cursor, original ones counted `K + 1` times — `passLoop` never runs out of
fuel: every node the pass starts with is visited at most once, every replacement node once.
(Errors of the rules themselves — opset clash, as_function — are other outcomes; the recursion
into bodies is assumed not to run out of fuel, which is this theorem one level down.) -/
theorem passLoop_terminates (rules : List Rule) (kind : Kind)
    (recurse : PassSt → Graph → Except Err (PassSt × Graph)) (base K : Nat) (hb : 0 < base)
    (shape : StepShape kind rules base K) (hrec : ∀ st b, recurse st b ≠ .error .fuel) :
    ∀ (fuel : Nat) (st : PassSt) (lo : List (String × Nat)) (g : Graph) (cur : Option Nat),
      g.ids.Nodup → (∀ i ∈ g.ids, 0 < i) → mu base K g.ids cur < fuel →
      passLoop rules kind recurse fuel st lo g cur ≠ .error .fuel :=
  -- `passLoop_terminates_inv` with the invariant that always holds
  fun _ _ _ _ _ hnd hpos hmu => passLoop_terminates_inv (PassInv.trivial rules kind recurse) base K hb
    (fun _ hmem hn ht => shape.applied _ _ _ _ _ _ _ _ hmem hn ht) (fun _ => shape.noFuel _ _ _ _) hrec
    trivial hnd hpos hmu

/-- non-vacuity: the hypotheses of `passLoop_terminates` are satisfiable (an empty rule set never
applies), and the theorem then bounds the pass over `exHost` (4 nodes: potential 4 + K·4) -/
example : StepShape .main [] 100 3 :=
  ⟨fun _ _ _ _ _ _ _ _ _ _ h => by simp [tryRules] at h, fun _ _ _ _ h => by simp [tryRules] at h⟩

example (recurse : PassSt → Graph → Except Err (PassSt × Graph)) (hrec : ∀ st b, recurse st b ≠ .error .fuel)
    (st : PassSt) (lo : List (String × Nat)) :
    passLoop [] .main recurse 17 st lo exHost (some 1) ≠ .error .fuel :=
  passLoop_terminates [] .main recurse 100 3 (by decide)
    ⟨fun _ _ _ _ _ _ _ _ _ _ h => by simp [tryRules] at h, fun _ _ _ _ h => by simp [tryRules] at h⟩
    hrec 17 st lo exHost (some 1) (by decide) (by decide) (by decide)

/-- The shape part of `StepShape` is what the model's splice does: the id list after `applyAt` is
the old one with the new nodes' ids inserted after the root, filtered by "not a matched node" when
the rule removes nodes (renaming, name transfer and the retiring of kept producers never touch
ids or order). -/
theorem applyAt_ids (d : Nat) (g : Graph) (m : Match) (new : List Node) (outs : List NewOut) (rm : Bool) :
    (applyAt d g m new outs rm).ids =
      (insAfterIds g.ids m.root (new.map (·.id))).filter (fun i => !(rm && m.nodes.contains i)) := by
  unfold applyAt
  rw [renamePassthru_ids, Graph.ids, setNodes_nodes, spliceNodes_ids, transferNames_ids,
    show (retireOld g m rm).nodes.map (·.id) = g.ids from retireOld_ids g m rm]

/-! ## Every name is defined once over all scopes (the clause C07-D7 violated before c9666a4) -/

/-- (About `g.setNodes (spliceNodes …)`, `remove_nodes=True`.)
`collectNames` lists the inputs, initializers and node outputs of a graph *and of all its bodies*.
If it has no duplicates in the host, it has none after the splice, provided the replacement nodes
carry no bodies and each of their outputs is either a name the root defined (name transfer) or a
name outside `collectNames` of the host — which is what `_fresh_value_name` gives (`freshIn_spec`:
a name not in the model-wide set, which contains `collectNames` of every graph). -/
theorem applyAt_defs_once (d : Nat) (g : Graph) (pre0 post repl : List Node) (root : Node) (matched : List Nat)
    (hg : g.nodes = pre0 ++ root :: post)
    (hpre : ∀ n ∈ pre0, n.id ≠ root.id) (hpost : ∀ n ∈ post, n.id ≠ root.id)
    (hroot : matched.contains root.id = true) (hpostU : ∀ n ∈ post, matched.contains n.id = false)
    (hnew : ∀ n ∈ repl, matched.contains n.id = false)
    (hflat : ∀ n ∈ repl, n.subs = [])
    (hnd : (repl.flatMap (·.outputs)).Nodup)
    (houts : ∀ x ∈ repl.flatMap (·.outputs), x ∈ root.outputs ∨ x ∉ collectNames (d + 1) g)
    (h : (collectNames (d + 1) g).Nodup) :
    (collectNames (d + 1) (g.setNodes (spliceNodes g.nodes root.id matched repl true))).Nodup := by
  rw [hg, spliceNodes_eq pre0 post repl root matched hroot hpre hpost hpostU hnew]
  rw [collectNames_succ, setNodes_inputs, setNodes_initNames, setNodes_nodes]
  rw [collectNames_succ, hg] at h houts
  cases d with
  | zero => exact h
  | succ d =>
    rw [collectNamesNodes_append, collectNamesNodes_cons] at h houts
    rw [collectNamesNodes_append, collectNamesNodes_append, collectNamesNodes_flat d repl hflat]
    -- host = A ++ (P ++ (R ++ Q)), result = A ++ (P' ++ (N ++ Q)) with P' a sublist of P: bring R, resp. N, to the front
    have hR := (((List.perm_append_comm_assoc _ _ _).append_left _).trans (List.perm_append_comm_assoc _ _ _)).nodup_iff.mp h
    refine (((List.perm_append_comm_assoc _ _ _).append_left _).trans (List.perm_append_comm_assoc _ _ _)).nodup_iff.mpr ?_
    obtain ⟨_, hrest, hdis⟩ := List.nodup_append.mp hR
    have hsub := (List.Sublist.refl (g.inputs ++ g.initNames)).append
      ((collectNamesNodes_filter_sublist d (fun n => !(matched.contains n.id)) pre0).append
        (List.Sublist.refl (collectNamesNodes (d + 1) post)))
    refine List.nodup_append.mpr ⟨hnd, hsub.nodup hrest, fun x hx y hy hxy => ?_⟩
    -- a new output is an output of the root (which the rest of the host does not define) or new to the host
    have hy' := hsub.subset (hxy ▸ hy)
    rcases houts x hx with hr | hf
    · exact hdis x (List.mem_append_left _ hr) x hy' rfl
    · refine hf ?_
      rcases List.mem_append.mp hy' with h1 | h1
      · exact List.mem_append_left _ h1
      · exact List.mem_append_right _ ((List.mem_append.mp h1).elim (List.mem_append_left _)
          fun h2 => List.mem_append_right _ (List.mem_append_right _ h2))

/-- non-vacuity: `exHost` (every name once), re-emission with a `val_k` interior name -/
example : (collectNames 3 (exHost.setNodes (spliceNodes exHost.nodes 2 [2, 1]
    [.mk 5 "Neg" "" "" [some "x"] ["val_1"] [] [] [] [], .mk 6 "Relu" "" "" [some "val_1"] ["r"] [] [] [] []] true))).Nodup :=
  applyAt_defs_once 2 exHost [exNeg, exOther] [exAbs] _ exRelu [2, 1] rfl ex_pre ex_post (by decide)
    ex_postU (by decide) (by decide) (by decide) (by decide) (by decide)

/-! ## `commute=True` -/

/-- (Definitional: seven `rfl`s after unfolding `commuteRule`; that `commuteRule` is what `RewriteRule.commute`
does is the `commute=True` tie.)  Every variant differs from the rule in the pattern's operand order only: name,
`remove_nodes`, `as_function`, the condition and the replacement are the rule's (a variant that lost
`as_function` would splice a call to a function nobody creates), and the pattern has the same outputs and
root. -/
theorem commuteRule_keeps_options (r r' : Rule) (h : r' ∈ commuteRule r) :
    r'.name = r.name ∧ r'.removeNodes = r.removeNodes ∧ r'.asFunction = r.asFunction ∧
    r'.guardTag = r.guardTag ∧ r'.repl = r.repl ∧ r'.pat.outputs = r.pat.outputs ∧ r'.pat.root = r.pat.root := by
  unfold commuteRule at h
  obtain ⟨sw, _, rfl⟩ := List.mem_map.mp h
  exact ⟨rfl, rfl, rfl, rfl, rfl, rfl, rfl⟩

/-! ## Metadata -/

/-- Tagging with the rule name and merging the matched nodes' metadata keeps the number of
replacement nodes and, of each, the id, operator, inputs, outputs, attributes and captures as the
replacement function built them (`subs` is not among the components compared). -/
theorem tagAndMerge_structure (name : String) (from_ to : List Node) :
    (tagAndMerge name from_ to).map (fun n => (n.id, n.op, n.domain, n.overload, n.inputs, n.outputs, n.attrs, n.caps)) =
      to.map (fun n => (n.id, n.op, n.domain, n.overload, n.inputs, n.outputs, n.attrs, n.caps)) :=
  tagAndMerge_keeps _ (fun n _ => by cases n; rfl) name from_ to

/-! ## Signature -/

/-- All values the replacement returns are new values (fresh `%…` names). -/
def NoPassthru (newOutputs : List NewOut) : Prop :=
  ∀ o ∈ newOutputs, ∃ t, o = .fresh t

theorem renamePassthru_id (d : Nat) (pairs : List (Name × NewOut))
    (h : ∀ p ∈ pairs, ∃ t, p.2 = .fresh t) (g : Graph) :
    renamePassthru d pairs g = g :=
  renamePassthru_keeps id (fun _ _ => False) d (fun _ _ _ hf => hf.elim) pairs g fun p hp x hx => by
    obtain ⟨t, ht⟩ := h p hp
    cases ht.symm.trans hx

/-- **Bridge: the model's own rewrite step is the splice on node lists** — for `remove_nodes=True`
and a replacement that returns only new values (`NoPassthru`): `retireOld` and `renamePassthru` are the
identity, so `applyAt` is the host with `spliceNodes` of the name-transferred replacement.  (Not covered:
`remove_nodes=False`, returned existing values.) -/
theorem applyAt_eq_splice (d : Nat) (g : Graph) (m : Match) (new : List Node) (outs : List NewOut)
    (h : NoPassthru outs) :
    applyAt d g m new outs true =
      g.setNodes (spliceNodes g.nodes m.root m.nodes
        (transferNames ((dedupOuts [] m.outputs).zip outs) new) true) := by
  rw [applyAt, renamePassthru_id d _ (fun p hp => h p.2 (List.of_mem_zip hp).2)]
  rfl

/-- **Equivalence for the model's own `applyAt`** (`remove_nodes=True`, `NoPassthru`): `applyAt_equiv`
transported along `applyAt_eq_splice`.  The hypotheses are those of `applyAt_equiv` stated for the
name-transferred replacement `transferNames pairs new` (`SpliceOK` for the given match, `hnew`,
`ReplEquiv`); that `transferNames` produces such a list is assumed, not proved. -/
theorem applyAt_equiv_applyAt {V} (sem : Sem V) (d d' : Nat) (outer : Env V) (args : List (Option V))
    (g : Graph) (m : Match) (pre0 post new : List Node) (root : Node) (outs : List NewOut) (H : List Name)
    (hno : NoPassthru outs) (hroot : m.root = root.id)
    (hg : g.nodes = pre0 ++ root :: post)
    (hpre : ∀ n ∈ pre0, n.id ≠ root.id) (hpost : ∀ n ∈ post, n.id ≠ root.id)
    (hnew : ∀ n ∈ transferNames ((dedupOuts [] m.outputs).zip outs) new, m.nodes.contains n.id = false)
    (ok : SpliceOK (fun n => m.nodes.contains n.id) pre0 root post H g.outputs)
    (hrepl : ReplEquiv sem (evalGraph sem d) H (pre0.filter (fun n => m.nodes.contains n.id) ++ [root])
      (transferNames ((dedupOuts [] m.outputs).zip outs) new)) :
    evalGraph sem (d + 1) outer (applyAt d' g m new outs true) args = evalGraph sem (d + 1) outer g args := by
  rw [applyAt_eq_splice d' g m new outs hno, hroot]
  exact applyAt_equiv sem d outer args g pre0 post _ root m.nodes H hg hpre hpost hnew ok hrepl

/-- non-vacuity of the bridge: on `exHost` the model's `applyAt` replaces `z = Abs(r)` (match `[3]`) by a
new node object with a fresh output name, which takes over the name `z` -/
example {V} (sem : Sem V) (d : Nat) (outer : Env V) (args : List (Option V)) :
    evalGraph sem (d + 1) outer
      (applyAt 10 exHost { root := 3, nodes := [3], bindings := [(0, some "r")], outputs := ["z"] }
        [.mk 7 "Abs" "" "" [some "r"] ["%7_0"] [] [] [] []] [.fresh "%7_0"] true) args =
      evalGraph sem (d + 1) outer exHost args :=
  applyAt_equiv_applyAt sem d 10 outer args exHost _ [exNeg, exOther, exRelu] [] _ exAbs _ []
    (by intro o ho; exact ⟨"%7_0", by simpa using ho⟩) rfl rfl (by decide) (by decide) (by decide)
    (by constructor <;> decide)
    -- both sides evaluate to the one node `z = Abs(r)` (the node id plays no part in evaluation)
    (fun ρ => ORel.refl [] (evalNodes _ ρ [exAbs]))

/-- Graph input names, output names and initializers are untouched by the splice when the
replacement returns new values. -/
theorem applyAt_signature_fresh (d : Nat) (g : Graph) (m : Match) (new : List Node)
    (newOutputs : List NewOut) (rm : Bool) (h : NoPassthru newOutputs) :
    (applyAt d g m new newOutputs rm).inputs = g.inputs ∧
    (applyAt d g m new newOutputs rm).outputs = g.outputs ∧
    (applyAt d g m new newOutputs rm).inits = g.inits := by
  rw [applyAt, renamePassthru_id d _ (fun p hp => h p.2 (List.of_mem_zip hp).2)]
  exact ⟨by rw [setNodes_inputs, retireOld_inputs], by rw [setNodes_outputs, retireOld_outputs],
    by rw [setNodes_inits, retireOld_inits]⟩

theorem renGraph_inputs (x o : Name) (d : Nat) (g : Graph) (h : x ∉ g.inputs) :
    (renGraph x o d g).inputs = g.inputs := by
  cases d with
  | zero => rfl
  | succ d => cases g; exact map_renName_of_notMem x o _ h

theorem renGraph_outputs (x o : Name) (d : Nat) (g : Graph) (h : x ∉ g.outputs) :
    (renGraph x o d g).outputs = g.outputs := by
  cases d with
  | zero => rfl
  | succ d => cases g; exact map_renName_of_notMem x o _ h

theorem renamePassthru_inputs (d : Nat) (pairs : List (Name × NewOut)) :
    ∀ g : Graph, (∀ p ∈ pairs, ∀ x, p.2 = .existing x → x ∉ g.inputs) →
      (renamePassthru d pairs g).inputs = g.inputs :=
  renamePassthru_keeps Graph.inputs (· ∉ ·) d (fun x o g => renGraph_inputs x o d g) pairs

theorem renamePassthru_outputs (d : Nat) (pairs : List (Name × NewOut)) :
    ∀ g : Graph, (∀ p ∈ pairs, ∀ x, p.2 = .existing x → x ∉ g.outputs) →
      (renamePassthru d pairs g).outputs = g.outputs :=
  renamePassthru_keeps Graph.outputs (· ∉ ·) d (fun x o g => renGraph_outputs x o d g) pairs

/-- what fixes e8a0767 and 1dc987d guarantee: after `addIdentities` no returned value is one of the
listed interface names -/
theorem addIdentities_no_input (inputs : List Name) (outs : List NewOut) :
    ∀ base, ∀ o ∈ (addIdentities inputs base outs).2, ∀ x, o = .existing x → x ∉ inputs := by
  intro base o ho x hx
  exact ((mem_addIdentities_existing inputs x outs base).mp (hx ▸ ho)).2

/-- **The graph signature is untouched — full statement (no `NoPassthru`), after fixes e8a0767,
1dc987d and aef7e04**: whatever the replacement returns — new values, bound inputs, initializers,
values that are graph inputs or graph outputs, values of an enclosing graph — the splice applied to
what `tryRule` hands it (`addIdentities (routeNames isFunc g outs)`: returned graph inputs, graph
outputs and, in graphs, foreign values routed through `Identity`) leaves the graph's input names and
output names as they were. -/
theorem applyAt_signature (d : Nat) (g : Graph) (m : Match) (new : List Node) (outs : List NewOut)
    (base : Nat) (rm : Bool) (isFunc : Bool) :
    (applyAt d g m (new ++ (addIdentities (routeNames isFunc g outs) base outs).1)
        (addIdentities (routeNames isFunc g outs) base outs).2 rm).inputs = g.inputs ∧
    (applyAt d g m (new ++ (addIdentities (routeNames isFunc g outs) base outs).1)
        (addIdentities (routeNames isFunc g outs) base outs).2 rm).outputs = g.outputs := by
  -- no existing value that is still returned after the routing is an input or an output of `g`
  have hno := fun x (hx : NewOut.existing x ∈ _) => addIdentities_no_input (routeNames isFunc g outs) outs base _ hx x rfl
  exact ⟨applyAt_keeps Graph.inputs (· ∉ ·) d setNodes_inputs (fun x o g => renGraph_inputs x o d g) g m _ _ rm
      (retireOld_inputs g m rm) fun x hx hm => hno x hx (List.mem_append_left _ (List.mem_append_left _ hm)),
    applyAt_keeps Graph.outputs (· ∉ ·) d setNodes_outputs (fun x o g => renGraph_outputs x o d g) g m _ _ rm
      (retireOld_outputs g m rm) fun x hx hm => hno x hx (List.mem_append_left _ (List.mem_append_right _ hm))⟩

/-- `addIdentities` only keeps or replaces: an existing value it returns was returned before -/
theorem addIdentities_existing_sub (R : List Name) (outs : List NewOut) :
    ∀ base, ∀ x, NewOut.existing x ∈ (addIdentities R base outs).2 → NewOut.existing x ∈ outs :=
  fun base x h => ((mem_addIdentities_existing R x outs base).mp h).1

/-- **Fix aef7e04 (C07-D11), every graph, every replacement**: in a graph or subgraph (not a function),
after the Identity routing every *existing* value the replacement still returns is defined by the graph
being rewritten itself (an input, an initializer or a node output of it) and is neither an input nor an
output of it — no value of an enclosing graph is handed to `replace_nodes_and_values`, so none can take
over the name or the output slot of a value of the body. -/
theorem addIdentities_no_foreign (g : Graph) (outs : List NewOut) (base : Nat) (x : Name)
    (h : NewOut.existing x ∈ (addIdentities (routeNames false g outs) base outs).2) :
    x ∈ g.defined ∧ x ∉ g.inputs ∧ x ∉ g.outputs := by
  have hno := addIdentities_no_input (routeNames false g outs) outs base _ h x rfl
  have hin := addIdentities_existing_sub (routeNames false g outs) outs base x h
  unfold routeNames at hno
  simp only [Bool.false_eq_true, if_false, List.mem_append, not_or] at hno
  obtain ⟨⟨hi, ho⟩, hf⟩ := hno
  refine ⟨?_, hi, ho⟩
  by_cases hd : x ∈ g.defined
  · exact hd
  · exfalso
    apply hf
    unfold foreignOuts
    exact List.mem_filterMap.mpr ⟨.existing x, hin, by simp [hd]⟩

/-- the C07-D11 witness: `a = Abs(x); z = If(c){ n = Neg(a); t = Neg(n) → t }` with `Neg(Neg(v)) → v` -/
def d11Body : Graph :=
  .mk [] [] [.mk 3 "Neg" "" "" [some "a"] ["n"] [] [] [] [], .mk 4 "Neg" "" "" [some "n"] ["t"] [] [] [] []] ["t"]
def d11Host : Graph :=
  .mk ["x", "c"] []
    [.mk 1 "Abs" "" "" [some "x"] ["a"] [] [] [] [],
     .mk 2 "If" "" "" [some "c"] ["z"] [] [] ["a"] [("then_branch", d11Body)]] ["z"]
def d11Rule : Rule :=
  { name := "", removeNodes := true, asFunction := false, guardTag := false,
    pat := { nodes := [⟨"Neg", "", [.var 0], 1, []⟩, ⟨"Neg", "", [.out 0 0], 1, []⟩], root := 1, outputs := [.out 1 0] },
    repl := { inits := [], uniqueInits := false, nodes := [], outputs := [.var 0] } }

/-- regression of C07-D11 (fixed aef7e04): the pass applies once; the body holds one `Identity`
reading the outer `a` and still produces its output `t`; the outer graph is as it was and well-formed -/
theorem d11_fixed :
    ((applyToModel [d11Rule] 100 { opsets := [("", 18)], graph := d11Host, funcs := [] }).toOption.map
      fun r => (r.1, r.2.graph.nodes.map (·.op), r.2.graph.nodes.flatMap (·.caps), wfGraph [] r.2.graph,
        r.2.graph.nodes.flatMap fun n => n.subs.flatMap fun s =>
          s.2.nodes.map (·.op) ++ s.2.nodes.flatMap (·.inputNames) ++ s.2.outputs ++
            [toString (wfGraph ["x", "c", "a"] s.2)])) =
    some (1, ["Abs", "If"], ["a"], true, ["Identity", "a", "t", "true"]) := by
  decide +kernel

/-- the code between 1dc987d and aef7e04 routed only graph inputs and graph outputs: the returned outer
value `a` reached the splice and took the name of the body's output -/
theorem d11_prefix_refuted :
    ¬ (∀ (g : Graph) (outs : List NewOut) (base : Nat) (x : Name),
        NewOut.existing x ∈ (addIdentities (g.inputs ++ g.outputs) base outs).2 → x ∈ g.defined) := by
  intro h
  exact absurd (h d11Body [.existing "a"] 5 "a" (by decide)) (by decide)

/-! ### fix f8abc79 — `Identity(v) → v` with `v` routed: no progress, the rule is skipped -/

def idRule : Rule :=
  { name := "", removeNodes := true, asFunction := false, guardTag := false,
    pat := { nodes := [⟨"Identity", "", [.var 0], 1, []⟩], root := 0, outputs := [.out 0 0] },
    repl := { inits := [], uniqueInits := false, nodes := [], outputs := [.var 0] } }
/-- `y = Identity(x)`, `x` a graph input, `y` the graph output -/
def idHost : Graph := .mk ["x"] [] [.mk 1 "Identity" "" "" [some "x"] ["y"] [] [] [] []] ["y"]
/-- `a = Abs(x); z = If(c){ t = Identity(a) → t }`: the routed value is a value of the enclosing graph -/
def idBodyHost : Graph :=
  .mk ["x", "c"] []
    [.mk 1 "Abs" "" "" [some "x"] ["a"] [] [] [] [],
     .mk 2 "If" "" "" [some "c"] ["z"] [] [] ["a"]
       [("then_branch", .mk [] [] [.mk 3 "Identity" "" "" [some "a"] ["t"] [] [] [] []] ["t"])]] ["z"]

/-- **What the skip test of f8abc79 means** (every graph, match, node lists): it holds only when the
replacement brings no node of its own, there is exactly one routing node, and the single matched node is a
default-domain `Identity` reading the same value as the routing node — the rewrite would put an equal
node in place of the matched one. -/
theorem noProgress_spec (g : Graph) (m : Match) (newNodes idNodes : List Node)
    (h : noProgress g m newNodes idNodes = true) :
    newNodes = [] ∧ ∃ nid idn n, m.nodes = [nid] ∧ idNodes = [idn] ∧ nodeById g nid = some n ∧
      n.op = "Identity" ∧ n.domain = "" ∧ n.inputs.head? = idn.inputs.head? := by
  unfold noProgress at h
  simp only [Bool.and_eq_true] at h
  obtain ⟨⟨hn, _⟩, hm⟩ := h
  refine ⟨by simpa using hn, ?_⟩
  split at hm
  · rename_i nid idn h1 h2
    split at hm
    · rename_i n hnode
      simp only [Bool.and_eq_true, beq_iff_eq] at hm
      exact ⟨nid, idn, n, h1, rfl, hnode, hm.1.1, hm.1.2, hm.2⟩
    · cases hm
  · cases hm

/-- regression of the f8abc79 witnesses through the whole pass: the pass returns (no fuel error), applies
nothing and leaves the graphs as they were — for a routed graph input feeding a graph output, and for a
routed outer value inside an `If` body -/
theorem identity_passthru_skipped :
    ((applyToModel [idRule] 100 { opsets := [("", 18)], graph := idHost, funcs := [] }).toOption.map
      fun r => (r.1, r.2.graph.nodes.map (·.id), r.2.graph.nodes.flatMap (·.inputNames), r.2.graph.outputs)) =
      some (0, [1], ["x"], ["y"]) ∧
    ((applyToModel [idRule] 100 { opsets := [("", 18)], graph := idBodyHost, funcs := [] }).toOption.map
      fun r => (r.1, r.2.graph.nodes.map (·.id),
        r.2.graph.nodes.flatMap fun n => n.subs.flatMap fun s => s.2.nodes.map (·.id) ++ s.2.nodes.flatMap (·.outputs.length :: []))) =
      some (0, [1, 2], [3, 1]) := by
  decide +kernel

/-! ### C07-D4 (fixed e8a0767), C07-D10 (fixed 1dc987d) — the code before the fixes -/

def d4Host : Graph :=
  .mk ["x"] []
    [.mk 1 "Neg" "" "" [some "x"] ["n"] [] [] [] [], .mk 2 "Neg" "" "" [some "n"] ["m"] [] [] [] [],
     .mk 3 "Add" "" "" [some "m", some "x"] ["z"] [] [] [] []] ["z"]
def d4Match : Match := { root := 2, nodes := [2, 1], bindings := [(0, some "x")], outputs := ["m"] }

/-- Before e8a0767 the returned value went into the splice as it was: `Neg(Neg(x)) → x` renamed the
graph input `x` to `m`. -/
theorem applyAt_signature_prefix_refuted :
    ¬ (∀ (d : Nat) (g : Graph) (m : Match) (new : List Node) (outs : List NewOut) (rm : Bool),
        (applyAt d g m new outs rm).inputs = g.inputs) := by
  intro h
  exact absurd (h 10 d4Host d4Match [] [.existing "x"] true) (by decide)

/-- `Neg(Neg(x)) → x` -/
def d4Rule : Rule :=
  { name := "r1", removeNodes := true, asFunction := false, guardTag := false,
    pat := { nodes := [⟨"Neg", "", [.var 0], 1, []⟩, ⟨"Neg", "", [.out 0 0], 1, []⟩], root := 1, outputs := [.out 1 0] },
    repl := { inits := [], uniqueInits := false, nodes := [], outputs := [.var 0] } }

/-- regression of the C07-D4 witness through the whole pass: one application, the input is still `x` -/
theorem d4_fixed :
    ((applyToModel [d4Rule] 100 { opsets := [("", 18)], graph := d4Host, funcs := [] }).toOption.map
      fun r => (r.1, r.2.graph.inputs, r.2.graph.outputs)) = some (1, ["x"], ["z"]) := by
  decide +kernel

def d10Host : Graph :=
  .mk ["a"] []
    [.mk 1 "Abs" "" "" [some "a"] ["x"] [] [] [] [], .mk 2 "Neg" "" "" [some "x"] ["n"] [] [] [] [],
     .mk 3 "Neg" "" "" [some "n"] ["m"] [] [] [] [], .mk 4 "Add" "" "" [some "m", some "x"] ["z"] [] [] [] []] ["z", "x"]

/-- C07-D10, the code between e8a0767 and 1dc987d (only graph *inputs* routed through `Identity`):
a returned value that is a graph output was renamed to the matched output's name — outputs
`(z, x)` became `(z, m)` (replayed then on the real code). -/
theorem applyAt_signature_output_prefix_refuted :
    ¬ (∀ (d : Nat) (g : Graph) (m : Match) (new : List Node) (outs : List NewOut) (base : Nat) (rm : Bool),
        (applyAt d g m (new ++ (addIdentities g.inputs base outs).1) (addIdentities g.inputs base outs).2 rm).outputs
          = g.outputs) := by
  intro h
  exact absurd (h 10 d10Host { root := 3, nodes := [3, 2], bindings := [(0, some "x")], outputs := ["m"] }
    [] [.existing "x"] 5 true) (by decide)

/-- regression of the C07-D10 witness through the whole pass: one application, signature `(a) → (z, x)` kept -/
theorem d10_fixed :
    ((applyToModel [d4Rule] 100 { opsets := [("", 18)], graph := d10Host, funcs := [] }).toOption.map
      fun r => (r.1, r.2.graph.inputs, r.2.graph.outputs)) = some (1, ["a"], ["z", "x"]) := by
  decide +kernel

/-! ## Initializers (after fixes 340a24c and c9666a4: a new initializer whose name is taken — in
this graph's initializers or anywhere in the model — is registered as a model-wide fresh `name_k`) -/

/-- **No `FreshInitializerNames` hypothesis**: whatever names the replacement asks for, registration
only appends — every node, input, output and every existing initializer (name and value, in place)
is untouched; one initializer per request is added with the requested value, under names that are
new to the graph *and to the whole model's name set*, pairwise distinct; the name set grows by
exactly these names.  (`names` ⊇ the graph's initializer names is the invariant `apply_to_model`
establishes by collecting all value names first.)  What remains outside the theorem: that the
search for a free `name_k` succeeds (`= some _`; `k ≤ |names|+1` is searched, a free one exists by
counting, which is not proved — the tie exercises it). -/
theorem registerInits_adds_only (names names' : List Name) (g g' : Graph) (is is' : List (Name × String))
    (hsub : ∀ z ∈ g.initNames, z ∈ names) (h : registerInits names g is = some (g', is', names')) :
    g'.nodes = g.nodes ∧ g'.inputs = g.inputs ∧ g'.outputs = g.outputs ∧ g'.inits = g.inits ++ is' ∧
    is'.map (·.2) = is.map (·.2) ∧ (∀ y ∈ is'.map (·.1), y ∉ g.initNames ∧ y ∉ names) ∧ (is'.map (·.1)).Nodup ∧
    names' = names ++ is'.map (·.1) := by
  fun_induction registerInits names g is generalizing is' with
  | case1 => cases h; simp
  | case2 => cases h
  | case3 => cases h
  | case4 names g x t rest y hy g1 r n1 hr ih =>
    cases h
    obtain ⟨hyt, hyn⟩ := freshInitName_spec _ _ _ _ hsub hy
    -- the invariant `initNames ⊆ names` holds one step later, so the tail registers as the theorem says
    obtain ⟨a1, a2, a3, a4, a5, a6, a7, a8⟩ := ih r
      (fun z hz => by
        rw [setInits_initNames, List.map_append] at hz
        exact (List.mem_append.mp hz).elim (fun h => List.mem_append_left _ (hsub z h)) (List.mem_append_right _))
      hr
    rw [setInits_initNames, List.map_append] at a6
    refine ⟨a1, a2, a3, by rw [a4, setInits_inits, List.append_assoc]; rfl, by rw [List.map_cons, List.map_cons, a5],
      fun z hz => ?_, List.nodup_cons.mpr ⟨fun hm => (a6 y hm).1 (List.mem_append_right _ (List.mem_singleton.mpr rfl)), a7⟩,
      by rw [a8, List.map_cons, List.append_assoc]; rfl⟩
    rcases List.mem_cons.mp hz with rfl | hz
    · exact ⟨hyt, hyn⟩
    · exact ⟨fun hm => (a6 z hz).1 (List.mem_append_left _ hm), fun hm => (a6 z hz).2 (List.mem_append_left _ hm)⟩

/-- names that are free (in the graph and in the model) are kept as requested -/
theorem registerInits_keeps_free_name (names : List Name) (g : Graph) (x : Name) (t : String)
    (h : x ∉ g.initNames) (hn : x ∉ names) :
    registerInits names g [(x, t)] = some (g.setInits (g.inits ++ [(x, t)]), [(x, t)], names ++ [x]) := by
  simp [registerInits, freshInitName, h, hn]

def d18Host : Graph :=
  .mk ["x"] [("one", "A")]
    [.mk 1 "Mul" "" "" [some "x", some "one"] ["a"] [] [] [] [],
     .mk 2 "Relu" "" "" [some "a"] ["z"] [] [] [] []] ["z"]

/-- regression: the D18 witness is harmless — the second `one` becomes `one_1`, the `Mul` still
reads the first, the graph stays well-formed -/
theorem d18_fixed :
    (registerInits (collectNames 10 d18Host) d18Host [("one", "A")]).map
        (fun r => (r.2.1.map (·.1), r.1.nodes.map (·.inputs), wfGraph [] r.1)) =
      some (["one_1"], d18Host.nodes.map (·.inputs), true) := by
  decide +kernel

/-! ### D18 (= finding C09-N3), the code before the fix -/

/-- `FreshInitializerNames`: the names the replacement registers are pairwise distinct and not
yet initializers of the graph — the hypothesis the pre-fix code needed. -/
def FreshInitializerNames (g : Graph) (is : List (Name × String)) : Prop :=
  (is.map (·.1)).Nodup ∧ ∀ x ∈ is.map (·.1), x ∉ g.initNames

theorem registerInitsPrefix_adds_only (d : Nat) (g : Graph) (is : List (Name × String))
    (h : FreshInitializerNames g is) :
    (registerInitsPrefix d g is).nodes = g.nodes ∧ (registerInitsPrefix d g is).inputs = g.inputs ∧
    (registerInitsPrefix d g is).outputs = g.outputs ∧ (registerInitsPrefix d g is).inits = g.inits ++ is := by
  rw [registerInitsPrefix_fresh d is g h.1 h.2]
  exact ⟨setInits_nodes .., setInits_inputs .., setInits_outputs .., setInits_inits ..⟩

/-- Before 340a24c, registering `one` again (the second firing of any rule that names its
initializer) detached the first registration: the `Mul` that used it read a value that was no
initializer (`†one`) — a host node *was* touched and the graph was no longer well-formed. -/
theorem registerInits_prefix_refuted :
    ¬ (∀ (d : Nat) (g : Graph) (is : List (Name × String)),
        (registerInitsPrefix d g is).nodes.map (·.inputs) = g.nodes.map (·.inputs)) := by
  intro h
  exact absurd (h 10 d18Host [("one", "A")]) (by decide)

theorem d18_prefix_result_not_wf :
    wfGraph [] d18Host = true ∧ wfGraph [] (registerInitsPrefix 10 d18Host [("one", "A")]) = false := by
  decide

/-! ## Opset imports -/

/-- `_update_opset_imports` never changes the version of a domain that is already imported
(a different explicit version is an error, `none`). -/
theorem updOpsets_preserves (used : List (String × Option Nat)) :
    ∀ (imports imports' : List (String × Nat)) (d : String) (v : Nat),
      updOpsets imports used = some imports' → imports.lookup d = some v → imports'.lookup d = some v := by
  induction used with
  | nil => intro i i' d v h hv; exact Option.some.inj h ▸ hv
  | cons p rest ih =>
    intro i i' d v h hv
    rcases updOpsets_cons h with ⟨_, h'⟩ | ⟨_, h'⟩
    · exact ih _ _ d v h' (by rw [List.lookup_append, hv]; rfl)
    · exact ih _ _ d v h' hv

/-- **The opset imports the replacement needs are added**: after a successful
`_update_opset_imports`, every domain the replacement's nodes use is imported.  The statement is
about presence only; that an already imported version stays is `updOpsets_preserves`, and which
version a new domain gets (the one asked for, else 1) is read off `updOpsets_cons`. -/
theorem updOpsets_covers (used : List (String × Option Nat)) :
    ∀ (imports imports' : List (String × Nat)), updOpsets imports used = some imports' →
      ∀ p ∈ used, (imports'.lookup p.1).isSome = true := by
  induction used with
  | nil => exact fun _ _ _ _ hp => nomatch hp
  | cons q rest ih =>
    intro i i' h p hp
    -- after the first step the domain of `q` is imported, and stays so
    have key : ∀ mid, updOpsets mid rest = some i' → (mid.lookup q.1).isSome → (i'.lookup p.1).isSome = true := by
      intro mid h' hq
      rcases List.mem_cons.mp hp with rfl | hp'
      · obtain ⟨w, hw⟩ := Option.isSome_iff_exists.mp hq
        rw [updOpsets_preserves rest _ _ _ w h' hw]; rfl
      · exact ih _ _ h' p hp'
    rcases updOpsets_cons h with ⟨hl, h'⟩ | ⟨hl, h'⟩
    · exact key _ h' (by rw [List.lookup_append, hl]; simp [List.lookup])
    · exact key _ h' hl

example : updOpsets [("", 18)] [("", none), ("local", none), ("ext", some 3)] =
    some [("", 18), ("local", 1), ("ext", 3)] := by decide

theorem updOpsets_clash (imports : List (String × Nat)) (d : String) (cur v : Nat)
    (rest : List (String × Option Nat)) (h : imports.lookup d = some cur) (hne : v ≠ cur) :
    updOpsets imports ((d, some v) :: rest) = none := by
  unfold updOpsets
  rw [h]
  simp [hne]

/-! ## C07-D3 (fixed a8da06e) — a pattern with two output nodes: the insertion point is the *first* output node -/

def d3Host : Graph :=
  .mk ["x"] []
    [.mk 1 "Neg" "" "" [some "x"] ["n"] [] [] [] [], .mk 2 "Abs" "" "" [some "n"] ["u"] [] [] [] [],
     .mk 3 "Relu" "" "" [some "x"] ["r"] [] [] [] [], .mk 4 "Add" "" "" [some "u", some "r"] ["z"] [] [] [] []] ["z"]
/-- pattern `(Relu(x), Neg(x))` matched at the `Relu` (root) and the earlier `Neg` -/
def d3Match : Match := { root := 3, nodes := [3, 1], bindings := [(0, some "x")], outputs := ["r", "n"] }
def d3New : List Node :=
  [.mk 5 "Relu" "" "" [some "x"] ["%5_0"] [] [] [] [], .mk 6 "Neg" "" "" [some "x"] ["%6_0"] [] [] [] []]

/-- The splice alone (the code before a8da06e): the host is well-formed, the match is removable,
the replacement is the pattern itself — and the spliced graph defines `n` after its use in `Abs`
(replayed then: onnx.checker "Nodes in a graph must be topologically sorted").  `applyAt_wf` /
`applyAt_equiv` therefore carry **OutputsAtRoot**. -/
theorem applyAt_wf_prefix_refuted :
    wfGraph [] d3Host = true ∧ validToReplace d3Host d3Match.nodes d3Match.outputs = true ∧
    wfGraph [] (applyAt 10 d3Host d3Match d3New [.fresh "%5_0", .fresh "%6_0"] true) = false := by
  decide

/-- after a8da06e the pass ends with `sort()`: the same spliced graph, sorted, is well-formed
(`sortGraph` renders onnx_ir's stable topological sort — a contract; this is its instance here) -/
theorem d3_sorted_wf :
    wfGraph [] (sortGraph (applyAt 10 d3Host d3Match d3New [.fresh "%5_0", .fresh "%6_0"] true)) = true := by
  decide +kernel

/-! ## C07-D6 (fixed f6e9b0d) — a pattern variable bound to the output of another matched node -/

def d6Host : Graph :=
  .mk ["x"] []
    [.mk 1 "Abs" "" "" [some "x"] ["a"] [] [] [] [], .mk 2 "Sub" "" "" [some "a", some "a"] ["z"] [] [] [] []] ["z"]
/-- `Sub(v0, Abs(v1))` → itself -/
def d6Rule : Rule :=
  { name := "r", removeNodes := true, asFunction := false, guardTag := true,
    pat := { nodes := [⟨"Abs", "", [.var 1], 1, []⟩, ⟨"Sub", "", [.var 0, .out 0 0], 1, []⟩], root := 1, outputs := [.out 1 0] },
    repl := { inits := [], uniqueInits := false,
              nodes := [⟨"Abs", "", none, [.var 1], 1, []⟩, ⟨"Sub", "", none, [.var 0, .out 0 0], 1, []⟩],
              outputs := [.out 1 0] } }

/-- The skip test of f6e9b0d covers everything `graph.remove(safe=True)` refuses: when it is false,
no replacement node reads an interior value of the match. -/
theorem readsRemoved_covers_unsafeRemove (matched : List Node) (outs : List Name) (new : List Node)
    (newOuts : List NewOut) (h : readsRemoved matched outs new newOuts = false) :
    unsafeRemove matched outs new = false := by
  unfold readsRemoved at h
  simp only [Bool.or_eq_false_iff] at h
  exact h.1

/-- The situation in which the code before f6e9b0d raised: on `a = Abs(x); z = Sub(a, a)` the match
succeeds with `v0 ↦ a` (an interior matched value), `_valid_to_replace` accepts, and the
replacement reads `a`, whose producer is to be removed (`graph.remove(safe=True)` raised
ValueError — PassError from `rewrite()` on a valid model). -/
theorem unsafeRemove_prefix_refuted :
    (matchAt d6Host d6Rule (d6Host.nodes.getD 1 default)).isSome = true ∧
    unsafeRemove [d6Host.nodes.getD 1 default, d6Host.nodes.getD 0 default] ["z"]
      [.mk 3 "Abs" "" "" [some "x"] ["%3_0"] [] [] [] [], .mk 4 "Sub" "" "" [some "a", some "%3_0"] ["%4_0"] [] [] [] []] = true := by
  decide

/-- regression: the pass skips the rule there — no error, no application, the graph as it was -/
theorem unsafeRemove_skipped :
    ((applyToModel [d6Rule] 100 { opsets := [("", 18)], graph := d6Host, funcs := [] }).toOption.map
      fun r => (r.1, r.2.graph.nodes.map (·.id), wfGraph [] r.2.graph)) = some (0, [1, 2], true) := by
  decide +kernel

/-! ## `as_function` -/

/-- What the extracted function is: its body is exactly the matched nodes in graph order, its
formal inputs are the call's actual inputs, its outputs the matched outputs; the call node keeps
its inputs/outputs and addresses the new function (domain, name, overload). -/
theorem asFunction_structure (g : Graph) (po : List (String × Nat)) (funcs : List Func) (m : Match)
    (call call' : Node) (fn : Func) (h : asFunction g po funcs m [call] = some (call', fn)) :
    fn.body.nodes = g.nodes.filter (fun n => m.nodes.contains n.id) ∧
    fn.body.outputs = m.outputs ∧ fn.body.inputs = call.inputs.map (·.getD "") ∧ fn.body.inits = [] ∧
    call'.inputs = call.inputs ∧ call'.outputs = call.outputs ∧
    (call'.domain, call'.op, call'.overload) = fn.ident := by
  obtain ⟨_, ov, rfl, rfl⟩ := asFunction_some h
  cases call
  exact ⟨rfl, rfl, rfl, rfl, rfl, rfl, rfl⟩

/-- Every value the function body reads is a formal parameter or computed inside (the condition
under which `_copy_for_function` does not raise), so the body is closed. -/
theorem asFunction_closed (g : Graph) (po : List (String × Nat)) (funcs : List Func) (m : Match)
    (call call' : Node) (fn : Func) (h : asFunction g po funcs m [call] = some (call', fn)) :
    ∀ n ∈ fn.body.nodes, ∀ x ∈ n.inputNames, x ∈ fn.body.inputs ++ fn.body.nodes.flatMap (·.outputs) := by
  obtain ⟨hk, ov, rfl, rfl⟩ := asFunction_some h
  exact hk

/-! ### opset imports of the extracted function (fixes 35ad500 and 04d2d07; C07-D5, C07-D9 before) -/

/-- Wherever the match sits, **every domain the function's nodes use and the model imports is
imported by the extracted function**: for a match in the main graph or in an `If`/`Loop` body at
the *model's* version (whatever the body's own dict holds); for a match inside a model-local
function at that function's version when it declares one, else at the model's. -/
theorem asFunction_imports_used (isFunc : Bool) (g : Graph) (main lo : List (String × Nat))
    (funcs : List Func) (m : Match) (call call' : Node) (fn : Func)
    (h : asFunction g (parentOpsets isFunc main lo) funcs m [call] = some (call', fn)) :
    ∀ n ∈ fn.body.nodes, ∀ v, main.lookup n.domain = some v →
      fn.opsets.lookup n.domain = some (if isFunc then (lo.lookup n.domain).getD v else v) := by
  intro n hn v hv
  rw [asFunction_opsets_lookup h n hn]
  cases isFunc with
  | true =>
    rw [parentOpsets, if_pos rfl, mergeOpsets_lookup, hv, if_pos rfl]
    cases lo.lookup n.domain <;> rfl
  | false => rw [parentOpsets, if_neg Bool.false_ne_true, mergeOpsets_lookup, hv]; rfl

/-- Inside a model-local function, a domain only the function imports (the main graph lacks it) is
imported by the extracted function too. -/
theorem asFunction_imports_function_only_domain (g : Graph) (main lo : List (String × Nat))
    (funcs : List Func) (m : Match) (call call' : Node) (fn : Func)
    (h : asFunction g (parentOpsets true main lo) funcs m [call] = some (call', fn)) :
    ∀ n ∈ fn.body.nodes, ∀ v, lo.lookup n.domain = some v → fn.opsets.lookup n.domain = some v := by
  intro n hn v hv
  rw [asFunction_opsets_lookup h n hn, parentOpsets, if_pos rfl, mergeOpsets_lookup, hv]
  rfl

def d5Body : Graph :=
  .mk [] [] [.mk 1 "Neg" "" "" [some "x"] ["n"] [] [] [] [], .mk 2 "Relu" "" "" [some "n"] ["t"] [] [] [] []] ["t"]
def d5Match : Match := { root := 2, nodes := [2, 1], bindings := [(0, some "x")], outputs := ["t"] }
def d5Call : Node := .mk 3 "NR" "local" "" [some "x"] ["%3_0"] [] [] [] []

/-- regression (C07-D5 and C07-D9 witnesses): a match inside an `If` body whose own dict holds what
`try_rewrite`/`_update_opset_imports` put there — `local`, and the default version 1 for the
default domain; the model imports the default domain at 18 — the function imports it at 18 -/
theorem asFunction_in_body_has_opset :
    updOpsets [] [("", none)] = some [("", 1)] ∧
    ∃ call fn, asFunction d5Body (parentOpsets false [("", 18)] [("", 1), ("local", 1)]) [] d5Match [d5Call] = some (call, fn) ∧
      fn.opsets.lookup "" = some 18 ∧ fn.body.nodes.any (·.domain == "") = true := by
  refine ⟨by decide, _, _, rfl, ?_, ?_⟩ <;> decide

/-- Before 35ad500 the imports were filtered from the container's own dict alone: in a body that
dict is empty after deserialisation, so the function holding `Neg`/`Relu` imported no opset for the
default domain (replayed then: onnx.checker "No Opset registered for domain"). -/
theorem asFunction_in_body_prefix_refuted :
    ∃ call fn, asFunction d5Body [("local", 1)] [] d5Match [d5Call] = some (call, fn) ∧
      fn.opsets.lookup "" = none ∧ fn.body.nodes.any (·.domain == "") = true := by
  refine ⟨_, _, rfl, ?_, ?_⟩ <;> decide

/-- Between 35ad500 and 04d2d07 the container's dict overrode the model's for every container: a
body's `"" ↦ 1` (the default `_update_opset_imports` records for an unversioned node) beat the
model's 18 (replayed then: onnx.checker "FunctionOp imports version 1 whereas model imports
version 18"). -/
theorem asFunction_in_body_stale_default_version_prefix_refuted :
    ∃ call fn, asFunction d5Body (mergeOpsets [("", 18)] [("", 1), ("local", 1)]) [] d5Match [d5Call] = some (call, fn) ∧
      fn.opsets.lookup "" = some 1 := by
  refine ⟨_, _, rfl, ?_⟩
  decide

/-! ## C07-D2 — one pass need not terminate: the replacement nodes are visited next -/

def d2Host : Graph := .mk ["x", "y"] [] [.mk 1 "Add" "" "" [some "x", some "y"] ["z"] [] [] [] []] ["z"]
/-- `Add(x, y) → Add(y, x)`, no condition function -/
def d2Rule : Rule :=
  { name := "", removeNodes := true, asFunction := false, guardTag := false,
    pat := { nodes := [⟨"Add", "", [.var 0, .var 1], 1, []⟩], root := 0, outputs := [.out 0 0] },
    repl := { inits := [], uniqueInits := false, nodes := [⟨"Add", "", none, [.var 1, .var 0], 1, []⟩], outputs := [.out 0 0] } }

/-- cursor steps a pass would need if every host node were visited once and every replacement
node once (the reading of "one pass" under which it terminates) -/
def stepBound (rules : List Rule) (g : Graph) : Nat :=
  g.nodes.length * (1 + (rules.map (·.repl.nodes.length)).foldl max 0) + 1

def isFuelErr {α} : Except Err α → Bool
  | .error .fuel => true
  | _ => false

/-- The operand swap of a commutative operator — a rule whose replacement equals its pattern by
construction — exhausts any such bound on a one-node graph: the iterator continues into the
nodes it has just inserted and the rule fires on its own output, for ever (replayed on the real
`rewrite`: it does not return). -/
theorem pass_terminates_full_refuted :
    ¬ (∀ (rules : List Rule) (m : Model),
        isFuelErr (applyToModel rules (10 * stepBound rules m.graph) m) = false) := by
  intro h
  exact absurd (h [d2Rule] { opsets := [("", 18)], graph := d2Host, funcs := [] }) (by decide +kernel)

/-- `Add(x, y)` has two variants (as given, operands swapped); a pattern without commutative binary
nodes has exactly one, the rule itself -/
example : (commuteRule d2Rule).map (·.pat.nodes.map (·.inputs)) = [[[.var 0, .var 1]], [[.var 1, .var 0]]] ∧
    (commuteRule d4Rule).map (·.pat.nodes.map (·.inputs)) = [d4Rule.pat.nodes.map (·.inputs)] := by decide

end OV.Props.C07
