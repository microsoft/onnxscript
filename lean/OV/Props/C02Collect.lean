import OV.Lemmas.C02Collect
/-!
# C02, second file — the import lists and the function list of the emitted protos

Property theorems only (model: `OV.Model.C02Collect`, the transcription of `IRFunction.append_node`,
`Converter._exit_scope`, `IRFunction.get_called_functions` and the import part of `OnnxFunction._to_model_proto`).
The clause of C02 they are about: *"every operator domain used is imported with a single version"*, and (for
`to_model_proto`) that the model carries every function it calls — without which the proto is not loadable.
-/
namespace OV.Props.C02
open OV.C02

/-- **FunctionProto imports.**  For every node list (any nesting of `If` / `Loop` bodies), the table built by
`append_node` on each graph and merged by `_exit_scope` has pairwise distinct domains and contains every operator
domain used at any depth (C01-D29 was the failure of the second clause: imports collected from top-level nodes only). -/
theorem function_imports_cover (nodes : List CNode) :
    (keys (graphImports [] nodes)).Nodup ∧ ∀ d, d ∈ domainsL nodes → d ∈ keys (graphImports [] nodes) := by
  have g := graphImports_good nodes []
  exact ⟨g.nodup (by simp [keys]), fun d hd => (hasKey_iff_mem _ _).mp (g.covers d hd)⟩

/-- **The first version seen for a domain is the one imported** (`append_node` only warns on a second version;
`setdefault` in `_exit_scope`): continuing the translation after `imp` never changes the version of a domain `imp` has. -/
theorem imports_first_version_kept (imp : Imports) (nodes : List CNode) (d : String) (h : hasKey imp d = true) :
    lookup (graphImports imp nodes) d = lookup imp d :=
  (graphImports_good nodes imp).ext.look h

example : graphImports [] [.op "c.dom" 1 none, .ifN 18 [.op "c.dom" 2 none, .op "d.dom" 3 none] [.op "" 17 none]]
    = [("c.dom", 1), ("d.dom", 3), ("", 17)] := by decide

/-- **`get_called_functions` terminates**: when no callee reference dangles (every `meta["callee"]` is an object), the
walk finishes within `|references of main| + Σ |references of each function|` steps — the budget of `collect`. -/
theorem collect_total (w : World) (main : List CNode) (h : RefsOK w (calleesL main)) :
    ∃ r, collect w main = some r :=
  visitBy_total ident w _ (calleesL main) [] h (Nat.le_refl _)

/-- **`collect_by_ident_closed`: every called function is in `ModelProto.functions`** (the code since d4270e9:
`called_functions` keyed by `(f.function_ir.domain, f.name)`).  Whatever the world: the identifiers in the dict are
pairwise distinct, every entry is `identifier of f ↦ f`, every function called from the main body at any depth is listed
under its identifier, and so is every function called from a listed function.  Hypothesis: the walk returned
(`collect w main = some r`, provided by `collect_total` when no reference dangles); nothing is assumed about names. -/
theorem collect_by_ident_closed (w : World) (main : List CNode) (r : Called) (h : collect w main = some r) :
    (r.map (·.1)).Nodup
      ∧ (∀ p, p ∈ r → ∃ f, w[p.2]? = some f ∧ ident f = p.1)
      ∧ (∀ c, c ∈ calleesL main → ∀ g, w[c]? = some g → ident g ∈ r.map (·.1))
      ∧ (∀ p, p ∈ r → ∀ f, w[p.2]? = some f → ∀ c, c ∈ calleesL f.nodes → ∀ g, w[c]? = some g →
            ident g ∈ r.map (·.1)) :=
  collectBy_closed ident w main r h

/-- **Nothing else is listed**: every function `get_called_functions` returns is called from the main body, directly
or through other functions (`Reach`: the least set containing main's callee references and closed under "callee of") —
`ModelProto.functions` holds no function the model does not use. -/
theorem collect_only_reachable (w : World) (main : List CNode) (r : Called) (h : collect w main = some r) :
    ∀ p, p ∈ r → Reach w (calleesL main) p.2 :=
  visitBy_reach ident w (calleesL main) _ _ _ _ h (fun p hp => by simp at hp) (fun c hc => Reach.root hc)

/-- Regression witness of C02-D1 (fixed by d4270e9): `foo` defined in `dom.a` and another `foo` in `dom.b`; `main`
calls both. -/
def dupWorld : World :=
  [{ name := "foo", domain := "dom.a", version := 1, nodes := [.op "" 18 none] },
   { name := "foo", domain := "dom.b", version := 1, nodes := [.op "" 18 none] }]
def dupMain : List CNode := [.op "dom.a" 1 (some 0), .op "dom.b" 1 (some 1), .op "" 18 none]

/-- … the code lists both `foo`; the name-keyed walk listed one. -/
example : collect dupWorld dupMain = some [(("dom.a", "foo"), 0), (("dom.b", "foo"), 1)]
    ∧ collectByName dupWorld dupMain = some [("foo", 0)] := by decide

/-- Non-vacuity of `collect_by_ident_closed` / `collect_total` / `collect_only_reachable`: `main` calls `h2` inside a
branch, `h2` calls `h0` inside a loop body and `h1` at top level, `h1` calls `h0`. -/
def nestWorld : World :=
  [{ name := "h0", domain := "dom.a", version := 1, nodes := [.op "" 18 none] },
   { name := "h1", domain := "dom.b", version := 2, nodes := [.op "dom.a" 1 (some 0), .op "cust" 3 none] },
   { name := "h2", domain := "dom.a", version := 1,
     nodes := [.loop 18 [.op "dom.a" 1 (some 0)], .op "dom.b" 2 (some 1)] }]
def nestMain : List CNode := [.op "" 18 none, .ifN 18 [.op "dom.a" 1 (some 2)] [.op "" 18 none]]

example : collect nestWorld nestMain = some [(("dom.a", "h2"), 2), (("dom.a", "h0"), 0), (("dom.b", "h1"), 1)] := by
  decide
example : RefsOK nestWorld (calleesL nestMain) := by
  refine ⟨by decide, ?_⟩
  intro f hf
  simp only [nestWorld, List.mem_cons, List.not_mem_nil, or_false] at hf
  rcases hf with rfl | rfl | rfl <;> decide
example : Reach nestWorld (calleesL nestMain) 1 :=
  Reach.step (p := 2) (f := nestWorld[2]) (Reach.root (by decide)) rfl (by decide)

/-! ### the walk before d4270e9 (dict keyed by `f.name`) — why the key had to change -/

/-- **The name-keyed walk is closed under "calls" by name only.**  Names (dict keys) pairwise distinct, every entry is
`name of f ↦ f`, every function called from the main body or from a listed function has its *name* among the keys.
(About `collectByName`, the pre-fix algorithm; the code is `collect`.) -/
theorem name_keyed_closed_by_name (w : World) (main : List CNode) (r : List (String × Nat))
    (h : collectByName w main = some r) :
    (r.map (·.1)).Nodup ∧ EntriesBy CFunc.name w r
      ∧ (∀ c, c ∈ calleesL main → ∀ g, w[c]? = some g → g.name ∈ r.map (·.1))
      ∧ (∀ p, p ∈ r → ∀ f, w[p.2]? = some f → ∀ c, c ∈ calleesL f.nodes → ∀ g, w[c]? = some g →
            g.name ∈ r.map (·.1)) :=
  collectBy_closed CFunc.name w main r h

/-- **`name_keyed_closed_partial`**: the name-keyed walk lists
every called function under its identifier `(domain, name)` *provided* no function name is used in two domains
(`NamesIdentify`).  The hypothesis is forced for that walk: `collect_closed_full_refuted`. -/
theorem name_keyed_closed_partial (w : World) (main : List CNode) (r : List (String × Nat))
    (h : collectByName w main = some r) (hid : NamesIdentify w) :
    (∀ c, c ∈ calleesL main → ∀ g, w[c]? = some g → ident g ∈ (funcsOf w (r.map (·.2))).map ident)
      ∧ (∀ f, f ∈ funcsOf w (r.map (·.2)) → ∀ c, c ∈ calleesL f.nodes → ∀ g, w[c]? = some g →
            ident g ∈ (funcsOf w (r.map (·.2))).map ident) := by
  obtain ⟨_, he, h1, h2⟩ := name_keyed_closed_by_name w main r h
  refine ⟨fun c hc g hg => mem_funcsOf_ident he hid hg (h1 c hc g hg), ?_⟩
  intro f hf c hc g hg
  obtain ⟨i, hi, hfi⟩ := List.mem_filterMap.mp hf
  obtain ⟨p, hp, rfl⟩ := List.mem_map.mp hi
  exact mem_funcsOf_ident he hid hg (h2 p hp f hfi c hc g hg)

example : NamesIdentify nestWorld := namesIdentify_of_check _ (by decide)
example : collectByName nestWorld nestMain = some [("h2", 2), ("h0", 0), ("h1", 1)] := by decide

/-- **The name-keyed walk does not list every called function** (finding C02-D1, fixed by d4270e9 — a statement about
`collectByName`, the pre-fix algorithm, NOT about the code's `collect`): of two called functions with one name in two
domains it lists only the first; the node calling `dom.b:foo` referred to a function the model did not contain
(onnxruntime: "dom.b:foo(-1) is not a registered function/op").  The real-code witness `w_c02d1` runs on every check and
must list both. -/
theorem collect_closed_full_refuted :
    ¬ (∀ (w : World) (main : List CNode) (r : List (String × Nat)), collectByName w main = some r →
        ∀ c, c ∈ calleesL main → ∀ g, w[c]? = some g → ident g ∈ (funcsOf w (r.map (·.2))).map ident) := by
  intro h
  have := h dupWorld dupMain [("foo", 0)] (by decide) 1 (by decide) _ rfl
  revert this
  decide

/-- **`to_model_env`: the import list and the function list of `to_model_proto()`.**  Whenever the model produces them:
1. imported domains are pairwise distinct (each imported exactly once);
2. every operator domain used in the main graph, at any depth, is imported;
3. … with the version the function body's own table had for it (the main graph is a clone of the body);
4. the default domain is imported;
5. the domain of every listed function is imported;
6. the listed functions have pairwise distinct identifiers;
7. every function called from the main body or from a listed function is listed (by identifier). -/
theorem to_model_env (w : World) (main : List CNode) (ov : Option Nat) (latest : Nat) (m : ModelEnv)
    (h : toModel w main ov latest = some m) :
    (keys m.imports).Nodup
      ∧ (∀ d, d ∈ domainsL main → d ∈ keys m.imports)
      ∧ (∀ d, d ∈ domainsL main → lookup m.imports d = lookup (graphImports [] main) d)
      ∧ "" ∈ keys m.imports
      ∧ (∀ f, f ∈ funcsOf w m.functions → f.domain ∈ keys m.imports)
      ∧ ((funcsOf w m.functions).map ident).Nodup
      ∧ (∀ c, c ∈ calleesL main → ∀ g, w[c]? = some g → ident g ∈ (funcsOf w m.functions).map ident)
      ∧ (∀ f, f ∈ funcsOf w m.functions → ∀ c, c ∈ calleesL f.nodes → ∀ g, w[c]? = some g →
            ident g ∈ (funcsOf w m.functions).map ident) := by
  unfold toModel at h
  cases hc : collect w main with
  | none => simp [hc] at h
  | some called =>
    simp only [hc, Option.some.injEq] at h
    subst h
    have gm := graphImports_good main []
    have mm := modelImports_good (graphImports [] main) (funcsOf w (called.map (·.2))) ov latest
    obtain ⟨hnd, he, h1, h2⟩ := collect_by_ident_closed w main called hc
    have hk : (funcsOf w (called.map (·.2))).map ident = called.map (·.1) := funcsOf_keys he
    refine ⟨mm.nodup (gm.nodup (by simp [keys])),
      fun d hd => (hasKey_iff_mem _ _).mp (mm.ext.key (gm.covers d hd)),
      fun d hd => mm.ext.look (gm.covers d hd),
      (hasKey_iff_mem _ _).mp (mm.covers "" (by simp)),
      fun f hf => (hasKey_iff_mem _ _).mp (mm.covers f.domain (by
        simp only [List.mem_append, List.mem_map]
        exact Or.inl ⟨f, hf, rfl⟩)), ?_, ?_, ?_⟩
    · show ((funcsOf w (called.map (·.2))).map ident).Nodup
      rw [hk]; exact hnd
    · intro c hc' g hg
      show ident g ∈ (funcsOf w (called.map (·.2))).map ident
      rw [hk]; exact h1 c hc' g hg
    · intro f hf c hc' g hg
      show ident g ∈ (funcsOf w (called.map (·.2))).map ident
      rw [hk]
      obtain ⟨i, hi, hfi⟩ := List.mem_filterMap.mp hf
      obtain ⟨p, hp, rfl⟩ := List.mem_map.mp hi
      exact h2 p hp f hfi c hc' g hg

/-- Non-vacuity of `to_model_env`: the nested world above; `main` itself uses only the default domain and `dom.a`, the
default domain is already in the body's table, `dom.b` comes in with `h1`'s opset version. -/
example : (toModel nestWorld nestMain none 21).map (fun m => (m.imports, m.functions))
    = some ([("", 18), ("dom.a", 1), ("dom.b", 2)], [2, 0, 1]) := by decide

/-- … a main body without any default-domain operator: the default domain is taken from the first listed function
that has it, else from `opset_version` / the installed onnx; and the C02-D1 witness: both `foo` are listed. -/
example : (toModel nestWorld [.op "dom.a" 1 (some 0)] none 21).map (·.imports) = some [("dom.a", 1), ("", 18)]
    ∧ (toModel [{ name := "g", domain := "dom.a", version := 1, nodes := [.op "cust" 3 none] }]
          [.op "dom.a" 1 (some 0)] (some 17) 21).map (·.imports) = some [("dom.a", 1), ("", 17)]
    ∧ (toModel dupWorld dupMain none 21).map (·.functions) = some [0, 1] := by decide

end OV.Props.C02
