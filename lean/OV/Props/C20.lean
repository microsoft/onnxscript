import OV.Model.C20Save
import OV.Lemmas.C20Save
import OV.Lemmas.C20Round
import OV.Lemmas.C20Fault
import OV.Lemmas.C20Sim
import OV.Lemmas.C20Hist
/-!
# C20 — saving with external data round-trips and never disturbs the in-memory model

Property theorems only.  Model: `OV.Model.C20Save` (`runSave cfg m dir name verbose fs k`: the real
`save_model_with_external_data(model, dir/name, verbose)` on file system `fs`, the `k`-th file-system call failing
with `OSError`; `k = none`: no fault).  Unless it says "fault-free", a theorem about a run quantifies over the fault plan
`k`, so "for success and for every fault point" is the `∀ k`.  Helper lemmas: `OV.Lemmas.C20Save` (invariants over every exit),
`C20Round` (layout arithmetic, the fault-free run), `C20Fault`, `C20Sim`, `C20Hist`.
-/
namespace OV.Props.C20
open OV.C20

/-- **Guard first.**  If an initializer the guard looks at (`deep = true`, the code as it is since 1c518f5: every graph of
`model.graphs()`; `deep = false`: the old scope, main graph only — function bodies are outside the model) has no `const_value`, the call raises `ValueError` and the *whole state* is what it was:
no file-system call was made (`calls = 0`, empty trace), no file changed, no tensor object or `const_value` touched —
for every fault plan, path, verbosity and file system. -/
theorem guard_first (cfg : Cfg) (m : Model) (dir name : String) (verbose : Bool) (fs : FS) (k : Option Nat)
    (i : Nat) (n : String) (sub : Bool)
    (hsig : m.sig[i]? = some (n, sub)) (hcv : m.cv[i]? = some none) (hscope : cfg.deep = true ∨ sub = false) :
    (runSave cfg m dir name verbose fs k).res = .error .valueError ∧
    (runSave cfg m dir name verbose fs k).st = init m fs k :=
  runSave_refused cfg m dir name verbose fs k
    (refuses_of_guard (guardHits_hit cfg.deep m.sig m.cv i n sub hsig hcv hscope))

example : ∃ (m : Model) (i : Nat) (n : String), m.sig[i]? = some (n, false) ∧ m.cv[i]? = some none :=
  ⟨{ sig := [("w", false), ("u", false)], cv := [some 0, none], heap := [.mem [1, 2, 3] true] }, 1, "u", rfl, rfl⟩

/-- The property's wording ("refuses a model with uninitialized initializers") for the guard as it was before 1c518f5
(`deep = false`; regression statement, not the current code) is false: an uninitialized initializer of a *sub-graph* is not refused — both files are written and
the initializer is missing from the saved proto.  Witness replayed on the real code (finding C20-D2). -/
theorem guard_first_all_graphs_refuted :
    ¬ (∀ (m : Model) (dir name : String) (verbose : Bool) (fs : FS) (k : Option Nat) (i : Nat) (n : String) (sub : Bool),
        m.sig[i]? = some (n, sub) → m.cv[i]? = some none →
        (runSave { deep := false } m dir name verbose fs k).res = .error .valueError) := by
  intro h
  have := h { sig := [("u", true)], cv := [none], heap := [] } "" "m" false [] none 0 "u" true rfl rfl
  revert this
  decide +kernel

/-- What the witness does instead: success, a data file and a model file without the initializer. -/
theorem guard_first_all_graphs_witness :
    let r := runSave { deep := false } { sig := [("u", true)], cv := [none], heap := [] } "" "m" false [] none
    r.res = .ok () ∧ r.st.fs = [("m.data", .data []), ("m", .proto [])] := by
  decide +kernel

/-- **The refusal does not depend on the size threshold** (`cfg.thr` = `size_threshold_bytes`, any value): whenever some
initializer's tensor is an `ExternalTensor` stored in `dir/name.data` — however small, i.e. also when `ir.save` would only
"load it to memory" — the call raises `ValueError`, for every fault plan, and the whole state (0 file-system calls, files,
tensor objects, pointers, names) is the initial one.  `model_unchanged`, `roundtrip` and `roundtrip_on_success` are likewise
stated for every `cfg`, hence for every threshold.  (Exempting tensors up to the threshold, seeded change C20-7, is unsound:
`backing_dest_refuted`.) -/
theorem refusal_ignores_threshold (cfg : Cfg) (hr : cfg.refuse = true) (m : Model) (dir name : String) (verbose : Bool)
    (fs : FS) (k : Option Nat) (h : destHits (joinPath dir (name ++ ".data")) m.heap m.cv ≠ []) :
    (runSave cfg m dir name verbose fs k).res = .error .valueError ∧
    (runSave cfg m dir name verbose fs k).st = init m fs k :=
  runSave_refused cfg m dir name verbose fs k (refuses_of_destHits hr h)

/-- A 2-byte external tensor in the destination file, threshold 1000 (it would merely be "loaded to memory"): refused. -/
example :
    let m : Model := { sig := [("e", false)], cv := [some 0], heap := [.ext "m.data" 0 2 true] }
    destHits (joinPath "" ("m" ++ ".data")) m.heap m.cv ≠ [] ∧
    (runSave { thr := 1000 } m "" "m" false [("m.data", .data [5, 6])] none).res = .error .valueError := by
  decide +kernel

/-- With the second guard the C20-D1 witness is refused and nothing is touched. -/
example :
    let m : Model := { sig := [("d", false)], cv := [some 0], heap := [.ext "m.data" 0 300 true] }
    let fs : FS := [("m.data", .data (List.replicate 300 7))]
    let r := runSave { refuse := true } m "" "m" false fs none
    r.res = .error .valueError ∧ r.st.calls = 0 ∧ r.st.fs = fs ∧ r.model m = m := by
  decide +kernel

/-- **A tensor stored in the model file itself is refused** (3d20cf2, finding C20-D5; `cfg.refuseModel = true` is the code as
it is): whenever some initializer's tensor is an `ExternalTensor` stored in the file at `dir/name` — the file `onnx.save` is
about to overwrite — the call raises `ValueError`, for every fault plan, threshold and verbosity, and the whole state (0
file-system calls, files, tensor objects, pointers, names) is the initial one. -/
theorem model_file_tensor_refused (cfg : Cfg) (hrm : cfg.refuseModel = true) (m : Model) (dir name : String) (verbose : Bool)
    (fs : FS) (k : Option Nat) (h : destHits (joinPath dir name) m.heap m.cv ≠ []) :
    (runSave cfg m dir name verbose fs k).res = .error .valueError ∧
    (runSave cfg m dir name verbose fs k).st = init m fs k :=
  runSave_refused cfg m dir name verbose fs k (refuses_of_modelHits hrm h)

/-- The C20-D5 witness on the code as it is: refused, nothing touched, the tensor still reads its bytes. -/
example :
    let m : Model := { sig := [("e", false)], cv := [some 0], heap := [.ext "w.bin" 0 300 true] }
    let fs : FS := [("w.bin", .data (List.replicate 300 7))]
    let r := runSave {} m "" "w.bin" false fs none
    destHits (joinPath "" "w.bin") m.heap m.cv ≠ [] ∧ r.res = .error .valueError ∧ r.st.calls = 0 ∧ r.st.fs = fs ∧
    bytesOf r.st.fs (.ext "w.bin" 0 300 true) = some (List.replicate 300 7) := by
  decide +kernel

/-- A normal return shows that the model-file half of the guard had nothing to refuse. -/
theorem model_file_free_of_ok (cfg : Cfg) (m : Model) (dir name : String) (verbose : Bool) (fs : FS) (k : Option Nat)
    (hok : (runSave cfg m dir name verbose fs k).res = .ok ()) :
    cfg.refuseModel = false ∨ destHits (joinPath dir name) m.heap m.cv = [] := by
  cases hrm : cfg.refuseModel with
  | false => exact Or.inl rfl
  | true => exact Or.inr ((refuses_eq_false_iff.1 (not_refused_of_ok hok)).2.2 hrm)

/-- With the second guard, a normal return shows that no initializer was stored in the destination data file. -/
theorem usable_of_ok (cfg : Cfg) (hr : cfg.refuse = true) (m : Model) (dir name : String) (verbose : Bool) (fs : FS)
    (bs : List Bytes) (k : Option Nat) (hinit : All2 (InitR fs m.heap) m.cv bs)
    (hok : (runSave cfg m dir name verbose fs k).res = .ok ()) :
    All2 (InitOK (joinPath dir (name ++ ".data")) fs m.heap) m.cv bs :=
  initOK_of_readable _ _ _ hinit ((refuses_eq_false_iff.1 (not_refused_of_ok hok)).2.1 hr)

/-- **Model unchanged, every fault point** (`_partial`: a configuration-independent lemma — it holds for every `cfg`, also
without the second guard, at the price of the hypothesis below, which is forced there: `model_unchanged_full_refuted`; for the
code as it is `model_unchanged` replaces the hypothesis by the guard's refusal).  If no tensor object of the model is an `ExternalTensor` living in the destination
data file `dir/name.data`, then after the call — successful or failed at *any* file-system call `k` — every
initializer's `const_value` is the same object as before and every original tensor object is unchanged. -/
theorem model_unchanged_partial (cfg : Cfg) (m : Model) (dir name : String) (verbose : Bool) (fs : FS) (k : Option Nat)
    (hdest : ∀ (id : Nat) (f : String) (o l : Nat) (v : Bool),
      m.heap[id]? = some (.ext f o l v) → f ≠ joinPath dir (name ++ ".data")) :
    (runSave cfg m dir name verbose fs k).model m = m := by
  have hheap := inv_save cfg m.sig m.tnames dir name (verbose && cfg.tqdm)
    (stable_orig m.heap (joinPath dir (name ++ ".data")) (joinPath dir name) hdest) (init m fs k) (List.prefix_refl _)
  rw [List.prefix_iff_eq_take] at hheap
  have hcv := save_cv cfg m.sig m.tnames dir name (verbose && cfg.tqdm) (init m fs k)
  unfold Result.model
  rw [runSave_st, hcv, ← hheap]
  rfl

example : ∃ (m : Model), m.heap ≠ [] ∧ ∀ (id : Nat) (f : String) (o l : Nat) (v : Bool),
    m.heap[id]? = some (.ext f o l v) → f ≠ joinPath "" ("m.onnx" ++ ".data") :=
  ⟨{ sig := [("a", false), ("e", false)], cv := [some 0, some 1],
     heap := [.mem [1, 2, 3] true, .ext "w.bin" 0 300 true] }, by decide, by
    intro id f o l v h
    match id, h with
    | 0, h => simp at h
    | 1, h => simp at h; obtain ⟨rfl, _⟩ := h; decide
    | n + 2, h => simp at h⟩

/-- **Model unchanged, every fault point, no hypothesis on where tensors live** — for the function *with the second
guard* (`cfg.refuse = true`, the code as it is since 56a0c3c: a model one of whose initializers is an `ExternalTensor` stored in
`dir/name.data` is refused before anything is written).  **Remaining hypothesis `howned`**: every tensor object of the model's
heap belongs to some initializer (`∀ id < heap.length, some id ∈ m.cv`) — a well-formedness condition of the *model state*, not of
the code: an unowned object stored in the destination file is never touched by the save, but the invariant framework cannot
tell which ids the save was given, so the theorem is stated for heaps without garbage.  For every such model, every file system, path, verbosity and every fault plan `k` (and the fault-free run): after
the call every `const_value` is the same object as before and every tensor object is unchanged.  Without the second
guard the statement is false (`model_unchanged_full_refuted`). -/
theorem model_unchanged (cfg : Cfg) (hr : cfg.refuse = true) (m : Model) (dir name : String) (verbose : Bool) (fs : FS)
    (k : Option Nat) (howned : ∀ id, id < m.heap.length → some id ∈ m.cv) :
    (runSave cfg m dir name verbose fs k).model m = m := by
  by_cases hrf : refuses cfg m.sig dir name (init m fs k) = true
  · simp only [Result.model, (runSave_refused cfg m dir name verbose fs k hrf).2, init, List.take_length]
  · -- not refused: no initializer, hence (`howned`) no object at all, is stored in the destination data file
    apply model_unchanged_partial
    rintro id f o l v hobj rfl
    exact List.ne_nil_of_mem (mem_destHits (howned id (List.getElem?_eq_some_iff.1 hobj).1) hobj)
      ((refuses_eq_false_iff.1 (eq_false_of_ne_true hrf)).2.1 hr)

/-- The full statement (no hypothesis on where external tensors live) is false: a 300-byte initializer that is
external in the destination data file is *invalidated* by a successful save of the function without the second guard (finding C20-D1, replayed on the real
code: `ExternalTensor.valid()` is `False` afterwards). -/
theorem model_unchanged_full_refuted :
    ¬ (∀ (m : Model) (dir name : String) (verbose : Bool) (fs : FS) (k : Option Nat),
        (runSave { refuse := false } m dir name verbose fs k).model m = m) := by
  intro h
  have := h { sig := [("d", false)], cv := [some 0], heap := [.ext "m.data" 0 300 true] }
    "" "m" false [("m.data", .data (List.replicate 300 7))] none
  revert this
  decide +kernel

/-- The `const_value` pointers alone are restored unconditionally (the `finally` of `ir.save`), for every model,
file system and fault plan. -/
theorem const_values_restored (cfg : Cfg) (m : Model) (dir name : String) (verbose : Bool) (fs : FS) (k : Option Nat) :
    ((runSave cfg m dir name verbose fs k).model m).cv = m.cv :=
  save_cv cfg m.sig m.tnames dir name (verbose && cfg.tqdm) (init m fs k)

/-- **Tensor names** — with the name-restoring `finally` (`cfg.keepNames = true`, the code as it is since 657db39) the `name` of every tensor object after the call is what it was, for every model, file
system and fault plan (onnx_ir's serializer renames each visited tensor after its initializer: `renameAll`). -/
theorem tensor_names_restored (cfg : Cfg) (hkn : cfg.keepNames = true) (m : Model) (dir name : String) (verbose : Bool)
    (fs : FS) (k : Option Nat) :
    (runSave cfg m dir name verbose fs k).st.tn = m.tnames :=
  save_tn cfg hkn m.sig m.tnames dir name (verbose && cfg.tqdm) (init m fs k)

/-- Without it the statement is false: a 1-byte in-memory tensor named `other` held by initializer `s` is called `s`
after a successful save (finding C20-D4, replayed on the real code). -/
theorem tensor_names_full_refuted :
    ¬ (∀ (m : Model) (dir name : String) (verbose : Bool) (fs : FS) (k : Option Nat),
        (runSave { keepNames := false } m dir name verbose fs k).st.tn = m.tnames) := by
  intro h
  have := h { sig := [("s", false)], cv := [some 0], heap := [.mem [1] true], tnames := ["other"] } "" "m" false [] none
  revert this
  decide +kernel

/-- **Files the save does not own are never touched**, success or any fault: every path other than `dir/name.data` and
`dir/name` holds what it held. -/
theorem fs_frame (cfg : Cfg) (m : Model) (dir name : String) (verbose : Bool) (fs : FS) (k : Option Nat)
    (p : String) (h1 : p ≠ joinPath dir (name ++ ".data")) (h2 : p ≠ joinPath dir name) :
    FS.get? (runSave cfg m dir name verbose fs k).st.fs p = FS.get? fs p :=
  runSave_frame cfg m dir name verbose fs k p h1 h2

/-- **Tensors stay backed by their original data**: an external tensor whose file is neither of the two destination
files denotes, on the file system left by the call (successful or failed at any `k`), exactly the bytes it denoted
before. (In-memory tensors carry their bytes; `model_unchanged_partial` says the objects are unchanged.) -/
theorem backing_preserved (cfg : Cfg) (m : Model) (dir name : String) (verbose : Bool) (fs : FS) (k : Option Nat)
    (f : String) (off len : Nat) (valid : Bool)
    (h1 : f ≠ joinPath dir (name ++ ".data")) (h2 : f ≠ joinPath dir name) :
    bytesOf (runSave cfg m dir name verbose fs k).st.fs (.ext f off len valid) = bytesOf fs (.ext f off len valid) := by
  have := fs_frame cfg m dir name verbose fs k f h1 h2
  simp only [bytesOf, FS.read, this]

/-- …whereas, *before the second guard* (`refuse := false`, the function up to 56a0c3c), a small (≤ 256 bytes, so never
invalidated) external tensor living in the destination data file silently
denotes other bytes after a successful save: here 100 bytes of `7` become the first 100 bytes of the 400-byte tensor
`b` (finding C20-D1, second face; replayed on the real code). -/
theorem backing_dest_refuted :
    let m : Model := { sig := [("s", false), ("b", false)], cv := [some 0, some 1],
                       heap := [.ext "m.data" 0 100 true, .mem (List.replicate 400 9) false] }
    let fs : FS := [("m.data", .data (List.replicate 100 7))]
    let r := runSave { refuse := false } m "" "m" false fs none
    r.res = .ok () ∧ r.model m = m ∧
    bytesOf fs (.ext "m.data" 0 100 true) = some (List.replicate 100 7) ∧
    bytesOf r.st.fs (.ext "m.data" 0 100 true) = some (List.replicate 100 9) := by
  decide +kernel

/-- **What a fault leaves on disk — the statement that can honestly be made.**  For every fault plan `k`: either the
file system after the call *is* the file system before it, or the trace contains an open-for-write call `openW f` at an
index `i` that is not the faulted call (`k ≠ some i`) — i.e. some `open(…, "wb")` really succeeded.  The first
open-for-write of the sequence is the data file's (trace validated by the tie), so **a fault at or before the
`open(<name>.data, "wb")` call leaves every file untouched**.  This is a deliberately weak disjunction: once some
open-for-write has succeeded, the theorem says NOTHING about the content of `dir/name.data` and `dir/name` (truncated, half
written, old model file beside a new data file — all possible; nothing is atomic in the real code); what is still claimed then
is only `fs_frame` (every other file untouched) and the in-memory theorems.  After a *normal return* the content is fixed by
`roundtrip_on_success`. -/
theorem fs_unchanged_unless_opened (cfg : Cfg) (m : Model) (dir name : String) (verbose : Bool) (fs : FS) (k : Option Nat) :
    (runSave cfg m dir name verbose fs k).st.fs = fs ∨
    ∃ i f, (runSave cfg m dir name verbose fs k).st.trace[i]? = some (Op.openW f) ∧ k ≠ some i := by
  obtain ⟨_, _, h⟩ := inv_save cfg m.sig m.tnames dir name (verbose && cfg.tqdm)
    (stable_untouched fs k (joinPath dir (name ++ ".data")) (joinPath dir name)) (init m fs k)
    ⟨rfl, rfl, Or.inl ⟨rfl, rfl⟩⟩
  exact h.imp And.left id

/-- Corollary in the "fault before the first write" form: if every open-for-write call in the trace is the faulted
call itself (in particular if there is none), nothing on the file system changed. -/
theorem fault_before_first_write_leaves_fs (cfg : Cfg) (m : Model) (dir name : String) (verbose : Bool) (fs : FS)
    (k : Option Nat)
    (h : ∀ i f, (runSave cfg m dir name verbose fs k).st.trace[i]? = some (Op.openW f) → k = some i) :
    (runSave cfg m dir name verbose fs k).st.fs = fs := by
  rcases fs_unchanged_unless_opened cfg m dir name verbose fs k with h1 | ⟨i, f, h2, h3⟩
  · exact h1
  · exact absurd (h i f h2) h3

/-- Non-vacuity of both sides on the same model: a fault at call 0 (the data file's open) leaves the pre-existing files
alone; a fault at call 1 does not. -/
example :
    let m : Model := { sig := [("b", false)], cv := [some 0], heap := [.mem (List.replicate 300 9) false] }
    let fs : FS := [("m.data", .data [1, 2, 3]), ("m", .data [4])]
    (runSave { deep := false } m "" "m" false fs (some 0)).st.fs = fs ∧ (runSave { deep := false } m "" "m" false fs (some 1)).st.fs ≠ fs := by
  decide +kernel

/-- **A fault is never swallowed** (both branches — with and without the progress bar — and every guard configuration):
if the call planned to fail (`k = some n`) was reached, i.e. at least `n + 1` file-system calls were made, the function does
not return normally.  Contrapositive form: a normal return means the planned fault was never reached, so the run *is* a
fault-free run.  (The seeded `contextlib.suppress(OSError)` around `ir.save`, C20-6, breaks exactly this.) -/
theorem fault_never_swallowed (cfg : Cfg) (m : Model) (dir name : String) (verbose : Bool) (fs : FS) (n : Nat)
    (hok : (runSave cfg m dir name verbose fs (some n)).res = .ok ()) :
    (runSave cfg m dir name verbose fs (some n)).st.calls ≤ n := by
  have h := tri_save cfg m.sig m.tnames dir name (verbose && cfg.tqdm)
    (stable_unfired (some n) (joinPath dir (name ++ ".data")) (joinPath dir name)) (init m fs (some n))
    ⟨rfl, fun _ _ => Nat.zero_le _⟩
  rw [runSave_res] at hok
  rw [hok] at h
  exact h.2 n rfl

/-- Both sides occur: on this model call 3 exists, so planning a fault there makes the save fail; a fault planned at call
100 is never reached and the save succeeds. -/
example :
    let m : Model := { sig := [("b", false)], cv := [some 0], heap := [.mem (List.replicate 300 9) true] }
    (runSave {} m "" "m" true [] (some 3)).res = .error .osError ∧ (runSave {} m "" "m" true [] (some 3)).st.calls > 3 ∧
    (runSave {} m "" "m" true [] (some 100)).res = .ok () ∧ (runSave {} m "" "m" true [] (some 100)).st.calls ≤ 100 := by
  decide +kernel

/-- **A run that returns normally is the fault-free run**: for every fault plan `k`, if the save returns normally then the
run without any fault plan returns normally too and ends in the same state (files, tensor objects, `const_value`s, trace,
call count, callback log, names) — only the plan itself differs. -/
theorem ok_run_is_fault_free (cfg : Cfg) (m : Model) (dir name : String) (verbose : Bool) (fs : FS) (k : Option Nat)
    (hok : (runSave cfg m dir name verbose fs k).res = .ok ()) :
    (runSave cfg m dir name verbose fs none).res = .ok () ∧
    (runSave cfg m dir name verbose fs none).st = { (runSave cfg m dir name verbose fs k).st with k := none } := by
  rw [runSave_res] at hok
  have h := sim_save (ek := true) (ecb := false) cfg m.sig m.tnames dir name (verbose && cfg.tqdm) (init m fs k)
    (fun _ => ⟨(), hok⟩)
  rw [Bool.not_false, Bool.and_true] at h
  -- erasing the plan of `init m fs k` gives `init m fs none`, by computation
  have h' : save cfg m.sig m.tnames dir name (verbose && cfg.tqdm) (init m fs none) = _ := h
  simp only [runSave_res, runSave_st]
  rw [h']
  exact ⟨hok, rfl⟩

/-- **The verbose/tqdm branch and the plain branch differ only in the progress callback — two-sided.**  For every model,
file system, path, guard configuration and **every fault plan `k`**, whether the calls succeed or fail: the plain call
ends with the *same outcome* as the verbose one (normal return, or the same exception) and in the same state — files,
tensor objects, `const_value`s, names, trace, call count — once the callback log of the verbose run is erased.  (The
callback makes no file-system call and cannot change what the save does or reports.) -/
theorem verbose_only_feeds_callback (cfg : Cfg) (m : Model) (dir name : String) (fs : FS) (k : Option Nat) :
    (runSave cfg m dir name false fs k).res = (runSave cfg m dir name true fs k).res ∧
    (runSave cfg m dir name false fs k).st = { (runSave cfg m dir name true fs k).st with cb := [], cbTotal := none } := by
  have h := sim_save (ek := false) (ecb := true) cfg m.sig m.tnames dir name (true && cfg.tqdm) (init m fs k)
    (fun h => by cases h)
  rw [Bool.not_true, Bool.and_false] at h
  -- the initial state has an empty callback log: erasing it changes nothing
  have h' : save cfg m.sig m.tnames dir name (false && cfg.tqdm) (init m fs k) = _ := h
  simp only [runSave_res, runSave_st]
  rw [h']
  exact ⟨rfl, rfl⟩

/-- A failing pair: with a fault planned at call 2 both calls raise `OSError` after the same number of calls. -/
example :
    let m : Model := { sig := [("b", false)], cv := [some 0], heap := [.mem (List.replicate 300 9) true], tnames := ["b"] }
    (runSave {} m "" "m" true [] (some 2)).res = .error .osError ∧ (runSave {} m "" "m" false [] (some 2)).res = .error .osError ∧
    (runSave {} m "" "m" true [] (some 2)).st.calls = (runSave {} m "" "m" false [] (some 2)).st.calls ∧
    (runSave {} m "" "m" true [] (some 2)).st.cb ≠ [] ∧ (runSave {} m "" "m" false [] (some 2)).st.cb = [] := by
  decide +kernel

/-- Without `tqdm` installed the verbose call *is* the plain call (`use_tqdm = verbose and find_spec("tqdm") is not None`). -/
theorem tqdm_absent_is_plain (cfg : Cfg) (h : cfg.tqdm = false) (m : Model) (dir name : String) (fs : FS) (k : Option Nat) :
    runSave cfg m dir name true fs k = runSave cfg m dir name false fs k := by
  unfold runSave
  simp only [h, Bool.and_false]

/-- The callback log is what distinguishes them. -/
example :
    let m : Model := { sig := [("b", false)], cv := [some 0], heap := [.mem (List.replicate 300 9) true], tnames := ["b"] }
    (runSave {} m "" "m" true [] none).st.cb = [("b", 0)] ∧ (runSave {} m "" "m" false [] none).st.cb = [] := by
  decide +kernel

/-! ## Layout (`_compute_new_offset` and the offset loop of `convert_tensors_to_external`) -/

/-- Every recorded length is the tensor's size, in order — for every list of sizes, zero included. -/
theorem layout_lengths (cur : Nat) (sizes : List Nat) : (layout cur sizes).map (·.2) = sizes := by
  induction sizes generalizing cur with
  | nil => rfl
  | cons n ns ih => simp only [layout, List.map_cons, ih]

/-- Alignment as promised: a tensor larger than 1 MiB starts on a 64 KiB boundary; every tensor starts at or after
the running end of file. -/
theorem layout_aligned (cur : Nat) (sizes : List Nat) :
    ∀ e ∈ layout cur sizes, cur ≤ e.1 ∧ (e.2 > alignThreshold → e.1 % alignFactor = 0) := by
  induction sizes generalizing cur with
  | nil => intro e h; cases h
  | cons n ns ih =>
    intro e h
    refine ⟨layout_ge cur _ e h, ?_⟩
    rcases List.mem_cons.1 h with rfl | h
    · exact newOffset_aligned cur n
    · exact (ih _ e h).2

/-- Non-overlap and order: any earlier tensor ends at or before any later tensor starts (so offsets are non-decreasing,
and strictly increasing past every non-empty tensor). -/
theorem layout_disjoint (cur : Nat) (sizes : List Nat) :
    List.Pairwise (fun a b => a.1 + a.2 ≤ b.1) (layout cur sizes) := by
  induction sizes generalizing cur with
  | nil => exact List.Pairwise.nil
  | cons n ns ih =>
    simp only [layout]
    refine List.Pairwise.cons ?_ (ih _)
    intro b hb
    exact layout_ge _ _ b hb

/-- Every tensor lies within the final file length. -/
theorem layout_within (cur : Nat) (sizes : List Nat) :
    ∀ e ∈ layout cur sizes, e.1 + e.2 ≤ layoutEnd cur sizes :=
  layout_within_aux cur sizes

/-- No waste beyond the promise: padding before a tensor is less than 64 KiB, and there is none at all before a tensor of
at most 1 MiB. -/
theorem layout_padding (cur size : Nat) :
    cur ≤ newOffset cur size ∧ newOffset cur size < cur + alignFactor ∧
    (size ≤ alignThreshold → newOffset cur size = cur) :=
  ⟨newOffset_ge cur size, newOffset_lt cur size, newOffset_small cur size⟩

example : layout 0 [400, 560, 1200000] = [(0, 400), (400, 560), (65536, 1200000)] := by decide

/-! ## Round trip -/

/-- **Layout read-back** (pure heart of the round trip).  Whatever is already in the file (`pre`), for every list of
tensors (every size, zero included, alignment padding or not) and every index `i`: the `(offset, length)` recorded for
tensor `i` selects, in the file image the write loop produces, exactly that tensor's bytes. -/
theorem layout_readback (pre : Bytes) (bs : List Bytes) (i : Nat) (h : i < bs.length) :
    ∃ e, (layout pre.length (bs.map List.length))[i]? = some e ∧ e.2 = bs[i].length ∧
      slice (pre ++ image pre.length bs) e.1 e.2 = bs[i] := by
  obtain ⟨e, h1, h2, h3⟩ := image_readback_aux bs pre i h
  rw [List.getElem?_eq_getElem h, Option.getD_some] at h2 h3
  exact ⟨e, h1, h2, h3⟩

/-- **Round trip, end to end, for any guard configuration** (fault-free run; the form the other theorems build on).  Hypotheses: the model has as many
`const_value` slots as initializers, and `bs` lists, initializer by initializer, the bytes its tensor denotes —
`All2 (InitOK dest fs heap) cv bs` (`OV.Lemmas.C20Round`): every initializer is initialized with a tensor object that is
either in memory or a *valid* external tensor that does **not live in the destination data file** and is readable on `fs`
(its bytes are `FS.read fs file off len`); and, where the guard of 3d20cf2 is present, none lives in the model file `dir/name`
either (`hmpf`).  Conclusion: `save_model_with_external_data` succeeds, and `load` of what it
left on the file system — read the written proto; for each entry take the inline bytes or read `(location, offset, length)`
back from the file system — returns **for every initializer exactly its name, graph level and bytes, in the original
initializer order** (`zip3 sig bs`).  Covered by the proof: the guard, classification by the 256-byte threshold (small
in-memory kept inline, small external loaded to memory, everything larger written out), the stable sort (as a membership-
preserving rearrangement), offsets/alignment/padding, all three `tofile` paths incl. the chunked copy of external tensors,
the new `ExternalTensor`s restored to input order, the pointer swap, `serialize`, the model-file write, and the `finally`. -/
theorem roundtrip_outside_destination (cfg : Cfg) (m : Model) (dir name : String) (verbose : Bool) (fs : FS) (bs : List Bytes)
    (hsig : m.sig.length = m.cv.length)
    (hinit : All2 (InitOK (joinPath dir (name ++ ".data")) fs m.heap) m.cv bs)
    (hmpf : cfg.refuseModel = false ∨ destHits (joinPath dir name) m.heap m.cv = []) :
    (runSave cfg m dir name verbose fs none).res = .ok () ∧
    load (runSave cfg m dir name verbose fs none).st.fs dir name = some (zip3 m.sig bs) := by
  obtain ⟨s', h1, h2⟩ := save_load_ok cfg m.sig m.tnames dir name (verbose && cfg.tqdm) (init m fs none) bs rfl hsig hinit hmpf
  rw [runSave_res, runSave_st, h1]
  exact ⟨rfl, h2 _ rfl rfl⟩

example : ∃ (m : Model) (fs : FS) (bs : List Bytes), m.sig.length = m.cv.length ∧ bs.length = 3 ∧
    All2 (InitOK (joinPath "" ("m" ++ ".data")) fs m.heap) m.cv bs ∧ destHits (joinPath "" "m") m.heap m.cv = [] :=
  ⟨{ sig := [("a", false), ("e", true), ("a2", false)], cv := [some 0, some 1, some 0],
     heap := [.mem [1, 2, 3] true, .ext "w.bin" 1 2 true] },
   [("w.bin", .data [9, 8, 7])], [[1, 2, 3], [8, 7], [1, 2, 3]], rfl, rfl,
   .cons ⟨0, _, rfl, rfl, rfl⟩ (.cons ⟨1, _, rfl, rfl, ⟨rfl, by decide, by decide⟩⟩ (.cons ⟨0, _, rfl, rfl, rfl⟩ .nil)),
   by decide⟩

/-- On success `load(path) = model`, for every fault plan and any guard configuration — the round trip of
`roundtrip_outside_destination` holds whenever the call
returns normally, whatever fault had been planned (it was then never reached, `fault_never_swallowed`). -/
theorem roundtrip_on_success_outside_destination (cfg : Cfg) (m : Model) (dir name : String) (verbose : Bool) (fs : FS) (bs : List Bytes)
    (k : Option Nat) (hsig : m.sig.length = m.cv.length)
    (hinit : All2 (InitOK (joinPath dir (name ++ ".data")) fs m.heap) m.cv bs)
    (hmpf : cfg.refuseModel = false ∨ destHits (joinPath dir name) m.heap m.cv = [])
    (hok : (runSave cfg m dir name verbose fs k).res = .ok ()) :
    load (runSave cfg m dir name verbose fs k).st.fs dir name = some (zip3 m.sig bs) := by
  obtain ⟨_, h2⟩ := ok_run_is_fault_free cfg m dir name verbose fs k hok
  have hr := (roundtrip_outside_destination cfg m dir name verbose fs bs hsig hinit hmpf).2
  rw [h2] at hr
  exact hr

/-- **Round trip — the code as it is** (second guard present), fault-free run, *no condition on where external tensors
live*.  Hypotheses: as many `const_value` slots as initializers; `All2 (InitR fs heap) cv bs`: every initializer is
initialized with an in-memory tensor or a valid external tensor readable on `fs`, denoting `bs[i]`.  Then exactly one of:
* the call succeeds and `load` of what it wrote returns every initializer's name, level and bytes in the original order;
* some initializer is stored in the destination data file — or (guard of 3d20cf2) in the model file `dir/name` itself —,
  the call raises `ValueError`, and the whole state (files, tensor objects, pointers, call count 0) is the initial one. -/
theorem roundtrip (cfg : Cfg) (hr : cfg.refuse = true) (m : Model) (dir name : String) (verbose : Bool) (fs : FS)
    (bs : List Bytes) (hsig : m.sig.length = m.cv.length) (hinit : All2 (InitR fs m.heap) m.cv bs) :
    ((runSave cfg m dir name verbose fs none).res = .ok () ∧
      load (runSave cfg m dir name verbose fs none).st.fs dir name = some (zip3 m.sig bs)) ∨
    ((destHits (joinPath dir (name ++ ".data")) m.heap m.cv ≠ [] ∨
        (cfg.refuseModel = true ∧ destHits (joinPath dir name) m.heap m.cv ≠ [])) ∧
      (runSave cfg m dir name verbose fs none).res = .error .valueError ∧
      (runSave cfg m dir name verbose fs none).st = init m fs none) := by
  by_cases hd : destHits (joinPath dir (name ++ ".data")) m.heap m.cv = []
  · by_cases hm : cfg.refuseModel = false ∨ destHits (joinPath dir name) m.heap m.cv = []
    · exact Or.inl (roundtrip_outside_destination cfg m dir name verbose fs bs hsig
        (initOK_of_readable _ _ _ hinit hd) hm)
    · have hrm : cfg.refuseModel = true := eq_true_of_ne_false fun h => hm (Or.inl h)
      have hne : destHits (joinPath dir name) m.heap m.cv ≠ [] := fun h => hm (Or.inr h)
      exact Or.inr ⟨Or.inr ⟨hrm, hne⟩, model_file_tensor_refused cfg hrm m dir name verbose fs none hne⟩
  · exact Or.inr ⟨Or.inl hd, runSave_refused cfg m dir name verbose fs none (refuses_of_destHits hr hd)⟩

/-- **On success `load(path) = model`, for every fault plan, the code as it is**: readable initializers (wherever they
live), a normal return under any plan `k` ⇒ `load` returns every initializer's name, level and bytes in order. -/
theorem roundtrip_on_success (cfg : Cfg) (hr : cfg.refuse = true) (m : Model) (dir name : String) (verbose : Bool)
    (fs : FS) (bs : List Bytes) (k : Option Nat) (hsig : m.sig.length = m.cv.length)
    (hinit : All2 (InitR fs m.heap) m.cv bs)
    (hok : (runSave cfg m dir name verbose fs k).res = .ok ()) :
    load (runSave cfg m dir name verbose fs k).st.fs dir name = some (zip3 m.sig bs) :=
  roundtrip_on_success_outside_destination cfg m dir name verbose fs bs k hsig
    (usable_of_ok cfg hr m dir name verbose fs bs k hinit hok) (model_file_free_of_ok cfg m dir name verbose fs k hok) hok

/-- Both cases of `roundtrip` occur (default configuration = the code as it is): a model with an external tensor in
another file round-trips; the same tensor stored in the destination data file is refused with nothing touched. -/
example :
    let fs : FS := [("w.bin", .data [9, 8, 7]), ("m.data", .data [5, 6])]
    let m1 : Model := { sig := [("a", false), ("e", true)], cv := [some 0, some 1],
                        heap := [.mem [1, 2, 3] true, .ext "w.bin" 1 2 true] }
    let m2 : Model := { sig := [("a", false), ("e", true)], cv := [some 0, some 1],
                        heap := [.mem [1, 2, 3] true, .ext "m.data" 0 2 true] }
    load (runSave {} m1 "" "m" false fs none).st.fs "" "m" = some [("a", false, [1, 2, 3]), ("e", true, [8, 7])] ∧
    (runSave {} m2 "" "m" false fs none).res = .error .valueError ∧ (runSave {} m2 "" "m" false fs none).st.fs = fs := by
  decide +kernel

/-- (Function before 56a0c3c, `refuse := false`.) A complete concrete round trip through the whole model (guard, classification with the 256-byte threshold, an
already-external tensor living in the destination file, sort, write, swap, serialize, load): every initializer loads
back with its bytes.  (An instance inside the region the current code refuses, checked by evaluation — the ∀-statement for the whole
pipeline is `roundtrip` / `roundtrip_outside_destination`, which are proved.) -/
theorem roundtrip_instance :
    let m : Model := { sig := [("s", false), ("d", false), ("b", true)], cv := [some 0, some 1, some 2],
                       heap := [.mem [1, 2, 3] true, .ext "m.data" 0 300 true, .mem (List.replicate 260 9) false] }
    let fs : FS := [("m.data", .data (List.replicate 300 7))]
    let r := runSave { refuse := false } m "" "m" true fs none
    r.res = .ok () ∧
    load r.st.fs "" "m" = some [("s", false, [1, 2, 3]), ("d", false, List.replicate 300 7), ("b", true, List.replicate 260 9)] := by
  decide +kernel

/-! ## Naming of the data file, and saves that follow one another -/

/-- **`data_path` is injective in the destination name** (`data_path = f"{destination_path.name}.data"`, joined with the
model's directory): two destinations in one directory share their data file only if they are the same destination.
(The seeded `with_suffix('.onnx.data')` variants, C20-3/C20-5, break exactly this.) -/
theorem data_path_injective (dir n1 n2 : String)
    (h : joinPath dir (n1 ++ ".data") = joinPath dir (n2 ++ ".data")) : n1 = n2 :=
  (String.append_left_inj _).1 (joinPath_inj dir _ _ h)

/-- The data file is never the model file. -/
theorem data_path_ne_model_path (dir name : String) : joinPath dir (name ++ ".data") ≠ joinPath dir name :=
  joinPath_ne dir name

/-- Two destinations of one directory use four pairwise distinct files unless one destination is literally named like
the other's data file. -/
theorem sibling_paths_disjoint (dir n1 n2 : String) (h12 : n1 ≠ n2) (h1 : n2 ≠ n1 ++ ".data") (h2 : n1 ≠ n2 ++ ".data") :
    joinPath dir n1 ≠ joinPath dir n2 ∧ joinPath dir n1 ≠ joinPath dir (n2 ++ ".data") ∧
    joinPath dir (n1 ++ ".data") ≠ joinPath dir n2 ∧ joinPath dir (n1 ++ ".data") ≠ joinPath dir (n2 ++ ".data") :=
  ⟨fun h => h12 (joinPath_inj dir _ _ h), fun h => h2 (joinPath_inj dir _ _ h),
   fun h => h1 (joinPath_inj dir _ _ h).symm, fun h => h12 (data_path_injective dir _ _ h)⟩

/-- **Two-operation history: a later save never damages an earlier one.**  Save `m₁` (fault-free, readable initializers, the
call returned normally) under `dir₁/name₁`; then run *any* second save — any model, configuration, verbosity, **any fault plan** — under
a destination whose two files differ from the first one's two files.  Loading `dir₁/name₁` afterwards still returns
every initializer of `m₁` with its bytes in order.  (State carried between the calls is the file system only.) -/
theorem later_save_keeps_roundtrip (cfg : Cfg) (hr : cfg.refuse = true) (m1 : Model) (dir1 name1 : String) (v1 : Bool)
    (fs : FS) (bs : List Bytes) (hsig : m1.sig.length = m1.cv.length)
    (hinitR : All2 (InitR fs m1.heap) m1.cv bs)
    (hok1 : (runSave cfg m1 dir1 name1 v1 fs none).res = .ok ())
    (cfg2 : Cfg) (m2 : Model) (dir2 name2 : String) (v2 : Bool) (k2 : Option Nat)
    (hmm : joinPath dir1 name1 ≠ joinPath dir2 name2)
    (hmd : joinPath dir1 name1 ≠ joinPath dir2 (name2 ++ ".data"))
    (hdm : joinPath dir1 (name1 ++ ".data") ≠ joinPath dir2 name2)
    (hdd : joinPath dir1 (name1 ++ ".data") ≠ joinPath dir2 (name2 ++ ".data")) :
    let fs1 := (runSave cfg m1 dir1 name1 v1 fs none).st.fs
    load (runSave cfg2 m2 dir2 name2 v2 fs1 k2).st.fs dir1 name1 = some (zip3 m1.sig bs) := by
  intro fs1
  have hinit := usable_of_ok cfg hr m1 dir1 name1 v1 fs bs none hinitR hok1
  obtain ⟨s', h1, h2⟩ := save_load_ok cfg m1.sig m1.tnames dir1 name1 (v1 && cfg.tqdm) (init m1 fs none) bs rfl hsig hinit
    (model_file_free_of_ok cfg m1 dir1 name1 v1 fs none hok1)
  have hfs1 : fs1 = s'.fs := by
    show (runSave cfg m1 dir1 name1 v1 fs none).st.fs = _
    rw [runSave_st, h1]
  apply h2
  · rw [← hfs1]; exact fs_frame cfg2 m2 dir2 name2 v2 fs1 k2 _ hmd hmm
  · rw [← hfs1]; exact fs_frame cfg2 m2 dir2 name2 v2 fs1 k2 _ hdd hdm

/-- Same directory, by names: siblings `name₁ ≠ name₂` neither of which is named like the other's data file. -/
theorem sibling_save_keeps_roundtrip (cfg : Cfg) (hr : cfg.refuse = true) (m1 : Model) (dir name1 : String) (v1 : Bool)
    (fs : FS) (bs : List Bytes) (hsig : m1.sig.length = m1.cv.length)
    (hinitR : All2 (InitR fs m1.heap) m1.cv bs)
    (hok1 : (runSave cfg m1 dir name1 v1 fs none).res = .ok ())
    (cfg2 : Cfg) (m2 : Model) (name2 : String) (v2 : Bool) (k2 : Option Nat)
    (h12 : name1 ≠ name2) (h1 : name2 ≠ name1 ++ ".data") (h2 : name1 ≠ name2 ++ ".data") :
    load (runSave cfg2 m2 dir name2 v2 (runSave cfg m1 dir name1 v1 fs none).st.fs k2).st.fs dir name1
      = some (zip3 m1.sig bs) := by
  obtain ⟨a, b, c, d⟩ := sibling_paths_disjoint dir name1 name2 h12 h1 h2
  exact later_save_keeps_roundtrip cfg hr m1 dir name1 v1 fs bs hsig hinitR hok1 cfg2 m2 dir name2 v2 k2 a b c d

/-- The side condition is needed: saving a second model under the name of the first one's data file destroys the first. -/
example :
    let m1 : Model := { sig := [("b", false)], cv := [some 0], heap := [.mem (List.replicate 300 9) false] }
    let m2 : Model := { sig := [], cv := [], heap := [] }
    let fs1 := (runSave {} m1 "" "m" false [] none).st.fs
    load fs1 "" "m" = some [("b", false, List.replicate 300 9)] ∧
    load (runSave {} m2 "" "m.data" false fs1 none).st.fs "" "m" = none := by
  decide +kernel

/-! ## Histories: several calls on the same in-memory model (`OV.Model.C20Hist`) -/

/-- **Any history of saves leaves the model and the data behind it intact** (invariant by induction over the history).
The function with its second guard (`cfg.refuse = true`, the code as it is); a model all of whose tensor objects belong to an
initializer (`howned`, inherited from `model_unchanged`: heaps without unowned objects) with `All2 (InitR …)`: each initializer readable and denoting `bs[i]`.  Run *any* list of calls on this same model object — any
destinations, verbosities and **any fault plan per call** (calls that succeed, calls refused by a guard, calls dying at their
`k`-th file-system call, in any order).  **For the code as it is (`cfg.refuseModel = true`, guard of 3d20cf2) there is no further
hypothesis**: a call whose *model file* `dir/name` is a file some tensor is stored in is refused and touches nothing.  For the
guard before 3d20cf2 the statement needs "no call's model file is a file some tensor is stored in" (second disjunct of `hmp`;
forced there: `backing_model_path_refuted`, finding C20-D5).  Then after the whole history the model is the model it
was (pointers, every tensor object) and every initializer still denotes its original bytes on the file system the history
left behind.  State carried from call to call: the model object and the file system, nothing else. -/
theorem history_keeps_model_and_data (cfg : Cfg) (hr : cfg.refuse = true) (m : Model) (bs : List Bytes)
    (howned : ∀ id, id < m.heap.length → some id ∈ m.cv)
    (calls : List Call) (hmp : cfg.refuseModel = true ∨ ∀ c ∈ calls, NoExtIn m.heap (joinPath c.dir c.name)) :
    ∀ (fs : FS), All2 (InitR fs m.heap) m.cv bs →
      (runHistory cfg calls m fs).1 = m ∧ All2 (InitR (runHistory cfg calls m fs).2 m.heap) m.cv bs := by
  induction calls with
  | nil => intro fs h; exact ⟨rfl, h⟩
  | cons c cs ih =>
    intro fs h
    have hm := model_unchanged cfg hr m c.dir c.name c.verbose fs c.k howned
    have hi := initR_after_save cfg hr m c.dir c.name c.verbose fs c.k bs
      (hmp.imp id (fun hmp => hmp c (List.mem_cons_self ..))) h
    simp only [runHistory]
    rw [hm]
    exact ih (hmp.imp id (fun hmp c' hc' => hmp c' (List.mem_cons_of_mem _ hc'))) _ hi

/-- Hypotheses are satisfiable by a model with an in-memory and an external tensor and a history with a faulted call, a
successful call and a call to another destination. -/
example : ∃ (m : Model) (bs : List Bytes) (calls : List Call) (fs : FS),
    (∀ id, id < m.heap.length → some id ∈ m.cv) ∧ calls.length = 3 ∧
    (∀ c ∈ calls, NoExtIn m.heap (joinPath c.dir c.name)) ∧ All2 (InitR fs m.heap) m.cv bs :=
  ⟨{ sig := [("a", false), ("e", true)], cv := [some 0, some 1], heap := [.mem [1, 2, 3] true, .ext "w.bin" 1 2 true] },
   [[1, 2, 3], [8, 7]],
   [{ dir := "", name := "m", k := some 2 }, { dir := "", name := "m" }, { dir := "d", name := "n", verbose := true, k := some 0 }],
   [("w.bin", .data [9, 8, 7])],
   by intro id h
      match id, h with
      | 0, _ => simp
      | 1, _ => simp
      | n + 2, h => simp at h; omega,
   rfl,
   by intro c hc id f o l v h
      match id, h with
      | 0, h => simp at h
      | 1, h =>
        simp at h; obtain ⟨rfl, _⟩ := h
        simp only [List.mem_cons, List.not_mem_nil, or_false] at hc
        rcases hc with rfl | rfl | rfl <;> decide
      | n + 2, h => simp at h,
   .cons ⟨0, _, rfl, rfl, rfl⟩ (.cons ⟨1, _, rfl, rfl, ⟨rfl, by decide⟩⟩ .nil)⟩

/-- **After any history, a save still round-trips** (`history_keeps_model_and_data` ∘ `roundtrip`).  Same hypotheses; after
the history run one more, fault-free, save of the same model object to any destination `dir/name`: either it succeeds and
`load` returns every initializer's name, level and *original* bytes in order, or some initializer is stored in that
destination's data file (or model file) and the call is refused with the state untouched.  In particular a save that died at any
file-system call can simply be retried (`retry_after_fault_roundtrips`), and saving twice is as good as saving once. -/
theorem save_after_history_roundtrips (cfg : Cfg) (hr : cfg.refuse = true) (m : Model) (bs : List Bytes)
    (hsig : m.sig.length = m.cv.length) (howned : ∀ id, id < m.heap.length → some id ∈ m.cv)
    (calls : List Call) (hmp : cfg.refuseModel = true ∨ ∀ c ∈ calls, NoExtIn m.heap (joinPath c.dir c.name))
    (fs : FS) (hinit : All2 (InitR fs m.heap) m.cv bs) (dir name : String) (verbose : Bool) :
    let h := runHistory cfg calls m fs
    ((runSave cfg h.1 dir name verbose h.2 none).res = .ok () ∧
      load (runSave cfg h.1 dir name verbose h.2 none).st.fs dir name = some (zip3 m.sig bs)) ∨
    ((destHits (joinPath dir (name ++ ".data")) m.heap m.cv ≠ [] ∨
        (cfg.refuseModel = true ∧ destHits (joinPath dir name) m.heap m.cv ≠ [])) ∧
      (runSave cfg h.1 dir name verbose h.2 none).res = .error .valueError ∧
      (runSave cfg h.1 dir name verbose h.2 none).st = init m h.2 none) := by
  intro h
  obtain ⟨h1, h2⟩ := history_keeps_model_and_data cfg hr m bs howned calls hmp fs hinit
  show (((runSave cfg (runHistory cfg calls m fs).1 dir name verbose (runHistory cfg calls m fs).2 none).res = .ok () ∧ _) ∨ _)
  rw [h1]
  exact roundtrip cfg hr m dir name verbose (runHistory cfg calls m fs).2 bs hsig h2

/-- **Whenever a call of a history returns normally, what it wrote loads back the original model** (`roundtrip_on_success` after
`history_keeps_model_and_data`): after any history as above, a further call with **any fault plan** `k` that returns normally
leaves files from which `load` returns every initializer's name, level and original bytes in order.  Applied to every prefix of
a history: each successful call of a history — the first, a retry, a re-save — is a complete round trip. -/
theorem ok_call_after_history_roundtrips (cfg : Cfg) (hr : cfg.refuse = true) (m : Model) (bs : List Bytes)
    (hsig : m.sig.length = m.cv.length) (howned : ∀ id, id < m.heap.length → some id ∈ m.cv)
    (calls : List Call) (hmp : cfg.refuseModel = true ∨ ∀ c ∈ calls, NoExtIn m.heap (joinPath c.dir c.name))
    (fs : FS) (hinit : All2 (InitR fs m.heap) m.cv bs) (dir name : String) (verbose : Bool) (k : Option Nat)
    (hok : (runSave cfg (runHistory cfg calls m fs).1 dir name verbose (runHistory cfg calls m fs).2 k).res = .ok ()) :
    load (runSave cfg (runHistory cfg calls m fs).1 dir name verbose (runHistory cfg calls m fs).2 k).st.fs dir name
      = some (zip3 m.sig bs) := by
  obtain ⟨h1, h2⟩ := history_keeps_model_and_data cfg hr m bs howned calls hmp fs hinit
  rw [h1] at hok ⊢
  exact roundtrip_on_success cfg hr m dir name verbose (runHistory cfg calls m fs).2 bs k hsig h2 hok

/-- Instance: after a save that died at call 3, a retry *planned* to fail at call 100 (never reached) returns normally. -/
example :
    let m : Model := { sig := [("b", false)], cv := [some 0], heap := [.mem (List.replicate 300 9) false] }
    (runSave {} (runHistory {} [{ dir := "", name := "m", k := some 3 }] m []).1 "" "m" false
      (runHistory {} [{ dir := "", name := "m", k := some 3 }] m []).2 (some 100)).res = .ok () := by
  decide +kernel

/-- **A failed save can be retried.**  The save of `m` to `dir/name` fails at *any* file-system call `k₁` (or succeeds, or is
refused); the model object is then unchanged, and a second, fault-free call with the same destination — over whatever the
first call left on disk (a truncated data file, the old or an empty model file) — succeeds with a complete round trip of the
original bytes, or is the guard's refusal that touches nothing. -/
theorem retry_after_fault_roundtrips (cfg : Cfg) (hr : cfg.refuse = true) (m : Model) (dir name : String) (v1 v2 : Bool)
    (fs : FS) (bs : List Bytes) (k1 : Option Nat)
    (hsig : m.sig.length = m.cv.length) (howned : ∀ id, id < m.heap.length → some id ∈ m.cv)
    (hmp : cfg.refuseModel = true ∨ NoExtIn m.heap (joinPath dir name)) (hinit : All2 (InitR fs m.heap) m.cv bs) :
    let r1 := runSave cfg m dir name v1 fs k1
    r1.model m = m ∧
    (((runSave cfg (r1.model m) dir name v2 r1.st.fs none).res = .ok () ∧
      load (runSave cfg (r1.model m) dir name v2 r1.st.fs none).st.fs dir name = some (zip3 m.sig bs)) ∨
     ((destHits (joinPath dir (name ++ ".data")) m.heap m.cv ≠ [] ∨
        (cfg.refuseModel = true ∧ destHits (joinPath dir name) m.heap m.cv ≠ [])) ∧
      (runSave cfg (r1.model m) dir name v2 r1.st.fs none).res = .error .valueError ∧
      (runSave cfg (r1.model m) dir name v2 r1.st.fs none).st = init m r1.st.fs none)) := by
  intro r1
  refine ⟨model_unchanged cfg hr m dir name v1 fs k1 howned, ?_⟩
  exact save_after_history_roundtrips cfg hr m bs hsig howned [{ dir := dir, name := name, verbose := v1, k := k1 }]
    (hmp.imp id (fun hmp c hc => by simp only [List.mem_cons, List.not_mem_nil, or_false] at hc; subst hc; exact hmp))
    fs hinit dir name v2

/-- Evaluated instance: the first call dies at its 4th file-system call leaving a truncated data file and no model file; the
retry over those leftovers loads back both tensors; so does a third save. -/
example :
    let m : Model := { sig := [("b", false), ("e", true)], cv := [some 0, some 1],
                       heap := [.mem (List.replicate 300 9) false, .ext "w.bin" 1 2 true] }
    let fs : FS := [("w.bin", .data [9, 8, 7])]
    let r1 := runSave {} m "" "m" true fs (some 3)
    r1.res = .error .osError ∧ r1.st.fs ≠ fs ∧ FS.get? r1.st.fs "m" = none ∧
    load (runSave {} (r1.model m) "" "m" false r1.st.fs none).st.fs "" "m"
      = some [("b", false, List.replicate 300 9), ("e", true, [8, 7])] ∧
    historyResults {} [{ dir := "", name := "m", k := some 3 }, { dir := "", name := "m" }, { dir := "", name := "m" }] m fs
      = [.error .osError, .ok (), .ok ()] := by
  decide +kernel

/-- **Regression statement about the guard before 3d20cf2** (`refuseModel := false`; finding C20-D5, replayed on the real code
at 3d20cf2~1; on the code as it is the same input is refused: `model_file_tensor_refused` and the example beside it).  A model
whose initializer is an external tensor stored in `w.bin`, saved *to* `w.bin`: the call succeeded, the saved model loaded back
correctly, the tensor object was untouched — and the file behind it then held the serialized model: the in-memory tensor no
longer denoted its bytes (`valid()` stayed `True`, `numpy()` returned protobuf garbage).  This is why the history theorems
need their `NoExtIn` disjunct when `cfg.refuseModel = false`. -/
theorem backing_model_path_refuted :
    let m : Model := { sig := [("e", false)], cv := [some 0], heap := [.ext "w.bin" 0 300 true] }
    let fs : FS := [("w.bin", .data (List.replicate 300 7))]
    let r := runSave { refuseModel := false } m "" "w.bin" false fs none
    r.res = .ok () ∧ r.model m = m ∧
    load r.st.fs "" "w.bin" = some [("e", false, List.replicate 300 7)] ∧
    bytesOf fs (.ext "w.bin" 0 300 true) = some (List.replicate 300 7) ∧
    bytesOf r.st.fs (.ext "w.bin" 0 300 true) = none := by
  decide +kernel

end OV.Props.C20
