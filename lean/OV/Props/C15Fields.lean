import OV.Model.C15Fields
import OV.Gen.C15Fields
/-!
# C15 — every proto field is accounted for (table regenerated from the installed onnx descriptors on every run)

`OV.Gen.C15Fields.rows` has one row per field of `ModelProto`, `GraphProto`, `NodeProto`, `FunctionProto` as the
installed `onnx` declares them, with the carrier the harness' proto differ files the field under and what one trip
through `onnx_ir`'s `serialize_model ∘ deserialize_model` did to a populated sample (measured by
`harness/c15_fields.py` on every run).  The quantifier of each theorem is the whole table; `decide +kernel`.
What is **not** claimed: the probe is one sample per field — the serde contract on arbitrary content stays a
validated hypothesis (`SerdeContract`, stream 1).
-/
namespace OV.Props.C15Fields
open OV.C15 OV.Gen.C15Fields

/-- **The model's carriers cover the installed schema**: every field of the four messages (except the container
`ModelProto.graph`) has a carrier in the Lean model, and it is the carrier the harness' differ compares it under — a
field added by a newer `onnx`, or a differ/model disagreement, fails here. -/
theorem every_proto_field_has_its_carrier :
    ∀ r ∈ rows, (r.msg = "ModelProto" ∧ r.field = "graph") ∨
      (fieldCarrier r.msg r.field).map Carrier.name = some r.carrier := by
  decide +kernel

/-- **`Carrier.inGraph` is exactly "is a field of `GraphProto`"** — what `model_proto.graph.Clear()` /
`graph.CopyFrom(…)` in `convert_version` replace (`spliceConverted`), read off the descriptor: every `GraphProto` field maps to an `inGraph` carrier, every other `ModelProto` field to a carrier
outside, and every one of the 19 carriers holds at least one real field. -/
theorem graph_fields_are_exactly_the_inGraph_carriers :
    (∀ r ∈ rows, r.msg = "GraphProto" → (fieldCarrier r.msg r.field).map Carrier.inGraph = some true) ∧
    (∀ r ∈ rows, r.msg = "ModelProto" → r.field ≠ "graph" →
        (fieldCarrier r.msg r.field).map Carrier.inGraph = some false) ∧
    (∀ c ∈ Carrier.all, rows.any (fun r => (r.msg == "ModelProto" || r.msg == "GraphProto") &&
        fieldCarrier r.msg r.field == some c) = true) := by
  decide +kernel

/-- **No field is dropped wholesale without being listed**: every field survives `N = ser ∘ de` *on the probe* — ONE
populated sample per field, on one base model at `onnx.IR_VERSION` — or is on the list of known losses (finding
C15-SPARSE).  A field the serde stops carrying altogether breaks this theorem; a loss that depends on the field's
content, on other fields or on `ir_version` (e.g. `configuration` below IR 11) is invisible to it — that is stream 1's
business (validated, not proved). -/
theorem every_field_survives_serde_or_is_a_known_loss :
    ∀ r ∈ rows, r.status = "carried" ∨ (r.msg, r.field) ∈ knownLoss := by
  decide +kernel

/-- Sensitivity: the same statement over the table with one more field reported lost is false (so a field newly
dropped by the serde is rejected by the kernel, not absorbed). -/
example : ¬ (∀ r ∈ (⟨"NodeProto", "doc_string", 6, false, "nodes", "lost"⟩ :: rows),
    r.status = "carried" ∨ (r.msg, r.field) ∈ knownLoss) := by
  decide +kernel

/-- … the list is exact (each known loss is observed as a loss on this installation) … -/
theorem known_losses_are_real :
    ∀ k ∈ knownLoss, rows.any (fun r => r.msg == k.1 && r.field == k.2 && r.status == "lost") = true := by
  decide +kernel

/-- … and losses occur only inside the two carriers for which the model claims nothing (`otherGraph`, `otherModel`);
on every `lossless` carrier each field is carried, `NodeProto` and `FunctionProto` fields included. -/
theorem losses_confined_to_other_carriers :
    ∀ r ∈ rows, r.status ≠ "carried" → (fieldCarrier r.msg r.field).map Carrier.lossless = some false := by
  decide +kernel

/-- Field numbers and names are unique per message (the table is a function of the descriptor). -/
theorem field_table_is_functional :
    ∀ r ∈ rows, (rows.filter fun r' => r'.msg == r.msg && (r'.field == r.field || r'.number == r.number)).length = 1 := by
  decide +kernel

end OV.Props.C15Fields
