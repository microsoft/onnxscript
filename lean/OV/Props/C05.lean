import OV.Model.C05Order
import OV.Model.C05Unit
import OV.Model.C05Shape
import OV.Model.C05Linalg
import OV.Model.C05Table
import OV.Model.C05More
import OV.Lemmas.C05
import OV.Lemmas.C05Table
import OV.Lemmas.C05Shape
import OV.Lemmas.C05Algebra
import OV.Lemmas.C05Matmul
import OV.Lemmas.C05Expand
import OV.Model.C05Chain
import OV.Lemmas.C05Chain
import OV.Props.C09
import Mathlib.Order.MinMax
import Mathlib.Tactic.SplitIfs
import Mathlib.Tactic.Ring
import Mathlib.Tactic.Linarith
import Mathlib.Tactic.NormNum
import Mathlib.Algebra.Order.Field.Basic
/-!
# C05 — each shipped rewrite rule preserves semantics wherever it fires

Property theorems only.  Models: `OV/Model/C05*.lean`; rule table: `OV/Gen/C05RuleTable.lean` (regenerated from
/repo on every run).  The shape aimed at is `R.check p = true → ∀ x, lhs p x = rhs (R.build p) x`; where what `check`
establishes and the identity it is needed for are separate facts they are separate theorems (`…_fires_only_…`, `…_check`,
`…_guards` beside `…_sound`).  Where a finding was repaired in /repo, `…_prefix_refuted` keeps the witness, replayed on the
real code, against the check or formula as it was before the repair.  Of the two open findings C05-N1 is recorded by the
witness `unit_default_input_refuted`; the hypothesis of `unit_laws_sound_partial` that names it is not used by its proof.
-/
namespace OV.Props.C05
open OV.C05

/-! ## Rule table (translator tie) -/
section Table
open OV.Lemmas.C05

/-- Every rule of the optimizer's default set `_DEFAULT_REWRITE_RULES` is either covered by a theorem below or
explicitly listed as unproved: a new, renamed or re-exported rule breaks this obligation. -/
theorem default_rules_covered :
    ∀ r ∈ OV.Gen.C05.defaultRules, r ∈ Table.provedRules ∨ r ∈ Table.listedUnproved :=
  fun r hr => List.mem_append.mp (subset_of_codes table_checked.2.2.1 r hr)

/-- The same for everything exported by `rules.common` / found in `rules.fusion`.  Both coverage obligations are *bookkeeping*:
they check membership of each regenerated key in the hand-written lists `Table.provedRules` / `Table.listedUnproved`; that a
listed rule really has a theorem below is by inspection (the list is not derived from the theorems). -/
theorem exported_rules_covered :
    ∀ r ∈ OV.Gen.C05.exportedRules, r ∈ Table.provedRules ∨ r ∈ Table.listedUnproved :=
  fun r hr => List.mem_append.mp (subset_of_codes table_checked.2.1 r hr)

/-- Every regenerated row still has the target-pattern skeleton (ops, literals **with their tolerances**, attribute
literals, `_allow_other_inputs/attributes`) and the `remove_nodes` flag the models were transcribed against. -/
theorem skeletons_as_modelled :
    ∀ r ∈ OV.Gen.C05.rows, Table.lookup r.key = some (r.skeleton, r.removeNodes) := by
  intro r hr
  rw [Table.lookup, ← rows_modelled, find?_of_nodup_keys _ _ code _ table_checked.1 r hr]; rfl

/-- Every rule's **condition function** still makes the decisions the models were transcribed from: the hash of its decision
tokens (comparison and boolean operators, literal constants, names of called helpers — followed into module-level helper
functions — in source order; messages and variable names excluded) equals the recorded one.  A changed threshold, comparison
operator (`>` vs `>=`), default value, membership test or dropped branch breaks this obligation; the harness then prints the
token diff and searches for a failing input. -/
theorem conditions_as_modelled :
    ∀ r ∈ OV.Gen.C05.rows, Table.lookupCond r.key = some r.condHash := by
  intro r hr
  rw [Table.lookupCond, ← rows_modelledCond, find?_of_nodup_keys _ _ code _ table_checked.1 r hr]; rfl

/-- Literal data the condition functions decide with, read from the live objects of /repo, equal the models' tables:
`CastCast._allowed_type2_type3`, `_BROADCAST_BINARY_OPS`, `_INT64_MAX`, the `(operand, expected, rtol)` triples of the
hard-sigmoid check, `LAYER_NORM_COMPUTE_TYPES`. -/
theorem condition_data_as_modelled :
    OV.Gen.C05.castCastAllowed = Linalg.castCastAllowed ∧
    OV.Gen.C05.broadcastBinaryOps = Linalg.broadcastBinaryOps ∧
    OV.Gen.C05.int64Max = Shape.int64Max ∧
    OV.Gen.C05.hardSigmoidConstants = More.hardSigConstants ∧
    OV.Gen.C05.layerNormComputeTypes = More.layerNormComputeTypes := by
  decide +kernel

/-- No rule is claimed both ways. -/
theorem proved_unproved_disjoint : ∀ r ∈ Table.provedRules, r ∉ Table.listedUnproved := by
  intro r hr hu
  have := List.all_eq_true.mp table_checked.2.2.2 _ (List.mem_map_of_mem hr)
  rw [List.contains_iff_mem.mpr (List.mem_map_of_mem hu)] at this
  exact Bool.false_ne_true this

end Table

/-! ## Order algebra (any linear order) -/
section Order
open OV.C05.Order OV.Lemmas.C05
variable {α : Type} [LinearOrder α]

/-- `successive_relu`: `Relu(Relu(x)) = Relu(x)`. -/
theorem successive_relu_sound (zero x : α) : relu zero (relu zero x) = relu zero x := by
  unfold relu; rw [max_assoc, max_self]

/-- The exact closed form of two successive Clips with all four bounds (what fix F3 installs). -/
theorem clip_clip_exact (a b c d x : α) :
    clip (some c) (some d) (clip (some a) (some b) x) = clip (some (max a c)) (some (min (max b c) d)) x :=
  clip_clip (some a) (some b) (some c) (some d) x

/-- **`successive_clip`** (`FuseSuccessiveClip` as it is after fix F3, commit b85b7db): for every combination of
present/absent constant bounds and every `x`, `Clip(Clip(x,a,b),c,d) = Clip(x, lo', hi')` with the constants
`rewrite()` computes (`lo' = max a c`, `hi' = min (max b c) d`). -/
theorem successive_clip_sound (p : ClipClip α) (_hcheck : p.check = true) (x : α) :
    p.lhs x = p.build.rhs x := clip_clip _ _ _ _ x

/-- Documentation of finding D2 (fixed): the **pre-fix** formula `hi' = min b d` agrees with the two Clips exactly
outside the region `b < c ∧ b < d` … -/
theorem successive_clip_prefix_sound_outside_d2 (p : ClipClip α) (hD2 : p.d2 = false) (x : α) :
    p.lhs x = p.buildPrefix.rhs x := by
  unfold ClipClip.d2 at hD2
  rw [ClipClip.lhs, clip_clip]
  unfold ClipClip.buildPrefix ClipRepl.rhs
  -- only the upper bound differs, and only when `b` and `c` are both present
  generalize p.b.val? = ob at hD2 ⊢; generalize p.c.val? = oc at hD2 ⊢; generalize p.d.val? = od at hD2 ⊢
  rcases ob with _ | b
  · rfl
  rcases oc with _ | c
  · rfl
  rcases od with _ | d <;>
    simp only [Bool.and_eq_false_iff, decide_eq_false_iff_not, not_lt, Bool.true_eq_false, or_false] at hD2
  · simp only [combine, max_eq_left hD2]
  · rcases hD2 with h | h
    · simp only [combine, max_eq_left h]
    · simp only [combine, min_eq_right h, min_eq_right (h.trans (le_max_left b c))]

/-- … and inside it was wrong **for every input** (the two Clips give `min c d`, the old fused Clip gave `b`). -/
theorem successive_clip_prefix_unsound_in_d2 (a b c d x : α) (h1 : b < c) (h2 : b < d) :
    clip (some c) (some d) (clip (some a) (some b) x) ≠ clip (some (max a c)) (some (min b d)) x := by
  have hM : c ≤ max x (max a c) := le_max_of_le_right (le_max_right a c)
  rw [clip_clip_exact]
  simp only [clip, max_eq_right h1.le, min_eq_left h2.le, min_eq_right ((min_le_left c d).trans hM),
    min_eq_right (h1.le.trans hM)]
  exact (lt_min h1 h2).ne'

/-- Pre-fix statement refuted (witness D2: `Clip(Clip(x,0,1),5,10)` at `x = 0` over `Int`: 5 vs 1); the same witness
now satisfies the theorem above (`build` gives `[5, 5]`). -/
theorem successive_clip_prefix_refuted :
    ¬ (∀ (p : ClipClip Int), p.check = true → ∀ x, p.lhs x = p.buildPrefix.rhs x) ∧
    (ClipClip.build ({ a := .const 0, b := .const 1, c := .const 5, d := .const 10 } : ClipClip Int)) = { lo := some 5, hi := some 5 } := by
  refine ⟨?_, by decide +kernel⟩
  intro h
  have := h { a := .const 0, b := .const 1, c := .const 5, d := .const 10 } (by decide +kernel) 0
  revert this; decide +kernel

/-- `successive_clip_relu`: `Clip(Relu(x), a?, b?) = Clip(x, max 0 (a or 0), b?)` for all bounds. -/
theorem successive_clip_relu_sound (zero : α) (p : ReluClip α) (x : α) :
    p.lhsClipRelu zero x = (p.build zero).rhs x := by
  unfold ReluClip.lhsClipRelu ReluClip.build ClipRepl.rhs
  rcases p.a.val? with _ | a <;> rcases p.b.val? with _ | b <;>
    simp only [clip, relu, Option.getD, max_assoc, max_self]

/-- **`successive_relu_clip`** (`FuseSuccessiveReluClip` after fix F4, commit 979daa2): for all present/absent bounds
and every `x`, `Relu(Clip(x,a,b)) = Clip(x, max 0 (a or 0), max 0 b)`. -/
theorem successive_relu_clip_sound (zero : α) (p : ReluClip α) (_hcheck : p.check = true) (x : α) :
    p.lhsReluClip zero x = (p.buildReluClip zero).rhs x := relu_clip zero _ _ x

/-- Documentation of finding D1 (fixed): the pre-fix formula (`hi' = b`, inherited from `Clip∘Relu`) was right only
when the upper bound is absent or non-negative … -/
theorem successive_relu_clip_prefix_sound_outside_d1 (zero : α) (p : ReluClip α)
    (hD1 : p.d1 zero = false) (x : α) : p.lhsReluClip zero x = (p.build zero).rhs x := by
  unfold ReluClip.d1 at hD1
  rw [ReluClip.lhsReluClip, relu_clip]
  unfold ReluClip.build ClipRepl.rhs
  generalize p.b.val? = ob at hD1 ⊢
  rcases ob with _ | b
  · rfl
  · rw [Option.map_some, max_eq_right (not_lt.mp (of_decide_eq_false hD1))]

/-- … and wrong for every input with a negative upper bound (`0` vs `b`). -/
theorem successive_relu_clip_prefix_unsound_in_d1 (zero a b x : α) (h : b < zero) :
    relu zero (clip (some a) (some b) x) ≠ clip (some (max zero a)) (some b) x := by
  simp only [clip, relu, max_eq_right ((min_le_right _ b).trans h.le),
    min_eq_right (h.le.trans (le_max_of_le_right (le_max_left zero a)))]
  exact h.ne'

/-- Pre-fix statement refuted (witness D1: `Relu(Clip(x,-5,-1))` at `x = 2`: `0` vs `-1`); the same witness now
yields `Clip(x, 0, 0)`. -/
theorem successive_relu_clip_prefix_refuted :
    ¬ (∀ (p : ReluClip Int), p.check = true → ∀ x, p.lhsReluClip 0 x = (p.build 0).rhs x) ∧
    (ReluClip.buildReluClip 0 ({ a := .const (-5), b := .const (-1) } : ReluClip Int)) = { lo := some 0, hi := some 0 } := by
  refine ⟨?_, by decide +kernel⟩
  intro h
  have := h { a := .const (-5), b := .const (-1) } (by decide +kernel) 2
  revert this; decide +kernel

/-! ### Min / Max fusion -/

/-- `min_min`: `Min(Min(x, cs…), ds…) = Min(x, m)` where `m` is the reduction of all constants (per element). -/
theorem min_min_sound (p : MinMax α) (hk : p.kind = .minMin) (m : α)
    (hm : flatReduce min (flatVals p.first ++ flatVals p.second) = some m) (x : α) :
    p.lhs x = min x m := by
  unfold MinMax.lhs; simp only [hk]
  rw [← List.foldl_append, OV.Lemmas.C05.foldl_eq_flatReduce min (fun a b c => min_assoc a b c), hm]

/-- `max_max`: `Max(Max(x, cs…), ds…) = Max(x, m)`. -/
theorem max_max_sound (p : MinMax α) (hk : p.kind = .maxMax) (m : α)
    (hm : flatReduce max (flatVals p.first ++ flatVals p.second) = some m) (x : α) :
    p.lhs x = max x m := by
  unfold MinMax.lhs; simp only [hk]
  rw [← List.foldl_append, OV.Lemmas.C05.foldl_eq_flatReduce max (fun a b c => max_assoc a b c), hm]

/-- `max_min`: `Min(Max(x, lbs…), ubs…) = Clip(x, max lbs, min ubs)` — for all bounds, also `lb > ub`. -/
theorem max_min_sound (p : MinMax α) (hk : p.kind = .maxMin) (l u : α)
    (hl : flatReduce max (flatVals p.first) = some l) (hu : flatReduce min (flatVals p.second) = some u) (x : α) :
    p.lhs x = clip (some l) (some u) x := by
  unfold MinMax.lhs clip; simp only [hk]
  rw [OV.Lemmas.C05.foldl_eq_flatReduce max (fun a b c => max_assoc a b c), hl,
      OV.Lemmas.C05.foldl_eq_flatReduce min (fun a b c => min_assoc a b c), hu]

/-- `min_max`: `Max(Min(x, ubs…), lbs…) = Clip(x, max lbs, min ubs)` under the bound test of `check`
(`lower_bound ≤ upper_bound`; without it the two differ, which is why the rule tests it). -/
theorem min_max_sound (p : MinMax α) (hk : p.kind = .minMax) (l u : α)
    (hu : flatReduce min (flatVals p.first) = some u) (hl : flatReduce max (flatVals p.second) = some l)
    (hcheck : ¬ u < l) (x : α) :
    p.lhs x = clip (some l) (some u) x := by
  unfold MinMax.lhs clip; simp only [hk]
  rw [OV.Lemmas.C05.foldl_eq_flatReduce min (fun a b c => min_assoc a b c), hu,
      OV.Lemmas.C05.foldl_eq_flatReduce max (fun a b c => max_assoc a b c), hl]
  show max (min x u) l = min (max x l) u
  rw [max_min_distrib_right, max_eq_left (not_lt.mp hcheck)]

/-- The bound test is what `run` establishes when it fires for `min_max`. -/
theorem min_max_fire_bounds (p : MinMax Int) (hk : p.kind = .minMax) (l u : Int)
    (hfire : p.run = .fire (.clip l u)) : ¬ u < l := (run_fire_clip p l u hfire).2 hk

omit [LinearOrder α] in
/-- Rank of the result when no constant outranks `x`: the original keeps the broadcast rank = `x`'s rank. -/
theorem clip_fusion_rank_of_no_outrank (p : MinMax α) (rx : Nat) (hD4 : p.consts.any (fun c => rx < c.rank) = false) :
    p.lhsRank rx = rx := by
  unfold MinMax.lhsRank
  generalize p.consts = l at hD4
  induction l with
  | nil => rfl
  | cons c l ih =>
    simp only [List.any_cons, Bool.or_eq_false_iff, decide_eq_false_iff_not] at hD4
    rw [List.foldl_cons, if_neg hD4.1, ih hD4.2]

/-- **`max_min` / `min_max` keep the rank** (after commit 1d299da): whenever a Clip fusion fires on an input of known rank
`rx`, no constant outranks `x`, so `Min/Max` broadcasting produced rank `rx` — the rank of the emitted `Clip(x, lo, hi)`. -/
theorem clip_fusion_rank_sound (p : MinMax Int) (rx : Nat) (l u : Int) (hk : p.kind.needScalars = true)
    (hx : p.xRank = some rx) (hfire : p.run = .fire (.clip l u)) : p.lhsRank rx = rx := by
  apply clip_fusion_rank_of_no_outrank
  have hbad := (run_fire_clip p l u hfire).1
  rw [List.any_eq_false] at hbad ⊢
  intro c hc
  have := hbad c hc
  simp only [hk, MinMax.rankBad, hx, Bool.true_and, Bool.or_eq_true, Bool.not_eq_true', Bool.and_eq_true,
    decide_eq_true_eq, not_or, not_and, Bool.not_eq_false] at this ⊢
  omega

/-- Documentation of finding D4 (fixed): `Min(Max(x:[3], [[0]]), [[1]])` has rank 2 while `Clip(x, 0, 1)` would have rank 1;
the rule now refuses (also when the shape of `x` is unknown). -/
theorem clip_fusion_rank_prefix_refuted :
    MinMax.lhsRank ({ kind := .maxMin, first := [.const 2 [0]], second := [.const 2 [1]] } : MinMax Int) 1 = 2 ∧
    MinMax.run ({ kind := .maxMin, first := [.const 2 [0]], second := [.const 2 [1]], xRank := some 1 } : MinMax Int) = .nofire ∧
    MinMax.run ({ kind := .maxMin, first := [.const 1 [0]], second := [.const 0 [1]], xRank := none } : MinMax Int) = .nofire ∧
    MinMax.run ({ kind := .maxMin, first := [.const 1 [0]], second := [.const 0 [1]], xRank := some 1 } : MinMax Int) = .fire (.clip 0 1) := by
  decide +kernel

/-- Commit 625745e (finding C05-N2, fixed): below opset 11 none of the Clip-producing rules fires. -/
theorem clip_rules_need_opset_11 :
    (∀ p : ClipClip Int, p.opsetGe11 = false → p.run = .nofire) ∧
    (∀ p : ReluClip Int, p.opsetGe11 = false → p.run 0 = .nofire ∧ p.runReluClip 0 = .nofire) ∧
    (∀ p : MinMax Int, p.opsetGe11 = false → p.kind.needScalars = true → p.run = .nofire) := by
  refine ⟨?_, ?_, ?_⟩
  · intro p h; unfold ClipClip.run; simp [h]
  · intro p h; unfold ReluClip.run ReluClip.runReluClip; simp [h]
  · intro p h hk; unfold MinMax.run; simp [h, hk]

end Order

/-! ## Permutations, axes, reshape family, slices, scatter (all ranks, all dimension sizes) -/
section Shape
open OV.C05.Shape
open OV.Lemmas.C05Shape

/-- `transpose_transpose`: for every rank `n` and every two valid permutations, the single `Transpose` the rule
emits (`perm = _apply_transposes([perm1, perm2])`) moves every axis — of the shape *and of every element's
multi-index* (`s` is any list) — exactly where the two original transposes move it. -/
theorem transpose_transpose_sound (p1 p2 s : List Nat) (n : Nat) (hs : s.length = n)
    (h1 : validPerm p1 n = true) (h2 : validPerm p2 n = true) :
    specTransposeShape p2 (specTransposeShape p1 s) = specTransposeShape (composePerms p1 p2) s :=
  transpose_transpose p1 p2 s n hs h1 h2

/-- …and when the composed permutation is the identity the rule emits `Identity`, which is right. -/
theorem transpose_transpose_identity_sound (p1 p2 s : List Nat) (n : Nat) (hs : s.length = n)
    (h1 : validPerm p1 n = true) (h2 : validPerm p2 n = true) (hid : composePerms p1 p2 = List.range n) :
    specTransposeShape p2 (specTransposeShape p1 s) = s := by
  rw [transpose_transpose p1 p2 s n hs h1 h2, hid, ← hs]
  exact transpose_range s

/-- The composed permutation is `i ↦ perm1[perm2[i]]` (what ONNX `Transpose ∘ Transpose` means). -/
theorem transpose_compose_pointwise (p1 p2 : List Nat) (n : Nat) (h1 : validPerm p1 n = true)
    (h2 : validPerm p2 n = true) (i : Nat) (hi : i < n) :
    (composePerms p1 p2).getD i 0 = p1.getD (p2.getD i 0) 0 := by
  rw [composePerms_eq h1]; exact getD_map_lt _ _ _ 0 0 (by rw [validPerm_length h2]; exact hi)

/-- `no_op_transpose`: when `check` passes (`perm = range(len(perm))`) the transpose is the identity on
shapes and multi-indices of that rank. -/
theorem no_op_transpose_sound (perm : List Int) (s : List Nat) (h : noOpTransposeCheck perm = true)
    (hs : s.length = perm.length) : specTransposeShape (perm.map Int.toNat) s = s := by
  have h' : perm = (List.range perm.length).map Int.ofNat := by simpa [noOpTransposeCheck] using h
  rw [h', map_toNat_ofNat, ← hs]; exact transpose_range s

/-- `unsqueeze_unsqueeze`: for every input shape and all valid non-negative axes, the axes list the rule
computes (`[v1, v2]` if `v1 < v2` else `[v2, v1+1]`) yields the shape of the two successive Unsqueezes
(row-major data are untouched by Unsqueeze, so equal shapes mean equal tensors). -/
theorem unsqueeze_unsqueeze_sound (s : List Nat) (v1 v2 : Nat) (h1 : v1 ≤ s.length) (h2 : v2 ≤ s.length + 1) :
    specUnsqueeze1 (specUnsqueeze1 s v1) v2 = specUnsqueezeSorted s (if v1 < v2 then [v1, v2] else [v2, v1 + 1]) :=
  unsqueeze_unsqueeze s v1 v2 h1 h2

/-- The model's `rewrite` produces exactly that list (ties the theorem above to `unsqueezeUnsqueezeRun`). -/
theorem unsqueeze_unsqueeze_build (v1 v2 : Nat) :
    unsqueezeUnsqueezeRun (some (v1 : Int)) (some (v2 : Int)) =
      .fire ((if v1 < v2 then [v1, v2] else [v2, v1 + 1]).map Int.ofNat) := by
  unfold unsqueezeUnsqueezeRun
  have h1 : ¬ ((v1 : Int) < 0) := by omega
  have h2 : ¬ ((v2 : Int) < 0) := by omega
  simp only [h1, h2, decide_false, Bool.or_self, Bool.false_eq_true, if_false]
  by_cases h : v1 < v2
  · have : (v1 : Int) < v2 := by omega
    simp [h, this]
  · have : ¬ (v1 : Int) < v2 := by omega
    simp [h, this]

/-- `squeeze_reshape_1d`: for a 1-D input of any length `n` (0 and 1 included), `Reshape(Squeeze(x), [-1])` has shape `[n]`. -/
theorem squeeze_reshape_1d_sound (n : Nat) : specReshape (specSqueezeAll [n]) [-1] false = some [n] :=
  squeeze_reshape_1d n

/-- **`flatten_to_reshape`**, static shapes (after commit 02f546a): when the rule fires, no dimension is 0 … -/
theorem flatten_to_reshape_fire_pos (s : List Nat) (axis : Int) (ns : List Int)
    (h : flattenToReshapeRun (some (s.map Dim.known)) axis none = .fire ns) : ∀ d ∈ s, 0 < d := by
  intro d hd
  cases d with
  | zero =>
    simp only [flattenToReshapeRun] at h
    rw [flatten_finish_zero s _ _ hd] at h
    cases h
  | succ d => omega

/-- … it then emits the two products … -/
theorem flatten_to_reshape_fires (s : List Nat) (axis : Nat) (hax : axis ≤ s.length) (hpos : ∀ d ∈ s, 0 < d) :
    flattenToReshapeRun (some (s.map Dim.known)) (axis : Int) none =
      .fire [ (prodNat (s.take axis) : Int), (prodNat (s.drop axis) : Int) ] :=
  flatten_fires s axis hax hpos

/-- … and that target reshapes the input to exactly the Flatten result, for every rank and axis. -/
theorem flatten_to_reshape_sound (s : List Nat) (axis : Nat) (hax : axis ≤ s.length) (ns : List Int)
    (h : flattenToReshapeRun (some (s.map Dim.known)) (axis : Int) none = .fire ns) :
    specReshape s ns false = some (specFlatten s axis) := by
  have hpos := flatten_to_reshape_fire_pos s axis ns h
  rw [flatten_to_reshape_fires s axis hax hpos] at h
  cases h
  exact flatten_reshape_sound s hpos axis hax

/-- A statically zero-size dim refuses the rewrite (no output annotation, or one of rank ≤ 2). -/
theorem flatten_to_reshape_zero_refused (s : List Nat) (axis : Int) (os : Option Shape) (h0 : 0 ∈ s)
    (hos : os = none ∨ ∃ l, os = some l ∧ l.length ≤ 2) :
    flattenToReshapeRun (some (s.map Dim.known)) axis os = .nofire := by
  rcases hos with rfl | ⟨l, rfl, hl⟩
  · simp only [flattenToReshapeRun]
    exact flatten_finish_zero s _ _ h0
  · have hl' : ¬ (l.length > 2) := by omega
    simp only [flattenToReshapeRun, hl', decide_false, Bool.false_and, Bool.false_eq_true, if_false]
    exact flatten_finish_zero s _ _ h0

/-- Documentation of finding D6 (fixed): for `2×0×3`, `axis = 2` the products `[0,3]` as a Reshape target (0 = "copy")
do not give the Flatten shape; the rule now refuses. -/
theorem flatten_to_reshape_prefix_refuted :
    flattenToReshapeRun (some [.known 2, .known 0, .known 3]) 2 none = .nofire ∧
    specReshape [2, 0, 3] [0, 3] false ≠ some (specFlatten [2, 0, 3] 2) := by decide +kernel

/-- `reshape_reshape` (no output annotation): whatever the intermediate shape `s1` was, if the second Reshape
was valid and produced `t`, the fused `Reshape(x, shape', allowzero')` produces `t` from the original input —
covers `allowzero=1` with zeros, targets without zeros, and the single-`0`→`-1` replacement, incl. size-0 tensors. -/
theorem reshape_reshape_sound (s0 s1 : List Nat) (sh : List Int) (az : Int) (t : List Nat) (r : RRRepl)
    (h1 : specReshape s1 sh (az == 1) = some t) (hsz : prodNat s0 = prodNat s1)
    (hf : reshapeReshapeRun (some sh) none az = .fire r) :
    specReshape s0 r.shape (r.allowzero == some 1) = some t :=
  OV.Lemmas.C05Shape.reshape_reshape_sound s0 s1 sh az t r h1 hsz hf

/-- `no_op_expand`: when `check` passes on a fully static annotation, expanding to that shape is the identity. -/
theorem no_op_expand_sound (xs : Shape) (sh : List Int) (s : List Nat)
    (h : noOpExpandCheck (some xs) (some sh) = true) (hc : xs = s.map Dim.known) :
    specBroadcast s (sh.map Int.toNat) = some s := by
  subst hc
  simp only [noOpExpandCheck, Bool.and_eq_true, beq_iff_eq] at h
  rw [expand_check_toNat s sh h.1 h.2]
  exact OV.Lemmas.C05Bcast.broadcast_self s

/-- **`materialize_reshape_shape`** (after commit 49df852, which refuses a static 0 beside the symbolic dim): for every
runtime shape `s` consistent with the annotated output shape, the materialised constant (`-1` for the one symbolic dim,
`allowzero=1`) reshapes any input of the right size to `s`. -/
theorem materialize_reshape_sound (os : Shape) (r : RRRepl) (sIn s : List Nat)
    (hfire : materializeReshapeRun false (some os) = .fire r)
    (hcons : os.length = s.length ∧ ∀ i (h : i < os.length), ∀ k, os[i] = Dim.known k → s[i]! = k)
    (hsize : prodNat sIn = prodNat s) :
    specReshape sIn r.shape true = some s := by
  obtain ⟨_, hcount, hr⟩ := materialize_fire_inv os r hfire
  have hno := materialize_fire_no_zero_neg os r hfire
  rw [hr] at hno ⊢
  rw [specReshape_eq_some_iff]
  -- the materialised target is the run-time shape with the one symbolic dim punched out
  refine OV.C09.reshapeTarget_punched (PW2_of_index _ _ (by simp [hcons.1]) fun i h₁ h₂ => ?_)
    (by rw [List.count_eq_length_filter, filter_neg1_matDim]; exact hcount) (by simp)
    (by rw [prodNat_ofNat, prodNat_ofNat, hsize]) fun h0 => ⟨rfl, fun hm => hno (by
      rw [Bool.and_eq_true]; exact ⟨List.any_eq_true.mpr ⟨0, h0, rfl⟩, List.any_eq_true.mpr ⟨-1, hm, rfl⟩⟩)⟩
  simp only [List.length_map] at h₁ h₂
  rw [List.getElem_map, List.getElem_map]
  cases e : os[i] with
  | known k =>
    have := hcons.2 i h₁ k e
    rw [getElem!_pos s i h₂] at this
    exact .inl (by rw [this]; rfl)
  | sym _ => exact .inr rfl
  | unknown => exact .inr rfl

/-- What that guard buys: a fired rule never emits a target with both `0` and `-1`. -/
theorem materialize_reshape_no_zero_beside_neg (os : Shape) (r : RRRepl)
    (hfire : materializeReshapeRun false (some os) = .fire r) :
    ¬ (r.shape.any (· == 0) && r.shape.any (· == -1)) = true :=
  materialize_fire_no_zero_neg os r hfire

/-- Documentation of finding D16c2 (fixed): the target `[-1, 0]` the pre-fix rule emitted for an output annotated `[N, 0]`
is invalid although the original reshape to `[3, 0]` is fine; the rule now refuses that annotation. -/
theorem materialize_reshape_prefix_refuted :
    specReshape [3, 0] [-1, 0] true = none ∧ specReshape [3, 0] [3, 0] true = some [3, 0] ∧
    materializeReshapeRun false (some [.sym "N", .known 0]) = .nofire := by decide +kernel

/-- `collapse_slice`: when `check` passes for a static dim `d` of the sliced axis, the slice keeps all `d` elements
(start 0, step 1, end ≥ d or INT64_MAX), i.e. is the identity along that axis. -/
theorem collapse_slice_sound (xs : Shape) (en ax : Int) (d : Nat)
    (hfire : collapseSliceRun (some xs) (.one 0) (.one en) (.one ax) (.one 1) = .fire ())
    (hidx : pyIndex xs ax = some (.known d)) (hmax : en = int64Max → (d : Int) ≤ int64Max) :
    specSliceLen01 d en = d :=
  OV.Lemmas.C05Shape.collapse_slice_sound xs en ax d hfire hidx hmax

/-- **`no_op_static_scatter_nd`** (after commit 396bc06): the rule fires only with `reduction = none` … -/
theorem static_scatter_fires_only_reduction_none (red : Bool) (d u : Option Shape) (idx : Option (List (List Int)))
    (h : staticScatterRun red d u idx = .fire ()) : red = true := by
  unfold staticScatterRun at h
  cases red
  · simp at h
  · rfl

/-- … and then scattering `updates` over the full index range `[[0],…,[n-1]]` of a same-shaped `data` gives `updates`,
for every `n` and every row type. -/
theorem static_scatter_sound {ρ : Type} (data upd : List ρ) (h : data.length = upd.length) :
    specScatterRows (fun _ u => u) data (List.range upd.length) upd = upd :=
  scatter_full_range data upd h

/-- Documentation of finding C05-N4 (fixed): the pre-fix check did not look at `reduction`; with `add` the result is
`data + updates`; the rule now refuses. -/
theorem static_scatter_prefix_refuted :
    staticScatterRunPrefix (some [.known 3]) (some [.known 3]) (some [[0], [1], [2]]) = .fire () ∧
    specScatterRows (fun (a b : Int) => a + b) [1, 1, 1] [0, 1, 2] [5, 5, 5] ≠ [5, 5, 5] ∧
    staticScatterRun false (some [.known 3]) (some [.known 3]) (some [[0], [1], [2]]) = .nofire := by decide +kernel

end Shape

/-! ## Unit laws and the matcher's literal tolerance (carrier ℚ, exact arithmetic) -/
section Unit
open OV.C05.Unit

/-- `absR` of the model is the absolute value. -/
theorem absR_eq (q : Rat) : absR q = |q| := by
  unfold absR; split_ifs with hq
  · rw [abs_of_neg hq]
  · rw [abs_of_nonneg (not_lt.mp hq)]

/-- Since commit 6800bd1 an integer pattern literal is matched exactly: whenever the unit-law rule set fires, the constant
operand *is* the unit (0 resp. 1). -/
theorem unit_laws_fire_exact (p : Params) (h : p.check = true) : p.value = p.op.literal := by
  by_contra hv
  simp only [Params.check, isclose, intLiteralRelTol, intLiteralAbsTol, hv, if_false, zero_mul, absR_eq, abs_zero,
    abs_nonpos_iff, sub_eq_zero, Bool.and_eq_true, Bool.or_eq_true, decide_eq_true_eq, or_self] at h
  exact hv h.2.symm

/-- **`add_0` / `sub_0` / `mul_by_1` / `div_by_1`** (+ commuted forms; after commit 6800bd1): whenever the rule set fires and the
constant is a true constant, the matched node is the identity on every `x`.  **What this proves:** `p.value` is the compile-time
value the matcher read; the statement is `x op p.value = x`.  The model has no separate run-time value for the operand, so the
hypothesis `_hN1` is **not used by the proof** — it only records where "run-time operand = `p.value`" is true of the real code.  For an
initializer that is also a graph input (finding C05-N1, kept by the maintainers' own tests) the run-time operand may differ from
`p.value`; that is shown by the concrete witness `unit_default_input_refuted` and by the harness, not excluded by this theorem. -/
theorem unit_laws_sound_partial (p : Params) (hfire : p.check = true) (_hN1 : p.origin ≠ .inputWithDefault) (x : Rat) :
    p.op.apply x p.value = x := by
  rw [unit_laws_fire_exact p hfire]
  cases p.op <;> simp [Op.apply, Op.literal]

/-- The exactness is necessary, not merely sufficient: `x + c = x` for all `x` iff `c = 0` … -/
theorem add_identity_iff (c : Rat) : (∀ x : Rat, x + c = x) ↔ c = 0 := by
  constructor
  · intro h; have := h 0; simpa using this
  · intro h x; simp [h]

/-- … and `x * c = x` for all `x` iff `c = 1`. -/
theorem mul_identity_iff (c : Rat) : (∀ x : Rat, x * c = x) ↔ c = 1 := by
  constructor
  · intro h; have := h 1; simpa using this
  · intro h x; simp [h]

/-- Documentation of finding D3 (fixed): with the pre-fix literal tolerance the rules fired on `x + 1e-9` and `x * 1.000005`
(`0 + 1e-9 ≠ 0`, `1 * 1.000005 ≠ 1`); both are refused now. -/
theorem unit_laws_prefix_refuted :
    (Params.checkPrefix { op := .add, constOnLeft := false, origin := .initializer, rank := 0, value := 1 / 1000000000 }) = true ∧
    (Params.checkPrefix { op := .mul, constOnLeft := false, origin := .initializer, rank := 0, value := 1000005 / 1000000 }) = true ∧
    Op.apply .add 0 (1 / 1000000000) ≠ (0 : Rat) ∧ Op.apply .mul 1 (1000005 / 1000000) ≠ (1 : Rat) ∧
    (Params.check { op := .add, constOnLeft := false, origin := .initializer, rank := 0, value := 1 / 1000000000 }) = false ∧
    (Params.check { op := .mul, constOnLeft := false, origin := .initializer, rank := 0, value := 1000005 / 1000000 }) = false := by
  refine ⟨by decide +kernel, by decide +kernel, ?_, ?_, by decide +kernel, by decide +kernel⟩
  · norm_num [Op.apply]
  · norm_num [Op.apply]

/-- Finding C05-N1: the rule fires on `Add(x, z)` where `z` is an initializer *and* a graph input with default 0 (first conjunct:
the model's `check` accepts that origin — this is the content); the second conjunct (`x + w = x` fails for some `w`) is the
trivial arithmetic half of the witness. -/
theorem unit_default_input_refuted :
    (Params.check { op := .add, constOnLeft := false, origin := .inputWithDefault, rank := 0, value := 0 }) = true ∧
    ¬ (∀ w x : Rat, Op.apply .add x w = x) := by
  refine ⟨by decide +kernel, ?_⟩
  intro h
  have := h 3 0
  norm_num [Op.apply] at this

/-- The matcher never accepts a rank-≥1 constant or a value without `const_value` for these rules. -/
theorem unit_laws_need_scalar_constant (p : Params) (h : p.check = true) :
    p.rank = 0 ∧ p.origin ≠ .input := by
  unfold Params.check at h
  simp only [Bool.and_eq_true, beq_iff_eq] at h
  refine ⟨h.1.2, ?_⟩
  intro ho
  have := h.1.1.2
  rw [ho] at this
  exact absurd this (by decide +kernel)

/-- `remove_optional_bias_*`: when `check` passes every bias element is exactly 0, so adding it changes nothing. -/
theorem remove_optional_bias_sound (p : Bias) (h : p.check = true) (y : Rat) : ∀ b ∈ p.values, y + b = y := by
  unfold Bias.check at h
  simp only [Bool.and_eq_true, List.all_eq_true, beq_iff_eq] at h
  intro b hb
  rw [h.2 b hb]; simp

/-- `dropout_zero`: fires only for the attribute form with `ratio == 0.0`, a single input and an unused mask
(then Dropout in inference mode is the identity by the operator specification). -/
theorem dropout_zero_fires_only_on_zero_ratio (p : Dropout) (hz : p.zeroRule = true) (h : p.check = true) :
    p.ratioAttr = some 0 ∧ p.nInputs = 1 ∧ p.maskUsed = false := by
  unfold Dropout.check at h
  simp only [hz, if_true, Bool.and_eq_true, beq_iff_eq, Bool.not_eq_true'] at h
  exact ⟨h.2, h.1.1, h.1.2⟩

end Unit

/-! ## Casts -/
section Cast
open OV.C05.Linalg

/-- What the cast theorems assume about the runtime's `Cast` (A-op): casting to the same type is the identity. -/
structure CastSem (V : Type) where
  cast : Nat → Nat → V → V
  cast_same : ∀ t v, cast t t v = v

/-- `no_op_cast`: `check` passes only when the annotated source type equals `to`. -/
theorem no_op_cast_sound {V : Type} (S : CastSem V) (src dst : Nat) (h : noOpCastCheck (some src) dst = true) (v : V) :
    S.cast src dst v = v := by
  unfold noOpCastCheck at h
  simp only [beq_iff_eq, Option.some.injEq] at h
  rw [h]; exact S.cast_same dst v

/-- `no_op_cast` never fires when the source type is unknown. -/
theorem no_op_cast_needs_known_dtype (dst : Nat) : noOpCastCheck none dst = false := by
  unfold noOpCastCheck; simp

/-- **`cast_cast`** (after commit e86ba81) fires exactly when the source type is exactly representable in FLOAT and the second hop
is FLOAT→FLOAT16 or FLOAT→BFLOAT16; an unknown source type never fires. -/
theorem cast_cast_fires_iff (x : Option Nat) (t2 t3 : Nat) :
    castCastCheck x t2 t3 = true ↔
      (∃ t, x = some t ∧ t ∈ exactInFloat) ∧ (t2 = FLOAT ∧ (t3 = FLOAT16 ∨ t3 = BFLOAT16)) := by
  unfold castCastCheck castCastAllowed FLOAT FLOAT16 BFLOAT16
  cases x with
  | none => simp
  | some t =>
    simp only [Bool.and_eq_true, List.contains_iff_mem, List.mem_cons, List.mem_nil_iff, or_false, Prod.mk.injEq,
      Option.some.injEq, exists_eq_left']
    exact and_congr_right fun _ => by omega

/-- Rounding `n` to a multiple of `2^sh`, ties to even: the integer core of a float narrowing at a fixed exponent. -/
def roundAt (sh : Nat) (n : Nat) : Nat :=
  let q := n / 2 ^ sh
  let r := n % 2 ^ sh
  let half := 2 ^ sh / 2
  (if r > half ∨ (r = half ∧ q % 2 = 1) then q + 1 else q) * 2 ^ sh

/-- `cast_cast` (`Cast(Cast(x, FLOAT), FLOAT16) → Cast(x, FLOAT16)`): when the first hop is exact — which is what membership of
the source type in `exactInFloat` means, and what `check` now demands — dropping it changes nothing (integer rounding model). -/
theorem cast_cast_sound (sh1 sh2 n : Nat) (hexact : roundAt sh1 n = n) :
    roundAt sh2 (roundAt sh1 n) = roundAt sh2 n := by rw [hexact]

/-- Documentation of finding C05-N7 (fixed): for a DOUBLE source the first hop is not exact and rounding twice differs from
rounding once: `n = 2^30 + 2^19 + 1` (the double `1 + 2^-11 + 2^-30` scaled by `2^30`), FLOAT keeps 24 bits (`sh = 7`), FLOAT16 11
bits (`sh = 20`): twice → `2^30` (1.0), once → `2^30 + 2^20` (1.0009765625).  The pre-fix check passed; the rule now refuses DOUBLE
(and INT32/INT64/UINT32/UINT64) sources. -/
theorem cast_cast_prefix_refuted :
    castCastCheckPrefix FLOAT FLOAT16 = true ∧
    roundAt 20 (roundAt 7 (2 ^ 30 + 2 ^ 19 + 1)) = 2 ^ 30 ∧ roundAt 20 (2 ^ 30 + 2 ^ 19 + 1) = 2 ^ 30 + 2 ^ 20 ∧
    castCastCheck (some DOUBLE) FLOAT FLOAT16 = false ∧ castCastCheck (some 7) FLOAT FLOAT16 = false ∧
    castCastCheck (some FLOAT16) FLOAT FLOAT16 = true := by
  decide +kernel

end Cast

/-! ## Linear algebra and padding -/
section Linalg
open OV.C05.Linalg OV.C05.Shape OV.Lemmas.C05Algebra

/-- `matmul_add_to_gemm` and the three transposed variants, values: `Add(MatMul(A', B'), C) = Gemm(A, B, C; transA, transB)`
entrywise over any commutative ring, for every inner dimension (C already of shape `(M,N)`). -/
theorem matmul_add_to_gemm_sound {α : Type} [CommRing α] (K : Nat) (ta tb : Bool) (A B C : Nat → Nat → α) (i j : Nat) :
    mm K (if ta then tr A else A) (if tb then tr B else B) i j + C i j = gemm K ta tb 1 1 A B C i j := by
  unfold mm gemm tr
  cases ta <;> cases tb <;> simp

/-- **Shapes** (after commit be37f51): `Add` broadcasts `C` against `(M,N)` in both directions, `Gemm` only accepts a
`C` that broadcasts *to* `(M,N)`.  Whenever `check` passes, `Add`'s result has exactly the shape `(M,N)` Gemm produces —
for all `M`, `N` and every shape of `C`. -/
theorem matmul_add_to_gemm_shape_sound (ra rb : Option Nat) (m n : Nat) (c : List Nat)
    (h : matmulAddCheck ra rb m n (some c) = true) :
    specBroadcast c [m, n] = some [m, n] := by
  simp only [matmulAddCheck, cGuard, Bool.and_eq_true, decide_eq_true_eq] at h
  exact OV.Lemmas.C05Expand.specBroadcast_of_fits c [m, n] h.2.1 h.2.2

/-- The rule does not fire when `C`'s shape is unknown. -/
theorem matmul_add_to_gemm_needs_c_shape (ra rb : Option Nat) (m n : Nat) :
    matmulAddCheck ra rb m n none = false := by
  unfold matmulAddCheck cGuard; simp

/-- Documentation of finding D16b (fixed): the pre-fix `check` (ranks of A and B only) passed for `C : [5,2,4]`, whose
`Add` result `[5,2,4]` no Gemm produces; the rule now refuses it (and `C : [3,4]` with `M = 1`). -/
theorem matmul_add_to_gemm_prefix_refuted :
    matmulAddCheckPrefix (some 2) (some 2) = true ∧ specBroadcast [5, 2, 4] [2, 4] = some [5, 2, 4] ∧
    matmulAddCheck (some 2) (some 2) 2 4 (some [5, 2, 4]) = false ∧
    matmulAddCheck (some 2) (some 2) 1 4 (some [3, 4]) = false ∧
    matmulAddCheck (some 2) (some 2) 2 4 (some [4]) = true := by decide +kernel

/-- BatchNorm folding identity per output channel, for every inner dimension `K` over any field:
`((Σ w·x + b) − μ)·(γ/σ) + β = Σ (w·γ/σ)·x + ((b − μ)·γ/σ + β)` (`fuse_batchnorm_into_{conv,conv_transpose,gemm}`
with σ = sqrt(var+eps) computed once; Conv/ConvTranspose as a dot product per output position). -/
theorem batchnorm_fold_sound {α : Type} [Field α] (K : Nat) (w x : Nat → α) (b mu gamma sigma beta : α) :
    ((∑ k ∈ Finset.range K, w k * x k) + b - mu) * (gamma / sigma) + beta
      = (∑ k ∈ Finset.range K, (w k * (gamma / sigma)) * x k) + ((b - mu) * (gamma / sigma) + beta) := by
  rw [sum_scale]; ring

/-- **`fuse_batchnorm_into_*`** (after commit 621808b): the rules fire only outside training mode and, for Gemm, with `beta = 1` … -/
theorem batchnorm_fires_only_inference_beta_one (p : BatchNorm) (h : batchNormCheck p = true) :
    p.gemmBetaIsOne = true ∧ p.trainingMode = false := by
  unfold batchNormCheck batchNormHyp at h
  simp only [Bool.and_eq_true, Bool.not_eq_true'] at h
  exact ⟨h.1.1, h.1.2⟩

/-- … and then Gemm's `alpha` (kept) and `beta = 1` make the fold right for every `alpha`. -/
theorem batchnorm_gemm_sound {α : Type} [Field α] (dot b mu s beta' alpha : α) :
    (alpha * dot + 1 * b - mu) * s + beta' = alpha * (dot * s) + 1 * ((b - mu) * s + beta') := by ring

/-- Documentation of finding C05-N6 (fixed): with `beta = 1/2` the folded bias is scaled once too often; the pre-fix check
passed, the rule now refuses. -/
theorem batchnorm_gemm_prefix_refuted :
    ¬ (∀ (dot b mu s beta' alpha gb : Rat),
        (alpha * dot + gb * b - mu) * s + beta' = alpha * (dot * s) + gb * ((b - mu) * s + beta')) ∧
    batchNormCheckPrefix { inits := [⟨true, true, false⟩], sharedOutside := false, gemmBetaIsOne := false } = true ∧
    batchNormCheck { inits := [⟨true, true, false⟩], sharedOutside := false, gemmBetaIsOne := false } = false ∧
    batchNormCheck { inits := [⟨true, true, false⟩], sharedOutside := false, trainingMode := true } = false := by
  refine ⟨?_, by decide +kernel, by decide +kernel, by decide +kernel⟩
  intro h
  have := h 0 0 1 1 0 1 (1 / 2)
  norm_num at this

/-- `fuse_pad_into_conv`, values: every tap of the convolution reads the same element whether the zero padding was
materialised by `Pad` (then implicitly zero-extended) or given as Conv `pads` — for every signal, length, pad
amounts and integer position (1-D; N-d is the product of axes). -/
theorem pad_into_conv_taps {α : Type} [Zero α] (x : Int → α) (n pb pe : Nat) (i : Int) :
    ext 0 (n + pb + pe) (padded pb n x) i = ext 0 n x (i - pb) := by
  unfold ext padded ext
  by_cases h : 0 ≤ i ∧ i < ((n + pb + pe : Nat) : Int)
  · simp only [h, and_self, if_true]
  · simp only [h, if_false]
    have : ¬ (0 ≤ i - (pb : Int) ∧ i - (pb : Int) < (n : Int)) := by
      intro hh; apply h; constructor <;> push_cast <;> omega
    simp only [this, if_false]

/-- `fuse_pad_into_conv`, output length: adding the Pad amounts to the Conv pads gives the same length for every
kernel, stride and **dilation**. -/
theorem pad_into_conv_out_len (x k s d p0 p1 pb pe : Nat) :
    convOutLen (x + pb + pe) k s d p0 p1 = convOutLen x k s d (p0 + pb) (p1 + pe) := by
  unfold convOutLen
  have : x + pb + pe + p0 + p1 = x + (p0 + pb) + (p1 + pe) := by omega
  simp only [this]

/-- `fill_pads_with_axes` on the default axes list is the pads list itself (first half begins, second half ends). -/
theorem fill_pads_default_axes_example :
    fillPadsWithAxes [0, 0, 1, 2, 0, 0, 3, 4] [0, 1, 2, 3] 4 = some [0, 0, 1, 2, 0, 0, 3, 4] ∧
    fillPadsWithAxes [1, 2, 3, 4] [2, 3] 4 = some [0, 0, 1, 2, 0, 0, 3, 4] := by decide +kernel

/-- **`fuse_pad_into_conv_integer`** (after commit 470d8b0): the rule fires only when `x_zero_point` is absent (default 0)
or a constant equal to 0 … -/
theorem pad_into_conv_integer_fires_only_zero_point (p : PadConv) (pads : List Int) (h : padConvRun p = .fire pads) :
    p.zeroPoint = .absent ∨ p.zeroPoint = .const 0 := by
  unfold padConvRun at h
  split at h
  · split at h <;> [skip; cases h]
    rename_i hz
    unfold PadConv.zeroPointOk at hz
    split at hz
    · left; assumption
    · right; rw [‹p.zeroPoint = _›, beq_iff_eq.mp hz]
    · cases hz
  · exact absurd h (‹∀ pads, padConvRunBase p = .fire pads → False› pads)

/-- … and then ConvInteger's taps `(value − 0)` read the same elements whether the zero padding was materialised by `Pad`
or given as `pads` (fill value = zero point = 0), for every signal, length, pad amounts and position. -/
theorem pad_into_conv_integer_sound (x : Int → Int) (n pb pe : Nat) (i : Int) :
    ext 0 (n + pb + pe) (padded pb n x) i - 0 = ext 0 n x (i - pb) - 0 := by
  rw [pad_into_conv_taps]

/-- Documentation of finding D16a (fixed): with zero point 5 and one element padded on the left, the border tap reads
`0 − 5` after `Pad` but `5 − 5` when ConvInteger pads itself; the pre-fix rule (`padConvRunBase`) fired, the rule now refuses. -/
theorem pad_into_conv_integer_prefix_refuted :
    ¬ (∀ (z : Int) (x : Int → Int) (n pb pe : Nat) (i : Int),
        ext z (n + pb + pe) (padded pb n x) i - z = ext z n x (i - pb) - z) ∧
    padConvRunBase { xRank := some 3, mode := none, pads := .const [0, 0, 1, 0, 0, 1], constantValue := .absent, axes := .absent, autoPad := "NOTSET", convPads := none, zeroPoint := .const 5 } = .fire [1, 1] ∧
    padConvRun { xRank := some 3, mode := none, pads := .const [0, 0, 1, 0, 0, 1], constantValue := .absent, axes := .absent, autoPad := "NOTSET", convPads := none, zeroPoint := .const 5 } = .nofire := by
  refine ⟨?_, by decide +kernel, by decide +kernel⟩
  intro h
  have := h 5 (fun _ => 7) 1 1 0 0
  revert this; unfold ext padded ext; decide +kernel

/-- **`normalize_pad_format`** SAME_UPPER / SAME_LOWER on one axis (after commit 6841282: dilated kernel extent), for every
kernel size, stride and **dilation**: the explicit pads the rule computes from the truthful output annotation
`y = ceil(x/s)` reproduce that output length. -/
theorem normalize_pad_same_sound (upper : Bool) (x k s d : Nat) (hx : 0 < x) (hs : 0 < s) :
    ∃ pb pe, computeSamePads upper [x] [(x + s - 1) / s] (dilatedExtents [k] [d]) [s] = [pb, pe] ∧
      convOutLen x k s d pb pe = (x + s - 1) / s := by
  cases upper <;> exact ⟨_, _, rfl, same_len x k s d hx hs _ _ (by simp only [Bool.false_eq_true, if_false, if_true]; omega)⟩

/-- Documentation of finding D16c1 (fixed): with the raw kernel size and dilation 2 the pads were wrong
(`x=7,k=3,s=1`: `[1,1]` give length 5, not 7); with the dilated extent they are `[2,2]`. -/
theorem normalize_pad_prefix_refuted :
    computeSamePads true [7] [7] [3] [1] = [1, 1] ∧ convOutLen 7 3 1 2 1 1 = 5 ∧
    computeSamePads true [7] [7] (dilatedExtents [3] [2]) [1] = [2, 2] ∧ convOutLen 7 3 1 2 2 2 = 7 := by
  decide +kernel

/-- Expand-before-binary-op, strategy 1 (after commit 48b48d2): whenever the guard passes, the Expand target is not longer
than both operands, so removing the Expand cannot change the rank of the result. -/
theorem expand_removable_keeps_rank (xs ys : Shape) (e : List Int)
    (h : expandRemovableConst (some xs) (some ys) e = true) : e.length ≤ max xs.length ys.length := by
  unfold expandRemovableConst expandRankChanges at h
  simp only [Bool.and_eq_true, Bool.not_eq_true', decide_eq_false_iff_not, not_lt] at h
  exact h.1

/-- Documentation of finding C05-N3a (fixed): the pre-fix guard accepted `Add(Expand(x:[3],[1,3]), y:[3])`, whose result
has rank 2 while `Add(x, y)` has rank 1; the guard now refuses it. -/
theorem expand_removable_prefix_rank_refuted :
    expandRemovableConstPrefix (some [.known 3]) (some [.known 3]) [1, 3] = true ∧
    (specBroadcast [3] [1, 3]).bind (specBroadcast · [3]) = some [1, 3] ∧ specBroadcast [3] [3] = some [3] ∧
    expandRemovableConst (some [.known 3]) (some [.known 3]) [1, 3] = false := by
  decide +kernel

end Linalg

/-! ## Hard-swish, conv∘affine, cast∘ConstantOfShape, collapse_slice2, dynamic scatter, slice_split, MatMul∘Reshape,
gemm_to_matmul_add -/
section More
open OV.C05.More OV.C05.Unit OV.C05.Shape OV.Lemmas.C05Algebra

section OrderedField
variable {α : Type} [Field α] [LinearOrder α] [IsStrictOrderedRing α]

/-- ONNX `HardSigmoid(alpha, beta)`. -/
def hardSigmoid (a b x : α) : α := max 0 (min 1 (a * x + b))

/-- `HardSigmoidFusion` with the exact constants: `Clip(x + 3, 0, 6) / 6 = HardSigmoid(1/6, 1/2)(x)` over every
linearly ordered field. -/
theorem hardsigmoid_identity (x : α) : min (max (x + 3) 0) 6 / 6 = hardSigmoid (1 / 6) (1 / 2) x := by
  have h6 : (0 : α) ≤ 6 := by norm_num
  -- dividing by 6 > 0 commutes with min and max; what is left, `min (max y 0) 1 = max 0 (min 1 y)`, holds because 0 ≤ 1
  rw [hardSigmoid, ← min_div_div_right h6, ← max_div_div_right h6, zero_div, div_self (by norm_num : (6 : α) ≠ 0),
    show (1 : α) / 6 * x + 1 / 2 = (x + 3) / 6 by ring, max_min_distrib_left, max_eq_right zero_le_one,
    min_comm, max_comm]

/-- `HardSwishFusion` (both `Mul` operand orders) and `HardSwishFusionFromHardSigmoid`:
`Clip(x + 3, 0, 6) * x / 6 = x * HardSigmoid(1/6, 1/2)(x) = HardSwish(x)`. -/
theorem hardswish_identity (x : α) : min (max (x + 3) 0) 6 * x / 6 = x * hardSigmoid (1 / 6) (1 / 2) x := by
  rw [← hardsigmoid_identity]; ring

end OrderedField

/-- The matched pipeline on ℚ with the constants the match binds. -/
def HardSig.lhs (cmin cmax bias div x : Rat) : Rat := min (max (x + bias) cmin) cmax / div

/-- **hard-sigmoid / hard-swish fusions** (after commit 9b9326e: `_HardSigmoidFusionBase.check` compares exactly): whenever
`check` passes, the matched pipeline `Clip(x + bias, cmin, cmax) / div` with the constants the match binds equals
`HardSigmoid(1/6, 1/2)(x)` for every `x` (and `· * x` gives HardSwish by `hardswish_identity`). -/
theorem hardsigmoid_fusion_sound (p : HardSig) (h : p.check = true) (x : Rat) :
    ∃ cmin cmax bias div, p.clipMin = some cmin ∧ p.clipMax = some cmax ∧ p.bias = some bias ∧ p.divisor = some div ∧
      HardSig.lhs cmin cmax bias div x = hardSigmoid (1 / 6) (1 / 2) x := by
  unfold HardSig.check at h
  simp only [Bool.and_eq_true, beq_iff_eq] at h
  exact ⟨0, 6, 3, 6, h.1.1.1, h.1.1.2, h.1.2, h.2, hardsigmoid_identity x⟩

/-- Documentation of finding C05-N8 (fixed): the pre-fix check (`rel_tol = 1e-4`) passed for `bias = 3.0002`, and then
`Clip(0 + 3.0002, 0, 6)/6 ≠ HardSigmoid(1/6,1/2)(0) = 1/2`; the check now refuses it. -/
theorem hardsigmoid_fusion_prefix_refuted :
    (HardSig.checkPrefix { clipMin := some 0, clipMax := some 6, bias := some (30002 / 10000), divisor := some 6 }) = true ∧
    HardSig.lhs 0 6 (30002 / 10000) 6 0 ≠ hardSigmoid (1 / 6) (1 / 2) (0 : Rat) ∧
    (HardSig.check { clipMin := some 0, clipMax := some 6, bias := some (30002 / 10000), divisor := some 6 }) = false := by
  refine ⟨by decide +kernel, ?_, by decide +kernel⟩
  unfold HardSig.lhs hardSigmoid
  norm_num [max_def, min_def]

/-- (pre-fix tolerance test) the zero lower bound could never be approximate: `isclose(v, 0.0, rel_tol=1e-4)` has `abs_tol = 0`. -/
theorem hardsigmoid_clip_min_exact (v : Rat) (h : closeTo (some v) 0 = true) : v = 0 := by
  by_contra hv
  have hpos : 0 < |v| := abs_pos.mpr hv
  simp only [closeTo, isclose, hv, if_false, mul_zero, zero_sub, absR_eq, abs_zero, abs_neg, abs_mul,
    Bool.or_eq_true, decide_eq_true_eq] at h
  rw [abs_of_pos (by norm_num : (0 : Rat) < 1 / 10000)] at h
  rcases h with (h | h) | h <;> linarith

/-- `conv_affine_fusion`: `(Σ w·x + b)·s + o = Σ (w·s)·x + (b·s + o)` per output position, any kernel size, any commutative ring. -/
theorem conv_affine_sound {α : Type} [CommRing α] (K : Nat) (w x : Nat → α) (b s o : α) :
    ((∑ k ∈ Finset.range K, w k * x k) + b) * s + o = (∑ k ∈ Finset.range K, (w k * s) * x k) + (b * s + o) := by
  rw [sum_scale]; ring

/-- `affine_conv_fusion` (Conv without padding — the pattern pins `pads = [0,0,0,0]`): `Σ w·(x·s + o) + b = Σ (w·s)·x + (b + Σ w·o)`. -/
theorem affine_conv_sound {α : Type} [CommRing α] (K : Nat) (w x : Nat → α) (b s o : α) :
    (∑ k ∈ Finset.range K, w k * (x k * s + o)) + b
      = (∑ k ∈ Finset.range K, (w k * s) * x k) + (b + ∑ k ∈ Finset.range K, w k * o) := by
  have : ∀ k, w k * (x k * s + o) = (w k * s) * x k + w k * o := by intro k; ring
  simp only [this, Finset.sum_add_distrib]; ring

/-- Both conv∘affine rules need constant `w`, `b` and one-element `scale`, `offset` (and `affine_conv` the zero-pads attribute). -/
theorem conv_affine_guards (p : ConvAffine) (h : p.check = true) :
    p.wConst = true ∧ p.bConst = true ∧ p.scaleSingleton = true ∧ p.offsetSingleton = true ∧ p.padsZeroAttr = true := by
  unfold ConvAffine.check at h
  simp only [Bool.and_eq_true] at h
  exact ⟨h.1.1.1.1, h.1.1.1.2, h.1.1.2, h.1.2, h.2⟩

/-- `cast_constant_of_shape` (+ `_without_value`): casting a constant-filled tensor elementwise equals filling with the cast
value, for every size and every elementwise `cast`. -/
theorem cast_constant_of_shape_sound {V W : Type} (cast : V → W) (n : Nat) (v : V) :
    (List.replicate n v).map cast = List.replicate n (cast v) := List.map_replicate

/-- `collapse_slice2`: a step-1 Slice (any start/end, negative or out of range) whose result has as many elements along
the axis as its input is the identity along that axis. -/
theorem collapse_slice2_sound {β : Type} (l : List β) (st en : Int)
    (h : (specSliceStep1 l st en).length = l.length) : specSliceStep1 l st en = l := by
  simp only [specSliceStep1] at h ⊢
  simp only [List.length_take, List.length_drop] at h
  generalize clampI (if st < 0 then st + ↑l.length else st) l.length = s at *
  generalize clampI (if en < 0 then en + ↑l.length else en) l.length = e at *
  by_cases hl : l.length = 0
  · have : l = [] := List.length_eq_zero_iff.mp hl
    subst this; simp
  · have hs : s = 0 := by omega
    subst hs
    simp only [List.drop_zero, Nat.sub_zero] at h ⊢
    apply List.take_of_length_le; omega

/-- … and the rule only fires when every step is the constant 1 and the two annotated shapes agree. -/
theorem collapse_slice2_guards (d o : Option Shape) (steps : Option (List Int)) (h : collapseSlice2Check d o steps = true) :
    (∃ l, steps = some l ∧ ∀ s ∈ l, s = 1) ∧ sameShape d o = true := by
  unfold collapseSlice2Check at h
  split at h <;> [skip; cases h]
  rw [Bool.and_eq_true] at h
  refine ⟨?_, h.2⟩
  have h1 := h.1
  split at h1 <;> [skip; cases h1]
  exact ⟨_, rfl, by simpa using h1⟩

/-- `no_op_dynamic_scatter_nd`: when `check` passes, the updated axis' dim of `data` and the leading dim of the scattered
tensor are the same dim … -/
theorem dynamic_scatter_fire_same_dim (ax : Int) (ds ts : Shape)
    (h : dynScatterRun (some ax) (some ds) (some ts) = .fire ()) :
    ∃ d t0 rest, pyIndex ds ax = some d ∧ ts = t0 :: rest ∧ sameDim d t0 = true := by
  simp only [dynScatterRun] at h
  split at h <;> try cases h
  split at h <;> try cases h
  split at h <;> try cases h
  exact ⟨_, _, _, ‹pyIndex ds ax = _›, Option.some.inj ‹some ts = _›, ‹sameDim _ _ = true›⟩

/-- … so `Range(0, dim)` enumerates every leading index and `ScatterND(·, reduction="none")` (pinned by the pattern) returns
`updates`, for every number of rows. -/
theorem dynamic_scatter_sound {ρ : Type} (tdata upd : List ρ) (h : tdata.length = upd.length) :
    specScatterRows (fun _ u => u) tdata (List.range upd.length) upd = upd :=
  OV.Lemmas.C05Shape.scatter_full_range tdata upd h

/-- **`slice_split`** (after commit 462c374): when `check` passes the last dim is even and the opset is ≥ 18 … -/
theorem slice_split_check_even (p : SliceSplit) (h : p.check = true) :
    (∃ d, p.xShape.bind List.getLast? = some (.known d) ∧ d % 2 = 0) ∧ p.opsetGe18 = true := by
  unfold SliceSplit.check at h
  simp only [Bool.and_eq_true] at h
  refine ⟨?_, h.2⟩
  have h2 := h.1.2
  split at h2
  · rename_i d hd
    exact ⟨d, hd, by simpa using h2⟩
  · exact absurd h2 (by simp)

/-- … and for an even `d` the two matched slices `[0, d/2)`, `[d/2, d)` have exactly the chunk sizes of `Split(num_outputs=2)`. -/
theorem slice_split_sound (d : Nat) (h : d % 2 = 0) : sliceHalves d = specSplit2 d := by
  rw [sliceHalves, specSplit2, show (d + 1) / 2 = d / 2 by omega]

/-- Documentation of findings C05-N10 / C05-N9 (fixed): for every odd `d` the sizes differ; the pre-fix check passed for
`d = 5`, the rule now refuses (and refuses below opset 18). -/
theorem slice_split_prefix_refuted :
    (∀ d : Nat, d % 2 = 1 → sliceHalves d ≠ specSplit2 d) ∧
    (SliceSplit.checkPrefix { xShape := some [.known 2, .known 5], axes0 := some [1], axes1 := some [1], begin0 := some [0], end0 := some [2], begin1 := some [2], end1 := some [5] }) = true ∧
    (SliceSplit.check { xShape := some [.known 2, .known 5], axes0 := some [1], axes1 := some [1], begin0 := some [0], end0 := some [2], begin1 := some [2], end1 := some [5] }) = false ∧
    (SliceSplit.check { xShape := some [.known 2, .known 4], axes0 := some [1], axes1 := some [1], begin0 := some [0], end0 := some [2], begin1 := some [2], end1 := some [4], opsetGe18 := false }) = false ∧
    (SliceSplit.check { xShape := some [.known 2, .known 4], axes0 := some [1], axes1 := some [1], begin0 := some [0], end0 := some [2], begin1 := some [2], end1 := some [4] }) = true := by
  refine ⟨?_, by decide +kernel, by decide +kernel, by decide +kernel, by decide +kernel⟩
  intro d h
  unfold sliceHalves specSplit2; intro hh
  have := congrArg Prod.fst hh
  simp at this; omega

/-- **`two_reshapes_matmul_reshape` / `one_reshape_matmul_reshape` / `gemm_to_matmul_add`, shape arithmetic**
(`check_if_not_need_reshape`): for operands of **all ranks** (1-D promotion on either side, batch broadcasting, either
operand longer), when the function's predicted `broadcast_matmul_output_shape` is `out` — which `check` then requires to
equal the constant `shape_c` — `MatMul(a, b)` on the *un-reshaped* inputs has exactly that shape.  Hypotheses the proof
forces (both implied by a valid original model, both shown necessary below): the inner dims agree, and no aligned batch
pair is (a: 1, b: 0). -/
theorem matmul_reshape_shape_sound (a b out : List Nat) (h : matmulOutShape a b = some out)
    (hinner : a.getLastD 0 = (if b.length == 1 then b.getLastD 0 else b.getD (b.length - 2) 0))
    (hnz : ∀ p ∈ List.zip (a.take (a.length - 2)).reverse (b.take (b.length - 2)).reverse, ¬ (p.1 = 1 ∧ p.2 = 0)) :
    specMatMulShape a b = some out :=
  OV.Lemmas.C05Matmul.matmul_out_shape_sound a b out h hinner hnz

/-- The rule's whole `check` ties `shape_c` to that prediction (static shapes only; symbolic dims are refused). -/
theorem matmul_reshape_check_shape (p : MatmulReshape) (h : matmulReshapeCheck p = true) :
    ∃ an bn out c, p.a.bind allKnown = some an ∧ p.b.bind allKnown = some bn ∧ matmulOutShape an bn = some out ∧
      p.shapeC = some c ∧ c = out.map Int.ofNat := by
  unfold matmulReshapeCheck at h
  split at h; · cases h
  split at h; · cases h
  split at h <;> [skip; cases h]
  split at h <;> [skip; cases h]
  split at h <;> [skip; cases h]
  refine ⟨_, _, _, _, ?_, ?_, ‹matmulOutShape _ _ = _›, ‹p.shapeC = _›, beq_iff_eq.mp h⟩
  · rw [‹p.a = _›]; assumption
  · rw [‹p.b = _›]; assumption

/-- Both hypotheses of `matmul_reshape_shape_sound` are necessary (the guard tests inner dims and batch dims with the
same one-sided `da ∈ {1, db}` and takes `max` of a batch pair). -/
theorem matmul_reshape_shape_hyps_needed :
    (matmulOutShape [2, 1] [5, 3] = some [2, 3] ∧ specMatMulShape [2, 1] [5, 3] = none) ∧
    (matmulOutShape [1, 3, 4] [0, 4, 5] = some [1, 3, 5] ∧ specMatMulShape [1, 3, 4] [0, 4, 5] = some [0, 3, 5]) := by
  decide +kernel

/-- **`gemm_to_matmul_add`** (after commit ae98696): when `check` passes, `alpha = beta = 1`, no operand is transposed, and the
shape test holds … -/
theorem gemm_to_matmul_add_check (p : GemmToMatmul) (h : gemmToMatmulCheck p = true) :
    p.alphaAttr = some 1 ∧ p.betaAttr = some 1 ∧ p.transA = false ∧ p.transB = false ∧ matmulReshapeCheck p.core = true := by
  unfold gemmToMatmulCheck gemmToMatmulHyp at h
  simp only [Bool.and_eq_true, beq_iff_eq, Bool.not_eq_true'] at h
  exact ⟨h.1.1.1, h.1.1.2, h.1.2.1, h.1.2.2, h.2⟩

/-- … and then `Gemm(A, B, C; alpha=1, beta=1) = MatMul(A, B) + C` entrywise, for every inner dimension over any commutative ring. -/
theorem gemm_to_matmul_add_sound {α : Type} [CommRing α] (K : Nat) (A B C : Nat → Nat → α) (i j : Nat) :
    gemm K false false 1 1 A B C i j = mm K A B i j + C i j :=
  (matmul_add_to_gemm_sound K false false A B C i j).symm

/-- Documentation of finding C05-N5 (fixed): the pre-fix check passed with `transB = 1`, and `Gemm(A, B, C; transB) ≠ MatMul(A, B) + C`
already for `A = B = [[1,2],[3,4]]`, `C = 0` at entry (0,0) (`5` vs `7`); the rule now refuses. -/
theorem gemm_to_matmul_add_prefix_refuted :
    gemmToMatmulCheckPrefix { core := { a := some [.known 2, .known 2], b := some [.known 2, .known 2], shapeC := some [2, 2] }, alphaAttr := some 1, betaAttr := some 1, transB := true } = true ∧
    gemmToMatmulCheck { core := { a := some [.known 2, .known 2], b := some [.known 2, .known 2], shapeC := some [2, 2] }, alphaAttr := some 1, betaAttr := some 1, transB := true } = false ∧
    gemm 2 false true (1 : Int) 1 (fun i j => 2 * i + j + 1) (fun i j => 2 * i + j + 1) (fun _ _ => 0) 0 0 ≠
      mm 2 (fun i j => (2 * i + j + 1 : Int)) (fun i j => 2 * i + j + 1) 0 0 + 0 := by
  refine ⟨by decide +kernel, by decide +kernel, ?_⟩
  unfold gemm mm
  simp [Finset.sum_range_succ]

end More

/-! ## Expand before a broadcasting binary op (37 rule objects): shapes for all three strategies, values for strategy 1 -/
section ExpandBinary
open OV.C05.Linalg OV.C05.Shape OV.Lemmas.C05Expand

/-- **`expand_before_binary_op_rules` — all three strategies, symbolic annotations, every valuation σ.**  The rule objects
share `_check_expand_removable`; its one restatement is `OV.C09.expandRemovable` (strategy 1: constant target; 2: annotation of the
Expand output; 3: annotation of the binary op's output), which C05's driver runs for every generated host (constant and
run-time targets, symbolic dims) against the real rules.  Whenever a rule of the set fires (`expandRuleFires`: the verdict is
removable and the rule object exists — no ExpandFirst for PRelu), then for **every** valuation `σ` of the symbolic dims under
which the annotations are truthful, and every run-time target `le` (equal to the constant when there is one): if the original
`Op(Expand(x, le), y)` is valid with result shape `lout`, so is `Op(x, y)`, with the same result shape.  Proved by C09
(`OV.Props.C09.expand_removable_sound`), imported, not restated.  **Scope: shapes only** (validity and result shape).  The element
values are covered by `expand_before_binary_value_sound` below, which is stated on C05's own strategy-1 model (constant target,
static annotations) only; for strategies 2/3 and symbolic dims equality of values rests on the numeric oracle.  One theorem serves
all 37 `expand_before_binary_op_rules[i]` rule objects. -/
theorem expand_before_binary_sound (op : String) (side : Nat) (x y : OV.C09.Shape) (const : Option (List Int))
    (eOut bOut : Option OV.C09.Shape)
    (hfire : OV.C09.expandRuleFires op side true (OV.C09.expandRemovable (some x) (some y) const eOut bOut) = true)
    (σ : String → Nat) (lx ly le lE lout : List Int) (hx : OV.C09.Admits σ x lx) (hy : OV.C09.Admits σ y ly)
    (hconst : ∀ c, const = some c → le = c)
    (hexp : OV.C09.broadcast lx le = some lE) (hres : OV.C09.broadcast lE ly = some lout)
    (hE : ∀ E, const = none → eOut = some E → OV.C09.Admits σ E lE)
    (hO : ∀ O, const = none → eOut = none → bOut = some O → OV.C09.Admits σ O lout) :
    OV.C09.broadcast lx ly = some lout := by
  have hrem : (OV.C09.expandRemovable (some x) (some y) const eOut bOut).removable = true := by
    unfold OV.C09.expandRuleFires at hfire
    simp only [Bool.and_eq_true] at hfire
    exact hfire.1
  exact OV.Props.C09.expand_removable_sound x y const eOut bOut hrem σ lx ly le lE lout hx hy hconst hexp hres hE hO

/-- No `ExpandFirst` rule exists for PRelu (commit dd5f7df): the exported rule set never removes an Expand on PRelu's X. -/
theorem expand_before_binary_no_prelu_first (v : OV.C09.ExpandVerdict) :
    OV.C09.expandRuleFires "PRelu" 0 true v = false := by
  unfold OV.C09.expandRuleFires; simp

/-- Static instance on C05's own strategy-1 model (the one the element-level theorem below is stated on; the driver checks on every
constant-target case that it agrees with `OV.C09.expandRemovable`): for all ranks and dimension sizes (0 and 1 included), when
the guard passes and the original `Op(Expand(x, e), y)` is valid with result shape `r`, the rewritten `Op(x, y)` is valid with the
same result shape. -/
theorem expand_before_binary_static_shape_sound (x y : List Nat) (e : List Int) (t r : List Nat)
    (hguard : expandRemovableConst (some (x.map Dim.known)) (some (y.map Dim.known)) e = true)
    (ht : specBroadcast x (e.map Int.toNat) = some t) (hr : specBroadcast t y = some r) :
    specBroadcast x y = some r :=
  expand_removal_shape_sound x y e (e.map Int.toNat) t r hguard (guard_nonneg x y e hguard) ht hr

/-- … and conversely the original is valid whenever the rewritten op is (no failure is masked, none introduced). -/
theorem expand_before_binary_shape_iff (x y : List Nat) (e : List Int) (en : List Nat) (r : List Nat)
    (hguard : expandRemovableConst (some (x.map Dim.known)) (some (y.map Dim.known)) e = true) (he : e = en.map Int.ofNat) :
    (∃ t, specBroadcast x en = some t ∧ specBroadcast t y = some r) ↔ specBroadcast x y = some r := by
  constructor
  · rintro ⟨t, ht, hr⟩
    exact expand_removal_shape_sound x y e en t r hguard he ht hr
  · intro hr
    obtain ⟨t, ht⟩ := expand_valid_of_rewritten_valid x y e en r hguard he hr
    exact ⟨t, ht, expand_removal_shape_complete x y e en t r hguard he ht hr⟩

/-- **values**: at every output coordinate, `Op(Expand(X, e), Y)` and `Op(X, Y)` read the same elements of `X` and `Y`
(tensors as functions of right-aligned coordinates, broadcasting = "coordinate 0 on a size-1 axis"), for every elementwise `f`.
Strategy 1 with static annotations only (C05's own model `expandRemovableConst`), pointwise per output coordinate. -/
theorem expand_before_binary_value_sound {α : Type} (f : α → α → α) (x y en t : List Nat)
    (ht : specBroadcast x en = some t) (X Y : (Nat → Nat) → α) :
    binopT f t y (expandT x X) Y = binopT f x y X Y := by
  funext c
  simp only [binopT, expandT, expand_index_compose x en t ht]

/-- The guard alone does not make the Expand valid (x=[2], e=[3]) — which is why validity of the original is a hypothesis. -/
theorem expand_guard_does_not_validate_expand :
    expandRemovableConst (some [.known 2]) (some [.known 3]) [3] = true ∧ specBroadcast [2] [3] = none := by
  decide +kernel

end ExpandBinary

/-! ## Rules that cannot fire on a valid model / thin fusion algebra -/
section Thin
open OV.C05.Unit OV.C05.More

/-- `dropout_inference`: the pattern asks for an **attribute** `training_mode == False`; ONNX `Dropout` has no such attribute
at any opset (it is an input from opset 12), so the rule fires only on nodes carrying that non-standard attribute with value 0,
a single input and an unused mask. -/
theorem dropout_inference_needs_training_mode_attribute (p : Dropout) (hz : p.zeroRule = false) (h : p.check = true) :
    p.trainingModeAttr = some 0 ∧ p.nInputs = 1 ∧ p.maskUsed = false := by
  unfold Dropout.check at h
  simp only [hz, Bool.false_eq_true, if_false, Bool.and_eq_true, beq_iff_eq, Bool.not_eq_true'] at h
  exact ⟨h.2, h.1.1, h.1.2⟩

/-- Layer-norm / RMS-norm fusions, the two alternatives of the pattern over any field: `d * (1/s) = d / s` (Reciprocal+Mul vs
Div) and `d ^ 2 = d * d` (Pow vs Mul) — the rest of the pattern is the operator's defining formula. -/
theorem norm_pattern_alternatives {α : Type} [Field α] (d s : α) : d * s⁻¹ = d / s ∧ d ^ 2 = d * d := by
  constructor
  · rw [div_eq_mul_inv]
  · ring

/-- `LayerNormFusion.check` accepts only FLOAT / DOUBLE inputs with a one-element constant epsilon. -/
theorem layer_norm_check_types (dt : Option Nat) (eps : Bool) (h : layerNormCheck dt eps = true) :
    (dt = some 1 ∨ dt = some 11) ∧ eps = true := by
  unfold layerNormCheck layerNormComputeTypes at h
  simp only [Bool.and_eq_true] at h
  refine ⟨?_, h.2⟩
  cases dt with
  | none => exact absurd h.1 (by simp)
  | some t =>
    have := h.1
    simp only [List.contains_cons, List.contains_nil, Bool.or_false, Bool.or_eq_true, beq_iff_eq] at this
    rcases this with h1 | h1 <;> simp [h1]

end Thin

/-! ## Layer-norm / RMS-norm fusions (`rules/fusion`) -/
section NormFusion
open OV.C05.More OV.C05.Shape OV.Lemmas.C05Algebra

/-- **`LayerNormFusion`**, values: for every row length, every epsilon and scale, over any field with any square-root function,
all four shapes of the matched sub-graph (`Mul(d,d)` / `Pow(d,2)`, `Mul(d, Reciprocal(std))` / `Div(d, std)`) compute exactly
`LayerNormalization(x, scale, axis=-1, epsilon)`.  *Near-definitional*: both sides are the model's own transcriptions
(`layerNormPattern` vs `layerNormSpec`) and the proof only folds `d * d` into `d ^ 2` and `d * s⁻¹` into `d / s` — it shows the four syntactic variants agree
per row element; that the transcriptions are the ONNX operators is the model/implementation tie + numeric oracle, not this theorem. -/
theorem layer_norm_fusion_sound {α : Type} [Field α] (sqrtf : α → α) (usePow useDiv : Bool) (n : Nat) (eps : α)
    (scale x : Nat → α) (i : Nat) :
    layerNormPattern sqrtf usePow useDiv n eps scale x i = layerNormSpec sqrtf n eps scale x i := by
  cases usePow <;> cases useDiv <;>
    simp only [layerNormPattern, layerNormSpec, Bool.false_eq_true, if_false, if_true, ← pow_two, ← div_eq_mul_inv]

/-- **`LayerNormBiasFusion`**: `LayerNormalization(x, scale) + bias` is `LayerNormalization(x, scale, bias)` by the operator's
definition (`Y = normalized * scale + B`); the rule copies the node's attributes and output count.  *Definitional* (`rfl`): it
records the operator definition used, it is not evidence about the code. -/
theorem layer_norm_bias_fusion_sound {α : Type} [Field α] (sqrtf : α → α) (n : Nat) (eps : α) (scale bias x : Nat → α) (i : Nat) :
    layerNormSpec sqrtf n eps scale x i + bias i =
      (x i - meanF n x) / sqrtf (meanF n (fun k => (x k - meanF n x) ^ 2) + eps) * scale i + bias i := rfl

/-- **`RmsNormFusion`** (both operand orders of the final `Mul`): the matched sub-graph computes `RMSNormalization(x, scale, axis=-1, epsilon)`.
*Near-definitional* like `layer_norm_fusion_sound` (per row element, over the model's transcriptions). -/
theorem rms_norm_fusion_sound {α : Type} [Field α] (sqrtf : α → α) (scaleFirst : Bool) (n : Nat) (eps : α)
    (scale x : Nat → α) (i : Nat) :
    rmsNormPattern sqrtf scaleFirst n eps scale x i = rmsNormSpec sqrtf n eps scale x i := by
  cases scaleFirst <;>
    simp only [rmsNormPattern, rmsNormSpec, Bool.false_eq_true, if_false, if_true, ← div_eq_mul_inv, mul_comm (scale i)]

/-- What the checks establish when they pass: layer-norm only for FLOAT/DOUBLE inputs with a one-element epsilon and
`stash_type = x.dtype`; rms-norm only for float inputs/scales, a float one-element epsilon and a FLOAT/DOUBLE stash type. -/
theorem norm_fusion_check (p : NormFusion) (r : NormRepl) (h : p.run = .fire r) :
    p.rankOk = true ∧
    (p.kind = .layerNorm → p.epsSingleton = true ∧ r.stashType = p.xDtype ∧ dtypeIn layerNormComputeTypes p.xDtype = true) ∧
    (p.kind = .rmsNorm → p.epsSingleton = true ∧ p.epsIsFloat = true ∧ r.stashType = p.rmsStash ∧
      dtypeIn layerNormComputeTypes r.stashType = true ∧ dtypeIn floatTypes p.xDtype = true ∧ dtypeIn floatTypes p.scaleDtype = true) := by
  unfold NormFusion.run at h
  split at h <;> [skip; cases h]
  rename_i hr
  unfold NormFusion.runPrefix at h
  refine ⟨hr, fun hk => ?_, fun hk => ?_⟩
  · rw [hk] at h; simp only at h
    split at h <;> [skip; cases h]
    rename_i hc
    cases h
    simp only [NormFusion.lnOk, Bool.and_eq_true] at hc
    exact ⟨hc.2, rfl, hc.1⟩
  · rw [hk] at h; simp only at h
    split at h <;> [skip; cases h]
    rename_i hc
    cases h
    simp only [NormFusion.rmsOk, Bool.and_eq_true] at hc
    exact ⟨hc.1.1.1.1, hc.1.1.1.2, rfl, hc.2, hc.1.1.2, hc.1.2⟩

/-- **Shapes** (after commit fd3c959): when a fusion fires, the scale / bias does not outrank `x`, so — for operands whose
broadcast against `x` is `x`'s shape, which is what LayerNormalization / RMSNormalization require — the final `Mul` / `Add` of
the pattern did not enlarge the result. -/
theorem norm_fusion_rank_sound (p : NormFusion) (r : NormRepl) (h : p.run = .fire r) :
    ∃ rx ro, p.xRank = some rx ∧ p.otherRank = some ro ∧ ro ≤ rx := by
  have hr := (norm_fusion_check p r h).1
  unfold NormFusion.rankOk at hr
  cases hx : p.xRank with
  | none => rw [hx] at hr; exact absurd hr (by simp)
  | some rx =>
    cases ho : p.otherRank with
    | none => rw [hx, ho] at hr; exact absurd hr (by simp)
    | some ro =>
      rw [hx, ho] at hr
      exact ⟨rx, ro, rfl, rfl, by simpa using hr⟩

/-- Documentation of finding C05-N11 (fixed): the pre-fix rules did not look at the rank of scale / bias: with `x : [2,4]` and
`scale : [3,2,4]` they fired although the original result has shape `[3,2,4]`; the rules now refuse. -/
theorem norm_fusion_prefix_refuted :
    (NormFusion.runPrefix { kind := .layerNorm, xDtype := some 1, xRank := some 2, otherRank := some 3 }) = .fire { stashType := some 1 } ∧
    specBroadcast [2, 4] [3, 2, 4] = some [3, 2, 4] ∧
    (NormFusion.run { kind := .layerNorm, xDtype := some 1, xRank := some 2, otherRank := some 3 }) = .nofire ∧
    (NormFusion.run { kind := .layerNorm, xDtype := some 1, xRank := some 2, otherRank := none }) = .nofire ∧
    (NormFusion.run { kind := .layerNorm, xDtype := some 1, xRank := some 2, otherRank := some 1 }) = .fire { stashType := some 1 } := by decide +kernel

end NormFusion

/-! ## Order inside the shipped rule sets -/

/-- **Order of the default rule set as modelled** (translator tie, regenerated from `_DEFAULT_REWRITE_RULES` on every run): the
eight order rules stand in the order of `Chain.chainRules`, and every order-sensitive pair keeps its order. -/
theorem default_order_as_modelled :
    OV.Gen.C05.defaultRules.filter (fun r => Table.chainRuleNames.contains r) = Table.chainRuleNames ∧
    ∀ p ∈ Table.orderSensitivePairs, Table.before OV.Gen.C05.defaultRules p.1 p.2 = true := by
  decide +kernel

/-- **`_cast_constant_of_shape.rules` in the shipped order** (with-value first): whatever the `value` attribute is, the rule set
emits the fill value of the original `ConstantOfShape` … -/
theorem ccos_ruleset_sound (value : Option Rat) :
    More.ccosRuleSet [More.ccosWithValueRule, More.ccosWithoutValueRule] value = some (More.ccosFill value) := by
  cases value <;> rfl

/-- … and in the other order it does not: the attribute-free pattern wins on a node that carries `value = 3`. -/
theorem ccos_ruleset_swapped_refuted :
    ¬ ∀ value, More.ccosRuleSet [More.ccosWithoutValueRule, More.ccosWithValueRule] value = some (More.ccosFill value) := by
  intro h
  have := h (some 3)
  revert this; decide +kernel

/-! ## The rule-set driver on one host (`OV/Model/C05Chain.lean`): several rules, one sweep, repeated calls -/
section RuleSet
open OV.C05.Order OV.C05.Chain OV.Lemmas.C05Chain
variable {α : Type} [LinearOrder α]

/-- `FuseSuccessiveClip` fires only when `check` passed, and then with the constants of `build`. -/
theorem clip_clip_fire (p : ClipClip α) (r : ClipRepl α) (h : p.run = .fire r) : p.check = true ∧ r = p.build :=
  (OV.Lemmas.C05.gate_fire h).2.imp_right And.right

/-- The same for `Clip(Relu(x))` (`run`) and `Relu(Clip(x))` (`runReluClip`). -/
theorem relu_clip_fire (zero : α) (p : ReluClip α) (r : ClipRepl α) :
    (p.run zero = .fire r → p.check = true ∧ r = p.build zero) ∧
    (p.runReluClip zero = .fire r → p.check = true ∧ r = p.buildReluClip zero) :=
  ⟨fun h => (OV.Lemmas.C05.gate_fire h).2.imp_right And.right, fun h => (OV.Lemmas.C05.gate_fire h).2.imp_right And.right⟩

/-- `successive_relu_rule` as a chain rule: the replacement computes consumer ∘ producer. -/
theorem chain_rule_relu_relu_sound (zero : α) : RuleSound zero (ruleReluRelu (α := α)) := by
  intro p c f h x
  unfold ruleReluRelu at h
  split at h
  · cases h; exact (successive_relu_sound zero x).symm
  · cases h

/-- `successive_clip_rule` as a chain rule — also when a bound is a run-time value or an overridable initializer (then the rule
refuses), for every run-time value of those bounds. -/
theorem chain_rule_clip_clip_sound (zero : α) : RuleSound zero (ruleClipClip (α := α)) := by
  intro p c f h x
  unfold ruleClipClip at h
  split at h
  · obtain ⟨r, hr, hf⟩ := eval_of_clip_outcome zero _ _ h
    obtain ⟨_, hc, _, rfl⟩ := OV.Lemmas.C05.gate_fire hr
    rw [hf, ← successive_clip_sound _ hc]
    simp only [ClipClip.check, Bool.and_eq_true] at hc
    simp only [ClipClip.lhs, COp.eval, opd_bound_val _ hc.1.1.1, opd_bound_val _ hc.1.1.2, opd_bound_val _ hc.1.2,
      opd_bound_val _ hc.2]
  · cases h

/-- `successive_clip_relu_rule` as a chain rule. -/
theorem chain_rule_clip_relu_sound (zero : α) : RuleSound zero (ruleClipRelu zero) := by
  intro p c f h x
  unfold ruleClipRelu at h
  split at h
  · obtain ⟨r, hr, hf⟩ := eval_of_clip_outcome zero _ _ h
    obtain ⟨_, hc, _, rfl⟩ := OV.Lemmas.C05.gate_fire hr
    rw [hf, ← successive_clip_relu_sound]
    simp only [ReluClip.check, Bool.and_eq_true] at hc
    simp only [ReluClip.lhsClipRelu, COp.eval, opd_bound_val _ hc.1, opd_bound_val _ hc.2]
  · cases h

/-- `successive_relu_clip_rule` as a chain rule. -/
theorem chain_rule_relu_clip_sound (zero : α) : RuleSound zero (ruleReluClip zero) := by
  intro p c f h x
  unfold ruleReluClip at h
  split at h
  · obtain ⟨r, hr, hf⟩ := eval_of_clip_outcome zero _ _ h
    obtain ⟨_, hc, _, rfl⟩ := OV.Lemmas.C05.gate_fire hr
    rw [hf, ← successive_relu_clip_sound _ _ hc]
    simp only [ReluClip.check, Bool.and_eq_true] at hc
    simp only [ReluClip.lhsReluClip, COp.eval, opd_bound_val _ hc.1, opd_bound_val _ hc.2]
  · cases h

/-- `min_min_rule` on binary `Min` nodes with a rank-0 operand (constant: fires; run-time: refuses). -/
theorem chain_rule_min_min_sound (zero : α) : RuleSound zero (ruleMinMin (α := α)) := by
  intro p c f h x
  unfold ruleMinMin at h
  split at h
  · rename_i c1 c2
    rw [run_chain] at h
    cases c1 <;> cases c2 <;> cases h
    simp only [COp.eval, MOpd.val, min_assoc]
  · cases h

/-- `max_max_rule`. -/
theorem chain_rule_max_max_sound (zero : α) : RuleSound zero (ruleMaxMax (α := α)) := by
  intro p c f h x
  unfold ruleMaxMax at h
  split at h
  · rename_i c1 c2
    rw [run_chain] at h
    cases c1 <;> cases c2 <;> cases h
    simp only [COp.eval, MOpd.val, max_assoc]
  · cases h

/-- `max_min_rule`: `Min(Max(x, lb), ub) → Clip(x, lb, ub)` — no bound test needed. -/
theorem chain_rule_max_min_sound (zero : α) : RuleSound zero (ruleMaxMin (α := α)) := by
  intro p c f h x
  unfold ruleMaxMin at h
  split at h
  · rename_i c1 c2
    rw [run_chain] at h
    cases c1 <;> cases c2 <;> cases h
    rfl
  · cases h

/-- `min_max_rule`: `Max(Min(x, ub), lb) → Clip(x, lb, ub)` fires only when `lb ≤ ub`, which is what makes it sound. -/
theorem chain_rule_min_max_sound (zero : α) : RuleSound zero (ruleMinMax (α := α)) := by
  intro p c f h x
  unfold ruleMinMax at h
  split at h
  · rename_i c1 c2
    rw [run_chain] at h
    rcases c1 with ub | _ <;> rcases c2 with lb | _ <;> try cases h
    simp only at h
    by_cases hlt : ub < lb
    · rw [if_pos hlt] at h; cases h
    · rw [if_neg hlt] at h; cases h
      simp only [COp.eval, MOpd.val, clip, Opd.val?]
      rw [max_min_distrib_right, max_eq_left (not_lt.mp hlt)]
  · cases h

/-- All eight rules of `_min_max_to_clip.rules` + `_fuse_relus_clips.rules` are sound as chain rules. -/
theorem chain_rules_sound (zero : α) : ∀ r ∈ chainRules zero, RuleSound zero r := by
  intro r hr
  simp only [chainRules, List.mem_cons, List.not_mem_nil, or_false] at hr
  rcases hr with rfl | rfl | rfl | rfl | rfl | rfl | rfl | rfl
  · exact chain_rule_min_min_sound zero
  · exact chain_rule_max_max_sound zero
  · exact chain_rule_min_max_sound zero
  · exact chain_rule_max_min_sound zero
  · exact chain_rule_clip_relu_sound zero
  · exact chain_rule_relu_clip_sound zero
  · exact chain_rule_relu_relu_sound zero
  · exact chain_rule_clip_clip_sound zero

/-- On chain hosts (binary Min/Max, typed values) none of the Min/Max rules can raise: the `raise` outcome of `MinMax.run`
is unreachable, so mapping it to "no rewrite" in `ofMMOutcome` loses nothing. -/
theorem chain_rules_never_raise (k : MMKind) (c1 c2 : MOpd α) :
    MinMax.run { kind := k, first := [c1.mm], second := [c2.mm], xRank := some 0 } ≠ .raises := by
  rw [run_chain]
  split
  · cases k
    · exact nofun
    · exact nofun
    · exact nofun
    · show (if _ then _ else _) ≠ _
      split
      · exact nofun
      · exact nofun
  · exact nofun

omit [LinearOrder α] in
/-- Commit c0ccb25 (finding C04-D14, fixed): the three Clip-producing relu/clip rules **never raise** any more — whatever is
(un)known about element types — … -/
theorem clip_rules_never_raise [Min α] [Max α] (zero : α) :
    (∀ p : ClipClip α, p.run ≠ .raises) ∧ (∀ p : ReluClip α, p.run zero ≠ .raises ∧ p.runReluClip zero ≠ .raises) :=
  ⟨fun _ => OV.Lemmas.C05.gate_ne_raises _ _ _ _, fun _ => ⟨OV.Lemmas.C05.gate_ne_raises _ _ _ _, OV.Lemmas.C05.gate_ne_raises _ _ _ _⟩⟩

omit [LinearOrder α] in
/-- … and they fire only when the element type of the first Clip is known: its input is typed or one of its own bounds is a
constant tensor (`_clip_dtype`); an untyped input with both bounds absent is refused. -/
theorem clip_rules_fire_need_dtype [Min α] [Max α] (zero : α) :
    (∀ (p : ClipClip α) r, p.run = .fire r → clipDtypeKnown p.dtype1 p.a p.b = true) ∧
    (∀ (p : ReluClip α) r, (p.run zero = .fire r ∨ p.runReluClip zero = .fire r) → clipDtypeKnown p.dtype1 p.a p.b = true) ∧
    (∀ (p : ClipClip α), p.dtype1 = false → p.a = .absent → p.b = .absent → p.run = .nofire) := by
  refine ⟨fun p r h => (OV.Lemmas.C05.gate_fire h).2.2.1,
    fun p r h => h.elim (fun h => (OV.Lemmas.C05.gate_fire h).2.2.1) (fun h => (OV.Lemmas.C05.gate_fire h).2.2.1), fun p h1 ha hb => ?_⟩
  unfold ClipClip.run clipDtypeKnown; simp [h1, ha, hb, Bound.hasTensor]

/-- **Any rule set of sound rules, one `apply_to_model`**: for every list of rules (any order, any length) each of which is
sound on its own, every chain (any length, any placement of shared intermediates) and every input, the sweep of
`_apply_to_graph_or_function` — first matching rule wins at each node, the replacement is visited again, a shared producer
blocks the match — leaves the final output *and every shared intermediate* unchanged. -/
theorem ruleset_sweep_sound (zero : α) (rules : List (Rule α)) (hr : ∀ r ∈ rules, RuleSound zero r)
    (chain : List (Node α)) (x : α) : outs zero (sweep rules chain) x = outs zero chain x := by
  unfold sweep
  simpa using sweepAcc_sound zero rules hr chain ([], 0) x

omit [LinearOrder α] in
/-- The returned `count` is exactly the number of nodes that disappeared (each of these rewrites replaces two nodes by one). -/
theorem ruleset_count (rules : List (Rule α)) (chain : List (Node α)) :
    (sweep rules chain).length + count rules chain = chain.length := by
  unfold sweep count
  simpa using sweepAcc_count rules chain ([], 0)

/-- **The shipped order rules on one host**: any selection of the eight rules in any order (in particular the order of
`_DEFAULT_REWRITE_RULES`) preserves every observable value of every chain, for every input and every run-time value of the
non-constant operands. -/
theorem chain_sweep_sound (zero : α) (rules : List (Rule α)) (hsub : ∀ r ∈ rules, r ∈ chainRules zero)
    (chain : List (Node α)) (x : α) : outs zero (sweep rules chain) x = outs zero chain x :=
  ruleset_sweep_sound zero rules (fun r h => chain_rules_sound zero r (hsub r h)) chain x

/-- **Every history of calls**: `k` successive `apply_to_model` calls of the same rule set preserve the outputs, for all `k`. -/
theorem chain_apply_history_sound (zero : α) (rules : List (Rule α)) (hr : ∀ r ∈ rules, RuleSound zero r) (k : Nat) :
    ∀ (chain : List (Node α)) (x : α), outs zero (Nat.iterate (sweep rules) k chain) x = outs zero chain x := by
  induction k with
  | zero => intro chain x; rfl
  | succ k ih => intro chain x; rw [Nat.iterate, ih, ruleset_sweep_sound zero rules hr]

omit [LinearOrder α] in
/-- **The second call on a re-used rule set rewrites nothing** (any rules): a sweep ends in a fixpoint, because every adjacent
pair of the result was tested when its later node was visited or created. -/
theorem ruleset_second_call_noop (rules : List (Rule α)) (chain : List (Node α)) :
    sweep rules (sweep rules chain) = sweep rules chain ∧ count rules (sweep rules chain) = 0 := by
  have hst := sweepAcc_stable rules chain ([], 0) trivial
  have := sweepAcc_of_stable rules (sweepAcc rules ([], 0) chain).1.reverse [] 0 (by simpa using hst)
  unfold sweep count
  rw [this]
  simp

/-- The eight target patterns are pairwise disjoint: rule `i` can only fire on a (producer, consumer) pair of slot `i`. -/
theorem chain_rules_slot (zero : α) (i : Nat) (hi : i < (chainRules zero).length) (p c f : COp α)
    (h : (chainRules zero)[i] p c = some f) : pairSlot p c = some i := by
  -- each rule is a `match` on the two op types with one productive arm, the arm to which `pairSlot` gives its index
  rcases i with _ | _ | _ | _ | _ | _ | _ | _ | i
  · replace h : ruleMinMin p c = _ := h; unfold ruleMinMin at h; split at h; exacts [rfl, nomatch h]
  · replace h : ruleMaxMax p c = _ := h; unfold ruleMaxMax at h; split at h; exacts [rfl, nomatch h]
  · replace h : ruleMinMax p c = _ := h; unfold ruleMinMax at h; split at h; exacts [rfl, nomatch h]
  · replace h : ruleMaxMin p c = _ := h; unfold ruleMaxMin at h; split at h; exacts [rfl, nomatch h]
  · replace h : ruleClipRelu zero p c = _ := h; unfold ruleClipRelu at h; split at h; exacts [rfl, nomatch h]
  · replace h : ruleReluClip zero p c = _ := h; unfold ruleReluClip at h; split at h; exacts [rfl, nomatch h]
  · replace h : ruleReluRelu p c = _ := h; unfold ruleReluRelu at h; split at h; exacts [rfl, nomatch h]
  · replace h : ruleClipClip p c = _ := h; unfold ruleClipClip at h; split at h; exacts [rfl, nomatch h]
  · exact absurd hi (by simp [chainRules])

/-- **First-match-wins does not matter for these rules**: for every permutation of the eight rules the driver picks the same
replacement at every node … -/
theorem chain_first_match_order_irrelevant (zero : α) (rules : List (Rule α)) (hperm : rules.Perm (chainRules zero))
    (p c : COp α) : firstMatch rules p c = firstMatch (chainRules zero) p c := by
  have hfun : ∀ r1 ∈ chainRules zero, ∀ r2 ∈ chainRules zero, ∀ f1 f2, r1 p c = some f1 → r2 p c = some f2 → f1 = f2 := by
    intro r1 h1 r2 h2 f1 f2 e1 e2
    obtain ⟨i, hi, rfl⟩ := List.getElem_of_mem h1
    obtain ⟨j, hj, rfl⟩ := List.getElem_of_mem h2
    have s1 := chain_rules_slot zero i hi p c f1 e1
    have s2 := chain_rules_slot zero j hj p c f2 e2
    have : i = j := by rw [s1] at s2; exact Option.some.inj s2
    subst this
    rw [e1] at e2; exact Option.some.inj e2
  have hfun' : ∀ r1 ∈ rules, ∀ r2 ∈ rules, ∀ f1 f2, r1 p c = some f1 → r2 p c = some f2 → f1 = f2 :=
    fun r1 h1 r2 h2 => hfun r1 (hperm.mem_iff.mp h1) r2 (hperm.mem_iff.mp h2)
  apply Option.ext
  intro f
  rw [firstMatch_eq_some_iff rules p c hfun' f, firstMatch_eq_some_iff _ p c hfun f]
  constructor <;> rintro ⟨r, hm, hr⟩
  · exact ⟨r, hperm.mem_iff.mp hm, hr⟩
  · exact ⟨r, hperm.mem_iff.mpr hm, hr⟩

/-- … hence the rewritten chain and the count do not depend on the order of the rules in the set. -/
theorem chain_sweep_order_irrelevant (zero : α) (rules : List (Rule α)) (hperm : rules.Perm (chainRules zero))
    (chain : List (Node α)) :
    sweep rules chain = sweep (chainRules zero) chain ∧ count rules chain = count (chainRules zero) chain := by
  unfold sweep count
  rw [sweepAcc_congr rules (chainRules zero) (chain_first_match_order_irrelevant zero rules hperm)]
  exact ⟨rfl, rfl⟩

/-- Order *does* matter for rule sets in general (which is why the model keeps `firstMatch`): two sound rules with the same
target, different replacements. -/
theorem first_match_wins_in_general :
    ∃ (r1 r2 : Rule Int) (p c : COp Int), firstMatch [r1, r2] p c ≠ firstMatch [r2, r1] p c := by
  refine ⟨fun _ _ => some .relu, fun _ _ => some (.clip (.const 0) .absent), .relu, .relu, ?_⟩
  decide +kernel

-- non-vacuity / concrete sweeps (Int, zero = 0)
-- Relu; Min(·,-2); Max(·,-5): (Relu, Min) has no rule, Max∘Min becomes Clip(-5,-2), which is visited again and fused with Relu: count 2
example : sweep (chainRules (0 : Int)) [⟨.relu, false⟩, ⟨.mn (.const (-2)), false⟩, ⟨.mx (.const (-5)), true⟩]
      = [⟨.clip (.const 0) (.const (-2)), true⟩] ∧
    count (chainRules (0 : Int)) [⟨.relu, false⟩, ⟨.mn (.const (-2)), false⟩, ⟨.mx (.const (-5)), true⟩] = 2 := by decide +kernel
-- a shared intermediate blocks one fusion; a run-time bound blocks another
example : sweep (chainRules (0 : Int)) [⟨.clip (.const 0) (.const 5), false⟩, ⟨.clip (.const 1) (.const 4), true⟩, ⟨.clip (.const 2) (.const 3), false⟩,
        ⟨.clip (.dyn 7) .absent, false⟩, ⟨.relu, true⟩]
      = [⟨.clip (.const 1) (.const 4), true⟩, ⟨.clip (.const 2) (.const 3), false⟩, ⟨.clip (.dyn 7) .absent, false⟩, ⟨.relu, true⟩] := by decide +kernel
-- a reversed rule list is a permutation of the eight rules
example : ((chainRules (0 : Int)).reverse).Perm (chainRules 0) := List.reverse_perm _
example : ∀ r ∈ [ruleClipClip (α := Int), ruleMinMax], r ∈ chainRules (0 : Int) := by simp [chainRules]

end RuleSet

/-! ## Non-vacuity: concrete instances satisfying the hypotheses of the theorems above -/
section NonVacuity
open OV.C05.Order OV.C05.Shape OV.C05.Unit OV.C05.Linalg

-- successive_clip_sound: Clip(Clip(x,0,6),1,4) fires, fused bounds [1,4]; a disjoint pair gives [5,5]
example : let p : ClipClip Int := { a := .const 0, b := .const 6, c := .const 1, d := .const 4 }
    p.check = true ∧ p.run = .fire { lo := some 1, hi := some 4 } ∧ p.lhs 9 = 4 := by decide +kernel
-- successive_relu_clip_sound: Relu(Clip(x,-2,5)) and Relu(Clip(x,-5,-1))
example : let p : ReluClip Int := { a := .const (-2), b := .const 5 }
    p.check = true ∧ p.runReluClip 0 = .fire { lo := some 0, hi := some 5 } := by decide +kernel
-- a graph-input bound blocks the relu/clip rules
example : (ClipClip.check ({ a := .constInput 0, b := .absent, c := .absent, d := .absent } : ClipClip Int)) = false := by decide +kernel
-- min_max fires only with lb ≤ ub
example : (MinMax.run ({ kind := .minMax, first := [.const 0 [5]], second := [.const 0 [1]] } : MinMax Int)) = .fire (.clip 1 5) ∧
    (MinMax.run ({ kind := .minMax, first := [.const 0 [1]], second := [.const 0 [5]] } : MinMax Int)) = .nofire := by decide +kernel
-- unit laws: exact zero fires and is exact; 1.2e-8 does not fire; rank-1 zero does not fire
example : (Params.check { op := .add, constOnLeft := true, origin := .constantNode, rank := 0, value := 0 }) = true ∧
    (Params.exact { op := .add, constOnLeft := true, origin := .constantNode, rank := 0, value := 0 }) = true ∧
    (Params.check { op := .add, constOnLeft := false, origin := .initializer, rank := 0, value := 12 / 1000000000 }) = false ∧
    (Params.check { op := .add, constOnLeft := false, origin := .initializer, rank := 1, value := 0 }) = false ∧
    (Params.check { op := .sub, constOnLeft := true, origin := .initializer, rank := 0, value := 0 }) = false := by decide +kernel
-- transposes: rank 3
example : validPerm [1, 2, 0] 3 = true ∧ composePerms [1, 2, 0] [1, 2, 0] = [2, 0, 1] ∧
    transposeTransposeRun [1, 2, 0] [2, 0, 1] = .fire .identity := by decide +kernel
-- flatten: 2×3×4 at axis 1 (all dims positive)
example : flattenToReshapeRun (some [.known 2, .known 3, .known 4]) 1 none = .fire [2, 12] ∧
    specReshape [2, 3, 4] [2, 12] false = some [2, 12] := by decide +kernel
-- reshape∘reshape: (2,3) → (3,2) → [0,3] becomes Reshape(x, [-1,3])
example : reshapeReshapeRun (some [0, 3]) none 0 = .fire { shape := [-1, 3], allowzero := none } ∧
    specReshape [3, 2] [0, 3] false = none ∧ specReshape [3, 3] [0, 3] false = some [3, 3] := by decide +kernel
-- materialize: annotated [N, 4] → [-1, 4], no zero beside -1
example : materializeReshapeRun false (some [.sym "N", .known 4]) = .fire { shape := [-1, 4], allowzero := some 1 } ∧
    specReshape [12] [-1, 4] true = some [3, 4] := by decide +kernel
-- collapse_slice: data [2,5], axis -1, end 7
example : collapseSliceRun (some [.known 2, .known 5]) (.one 0) (.one 7) (.one (-1)) (.one 1) = .fire () ∧
    pyIndex [Dim.known 2, Dim.known 5] (-1) = some (.known 5) := by decide +kernel
-- static scatter
example : staticScatterRun true (some [.known 2, .known 3]) (some [.known 2, .known 3]) (some [[0], [1]]) = .fire () ∧
    staticScatterRun true (some [.sym "N", .known 3]) (some [.sym "N", .known 3]) (some [[0], [1]]) = .nofire := by decide +kernel
-- pads: Pad [0,0,1,0,0,2] into Conv pads [1,0]
example : padConvRun { xRank := some 3, mode := none, pads := .const [0, 0, 1, 0, 0, 2], constantValue := .absent, axes := .absent, autoPad := "NOTSET", convPads := some [1, 0] } = .fire [2, 2] := by decide +kernel
-- gemm: C of shape [4] fits (2,4)
example : matmulAddCheck (some 2) (some 2) 2 4 (some [4]) = true ∧ matmulAddCheck (some 2) (some 2) 2 4 (some []) = true ∧
    matmulAddCheck (some 2) (some 2) 2 4 (some [2, 1]) = true ∧ matmulAddCheck (some 2) (some 3) 2 4 (some [4]) = false := by decide +kernel

-- expand_before_binary_sound: strategy 2 with a symbolic dim, strategy 3, strategy 1; and a refusal
example : OV.C09.expandRuleFires "Add" 0 true (OV.C09.expandRemovable (some [.sym "N", .known 1]) (some [.known 3]) none (some [.sym "N", .known 3]) none) = true ∧
    OV.C09.expandRuleFires "Mul" 1 true (OV.C09.expandRemovable (some [.sym "N", .known 1]) (some [.known 1, .sym "M"]) none none (some [.sym "N", .sym "M"])) = true ∧
    OV.C09.expandRuleFires "Sub" 0 true (OV.C09.expandRemovable (some [.known 1]) (some [.known 3]) (some [3]) none none) = true ∧
    OV.C09.expandRuleFires "Add" 0 true (OV.C09.expandRemovable (some [.sym "N"]) (some [.known 3]) none (some [.sym "K"]) none) = false := by decide +kernel

end NonVacuity

end OV.Props.C05
