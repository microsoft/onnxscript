import OV.Model.C10VersionConv
import OV.Lemmas.C10
import OV.Lemmas.C10Eval
import OV.Lemmas.C10Fallback
import OV.Lemmas.C10Names
import OV.Lemmas.C10Imports
import OV.Lemmas.C10Meta
import OV.Lemmas.C10History
/-!
# C10 — opset version conversion yields a valid, equivalent model at the target version

The property theorems, their witnesses and non-vacuity examples.  Model: `OV.Model.C10VersionConv` (`convertVersionApi` transcribes
`version_converter.convert_version` for the `ir.Model` and the `ModelProto` entry, `nativeConvert` the
inner `_version_converter.convert_version`).  Vocabulary (defined in the model file):

* `Op.meaning op v` — what a node computes when read at opset `v` (`none`: not a valid form at `v`);
* `Good μ op v` — the conversion step `v → v+1` on `op` does not raise and preserves the reading `μ`;
  for `μ = fun _ _ => ()` this is exactly "the adapter does not raise" (`good_unit_iff`);
* `SelfConsistent μ s m` — the inputs of the property: a model declaring `s` whose default-domain nodes
  (subgraphs included) are written for `s`, carry no reference attribute, and whose steps are `Good`;
* `AllAt t ns` — every default-domain node of `ns` (subgraphs included) is written for `t`;
* `pmNodes μ d ns` — the readings of the non-auxiliary nodes in order, each at the opset it is written for.
-/
namespace OV.Props.C10
open OV.C10

/-! ## Adapters -/

/-- With the trivial reading, `Good` says only that the adapter does not raise (`AdaptersTotal`). -/
theorem good_unit_iff (op : Op) (v : Nat) : Good (fun _ _ => ()) op v ↔ adapt op v ≠ .raised := by
  refine ⟨fun h hr => ?_, good_unit_of_not_raised⟩
  unfold Good at h
  rw [hr] at h
  exact h

/-- Steps for which no adapter is registered never change what a node means (the operator forms of
GridSample change only at 19→20, of DFT at 19→20, of GroupNormalization at 20→21). -/
theorem meaning_mono : Mono Op.meaning := meaning_mono_lemma

/-- **`gridsample_19_20`.**  For every GridSample that is valid at opset 19 (every `mode`, `align_corners`,
`padding_mode`), the step 19→20 preserves its meaning: `bilinear ↦ linear`, `bicubic ↦ cubic`, the other
attributes are carried over with their defaults, any other valid mode is left alone. -/
theorem gridsample_mode_rename (mode : Option String) (align : Option Int) (pad : Option String)
    (hvalid : (Op.meaning (.gridSample mode align pad) 19).isSome) :
    Good Op.meaning (.gridSample mode align pad) 19 :=
  good_of_valid _ 19 19 hvalid (Nat.le_refl _)

/-- The two renames, spelled out. -/
theorem gridsample_rename_explicit (align : Option Int) (pad : Option String) :
    adapt (.gridSample (some "bilinear") align pad) 19
      = .replaced [.gridSample (some "linear") (some (align.getD 0)) (some (pad.getD "zeros"))] ∧
    adapt (.gridSample (some "bicubic") align pad) 19
      = .replaced [.gridSample (some "cubic") (some (align.getD 0)) (some (pad.getD "zeros"))] := by
  constructor <;> simp [adapt, gridsample_19_20]

/-- **`dft_19_20`, explicit axis.**  For every axis value, rank, `inverse`, `onesided`, with or without
`dft_length`: the `axis` attribute becomes a constant `axis` input with the same value; the node means the same. -/
theorem dft_axis_attr_eq_input (a : Int) (inv one : Option Int) (hasLen : Bool) (rank : Nat) :
    adapt (.dft (some a) inv one hasLen none rank) 19
      = .replaced [.const true [a], .dft none (some (inv.getD 0)) (some (one.getD 0)) hasLen (some a) rank] ∧
    Good Op.meaning (.dft (some a) inv one hasLen none rank) 19 :=
  ⟨rfl, good_of_valid _ 19 19 rfl (Nat.le_refl _)⟩

/-- **`dft_19_20`, for every DFT valid at opset 19** (with or without an `axis` attribute, every rank,
`inverse`, `onesided`, `dft_length`): the step 19→20 preserves the meaning.  Without the attribute the
opset-19 default (1) is written into the new `axis` input, so the opset-20 default (-2) never applies.
Full statement — holds since 765f1d4 (finding C10-DFT-AXIS, fixed). -/
theorem dft_default_axis (axis inv one : Option Int) (hasLen : Bool) (rank : Nat) :
    Good Op.meaning (.dft axis inv one hasLen none rank) 19 :=
  good_of_valid _ 19 19 rfl (Nat.le_refl _)

/-- The adapter as it was before 765f1d4 did nothing without an `axis` attribute; for rank 4 the untouched
node reads as axis 1 at opset 19 and as axis 2 at opset 20.  (Regression witness, replayed on the real code.) -/
theorem dft_default_axis_prefix_refuted :
    dft_19_20_prefix (.dft none none none false none 4) = .retNone ∧
    Op.meaning (.dft none none none false none 4) 20 ≠ Op.meaning (.dft none none none false none 4) 19 := by
  decide

/-- **Scale rewrite of `groupnormalization_20_21`, tensor level.**  For *every* number of groups `g`,
every group size `k = C/g` and every per-group vector `s` of length `g`:
`Reshape[-1,1] ; Expand[1,k] ; Reshape[-1]` yields a vector of length `g·k` whose entry `a·k + j` is `s[a]`
— channel `a·k+j` belongs to group `a`, so the per-channel vector of opset 21 applies to each channel what
the per-group vector of opset 20 applied to its group. -/
theorem groupnorm_scale_expand {α} (k : Nat) (s : List α) :
    (expandScale k s).length = s.length * k ∧
    ∀ a j, a < s.length → j < k → (expandScale k s)[a * k + j]? = s[a]? := by
  induction s with
  | nil => simp [expandScale, flattenRows, expandRows, reshapeCol]
  | cons x xs ih =>
    have hcons : expandScale k (x :: xs) = List.replicate k x ++ expandScale k xs := rfl
    rw [hcons]
    refine ⟨by simp [ih.1, Nat.add_mul, Nat.add_comm], ?_⟩
    intro a j ha hj
    cases a with
    | zero =>
      simp only [Nat.zero_mul, Nat.zero_add]
      rw [List.getElem?_append_left (by simpa using hj)]
      simp [hj]
    | succ a =>
      have hlen : (List.replicate k x).length = k := by simp
      rw [List.getElem?_append_right (by rw [hlen, Nat.succ_mul]; omega)]
      rw [hlen, show (a + 1) * k + j - k = a * k + j by rw [Nat.succ_mul]; omega]
      simpa using ih.2 a j (by simpa using ha) hj

/-- The same, indexed by channel: entry `i` of the expanded vector is `s[i / k]`, for all `i < g·k`. -/
theorem groupnorm_scale_expand_div {α} (k : Nat) (s : List α) (i : Nat) (hi : i < s.length * k) :
    (expandScale k s)[i]? = s[i / k]? := by
  have hk : 0 < k := by
    cases k with
    | zero => simp at hi
    | succ k => omega
  have h1 : i / k < s.length := (Nat.div_lt_iff_lt_mul hk).mpr hi
  have h2 : i % k < k := Nat.mod_lt _ hk
  have := (groupnorm_scale_expand k s).2 (i / k) (i % k) h1 h2
  rwa [Nat.div_add_mod' i k] at this

/-- `GroupNormalization(x:[N,4,…], s:[2], b:[2], num_groups=2)`, every shape static. -/
def gnStatic : GN :=
  { hasX := true, hasScale := true, hasBias := true, groups := some 2, eps := none, c := 4, sLen := 2, bLen := 2,
    xVis := .known, sVis := .known, bVis := .known }

/-- **`groupnormalization_20_21`, full statement (since 090a933).**  For *every* GroupNormalization that is a
valid opset-20 form (inputs present, `num_groups` dividing the channel count, per-group scale and bias) —
whatever its shape annotations show, whatever `epsilon` — the step 20→21 preserves the node's meaning: the
static rewrite when every shape is known, the run-time-ratio rewrite (`Shape`/`Div`/`Concat`) when not,
nothing when `num_groups = C`. -/
theorem groupnorm_good (n : GN) (hvalid : (Op.meaning (.groupNorm n) 20).isSome) :
    Good Op.meaning (.groupNorm n) 20 := good_of_valid _ 20 20 hvalid (Nat.le_refl _)

/-- **`groupnorm_none_cases` (since 090a933).**  The adapter returns `None` only when every shape is static and
the static facts say that nothing is to be done; it raises only for an invalid node (a missing input or
`num_groups`); otherwise it rewrites. -/
theorem groupnorm_none_cases (n : GN) (g : Nat) (hg : n.groups = some g)
    (hin : n.hasX = true ∧ n.hasScale = true ∧ n.hasBias = true) :
    (groupnormalization_20_21 (.groupNorm n) = .retNone ↔
      (n.xVis = .known ∧ n.sVis = .known ∧ n.bVis = .known ∧ ¬ (g ≠ n.c ∧ g = n.sLen ∧ g = n.bLen))) ∧
    groupnormalization_20_21 (.groupNorm n) ≠ .raised := by
  have hin' : (n.hasX && n.hasScale && n.hasBias) = true := by simp [hin]
  have h := adapts (.groupNorm n) 20
  rw [show adapt (.groupNorm n) 20 = groupnormalization_20_21 (.groupNorm n) from rfl] at h
  generalize groupnormalization_20_21 (.groupNorm n) = r at h
  cases h with
  | unregistered hr => exact absurd rfl hr
  | gnRaised hc => exact absurd hc (gn_not_raised hin' hg)
  | gnDyn _ _ hs => exact ⟨⟨fun h => (nomatch h), fun h => absurd ⟨h.1, h.2.1, h.2.2.1⟩ hs⟩, fun h => (nomatch h)⟩
  | gnStatic _ hg' _ h1 h2 h3 =>
    cases hg.symm.trans hg'
    exact ⟨⟨fun h => (nomatch h), fun h => absurd ⟨h1, h2, h3⟩ h.2.2.2⟩, fun h => (nomatch h)⟩
  | gnKeep _ hg' hs hk =>
    cases hg.symm.trans hg'
    exact ⟨⟨fun _ => ⟨hs.1, hs.2.1, hs.2.2, hk⟩, fun _ => rfl⟩, fun h => (nomatch h)⟩

/-- Before 090a933 (regression witnesses, replayed on the real code): with `x` lacking a shape the adapter raised —
the error was caught and the node stayed in opset-20 form in a model declaring 21 (D13a); with a symbolic
channel dimension it returned `None` although the rewrite was needed, and the stamped node is not a valid
opset-21 form (D13b). -/
theorem groupnorm_prefix_refuted :
    groupnormalization_20_21_prefix (.groupNorm { gnStatic with xVis := .missing }) = .raised ∧
    groupnormalization_20_21_prefix (.groupNorm { gnStatic with xVis := .symbolic }) = .retNone ∧
    Op.meaning (.groupNorm { gnStatic with xVis := .symbolic }) 21 = none ∧
    (Op.meaning (.groupNorm { gnStatic with xVis := .symbolic }) 20).isSome := by decide

/-- **Epsilon preserved.**  Whatever `epsilon` attribute the node carries (or none), the rewritten
GroupNormalization carries the same one.  Holds since 71fb858 (finding C10-GN-EPS, fixed). -/
theorem groupnorm_epsilon_preserved (n : GN) (g : Nat) :
    ∃ n', (gnReplacement n g).getLast? = some (.groupNorm n') ∧ n'.eps = n.eps ∧ n'.groups = n.groups ∧ n'.c = n.c := by
  exact ⟨_, rfl, rfl, rfl, rfl⟩

/-- Before 71fb858 the rewritten node lost `epsilon`: `GroupNormalization(num_groups=2, epsilon=0.5)` on 4
channels then read differently at 21 than the source at 20.  (Regression witness, replayed on the real code.) -/
theorem groupnorm_epsilon_prefix_refuted :
    Op.meaning (gnRewrittenPrefix { gnStatic with eps := some "0.5" } 2) 21
      ≠ Op.meaning (.groupNorm { gnStatic with eps := some "0.5" }) 20 ∧
    Op.meaning ((gnReplacement { gnStatic with eps := some "0.5" } 2).getLast?.getD (.plain "")) 21
      = Op.meaning (.groupNorm { gnStatic with eps := some "0.5" }) 20 := by
  decide

/-! ## The whole conversion -/

/-- **`convert_consistent`, `ir.Model` entry.**  `m` is the model after the inline pass; it is
self-consistent at `s` and no adapter raises on it (`SelfConsistent (fun _ _ => ()) s m`, see
`good_unit_iff`).  Then for every target, every `fallback` value and every behaviour of the C API:
either no exception escapes, the model declares `t` (and only under the `""` key), has no functions, and
every default-domain node — subgraphs of every nesting depth `d` included — is written for `t`; or the model is
exactly what it was. -/
theorem convert_consistent_ir (s t : Nat) (fb : Fallback) {d : Nat} (capi : CApi (NodeD d)) (m0 m : Model (NodeD d))
    (hin : inlineModel m0 = .ok m) (h : SelfConsistent (fun _ _ => ()) s m) :
    ((convertVersionApi .ir fb t capi m0).2 = none ∧
      (convertVersionApi .ir fb t capi m0).1.declared = some t ∧
      (convertVersionApi .ir fb t capi m0).1.aionnx = none ∧
      (convertVersionApi .ir fb t capi m0).1.funcs = [] ∧
      AllAt t (convertVersionApi .ir fb t capi m0).1.nodes)
    ∨ (convertVersionApi .ir fb t capi m0).1 = m := by
  simp only [convertVersionApi, hin]
  exact (requiresInline_spec (fun _ _ => ()) (fun _ _ _ => rfl) s t fb capi m h).imp_left fun c =>
    ⟨c.noErr, c.declared, c.noAi, c.inlined, c.allAt⟩

/-- **`convert_consistent`, `ModelProto` entry** (holds since commit 4aa0d5c; before it `declared` stayed
stale — finding D9, fixed).  Either an exception propagates or the conversion is refused and the caller's
proto is exactly what it was (`eraseVersions m0`: a proto has no node versions; the refused/no-op case
returns the inlined model `eraseVersions m` — i.e. "unchanged" there means: graph replaced by the inlined graph, functions
removed, nothing else), or the proto now declares `t`.  Unlike `convert_consistent_ir` the conclusion has NO per-node
conjunct (`AllAt t`): a proto carries no node versions, so "every node is written for `t`" is not stated here. -/
theorem convert_consistent_proto (s t : Nat) (fb : Fallback) {d : Nat} (capi : CApi (NodeD d)) (m0 m : Model (NodeD d))
    (hin : inlineModel (eraseVersions m0) = .ok m) (h : SelfConsistent (fun _ _ => ()) s m) :
    ((convertVersionApi .proto fb t capi m0).2 = none ∧
      (convertVersionApi .proto fb t capi m0).1.declared = some t ∧
      (convertVersionApi .proto fb t capi m0).1.aionnx = none ∧
      (convertVersionApi .proto fb t capi m0).1.funcs = [])
    ∨ (convertVersionApi .proto fb t capi m0).1 = eraseVersions m0
    ∨ (convertVersionApi .proto fb t capi m0).1 = eraseVersions m := by
  simp only [convertVersionApi, hin]
  rcases requiresInline_spec (fun _ _ => ()) (fun _ _ _ => rfl) s t fb capi m h with c | hm
  · rw [show requiresInlineCall fb t capi m = ((requiresInlineCall fb t capi m).1, none) from
      Prod.ext rfl c.noErr]
    exact Or.inl ⟨rfl, by simp [eraseVersions, c.declared], by simp [eraseVersions, c.noAi],
      by simp [eraseVersions, c.inlined]⟩
  · rcases hr : requiresInlineCall fb t capi m with ⟨m2, e⟩
    rw [hr] at hm
    simp only at hm
    subst hm
    cases e with
    | some e => exact Or.inr (Or.inl rfl)
    | none => exact Or.inr (Or.inr rfl)

/-- **`convert_equivalent`, general form** (hypothesis `Good Op.meaning` on every step; `convert_equivalent_ir`
below discharges it from validity of the source).  Native path, `ir.Model` entry: after a
successful conversion every non-auxiliary node, read at the opset it is now written for, means what the
corresponding source node meant at `s` — in order, subgraphs included — and inputs and initializers are
untouched; on the C-API path the model is the recovered C-API result (contract). -/
theorem convert_equivalent_ir_of_good (s t : Nat) (fb : Fallback) {d : Nat} (capi : CApi (NodeD d)) (m0 m : Model (NodeD d))
    (hin : inlineModel m0 = .ok m) (h : SelfConsistent Op.meaning s m) :
    ((convertVersionApi .ir fb t capi m0).2 = none ∧
      (convertVersionApi .ir fb t capi m0).1.declared = some t ∧
      AllAt t (convertVersionApi .ir fb t capi m0).1.nodes ∧
      ((pmNodes Op.meaning t (convertVersionApi .ir fb t capi m0).1.nodes = pmNodes Op.meaning s m.nodes ∧
        (convertVersionApi .ir fb t capi m0).1.inputs = m.inputs ∧
        (convertVersionApi .ir fb t capi m0).1.inits = m.inits) ∨
       (∃ ns, capi m t = some ns ∧ (convertVersionApi .ir fb t capi m0).1 = recoverFallback m t ns)))
    ∨ (convertVersionApi .ir fb t capi m0).1 = m := by
  simp only [convertVersionApi, hin]
  exact (requiresInline_spec Op.meaning meaning_mono s t fb capi m h).imp_left fun c =>
    ⟨c.noErr, c.declared, c.allAt, c.same⟩

/-- **`convert_equivalent`, full statement (since 090a933): no hypothesis on the adapters.**  For every *valid*
self-consistent model at `s` (`ValidModel`: every node a valid operator form at the opset it is written for,
no reference attributes, control-flow nodes own the subgraphs; any nesting depth), every target, `fallback`
value and C-API behaviour: either the model is exactly what it was, or no exception escapes, it declares `t`,
every default-domain node is written for `t`, and (native path) every non-auxiliary node reads at `t` as the
corresponding source node read at `s`, inputs and initializers untouched.  NOT covered: on the path through a successful
ONNX C-API call (second inner disjunct: fallback on and not `18 ≤ s ≤ t ≤ 25` — in particular every downgrade that
converts anything) there is no meaning claim at all, only `= recoverFallback m t ns` for whatever nodes `ns` the C API
returned.  `m` is the model after the inline pass (`hin`). -/
theorem convert_equivalent_ir (s t : Nat) (fb : Fallback) {d : Nat} (capi : CApi (NodeD d)) (m0 m : Model (NodeD d))
    (hin : inlineModel m0 = .ok m) (h : ValidModel s m) :
    ((convertVersionApi .ir fb t capi m0).2 = none ∧
      (convertVersionApi .ir fb t capi m0).1.declared = some t ∧
      AllAt t (convertVersionApi .ir fb t capi m0).1.nodes ∧
      ((pmNodes Op.meaning t (convertVersionApi .ir fb t capi m0).1.nodes = pmNodes Op.meaning s m.nodes ∧
        (convertVersionApi .ir fb t capi m0).1.inputs = m.inputs ∧
        (convertVersionApi .ir fb t capi m0).1.inits = m.inits) ∨
       (∃ ns, capi m t = some ns ∧ (convertVersionApi .ir fb t capi m0).1 = recoverFallback m t ns)))
    ∨ (convertVersionApi .ir fb t capi m0).1 = m :=
  convert_equivalent_ir_of_good s t fb capi m0 m hin h.selfConsistent

/-- **`never_half_converted`, full statement (holds since 090a933).**  A valid model at `s` is either converted
into valid forms at `t` only — every reading is `some`, the model declares `t`, every default-domain node at
every nesting depth is written for `t` — or it is exactly what it was.  No hypothesis on the adapters.  This is a statement
about `nativeConvert` (`_version_converter.convert_version`) only: the public entry reaches it with fallback off, or with
fallback on when `18 ≤ s ≤ t ≤ 25`; the C-API route (every successful downgrade) is outside this theorem. -/
theorem never_half_converted (s t : Nat) {d : Nat} (m : Model (NodeD d)) (h : ValidModel s m) :
    ((nativeConvert t m).2 = none ∧ (nativeConvert t m).1.declared = some t ∧
      AllAt t (nativeConvert t m).1.nodes ∧
      pmNodes Op.meaning t (nativeConvert t m).1.nodes = pmNodes Op.meaning s m.nodes ∧
      ∀ x ∈ pmNodes Op.meaning t (nativeConvert t m).1.nodes, x.isSome)
    ∨ (nativeConvert t m).1 = m := by
  rcases nativeConvert_cases Op.meaning meaning_mono s t m h.selfConsistent with hm | ⟨ns, e, -, hall, hpm⟩
  · exact Or.inr hm
  · rw [e]
    exact Or.inl ⟨rfl, rfl, hall, hpm, fun x hx => h.readings_valid x (hpm ▸ hx)⟩

/-- The D13a witness: opset 20, `GroupNormalization(x, s:[2], b:[2], num_groups=2)` on 4 channels where `x`
carries no shape annotation. -/
def d13aModel : Model (NodeD 0) :=
  { declared := some 20, aionnx := none, funcs := [], inputs := ["x"], inits := ["s", "b"],
    nodes := [{ leaf := { dflt := true, version := none, refAttr := false,
                          op := .groupNorm { gnStatic with xVis := .missing } },
                bodies := [] }] }

/-- The witness that refuted `never_half_converted` before 090a933 is now converted: 17 nodes written for 21
(the run-time-ratio rewrite), the GroupNormalization reads at 21 as the source read at 20. -/
theorem d13a_fixed :
    ValidModel 20 d13aModel ∧
    (nativeConvert 21 d13aModel).2 = none ∧ (nativeConvert 21 d13aModel).1.declared = some 21 ∧
    (nativeConvert 21 d13aModel).1.nodes.length = 17 ∧
    pmNodes Op.meaning 21 (nativeConvert 21 d13aModel).1.nodes = pmNodes Op.meaning 20 d13aModel.nodes := by
  refine ⟨⟨rfl, rfl, rfl, ?_⟩, by decide⟩
  intro n hn
  rw [List.mem_singleton.mp hn]
  exact ⟨⟨fun _ => rfl, fun _ => rfl, by decide⟩, fun h => absurd rfl h, by simp, by simp⟩

/-- **When an adapter raises.**  Exactly for a GroupNormalization at the step 20→21 that lacks one of its three
inputs or its `num_groups` attribute — nothing else, no other operator, no other step. -/
theorem adapter_raises_iff (op : Op) (v : Nat) :
    adapt op v = .raised ↔
      ∃ n, op = .groupNorm n ∧ v = 20 ∧ ((n.hasX && n.hasScale && n.hasBias) = false ∨ n.groups = none) :=
  adapt_raised_iff op v

/-- **`convert_consistent`, `ir.Model` entry, structural hypothesis only.**  "No adapter raises" is replaced by what it
amounts to: every GroupNormalization node of the model has its three inputs and `num_groups` (`WellFormedGN`; the rest
of `ShapeModel` says the model is written for `s`, has no reference attributes, control-flow nodes own the subgraphs).
For every such model, target, `fallback` and C-API behaviour the conclusion of `convert_consistent_ir` holds. -/
theorem convert_consistent_ir_wf (s t : Nat) (fb : Fallback) {d : Nat} (capi : CApi (NodeD d)) (m0 m : Model (NodeD d))
    (hin : inlineModel m0 = .ok m) (h : ShapeModel WellFormedGN s m) :
    ((convertVersionApi .ir fb t capi m0).2 = none ∧
      (convertVersionApi .ir fb t capi m0).1.declared = some t ∧
      (convertVersionApi .ir fb t capi m0).1.aionnx = none ∧
      (convertVersionApi .ir fb t capi m0).1.funcs = [] ∧
      AllAt t (convertVersionApi .ir fb t capi m0).1.nodes)
    ∨ (convertVersionApi .ir fb t capi m0).1 = m :=
  convert_consistent_ir s t fb capi m0 m hin h.selfConsistent

/-- The same for the `ModelProto` entry (same restrictions as `convert_consistent_proto`: no `AllAt t` conjunct; the
"unchanged" alternatives are `eraseVersions m0` and the inlined `eraseVersions m`). -/
theorem convert_consistent_proto_wf (s t : Nat) (fb : Fallback) {d : Nat} (capi : CApi (NodeD d)) (m0 m : Model (NodeD d))
    (hin : inlineModel (eraseVersions m0) = .ok m) (h : ShapeModel WellFormedGN s m) :
    ((convertVersionApi .proto fb t capi m0).2 = none ∧
      (convertVersionApi .proto fb t capi m0).1.declared = some t ∧
      (convertVersionApi .proto fb t capi m0).1.aionnx = none ∧
      (convertVersionApi .proto fb t capi m0).1.funcs = [])
    ∨ (convertVersionApi .proto fb t capi m0).1 = eraseVersions m0
    ∨ (convertVersionApi .proto fb t capi m0).1 = eraseVersions m :=
  convert_consistent_proto s t fb capi m0 m hin h.selfConsistent

/-- opset 18: `GroupNormalization(x, scale)` — the required `bias` input is missing -/
def gnNoBiasModel : Model (NodeD 0) :=
  { declared := some 18, aionnx := none, funcs := [], inputs := ["x", "s"], inits := [],
    nodes := [{ leaf := { dflt := true, version := none, refAttr := false,
                          op := .groupNorm { gnStatic with hasBias := false } },
                bodies := [] }] }

/-- **The remaining hypothesis is forced.**  A GroupNormalization without `bias` (not a valid ONNX node) converted
18→21: the adapter raises at step 20→21, the error is caught, no exception escapes, the model declares 21 and the node
is left stamped 20 — the behaviour `test_version_groupnorm_no_bias` of the unedited suite pins. -/
theorem convert_consistent_invalid_gn_refuted :
    (nativeConvert 21 gnNoBiasModel).2 = none ∧ (nativeConvert 21 gnNoBiasModel).1.declared = some 21 ∧
    (nativeConvert 21 gnNoBiasModel).1.nodes.map (·.leaf.version) = [some 20] ∧
    ¬ AllAt 21 (nativeConvert 21 gnNoBiasModel).1.nodes ∧ (nativeConvert 21 gnNoBiasModel).1 ≠ gnNoBiasModel := by
  refine ⟨by decide, by decide, by decide, ?_, by decide⟩
  unfold AllAt
  decide

/-- (non-vacuity) the D13a witness model is a `ShapeModel WellFormedGN`. -/
example : ShapeModel WellFormedGN 20 d13aModel := by
  refine ⟨rfl, rfl, rfl, ?_⟩
  intro n hn
  rw [List.mem_singleton.mp hn]
  refine ⟨⟨fun _ => rfl, fun _ => rfl, fun _ => ?_⟩, fun h => absurd rfl h, by simp, by simp⟩
  intro g hg
  injection hg with hg
  subst hg
  exact ⟨⟨rfl, rfl, rfl⟩, by simp [gnStatic]⟩

/-! ## Evaluation level (straight-line graphs) -/

/-- **`convert_evalGraph`** (no hypothesis on the adapters since 090a933: validity of the source suffices).  Restricting
hypotheses (none dischargeable inside the model): `hl : Laws sem chan`, `ht : AllTruthful …`, straight-line graphs of
single-output nodes (`ENode`; no subgraphs, no functions), every node `n.ver = s`, names below `b`, valid at `s`.
For *every* operator semantics `sem` — an uninterpreted function of (operator with attributes, opset version,
inputs) — that satisfies the adapter laws `Laws sem` (hypotheses about the run time: GridSample is determined by
its interpolation/align/padding, DFT-20 with a constant axis input = DFT-17 with that attribute,
GroupNormalization-21 on the `C/g`-fold repeated scale/bias = GroupNormalization-18 on the per-group ones, and an
operator form that reads the same at two opsets behaves the same), for every straight-line graph `ns` written for
`s` over the names `< b`, every environment (inputs and initializers) and every target: evaluating the converted
graph — the rewrites *with their wiring*, `Constant`/`Reshape`/`Expand` interpreted from the ONNX specification —
gives every name of the source graph the value the source graph gives it.  `AllTruthful`: shape facts of
GroupNormalization nodes are true of the values they are evaluated on (A-shape), and where the adapter must look
at run-time shapes `x` is a tensor with `chan x = C` channels (`Laws.shape`: `Shape(x,1,2) = [chan x]`). -/
theorem convert_evalGraph {D E : Type} (sem : OpSem D E) (chan : D → Nat) (hl : Laws sem chan) (s t : Nat) (ns : List ENode)
    (b f : Nat) (env : Env D E) (hbf : b ≤ f)
    (hn : ∀ n ∈ ns, n.ver = s ∧ n.Below b ∧ (n.op.meaning s).isSome)
    (ht : AllTruthful sem chan env ns) :
    ∀ m, m < b → evalNodes sem env (convGraphE s t ns f).1 m = evalNodes sem env ns m := by
  intro m hm
  have := mapFresh_eval sem chan hl b (t - s) s ns f env env hbf (agree_refl b env)
    (fun n hn' => ⟨(hn n hn').1, (hn n hn').2.1, fun v' h1 _ => good_of_valid n.op s v' (hn n hn').2.2 h1,
      (hn n hn').2.2⟩) ht
  exact (this m hm).symm

/-- The graph-level conversion is the node-level model's conversion with wiring added: it leaves exactly the
operators `leafSteps` leaves (the model that the correspondence stream compares with the real converter). -/
theorem convGraphE_refines (s t : Nat) (ns : List ENode) (f : Nat) :
    (convGraphE s t ns f).1.map (·.op)
      = (ns.flatMap (fun n => leafSteps (t - s) s (newLeaf n.op s))).map (·.op) := by
  unfold convGraphE
  rw [mapFresh_ops (stepsE (t - s) s) (fun o => (leafSteps (t - s) s (newLeaf o s)).map (·.op))
    (fun m f => stepsE_ops (t - s) s m f (newLeaf m.op s) rfl) ns f, List.map_flatMap]

/-- **The Reshape/Expand wiring of the GroupNormalization rewrite, on the index level.**  In any environment
where `src` holds a vector `vs` and `cA, cB, cC` hold the constants `[-1,1]`, `[-1]`, `[1,k]`, the three wired
nodes `Reshape(src,cA)→o1 ; Expand(o1,cC)→o2 ; Reshape(o2,cB)→o3` leave at `o3` a vector of length `|vs|·k` whose
entry `i` is `vs[i / k]`, and change no other name. -/
theorem groupnorm_wiring_index {D E : Type} (sem : OpSem D E) (e : Env D E) (src cA cB cC o1 o2 o3 w k : Nat)
    (vs : List E) (h1 : e src = some (.vec vs)) (hA : e cA = some (.ints [-1, 1])) (hB : e cB = some (.ints [-1]))
    (hC : e cC = some (.ints [1, (k : Int)])) (d1 : cC ≠ o1) (d2 : cB ≠ o1) (d3 : cB ≠ o2) :
    ∃ s' : List E,
      (evalNodes sem e [{ op := .plain "Reshape", ver := w, ins := [some src, some cA], out := o1 },
                        { op := .plain "Expand", ver := w, ins := [some o1, some cC], out := o2 },
                        { op := .plain "Reshape", ver := w, ins := [some o2, some cB], out := o3 }]) o3 = some (.vec s') ∧
      s'.length = vs.length * k ∧ ∀ i, i < vs.length * k → s'[i]? = vs[i / k]? :=
  ⟨expandScale k vs, chain_eval sem e src cA cB cC o1 o2 o3 w k vs h1 hA hB hC d1 d2 d3,
    (groupnorm_scale_expand k vs).1, fun i hi => groupnorm_scale_expand_div k vs i hi⟩

/-- (Hypotheses: `Laws sem chan`, `Truthful chan env n`, `n.ver = 20`, the node valid at 20, straight-line single-output
node.)  The whole rewritten block of one GroupNormalization node (10 wired nodes for the static rewrite, 17 for the
run-time-ratio rewrite with `Shape`/`Div`/`Concat` interpreted) evaluates, on every name of the
source graph, to what the opset-20 node evaluated to. -/
theorem groupnorm_rewrite_evalGraph {D E : Type} (sem : OpSem D E) (chan : D → Nat) (hl : Laws sem chan) (env : Env D E) (n : ENode)
    (f b : Nat) (gn : GN) (news : List Op) (hop : n.op = .groupNorm gn) (hA : adapt n.op 20 = .replaced news)
    (hver : n.ver = 20) (hb : n.Below b) (hbf : b ≤ f) (hvalid : (n.op.meaning 20).isSome) (ht : Truthful chan env n) :
    ∃ news' f', rewriteE n 20 f = some (news', f') ∧ news'.map (·.op) = news ∧
      ∀ m, m < b → evalNodes sem env news' m = evalNode sem env n m := by
  obtain ⟨news', f', h1, _, h3, _, h5⟩ := rewrite_eval sem chan hl env n 20 f b news hA hver hb hbf hvalid ht
  exact ⟨news', f', h1, h3, h5⟩

/-! ## Histories: the same object converted again and again -/

/-- **The step loop composes.**  For every node, every start version and all step counts `a`, `b`: running the
`for from_version in range(...)` loop for `a + b` steps from `v` is running it for `a` steps from `v` and then, on
every node that is left (the node itself or whatever the adapters put in its place), for `b` steps from `v + a`.
So converting `s → u` and then `u → t` rewrites a node exactly as converting `s → t` does — whatever the adapters
do on the way (replace, return `None`, raise). -/
theorem step_loop_composes (a b v : Nat) (l : Leaf) :
    leafSteps (a + b) v l = (leafSteps a v l).flatMap (leafSteps b (v + a)) := by
  induction a generalizing v l with
  | zero => simp [leafSteps]
  | succ a ih =>
    have e1 : a + 1 + b = (a + b) + 1 := by omega
    have e2 : v + (a + 1) = v + 1 + a := by omega
    rw [e1, e2]
    simp only [leafSteps]
    cases adapt l.op v with
    | raised | noAdapter | retNone => exact ih _ _
    | replaced news =>
      simp only [List.flatMap_assoc]
      congr 1
      funext o
      exact ih _ _

/-- **Valid models are closed under conversion.**  Converting a valid self-consistent model at `s` (any nesting
depth) to any target with `nativeConvert` (native route only; not the C-API route) either leaves it exactly as it was or yields a model that is again valid and self-consistent
— now at `t` — with the same readings, inputs and initializers.  Hence every theorem about *one* conversion of a
valid model applies to the result of a previous conversion. -/
theorem convert_closed (s t : Nat) {d : Nat} (m : Model (NodeD d)) (h : ValidModel s m) :
    (nativeConvert t m).1 = m ∨
    (ValidModel t (nativeConvert t m).1 ∧
      pmNodes Op.meaning t (nativeConvert t m).1.nodes = pmNodes Op.meaning s m.nodes ∧
      (nativeConvert t m).1.inputs = m.inputs ∧ (nativeConvert t m).1.inits = m.inits) :=
  (nativeConvert_closed s t m h).imp id fun k => ⟨k.valid, k.reads, k.inputs, k.inits⟩

/-- **Converting an already converted model is a no-op.**  A valid model that declares `t` is returned exactly as
it is — no exception, nothing touched — by the public entry, for every `fallback` value and every behaviour of
the C API (the inline pass finds no function, the pass takes the `== target_version` exit). -/
theorem convert_again_noop (t : Nat) (fb : Fallback) {d : Nat} (capi : CApi (NodeD d)) (m : Model (NodeD d))
    (h : ValidModel t m) : convertVersionApi .ir fb t capi m = (m, none) := by
  simp only [convertVersionApi, inlineModel_valid h, requiresInlineCall, h.declared, if_true]

/-- **`convert_equivalent` over histories.**  Take a valid self-consistent model at `s` and *any* sequence of calls
`convert_version(model, t_i, fallback_i)` on the same `ir.Model` — any length, targets in any order (up, repeated,
down, out of range), any `fallback` values — during which the ONNX C API never succeeds (in particular: every
history with fallback off).  After the whole history the model is a valid self-consistent model at some `s'` that is
`s` or one of the requested targets; every non-auxiliary node reads at `s'` as the corresponding node of the
original read at `s`, in order, subgraphs of every depth included; inputs and initializers are the original ones.
Calls that raise (downgrade, unsupported target) leave the state as it was.  Induction over the history
(`keeps_history`); that one call is a step (`keeps_call`) rests on `convert_closed`. -/
theorem history_equivalent (s : Nat) {d : Nat} (hist : List (Fallback × Nat)) (m : Model (NodeD d))
    (h : ValidModel s m) :
    ∃ s', (s' = s ∨ s' ∈ hist.map (·.2)) ∧
      ValidModel s' (convertHistory .ir (hist.map (fun c => (c.1, c.2, capiFails))) m).1 ∧
      pmNodes Op.meaning s' (convertHistory .ir (hist.map (fun c => (c.1, c.2, capiFails))) m).1.nodes
        = pmNodes Op.meaning s m.nodes ∧
      (convertHistory .ir (hist.map (fun c => (c.1, c.2, capiFails))) m).1.inputs = m.inputs ∧
      (convertHistory .ir (hist.map (fun c => (c.1, c.2, capiFails))) m).1.inits = m.inits :=
  let ⟨s', hs', k⟩ := keeps_history .ir hist h
  ⟨s', hs', k.valid, k.reads, k.inputs, k.inits⟩

/-- (non-vacuity) the D13a model (a `ValidModel 20`, see `d13a_fixed`) through the history
21, 21 again, 23, back to 18 with fallback on (the C API fails), 26: it ends at 23 with the source's reading, and the
calls to 18 and 26 raise nothing / a `ValueError` and change nothing. -/
example :
    let r := convertHistory .ir [(.none, 21, capiFails), (.yes, 21, capiFails), (.no, 23, capiFails),
                                 (.yes, 18, capiFails), (.none, 26, capiFails)] d13aModel
    r.1.declared = some 23 ∧ r.2 = [none, none, none, none, some .badTarget] ∧
    pmNodes Op.meaning 23 r.1.nodes = pmNodes Op.meaning 20 d13aModel.nodes ∧
    r.1 = (nativeConvert 23 d13aModel).1 := by decide

/-- **The same over histories of the `ModelProto` entry.**  Every call re-reads the proto (`ir.from_proto`: no version
stamps), converts and writes graph and opset imports back; a call that raises leaves the proto as it was.  For every
valid self-consistent model, every history of calls on the same `ModelProto` (any length, targets, `fallback` values;
the C API never succeeds): the proto ends as a valid self-consistent model at `s` or at one of the requested targets,
reads as the original, same inputs and initializers. -/
theorem history_equivalent_proto (s : Nat) {d : Nat} (hist : List (Fallback × Nat)) (m : Model (NodeD d))
    (h : ValidModel s m) :
    ∃ s', (s' = s ∨ s' ∈ hist.map (·.2)) ∧
      ValidModel s' (convertHistory .proto (hist.map (fun c => (c.1, c.2, capiFails))) m).1 ∧
      pmNodes Op.meaning s' (convertHistory .proto (hist.map (fun c => (c.1, c.2, capiFails))) m).1.nodes
        = pmNodes Op.meaning s m.nodes ∧
      (convertHistory .proto (hist.map (fun c => (c.1, c.2, capiFails))) m).1.inputs = m.inputs ∧
      (convertHistory .proto (hist.map (fun c => (c.1, c.2, capiFails))) m).1.inits = m.inits :=
  let ⟨s', hs', k⟩ := keeps_history .proto hist h
  ⟨s', hs', k.valid, k.reads, k.inputs, k.inits⟩

/-- (non-vacuity) the D13a model through a `ModelProto` history 21, 23, 20 (refused: downgrade), 23. -/
example :
    let r := convertHistory .proto [(.none, 21, capiFails), (.no, 23, capiFails), (.none, 20, capiFails),
                                    (.yes, 23, capiFails)] d13aModel
    r.1.declared = some 23 ∧ r.2 = [none, none, some .downgrade, none] ∧
    pmNodes Op.meaning 23 r.1.nodes = pmNodes Op.meaning 20 d13aModel.nodes := by decide

/-- **Two calls = one call, node by node (exact, not only up to meaning).**  A default-domain node without subgraphs
that is written for `s` and carries no reference attribute, with `s ≤ u ≤ t` and no adapter raising on the way to
`u`: the visit of a conversion to `u` followed — on every node it left, now under the declared opset `u` — by the
visit of a conversion to `t` produces exactly the node list (operators, attributes, version stamps) that the single
conversion to `t` produces, and none of the three visits raises.  So `18 → 20 → 22` and `18 → 22` cannot differ on
such a node, whatever the adapters insert.  The statement is about `visitLeaf` only — nodes that own subgraphs,
custom-domain nodes and the entry logic around the visit are not covered. -/
theorem two_calls_eq_one_call (s u t : Nat) (l : Leaf) (hd : l.dflt = true) (hv : l.eff s = s)
    (hr : l.refAttr = false) (h1 : s ≤ u) (h2 : u ≤ t) (hg : ∀ v', s ≤ v' → v' < u → adapt l.op v' ≠ .raised) :
    (visitLeaf (some s) u l).1.flatMap (fun l' => (visitLeaf (some u) t l').1) = (visitLeaf (some s) t l).1 ∧
    (visitLeaf (some s) u l).2 = none ∧ (visitLeaf (some s) t l).2 = none ∧
    ∀ l' ∈ (visitLeaf (some s) u l).1, (visitLeaf (some u) t l').2 = none := by
  have hsu : s + (u - s) = u := by omega
  rw [visitLeaf_steps hd hr (by omega : l.eff s ≤ u), visitLeaf_steps hd hr (by omega : l.eff s ≤ t), hv]
  have hm := leafSteps_stamps (u - s) s l (fun v' a b => hg v' a (by omega))
  -- the nodes of the first visit are written for `u`: the second visit is their step loop from `u`
  have hstep : ∀ l' ∈ leafSteps (u - s) s l, visitLeaf (some u) t l' = (leafSteps (t - u) u l', none) := by
    intro l' hl'
    obtain ⟨a, c, d'⟩ := hm l' hl'
    have := visitLeaf_steps (s := u) (t := t) (c hd) (d' hr) (by rw [eff_new_of_old ((a s hv).trans hsu)]; exact h2)
    rwa [eff_new_of_old ((a s hv).trans hsu)] at this
  refine ⟨?_, rfl, rfl, fun l' hl' => by rw [hstep l' hl']⟩
  simp only [List.flatMap_def]
  rw [List.map_congr_left (fun l' hl' => by rw [hstep l' hl']), ← List.flatMap_def,
    show t - s = (u - s) + (t - u) by omega, step_loop_composes, hsu]

/-- (non-vacuity) the hypotheses hold for the static GroupNormalization written for 18 with `u = 20`, `t = 22`; the
rewrite (10 nodes) happens in the second call. -/
example :
    let l : Leaf := { dflt := true, op := .groupNorm gnStatic, version := none, refAttr := false }
    l.eff 18 = 18 ∧ (∀ v', 18 ≤ v' → v' < 20 → adapt l.op v' ≠ .raised) ∧
    (visitLeaf (some 18) 20 l).1.length = 1 ∧ (visitLeaf (some 18) 22 l).1.length = 10 := by
  refine ⟨rfl, fun v' _ h2 => ?_, by decide, by decide⟩
  have : v' ≠ 20 := by omega
  simp [adapt, this]

/-- (non-vacuity of `step_loop_composes`) GroupNormalization 18 → 20 → 22 = 18 → 22: ten nodes either way. -/
example : leafSteps (2 + 2) 18 (newLeaf (.groupNorm gnStatic) 18)
      = (leafSteps 2 18 (newLeaf (.groupNorm gnStatic) 18)).flatMap (leafSteps 2 20) ∧
    (leafSteps 4 18 (newLeaf (.groupNorm gnStatic) 18)).length = 10 := by decide

/-! ## Signature and initializers -/

/-- **`signature_kept`** (definitional: unfolds `recoverFallback`; its content is the model's `take`, tied by the `fallback` stream).  On every path that converts (native, or C API followed by the input truncation
`inputs[:len(model.graph.inputs)]`) the graph inputs are the original ones, in order — for every
initializer list and whatever the C API returned. -/
theorem signature_kept {α} [Inner α] (m : Model α) (t : Nat) (ns : List (Node α)) :
    (recoverFallback m t ns).inputs = m.inputs := by
  simp [recoverFallback, capiInputs]

/-- **`initializers_kept`.**  The recovery loop after the C-API call registers exactly the original
initializers (as a set of names): those that were graph inputs already and those that `call_onnx_api` had
turned into extra inputs — none is lost, nothing else is registered. -/
theorem initializers_kept {α} [Inner α] (m : Model α) (t : Nat) (ns : List (Node α)) (x : String) :
    x ∈ (recoverFallback m t ns).inits ↔ x ∈ m.inits := by
  simp only [recoverFallback, capiInputs, List.mem_filter, List.mem_append, List.contains_iff_mem,
    Bool.not_eq_true']
  constructor
  · intro h; exact h.2
  · intro h
    refine ⟨?_, h⟩
    by_cases hx : x ∈ m.inputs
    · exact Or.inl hx
    · exact Or.inr ⟨h, by simpa using hx⟩

/-! ### The fallback route in detail (`call_onnx_api`, recovery loop) -/

open OV.C10.Fallback in
/-- **`initializers_kept`, fallback route, values included.**  For every graph (any inputs, any initializers of
any sizes — below or above the 1000-element limit of `call_onnx_api`, listed among the graph inputs or not) whose
initializer names are distinct, and every C-API result that returns inputs and initializers as given: after the
recovery loop and the truncation the initializer dict holds exactly the original (name, size, value) entries —
none lost, none added, every stripped value restored — and the graph inputs are the original ones, in order. -/
theorem fallback_initializers_kept (orig conv : Fallback.G) (hinj : NameInj orig.inits)
    (hc : CapiKeeps (prepare orig) conv) :
    (∀ i, i ∈ (afterSuccess orig conv).inits ↔ i ∈ orig.inits) ∧ (afterSuccess orig conv).inputs = orig.inputs := by
  obtain ⟨hci, hcn⟩ := hc
  have hsub : conv.inits ⊆ orig.inits := hcn ▸ List.filter_sublist.subset
  obtain ⟨a, c⟩ := recoverLoop_spec orig.inits hinj conv hsub
  refine ⟨fun i => ⟨fun h => a h, fun h => c i h ?_⟩, ?_⟩
  · rw [hci]; exact name_in_prepared_inputs orig h
  · simp [afterSuccess, hci, prepare]

open OV.C10.Fallback in
/-- **Failure of the C API leaves the model as it was**: `finally` re-registers every original initializer with its
value (the stripped ones re-enter the dict at its end — a dict has no meaningful order) and cuts the inputs back. -/
theorem fallback_failure_restores (orig : Fallback.G) (hinj : NameInj orig.inits) :
    (∀ i, i ∈ (afterCall orig).inits ↔ i ∈ orig.inits) ∧ (afterCall orig).inputs = orig.inputs := by
  obtain ⟨a, b, _⟩ := registerAll_spec orig.inits hinj orig.inits (during orig).inits List.filter_sublist.subset
    (List.Subset.refl _)
  exact ⟨fun i => ⟨fun h => a h, fun h => b h⟩, by simp [afterCall, restore, during, prepare]⟩

/-- graph inputs `x, w`; initializer `w` with 1200 elements (an overridable default above the stripping limit) -/
def fallbackWitness : Fallback.G := { inputs := ["x", "w"], inits := [{ name := "w", size := 1200, val := 7 }] }

open OV.C10.Fallback in
/-- **The distinct-names assumption is an invariant of the data structure.**  Every initializer dict that dict
assignments can build from the empty dict — any sequence of registrations, repeated names included — has pairwise
different keys. -/
theorem dict_keys_distinct (l : List Init) : NameInj (registerAll [] l) :=
  nameInj_of_nodup (registerAll_nodup l List.nodup_nil)

open OV.C10.Fallback in
/-- **`initializers_kept` on the fallback route, no assumption on names**: for every graph whose initializer dict was
built by registrations (every dict is), success and failure of the C API both leave exactly the original
(name, size, value) entries and the original inputs. -/
theorem fallback_initializers_kept_any (inputs : List String) (l : List Init) (conv : Fallback.G)
    (hc : CapiKeeps (prepare { inputs := inputs, inits := registerAll [] l }) conv) :
    ((∀ i, i ∈ (afterSuccess { inputs := inputs, inits := registerAll [] l } conv).inits ↔ i ∈ registerAll [] l) ∧
      (afterSuccess { inputs := inputs, inits := registerAll [] l } conv).inputs = inputs) ∧
    ((∀ i, i ∈ (afterCall { inputs := inputs, inits := registerAll [] l }).inits ↔ i ∈ registerAll [] l) ∧
      (afterCall { inputs := inputs, inits := registerAll [] l }).inputs = inputs) :=
  ⟨fallback_initializers_kept _ conv (dict_keys_distinct l) hc, fallback_failure_restores _ (dict_keys_distinct l)⟩

/-- (non-vacuity) the witness graph has distinct initializer names -/
example : Fallback.NameInj fallbackWitness.inits := by
  intro i j hi hj _
  simp [fallbackWitness] at hi hj; rw [hi, hj]

open OV.C10.Fallback in
/-- Why the recovery loop must scan *all* inputs of the converted graph: scanning only the inputs that
`call_onnx_api` appended (seeded change C10-5) loses a big initializer that is itself a graph input. -/
theorem fallback_appended_only_refuted :
    CapiKeeps (prepare fallbackWitness) (prepare fallbackWitness) ∧
    recoverLoopAppendedOnly fallbackWitness (prepare fallbackWitness) = [] ∧
    recoverLoop fallbackWitness.inits (prepare fallbackWitness) = fallbackWitness.inits :=
  ⟨⟨rfl, rfl⟩, by decide, by decide⟩

/-! ### `_restore_metadata` on the fallback route: frame theorems -/

open OV.C10.Meta in
/-- **Matched node.**  If the converted node is named `nm`, exactly one original node carries that name (`lookupNode`)
and it has the same operator and domain, then after `_restore_metadata` the node keeps name, operator and domain, every
metadata key reads as the C API left it if it left one and otherwise as in the original node (so no original entry is
lost and nothing the C API kept is overwritten), and an empty doc string is filled from the original. -/
theorem restore_node_matched (orig : List N) (n o : N) (nm : String) (hn : n.name = some nm)
    (hl : lookupNode orig nm = some o) (hop : o.op = n.op ∧ o.domain = n.domain) :
    (restoreNode orig n).name = n.name ∧ (restoreNode orig n).op = n.op ∧ (restoreNode orig n).domain = n.domain ∧
    (∀ k, (restoreNode orig n).props.get k = (n.props.get k).or (o.props.get k)) ∧
    (restoreNode orig n).doc = mergeDoc n.doc o.doc := by
  simp only [restoreNode, hn, hl, hop.1, hop.2, beq_self_eq_true, Bool.and_self, if_true]
  exact ⟨trivial, trivial, trivial, fun k => merge_get _ _ _, trivial⟩

open OV.C10.Meta in
/-- **What is not restored, exactly.**  A converted node without a name, or whose name no original node carries, or
whose name two or more original nodes carry, or whose unique namesake has another operator or domain (the C API
created or rewrote it) is left exactly as the C API returned it. -/
theorem restore_node_unmatched (orig : List N) (n : N)
    (h : n.name = none ∨ ∃ nm, n.name = some nm ∧
      (lookupNode orig nm = none ∨ ∃ o, lookupNode orig nm = some o ∧ ¬ (o.op = n.op ∧ o.domain = n.domain))) :
    restoreNode orig n = n := by
  rcases h with h | ⟨nm, hn, h⟩
  · simp [restoreNode, h]
  · rcases h with h | ⟨o, ho, hne⟩
    · simp [restoreNode, hn, h]
    · simp only [restoreNode, hn, ho]
      have : (o.op == n.op && o.domain == n.domain) = false := by
        cases hq : (o.op == n.op && o.domain == n.domain) with
        | false => rfl
        | true => simp at hq; exact absurd hq hne
      simp [this]

open OV.C10.Meta in
/-- `lookupNode` finds a node exactly when one original node, and no second one, carries the name. -/
theorem lookupNode_some_iff (orig : List N) (nm : String) (o : N) :
    lookupNode orig nm = some o ↔ orig.filter (fun x => x.name == some nm) = [o] := by
  unfold lookupNode
  constructor
  · intro h
    split at h
    · injection h with h; subst h; assumption
    · cases h
  · intro h; rw [h]

open OV.C10.Meta in
/-- **Values** are matched by name alone (the last original definition of the name): metadata and doc string follow
the same law; a value whose name the original graph does not define is untouched. -/
theorem restore_value_frame (orig : List V) (v : V) :
    (∀ o, lookupValue orig v.name = some o →
      (restoreValue orig v).name = v.name ∧ (∀ k, (restoreValue orig v).props.get k = (v.props.get k).or (o.props.get k)) ∧
      (restoreValue orig v).doc = mergeDoc v.doc o.doc) ∧
    (lookupValue orig v.name = none → restoreValue orig v = v) := by
  refine ⟨fun o ho => ?_, fun h => by simp [restoreValue, h]⟩
  simp only [restoreValue, ho]
  exact ⟨trivial, fun k => merge_get _ _ _, trivial⟩

open OV.C10.Meta in
/-- **Graph level** (definitional except for `merge_get`): the same law for `graph.metadata_props` and `graph.doc_string`; node and value lists keep their
length and order (every entry is the restored image of the entry at the same position).  Metadata of nested subgraph
objects themselves is not part of `_restore_metadata` and is not restored. -/
theorem restore_graph_frame (orig conv : Gr) :
    (∀ k, (restore orig conv).props.get k = (conv.props.get k).or (orig.props.get k)) ∧
    (restore orig conv).doc = mergeDoc conv.doc orig.doc ∧
    (restore orig conv).nodes = conv.nodes.map (restoreNode orig.nodes) ∧
    (restore orig conv).values = conv.values.map (restoreValue orig.values) :=
  ⟨fun _ => merge_get _ _ _, rfl, rfl, rfl⟩

open OV.C10.Meta in
/-- (non-vacuity and the C15-FALLBACK witness in the model) the C API returned `relu0` without metadata: it gets the
original entry back; a node it created (`cast1`) and a node whose name was used twice stay as returned. -/
example :
    let orig : List N := [{ name := some "relu0", op := "Relu", domain := "", doc := "", props := [("nk", "nv")] },
                          { name := some "dup", op := "Neg", domain := "", doc := "", props := [("a", "1")] },
                          { name := some "dup", op := "Neg", domain := "", doc := "", props := [("a", "2")] }]
    (restoreNode orig { name := some "relu0", op := "Relu", domain := "", doc := "", props := [] }).props = [("nk", "nv")] ∧
    (restoreNode orig { name := some "cast1", op := "Cast", domain := "", doc := "", props := [] }).props = [] ∧
    (restoreNode orig { name := some "dup", op := "Neg", domain := "", doc := "", props := [] }).props = [] := by decide

/-! ### Names of adapter-created values (`_collect_value_names`, `_name_new_values`) -/

open OV.C10.Names in
/-- The naming loop always terminates: among `|used| + 1` consecutive counters one is unused — and it returns the
*first* unused counter at or above the current one. -/
theorem fresh_name_exists (used : List VName) (c : Nat) :
    ∃ k, firstFresh used (used.length + 1) c = some k ∧ c ≤ k ∧ VName.val k ∉ used ∧
      ∀ j, c ≤ j → j < k → VName.val j ∈ used := by
  obtain ⟨k, hk⟩ := firstFresh_total used c
  exact ⟨k, hk, firstFresh_spec used _ c k hk⟩

open OV.C10.Names in
/-- **Every adapter-created name is defined once, over all scopes.**  For every set `used` of collected names, every
counter and every sequence of replacements (any sizes, any number, wherever in the graph or its subgraphs they
happen): naming succeeds, the visible new names `val_k` are strictly increasing in creation order (so pairwise
distinct across all replacements, whatever scopes they land in) and none of them is in `used`.  With `used` ⊇ the
names the source model defines in any scope — what `_collect_value_names` computes — a source in which every name
is defined once is converted into a model in which every name is defined once. -/
theorem adapter_names_defined_once (sizes : List Nat) (st : St) :
    ∃ vis, nameAll sizes st = some vis ∧ vis.length = sizes.length ∧
      List.Pairwise (· < ·) vis.flatten ∧ ∀ k ∈ vis.flatten, st.ctr ≤ k ∧ VName.val k ∉ st.used := by
  induction sizes generalizing st with
  | nil => exact ⟨[], rfl, rfl, List.Pairwise.nil, fun k h => by simp at h⟩
  | cons n ns ih =>
    obtain ⟨ks, st1, e, _, hp, hall, hc, hu⟩ := nameMany_spec n st
    obtain ⟨vis, e2, hl2, hp2, hall2⟩ := ih st1
    refine ⟨ks.dropLast :: vis, ?_, by simp [hl2], ?_, ?_⟩
    · simp only [nameAll, nameReplacement, e, Option.map_some, e2]
    · rw [List.flatten_cons, List.pairwise_append]
      refine ⟨hp.sublist (List.dropLast_sublist ks), hp2, fun a ha b hb => ?_⟩
      have ha' := hall a (List.dropLast_subset ks ha)
      have hb' := (hall2 b hb).1
      omega
    · intro k hk
      rw [List.flatten_cons] at hk
      rcases List.mem_append.mp hk with h | h
      · have := hall k (List.dropLast_subset ks h); exact ⟨this.1, this.2.2⟩
      · obtain ⟨a, b⟩ := hall2 k h
        exact ⟨by omega, fun hm => b (hu _ hm)⟩

open OV.C10.Names in
/-- The witness of seeded change C10-6 in the model: with the body outputs `val_0`, `val_1` collected the DFT
rewrite (2 new nodes) gets `val_2`; had they not been collected it would get `val_0` again. -/
example : nameAll [2] { used := [.val 0, .val 1, .other "x"], ctr := 0 } = some [[2]] ∧
    nameAll [2] { used := [.other "x"], ctr := 0 } = some [[0]] := by decide

/-! ### Opset imports on the ModelProto entry -/

open OV.C10.Imports in
/-- **Every used domain is declared after the conversion (ModelProto entry).**  For every model whose main graph and
whose called functions import the domains they use (any number of functions, any private domains), every target
and whatever the proto listed before: after inlining, clean-up, the default-domain bump and the rebuild of
`opset_import` from the converted IR model, the proto imports every domain some node of the (inlined) main graph
uses, and imports the default domain at the target. -/
theorem proto_imports_cover (m : M) (hv : Valid m) (target : Nat) (proto : Dict) :
    (∀ d ∈ usedAfter m, (protoRebuild proto (converted m target)).has d = true) ∧
    (protoRebuild proto (converted m target)).get "" = some target := by
  refine ⟨fun d hd => ?_, get_set _ _ _⟩
  unfold protoRebuild converted
  refine set_keeps (removeUnused_keeps ?_ hd)
  rw [inlined, has_foldl_addMissing, Bool.or_eq_true]
  rcases List.mem_append.mp hd with h | h
  · exact .inl (hv.main d h)
  · obtain ⟨u, hu, hdu⟩ := List.mem_flatten.mp h
    obtain ⟨f, hf, rfl⟩ := List.mem_map.mp hu
    exact .inr (List.any_eq_true.mpr ⟨f.1, List.mem_map_of_mem hf, hv.funcs f hf d hdu⟩)

/-- main graph: `Relu`, call of a function that imports and uses the private domain `priv` -/
def importsWitness : Imports.M :=
  { imports := [("", 18), ("fn", 1)], usedMain := [""], funcs := [([("", 18), ("priv", 1)], ["", "priv"])] }

open OV.C10.Imports in
/-- Updating the proto's existing entries in place instead (seeded change C10-4) leaves a domain that only enters
the main graph through inlining undeclared; the rebuild declares it. -/
theorem proto_in_place_refuted :
    Valid importsWitness ∧
    (protoInPlace importsWitness.imports (converted importsWitness 21)).has "priv" = false ∧
    (protoRebuild importsWitness.imports (converted importsWitness 21)) = [("", 21), ("priv", 1)] := by
  refine ⟨⟨by decide, by decide⟩, by decide, by decide⟩

/-- **`functions_kept_or_inlined`** (definitional: reads the fields `inlineModel` writes; `InlinePass` itself is a contract).  The pass inlines first: whenever the inline pass succeeds no
function is left (their behaviour is preserved by the `InlinePass` contract, A-ir), and the default-domain
import is held under the `""` key only. -/
theorem functions_kept_or_inlined {α} [Inner α] (m0 m : Model α) (h : inlineModel m0 = .ok m) : m.funcs = [] ∧ m.aionnx = none := by
  unfold inlineModel at h
  split at h
  · cases h
  · injection h with h; subst h; exact ⟨rfl, rfl⟩

/-! ## Non-vacuity -/

/-- A self-consistent opset-18 model satisfying every hypothesis of `convert_equivalent_ir_of_good`:
GridSample(bilinear) and an `If` whose branches hold DFT(axis=1) and GroupNormalization(num_groups=2, C=4). -/
def demoModel : Model (NodeD 0) :=
  { declared := some 18, aionnx := none, funcs := [], inputs := ["x"], inits := ["s", "b"],
    nodes := [
      { leaf := { dflt := true, version := none, refAttr := false, op := .gridSample (some "bilinear") none none }, bodies := [] },
      { leaf := { dflt := true, version := none, refAttr := false, op := .plain "If" },
        bodies := [[{ dflt := true, version := none, refAttr := false, op := .dft (some 1) none none false none 3 }],
                   [{ dflt := true, version := some 18, refAttr := false, op := .groupNorm gnStatic }]] }] }

example : (nativeConvert 21 demoModel).2 = none ∧ (nativeConvert 21 demoModel).1.declared = some 21 ∧
    pmNodes Op.meaning 21 (nativeConvert 21 demoModel).1.nodes = pmNodes Op.meaning 18 demoModel.nodes ∧
    (nativeConvert 21 demoModel).1.nodes ≠ demoModel.nodes := by decide

/-- `demoModel` satisfies the hypothesis of `convert_equivalent_ir_of_good` (`SelfConsistent Op.meaning`)
(so those theorems are not vacuous), and the inline pass is the identity on it. -/
example : SelfConsistent Op.meaning 18 demoModel ∧ inlineModel demoModel = .ok demoModel := by
  have hgs : ∀ v', Good Op.meaning (.gridSample (some "bilinear") none none) v' := fun v' => by
    by_cases h : v' = 19
    · subst h; exact gridsample_mode_rename _ _ _ (by decide)
    · exact good_of_quiet _ (by simp [adapt, h])
  have hdft : ∀ v', Good Op.meaning (.dft (some 1) none none false none 3) v' := fun v' => by
    by_cases h : v' = 19
    · subst h; exact (dft_axis_attr_eq_input 1 none none false 3).2
    · exact good_of_quiet _ (by simp [adapt, h])
  have hgn : ∀ v', Good Op.meaning (.groupNorm gnStatic) v' := fun v' => by
    by_cases h : v' = 20
    · subst h
      exact groupnorm_good gnStatic (by decide)
    · exact good_of_quiet _ (by simp [adapt, h])
  have hif : ∀ v', Good Op.meaning (.plain "If") v' := fun v' => good_of_quiet _ rfl
  refine ⟨⟨rfl, rfl, rfl, ?_⟩, rfl⟩
  intro n hn
  simp only [demoModel, List.mem_cons, List.mem_nil_iff, or_false] at hn
  rcases hn with rfl | rfl
  · exact ⟨⟨fun _ => rfl, fun _ => rfl, fun _ v' _ => hgs v'⟩, fun h => absurd rfl h, by simp, by simp⟩
  · refine ⟨⟨fun _ => rfl, fun _ => rfl, fun _ v' _ => hif v'⟩, fun _ => ⟨"If", rfl⟩, ?_, by simp⟩
    intro b hb l hl
    simp only [List.mem_cons, List.mem_nil_iff, or_false] at hb
    rcases hb with rfl | rfl
    · rw [List.mem_singleton.mp hl]
      exact ⟨fun _ => rfl, fun _ => rfl, fun _ v' _ => hdft v'⟩
    · rw [List.mem_singleton.mp hl]
      exact ⟨fun _ => rfl, fun _ => rfl, fun _ v' _ => hgn v'⟩

/-- A semantics that knows only `Shape` of an opaque tensor (4 channels). -/
def demoSem : OpSem Unit Nat := fun op _ ins =>
  match op, ins with
  | .plain "Shape", [some (.data _)] => some (.ints [4])
  | _, _ => none

/-- The laws are satisfiable … -/
example : Laws demoSem (fun _ => 4) where
  sameMeaning := by intros; rfl
  shape := by intros; rfl
  gridSample := by intros; rfl
  dft := by intros; rfl
  groupNorm := by intros; rfl

def demoEnv : Env Unit Nat := fun m =>
  if m = 0 then some (.data ()) else if m = 1 then some (.vec [10, 20]) else if m = 2 then some (.vec [1, 2]) else none

def demoGNNode : ENode := { op := .groupNorm gnStatic, ver := 20, ins := [some 0, some 1, some 2], out := 3 }
def demoGNNodeDyn : ENode :=
  { op := .groupNorm { gnStatic with xVis := .symbolic }, ver := 20, ins := [some 0, some 1, some 2], out := 3 }

/-- … and the wiring computes: the block emitted for `GroupNormalization(num_groups=2)` on 4 channels turns the
per-group scale `[10,20]` at name 1 into `[10,10,20,20]` and the bias `[1,2]` at name 2 into `[1,1,2,2]` — by the
static rewrite (names `f+5`, `f+8`) and by the run-time-ratio rewrite, which reads `C = 4` off `x` (names `f+9`, `f+15`). -/
example :
    (match rewriteE demoGNNode 20 4, rewriteE demoGNNodeDyn 20 4 with
     | some (news, _), some (dyn, _) =>
       (match evalNodes demoSem demoEnv news 9, evalNodes demoSem demoEnv news 12,
              evalNodes demoSem demoEnv dyn 13, evalNodes demoSem demoEnv dyn 19 with
        | some (.vec a), some (.vec b), some (.vec a'), some (.vec b') =>
          a == [10, 10, 20, 20] && b == [1, 1, 2, 2] && a' == [10, 10, 20, 20] && b' == [1, 1, 2, 2] && dyn.length == 17
        | _, _, _, _ => false)
     | _, _ => false) = true := by decide

/-- The hypotheses of `convert_evalGraph` hold for a concrete graph (GridSample(bilinear) then DFT(axis=1)
written for opset 19), for every semantics and environment. -/
example {D E : Type} (sem : OpSem D E) (chan : D → Nat) (env : Env D E) :
    let ns : List ENode := [{ op := .gridSample (some "bilinear") none none, ver := 19, ins := [some 0, some 1], out := 2 },
                            { op := .dft (some 1) none none false none 3, ver := 19, ins := [some 2], out := 3 }]
    (∀ n ∈ ns, n.ver = 19 ∧ n.Below 4 ∧ (n.op.meaning 19).isSome) ∧
    AllTruthful sem chan env ns := by
  intro ns
  refine ⟨?_, ⟨trivial, ⟨by simp [Truthful], trivial⟩⟩⟩
  intro n hn
  simp only [ns, List.mem_cons, List.mem_nil_iff, or_false] at hn
  rcases hn with rfl | rfl
  · exact ⟨rfl, ⟨by decide, by intro i hi m hm; simp at hi; rcases hi with rfl | rfl <;> (injection hm with hm; omega)⟩, by decide⟩
  · exact ⟨rfl, ⟨by decide, by intro i hi m hm; simp at hi; subst hi; injection hm with hm; omega⟩, by decide⟩

/-- Instances of the adapter laws' hypotheses. -/
example : (Op.meaning (.gridSample (some "bicubic") (some 1) none) 19).isSome := by decide
example : groupnormalization_20_21 (.groupNorm { gnStatic with xVis := .symbolic })
    = .replaced (gnDynReplacement { gnStatic with xVis := .symbolic }) := by decide

/-- Nesting depth 2: `If { If { GridSample(bilinear) ; DFT(axis=1) } }` at opset 18.  The converter recurses
(`visit_attribute → visit_graph_or_function`), so does the model: the innermost nodes are rewritten and stamped. -/
def demoDeep : Model (NodeD 1) :=
  { declared := some 18, aionnx := none, funcs := [], inputs := ["x"], inits := [],
    nodes := [
      { leaf := { dflt := true, version := none, refAttr := false, op := .plain "If" },
        bodies := [[
          ({ leaf := { dflt := true, version := none, refAttr := false, op := .plain "If" },
             bodies := [[({ dflt := true, version := none, refAttr := false, op := .gridSample (some "bilinear") none none } : Leaf),
                         ({ dflt := true, version := none, refAttr := false, op := .dft (some 1) none none false none 3 } : Leaf)]] }
            : Node Leaf)]] }] }

example : (nativeConvert 21 demoDeep).2 = none ∧ (nativeConvert 21 demoDeep).1.declared = some 21 ∧
    pmNodes Op.meaning 21 (nativeConvert 21 demoDeep).1.nodes = pmNodes Op.meaning 18 demoDeep.nodes ∧
    ((nativeConvert 21 demoDeep).1.nodes.flatMap Node.leaves).length = 5 ∧
    ∀ l ∈ (nativeConvert 21 demoDeep).1.nodes.flatMap Node.leaves, l.version = some 21 := by decide

example : (expandScale 2 [10, 20, 30] : List Nat) = [10, 10, 20, 20, 30, 30] := by decide

end OV.Props.C10
