import OV.Lemmas.C03Env
import OV.Lemmas.C03Uses
import OV.Lemmas.C03FragA
import OV.Lemmas.C03Check
import OV.Lemmas.C03Mod
import OV.Lemmas.C03BkA
import OV.Lemmas.C03Dce
import OV.Lemmas.C04Pipeline
/-!
# C03 — `optimize()` never changes what a model computes

Model: `OV.Model.C03Graph` (graphs and `evalGraph`), `OV.Model.C03Fold`, `OV.Model.C03Pass` (`processNode`,
`foldGraph`, `optimizeIr`), `OV.Model.C03Dce` (`dcePass`).  The step lemmas and the per-evaluator lemmas are proved here;
the fragment theorems are the graph-level lemmas of `OV.Lemmas.C03*` under their property names (`C03Sem`: frame
property of `evalGraph`; `C03Turn`: one turn of the node loop by outcome and the rule induction `visitNodes_induct`;
`C03BkA`: the use-count invariant behind the pruning; `C03FragA`: the simulation `visitNodes_refines`; `C03Check`: the
decidable classifiers and the `Constant`-node hypotheses; `C03Mod`: the
`modified` flag; `C03Dce`: the remove-unused-nodes pass).

Every operator is the uninterpreted `sem.op` (A-op); the reference evaluator's answer enters as
the hypothesis `href` (A-ref); onnx_ir passes and the rewrite pass enter `pipeline_preserves` as
refinement contracts (A-ir).  All statements hold for every operator semantics `sem`, every nesting
depth `d`, every enclosing environment, every argument list (every input), and — because no
statement mentions them — every value of the size limits / `should_fold` / iteration options.
-/
namespace OV.Props.C03
open OV.C03

variable {V : Type}

/-- `g'` computes whatever `g` computes (on every input on which `g` is defined). -/
def Refines (sem : Sem V) (d : Nat) (g' g : Graph) : Prop :=
  ∀ (outer : Env V) (args : List (Option V)) (vs : List V),
    evalGraph sem d outer g args = some vs → evalGraph sem d outer g' args = some vs

/-- **Alias substitution** (first loop of `process_node`): if the environment holds the same
value for `x` and `y` (what `symMap x = alias y` asserts), replacing the input `x` by `y`
does not change what the node computes — including what its bodies compute. -/
theorem alias_subst_sound (sem : Sem V) (sub : Env V → Graph → List (Option V) → Option (List V))
    (ρ : Env V) (n : Node) (x y : Name) (h : ρ x = ρ y) :
    evalNode sem sub ρ (n.setInputs (substIn x y n.inputs)) = evalNode sem sub ρ n := by
  have hout := nodeOutputs_setInputs sem sub ρ n (substIn x y n.inputs) (by simp [substIn])
  unfold evalNode
  rw [setInputs_inputs, setInputs_outputs, lookupAll_substIn h]
  cases lookupAll ρ n.inputs with
  | none => rfl
  | some args => simp only [Option.bind, hout]

/-- An `Identity` node establishes the alias the pass records for it: afterwards its output and
its input hold the same value (given the operator law `Identity v = v`). -/
theorem identity_establishes_alias (sem : Sem V) (sub) (ρ ρ' : Env V) (x o : Name) (attrs : List (String × Attr))
    (hid : ∀ v, sem.op "Identity" "" attrs [some v] = some [v]) (hne : o ≠ x)
    (h : evalNode sem sub ρ (.mk "Identity" "" [some x] [o] attrs []) = some ρ') : ρ' o = ρ' x :=
  identity_alias_env sem sub ρ ρ' (.mk "Identity" "" [some x] [o] attrs []) x o hid rfl rfl rfl rfl rfl hne h

/-- **Generic folding** (the tail of `process_node` + `new_initializer` + `replace_node`).
A node `n` without bodies whose inputs evaluate to fixed constants `cargs` whatever the
arguments are, and for which the reference evaluator's answer `c` is what the operator computes
(`href`, A-ref), may be removed and its output registered as the initializer `(o, c)`: the
graph's meaning is *equal* (same outputs, same definedness) for every argument list, every
enclosing environment and every nesting depth.  `hfresh` is single assignment + definition
before use for `o`.  No size limit, blacklist or `should_fold` occurs in the statement. -/
theorem generic_fold_sound (sem : Sem V) (d : Nat) (outer : Env V)
    (ins : List Name) (inits : List (Name × String)) (pre post : List Node) (n : Node) (outs : List Name)
    (o c : String) (cargs : List (Option V)) (args : List (Option V))
    (hplain : n.subs = []) (hnc : constDenote sem n = none) (hout : n.outputs = [o])
    (hfresh : mentionsG (d + 1) (Graph.mk ins inits pre []) o = false)
    (hconst : ∀ ρ0 ρ, startEnv sem outer (Graph.mk ins inits (pre ++ n :: post) outs) args = some ρ0 →
        evalNodes (evalNode sem (evalGraph sem d)) ρ0 pre = some ρ → lookupAll ρ n.inputs = some cargs)
    (href : sem.op n.op n.domain n.attrs cargs = some [sem.tensor c]) :
    evalGraph sem (d + 1) outer (Graph.mk ins (inits ++ [(o, c)]) (pre ++ post) outs) args
      = evalGraph sem (d + 1) outer (Graph.mk ins inits (pre ++ n :: post) outs) args := by
  simp only [mentionsG, Graph.inputs, Graph.inits, Graph.outputs, Graph.nodes, Bool.or_eq_false_iff] at hfresh
  obtain ⟨⟨⟨hin, hinit⟩, _⟩, hpre⟩ := hfresh
  -- start environments
  have hstart : startEnv sem outer (Graph.mk ins (inits ++ [(o, c)]) (pre ++ post) outs) args =
      (startEnv sem outer (Graph.mk ins inits (pre ++ n :: post) outs) args).map (·.set o (sem.tensor c)) := by
    exact startEnv_added sem outer ins inits [(o, c)] (pre ++ n :: post) (pre ++ post) outs outs args
      (fun p hp => by rw [List.mem_singleton.mp hp]; exact hin)
  have hall : ∀ m ∈ pre, m.inputs.contains (some o) = false ∧ m.outputs.contains o = false ∧
      SubFrame (evalGraph sem d) o m := by
    intro m hm
    have := List.any_eq_false.mp hpre m hm
    simp only [Bool.not_eq_true] at this
    exact subFrame_of_mentions sem d o m this
  simp only [evalGraph, hstart, Graph.nodes, Graph.outputs]
  cases hs : startEnv sem outer (Graph.mk ins inits (pre ++ n :: post) outs) args with
  | none => rfl
  | some ρ0 =>
    simp only [Option.map, Option.bind]
    rw [evalNodes_append, evalNodes_append, evalNodes_set sem hall]
    cases hp : evalNodes (evalNode sem (evalGraph sem d)) ρ0 pre with
    | none => rfl
    | some ρ =>
      simp only [Option.map, Option.bind, evalNodes]
      have hn : evalNode sem (evalGraph sem d) ρ n = some (ρ.set o (sem.tensor c)) := by
        simp only [evalNode, hconst ρ0 ρ hs hp, Option.bind, nodeOutputs, hplain, List.isEmpty_nil, if_true, hnc,
          href, hout, bindOuts]
      rw [hn]

/-- Which nodes may be folded: the reflexive–transitive closure of single generic-fold steps
(each under the hypotheses of `generic_fold_sound`).  Any subset of the foldable nodes, in any
order, with any gate configuration, is an instance. -/
inductive FoldSteps (sem : Sem V) (d : Nat) (outer : Env V) (args : List (Option V)) : Graph → Graph → Prop
  | refl (g : Graph) : FoldSteps sem d outer args g g
  | step (ins : List Name) (inits : List (Name × String)) (pre post : List Node) (n : Node) (outs : List Name)
      (o c : String) (cargs : List (Option V)) (g'' : Graph)
      (hplain : n.subs = []) (hnc : constDenote sem n = none) (hout : n.outputs = [o])
      (hfresh : mentionsG (d + 1) (Graph.mk ins inits pre []) o = false)
      (hconst : ∀ ρ0 ρ, startEnv sem outer (Graph.mk ins inits (pre ++ n :: post) outs) args = some ρ0 →
          evalNodes (evalNode sem (evalGraph sem d)) ρ0 pre = some ρ → lookupAll ρ n.inputs = some cargs)
      (href : sem.op n.op n.domain n.attrs cargs = some [sem.tensor c])
      (rest : FoldSteps sem d outer args (Graph.mk ins (inits ++ [(o, c)]) (pre ++ post) outs) g'') :
      FoldSteps sem d outer args (Graph.mk ins inits (pre ++ n :: post) outs) g''

/-- **Soundness of the abstract relation `FoldSteps`** (not of `foldGraph`).  `FoldSteps` is the inductive closure of the
single step "remove one bodiless, non-`Constant`, SINGLE-OUTPUT node (`hout`) whose inputs are constant in every reached
environment (`hconst`), register the value the semantics gives for it (`href`) as a fresh initializer (`hfresh`)".  Any chain
of such steps leaves `evalGraph` equal.  Because the relation does not mention size limits, blacklist or `should_fold`, whichever
subset of such steps a gate cascade selects is covered — but that `foldGraph` performs only such steps is proved only on the
fragments below (`fold_generic_fragment_preserves`, `fold_fragmentA_preserves`). -/
theorem fold_preserves (sem : Sem V) (d : Nat) (outer : Env V) (args : List (Option V)) (g g' : Graph)
    (h : FoldSteps sem d outer args g g') :
    evalGraph sem (d + 1) outer g' args = evalGraph sem (d + 1) outer g args := by
  induction h with
  | refl g => rfl
  | step ins inits pre post n outs o c cargs g'' hplain hnc hout hfresh hconst href _ ih =>
    rw [ih]
    exact generic_fold_sound sem d outer ins inits pre post n outs o c cargs args hplain hnc hout hfresh hconst href

/-- An initializer that is not a formal input and is not redefined keeps its constant value in
every environment reached in the graph — this is what makes the hypothesis `hconst` of
`generic_fold_sound` hold for nodes fed by initializers. -/
theorem initializer_is_constant (sem : Sem V) (sub) (outer : Env V) (ins : List Name) (inits : List (Name × String))
    (nodes : List Node) (outs : List Name) (pre : List Node) (args : List (Option V)) (x t : String)
    (hlast : ∃ a b, inits = a ++ (x, t) :: b ∧ b.any (fun p => p.1 == x) = false)
    (hin : ins.contains x = false) (hpre : ∀ m ∈ pre, m.outputs.contains x = false)
    (ρ0 ρ : Env V) (h0 : startEnv sem outer (Graph.mk ins inits nodes outs) args = some ρ0)
    (h1 : evalNodes (evalNode sem sub) ρ0 pre = some ρ) : ρ x = some (sem.tensor t) := by
  obtain ⟨a, b, hab, hb⟩ := hlast
  rw [evalNodes_get_other sem h1 hpre]
  simp only [startEnv, Graph.inits, Graph.inputs] at h0
  have hbi : (bindInits sem outer inits) x = some (sem.tensor t) := by
    rw [hab, bindInits_append]
    simp only [bindInits]
    have := bindInits_set sem (ρ := bindInits sem outer a) (v := sem.tensor t) hb
    rw [this, Env.set_get_same]
  have key : ∀ {xs : List Name} {as : List (Option V)} {ρa ρb : Env V}, xs.contains x = false →
      bindInputs (fun z => ((Graph.mk ins inits nodes outs).initTok z).isSome) ρa xs as = some ρb → ρb x = ρa x := by
    intro xs
    induction xs with
    | nil =>
      intro as ρa ρb _ h
      cases as with
      | nil => simp only [bindInputs, Option.some.injEq] at h; rw [h]
      | cons _ _ => simp [bindInputs] at h
    | cons y ys ih =>
      intro as ρa ρb hx h
      simp only [List.contains_cons, Bool.or_eq_false_iff] at hx
      have hne : x ≠ y := by
        intro e; subst e; simp at hx
      cases as with
      | nil => simp [bindInputs] at h
      | cons a' as' =>
        cases a' with
        | some w =>
          simp only [bindInputs] at h
          rw [ih hx.2 h, Env.set_get_ne ρa w hne]
        | none =>
          simp only [bindInputs] at h
          split at h
          · exact ih hx.2 h
          · simp at h
  rw [key hin h0, hbi]

/-- **Graph-output replacement** (`visit_graph` + `_sym_value_can_replace_graph_output`): if in
the final environment every new output holds the value of the output it replaces (the alias
invariant), the graph returns the same list — same length, same order; the declared output
names are positional and untouched. -/
theorem output_replacement_sound (sem : Sem V) (d : Nat) (outer : Env V) (ins : List Name)
    (inits : List (Name × String)) (nodes : List Node) (outs outs' : List Name) (args : List (Option V))
    (hlen : outs'.length = outs.length)
    (halias : ∀ ρ0 ρ, startEnv sem outer (Graph.mk ins inits nodes outs) args = some ρ0 →
        evalNodes (evalNode sem (evalGraph sem d)) ρ0 nodes = some ρ →
        ∀ i (h1 : i < outs'.length) (h2 : i < outs.length), ρ (outs'[i]) = ρ (outs[i])) :
    evalGraph sem (d + 1) outer (Graph.mk ins inits nodes outs') args
      = evalGraph sem (d + 1) outer (Graph.mk ins inits nodes outs) args := by
  simp only [evalGraph, Graph.nodes, Graph.outputs]
  have hs : startEnv sem outer (Graph.mk ins inits nodes outs') args = startEnv sem outer (Graph.mk ins inits nodes outs) args := rfl
  rw [hs]
  cases h0 : startEnv sem outer (Graph.mk ins inits nodes outs) args with
  | none => rfl
  | some ρ0 =>
    simp only [Option.bind]
    cases h1 : evalNodes (evalNode sem (evalGraph sem d)) ρ0 nodes with
    | none => rfl
    | some ρ =>
      simp only []
      exact lookupOuts_pointwise hlen (halias ρ0 ρ h0 h1)

/-! ### the pipeline -/

theorem Refines.refl (sem : Sem V) (d : Nat) (g : Graph) : Refines sem d g g := fun _ _ _ h => h

theorem Refines.trans {sem : Sem V} {d : Nat} {g1 g2 g3 : Graph} (h12 : Refines sem d g2 g1) (h23 : Refines sem d g3 g2) :
    Refines sem d g3 g1 := fun o a v h => h23 o a v (h12 o a v h)

/-- Contracts for the passes that live outside `/repo` (A-ir) and for the rewrite pass (C05/C07). -/
structure PassContracts (sem : Sem V) (d : Nat) (P : IrPasses) : Prop where
  inline : ∀ g, Refines sem d (P.inline g) g
  rewrite : ∀ g, Refines sem d (P.rewrite g).1 g
  dce : ∀ g, Refines sem d (P.dce g).1 g
  liftConstants : ∀ g, Refines sem d (P.liftConstants g) g
  liftSubgraphInits : ∀ g, Refines sem d (P.liftSubgraphInits g) g
  dedup : ∀ g, Refines sem d (P.dedup g) g
  cse : ∀ g, Refines sem d (P.cse g) g
  outputFix : ∀ g, Refines sem d (P.outputFix g) g
  nameFix : ∀ g, Refines sem d (P.nameFix g) g

theorem iterStep_refines (sem : Sem V) (d : Nat) (P : IrPasses) (C : PassContracts sem d P)
    (fold : Graph → Graph × Bool) (hfold : ∀ g, Refines sem d (fold g).1 g) (g : Graph) :
    Refines sem d (iterStep P fold g).1 g :=
  iterStep_rel (Refines sem d) Refines.trans P
    ⟨C.inline, C.rewrite, C.dce, C.liftConstants, C.liftSubgraphInits, C.dedup, C.cse, C.outputFix, C.nameFix⟩ fold hfold g

theorem iterate_refines (sem : Sem V) (d : Nat) (P : IrPasses) (C : PassContracts sem d P)
    (fold : Graph → Graph × Bool) (hfold : ∀ g, Refines sem d (fold g).1 g) (early : Bool) :
    ∀ (k : Nat) (g : Graph), Refines sem d (iterate P fold early k g) g
  | k, g => iterate_rel (Refines sem d) (Refines.refl sem d) Refines.trans P
    ⟨C.inline, C.rewrite, C.dce, C.liftConstants, C.liftSubgraphInits, C.dedup, C.cse, C.outputFix, C.nameFix⟩ fold hfold early k g

/-- **Conditional (contract) theorem — `_partial` in the sense of BUILDING.md, though the name lacks the suffix.**  IF all nine
non-fold passes satisfy `PassContracts` (an assumption: eight of them live in onnx_ir, the rewrite rules belong to C05/C07)
AND the folding pass refines on EVERY graph (`hfold`; no theorem of this file discharges `hfold` for `foldGraph` — the
end-to-end fold theorems hold on fragment A only and under semantic hypotheses), THEN `optimizeIr` refines for every option
tuple (`num_iterations`, `stop_if_no_change`, `inline`).  The content is the composition structure of `optimize_ir`
(iteration, early exit, order of passes), nothing more: `optimizeIr_rel` for the relation `Refines sem d`, the contracts
being `RelContracts` for it field by field. -/
theorem pipeline_preserves (sem : Sem V) (d : Nat) (P : IrPasses) (C : PassContracts sem d P)
    (fold : Graph → Graph × Bool) (hfold : ∀ g, Refines sem d (fold g).1 g) (o : OptOpts) (g : Graph) :
    Refines sem d (optimizeIr P fold o g) g :=
  optimizeIr_rel (Refines sem d) (Refines.refl sem d) Refines.trans P
    ⟨C.inline, C.rewrite, C.dce, C.liftConstants, C.liftSubgraphInits, C.dedup, C.cse, C.outputFix, C.nameFix⟩ fold hfold o g

/-! ### the `dce` slot of the pipeline: `RemoveUnusedNodesPass` as a modelled function -/

/-- **`RemoveUnusedNodesPass` preserves meaning — FRAGMENT theorem** (bodiless graphs of `dceFragB` only, under the operator law
`TrailingNoneLaw`; it discharges the `dce` contract of `PassContractsOn (dceFragB · = true)`, not of the absolute
`PassContracts`, and says nothing about kept nodes with bodies).  `dcePass` (OV/Model/C03Dce.lean) restates onnx_ir's pass: reverse sweep, removal of nodes
none of whose outputs is used or a graph output, trimming of trailing absent inputs, renaming/dropping of unused optional
outputs according to the operator schema (any schema table `ctx`), the `BatchNormalization` branch, removal of unused
initializers.  For every graph in the decidable fragment `dceFragB` (bodiless nodes, definition before use, no node reads its
own output or the empty name, `Constant` nodes have no inputs, no `BatchNormalization` carrying `training_mode`), every schema
table, with or without a default-domain opset import, every semantics obeying `TrailingNoneLaw` (trailing absent optional
inputs do not matter), every depth, enclosing environment and argument list: the result computes what the input computes. -/
theorem dce_refines (sem : Sem V) (hT : TrailingNoneLaw sem) (ctx : DceCtx) (hasOpset : Bool) (g : Graph)
    (hwf : dceFragB g = true) (d : Nat) : Refines sem d (dceSlot ctx hasOpset g).1 g := by
  intro outer args vs hev
  cases d with
  | zero => simp [evalGraph] at hev
  | succ d => exact dcePass_sound sem hT ctx hasOpset g hwf d outer args vs hev

/-- Minor lemma (not a headline result): on a bodiless node list, `count = 0` implies that the sweep kept every node (same
length; nodes may still have been trimmed).  `PassResult.modified` of the modelled pass is `count ≠ 0`. -/
theorem dce_unmodified_keeps_every_node (ctx : DceCtx) (sub : Graph → DceOut × Graph) (ho : Bool) (outs : List Name) :
    ∀ (ns : List Node), (∀ n ∈ ns, n.subs = []) → (dceNodes ctx sub ho outs ns).count = 0 →
      (dceNodes ctx sub ho outs ns).nodes.length = ns.length
  | [], _, _ => rfl
  | n :: rest, hb, hc => by
    have hn := hb n List.mem_cons_self
    have hs : (trimNode ctx ho (usedLater outs (dceNodes ctx sub ho outs rest).nodes (dceNodes ctx sub ho outs rest).ghosts) n).subs = [] := by
      rw [(trimNode_fields ctx ho _ n).2.2.2]; exact hn
    simp only [dceNodes] at hc ⊢
    split at hc
    · simp at hc
    · rename_i hk
      simp only [hs, dceSubs] at hc
      rw [if_neg hk]
      simp only [List.length_cons]
      rw [dce_unmodified_keeps_every_node ctx sub ho outs rest (fun m hm => hb m (List.mem_cons_of_mem _ hm)) (by omega)]

/-- the modelled pass maps its fragment into itself (so the contract below can be iterated) -/
theorem dce_preserves_fragment (ctx : DceCtx) (hasOpset : Bool) (g : Graph) (hwf : dceFragB g = true) :
    dceFragB (dceSlot ctx hasOpset g).1 = true := dceFragB_preserved ctx hasOpset g hwf

/-- Pass contracts **relative to a class of graphs** `Dom` that every pass maps into itself (the absolute `PassContracts`
is the case `Dom = fun _ => True`). -/
structure PassContractsOn (Dom : Graph → Prop) (sem : Sem V) (d : Nat) (P : IrPasses) : Prop where
  inline : ∀ g, Dom g → Dom (P.inline g) ∧ Refines sem d (P.inline g) g
  rewrite : ∀ g, Dom g → Dom (P.rewrite g).1 ∧ Refines sem d (P.rewrite g).1 g
  dce : ∀ g, Dom g → Dom (P.dce g).1 ∧ Refines sem d (P.dce g).1 g
  liftConstants : ∀ g, Dom g → Dom (P.liftConstants g) ∧ Refines sem d (P.liftConstants g) g
  liftSubgraphInits : ∀ g, Dom g → Dom (P.liftSubgraphInits g) ∧ Refines sem d (P.liftSubgraphInits g) g
  dedup : ∀ g, Dom g → Dom (P.dedup g) ∧ Refines sem d (P.dedup g) g
  cse : ∀ g, Dom g → Dom (P.cse g) ∧ Refines sem d (P.cse g) g
  outputFix : ∀ g, Dom g → Dom (P.outputFix g) ∧ Refines sem d (P.outputFix g) g
  nameFix : ∀ g, Dom g → Dom (P.nameFix g) ∧ Refines sem d (P.nameFix g) g

theorem iterate_refines_on (Dom : Graph → Prop) (sem : Sem V) (d : Nat) (P : IrPasses) (C : PassContractsOn Dom sem d P)
    (fold : Graph → Graph × Bool) (hfold : ∀ g, Dom g → Dom (fold g).1 ∧ Refines sem d (fold g).1 g) (early : Bool) :
    ∀ (k : Nat) (g : Graph), Dom g → Dom (iterate P fold early k g) ∧ Refines sem d (iterate P fold early k g) g
  | k, g => iterate_rel (RelOn Dom (Refines sem d)) (RelOn.refl (Refines.refl sem d)) (RelOn.trans (R := Refines sem d) Refines.trans) P
    ⟨C.inline, C.rewrite, C.dce, C.liftConstants, C.liftSubgraphInits, C.dedup, C.cse, C.outputFix, C.nameFix⟩ fold hfold early k g

/-- **Conditional (contract) theorem**, relative form of `pipeline_preserves`: IF every non-fold pass (`PassContractsOn`) and
the folding pass (`hfold`) map the class `Dom` into itself and refine on it, THEN so does `optimizeIr`.  All nine contracts and
`hfold` are hypotheses; this is the form into which a *modelled* pass with a delimited domain can be plugged.
(`optimizeIr_rel` for the relation `RelOn Dom (Refines sem d)`.) -/
theorem pipeline_preserves_on (Dom : Graph → Prop) (sem : Sem V) (d : Nat) (P : IrPasses) (C : PassContractsOn Dom sem d P)
    (fold : Graph → Graph × Bool) (hfold : ∀ g, Dom g → Dom (fold g).1 ∧ Refines sem d (fold g).1 g) (o : OptOpts)
    (g : Graph) (hg : Dom g) : Dom (optimizeIr P fold o g) ∧ Refines sem d (optimizeIr P fold o g) g :=
  optimizeIr_rel (RelOn Dom (Refines sem d)) (RelOn.refl (Refines.refl sem d)) (RelOn.trans (R := Refines sem d) Refines.trans) P
    ⟨C.inline, C.rewrite, C.dce, C.liftConstants, C.liftSubgraphInits, C.dedup, C.cse, C.outputFix, C.nameFix⟩ fold hfold o g hg

/-- **Conditional (contract) theorem with ONE of the nine contracts discharged.**  When the remove-unused-nodes pass *is* the
modelled `dcePass` (any schema table), no contract is assumed for it (`dce_refines` + `dce_preserves_fragment`; it runs
`num_iterations + 1` times).  STILL ASSUMED: `hpass` — the other eight passes keep the graph in `dceFragB` and refine — and
`hfold` — the folding pass keeps the graph in `dceFragB` and refines (closure of `dceFragB` under `foldGraph` is NOT proved).
The only instance exhibited (`idPassesDce`) uses identity passes and an identity fold: it shows the hypotheses are consistent,
not that the real passes satisfy them. -/
theorem pipeline_preserves_dce_modelled (sem : Sem V) (hT : TrailingNoneLaw sem) (d : Nat) (ctx : DceCtx) (hasOpset : Bool)
    (P : IrPasses) (hdce : P.dce = dceSlot ctx hasOpset)
    (hpass : ∀ f ∈ [P.inline, fun g => (P.rewrite g).1, P.liftConstants, P.liftSubgraphInits, P.dedup, P.cse, P.outputFix, P.nameFix],
      ∀ g, dceFragB g = true → dceFragB (f g) = true ∧ Refines sem d (f g) g)
    (fold : Graph → Graph × Bool) (hfold : ∀ g, dceFragB g = true → dceFragB (fold g).1 = true ∧ Refines sem d (fold g).1 g)
    (o : OptOpts) (g : Graph) (hg : dceFragB g = true) : Refines sem d (optimizeIr P fold o g) g := by
  have C : PassContractsOn (fun g => dceFragB g = true) sem d P :=
    { inline := hpass _ (by simp)
      rewrite := hpass (fun g => (P.rewrite g).1) (by simp)
      dce := fun g hg => by
        rw [hdce]
        exact ⟨dce_preserves_fragment ctx hasOpset g hg, dce_refines sem hT ctx hasOpset g hg d⟩
      liftConstants := hpass _ (by simp)
      liftSubgraphInits := hpass _ (by simp)
      dedup := hpass _ (by simp)
      cse := hpass _ (by simp)
      outputFix := hpass _ (by simp)
      nameFix := hpass _ (by simp) }
  exact (pipeline_preserves_on _ sem d P C fold hfold o g hg).2

/-! non-vacuity of `dce_refines`: a graph of the fragment on which a dead chain, a dead initializer, a trailing absent input
and an unused optional output are all removed; `firstSem` obeys `TrailingNoneLaw`. -/
def firstSem : Sem Nat where
  op := fun o _ _ args => some [args.filterMap id |>.foldl (· + ·) o.length, 7, 9]
  ctl := fun _ _ _ _ _ => none
  truth := fun v => some (v != 0)
  tensor := fun t => t.length
  intsTensor := fun l => l.length
  intTensor := fun i => i.toNat

theorem filterMap_dropTrailing_none : ∀ (l : List (Option Nat)), (dropTrailing Option.isNone l).filterMap id = l.filterMap id
  | [] => rfl
  | a :: l => by
    rw [dropTrailing_cons]
    have ih := filterMap_dropTrailing_none l
    split
    · rename_i hc
      simp only [Bool.and_eq_true, List.isEmpty_iff] at hc
      rw [hc.1] at ih
      cases a with
      | none => simpa using ih
      | some v => simp at hc
    · cases a <;> simp [ih]

theorem firstSem_trailing : TrailingNoneLaw firstSem := by
  intro op dom attrs args
  simp only [firstSem, filterMap_dropTrailing_none]

def gDce : Graph :=
  .mk ["X"] [("w", "tw"), ("unused", "tu")]
    [ .mk "Clip" "" [some "X", none, none] ["a"] [] [],
      .mk "Abs" "" [some "a"] ["d0"] [] [],
      .mk "Add" "" [some "d0", some "w"] ["dead"] [] [],
      .mk "LayerNormalization" "" [some "a", some "X", none] ["l", "mean", "isd"] [] [] ]
    ["l"]

def ctxDce : DceCtx := { schema := [("LayerNormalization", some [0, 1, 1]), ("Clip", some [0]), ("Abs", some [0]), ("Add", some [0])] }

example : dceFragB gDce = true := by decide +kernel
example : ((dceSlot ctxDce true gDce).1.nodes.map fun n => (n.op, n.inputs, n.outputs)) =
      [("Clip", [some "X"], ["a"]), ("LayerNormalization", [some "a", some "X"], ["l"])] ∧
    (dceSlot ctxDce true gDce).1.inits = [] ∧ (dceSlot ctxDce true gDce).2 = true := by
  decide +kernel
example : evalGraph firstSem 1 Env.empty gDce [some 5] = some [32] := by decide +kernel
example : evalGraph firstSem 1 Env.empty (dceSlot ctxDce true gDce).1 [some 5] = some [32] := by decide +kernel

/-- non-vacuity of `pipeline_preserves_dce_modelled`: identity passes around the modelled `dce`, three iterations -/
def idPassesDce : IrPasses :=
  { inline := id, rewrite := fun g => (g, false), dce := dceSlot ctxDce true, liftConstants := id, liftSubgraphInits := id,
    dedup := id, cse := id, outputFix := id, nameFix := id }

example : Refines firstSem 1 (optimizeIr idPassesDce (fun g => (g, false)) { numIterations := 3, stopIfNoChange := false, inline := true } gDce) gDce :=
  pipeline_preserves_dce_modelled firstSem firstSem_trailing 1 ctxDce true idPassesDce rfl
    (by
      intro f hf g hg
      simp only [idPassesDce, List.mem_cons, List.not_mem_nil, or_false] at hf
      rcases hf with e | e | e | e | e | e | e | e <;> subst e <;> exact ⟨hg, Refines.refl _ _ _⟩)
    (fun g => (g, false)) (fun g hg => ⟨hg, Refines.refl _ _ _⟩) _ gDce (by decide)

/-- **C03-D4 (refuted).**  What is negated is the UNRESTRICTED universal (every graph, no `dceFragB` hypothesis at all) — stronger
than `dce_refines` minus one clause; the link to the finding is the witness `gBn`, which (example below) violates only the
`training_mode` clause of `dceFragB`.  Without the `BatchNormalization` clause of `dceFragB`, `dce_refines` is false: the
pass pops `training_mode` when the running outputs are unused, and a semantics in which `training_mode` matters (the ONNX
specification: batch statistics instead of the running ones) distinguishes the two graphs.  Replayed on the real code by
`harness/c03_dce.py` (family `dce_bn_training_unused`). -/
def bnSem : Sem Nat where
  op := fun o _ attrs _ => some [if o == "BatchNormalization" && attrs.any (·.1 == "training_mode") then 1 else 0, 0, 0]
  ctl := fun _ _ _ _ _ => none
  truth := fun v => some (v != 0)
  tensor := fun _ => 0
  intsTensor := fun _ => 0
  intTensor := fun _ => 0

def gBn : Graph :=
  .mk ["X"] [] [ .mk "BatchNormalization" "" [some "X"] ["Y", "rm", "rv"] [("training_mode", .int 1)] [] ] ["Y"]

def ctxBn : DceCtx := { schema := [("BatchNormalization", some [0, 1, 1])] }

/-- the witness violates the `training_mode` clause of `dceFragB` and nothing else: the same graph without the attribute is
in the fragment -/
example : dceFragB gBn = false ∧
    dceFragB (.mk ["X"] [] [ .mk "BatchNormalization" "" [some "X"] ["Y", "rm", "rv"] [] [] ] ["Y"]) = true := by decide +kernel

theorem dce_batchnorm_training_mode_refuted :
    ¬ ∀ (sem : Sem Nat) (ctx : DceCtx) (g : Graph), TrailingNoneLaw sem → Refines sem 1 (dceSlot ctx true g).1 g := by
  intro h
  have h1 := h bnSem ctxBn gBn (fun _ _ _ _ => rfl) Env.empty [some 5] [1] (by decide)
  revert h1
  decide +kernel

/-! ### end to end on a delimited fragment -/

/-- **End-to-end theorem on the generic-folding fragment.**  For every graph whose nodes carry no
bodies, are not `Constant` nodes and have no registered partial evaluator (`FragWF`: also ordered,
single-assignment, outputs distinct from the formal inputs, no name of the form `%k`), for every
option tuple in `ctx` (input/output size limits, `should_fold`, opset imports, any oracle table
satisfying A-ref = `OracleSound`), every annotation table that is truthful about constants
(`ConstInfoSound`, A-shape), every operator semantics, nesting depth, enclosing environment and
argument list: **the graph returned by the model of `FoldConstantsPass` — node loop, gate
cascade, reference evaluation, `new_initializer`, `replace_node` and `_clear_unused_initializers`
all included — computes what the original computes.**  Proof: simulation through `visitNodes`
(`visitNodes_refines` with `simP_turn`: invariant "every constant the state knows is what the environment holds, the
symbolic map is empty, no known constant is redefined later"; folded outputs are bound early as
initializers and pushed through the kept prefix by the frame lemma), plus the bookkeeping
invariant (`visitNodes_bkA`: use counts are upper bounds of real occurrences, so a popped
initializer is unmentioned) and `prune_sound`. -/
theorem fold_generic_fragment_preserves (sem : Sem V) (ctx : Ctx) (hnf : ctx.isFunction = false)
    (hor : OracleSound sem ctx) (info : List (Name × VInfo)) (g : Graph) (hwf : FragWF g)
    (hnofresh : ∀ k : Nat, cnt ("%" ++ toString k) g.nodes = 0)
    (d : Nat) (outer : Env V) (args : List (Option V))
    (hinfo : ConstInfoSound sem outer g args info) (vs : List V)
    (he : evalGraph sem (d + 1) outer g args = some vs) :
    evalGraph sem (d + 1) outer (foldGraph ctx info g).2 args = some vs :=
  foldGraph_fragment sem ctx hnf hor info g hwf hnofresh d outer args hinfo vs he

/-- the two replacement laws are instances of the operator laws -/
theorem replLaws_of {sem : Sem V} (L : OpLaws sem) : ReplLaws sem :=
  L.replLaws

/-- **End-to-end theorem on fragment A** = generic folding + `Constant` nodes (`_process_constant_node`)
+ `Identity` nodes (the `identity` evaluator records an alias, `process_node` substitutes it into later
inputs, `visit_graph` replaces graph outputs by their alias) + one-operand `Concat` and inference-mode
`Dropout` with one declared output (the `concat`/`dropout` evaluators record `Identity(x)` on a fresh
tape, `replace_node` renames its output, moves the uses, and the new node is visited next; `Dropout`
below opset 12 has no evaluator and goes through the gate cascade) + `_clear_unused_initializers`.  For
every graph of the fragment (`FragAWF`; no name of the form `%k`), every option tuple, every oracle
table sound for the model's queries (`OracleSound`), constants truthfully annotated
(`ConstInfoSound`, `ConstMarkSound`), the laws `Identity v = v`, `Concat [v] = v`,
`Dropout (v :: rest)` returns `v` first when there is no `training_mode` operand (`ReplLaws`), every semantics, depth, enclosing
environment and argument list: **the graph returned by the model of `FoldConstantsPass` computes what
the original computes.**  Proof: `visitNodes_refines` with `simA_turn` (invariant: recorded aliases and constants hold
in the environment and are never redefined later), `replaceOutputs_spec`, and — for the pruning —
`visitNodes_bkA`: use counts follow the alias substitution and stay upper bounds of the real
occurrences, every alias target is an input of an emitted node, so a popped initializer is
unreferenced (`prune_ok_fragmentA`). -/
theorem fold_fragmentA_preserves (sem : Sem V) (ctx : Ctx) (hnf : ctx.isFunction = false)
    (hor : OracleSound sem ctx) (L : OpLaws sem) (hct : CastTyped L) (hot : OracleTyped L ctx)
    (info : List (Name × VInfo)) (g : Graph)
    (hwf : FragAWF sem ctx g) (hcmt : ∀ n ∈ g.nodes, n.isOp "Constant" = true → ConstMarkTyped L ctx n)
    (hnofresh : ∀ k : Nat, cnt ("%" ++ toString k) g.nodes = 0)
    (d : Nat) (outer : Env V) (args : List (Option V))
    (hinfo : ConstInfoSound sem outer g args info)
    (hinfoNF : ∀ x c, ((lookupA info x).getD {}).const = some c → NF x)
    (hann : AnnotSound L d outer g args info) (vs : List V)
    (he : evalGraph sem (d + 1) outer g args = some vs) :
    evalGraph sem (d + 1) outer (foldGraph ctx info g).2 args = some vs :=
  foldGraph_fragmentA sem ctx hnf hor L hct hot info g hwf hcmt hnofresh d outer args hinfo hinfoNF
    hann vs he

/-- **The same theorem with its structural hypotheses replaced by one decidable check** that the driver evaluates on every
generated case (`inTheoremFragment`, reported as `thm:fragmentA` in the evidence): not a function body, every node in one
of the classes of fragment A, order condition, node outputs are not formal inputs, no name looks generated, the annotation
table records constants/element types only for names that do not look generated and no constant for a node output.  What
remains are the semantic hypotheses: oracle soundness and typing, operator laws, truthfulness of the recorded constants
and element types for the execution at hand. -/
theorem fold_fragmentA_checked (sem : Sem V) (ctx : Ctx) (hor : OracleSound sem ctx) (L : OpLaws sem) (hct : CastTyped L)
    (hot : OracleTyped L ctx) (info : List (Name × VInfo)) (g : Graph)
    (hchk : inTheoremFragment ctx.isFunction info g = true)
    (hcms : ∀ n ∈ g.nodes, n.isOp "Constant" = true → ConstMarkSound sem ctx n)
    (hcmt : ∀ n ∈ g.nodes, n.isOp "Constant" = true → ConstMarkTyped L ctx n)
    (d : Nat) (outer : Env V) (args : List (Option V))
    (hstart : ∀ ρ0, startEnv sem outer g args = some ρ0 → ∀ x c, ((lookupA info x).getD {}).const = some c →
      ρ0 x = some (sem.tensor c.tok))
    (hann : ∀ ρ0 ρf, startEnv sem outer g args = some ρ0 → evalNodes (evalNode sem (evalGraph sem d)) ρ0 g.nodes = some ρf →
      ∀ x v dt, ρf x = some v → ((lookupA info x).getD {}).dtype = some dt → L.hasDtype v dt)
    (vs : List V) (he : evalGraph sem (d + 1) outer g args = some vs) :
    evalGraph sem (d + 1) outer (foldGraph ctx info g).2 args = some vs := by
  simp only [inTheoremFragment, Bool.and_eq_true, Bool.not_eq_true'] at hchk
  obtain ⟨⟨hnf, hfrag⟩, hinfo⟩ := hchk
  obtain ⟨h1, h2, h3, h4, h5⟩ := fragAWFB_sound g hfrag
  obtain ⟨i1, i2, i3⟩ := infoOKB_sound info g hinfo
  exact fold_fragmentA_preserves sem ctx hnf hor L hct hot info g
    ⟨fun n hn => ⟨h1 n hn, hcms n hn⟩, h2, h3, h4⟩ hcmt h5 d outer args ⟨hstart, i2⟩ i1
    (fun ρ0 ρf hs hn => ⟨hann ρ0 ρf hs hn, i3⟩) vs he

/-- **`ConstMarkSound` is derivable** for the three `Constant` forms the semantics interprets (`value`,
`value_ints`, `value_int`): if the token table is coherent with the semantics (`TokCoherent`: the
token `_process_constant_node` finds for a `value` tensor denotes that tensor; the tokens it builds
for `value_ints` / `value_int` denote those integers), then whatever constant the pass attributes to
the node's output is what the node evaluates to.  This discharges the `ConstMarkSound` hypothesis of
`fold_fragmentA_preserves` for such nodes. -/
theorem const_mark_sound (sem : Sem V) (ctx : Ctx) (hco : TokCoherent sem ctx) (o : Name) (a : String × Attr)
    (ha : (∃ t, a = ("value", .tensor t)) ∨ (∃ l, a = ("value_ints", .ints l)) ∨ (∃ i, a = ("value_int", .int i))) :
    ConstMarkSound sem ctx (.mk "Constant" "" [] [o] [a] []) :=
  constMarkSound_of_coherent sem ctx hco o a ha

/-- …and so is `ConstMarkTyped`, from `TokTyped` (the token found for a `value` tensor has that tensor's element type; the
`value_ints`/`value_int` forms are INT64). -/
theorem const_mark_typed {sem : Sem V} (L : OpLaws sem) (ctx : Ctx) (hty : TokTyped L ctx) (o : Name) (a : String × Attr)
    (ha : (∃ t, a = ("value", .tensor t)) ∨ (∃ l, a = ("value_ints", .ints l)) ∨ (∃ i, a = ("value_int", .int i))) :
    ConstMarkTyped L ctx (.mk "Constant" "" [] [o] [a] []) :=
  constMarkTyped_of_typed L ctx hty o a ha

/-- …and before pruning no extra hypothesis is needed: the result of the node loop and of the
graph-output replacement (`visit_graph`) refines the input on fragment A. -/
theorem visit_graph_fragmentA_preserves (sem : Sem V) (ctx : Ctx) (hnf : ctx.isFunction = false)
    (hor : OracleSound sem ctx) (L : OpLaws sem) (hct : CastTyped L) (hot : OracleTyped L ctx)
    (info : List (Name × VInfo)) (g : Graph)
    (hwf : FragAWF sem ctx g) (hcmt : ∀ n ∈ g.nodes, n.isOp "Constant" = true → ConstMarkTyped L ctx n)
    (d : Nat) (outer : Env V) (args : List (Option V))
    (hinfo : ConstInfoSound sem outer g args info)
    (hinfoNF : ∀ x c, ((lookupA info x).getD {}).const = some c → NF x)
    (hann : AnnotSound L d outer g args info) (vs : List V)
    (he : evalGraph sem (d + 1) outer g args = some vs) :
    evalGraph sem (d + 1) outer (visitGraph ctx maxDepth (initialState g info) g).2 args = some vs :=
  (visitGraph_fragmentA sem ctx hnf hor L hct hot info g hwf hcmt d 7 outer args hinfo hinfoNF hann vs he).1

/-- **The `modified` flag is truthful on fragment A**: if the model of `FoldConstantsPass` reports "not modified", the graph
it returns is *equal* to the graph it was given (nodes, initializers, outputs) — for every option tuple, annotation table
and oracle table, errors included.  This is what `stop_if_no_change` relies on: an iteration that reports no change has
reached a fixed point of the fold pass.  Proof (`visitNodes_mod`): through the node loop the flag only goes up (alias
substitution, `replace_node` and the graph-output replacement set it), and while it is down the emitted ++ pending nodes
are the original list, no initializer has been registered and none popped. -/
theorem fold_unmodified_means_unchanged (ctx : Ctx) (hnf : ctx.isFunction = false) (info : List (Name × VInfo)) (g : Graph)
    (hfr : ∀ n ∈ g.nodes, FragBk n) (hm : (foldGraph ctx info g).1.modified = false) :
    (foldGraph ctx info g).2 = g :=
  foldGraph_unmodified ctx hnf info g hfr hm

/-! ### partial evaluators (under the operator laws `OpLaws` and truthful annotations `InfoSound`) -/

/-- The replacement is `Identity(x)` on a fresh tape. -/
def IsIdentityOf (r : Repl) (x : Name) : Prop :=
  ∃ o', r.newNodes = [mkNode "Identity" [some x] [o']] ∧ r.newOuts = [o'] ∧ r.inits = []

theorem intAttr_some {n : Node} {k : String} {i : Int} (h : intAttr n k none = some i) :
    (n.attrs.find? (·.1 == k)).map (·.2) = some (Attr.int i) :=
  intAttr_some' h

/-- **`cast`**: whenever the evaluator replaces `Cast<to>(x)` it replaces it by `Identity(x)`, and —
because the annotated element type of `x` (truthful by `InfoSound`) equals `to` — the `Cast` node
computes exactly its input (`OpLaws.cast_same`). -/
theorem cast_identity_sound (sem : Sem V) (L : OpLaws sem) (σ : String → Int) (st st' : St) (n : Node) (r : Repl)
    (ρ : Env V) (hI : InfoSound L σ st ρ) (hop : n.op = "Cast") (hdom : n.domain = "")
    (hto : intAttr n "to" none ≠ some 0)
    (hev : evCast st n = (.repl r, st')) :
    ∃ x, getInput n 0 = some x ∧ IsIdentityOf r x ∧
      ∀ v, ρ x = some v → sem.op n.op n.domain n.attrs [some v] = some [v] := by
  unfold evCast at hev
  split at hev
  · rename_i x o hx ho
    split at hev
    · rename_i to hattr
      split at hev
      · rename_i heq
        refine ⟨x, hx, ?_, ?_⟩
        · simp only [replIdentity, St.freshName, Prod.mk.injEq, EvRes.repl.injEq] at hev
          exact ⟨_, by rw [← hev.1], by rw [← hev.1], by rw [← hev.1]⟩
        · intro v hv
          have hinp : n.inputs[0]? = some (some x) := by
            unfold getInput at hx
            cases h0 : n.inputs[0]? with
            | none => simp [h0] at hx
            | some y => simp [h0] at hx; rw [hx]
          rw [hop, hdom]
          refine cast_to_annotated L st n x to v hattr hto ?_ fun dt hdt => hI.dtype x v dt hv hdt
          simpa only [elemType, hinp] using beq_iff_eq.mp heq
      · simp at hev
    · simp at hev
  · simp at hev

/-- **`cast_like`**: the evaluator replaces `CastLike(x, w)` (no attributes) by `Identity(x)` when the
annotated element types agree, and by `Cast<to = type of w>(x)` otherwise; in both cases the
replacement computes what `CastLike` computes (`castlike_is_cast`, then `cast_same`). -/
theorem castlike_sound (sem : Sem V) (L : OpLaws sem) (σ : String → Int) (st st' : St) (n : Node) (r : Repl)
    (ρ : Env V) (hI : InfoSound L σ st ρ) (hop : n.op = "CastLike") (hdom : n.domain = "") (hattrs : n.attrs = [])
    (x w : Name) (hin : n.inputs = [some x, some w]) (vx vw : V) (hvx : ρ x = some vx) (hvw : ρ w = some vw)
    (hev : evCastLike st n = (.repl r, st')) :
    (IsIdentityOf r x ∧ sem.op n.op n.domain n.attrs [some vx, some vw] = some [vx]) ∨
    (∃ (dt : Nat) (o' : Name), r.newNodes = [mkNode "Cast" [some x] [o'] [("to", .int dt)]] ∧ r.newOuts = [o'] ∧
      sem.op n.op n.domain n.attrs [some vx, some vw] = sem.op "Cast" "" [("to", .int dt)] [some vx]) := by
  unfold evCastLike at hev
  rw [hin] at hev
  simp only [] at hev
  have e0 : elemType st n 0 = ((st.getInfo x).dtype).getD 0 := by simp [elemType, hin]
  have e1 : elemType st n 1 = ((st.getInfo w).dtype).getD 0 := by simp [elemType, hin]
  split at hev
  · simp at hev
  · rename_i htgt
    cases hdw : (st.getInfo w).dtype with
    | none => simp [e1, hdw] at htgt
    | some dw =>
      have hw := hI.dtype w vw dw hvw hdw
      have hcl := L.castlike_is_cast vx vw dw hw
      split at hev
      · rename_i hsame
        left
        constructor
        · simp only [replIdentity, St.freshName, Prod.mk.injEq, EvRes.repl.injEq] at hev
          exact ⟨_, by rw [← hev.1], by rw [← hev.1], by rw [← hev.1]⟩
        · rw [hop, hdom, hattrs, hcl]
          cases hdx : (st.getInfo x).dtype with
          | none =>
            exfalso
            have h2 := beq_iff_eq.mp hsame
            rw [e0, e1, hdx, hdw] at h2
            simp only [Option.getD_none, Option.getD_some] at h2
            apply htgt
            rw [e1, hdw]
            simp only [Option.getD_some]
            exact beq_iff_eq.mpr h2.symm
          | some dx =>
            have h2 := beq_iff_eq.mp hsame
            rw [e0, e1, hdx, hdw] at h2
            simp only [Option.getD_some] at h2
            subst h2
            exact L.cast_same _ vx dx (hI.dtype x vx dx hvx hdx) rfl
      · right
        simp only [St.freshName, Prod.mk.injEq, EvRes.repl.injEq] at hev
        have e1' : elemType st n 1 = dw := by rw [e1, hdw]; rfl
        rw [e1'] at hev
        exact ⟨dw, _, by rw [← hev.1], by rw [← hev.1], by rw [hop, hdom, hattrs, hcl]⟩

theorem mapM_denote_known (σ : String → Int) : ∀ (l : List Int), (l.map Dim.known).mapM (Dim.denote σ) = some l
  | [] => rfl
  | a :: l => by
    simp only [List.map_cons, List.mapM_cons, Dim.denote, mapM_denote_known σ l]
    rfl

/-- **`get_shape_value` is sound** (the `.shape` case of the symbolic map under `InfoSound`; the loop theorems carry the
`.alias` case only): whatever the state reports as
the shape value of `t` — read from a small 1-D INT64 constant or from the symbolic map — is what
`t` holds at run time, for every valuation `σ` of the symbolic dimensions. -/
theorem shapeValue_sound (sem : Sem V) (L : OpLaws sem) (σ : String → Int) (st : St) (ρ : Env V)
    (hI : InfoSound L σ st ρ) (t : Name) (sv : List Dim) (vt : V) (dims : List Int)
    (h : shapeValue st (some t) = some sv) (hvt : ρ t = some vt) (hd : sv.mapM (Dim.denote σ) = some dims) :
    L.isInts vt dims := by
  unfold shapeValue at h
  split at h
  · rename_i c hc
    split at h
    · rename_i hlen
      cases hints : c.ints with
      | none => simp [hints] at h
      | some l =>
        simp only [hints, Option.map_some, Option.some.injEq] at h
        subst h
        rw [mapM_denote_known] at hd
        simp only [Option.some.injEq] at hd
        subst hd
        -- the constant `c` is the constant of `t`, of dtype INT64
        unfold numpyValue at hc
        simp only [] at hc
        split at hc
        · simp at hc
        · cases hct : st.constOf t with
          | none => simp [hct] at hc
          | some c' =>
            simp only [hct] at hc
            split at hc
            · simp at hc
            · rename_i hdt
              split at hc
              · simp at hc
              · simp only [Option.some.injEq] at hc
                subst hc
                have hv := hI.const t c' hct
                rw [hvt] at hv
                simp only [Option.some.injEq] at hv
                subst hv
                have hdt' : c'.dtype = DT_INT64 := by simpa using hdt
                exact L.tensor_ints c' l hdt' (by simpa using hlen) hints
    · simp at h
  · split at h
    · rename_i s hs
      simp only [Option.some.injEq] at h
      subst h
      exact hI.symShape t vt s dims hvt hs hd
    · simp at h

theorem sameShape_eq {a b : List Dim} (h : sameShape a b = true) : a = b := by
  unfold sameShape at h
  simp only [Bool.and_eq_true, beq_iff_eq] at h
  exact h.2

/-- **`reshape`** (and, with the same proof shape, the symbolic branch of `expand`): when the evaluator
replaces `Reshape(x, t)` it replaces it by `Identity(x)`; and since `_same_shape` made the annotated
shape of `x` equal to the shape value of `t` dimension by dimension, for *every* binding `σ` of
the symbolic dimensions under which that shape denotes, `x` has exactly the shape `t` asks for
and the node is a no-op (`OpLaws.reshape_same`) — no special values `0`/`-1` can interfere. -/
theorem reshape_identity_sound (sem : Sem V) (L : OpLaws sem) (σ : String → Int) (st st' : St) (n : Node) (r : Repl)
    (ρ : Env V) (hI : InfoSound L σ st ρ) (hop : n.op = "Reshape") (hdom : n.domain = "")
    (hev : evReshape st n = (.repl r, st')) :
    ∃ x t ishape, getInput n 0 = some x ∧ getInput n 1 = some t ∧ (st.getInfo x).shape = some ishape ∧ IsIdentityOf r x ∧
      ∀ vx vt dims, ρ x = some vx → ρ t = some vt → ishape.mapM (Dim.denote σ) = some dims →
        sem.op n.op n.domain n.attrs [some vx, some vt] = some [vx] := by
  unfold evReshape at hev
  split at hev
  · rename_i x t hx ht
    split at hev
    · rename_i ishape sv hishape hsv
      split at hev
      · rename_i hsame
        refine ⟨x, t, ishape, hx, ht, hishape, ?_, ?_⟩
        · simp only [replIdentity, St.freshName, Prod.mk.injEq, EvRes.repl.injEq] at hev
          exact ⟨_, by rw [← hev.1], by rw [← hev.1], by rw [← hev.1]⟩
        · intro vx vt dims hvx hvt hd
          have heq := sameShape_eq hsame
          rw [hop, hdom]
          exact L.reshape_same n.attrs vx vt dims (hI.shape x vx ishape dims hvx hishape hd)
            (shapeValue_sound sem L σ st ρ hI t sv vt dims hsv hvt (by rw [← heq]; exact hd))
      · simp only [propagateShapeValue] at hev
        split at hev <;> simp at hev
    · simp only [propagateShapeValue] at hev
      split at hev <;> simp at hev
  · simp at hev

/-- **`concat`, single operand**: `Concat(x)` is replaced by `Identity(x)` and computes `x`. -/
theorem concat_single_sound (sem : Sem V) (L : OpLaws sem) (st st' : St) (n : Node) (r : Repl) (x : Name)
    (hop : n.op = "Concat") (hdom : n.domain = "") (hin : n.inputs = [some x])
    (hev : evConcat st n = (.repl r, st')) :
    IsIdentityOf r x ∧ ∀ v, sem.op n.op n.domain n.attrs [some v] = some [v] := by
  unfold evConcat at hev
  rw [hin] at hev
  simp only [replIdentity, St.freshName, Prod.mk.injEq, EvRes.repl.injEq] at hev
  exact ⟨⟨_, by rw [← hev.1], by rw [← hev.1], by rw [← hev.1]⟩, fun v => by rw [hop, hdom]; exact L.concat_single _ v⟩

/-- **`dropout`, no `training_mode` input** (the inference default): the evaluator always fires, the
first new node is `Identity(x)` feeding the first replaced output, and the `Dropout` node's first
output is its input (`OpLaws.dropout_inference`); with two declared outputs the mask is rebuilt as
`ConstantOfShape(Shape(x), value=[True])`. -/
theorem dropout_inference_sound (sem : Sem V) (L : OpLaws sem) (st : St) (n : Node) (x : Name) (rest : List (Option Name))
    (hop : n.op = "Dropout") (hdom : n.domain = "") (hin : n.inputs = some x :: rest)
    (hrest : rest = [] ∨ (∃ q, rest = [q]) ∨ (∃ q, rest = [q, none])) :
    ∃ r st' o', evDropout st n = (.repl r, st') ∧ r.newNodes.head? = some (mkNode "Identity" [some x] [o']) ∧
      r.newOuts.head? = some o' ∧ r.newOuts.length = (if n.outputs.length == 1 then 1 else 2) ∧
      ∀ v args vs, sem.op n.op n.domain n.attrs (some v :: args) = some vs →
        (args = [] ∨ (∃ a, args = [a]) ∨ (∃ a, args = [a, none])) → vs.head? = some v := by
  have hlaw : ∀ v args vs, sem.op n.op n.domain n.attrs (some v :: args) = some vs →
      (args = [] ∨ (∃ a, args = [a]) ∨ (∃ a, args = [a, none])) → vs.head? = some v := fun v args vs h ha => by
    rw [hop, hdom] at h; exact L.dropout_inference n.attrs v args vs ha h
  have hcond : (n.inputs.length ≤ 2 || (n.inputs[2]?).join == none) = true := by
    rcases hrest with h | ⟨q, h⟩ | ⟨q, h⟩ <;> subst h <;> simp [hin]
  unfold evDropout
  rw [if_pos hcond]
  simp only [hin]
  by_cases h1 : (n.outputs.length == 1) = true
  · rw [if_pos h1]
    simp only [St.freshName, h1, if_true]
    exact ⟨_, _, _, rfl, rfl, rfl, rfl, hlaw⟩
  · rw [if_neg h1]
    simp only [St.freshName, h1]
    exact ⟨_, _, _, rfl, rfl, rfl, rfl, hlaw⟩

/-! ### non-vacuity: the hypotheses of the theorems above are satisfiable by ordinary graphs -/

/-- arithmetic over `Nat` -/
def natSem : Sem Nat where
  op := fun o _ _ args =>
    match o, args with
    | "Add", [some a, some b] => some [a + b]
    | "Mul", [some a, some b] => some [a * b]
    | "Identity", [some a] => some [a]
    | _, _ => none
  ctl := fun _ _ _ _ _ => none
  truth := fun v => some (v != 0)
  tensor := fun t => if t == "t1" then 1 else if t == "t2" then 2 else if t == "f" then 3 else 0
  intsTensor := fun l => l.length
  intTensor := fun i => i.toNat

def nAdd : Node := .mk "Add" "" [some "a", some "b"] ["o"] [] []
def nMul : Node := .mk "Mul" "" [some "x", some "o"] ["y"] [] []

/-- `o = Add(a, b)` with initializers `a = 1`, `b = 2` is folded into the initializer `o = 3`
(reference answer `f`); every hypothesis of `generic_fold_sound` holds, for every argument list and
every enclosing environment. -/
example (outer : Env Nat) (args : List (Option Nat)) :
    evalGraph natSem 1 outer (Graph.mk ["x"] ([("a", "t1"), ("b", "t2")] ++ [("o", "f")]) ([] ++ [nMul]) ["y"]) args
      = evalGraph natSem 1 outer (Graph.mk ["x"] [("a", "t1"), ("b", "t2")] ([] ++ nAdd :: [nMul]) ["y"]) args := by
  refine generic_fold_sound natSem 0 outer ["x"] [("a", "t1"), ("b", "t2")] [] [nMul] nAdd ["y"] "o" "f"
    [some 1, some 2] args rfl (by decide) rfl (by decide) ?_ rfl
  intro ρ0 ρ h0 h1
  have ha := initializer_is_constant natSem (evalGraph natSem 0) outer ["x"] [("a", "t1"), ("b", "t2")]
    ([] ++ nAdd :: [nMul]) ["y"] [] args "a" "t1" ⟨[], [("b", "t2")], rfl, by decide⟩ (by decide) (by simp) ρ0 ρ h0 h1
  have hb := initializer_is_constant natSem (evalGraph natSem 0) outer ["x"] [("a", "t1"), ("b", "t2")]
    ([] ++ nAdd :: [nMul]) ["y"] [] args "b" "t2" ⟨[("a", "t1")], [], rfl, by decide⟩ (by decide) (by simp) ρ0 ρ h0 h1
  simp only [nAdd, Node.inputs, lookupAll, lookupIn, ha, hb]
  rfl

/-- …and the folded graph really computes `x * 3` (so both sides above are defined, not both `none`). -/
example : evalGraph natSem 1 Env.empty (Graph.mk ["x"] [("a", "t1"), ("b", "t2")] [nAdd, nMul] ["y"]) [some 5] = some [15] := by
  decide +kernel

/-- `alias_subst_sound` / `identity_establishes_alias` instance: after `o = Identity(x)` the alias holds. -/
example (ρ ρ' : Env Nat)
    (h : evalNode natSem (evalGraph natSem 0) ρ (.mk "Identity" "" [some "x"] ["o"] [] []) = some ρ') : ρ' "o" = ρ' "x" :=
  identity_establishes_alias natSem (evalGraph natSem 0) ρ ρ' "x" "o" [] (fun _ => rfl) (by decide) h

/-- `pipeline_preserves` instance: the identity passes satisfy the contracts. -/
example (g : Graph) (o : OptOpts) :
    Refines natSem 3 (optimizeIr ⟨id, fun g => (g, false), fun g => (g, false), id, id, id, id, id, id⟩ (fun g => (g, false)) o g) g := by
  have r : ∀ g, Refines natSem 3 g g := Refines.refl _ _
  exact pipeline_preserves natSem 3 ⟨id, fun g => (g, false), fun g => (g, false), id, id, id, id, id, id⟩
    ⟨r, r, r, r, r, r, r, r, r⟩ _ r o g

/-! ### non-vacuity of the end-to-end theorem: a graph of the fragment on which folding fires -/

/-- every operator yields the value `3`, every constant is `3`: any oracle table is then sound -/
def threeSem : Sem Nat where
  op := fun _ _ _ _ => some [3]
  ctl := fun _ _ _ _ _ => none
  truth := fun _ => none
  tensor := fun _ => 3
  intsTensor := fun _ => 3
  intTensor := fun _ => 3

def tokA : CInfo := { tok := "t1", dtype := 1, shape := [], ints := none, isZero := some false }
def tokB : CInfo := { tok := "t2", dtype := 1, shape := [], ints := none, isZero := some false }

def ctxE : Ctx :=
  { inLimit := 8192, outLimit := 262144, shouldFold := none, imports := [("", 18)], isFunction := false,
    toks := [("t1", tokA), ("t2", tokB)],
    oracle := [("Mul||18|t1&t2|", .single { tok := "f", dtype := 1, shape := [], ints := none, isZero := some false })] }

/-- `o = Mul(a, b); y = Sub(x, o)` with initializers `a`, `b` -/
def gE : Graph :=
  .mk ["x"] [("a", "t1"), ("b", "t2")]
    [.mk "Mul" "" [some "a", some "b"] ["o"] [] [], .mk "Sub" "" [some "x", some "o"] ["y"] [] []] ["y"]

def infoE : List (Name × VInfo) :=
  [("a", { dtype := some 1, shape := some [], const := some tokA }), ("b", { dtype := some 1, shape := some [], const := some tokB })]

/-- folding does fire on `gE`: the `Mul` disappears, `o` becomes an initializer, `a` and `b` are popped -/
example : (foldGraph ctxE infoE gE).2.nodes.map (·.op) = ["Sub"] ∧
    (foldGraph ctxE infoE gE).2.inits = [("o", "f")] := by decide +kernel

/-- non-vacuity of `fold_unmodified_means_unchanged`: `y = Sub(x, x)` — nothing to do, the flag stays down -/
example : (foldGraph ctxE infoE (.mk ["x"] [] [.mk "Sub" "" [some "x", some "x"] ["y"] [] []] ["y"])).1.modified = false := by
  decide +kernel

theorem fresh_ne (k : Nat) (s : String) (hs : s.toList.head? ≠ some '%') : "%" ++ toString k ≠ s :=
  fresh_ne_of_head k s hs

/-- every hypothesis of `fold_generic_fragment_preserves` holds for `gE`, for every argument list
and enclosing environment -/
example (outer : Env Nat) (args : List (Option Nat)) (vs : List Nat)
    (he : evalGraph threeSem 1 outer gE args = some vs) :
    evalGraph threeSem 1 outer (foldGraph ctxE infoE gE).2 args = some vs := by
  -- the structural side conditions are read off the decidable checks; `Mul`, `Sub` have no partial evaluator
  obtain ⟨h1, h2, h3, _, h5⟩ := fragAWFB_sound gE (by decide +kernel)
  refine fold_generic_fragment_preserves threeSem ctxE rfl (fun _ _ _ _ _ _ => rfl) infoE gE ⟨?_, h2, h3⟩ h5 0 outer args
    ⟨?_, (infoOKB_sound infoE gE (by decide +kernel)).2.1⟩ vs he
  · intro n hn
    simp only [gE, Graph.nodes, List.mem_cons, List.mem_nil_iff, or_false] at hn
    rcases hn with rfl | rfl <;> exact ⟨rfl, by decide, fun v => rfl, by decide⟩
  · intro ρ0 h0 x c hx
    show ρ0 x = some 3
    have hxa : x = "a" ∨ x = "b" := by
      by_cases ha : x = "a"
      · exact Or.inl ha
      · by_cases hb : x = "b"
        · exact Or.inr hb
        · exfalso
          have h1 : ("a" == x) = false := by simpa using fun e => ha e.symm
          have h2 : ("b" == x) = false := by simpa using fun e => hb e.symm
          simp [infoE, lookupA, List.find?, h1, h2] at hx
    rcases hxa with rfl | rfl
    · exact (initializer_is_constant threeSem (evalGraph threeSem 0) outer ["x"] [("a", "t1"), ("b", "t2")] gE.nodes ["y"] []
        args "a" "t1" ⟨[], [("b", "t2")], rfl, by decide⟩ (by decide) (by simp) ρ0 ρ0 h0 rfl :)
    · exact (initializer_is_constant threeSem (evalGraph threeSem 0) outer ["x"] [("a", "t1"), ("b", "t2")] gE.nodes ["y"] []
        args "b" "t2" ⟨[("a", "t1")], [], rfl, by decide⟩ (by decide) (by simp) ρ0 ρ0 h0 rfl :)

/-! ### reference attributes (function bodies) -/

/-- (One-guard unfolding of the model, pins a branch; not a headline result.)  `_get_int_attribute` on a reference
attribute: the attribute is present, its value is not an int, the answer is `None` — never the operator's default. -/
theorem intAttr_ref (n : Node) (k r : String) (dflt : Option Int)
    (h : (n.attrs.find? (·.1 == k)).map (·.2) = some (Attr.ref r)) : intAttr n k dflt = none := by
  unfold intAttr Node.attr
  rw [h]

/-- **Evaluators do not fire on a reference attribute they read** (`concat_from_sequence`:
`new_axis`, `axis`; `split_to_sequence`: `axis`): with `new_axis=@r` the evaluator declines, so a
function body is not specialised to the operator's default for every call site. -/
theorem concat_from_sequence_declines_on_ref (st : St) (n : Node) (r : String)
    (h : (n.attrs.find? (·.1 == "new_axis")).map (·.2) = some (Attr.ref r)) :
    ∃ st', evConcatFromSequence st n = (EvRes.none, st') ∨ ∃ m, evConcatFromSequence st n = (EvRes.error m, st') := by
  unfold evConcatFromSequence
  split
  · exact ⟨st, Or.inr ⟨_, rfl⟩⟩
  · split
    · split
      · exact ⟨st, Or.inl rfl⟩
      · simp only [intAttr_ref n "new_axis" r (some 0) h]
        split
        · exact ⟨st, Or.inl rfl⟩
        · simp
    · exact ⟨st, Or.inl rfl⟩

def isRepl : PRes → Bool
  | .repl _ _ => true
  | _ => false

/-- (One-guard unfolding of `processNode`: pins the guard added by commit 1825327; not a semantic theorem.)
**Nodes with a reference attribute are left alone**: for every option tuple and
state, `process_node` keeps a node that carries an attribute reference after the input
substitution — no partial evaluator and no generic folding can specialise a function body to one
call site's (or the operator's default) attribute value. -/
theorem reference_attribute_kept (ctx : Ctx) (st : St) (n : Node) (h : hasRefAttr n = true) :
    ∃ n' st', processNode ctx st n = (.keep n', st') ∧ n'.attrs = n.attrs := by
  have hattrs : (substInputs st n).1.attrs = n.attrs := by
    unfold substInputs
    cases n
    rfl
  have h' : hasRefAttr (substInputs st n).1 = true := by
    unfold hasRefAttr
    rw [hattrs]
    exact h
  unfold processNode
  simp only [h', if_true]
  exact ⟨_, _, rfl, hattrs⟩

def tokRc : CInfo := { tok := "t0", dtype := 1, shape := [2, 2], ints := none, isZero := none }
def tokRax : CInfo := { tok := "t1", dtype := 7, shape := [1], ints := some [0], isZero := some true }

def ctxRef : Ctx :=
  { inLimit := 8192, outLimit := 262144, shouldFold := none, imports := [("", 18)], isFunction := true, toks := [],
    oracle := [("ReduceSum||18|t0&t1|keepdims=r:k", .single { tok := "f0", dtype := 1, shape := [2], ints := none, isZero := none })] }

def stRef : St :=
  { info := [("c", { dtype := some 1, shape := some [.known 2, .known 2], const := some tokRc }),
             ("ax", { dtype := some 7, shape := some [.known 1], const := some tokRax })] }

/-- `r0 = ReduceSum<keepdims=@k>(c, ax)` inside a function body -/
def nRef : Node := .mk "ReduceSum" "" [some "c", some "ax"] ["r0"] [("keepdims", .ref "k")] []

/-- Regression witness of C03-D2 (fixed by 1825327): the all-constant `ReduceSum<keepdims=@k>` — which
the gate cascade alone would still fold, the oracle answering for `keepdims=None` — is kept by `process_node`. -/
theorem reference_attribute_witness_kept :
    isRepl (processNode ctxRef stRef nRef).1 = false ∧ isRepl (gateCascade ctxRef stRef nRef 18).1 = true := by
  decide +kernel

/-- (One-guard unfolding of `oracleAnswer`; not a headline result.)  Regression witness of C03-D3 (fixed by 9d7b9e7): below opset 13 the reference evaluator has no answer for
Softmax / LogSoftmax / Hardmax, whatever the oracle table says; from opset 13 on the table is consulted. -/
theorem softmax_family_not_evaluated_below_13 (ctx : Ctx) (st : St) (n : Node) (v : Nat)
    (hd : n.domain = "") (hv : v < 13) (hop : n.op = "Softmax" ∨ n.op = "LogSoftmax" ∨ n.op = "Hardmax") :
    oracleAnswer ctx st n v = some .fail := by
  unfold oracleAnswer refEvaluatorMissing
  rcases hop with h | h | h <;> simp [hd, hv, h]

/-! ### non-vacuity of the fragment-A theorem: Constant + fold + Identity + output replacement all fire -/

/-- every operator yields `3`, every constant is `3`; `Identity`, one-operand `Concat`, `Dropout`, `Cast`, `CastLike`,
`Reshape`, `Expand` return their first operand (every value has every element type and shape) -/
def idSem : Sem Nat where
  op := fun o _ _ args => match o, args with
    | "Identity", [some v] => some [v]
    | "Concat", [some v] => some [v]
    | "Dropout", some v :: _ => some [v]
    | "Cast", [some v] => some [v]
    | "CastLike", [some v, some _] => some [v]
    | "Reshape", [some v, some _] => some [v]
    | "Expand", [some v, some _] => some [v]
    | _, _ => some [3]
  ctl := fun _ _ _ _ _ => none
  truth := fun _ => none
  tensor := fun _ => 3
  intsTensor := fun _ => 3
  intTensor := fun _ => 3

/-- the operator laws hold of `idSem` -/
def idLaws : OpLaws idSem where
  hasDtype := fun _ _ => True
  hasShape := fun _ _ => True
  isInts := fun _ _ => True
  identity := fun _ _ => rfl
  cast_same := fun _ _ _ _ _ => rfl
  castlike_is_cast := fun _ _ _ _ => rfl
  reshape_same := fun _ _ _ _ _ _ => rfl
  expand_same := fun _ _ _ _ _ _ => rfl
  concat_single := fun _ _ => rfl
  dropout_inference := fun _ v _ vs _ h => by
    have h' : some [v] = some vs := h
    rw [← Option.some.inj h']; rfl
  tensor_ints := fun _ _ _ _ _ => trivial

def infoA : List (Name × VInfo) := infoE ++ [("x", { dtype := some 1 })]

/-- `c = Constant; o = Mul(a, b); s = Sub(x, o); y = Identity(s); z = Div(y, c); w = Concat(z); u = Dropout(w);
k = Cast<to=1>(x); q = CastLike(u, x)`, outputs `y, u, k, q`; `x` is annotated with element type 1 -/
def gA : Graph :=
  .mk ["x"] [("a", "t1"), ("b", "t2")]
    [.mk "Constant" "" [] ["c"] [("value", .tensor "t1")] [],
     .mk "Mul" "" [some "a", some "b"] ["o"] [] [],
     .mk "Sub" "" [some "x", some "o"] ["s"] [] [],
     .mk "Identity" "" [some "s"] ["y"] [] [],
     .mk "Div" "" [some "y", some "c"] ["z"] [] [],
     .mk "Concat" "" [some "z"] ["w"] [("axis", .int 0)] [],
     .mk "Dropout" "" [some "w"] ["u"] [] [],
     .mk "Cast" "" [some "x"] ["k"] [("to", .int 1)] [],
     .mk "CastLike" "" [some "u", some "x"] ["q"] [] []] ["y", "u", "k", "q"]

/-- on `gA`: the `Mul` is folded, the input `y` of `Div` is replaced by its alias `s`, `Concat(z)` and `Dropout(w)` are
replaced by `Identity(z)` (the second after alias substitution), `Cast<1>(x)` by `Identity(x)` (annotated type 1),
`CastLike(u, x)` by `Cast<1>(z)`, the graph outputs `y`, `u`, `k` by their aliases `s`, `z`, … -/
example : (foldGraph ctxE infoA gA).2.nodes.map (fun n => (n.op, n.inputs, n.outputs)) =
      [("Constant", [], ["c"]), ("Sub", [some "x", some "o"], ["s"]), ("Identity", [some "s"], ["y"]),
       ("Div", [some "s", some "c"], ["z"]), ("Identity", [some "z"], ["w"]), ("Identity", [some "z"], ["u"]),
       ("Identity", [some "x"], ["k"]), ("Cast", [some "z"], ["q"])] ∧
    (foldGraph ctxE infoA gA).2.outputs = ["s", "z", "k", "q"] ∧ (foldGraph ctxE infoA gA).2.inits = [("o", "f")] ∧
    (foldGraph ctxE infoA gA).1.err = none := by decide +kernel

theorem idSem_oracleSound (ctx : Ctx) : OracleSound idSem ctx := by
  intro st n v c _ hins
  -- every argument is a constant, i.e. `3`
  have hargs : ∀ (l : List (Option Name)), (∀ x, some x ∈ l → (st.constOf x).isSome = true) →
      ∀ a ∈ constArgs idSem st l, a = none ∨ a = some 3 := by
    intro l
    induction l with
    | nil => intro _ a ha; simp [constArgs] at ha
    | cons y ys ih =>
      intro hl a ha
      have ih' := ih (fun x hx => hl x (List.mem_cons_of_mem _ hx))
      cases y with
      | none =>
        simp only [constArgs, List.mem_cons] at ha
        rcases ha with rfl | ha
        · exact Or.inl rfl
        · exact ih' a ha
      | some x =>
        simp only [constArgs, List.mem_cons] at ha
        rcases ha with rfl | ha
        · have := hl x List.mem_cons_self
          cases hc : st.constOf x with
          | none => rw [hc] at this; exact absurd this (by decide)
          | some cc => exact Or.inr rfl
        · exact ih' a ha
  have hall := hargs n.inputs hins
  have hfirst : ∀ (v' : Nat) (r : List (Option Nat)), constArgs idSem st n.inputs = some v' :: r → v' = 3 := by
    intro v' r h
    rcases hall (some v') (by rw [h]; simp) with h' | h'
    · exact absurd h' (by simp)
    · exact Option.some.inj h'
  show (match n.op, constArgs idSem st n.inputs with
    | "Identity", [some v] => some [v]
    | "Concat", [some v] => some [v]
    | "Dropout", some v :: _ => some [v]
    | "Cast", [some v] => some [v]
    | "CastLike", [some v, some _] => some [v]
    | "Reshape", [some v, some _] => some [v]
    | "Expand", [some v, some _] => some [v]
    | _, _ => some [3]) = some [3]
  split
  · rename_i v' _ h; rw [hfirst v' _ h]
  · rename_i v' _ h; rw [hfirst v' _ h]
  · rename_i v' _ _ h; rw [hfirst v' _ h]
  · rename_i v' _ h; rw [hfirst v' _ h]
  · rename_i v' _ _ h; rw [hfirst v' _ h]
  · rename_i v' _ _ h; rw [hfirst v' _ h]
  · rename_i v' _ _ h; rw [hfirst v' _ h]
  · rfl

theorem infoA_dom {x : Name} {c : CInfo} (hx : ((lookupA infoA x).getD {}).const = some c) : x = "a" ∨ x = "b" := by
  by_cases ha : x = "a"
  · exact Or.inl ha
  · by_cases hb : x = "b"
    · exact Or.inr hb
    · exfalso
      have h1 : ("a" == x) = false := by simpa using fun e => ha e.symm
      have h2 : ("b" == x) = false := by simpa using fun e => hb e.symm
      by_cases hxx : x = "x"
      · subst hxx; simp [infoA, infoE, lookupA, List.find?] at hx
      · have h3 : ("x" == x) = false := by simpa using fun e => hxx e.symm
        simp [infoA, infoE, lookupA, List.find?, h1, h2, h3] at hx

theorem infoA_dtype_dom {x : Name} {dt : Nat} (hx : ((lookupA infoA x).getD {}).dtype = some dt) : x = "a" ∨ x = "b" ∨ x = "x" := by
  by_cases ha : x = "a"
  · exact Or.inl ha
  · by_cases hb : x = "b"
    · exact Or.inr (Or.inl hb)
    · by_cases hxx : x = "x"
      · exact Or.inr (Or.inr hxx)
      · exfalso
        have h1 : ("a" == x) = false := by simpa using fun e => ha e.symm
        have h2 : ("b" == x) = false := by simpa using fun e => hb e.symm
        have h3 : ("x" == x) = false := by simpa using fun e => hxx e.symm
        simp [infoA, infoE, lookupA, List.find?, h1, h2, h3] at hx

theorem nf_of_head (s : String) (hs : s.toList.head? ≠ some '%') : NF s := fun k => (fresh_ne k s hs).symm

example (outer : Env Nat) (args : List (Option Nat)) (vs : List Nat)
    (he : evalGraph idSem 1 outer gA args = some vs) :
    evalGraph idSem 1 outer (foldGraph ctxE infoA gA).2 args = some vs := by
  -- through the decidable check of the structural hypotheses; what is left are the semantic ones
  refine fold_fragmentA_checked idSem ctxE (idSem_oracleSound ctxE) idLaws (fun _ _ _ _ _ _ _ => trivial)
    (fun _ _ _ => trivial) infoA gA (by decide +kernel) ?_ (fun _ _ _ _ _ _ _ _ _ _ _ _ _ _ => trivial) 0 outer args ?_
    (fun _ _ _ _ _ _ _ _ _ => trivial) vs he
  · -- the one `Constant` node carries a `value` tensor
    intro n hn hK
    simp only [gA, Graph.nodes, List.mem_cons, List.mem_nil_iff, or_false] at hn
    rcases hn with rfl | rfl | rfl | rfl | rfl | rfl | rfl | rfl | rfl
    · exact constMarkSound_of_coherent idSem ctxE ⟨fun _ _ _ => rfl, fun _ => rfl, fun _ => rfl⟩ "c" _ (Or.inl ⟨"t1", rfl⟩)
    all_goals exact absurd hK (by decide)
  · intro ρ0 h0 x c hx
    show ρ0 x = some 3
    rcases infoA_dom hx with rfl | rfl
    · exact (initializer_is_constant idSem (evalGraph idSem 0) outer ["x"] [("a", "t1"), ("b", "t2")] gA.nodes ["y", "u", "k", "q"] []
        args "a" "t1" ⟨[], [("b", "t2")], rfl, by decide⟩ (by decide) (by simp) ρ0 ρ0 h0 rfl :)
    · exact (initializer_is_constant idSem (evalGraph idSem 0) outer ["x"] [("a", "t1"), ("b", "t2")] gA.nodes ["y", "u", "k", "q"] []
        args "b" "t2" ⟨[("a", "t1")], [], rfl, by decide⟩ (by decide) (by simp) ρ0 ρ0 h0 rfl :)

/-! ### a refuted clause (finding C03-D1) -/

/-- A witness semantics over `Nat`: a value is the *rank* of a tensor (of the elements, for a
sequence).  `SplitToSequence` with a `split` input keeps the rank whatever `keepdims` says — the
sentence of the operator specification the evaluator overlooks. -/
def rankSem : Sem Nat where
  op := fun o _ _ args =>
    match o, args with
    | "SplitToSequence", some r :: _ => some [r]
    | "Split", some r :: _ => some [r, r, r]
    | "Squeeze", some r :: _ => some [r - 1]
    | "SequenceConstruct", some r :: _ => some [r]
    | "SequenceAt", some r :: _ => some [r]
    | "Identity", [some r] => some [r]
    | _, _ => none
  ctl := fun _ _ _ _ _ => none
  truth := fun _ => none
  tensor := fun t => if t == "t1" then 1 else 0
  intsTensor := fun _ => 1
  intTensor := fun _ => 0

def ctxK : Ctx :=
  { inLimit := 8192, outLimit := 262144, shouldFold := none, imports := [("", 18)], isFunction := false,
    toks := [], oracle := [] }

/-- `s = SplitToSequence(x:[2,3], sp=[1,1,1], axis=1, keepdims=0); y = SequenceAt(s, 0)` -/
def gK : Graph :=
  .mk ["x"] [("i", "t0"), ("sp", "t1")]
    [.mk "SplitToSequence" "" [some "x", some "sp"] ["s"] [("axis", .int 1), ("keepdims", .int 0)] [],
     .mk "SequenceAt" "" [some "s", some "i"] ["y"] [] []] ["y"]

def infoK : List (Name × VInfo) :=
  [("x", { dtype := some 1, shape := some [.known 2, .known 3] }),
   ("i", { dtype := some 7, shape := some [], const := some { tok := "t0", dtype := 7, shape := [], ints := some [0], isZero := some true } }),
   ("sp", { dtype := some 7, shape := some [.known 3], const := some { tok := "t1", dtype := 7, shape := [3], ints := some [1, 1, 1], isZero := none } })]

/-- The two sentences of the specification that matter here. -/
def IgnoresKeepdims (sem : Sem Nat) : Prop :=
  ∀ (a1 a2 : List (String × Attr)) (x sp : Nat),
    sem.op "SplitToSequence" "" a1 [some x, some sp] = sem.op "SplitToSequence" "" a2 [some x, some sp]

def IdentityLaw (sem : Sem Nat) : Prop := ∀ a (v : Nat), sem.op "Identity" "" a [some v] = some [v]

/-- **C03-D1.**  What is negated is the UNRESTRICTED universal (every graph, every annotation table, no well-formedness,
oracle or annotation hypothesis) — a statement stronger than any positive theorem of this file; the negation alone says
little.  What ties it to the finding is the witness `gK`/`infoK`/`ctxK` (a well-formed 3-node graph with truthful
annotations), on which the model of the pass produces what the real code produces.
"The folding pass as modelled preserves the meaning of every graph under every
semantics that obeys the operator specification" is false: under `rankSem` (which ignores
`keepdims` when `split` is given, as the specification and onnxruntime do) the original returns a
rank-2 tensor, the folded graph — `Split`, three `Squeeze`, `SequenceConstruct`, `Identity` — a rank-1
tensor.  Replayed on the real code: shape (2,1) becomes (2,). -/
theorem split_to_sequence_keepdims_refuted :
    ¬ (∀ (sem : Sem Nat), IgnoresKeepdims sem → IdentityLaw sem → ∀ (ctx : Ctx) (info : List (Name × VInfo)) (g : Graph) args,
        evalGraph sem 2 Env.empty (foldGraph ctx info g).2 args = evalGraph sem 2 Env.empty g args) := by
  intro h
  have h1 : IgnoresKeepdims rankSem := fun _ _ _ _ => rfl
  have h2 : IdentityLaw rankSem := fun _ _ => rfl
  have := h rankSem h1 h2 ctxK infoK gK [some 2]
  revert this
  decide +kernel

end OV.Props.C03
