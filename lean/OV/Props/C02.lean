import OV.Lemmas.C01Scope
import OV.Lemmas.C01Export
import OV.Lemmas.C01Refs
import OV.Lemmas.C01Total
/-!
# C02 — every proto the converter emits is well-formed ONNX; bad programs are refused

Property theorems only.  Model: `OV.Model.C01Script`, `C01Graph`, `C01Convert` (the transcription of
`Converter` in onnxscript/_internal/converter.py); lemmas: `OV.Lemmas.C01Run` (runs of the converter taken apart),
`C01Names`, `C01Scope`, `C01Refs`, `C01Export`, `C01Total`.

What is proved for ALL programs of the modelled language (straight-line code, tuple / parallel
assignment, `if`/`else`, `for`, `while`, trailing `break`, nested to any depth, any number of
parameters) — the model follows /repo including the fixes 3b56caa (returned input) and cbb81e7 (duplicate
subgraph outputs):

* `fresh_not_used`, `generate_unique_total` — `_generate_unique_name` always returns, never a used name, and
                                     records it;
* `convert_single_assignment`     — every name defined anywhere in the emitted body (inputs, node outputs,
                                     Loop-body inputs, at every depth) is defined exactly once; hence no
                                     subgraph redefines an outer name;
* `convert_wf`                    — **the whole structural property**: the emitted body passes `wfGraph` — single
                                     assignment, scoped definition-before-use with outer-scope visibility,
                                     subgraph outputs produced inside their subgraph *and pairwise distinct*,
                                     matching arities, function outputs visible, pairwise distinct, and none of
                                     them a graph input.  Only hypothesis: Python's rule that parameter names
                                     are distinct;
* `convert_opsets_single`, `mixed_default_opset_refused` — about the SOURCE guard only (`opsetsOK f`): an accepted
                                     function takes every default-domain call from the version of `default_opset`,
                                     and mixing versions is the modelled refusal (one is the contrapositive of the
                                     other); emitted nodes carry no version in the model;
* `wfGraph_sound`                  — a Bool→Prop reading of the executable checker `wfGraph` (run by the harness on
                                     the protos the REAL converter emitted, parsed back into `Graph`): Nodup / membership
                                     clauses; the scoping clause stays `wfNodes … = true` (one-step readings:
                                     `wfNodes_cons`, `wfNode_if_clauses`; none for `Loop`).  `nodupB_iff`, `allIn_iff`
                                     are its helper reflections (they sit here and are counted).

Before the two fixes `convert_wf` needed the hypothesis that no parameter is re-assigned and the
subgraph-distinctness clause was false (findings C01-D26, C01-D30); their witnesses are now positive
regression examples below (`d26`, `d30`).  Subscripts with constant indices are part of the model (the node
emission of `_translate_subscript_expr`: Constant / Concat / Slice / Squeeze / Gather and the per-expression
constant cache), so `convert_wf` and `convert_single_assignment` cover them (`subDemo`).  D19 (nested `@graph`
functions, outside the model: their parameters bypassed `_generate_unique_name`) is fixed by 9fe7eb1:
`nested_params_fresh`.  Two converter crashes are fixed as well:
`full_slice_subscript_is_identity_witness` (C01-D37, 35a0ff1), `stateless_loop_refused` (C01-D38, fc696f7).
-/
namespace OV.Props.C02
open OV.C01

/-- **`_generate_unique_name` is fresh.**  Whatever the candidate and the converter state, a returned
name was not in `_used_vars`, and `_used_vars` afterwards is exactly the old set plus that name. -/
theorem fresh_not_used (cand r : Name) (s s' : St) (h : genUnique cand s = .ok (r, s')) :
    r ∉ s.used ∧ s'.used = r :: s.used :=
  ⟨(genUnique_spec h).1, (genUnique_spec h).2.1⟩

/-- **`_generate_unique_name` always returns.**  The `while r in self._used_vars` loop tries pairwise distinct
candidates `cand_k, cand_{k+1}, …` (decimal rendering of naturals is injective), so at most `|used| + 1`
rounds are needed: the model's fuel is never exhausted, for any candidate and any state. -/
theorem generate_unique_total (cand : Name) (s : St) : ∃ r s', genUnique cand s = .ok (r, s') :=
  genUnique_total cand s

example : (match genUnique "x" { used := ["x", "x_0"], next := 0, castable := [] } with
    | .ok (r, s') => r == "x_1" && s'.used == ["x_1", "x", "x_0"] && s'.next == 2
    | .error _ => false) = true := by decide

/-- **Single assignment across the graph and all nested subgraphs.**  For every function the model
converter accepts (any nesting of if/for/while), all names defined in the emitted body — function inputs,
outputs of every node at every depth, and the inputs of every Loop body — are pairwise distinct.  In
particular no subgraph redefines a name of an enclosing scope.  The only hypothesis is Python's own
rule that parameter names are distinct. -/
theorem convert_single_assignment (f : Func) (g : Graph) (h : convert f = .ok g)
    (hparams : (tensorParams f.params).Nodup) : g.allDefs.Nodup :=
  convert_allDefs_nodup h hparams

/-- Non-vacuity: a program with an `if` inside a `for`, accepted by the model converter. -/
def demo : Func :=
  { name := "f", params := [.tensor "A", .tensor "n", .tensor "c"], retCount := none,
    body := [
      .assign "x" (.call "" "Identity" { known := true, variadic := false, homog := true, tvs := [some "V"] } [.var "A"] []),
      .for_ "i" true (.var "n") [
        .ite (.var "c")
          [.assign "x" (.binop "Add" (.var "x") (.lit (.int 1)))]
          [.assign "x" (.var "A")]],
      .ret [.var "x", .var "A"] false] }

example : (convert demo).toOption.isSome = true := by decide +kernel
example : (tensorParams demo.params).Nodup := by decide

/-- **`convert_wf`: every accepted program yields a well-formed function body.**  For every program of the
modelled language that the converter accepts (straight-line code, tuple / parallel assignment, `if`, `for`,
`while`, trailing `break`, nested to any depth), the emitted body passes the whole decision procedure
`wfGraph`:
1. every name is defined exactly once across the graph and all nested subgraphs (so no subgraph redefines
   an outer name);
2. scoped definition-before-use: every node input, at every depth, is a function input, an earlier output
   of the same graph, or a value of an enclosing graph defined before the enclosing If/Loop; every
   If-branch / Loop-body output is produced by a node *of that subgraph*; the outputs of each subgraph are
   pairwise distinct; branch and body arities match (`wfNodes`);
3. every function output is visible at the end of the body, outputs are pairwise distinct, and no graph
   input is returned directly.
The only hypothesis is Python's own rule that parameter names are distinct. -/
theorem convert_wf (f : Func) (g : Graph) (h : convert f = .ok g)
    (hnames : (f.params.map Param.name).Nodup) : wfGraph g = true :=
  convert_wfGraph h hnames

/-- The clauses of `convert_wf`, spelled out (what `wfGraph = true` means: `wfGraph_sound`). -/
theorem convert_wf_clauses (f : Func) (g : Graph) (h : convert f = .ok g)
    (hnames : (f.params.map Param.name).Nodup) :
    g.allDefs.Nodup ∧ wfNodes g.inputs g.nodes = true
      ∧ (∀ o, o ∈ g.outputs → o ∈ g.inputs ++ topDefs g.nodes) ∧ g.outputs.Nodup
      ∧ (∀ o, o ∈ g.outputs → o ∉ g.inputs) :=
  ⟨convert_allDefs_nodup h (tensorParams_nodup hnames), convert_outputs_ok h⟩

/-- Non-vacuity of `convert_wf`: `demo` (an `if` inside a `for`) has distinct parameter names and is accepted. -/
example : (demo.params.map Param.name).Nodup ∧ (convert demo).toOption.isSome = true := by
  constructor
  · decide
  · decide +kernel

/-- **`convert_opsets_single`: one version of the default-domain opset per accepted function — a statement about the
source guard** (`opsetsOK f = true`, the contrapositive of the refusal in `mixed_default_opset_refused`), not about
versions recorded in the emitted graph (nodes carry none in the model).  Whatever the converter accepts, every call that takes a default-domain operator from an opset object (`op.Add`,
`opset17.Abs`, …) — at top level, in `if` branches, in loop bodies, in operands of other calls — takes it from
the opset version `default_opset` has (each emitted node copies its callee's opset version, so all default-domain
nodes carry that one version).  This is the clause the code enforces (`_set_default_opset`); for other domains
`IRFunction.append_node` merely warns, and nothing is claimed. -/
theorem convert_opsets_single (f : Func) (g : Graph) (h : convert f = .ok g) : opsetsOK f = true :=
  (convert_core h).2.1

/-- … and conversely a function that mixes two versions of the default-domain opset anywhere is refused with a
`TranslationError` (given that the analyser accepted its statements). -/
theorem mixed_default_opset_refused (f : Func) (d : VSet) (ha : assignedBlock f.body = some d)
    (hmix : opsetsOK f = false) : convert f = .error .translation := by
  unfold convert
  rw [ha]
  simp [hmix]

/-- Non-vacuity: `if c: x = opset17.Abs(A) else: x = op.Neg(A)` under `default_opset = opset18` is refused;
with `opset18.Abs` it is accepted. -/
example :
    let mk (v : Nat) : Func :=
      { name := "f", params := [.tensor "A", .tensor "c"], retCount := none, opsetVer := 18,
        body := [
          .ite (.var "c")
            [.assign "x" (.call "" "Abs" { known := true, variadic := false, homog := true, tvs := [some "T"], ver := v } [.var "A"] [])]
            [.assign "x" (.call "" "Neg" { known := true, variadic := false, homog := true, tvs := [some "T"], ver := 18 } [.var "A"] [])],
          .ret [.var "x"] false] }
    opsetsOK (mk 17) = false ∧ (convert (mk 17)).toOption.isSome = false
      ∧ opsetsOK (mk 18) = true ∧ (convert (mk 18)).toOption.isSome = true := by
  decide +kernel

/-- Helper reflection: the Bool test `nodupB` is `List.Nodup`. -/
theorem nodupB_iff (l : List Name) : nodupB l = true ↔ l.Nodup :=
  ⟨nodup_of_nodupB l, nodupB_of_nodup l⟩

/-- Helper reflection: the Bool test `allIn` is list inclusion. -/
theorem allIn_iff (xs vis : List Name) : allIn xs vis = true ↔ ∀ x ∈ xs, x ∈ vis :=
  allIn_iff' xs vis

/-- **A Bool→Prop reading of the executable checker** (a reflection, not an independent specification: the scoping
clause below is still the recursive Bool function `wfNodes`; `wfNodes_cons` and `wfNode_if_clauses` read it one step at
a time, there is no such reading for `Loop` nodes).  `wfGraph g = true` — which the harness evaluates (in
the compiled Lean driver) on every FunctionProto the real converter emitted — implies: global single
assignment; scoped definition-before-use with subgraph outputs produced inside their subgraph
(`wfNodes`); every graph output is visible, outputs are pairwise distinct, and no graph input is
returned directly. -/
theorem wfGraph_sound (g : Graph) (h : wfGraph g = true) :
    g.allDefs.Nodup ∧ wfNodes g.inputs g.nodes = true
      ∧ (∀ o ∈ g.outputs, o ∈ g.inputs ++ topDefs g.nodes)
      ∧ g.outputs.Nodup ∧ (∀ o ∈ g.outputs, o ∉ g.inputs) := by
  unfold wfGraph at h
  simp only [Bool.and_eq_true] at h
  obtain ⟨⟨⟨⟨h1, h2⟩, h3⟩, h4⟩, h5⟩ := h
  refine ⟨(nodupB_iff _).mp h1, h2, (allIn_iff _ _).mp h3, (nodupB_iff _).mp h4, ?_⟩
  intro o ho
  have := (List.all_eq_true.mp h5) o ho
  simpa using this

/-- One step of the scoped check, spelled out: in a well-scoped node list every input of the first
node is already visible, and the rest is checked with that node's outputs added. -/
theorem wfNodes_cons (vis : List Name) (dom name : String) (ins : List (Option Name)) (outs : List Name)
    (attrs : List (String × AttrV)) (rest : List Node)
    (h : wfNodes vis (.op dom name ins outs attrs :: rest) = true) :
    (∀ i ∈ ins, ∀ n, i = some n → n ∈ vis) ∧ wfNodes (outs ++ vis) rest = true := by
  simp only [wfNodes, wfNode, Bool.and_eq_true, List.all_eq_true] at h
  refine ⟨?_, by simpa [Node.outs] using h.2⟩
  intro i hi n hn
  have := h.1 i hi
  subst hn
  simpa [optIn] using this

/-- What the scoped check says about an `If` node: its condition is visible, both branches are well scoped,
their outputs are produced inside them and are **pairwise distinct**. -/
theorem wfNode_if_clauses (vis : List Name) (c : Name) (outs : List Name) (tn : List Node) (to : List Name)
    (en : List Node) (eo : List Name) (h : wfNode vis (.ifN c outs tn to en eo) = true) :
    c ∈ vis ∧ wfNodes vis tn = true ∧ wfNodes vis en = true
      ∧ (∀ o, o ∈ to → o ∈ topDefs tn) ∧ (∀ o, o ∈ eo → o ∈ topDefs en) ∧ to.Nodup ∧ eo.Nodup := by
  simp only [wfNode, Bool.and_eq_true, List.contains_iff_mem] at h
  obtain ⟨⟨⟨⟨⟨⟨⟨⟨h1, h2⟩, h3⟩, h4⟩, h5⟩, _⟩, _⟩, h8⟩, h9⟩ := h
  exact ⟨h1, h2, h4, (allIn_iff _ _).mp h3, (allIn_iff _ _).mp h5, (nodupB_iff _).mp h8, (nodupB_iff _).mp h9⟩

/-- Regression witness of finding C01-D26 (fixed by 3b56caa): `def f(A): B = A; A = op.Neg(A); return B`.
The returned alias of the input is now copied through `Identity`. -/
def d26 : Func :=
  { name := "f", params := [.tensor "A"], retCount := none,
    body := [
      .assign "B" (.var "A"),
      .assign "A" (.call "" "Neg" { known := true, variadic := false, homog := true, tvs := [some "T"] } [.var "A"] []),
      .ret [.var "B"] false] }

example : (match convert d26 with
    | .ok g => wfGraph g && g.outputs == ["return_val"] && g.inputs == ["A"]
    | .error _ => false) = true := by decide +kernel

/-- Regression witness of finding C01-D30 (fixed by cbb81e7): `if c: x = Neg(A); z = x  else: …` with `x` and
`z` both live.  The then-branch now lists two distinct outputs (the second is an `Identity` copy). -/
def d30 : Func :=
  { name := "f", params := [.tensor "A", .tensor "c"], retCount := none,
    body := [
      .ite (.var "c")
        [.assign "x" (.call "" "Neg" { known := true, variadic := false, homog := true, tvs := [some "T"] } [.var "A"] []),
         .assign "z" (.var "x")]
        [.assign "x" (.call "" "Abs" { known := true, variadic := false, homog := true, tvs := [some "T"] } [.var "A"] []),
         .assign "z" (.call "" "Relu" { known := true, variadic := false, homog := true, tvs := [some "T"] } [.var "A"] [])],
      .ret [.var "x", .var "z"] false] }

def thenOutsOfFirstIf : List Node → List Name
  | .ifN _ _ _ to _ _ :: _ => to
  | _ :: rest => thenOutsOfFirstIf rest
  | [] => []

example : (match convert d30 with
    | .ok g => wfGraph g && thenOutsOfFirstIf g.nodes == ["x", "z"]
    | .error _ => false) = true := by decide +kernel

/-! ### Constant subscripts -/

/-- Non-vacuity of `convert_wf` / `convert_single_assignment` on subscripts: `x = A[0:1, 1]; if c: y = x[0] else:
y = A[1, 0:2][::2]; return y` — Slice+Squeeze with a per-expression constant cache (the `1` of `0:1`, of the
step and of the scalar index are ONE `Constant`), a `Gather` in one branch, two subscripts re-using the same
integers in the other: accepted, and the emitted graph passes the executable checker. -/
def subDemo : Func :=
  { name := "f", params := [.tensor "A", .tensor "c"], retCount := none,
    body := [
      .assign "x" (.subscript (.var "A") [.slice (some 0) (some 1) none, .scalar 1]),
      .ite (.var "c")
        [.assign "y" (.subscript (.var "x") [.scalar 0])]
        [.assign "y" (.subscript (.subscript (.var "A") [.scalar 1, .slice (some 0) (some 2) none])
            [.slice none none (some 2)])],
      .ret [.var "y"] false] }

example : (match convert subDemo with
    | .ok g => wfGraph g && nodupB (allDefsL g.nodes) && g.nodes.length == 11
    | .error _ => false) = true := by decide +kernel

/-- Regression witness of C01-D37 (fixed by 35a0ff1): a subscript without an effective index (`A[:]`, `A[:, :]`)
used to crash the converter with an `AttributeError` (it handed `_emit1` the name of the base value instead of
the value); now it is one `Identity` node, and the graph is well-formed. -/
theorem full_slice_subscript_is_identity_witness :
    (match convert { name := "f", params := [.tensor "A"], retCount := none,
                     body := [.assign "x" (.subscript (.var "A") [.slice none none none, .slice none none none]),
                              .ret [.var "x"] false] } with
     | .ok g => wfGraph g && (match g.nodes with
                              | [.op _ "Identity" [some a] [_] _] => a == "A"
                              | _ => false)
     | .error _ => false) = true := by
  decide +kernel

/-- **A loop that carries no state is refused** (C01-D38, fixed by fc696f7).  Nothing assigned in its body is read
in a later iteration or after the loop, so the `Loop` node would have no outputs; before the fix `_emit` evaluated
`output_values[0]` on an empty list and the converter died with an `IndexError`.  Now, whatever the scope, bound or
condition, body and converter state, `convStmt` fails (TranslationError). -/
theorem stateless_loop_refused (L : Locals) (body : List Stmt) (lo : VSet) (hs : loopState body lo = some [])
    (s : St) (r : (Locals × List Node) × St) :
    (∀ i ok b, convStmt L (.for_ i ok b body) lo s ≠ .ok r) ∧
    (∀ t, convStmt L (.while_ (.var t) body) lo s ≠ .ok r) :=
  ⟨fun i ok b => stateless_for_refused L i ok b body lo hs s r,
   fun t => stateless_while_refused L t body lo hs s r⟩

/-- Regression witness of C01-D38: `x = A; for i in range(2): x = B + 1.0; x = -B; return x`. -/
example :
    (match convert { name := "f", params := [.tensor "A", .tensor "B"], retCount := none,
                     body := [.assign "x" (.var "A"),
                              .for_ "i" true (.lit (.int 2)) [.assign "x" (.binop "Add" (.var "B") (.lit (.flt false "1.0")))],
                              .assign "x" (.unop "USub" (.var "B")),
                              .ret [.var "x"] false] } with
     | .error .translation => true
     | _ => false) = true := by
  decide +kernel

/-! ### `to_model_proto`: the body as the main graph of a model -/

/-- **A function with a required attribute parameter is not exported as a model** (`ValueError`) — a direct
restatement of the guard at the top of `exportModel` / `to_model_proto`. -/
theorem export_required_refused (ds : List (Name × Option String)) (g : Graph) (p : Name)
    (h : (p, none) ∈ ds) : exportModel ds g = .error .value := by
  unfold exportModel
  have : ds.any (fun d => d.2.isNone) = true := List.any_eq_true.mpr ⟨(p, none), h, rfl⟩
  simp [this]

/-- **The main graph of an exported model refers to no attribute parameter** (C01-D41, fixed by 3382c7a): when
every attribute parameter the body refers to is one of the function's (with a default, or the export is refused),
the exported body has no attribute reference left at any depth, and lists no attribute parameters.  Before the fix
the references stayed (`alpha = @alpha` in a main graph, where nothing binds them; onnxruntime used 0). -/
theorem export_no_attr_refs (ds : List (Name × Option String)) (g g' : Graph) (h : exportModel ds g = .ok g')
    (hrefs : ∀ p, p ∈ attrRefs g.nodes → defaultOf ds p ≠ none) :
    attrRefs g'.nodes = [] ∧ g'.attrs = [] := by
  obtain ⟨hall, rfl⟩ := exportModel_ok h
  exact ⟨exportNodes_refs ds hall g.nodes hrefs, rfl⟩

/-- **Every attribute reference in an emitted body is to an attribute parameter of the function** — for every
accepted function, at every depth (keyword arguments `alpha=alpha` via `_translate_attr`, attribute parameters read
as values via `_to_onnx_var`; `If` / `Loop` bodies included), and the function lists exactly its attribute
parameters. -/
theorem convert_attr_refs_are_params (f : Func) (g : Graph) (h : convert f = .ok g) :
    g.attrs = attrParams f.params ∧ ∀ q, q ∈ attrRefs g.nodes → q ∈ attrParams f.params :=
  convert_attr_refs h

/-- **The main graph of the model exported from any accepted function refers to no attribute parameter** (C01-D41,
unconditional form): if `ds` gives a default for every attribute parameter of `f` (otherwise the export is refused:
`export_required_refused`), then the exported body has no attribute reference at any depth. -/
theorem export_model_no_attr_refs (f : Func) (g g' : Graph) (ds : List (Name × Option String))
    (hc : convert f = .ok g) (hds : ∀ p, p ∈ attrParams f.params → defaultOf ds p ≠ none)
    (h : exportModel ds g = .ok g') : attrRefs g'.nodes = [] ∧ g'.attrs = [] :=
  export_no_attr_refs ds g g' h (fun p hp => hds p ((convert_attr_refs hc).2 p hp))

/-- **Exporting keeps the body well-formed**: together with `convert_wf`, the main graph of `to_model_proto()` of
every accepted function passes `wfGraph`. -/
theorem export_wf (f : Func) (g g' : Graph) (ds : List (Name × Option String))
    (hnames : (f.params.map Param.name).Nodup) (hc : convert f = .ok g) (h : exportModel ds g = .ok g') :
    wfGraph g' = true :=
  exportModel_wf h (convert_wf f g hc hnames)

def leakyDemo : Func :=
  { name := "f", params := [Param.tensor "A", Param.attr "alpha" AttrTy.float], retCount := none,
    body := [.ret [.call "" "LeakyRelu" { known := false, variadic := false, homog := false, tvs := [] }
      [.var "A"] [("alpha", .ref "alpha")]] false] }

/-- Non-vacuity / regression witness of C01-D41: `def f(A, alpha: float = 0.5): return LeakyRelu(A, alpha=alpha)`
— the function body refers to `@alpha`, the exported main graph carries `0.5`; without a default it is refused. -/
example :
    (match convert leakyDemo with
     | .ok g =>
       attrRefs g.nodes == ["alpha"] &&
       (match exportModel [("alpha", some "f:0.5")] g with
        | .ok g' => attrRefs g'.nodes == [] && wfGraph g' &&
            (match g'.nodes with
             | [.op _ "LeakyRelu" _ _ [("alpha", .const r)]] => r == "f:0.5"
             | _ => false)
        | .error _ => false) &&
       (match exportModel [("alpha", none)] g with
        | .error .value => true
        | _ => false)
     | .error _ => false) = true := by
  decide +kernel

/-- Finding D19 (fixed by 9fe7eb1), the decision in isolation: `_translate_function_signature_common` used to add a
nested function's parameter names to `_used_vars` and use them as the subgraph's input names *without* passing
them through `_generate_unique_name` (`def Sum(zero, nxt)` inside a function that defines `zero` gave a Scan
body redefining `zero`).  Now every parameter of a nested function goes through `_generate_unique_name`:
`nestedParams ps` is that step; it returns the input names of the subgraph. -/
def nestedParams (ps : List Name) : M (List Name) := genUniques ps

/-- **Nested-function parameters are fresh** (positive restatement after 9fe7eb1): the subgraph's input names
are pairwise distinct, none was in use in the enclosing function, and all are recorded as used. -/
theorem nested_params_fresh (ps rs : List Name) (s s' : St) (h : nestedParams ps s = .ok (rs, s')) :
    rs.Nodup ∧ (∀ r, r ∈ rs → r ∉ s.used ∧ r ∈ s'.used) ∧ rs.length = ps.length := by
  obtain ⟨_, f, l⟩ := genUniques_fresh ps h
  exact ⟨f.1, f.2, l⟩

/-- Regression witness of D19: `zero` is in use, the nested parameter `zero` becomes `zero_0`. -/
example : (match nestedParams ["zero", "nxt"] { used := ["zero", "X"], next := 0, castable := [] } with
    | .ok (rs, _) => rs == ["zero_0", "nxt"]
    | .error _ => false) = true := by decide +kernel

end OV.Props.C02
