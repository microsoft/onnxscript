import OV.Lemmas.C16Bind
import OV.Lemmas.C16Names
import OV.Lemmas.C16Registry
import OV.Lemmas.C16Table
import OV.Gen.C16Registry
/-!
# C16 — every registered torch_lib overload binds correctly to its ATen schema

The theorems of the property.  First the general ones, about the model `OV.Model.C16Bind` (lemmas:
`OV.Lemmas.C16Bind`): the binding rule `bindsOk` is sound and exact, names, the registry, defaults of omitted
arguments.  Then, from "The table" on, the same for every row of `OV.Gen.C16.registry`, which
`harness/extract_registry.py` regenerates on every run from `get_torchlib_ops()` of `/repo` and the operator
schemas of the installed PyTorch; the lists `waived` and `outsideK` of the rows that are excepted, and the
evaluation `registry_rows` with the lemmas that read it, stand there too.

Not covered by any theorem here: the property's clause "every scripted function's FunctionProto passes the ONNX checker"
(per-run oracle `onnx.checker.check_function` in `harness/c16.py`), and that the names `waived` marks `.undefinedOp` are
really undefined (per-run `_get_overload`); table theorems bound a row's defects from above only.
-/
namespace OV.Props.C16
open OV.C16

/-! ## The general binding theorem -/

/-- What it means for a binding `b` of a call `c` to be right (the property's four clauses, plus
exactness: parameters receive nothing but arguments of the call). -/
structure BoundRight (m : Mode) (a : AtenSchema) (s : OsSig) (c : Call) (b : Binding) : Prop where
  length_eq : b.length = s.length
  /-- every supplied positional argument lands on the parameter at its position, that parameter
  accepts it (a tensor only an input), and no *other* parameter carries the argument's name — or the
  argument has no parameter at its position, is dropped, and is one of the droppable ones -/
  positional : ∀ (i : Nat) (arg : AArg), a.positional[i]? = some arg → i < c.npos →
    (∃ p : OParam, s[i]? = some p ∧ b[i]? = some (some (Src.pos i)) ∧ accepts m p arg = true ∧
        (arg.base = .tensor → p.isInput = true) ∧
        (∀ (j : Nat) (q : OParam), s[j]? = some q → q.name = arg.name → j = i))
    ∨ (s[i]? = none ∧ (∀ j : Nat, b[j]? ≠ some (some (Src.pos i))) ∧ droppable arg.name = true)
  /-- every supplied keyword-only argument lands on the parameter of its name, which accepts it — or no
  parameter carries its name, it is dropped, and it is droppable -/
  keyword : ∀ arg : AArg, arg ∈ a.kwonly → arg.name ∈ c.kws →
    (∃ (j : Nat) (p : OParam), s[j]? = some p ∧ p.name = arg.name ∧ b[j]? = some (some (Src.kw arg.name)) ∧
        accepts m p arg = true ∧ (arg.base = .tensor → p.isInput = true))
    ∨ ((∀ q : OParam, q ∈ s → q.name ≠ arg.name) ∧
        (∀ j : Nat, b[j]? ≠ some (some (Src.kw arg.name))) ∧ droppable arg.name = true)
  /-- no required parameter is left unbound -/
  required : ∀ (j : Nat) (p : OParam), s[j]? = some p → p.required = true → ∃ src, b[j]? = some (some src)
  /-- a parameter holds only an argument the call supplied, at its own position / of its own name -/
  exact : ∀ (j : Nat) (src : Src), b[j]? = some (some src) →
    (src = Src.pos j ∧ j < c.npos) ∨ (∃ p : OParam, s[j]? = some p ∧ src = Src.kw p.name ∧ p.name ∈ c.kws)

theorem slots_boundRight_core (m : Mode) (a : AtenSchema) (s : OsSig)
    (h : bindsOk m a s = true) (c : Call) (hle : c.npos ≤ a.positional.length)
    (hreq : ∀ j p, s[j]? = some p → p.required = true → (slot c.npos c.kws j p).isSome = true) :
    BoundRight m a s c (slots c.npos c.kws 0 s) := by
  have cl := bindsOk_clause h
  refine ⟨slots_length _ _ _ _, ?_, ?_, ?_, ?_⟩
  · intro i arg hi hlt
    cases hs : s[i]? with
    | some p =>
      have hacc := posAccepts_iff.mp (cl _) i arg p hi hs
      exact .inl ⟨p, rfl, slots_pos.mpr ⟨p, hs, rfl, hlt⟩, hacc, accepts_tensor hacc,
        posNames_iff.mp (cl _) i arg hi (List.getElem?_eq_some_iff.mp hs).1⟩
    | none =>
      have hge := List.getElem?_eq_none_iff.mp hs
      refine .inr ⟨rfl, fun j hj => ?_, ((posFits_iff.mp (cl _) i arg hi).resolve_left (by omega)).2⟩
      obtain ⟨p, hp, rfl, _⟩ := slots_pos.mp hj
      rw [hs] at hp; cases hp
  · intro arg harg hkw
    by_cases hex : ∃ q ∈ s, q.name = arg.name
    · obtain ⟨q, hq, hqn⟩ := hex
      obtain ⟨j, hj⟩ := List.mem_iff_getElem?.mp hq
      obtain ⟨hpl, hacc⟩ := kwPlaced_iff.mp (cl _) arg harg j q hj hqn
      exact .inl ⟨j, q, hj, hqn, slots_kw.mpr ⟨q, hj, hqn, by omega, hkw⟩, hacc, accepts_tensor hacc⟩
    · refine .inr ⟨fun q hq hqn => hex ⟨q, hq, hqn⟩, fun j hj => ?_,
        ((kwBound_iff.mp (cl _) arg harg).resolve_left hex).2⟩
      obtain ⟨p, hp, hpn, _⟩ := slots_kw.mp hj
      exact hex ⟨p, List.mem_of_getElem? hp, hpn⟩
  · intro j p hp hr
    obtain ⟨src, hsrc⟩ := Option.isSome_iff_exists.mp (hreq j p hp hr)
    exact ⟨src, by simp [slots_getElem?, hp, hsrc]⟩
  · intro j src hj
    cases src with
    | pos i => obtain ⟨_, _, rfl, hlt⟩ := slots_pos.mp hj; exact .inl ⟨rfl, hlt⟩
    | kw n => obtain ⟨p, hp, rfl, _, hk⟩ := slots_kw.mp hj; exact .inr ⟨p, hp, rfl, hk⟩

/-- The closed form is what the binder returns, under what the two call models have in common. -/
theorem bind_ok_core (m : Mode) (a : AtenSchema) (s : OsSig) (h : bindsOk m a s = true)
    (c : Call) (hle : c.npos ≤ a.positional.length)
    (hreq : ∀ j p, s[j]? = some p → p.required = true → (slot c.npos c.kws j p).isSome = true)
    (hdecl : m = .traced → ∀ n, n ∈ c.kws → s.any (fun q => q.name == n) = true)
    (hfree : m = .traced → ∀ n, n ∈ c.kws → ∀ (q : OParam) (j : Nat), s[j]? = some q → q.name = n → c.npos ≤ j) :
    bind m s c = .ok (slots c.npos c.kws 0 s) := by
  refine bind_eq_ok_iff.mpr ⟨hreq, fun hm => ⟨Nat.le_of_not_lt fun hlt => ?_, fun n hn => by simpa using hdecl hm n hn,
    fun n hn j q => hfree hm n hn q j⟩, rfl⟩
  -- a surplus positional would have no parameter, and the traced path drops nothing
  have hl : s.length < a.positional.length := by omega
  rcases posFits_iff.mp (bindsOk_clause h _) _ _ (List.getElem?_eq_getElem hl) with h1 | ⟨h1, _⟩
  · omega
  · subst hm; cases h1

theorem slots_boundRight (m : Mode) (a : AtenSchema) (s : OsSig)
    (h : bindsOk m a s = true) (c : Call) (hc : Conforms a c) :
    BoundRight m a s c (slots c.npos c.kws 0 s) :=
  slots_boundRight_core m a s h c hc.npos_le (fun _ _ hp hr => required_slot_some h hc hp hr)

/-- **`bind_ok_sound`.**  If the decidable rule `bindsOk` accepts (schema `a`, signature `s`) for the
function's binding path `m`, then for *every* call conforming to `a` — any admissible number of
positional arguments, any admissible set of keywords — the exporter's binder (`bind`: the transcription of
`_construct_named_inputs_and_attrs` for scripted functions, of the Python call for trace-only ones)
raises nothing and produces a binding in which every tensor argument sits on an input parameter, every
other argument on a parameter accepting it, no required parameter is unbound, and only droppable
arguments are dropped. -/
theorem bind_ok_sound (m : Mode) (a : AtenSchema) (s : OsSig) (h : bindsOk m a s = true)
    (c : Call) (hc : Conforms a c) :
    ∃ b, bind m s c = .ok b ∧ BoundRight m a s c b := by
  refine ⟨_, bind_ok_core m a s h c hc.npos_le (fun _ _ hp hr => required_slot_some h hc hp hr) ?_ ?_,
    slots_boundRight m a s h c hc⟩
  · intro hm n hn
    obtain ⟨arg, harg, rfl⟩ := hc.kws_known n hn
    exact kwBound_traced (hm ▸ h) harg
  · intro _ n hn q j hq hqn
    obtain ⟨arg, harg, rfl⟩ := hc.kws_known n hn
    exact Nat.le_trans hc.npos_le (kwPlaced_iff.mp (bindsOk_clause h _) arg harg j q hq hqn).1

/-- **`bindS_is_stack_loop`** (fidelity of the transcription): the counter form `bindS` used in the proofs is
the literal stack loop of `_construct_named_inputs_and_attrs` (`reversed_args_stack` = the positional
indices `k, k+1, …, npos-1`, popped one per parameter). -/
theorem bindS_is_stack_loop (npos : Nat) (kws : List String) (k : Nat) (ps : List OParam) :
    bindStk kws (List.range' k (npos - k)) ps = bindS npos kws k ps := by
  induction ps generalizing k with
  | nil => cases h : List.range' k (npos - k) <;> simp [bindStk, bindS]
  | cons p ps ih =>
    by_cases c1 : k < npos
    · rw [show npos - k = (npos - (k + 1)) + 1 by omega, List.range'_succ]
      simp only [bindStk, bindS, c1, if_true, ih]
    · have h0 : npos - k = 0 := by omega
      have ih' := ih (k + 1)
      rw [show npos - (k + 1) = 0 by omega, List.range'_zero] at ih'
      simp only [h0, List.range'_zero, bindStk, bindS, c1, if_false, ih']

example : bindStk ["alpha"] [0, 1] [⟨"self", true, .none, true, false, true, .otherPlain, false⟩,
      ⟨"other", true, .none, true, false, true, .otherPlain, false⟩,
      ⟨"alpha", false, .float, false, false, true, .base .float, true⟩] =
    .ok [some (.pos 0), some (.pos 1), some (.kw "alpha")] := by decide

/-- Non-vacuity: `aten::add.Tensor(Tensor self, Tensor other, *, Scalar alpha=1)` against
`aten_add(self, other, alpha: float = 1.0)`; both admissible calls conform. -/
example :
    let a : AtenSchema := ⟨[⟨"self", .tensor, false, false, false, false⟩, ⟨"other", .tensor, false, false, false, false⟩],
                           [⟨"alpha", .scalar, false, false, true, false⟩]⟩
    let s : OsSig := [⟨"self", true, .none, true, false, true, .otherPlain, false⟩, ⟨"other", true, .none, true, false, true, .otherPlain, false⟩,
                      ⟨"alpha", false, .float, false, false, true, .base .float, true⟩]
    bindsOk .traced a s = true ∧ bindsOk .scripted a s = true ∧
    bind .traced s ⟨2, ["alpha"]⟩ = .ok [some (.pos 0), some (.pos 1), some (.kw "alpha")] ∧
    bind .scripted s ⟨2, []⟩ = .ok [some (.pos 0), some (.pos 1), none] ∧
    Conforms a ⟨2, ["alpha"]⟩ := by
  exact ⟨by decide, by decide, by decide, by decide, conforms_maxCall _⟩

/-- The rule is not vacuous in the other direction: it rejects `aten::amax(Tensor self, int[1] dim=[],
bool keepdim=False)` against `aten_amax(self, dim: INT64, keepdim: bool = False)` (required `dim` may be
omitted; the row as it was before `/repo` d441e93), and the binder indeed raises on the conforming call
`amax(x)`. -/
theorem bindsOk_rejects_amax :
    let a : AtenSchema := ⟨[⟨"self", .tensor, false, false, false, false⟩, ⟨"dim", .int, true, false, true, false⟩,
                            ⟨"keepdim", .bool, false, false, true, false⟩], []⟩
    let s : OsSig := [⟨"self", true, .none, true, false, true, .otherPlain, false⟩, ⟨"dim", true, .none, true, false, true, .otherPlain, false⟩,
                      ⟨"keepdim", false, .int, false, false, true, .base .int, true⟩]
    failing .scripted a s = [.requiredBound] ∧ bind .scripted s ⟨1, []⟩ = .error .missing := by
  decide

/-! ## Positional schema arguments passed by keyword -/

/-- The wider call model of what FX graphs really contain: positional schema arguments from index `npos`
on may also be passed by keyword (python decompositions do that). -/
structure ConformsK (a : AtenSchema) (c : Call) : Prop where
  npos_le : c.npos ≤ a.positional.length
  kws_known : ∀ n, n ∈ c.kws →
    (∃ (i : Nat) (arg : AArg), a.positional[i]? = some arg ∧ arg.name = n ∧ c.npos ≤ i) ∨
    (∃ arg, arg ∈ a.kwonly ∧ arg.name = n)
  required_pos : ∀ (i : Nat) (arg : AArg), a.positional[i]? = some arg → arg.hasDefault = false →
    i < c.npos ∨ arg.name ∈ c.kws
  required_kw : ∀ arg, arg ∈ a.kwonly → arg.hasDefault = false → arg.name ∈ c.kws

/-- `BoundRight` plus: a positional schema argument passed by keyword lands on the parameter at its own
position (which carries its name and accepts it), or has no parameter at all, is dropped and droppable. -/
structure BoundRightK (m : Mode) (a : AtenSchema) (s : OsSig) (c : Call) (b : Binding) : Prop where
  base : BoundRight m a s c b
  byKeyword : ∀ (i : Nat) (arg : AArg), a.positional[i]? = some arg → c.npos ≤ i → arg.name ∈ c.kws →
    (∃ p : OParam, s[i]? = some p ∧ p.name = arg.name ∧ b[i]? = some (some (Src.kw arg.name)) ∧
        accepts m p arg = true ∧ (arg.base = .tensor → p.isInput = true))
    ∨ (s[i]? = none ∧ (∀ q : OParam, q ∈ s → q.name ≠ arg.name) ∧
        (∀ j : Nat, b[j]? ≠ some (some (Src.kw arg.name))) ∧ droppable arg.name = true)

/-- Every call in the narrow model is one in the wide model. -/
theorem conformsK_of_conforms (a : AtenSchema) (c : Call) (h : Conforms a c) : ConformsK a c :=
  ⟨h.npos_le, fun n hn => Or.inr (h.kws_known n hn),
   fun i arg hi hd => Or.inl (h.required_pos i arg hi hd), h.required_kw⟩

/-- **`bind_ok_sound_by_keyword`** — `bind_ok_sound` for the wide call model: under `bindsOkK` (= `bindsOk`,
positional parameters named like their schema arguments, required parameters under arguments without
default, distinct names on both sides) every call that passes any of its positional schema arguments by
keyword is still bound right by the exporter's binder. -/
theorem bind_ok_sound_by_keyword (m : Mode) (a : AtenSchema) (s : OsSig) (h : bindsOkK m a s = true)
    (c : Call) (hc : ConformsK a c) :
    ∃ b, bind m s c = .ok b ∧ BoundRightK m a s c b := by
  obtain ⟨hb, named, own, _, _⟩ := bindsOkK_iff.mp h
  have cl := bindsOk_clause hb
  have fits : ∀ (i : Nat) (arg : AArg), a.positional[i]? = some arg → s[i]? = none →
      m.dropsUnknown = true ∧ droppable arg.name = true := fun i arg hi hn =>
    (posFits_iff.mp (cl _) i arg hi).resolve_left (by have := List.getElem?_eq_none_iff.mp hn; omega)
  have hreq : ∀ j p, s[j]? = some p → p.required = true → (slot c.npos c.kws j p).isSome = true := by
    intro j p hp hr
    rw [Option.isSome_iff_ne_none, ne_eq, slot_eq_none]
    rintro ⟨hge, hnk⟩
    rcases requiredBound_iff.mp (cl _) j p hp hr with hms | ⟨_, x, hx, hxn, hxd⟩
    · -- a positional argument sits above the parameter; by `requiredOwn` it has no default
      have hj := List.getElem?_eq_getElem (mustSupply_lt_length hms)
      rcases hc.required_pos j _ hj (own j p hp hr _ hj) with hlt | hk
      · omega
      · exact hnk (named j _ p hj hp ▸ hk)
    · exact hnk (hxn ▸ hc.required_kw x hx hxd)
  refine ⟨_, bind_ok_core m a s hb c hc.npos_le hreq ?_ ?_, slots_boundRight_core m a s hb c hc.npos_le hreq, ?_⟩
  · intro hm n hn
    rcases hc.kws_known n hn with ⟨i, arg, hi, rfl, _⟩ | ⟨arg, harg, rfl⟩
    · -- the traced path drops nothing, so a positional schema argument has the parameter at its position
      cases hs : s[i]? with
      | some p => exact List.any_eq_true.mpr ⟨p, List.mem_of_getElem? hs, by simp [named i arg p hi hs]⟩
      | none => subst hm; cases (fits i arg hi hs).1
    · exact kwBound_traced (hm ▸ hb) harg
  · intro _ n hn q j hq hqn
    rcases hc.kws_known n hn with ⟨i, arg, hi, rfl, hle⟩ | ⟨arg, harg, rfl⟩
    · exact index_of_posName h hi hq hqn ▸ hle
    · exact Nat.le_trans hc.npos_le (kwPlaced_iff.mp (cl _) arg harg j q hq hqn).1
  · intro i arg hi hle hk
    cases hs : s[i]? with
    | some p =>
      have hname := named i arg p hi hs
      have hacc := posAccepts_iff.mp (cl _) i arg p hi hs
      exact .inl ⟨p, rfl, hname, slots_kw.mpr ⟨p, hs, hname, hle, hk⟩, hacc, accepts_tensor hacc⟩
    | none =>
      have hno : ∀ q : OParam, q ∈ s → q.name ≠ arg.name := fun q hq hqn => by
        obtain ⟨j, hj⟩ := List.mem_iff_getElem?.mp hq
        rw [index_of_posName h hi hj hqn, hs] at hj
        cases hj
      refine .inr ⟨rfl, hno, fun j hj => ?_, (fits i arg hi hs).2⟩
      obtain ⟨p, hp, hpn', _⟩ := slots_kw.mp hj
      exact hno p (List.mem_of_getElem? hp) hpn'

/-- Non-vacuity: `prims::convert_element_type(Tensor a, ScalarType dtype)` called as the exporter really
sees it, `convert_element_type(x, dtype=…)`: in the wide model, not in the narrow one. -/
example :
    let a : AtenSchema := ⟨[⟨"a", .tensor, false, false, false, false⟩, ⟨"dtype", .dtype, false, false, false, false⟩], []⟩
    let s : OsSig := [⟨"a", true, .none, true, false, true, .otherPlain, false⟩,
                      ⟨"dtype", false, .int, true, false, true, .base .int, false⟩]
    bindsOkK .traced a s = true ∧ bind .traced s ⟨1, ["dtype"]⟩ = .ok [some (.pos 0), some (.kw "dtype")] ∧
    ConformsK a ⟨1, ["dtype"]⟩ ∧ ¬ Conforms a ⟨1, ["dtype"]⟩ := by
  refine ⟨by decide, by decide, ?_, ?_⟩
  · refine ⟨by decide, fun n hn => ?_, fun i arg hi _ => ?_, fun arg harg => nomatch harg⟩
    · cases List.mem_singleton.mp hn
      exact .inl ⟨1, _, rfl, rfl, Nat.le_refl _⟩
    · match i, hi with
      | 0, _ => exact .inl (by decide)
      | 1, hi => cases hi; exact .inr (by decide)
      | k + 2, hi => simp at hi
  · intro hc
    have := hc.required_pos 1 _ rfl rfl
    simp at this

/-! ## The rule is exact -/

/-- Two calls decide the rule.  If the call that supplies everything is bound right, the five clauses about
arguments hold (each is the matching field of `BoundRight` read at that call); if moreover the call that supplies
only what has no default is bound right, `requiredBound` holds. -/
theorem bindsOk_of_extremes (m : Mode) (a : AtenSchema) (s : OsSig)
    (hpm : clauseOk m a s .paramsModelled = true) (hnd : (s.map (·.name)).Nodup)
    (hmax : ∃ b, bind m s (maxCall a) = .ok b ∧ BoundRight m a s (maxCall a) b)
    (hmin : ∃ b, bind m s (minCall a) = .ok b ∧ BoundRight m a s (minCall a) b) :
    bindsOk m a s = true := by
  obtain ⟨b, hb, hBR⟩ := hmax
  have hlt : ∀ {i : Nat} {arg : AArg}, a.positional[i]? = some arg → i < (maxCall a).npos :=
    fun hi => (List.getElem?_eq_some_iff.mp hi).1
  have hkw : ∀ {arg : AArg}, arg ∈ a.kwonly → arg.name ∈ (maxCall a).kws :=
    fun harg => List.mem_map.mpr ⟨_, harg, rfl⟩
  -- the Python call raises on what it would have to drop
  have hT : m.dropsUnknown = false →
      (maxCall a).npos ≤ s.length ∧ ∀ n ∈ (maxCall a).kws, ∃ q ∈ s, q.name = n := fun h =>
    have ⟨h1, h2, _⟩ := (bind_eq_ok_iff.mp hb).2.1 (by cases m <;> first | rfl | cases h)
    ⟨h1, h2⟩
  have hF : clauseOk m a s .posFits = true := posFits_iff.mpr fun i arg hi => by
    rcases hBR.positional i arg hi (hlt hi) with ⟨p, hp, _⟩ | ⟨hn, _, hdrop⟩
    · exact .inl (List.getElem?_eq_some_iff.mp hp).1
    · cases hdu : m.dropsUnknown with
      | true => exact .inr ⟨rfl, hdrop⟩
      | false => have := (hT hdu).1; have := hlt hi; have := List.getElem?_eq_none_iff.mp hn; omega
  have hA : clauseOk m a s .posAccepts = true := posAccepts_iff.mpr fun i arg p hi hs => by
    rcases hBR.positional i arg hi (hlt hi) with ⟨p', hp', _, hacc, _⟩ | ⟨hn, _⟩
    · rw [hs] at hp'; cases hp'; exact hacc
    · rw [hs] at hn; cases hn
  have hN : clauseOk m a s .posNames = true := posNames_iff.mpr fun i arg hi hl => by
    rcases hBR.positional i arg hi (hlt hi) with ⟨_, _, _, _, _, hname⟩ | ⟨hn, _⟩
    · exact hname
    · have := List.getElem?_eq_none_iff.mp hn; omega
  have hK : clauseOk m a s .kwBound = true := kwBound_iff.mpr fun arg harg => by
    rcases hBR.keyword arg harg (hkw harg) with ⟨j, p, hp, hpn, _⟩ | ⟨_, _, hdrop⟩
    · exact .inl ⟨p, List.mem_of_getElem? hp, hpn⟩
    · cases hdu : m.dropsUnknown with
      | true => exact .inr ⟨rfl, hdrop⟩
      | false => exact .inl ((hT hdu).2 _ (hkw harg))
  have hP : ∀ arg ∈ a.kwonly, ∀ (j : Nat) (q : OParam), s[j]? = some q → q.name = arg.name →
      a.positional.length ≤ j ∧ accepts m q arg = true := fun arg harg j q hq hqn => by
    rcases hBR.keyword arg harg (hkw harg) with ⟨j', p, hp, hpn, hbj, hacc, _⟩ | ⟨hno, _⟩
    · cases index_of_key hnd hq hp (hqn.trans hpn.symm)
      rw [hq] at hp; cases hp
      rw [bind_ok_eq_slots m s _ b hb] at hbj
      obtain ⟨_, _, _, hle, _⟩ := slots_kw.mp hbj
      exact ⟨hle, hacc⟩
    · exact absurd hqn (hno q (List.mem_of_getElem? hq))
  obtain ⟨b', hb', hBR'⟩ := hmin
  have hR : clauseOk m a s .requiredBound = true := requiredBound_iff.mpr fun j p hp hr => by
    obtain ⟨src, hsrc⟩ := hBR'.required j p hp hr
    rw [bind_ok_eq_slots m s _ b' hb'] at hsrc
    cases src with
    | pos i =>
      obtain ⟨_, _, _, hj⟩ := slots_pos.mp hsrc
      exact .inl ((mustSupply_iff a.positional j).mpr hj)
    | kw n =>
      obtain ⟨q, hq, rfl, _, hk⟩ := slots_kw.mp hsrc
      rw [hp] at hq; cases hq
      obtain ⟨x, hx, hxn⟩ := List.mem_map.mp hk
      rw [List.mem_filter] at hx
      exact .inr ⟨(hP x hx.1 j p hp hxn.symm).1, x, hx.1, hxn, by simpa using hx.2⟩
  exact bindsOk_iff_clauses.mpr fun cl => by
    cases cl <;> first | assumption | exact kwPlaced_iff.mpr hP

/-- **`bindsOk_tight`.**  The rule is never too strict: if `bindsOk` rejects (schema, signature) — for a
signature of the modelled shape with pairwise distinct parameter names — then one of the two extreme
conforming calls (everything supplied / only what has no default) is *not* bound right by the exporter's
binder: it raises, or the binding violates `BoundRight`. -/
theorem bindsOk_tight (m : Mode) (a : AtenSchema) (s : OsSig)
    (hpm : clauseOk m a s .paramsModelled = true) (hnd : (s.map (·.name)).Nodup)
    (h : bindsOk m a s = false) :
    ∃ c, Conforms a c ∧ (c = maxCall a ∨ c = minCall a) ∧
      ∀ b, bind m s c = .ok b → ¬ BoundRight m a s c b := by
  by_cases hmax : ∃ b, bind m s (maxCall a) = .ok b ∧ BoundRight m a s (maxCall a) b
  · by_cases hmin : ∃ b, bind m s (minCall a) = .ok b ∧ BoundRight m a s (minCall a) b
    · rw [bindsOk_of_extremes m a s hpm hnd hmax hmin] at h; cases h
    · exact ⟨_, conforms_minCall a, .inr rfl, fun b hb hBR => hmin ⟨b, hb, hBR⟩⟩
  · exact ⟨_, conforms_maxCall a, .inl rfl, fun b hb hBR => hmax ⟨b, hb, hBR⟩⟩

/-- With distinct parameter names, the rule says two things: the signature is one the binders are modelled for
(`paramsModelled`, which no binder reads: a condition of scope), and every conforming call is bound right. -/
theorem bindsOk_exact (m : Mode) (a : AtenSchema) (s : OsSig) (hnd : (s.map (·.name)).Nodup) :
    bindsOk m a s = true ↔ clauseOk m a s .paramsModelled = true ∧
      ∀ c, Conforms a c → ∃ b, bind m s c = .ok b ∧ BoundRight m a s c b :=
  ⟨fun h => ⟨bindsOk_clause h _, bind_ok_sound m a s h⟩, fun ⟨hpm, hall⟩ =>
    bindsOk_of_extremes m a s hpm hnd (hall _ (conforms_maxCall a)) (hall _ (conforms_minCall a))⟩

/-- **`bindsOk_iff`** — the decidable rule *is* the property's binding clause: for a signature of the
modelled shape with distinct parameter names, `bindsOk` holds exactly when every conforming call is bound
right by the exporter's binder. -/
theorem bindsOk_iff (m : Mode) (a : AtenSchema) (s : OsSig)
    (hpm : clauseOk m a s .paramsModelled = true) (hnd : (s.map (·.name)).Nodup) :
    bindsOk m a s = true ↔
      ∀ c, Conforms a c → ∃ b, bind m s c = .ok b ∧ BoundRight m a s c b :=
  (bindsOk_exact m a s hnd).trans (and_iff_right hpm)

/-- Non-vacuity of `bindsOk_tight`: the `aten::amax` row as it was before `/repo` d441e93 satisfies the hypotheses, is
rejected, and its minimal call `amax(x)` indeed raises in the binder. -/
example :
    let a : AtenSchema := ⟨[⟨"self", .tensor, false, false, false, false⟩, ⟨"dim", .int, true, false, true, false⟩,
                            ⟨"keepdim", .bool, false, false, true, false⟩], []⟩
    let s : OsSig := [⟨"self", true, .none, true, false, true, .otherPlain, false⟩, ⟨"dim", true, .none, true, false, true, .otherPlain, false⟩,
                      ⟨"keepdim", false, .int, false, false, true, .base .int, true⟩]
    clauseOk .scripted a s .paramsModelled = true ∧ nodupS (s.map (·.name)) = true ∧
    bindsOk .scripted a s = false ∧ minCall a = ⟨1, []⟩ ∧
    bind .scripted s (minCall a) = .error .missing := by decide

/-! ## Names, resolution, dispatch -/

/-- **`name_regex_ok`** (soundness of the transcription of `_QUALIFIED_OPERATOR_NAME_REGEX`): a name the
model accepts has the shape `ns::name` or `ns::name.overload` with non-empty `[a-zA-Z0-9_]` namespace and
name and a non-empty `[a-zA-Z0-9._]` overload. -/
theorem name_regex_ok (cs : List Nat) (h : matchName cs = true) :
    ∃ ns nm ov, cs = ns ++ (58 :: 58 :: (nm ++ ov)) ∧
      ns ≠ [] ∧ (∀ c ∈ ns, isWord c = true) ∧ nm ≠ [] ∧ (∀ c ∈ nm, isWord c = true) ∧
      (ov = [] ∨ ∃ t, ov = 46 :: t ∧ t ≠ [] ∧ ∀ c ∈ t, isOvl c = true) := by
  unfold matchName at h
  have hsplit := List.takeWhile_append_dropWhile (p := isWord) (l := cs)
  split at h
  · rename_i r2 hr
    have hsplit2 := List.takeWhile_append_dropWhile (p := isWord) (l := r2)
    simp only [Bool.and_eq_true, Bool.not_eq_true', List.isEmpty_eq_false_iff] at h
    obtain ⟨⟨hns, hnm⟩, hov⟩ := h
    refine ⟨cs.takeWhile isWord, r2.takeWhile isWord, r2.dropWhile isWord, ?_, hns,
      List.all_eq_true.mp List.all_takeWhile, hnm, List.all_eq_true.mp List.all_takeWhile, ?_⟩
    · rw [hsplit2, ← hr, hsplit]
    · split at hov
      · left; assumption
      · rename_i ov hovr
        right
        simp only [Bool.and_eq_true, Bool.not_eq_true', List.isEmpty_eq_false_iff, List.all_eq_true] at hov
        exact ⟨ov, hovr, hov.1, hov.2⟩
      · simp at hov
  · simp at h

/-- **`name_regex_complete`** (the converse of `name_regex_ok`): every string of the regex's language is
accepted by the transcription, so `matchName` decides exactly
`[a-zA-Z0-9_]+::[a-zA-Z0-9_]+(\.[a-zA-Z0-9._]+)?`. -/
theorem name_regex_complete (ns nm ov : List Nat)
    (hns0 : ns ≠ []) (hns : ∀ c ∈ ns, isWord c = true) (hnm0 : nm ≠ []) (hnm : ∀ c ∈ nm, isWord c = true)
    (hov : ov = [] ∨ ∃ t, ov = 46 :: t ∧ t ≠ [] ∧ ∀ c ∈ t, isOvl c = true) :
    matchName (ns ++ (58 :: 58 :: (nm ++ ov))) = true := by
  have w58 : isWord 58 = false := by decide
  have w46 : isWord 46 = false := by decide
  rcases hov with rfl | ⟨t, rfl, ht0, ht⟩ <;>
    simp [matchName, List.takeWhile_append_of_pos hns, List.dropWhile_append_of_pos hns, takeWhile_eq_self hnm,
      List.takeWhile_append_of_pos hnm, List.dropWhile_append_of_pos hnm, w58, w46, hns0, hnm0]
  exact ⟨ht0, ht⟩

/-- **`no_default_suffix`**: a name accepted by `_check_and_normalize_names` never ends in `.default` —
default overloads are spelled without it. -/
theorem no_default_suffix (cs : List Nat) (h : nameOkCodes cs = true) :
    ¬ ∃ pre, cs = pre ++ [46, 100, 101, 102, 97, 117, 108, 116] := by
  intro ⟨pre, hp⟩
  unfold nameOkCodes at h
  simp only [Bool.and_eq_true, Bool.not_eq_true'] at h
  have : dotDefault.isSuffixOf cs = true := by
    rw [List.isSuffixOf_iff_suffix]
    exact ⟨pre, by rw [hp]; rfl⟩
  rw [this] at h
  exact absurd h.1 (by decide)

example : nameOk "aten::add.Tensor" = true ∧ nameOk "aten::add" = true ∧ nameOk "aten::add.default" = false ∧
    nameOk "aten:add" = false ∧ nameOk "aten::add." = false ∧ nameOk "::add" = false ∧
    nameOk "aten::a-b" = false := by decide

/-- **`resolve_injective`** — why default overloads must be spelled without `.default`: on names accepted by
`_check_and_normalize_names`, the exporter's resolution `_get_overload` (namespace, operator, overload with
`default` filled in) is injective, so two different registered names can never address the same PyTorch
operator overload.  (With `.default` admitted, `aten::t` and `aten::t.default` collide: see the example.) -/
theorem resolve_injective (a b : List Nat) (ha : nameOkCodes a = true) (hb : nameOkCodes b = true)
    (h : resolveKey a = resolveKey b) : a = b := by
  obtain ⟨ns, nm, ov, rfl, _, hns, _, hnm, hov⟩ := name_regex_ok a (Bool.and_eq_true_iff.mp ha).2
  obtain ⟨ns', nm', ov', rfl, _, hns', _, hnm', hov'⟩ := name_regex_ok b (Bool.and_eq_true_iff.mp hb).2
  have nodef : ∀ {n m : List Nat}, nameOkCodes (n ++ 58 :: 58 :: (m ++ 46 :: defaultCodes)) = true → False :=
    fun {n m} h => no_default_suffix _ h ⟨n ++ 58 :: 58 :: m, by simp [defaultCodes]⟩
  rw [resolveKey_shape ns nm ov hns hnm (hov.imp_right fun ⟨t, h, _⟩ => ⟨t, h⟩),
    resolveKey_shape ns' nm' ov' hns' hnm' (hov'.imp_right fun ⟨t, h, _⟩ => ⟨t, h⟩)] at h
  obtain ⟨rfl, rfl, h3⟩ := OpKey.mk.inj h
  -- equal overloads with different spellings: one of the two names ends in `.default`
  rcases hov with rfl | ⟨t, rfl, _⟩ <;> rcases hov' with rfl | ⟨t', rfl, _⟩ <;> simp only at h3
  · rfl
  · subst h3; exact (nodef hb).elim
  · subst h3; exact (nodef ha).elim
  · subst h3; rfl

/-- Without the `.default` refusal the resolution is not injective: `aten::t` and `aten::t.default` match
the regex, differ, and resolve to the same operator overload. -/
example : matchName (codes "aten::t") = true ∧ matchName (codes "aten::t.default") = true ∧
    codes "aten::t" ≠ codes "aten::t.default" ∧
    resolveKey (codes "aten::t") = resolveKey (codes "aten::t.default") ∧
    nameOkCodes (codes "aten::t.default") = false := by decide

/-- `dispatch` returns a decomposition of the node's kind, and the first such. -/
theorem dispatch_first (ds : List Decomp) (cx : Bool) (f : Nat) (h : dispatch ds cx = some f) :
    ∃ pre d post, ds = pre ++ d :: post ∧ d.func = f ∧ d.isComplex = cx ∧
      ∀ x ∈ pre, x.isComplex ≠ cx := by
  unfold dispatch at h
  simp only [Option.map_eq_some_iff] at h
  obtain ⟨d, hd, hf⟩ := h
  have hfind : ds.find? (fun d => d.isComplex == cx) = some d := by
    rw [← List.head?_filter]; exact hd
  rw [List.find?_eq_some_iff_append] at hfind
  obtain ⟨hp, pre, post, hds, hpre⟩ := hfind
  refine ⟨pre, d, post, hds, hf, by simpa using hp, ?_⟩
  intro x hx
  have := hpre x hx
  simpa using this

/-! ## Registry: first registration wins, one function per (name, kind) -/

/-- **`first_registration_wins`** (the lookup law of `Registry.register`, for every history): what a
(name, kind) pair resolves to after any sequence of registrations is exactly the *first* function registered
under that pair — later registrations under the same pair are ignored, registrations under other pairs do
not interfere. -/
theorem first_registration_wins (rs : List Registration) (n : String) (cx : Bool) :
    lookup (runRegs rs) n cx =
      ((rs.find? (fun x => x.name == n && x.isComplex == cx)).map (·.func)).toList := by
  unfold runRegs
  suffices H : ∀ r : Reg, lookup (rs.foldl register r) n cx =
      if lookup r n cx = [] then
        ((rs.find? (fun x => x.name == n && x.isComplex == cx)).map (·.func)).toList
      else lookup r n cx by
    simpa [lookup] using H []
  induction rs with
  | nil => intro r; by_cases h : lookup r n cx = [] <;> simp [h]
  | cons x xs ih =>
    intro r
    rw [List.foldl_cons, ih (register r x)]
    by_cases he : lookup r n cx = []
    · by_cases hx : x.name = n ∧ x.isComplex = cx
      · have hr : lookup (register r x) n cx = [x.func] := by rw [lookup_register, if_pos ⟨hx.1, hx.2, he⟩]
        rw [hr, if_neg (List.cons_ne_nil _ _), if_pos he, List.find?_cons_of_pos (by simp [hx])]
        rfl
      · have hr : lookup (register r x) n cx = [] := by rw [lookup_register, if_neg fun h => hx ⟨h.1, h.2.1⟩, he]
        rw [hr, if_pos rfl, if_pos he, List.find?_cons_of_neg (by simpa using hx)]
    · have hr : lookup (register r x) n cx = lookup r n cx := by rw [lookup_register, if_neg fun h => he h.2.2]
      rw [hr, if_neg he, if_neg he]

/-- **`unique_per_kind`**: after *any* history of `Registry.register` calls every record holds at most one
real and at most one complex function, and record names are pairwise distinct — so each
(name, real/complex) pair resolves to at most one function. -/
theorem unique_per_kind (rs : List Registration) :
    AtMostOne (runRegs rs) ∧ ((runRegs rs).map (·.name)).Nodup := by
  have hnd : ((runRegs rs).map (·.name)).Nodup := foldl_register_nodup rs [] List.nodup_nil
  refine ⟨fun o ho => ?_, hnd⟩
  -- a slot is what its (name, kind) resolves to: the first registration under it, if there is one
  have h := fun cx => (lookup_of_mem ho hnd cx).symm.trans (first_registration_wins rs o.name cx)
  have hf := h false
  have ht := h true
  simp only [Bool.false_eq_true, if_false, if_true] at hf ht
  rw [hf, ht]
  constructor <;> cases List.find? _ rs <;> simp

/-- **`register_first_wins`**: registering under a (name, kind) that already holds a function changes
nothing (the code only warns). -/
theorem register_first_wins (r : Reg) (x : Registration) (o : Overloaded) (ho : o ∈ r)
    (hn : o.name = x.name) (hnodup : (r.map (·.name)).Nodup)
    (hfull : (if x.isComplex then o.complex else o.overloads) ≠ []) :
    register r x = r := by
  induction r with
  | nil => cases ho
  | cons q qs ih =>
    rw [List.map_cons, List.nodup_cons] at hnodup
    simp only [register]
    by_cases e : q.name = x.name
    · -- names are distinct, so `o` is this record, and its slot is taken
      have hq : o = q := (List.mem_cons.mp ho).resolve_right fun h =>
        hnodup.1 (List.mem_map.mpr ⟨o, h, hn.trans e.symm⟩)
      subst hq
      rw [if_pos (by simpa using e), addTo_full hfull]
    · rw [if_neg (by simpa using e), ih ((List.mem_cons.mp ho).resolve_left fun h => e (h ▸ hn)) hnodup.2]

example : runRegs [⟨1, "aten::add", false⟩, ⟨2, "aten::add", false⟩, ⟨3, "aten::add", true⟩, ⟨4, "internal::x", false⟩]
    = [⟨"aten::add", [1], [3]⟩, ⟨"internal::x", [4], []⟩] ∧
    torchlibOps (runRegs [⟨1, "aten::add", false⟩, ⟨2, "aten::add", false⟩, ⟨3, "aten::add", true⟩, ⟨4, "internal::x", false⟩])
    = [("aten::add", 1, false), ("aten::add", 3, true)] := by decide

/-- **`torchlib_ops_unique`**: for every registration history, `get_torchlib_ops()` returns each
(qualified name, real/complex) pair at most once. -/
theorem torchlib_ops_unique (rs : List Registration) : (opsKeys (runRegs rs)).Nodup :=
  opsKeys_nodup _ (unique_per_kind rs).1 (unique_per_kind rs).2

example : lookup (runRegs [⟨1, "aten::add", false⟩, ⟨2, "aten::add", false⟩, ⟨3, "aten::add", true⟩]) "aten::add" false = [1] ∧
    lookup (runRegs [⟨1, "aten::add", false⟩, ⟨2, "aten::add", false⟩, ⟨3, "aten::add", true⟩]) "aten::add" true = [3] ∧
    opsKeys (runRegs [⟨1, "aten::add", false⟩, ⟨2, "aten::add", false⟩, ⟨3, "aten::add", true⟩]) =
      [("aten::add", false), ("aten::add", true)] := by decide

/-- **`decorated_registry_invariant`**: whatever sequence of `@torch_op(...)` decorators a module executes
(any names, private or not, real or complex), if the import succeeds then the resulting registry contains
only names accepted by `_check_and_normalize_names`, pairwise distinct, each with at most one real and one
complex function — and what `get_torchlib_ops()` returns from it has each (name, kind) pair once. -/
theorem decorated_registry_invariant (ds : List Decl) (r : Reg) (h : runDecls [] ds = some r) :
    (∀ o ∈ r, nameOk o.name = true) ∧ AtMostOne r ∧ (r.map (·.name)).Nodup ∧ (opsKeys r).Nodup := by
  obtain ⟨rfl, hn⟩ := runDecls_eq_foldl h
  refine ⟨fun o ho => ?_, (unique_per_kind _).1, (unique_per_kind _).2, torchlib_ops_unique _⟩
  rcases name_of_mem_foldl _ [] o.name (List.mem_map_of_mem ho) with h | ⟨x, hx, hxn⟩
  · cases h
  · exact hxn ▸ hn x hx

/-- A private function is compiled but never registered; one bad name in a tuple registers nothing. -/
example : runDecls [] [⟨1, ["aten::a", "aten::b"], false, false⟩, ⟨2, ["aten::c"], true, false⟩] =
      some [⟨"aten::a", [1], []⟩, ⟨"aten::b", [1], []⟩] ∧
    runDecls [] [⟨1, ["aten::a", "aten::b.default"], false, false⟩] = none := by decide

/-- **`kind_discipline`** (history theorem behind `registry_kinds_ok`): mark any set of functions as "written
for complex inputs" (`cxNamed`).  If every `@torch_op` declaration of such a function says `complex=True`,
then after *any* sequence of declarations — whatever their order, names, duplicates — no such function sits
in a real slot: every (name, real) pair is owned by a function not written for complex inputs. -/
theorem kind_discipline (cxNamed : Nat → Bool) (ds : List Decl) (r : Reg)
    (hd : ∀ d ∈ ds, cxNamed d.func = true → d.isComplex = true) (h : runDecls [] ds = some r) :
    ∀ n, ∀ g ∈ lookup r n false, cxNamed g = false := by
  intro n g hg
  -- `g` is the first function registered as real under `n`, and its declaration did not say `complex=True`
  rw [(runDecls_eq_foldl h).1, ← runRegs, first_registration_wins] at hg
  obtain ⟨x, hx, rfl⟩ := Option.map_eq_some_iff.mp (Option.mem_toList.mp hg)
  have ⟨_, hc⟩ : x.name = n ∧ x.isComplex = false := by simpa using List.find?_some hx
  obtain ⟨d, hd', hxd⟩ := List.mem_flatMap.mp (List.mem_of_find?_eq_some hx)
  unfold regsOf at hxd
  split at hxd
  · cases hxd
  · obtain ⟨_, _, rfl⟩ := List.mem_map.mp hxd
    cases hb : cxNamed d.func with
    | false => rfl
    | true => rw [hd d hd' hb] at hc; cases hc

/-- **`kind_discipline_necessary`** (the seeded change C16-7 as a theorem): one declaration that forgets
`complex=True` on a complex function placed *before* its real twin hands the real slot to the complex
function for good — the later, correct registration of the twin is discarded (`first_registration_wins`). -/
theorem kind_discipline_necessary (n : String) (fc fr : Nat) (rest : List Registration) :
    lookup (runRegs (⟨fc, n, false⟩ :: ⟨fr, n, false⟩ :: rest)) n false = [fc] := by
  rw [first_registration_wins]
  simp

example :  -- `aten_slice_complex` (7) declared real before `aten_slice` (8): the seed; and the disciplined order
    runDecls [] [⟨7, ["aten::slice.Tensor"], false, false⟩, ⟨8, ["aten::slice.Tensor"], false, false⟩] =
      some [⟨"aten::slice.Tensor", [7], []⟩] ∧
    runDecls [] [⟨7, ["aten::slice.Tensor"], false, true⟩, ⟨8, ["aten::slice.Tensor"], false, false⟩] =
      some [⟨"aten::slice.Tensor", [8], [7]⟩] := by decide

/-! ## Defaults of omitted arguments -/

/-- The keyword-only half of both theorems below: the parameter of an omitted keyword-only argument lies behind
the positionals (`kwPlaced`), so nothing reaches it. -/
theorem omitted_kwonly {m : Mode} {a : AtenSchema} {s : OsSig} {adef pdef : List DVal}
    (h : bindsOk m a s = true) (hd : defaultsOk a s adef pdef = true)
    {c : Call} (hle : c.npos ≤ a.positional.length) {b : Binding} (hb : bind m s c = .ok b)
    (k : Nat) (x : AArg) (j : Nat) (p : OParam) (hx : a.kwonly[k]? = some x) (hnot : x.name ∉ c.kws)
    (hp : s[j]? = some p) (hname : p.name = x.name) :
    b[j]? = some none ∧ pairAgree adef pdef (a.positional.length + k) j = true := by
  have := (kwPlaced_iff.mp (bindsOk_clause h _) x (List.mem_of_getElem? hx) j p hp hname).1
  exact ⟨bind_ok_none hb hp (by omega) (hname ▸ hnot), (defaultsOk_iff.mp hd).2 k x j p hx hp hname⟩

/-- **`omitted_defaults_agree`**: on a row that satisfies the binding rule and whose paired concrete defaults agree
(`defaultsOk`), for *every* conforming call and the binding the exporter's binder returns: a positional schema argument
the call omits leaves the parameter at its position unbound — `_construct_named_inputs_and_attrs` / CPython then use
the python default — and the python default and the schema default are not two different concrete values; the same for
every keyword-only argument the call omits and each parameter of its name.  So an omitted argument never silently
changes value between ATen and the torch_lib function (`alpha: float = 2.0` under `Scalar alpha=1`). -/
theorem omitted_defaults_agree (m : Mode) (a : AtenSchema) (s : OsSig) (adef pdef : List DVal)
    (h : bindsOk m a s = true) (hd : defaultsOk a s adef pdef = true)
    (c : Call) (hc : Conforms a c) (b : Binding) (hb : bind m s c = .ok b) :
    (∀ (i : Nat) (x : AArg) (p : OParam), a.positional[i]? = some x → c.npos ≤ i → s[i]? = some p →
        b[i]? = some none ∧ pairAgree adef pdef i i = true) ∧
    (∀ (k : Nat) (x : AArg) (j : Nat) (p : OParam), a.kwonly[k]? = some x → x.name ∉ c.kws →
        s[j]? = some p → p.name = x.name →
        b[j]? = some none ∧ pairAgree adef pdef (a.positional.length + k) j = true) := by
  refine ⟨fun i x p hx hle hp => ⟨bind_ok_none hb hp hle fun hk => ?_,
    (defaultsOk_iff.mp hd).1 i (List.getElem?_eq_some_iff.mp hx).1⟩, omitted_kwonly h hd hc.npos_le hb⟩
  -- a keyword of the parameter's name would be a keyword-only argument, and those lie behind the positionals
  obtain ⟨arg, harg, hname⟩ := hc.kws_known _ hk
  have := (kwPlaced_iff.mp (bindsOk_clause h _) arg harg i p hp hname.symm).1
  have := (List.getElem?_eq_some_iff.mp hx).1
  omega

/-- Non-vacuity, and the rule at work: `aten::add.Tensor(self, other, *, alpha=1)` on `(self, other, alpha: float = 1.0)`
satisfies both hypotheses (`1 == 1.0`); with `alpha: float = 2.0` the binding rule still holds and `defaultsOk` fails at
the pair (argument 2, parameter 2); `None` against a concrete value is not judged. -/
example :
    let a : AtenSchema := ⟨[⟨"self", .tensor, false, false, false, false⟩, ⟨"other", .tensor, false, false, false, false⟩],
      [⟨"alpha", .scalar, false, false, true, false⟩]⟩
    let s : OsSig := [⟨"self", true, .none, true, false, true, .otherPlain, false⟩,
      ⟨"other", true, .none, true, false, true, .otherPlain, false⟩,
      ⟨"alpha", false, .float, false, false, true, .base .float, true⟩]
    bindsOk .traced a s = true ∧
    defaultsOk a s [.absent, .absent, .num 1 1] [.absent, .absent, .num 1 1] = true ∧
    defaultsOk a s [.absent, .absent, .num 1 1] [.absent, .absent, .num 2 1] = false ∧
    defaultsBad a s [.absent, .absent, .num 1 1] [.absent, .absent, .num 2 1] = [(2, 2)] ∧
    defaultsOk a s [.absent, .absent, .none] [.absent, .absent, .num 2 1] = true ∧
    Conforms a ⟨2, []⟩ ∧ bind .traced s ⟨2, []⟩ = .ok [some (.pos 0), some (.pos 1), none] := by
  exact ⟨by decide, by decide, by decide, by decide, by decide, conforms_minCall _, by decide⟩

/-- **`omitted_defaults_agree_by_keyword`** — the same for the wide call model: under `bindsOkK`, in a call that passes
some positional schema arguments by keyword, a positional argument that is neither within the positional prefix nor among
the keywords (so: omitted) leaves the parameter at its position unbound with an agreeing default, and so does every omitted
keyword-only argument. -/
theorem omitted_defaults_agree_by_keyword (m : Mode) (a : AtenSchema) (s : OsSig) (adef pdef : List DVal)
    (h : bindsOkK m a s = true) (hd : defaultsOk a s adef pdef = true)
    (c : Call) (hc : ConformsK a c) (b : Binding) (hb : bind m s c = .ok b) :
    (∀ (i : Nat) (x : AArg) (p : OParam), a.positional[i]? = some x → c.npos ≤ i → x.name ∉ c.kws → s[i]? = some p →
        b[i]? = some none ∧ pairAgree adef pdef i i = true) ∧
    (∀ (k : Nat) (x : AArg) (j : Nat) (p : OParam), a.kwonly[k]? = some x → x.name ∉ c.kws →
        s[j]? = some p → p.name = x.name →
        b[j]? = some none ∧ pairAgree adef pdef (a.positional.length + k) j = true) := by
  obtain ⟨hok, named, _⟩ := bindsOkK_iff.mp h
  exact ⟨fun i x p hx hle hnot hp => ⟨bind_ok_none hb hp hle (named i x p hx hp ▸ hnot),
    (defaultsOk_iff.mp hd).1 i (List.getElem?_eq_some_iff.mp hx).1⟩, omitted_kwonly hok hd hc.npos_le hb⟩

/-- Non-vacuity: `_softmax(Tensor self, int dim, bool half_to_float=False)`-shaped row called as `f(x, dim=…)`: `dim`
arrives by keyword, `half_to_float` is omitted and its parameter stays on the agreeing default. -/
example :
    let a : AtenSchema := ⟨[⟨"self", .tensor, false, false, false, false⟩, ⟨"dim", .int, false, false, false, false⟩,
      ⟨"half_to_float", .bool, false, false, true, false⟩], []⟩
    let s : OsSig := [⟨"self", true, .none, true, false, true, .otherPlain, false⟩,
      ⟨"dim", false, .int, true, false, true, .base .int, false⟩,
      ⟨"half_to_float", false, .int, false, false, true, .base .bool, true⟩]
    bindsOkK .traced a s = true ∧
    defaultsOk a s [.absent, .absent, .bool false] [.absent, .absent, .bool false] = true ∧
    bind .traced s ⟨1, ["dim"]⟩ = .ok [some (.pos 0), some (.kw "dim"), none] ∧ ConformsK a ⟨1, ["dim"]⟩ := by
  refine ⟨by decide, by decide, by decide, ?_⟩
  refine ⟨by decide, fun n hn => ?_, fun i arg hi hdf => ?_, fun arg harg => nomatch harg⟩
  · cases List.mem_singleton.mp hn
    exact .inl ⟨1, _, rfl, rfl, Nat.le_refl _⟩
  · match i, hi with
    | 0, _ => exact .inl (by decide)
    | 1, hi => cases hi; exact .inr (by decide)
    | 2, hi => cases hi; cases hdf
    | k + 3, hi => simp at hi

/-- The value ATen computes with for schema argument number `n` (positional arguments first, then keyword-only ones) in
a call whose supplied arguments have the values `val`: the supplied value, else the schema's default. -/
def atenValue (a : AtenSchema) (adef : List DVal) (val : Src → DVal) (c : Call) (n : Nat) : Option DVal :=
  if n < a.positional.length then (if n < c.npos then some (val (.pos n)) else adef[n]?)
  else match a.kwonly[n - a.positional.length]? with
    | some x => if c.kws.contains x.name then some (val (.kw x.name)) else adef[n]?
    | none => none

/-- The value parameter `j` of the torch_lib function computes with under binding `b`: the value of the argument it
received, else the default the binder fills in. -/
def paramValue (pdef : List DVal) (val : Src → DVal) (b : Binding) (j : Nat) : Option DVal :=
  match b[j]? with
  | some (some src) => some (val src)
  | some none => pdef[j]?
  | none => none

/-- **`argument_values_reach_parameters`** (= `bind_ok_sound`'s closed form ∘ `omitted_defaults_agree`): on a row with
`bindsOk` and `defaultsOk`, for every conforming call, every assignment `val` of values to the supplied arguments and the
binding the exporter's binder returns: for each schema argument that has a parameter (positional: the parameter at its
position; keyword-only: each parameter of its name), the value the parameter computes with *is* the supplied value when
the argument is supplied, and otherwise is not a different concrete value from the one ATen computes with. -/
theorem argument_values_reach_parameters (m : Mode) (a : AtenSchema) (s : OsSig) (adef pdef : List DVal)
    (h : bindsOk m a s = true) (hd : defaultsOk a s adef pdef = true) (val : Src → DVal)
    (c : Call) (hc : Conforms a c) (b : Binding) (hb : bind m s c = .ok b) :
    (∀ (i : Nat) (x : AArg) (p : OParam), a.positional[i]? = some x → s[i]? = some p →
      ∀ u v, atenValue a adef val c i = some u → paramValue pdef val b i = some v →
        dvAgree u v = true ∧ (i < c.npos → v = u)) ∧
    (∀ (k : Nat) (x : AArg) (j : Nat) (p : OParam), a.kwonly[k]? = some x → s[j]? = some p → p.name = x.name →
      ∀ u v, atenValue a adef val c (a.positional.length + k) = some u → paramValue pdef val b j = some v →
        dvAgree u v = true ∧ (x.name ∈ c.kws → v = u)) := by
  have hom := omitted_defaults_agree m a s adef pdef h hd c hc b hb
  have hbs := bind_ok_eq_slots m s c b hb
  constructor
  · intro i x p hx hp u v hu hv
    have hil : i < a.positional.length := (List.getElem?_eq_some_iff.mp hx).1
    by_cases hlt : i < c.npos
    · have hbi : b[i]? = some (some (.pos i)) := hbs ▸ slots_pos.mpr ⟨p, hp, rfl, hlt⟩
      simp only [atenValue, hil, if_true, hlt, Option.some.injEq] at hu
      simp only [paramValue, hbi, Option.some.injEq] at hv
      subst hu hv
      exact ⟨dvAgree_self _, fun _ => rfl⟩
    · obtain ⟨hbi, hpa⟩ := hom.1 i x p hx (by omega) hp
      simp only [atenValue, hil, if_true, hlt, if_false] at hu
      simp only [paramValue, hbi] at hv
      simp only [pairAgree, hu, hv] at hpa
      exact ⟨hpa, fun h => absurd h hlt⟩
  · intro k x j p hx hp hname u v hu hv
    have hnl : ¬ a.positional.length + k < a.positional.length := by omega
    by_cases hin : x.name ∈ c.kws
    · have hle := (kwPlaced_iff.mp (bindsOk_clause h _) x (List.mem_of_getElem? hx) j p hp hname).1
      have hbj : b[j]? = some (some (.kw x.name)) :=
        hbs ▸ slots_kw.mpr ⟨p, hp, hname, by have := hc.npos_le; omega, hin⟩
      simp only [atenValue, hnl, if_false, Nat.add_sub_cancel_left, hx, List.contains_iff_mem.mpr hin, if_true,
        Option.some.injEq] at hu
      simp only [paramValue, hbj, Option.some.injEq] at hv
      subst hu hv
      exact ⟨dvAgree_self _, fun _ => rfl⟩
    · obtain ⟨hbj, hpa⟩ := hom.2 k x j p hx hin hp hname
      simp only [atenValue, hnl, if_false, Nat.add_sub_cancel_left, hx, List.contains_iff_mem, hin] at hu
      simp only [paramValue, hbj] at hv
      simp only [pairAgree, hu, hv] at hpa
      exact ⟨hpa, fun h => absurd h hin⟩

/-- Non-vacuity: `aten::add.Tensor` with `alpha` omitted (both sides compute with 1) and with `alpha` supplied (the
parameter computes with the supplied value). -/
example :
    let a : AtenSchema := ⟨[⟨"self", .tensor, false, false, false, false⟩, ⟨"other", .tensor, false, false, false, false⟩],
      [⟨"alpha", .scalar, false, false, true, false⟩]⟩
    let val : Src → DVal := fun src => match src with | .kw _ => .num 5 1 | .pos _ => .opaque
    atenValue a [.absent, .absent, .num 1 1] val ⟨2, []⟩ 2 = some (.num 1 1) ∧
    paramValue [.absent, .absent, .num 1 1] val [some (.pos 0), some (.pos 1), none] 2 = some (.num 1 1) ∧
    atenValue a [.absent, .absent, .num 1 1] val ⟨2, ["alpha"]⟩ 2 = some (.num 5 1) ∧
    paramValue [.absent, .absent, .num 1 1] val [some (.pos 0), some (.pos 1), some (.kw "alpha")] 2 = some (.num 5 1) ∧
    paramValue [.absent, .absent, .num 2 1] val [some (.pos 0), some (.pos 1), none] 2 = some (.num 2 1) := by
  decide

/-- The fill-in of the two paths: a scripted function's unbound *input* gets `None` whatever its python default says,
its attributes and every parameter of a trace-only function keep the python default. -/
example :
    let s : OsSig := [⟨"w", true, .none, false, false, true, .otherOrigin, true⟩,
      ⟨"eps", false, .float, false, false, true, .base .float, true⟩]
    effDefaults .scripted s [.num 1 1, .num 1 2] = [.none, .num 1 2] ∧
    effDefaults .traced s [.num 1 1, .num 1 2] = [.num 1 1, .num 1 2] := by decide

/-- Agreement is python's `==` on concrete values (`True == 1`, `1 == 1.0` as the fraction 1/1); `None` is never judged. -/
example : dvAgree (.bool true) (.num 1 1) = true ∧ dvAgree (.bool true) (.num 2 1) = false ∧
    dvAgree (.nums [(1, 1)]) (.nums [(1, 1), (1, 1)]) = false ∧ dvAgree .none (.num 2 1) = true ∧
    dvAgree (.str [97]) (.str [97]) = true ∧ dvAgree .opaque (.str [97]) = true := by decide

/-- **`defaultsBad_nil_iff`**: the list of differing pairs reported by the check is empty exactly when `defaultsOk`
holds (what the driver prints is the rule). -/
theorem defaultsBad_nil_iff (a : AtenSchema) (s : OsSig) (adef pdef : List DVal) :
    defaultsBad a s adef pdef = [] ↔ defaultsOk a s adef pdef = true := by
  simp only [defaultsBad, defaultsOk, List.append_eq_nil_iff, List.map_eq_nil_iff, List.filter_eq_nil_iff,
    List.flatMap_eq_nil_iff, Bool.and_eq_true, List.all_eq_true, Bool.not_eq_true', Bool.not_eq_false,
    Bool.or_eq_true, bne_iff_ne, beq_iff_eq, not_and]
  grind

/-! ## The table -/

open OV.Gen.C16

/-- Open findings on the unchanged tree (reproduced on the real code, `known_findings.d/C16.json`): for
each listed name, exactly the defects it is known to have.  Anything else — another defect on a listed
row, any defect on an unlisted row — falsifies `registry_within` (the evaluation `registry_rows` fails).
NB: the key is the qualified name only, so `"aten::mean"` also covers the *complex* `aten::mean` row (no defect today, fixed
by c40ec0b): 9 rows, not 8, have `waived e.qualified ≠ []` and are outside `registry_binds_partial`, `registry_binds` and
`registry_omitted_defaults`, and a `kwBound` defect on the complex row would be tolerated by `rowWithin`. -/
def waived : String → List Defect
  -- C16-undefined-overload: PyTorch defines no such overload
  | "aten::getitem" => [.undefinedOp]
  | "quantized_decomposed::quantize_per_channel.tensor" => [.undefinedOp]
  | "quantized_decomposed::quantize_per_channel.tensor2" => [.undefinedOp]
  | "quantized_decomposed::dequantize_per_channel.tensor" => [.undefinedOp]
  | "quantized_decomposed::dequantize_per_channel.tensor2" => [.undefinedOp]
  -- C16-mean-dtype-dropped: `dtype` of the real aten::mean is not a parameter (scripted binder drops it)
  | "aten::mean" => [.clause .kwBound]
  -- C16-repeat-interleave-self: schema `repeats` lands on parameter `self` (body compensates)
  | "aten::repeat_interleave.Tensor" => [.clause .posNames]
  -- C16-positional-surplus: the schema has more positional arguments than the function
  | "torchvision::roi_pool" => [.clause .posFits, .clause .posAccepts, .clause .posNames]
  | _ => []

/-- The rows outside the wide call model's theorem, with the reason: `posName` = a positional parameter is
not named like its schema argument (a call passing that argument by keyword would not find it), `ruleFails` =
the row already fails `bindsOk` (open findings / undefined names).  Exact: `registry_outsideK_exact`. -/
def outsideK : String → Bool → List KReason
  | "_operator::abs", _ => [.posName]
  | "_operator::add", _ => [.posName]
  | "aten::atleast_1d.Sequence", _ => [.posName]
  | "aten::atleast_2d.Sequence", _ => [.posName]
  | "aten::atleast_3d.Sequence", _ => [.posName]
  | "_operator::and_", _ => [.posName]
  | "_operator::__lshift__", _ => [.posName]
  | "_operator::or_", _ => [.posName]
  | "_operator::__rshift__", _ => [.posName]
  | "math::ceil", _ => [.posName]
  | "aten::clamp_max", _ => [.posName]
  | "aten::clamp_max.Tensor", _ => [.posName]
  | "aten::clamp_min", _ => [.posName]
  | "aten::clamp_min.Tensor", _ => [.posName]
  | "_operator::truediv", _ => [.posName]
  | "aten::embedding_renorm", _ => [.posName]
  | "aten::eq", _ => [.posName]
  | "_operator::eq", _ => [.posName]
  | "math::floor", _ => [.posName]
  | "_operator::floordiv", _ => [.posName]
  | "_operator::ge", _ => [.posName]
  | "_operator::getitem", _ => [.posName]
  | "aten::getitem", _ => [.ruleFails]
  | "_operator::gt", _ => [.posName]
  | "_operator::le", _ => [.posName]
  | "_operator::lt", _ => [.posName]
  | "aten::mean", false => [.ruleFails]
  | "aten::mul", _ => [.posName]
  | "_operator::mul", _ => [.posName]
  | "aten::ne", _ => [.posName]
  | "_operator::ne", _ => [.posName]
  | "_operator::neg", _ => [.posName]
  | "_operator::pow", _ => [.posName]
  | "_operator::mod", _ => [.posName]
  | "aten::repeat_interleave.Tensor", _ => [.ruleFails, .posName]
  | "aten::split", _ => [.posName]
  | "_operator::sub", _ => [.posName]
  | "aten::tensor.bool", _ => [.posName]
  | "aten::tensor.float", _ => [.posName]
  | "aten::tensor.int", _ => [.posName]
  | "math::trunc", _ => [.posName]
  | "aten::unique_consecutive", _ => [.posName]
  | "aten::det", _ => [.posName]
  | "aten::upsample_bicubic2d.vec", _ => [.posName]
  | "aten::upsample_bilinear2d.vec", _ => [.posName]
  | "aten::upsample_trilinear3d.vec", _ => [.posName]
  | "quantized_decomposed::quantize_per_channel.tensor", _ => [.ruleFails]
  | "quantized_decomposed::quantize_per_channel.tensor2", _ => [.ruleFails]
  | "quantized_decomposed::dequantize_per_channel.tensor", _ => [.ruleFails]
  | "quantized_decomposed::dequantize_per_channel.tensor2", _ => [.ruleFails]
  | "torchvision::nms", _ => [.posName]
  | "torchvision::roi_pool", _ => [.ruleFails, .posName]
  | _, _ => []

def rowWithin (e : Entry) : Bool :=
  e.defects.all (fun d => (waived e.qualified).contains d) && e.shapeOk &&
  decide (kReasons e.mode e.aten e.sig = outsideK e.qualified e.isComplex)

theorem rowWithin_iff {e : Entry} : rowWithin e = true ↔
    (∀ d ∈ e.defects, d ∈ waived e.qualified) ∧ clauseOk e.mode e.aten e.sig .paramsModelled = true ∧
    (e.sig.map (·.name)).Nodup ∧ kReasons e.mode e.aten e.sig = outsideK e.qualified e.isComplex := by
  simp only [rowWithin, Entry.shapeOk, Bool.and_eq_true, List.all_eq_true, List.contains_iff_mem, nodupS_iff,
    decide_eq_true_eq, and_assoc]

/-! Comparing `e.qualified` with the string literals of `waived` and `outsideK` is what the kernel is slow at, and
almost every row's name is none of them.  So names are compared as numbers, and `rowWithin` itself is evaluated
only on the rows whose name is listed. -/

/-- The names `outsideK` lists (those of `waived` are among them); a name missing here makes the two proofs below fail. -/
def listed : List String :=
  ["_operator::abs", "_operator::add", "aten::atleast_1d.Sequence", "aten::atleast_2d.Sequence",
   "aten::atleast_3d.Sequence", "_operator::and_", "_operator::__lshift__", "_operator::or_",
   "_operator::__rshift__", "math::ceil", "aten::clamp_max", "aten::clamp_max.Tensor", "aten::clamp_min",
   "aten::clamp_min.Tensor", "_operator::truediv", "aten::embedding_renorm", "aten::eq", "_operator::eq",
   "math::floor", "_operator::floordiv", "_operator::ge", "_operator::getitem", "aten::getitem",
   "_operator::gt", "_operator::le", "_operator::lt", "aten::mean", "aten::mul", "_operator::mul", "aten::ne",
   "_operator::ne", "_operator::neg", "_operator::pow", "_operator::mod", "aten::repeat_interleave.Tensor",
   "aten::split", "_operator::sub", "aten::tensor.bool", "aten::tensor.float", "aten::tensor.int",
   "math::trunc", "aten::unique_consecutive", "aten::det", "aten::upsample_bicubic2d.vec",
   "aten::upsample_bilinear2d.vec", "aten::upsample_trilinear3d.vec",
   "quantized_decomposed::quantize_per_channel.tensor", "quantized_decomposed::quantize_per_channel.tensor2",
   "quantized_decomposed::dequantize_per_channel.tensor",
   "quantized_decomposed::dequantize_per_channel.tensor2", "torchvision::nms", "torchvision::roi_pool"]

/-- Off `listed` every test of the match fails. -/
theorem outsideK_eq_nil {q : String} (b : Bool) (h : q ∉ listed) : outsideK q b = [] := by
  simp only [listed, List.mem_cons, List.mem_nil_iff, or_false, not_or] at h
  unfold outsideK outsideK.match_1
  simp only [h, dite_false]

theorem waived_eq_nil {q : String} (h : q ∉ listed) : waived q = [] := by
  simp only [listed, List.mem_cons, List.mem_nil_iff, or_false, not_or] at h
  unfold waived waived.match_1
  simp only [h, dite_false]

def listedKeys : List Nat := listed.map fun n => encodeCodes (bytesN n)

def plainName (e : Entry) : Bool := e.qcodes.all (· < 128) && !memN (encodeCodes e.qcodes) listedKeys

theorem not_listed {e : Entry} (h : plainName e = true) : e.qualified ∉ listed := by
  simp only [plainName, Bool.and_eq_true, List.all_eq_true, decide_eq_true_eq, Bool.not_eq_true'] at h
  intro hm
  have := (memN_iff _ _).mpr (List.mem_map_of_mem (f := fun n => encodeCodes (bytesN n)) hm)
  rw [Entry.qualified, bytesN_ofCodes _ h.1, ← listedKeys, h.2] at this
  cases this

/-- Why an unlisted row is within: it must have no defect at all, its shape is part of `bindsOkK`, and
`bindsOkK` is `kReasons = []`. -/
theorem rowWithin_of_plain {e : Entry} (hq : e.qualified ∉ listed) (hok : e.ok = true)
    (hk : bindsOkK e.mode e.aten e.sig = true) : rowWithin e = true := by
  obtain ⟨hb, _, _, hs, _⟩ := bindsOkK_iff.mp hk
  exact rowWithin_iff.mpr ⟨by simp [List.isEmpty_iff.mp hok], bindsOk_clause hb _, hs,
    by rw [(kReasons_nil_iff _ _ _).mpr hk, outsideK_eq_nil _ hq]⟩

/-- `e.ok && bindsOkK …`, without evaluating `posNames`: the dearest clause (quadratic in string comparisons), and
`posNamed` with distinct names implies it. -/
def plainCheck (e : Entry) : Bool :=
  nameOkCodes e.qcodes && e.complexNameOk && e.schemaFlagsOk && sigFaithful e.sig && decide (e.res ≠ .undefined) &&
  (Clause.all.erase .posNames).all (clauseOk e.mode e.aten e.sig) && posNamed e.aten e.sig &&
  requiredOwn e.aten e.sig && nodupS (e.sig.map (·.name)) && nodupS ((e.aten.positional ++ e.aten.kwonly).map (·.name))

theorem ok_of_plainCheck {e : Entry} (h : plainCheck e = true) :
    e.ok = true ∧ bindsOkK e.mode e.aten e.sig = true := by
  simp only [plainCheck, Bool.and_eq_true, List.all_eq_true, decide_eq_true_eq] at h
  obtain ⟨⟨⟨⟨⟨⟨⟨⟨⟨h1, h2⟩, h3⟩, h4⟩, h5⟩, hc⟩, hp⟩, hr⟩, hs⟩, ha⟩ := h
  have hb : bindsOk e.mode e.aten e.sig = true := bindsOk_iff_clauses.mpr fun c => by
    by_cases hc' : c = .posNames
    · exact hc' ▸ posNames_of_posNamed hp (nodupS_iff.mp hs)
    · exact hc c ((List.mem_erase_of_ne hc').mpr (by cases c <;> simp [Clause.all]))
  exact ⟨List.isEmpty_iff.mpr ((defects_nil_iff e).mpr ⟨h1, h2, h3, h4, h5, fun _ => hb⟩),
    by rw [bindsOkK, hb, hp, hr, hs, ha]; rfl⟩

def rowCheck (e : Entry) : Bool :=
  if plainName e then plainCheck e else rowWithin e

theorem rowWithin_of_rowCheck {e : Entry} (h : rowCheck e = true) : rowWithin e = true := by
  unfold rowCheck at h
  split at h
  · exact rowWithin_of_plain (not_listed ‹_›) (ok_of_plainCheck h).1 (ok_of_plainCheck h).2
  · exact h

/-- The table evaluation (one pass: the numbers of the listed names are computed once). -/
theorem registry_rows : registry.all rowCheck = true := by decide +kernel

/- The full statement `∀ e ∈ registry, e.ok = true` is false on the unchanged tree (see `waived`):
`registry_binds_full_refuted_snapshot_roi_pool` below refutes it on a literal copy of one failing row. -/
theorem registry_within : ∀ e ∈ registry, rowWithin e = true :=
  fun e he => rowWithin_of_rowCheck (List.all_eq_true.mp registry_rows e he)

theorem registry_chunk0 : ∀ e ∈ chunk0, rowWithin e = true := fun e h => registry_within e (by simp [registry, h])
theorem registry_chunk1 : ∀ e ∈ chunk1, rowWithin e = true := fun e h => registry_within e (by simp [registry, h])
theorem registry_chunk2 : ∀ e ∈ chunk2, rowWithin e = true := fun e h => registry_within e (by simp [registry, h])
theorem registry_chunk3 : ∀ e ∈ chunk3, rowWithin e = true := fun e h => registry_within e (by simp [registry, h])
theorem registry_chunk4 : ∀ e ∈ chunk4, rowWithin e = true := fun e h => registry_within e (by simp [registry, h])
theorem registry_chunk5 : ∀ e ∈ chunk5, rowWithin e = true := fun e h => registry_within e (by simp [registry, h])
theorem registry_chunk6 : ∀ e ∈ chunk6, rowWithin e = true := fun e h => registry_within e (by simp [registry, h])
theorem registry_chunk7 : ∀ e ∈ chunk7, rowWithin e = true := fun e h => registry_within e (by simp [registry, h])

theorem registry_defaults_rows : ∀ e ∈ registry, e.defaultsOk = true := by decide +kernel

theorem registry_defaults_chunk0 : ∀ e ∈ chunk0, e.defaultsOk = true :=
  fun e h => registry_defaults_rows e (by simp [registry, h])
theorem registry_defaults_chunk1 : ∀ e ∈ chunk1, e.defaultsOk = true :=
  fun e h => registry_defaults_rows e (by simp [registry, h])
theorem registry_defaults_chunk2 : ∀ e ∈ chunk2, e.defaultsOk = true :=
  fun e h => registry_defaults_rows e (by simp [registry, h])
theorem registry_defaults_chunk3 : ∀ e ∈ chunk3, e.defaultsOk = true :=
  fun e h => registry_defaults_rows e (by simp [registry, h])
theorem registry_defaults_chunk4 : ∀ e ∈ chunk4, e.defaultsOk = true :=
  fun e h => registry_defaults_rows e (by simp [registry, h])
theorem registry_defaults_chunk5 : ∀ e ∈ chunk5, e.defaultsOk = true :=
  fun e h => registry_defaults_rows e (by simp [registry, h])
theorem registry_defaults_chunk6 : ∀ e ∈ chunk6, e.defaultsOk = true :=
  fun e h => registry_defaults_rows e (by simp [registry, h])
theorem registry_defaults_chunk7 : ∀ e ∈ chunk7, e.defaultsOk = true :=
  fun e h => registry_defaults_rows e (by simp [registry, h])

/-- **`registry_defaults_agree`** (table theorem over the regenerated rows, no waiver): on every row the default lists
read from `torch._C.Argument.default_value` and `inspect.Parameter.default` have the row's shape, and no schema
argument and parameter that `bind` pairs carry two different concrete defaults. -/
theorem registry_defaults_agree : ∀ e ∈ registry,
    defaultsShapeOk e.aten e.sig e.adef e.pdef = true ∧
    defaultsOk e.aten e.sig e.adef (effDefaults e.mode e.sig e.pdef) = true :=
  fun e he => Bool.and_eq_true_iff.mp (registry_defaults_rows e he)

/-- On a row within, a check whose failure is a defect that `waived` never lists holds. -/
theorem flag_of_within {e : Entry} (h : rowWithin e = true) {c : Bool} {d : Defect}
    (hd : c = false → d ∈ e.defects) (hw : d ∉ waived e.qualified) : c = true := by
  cases hc : c with
  | true => rfl
  | false => exact absurd ((rowWithin_iff.mp h).1 d (hd hc)) hw

/-- No open finding waives a malformed name. -/
theorem waived_no_badName (q : String) : Defect.badName ∉ waived q := by
  unfold waived
  split <;> decide

/-- **`registry_names_ok`**: every registered name is accepted by the transcribed
`_check_and_normalize_names` (well-formed, no `.default`). -/
theorem registry_names_ok : ∀ e ∈ registry, nameOkCodes e.qcodes = true :=
  fun e he => flag_of_within (registry_within e he) (fun hn => by simp [Entry.defects, hn]) (waived_no_badName _)

/-- No open finding waives a signature-classification defect. -/
theorem waived_no_sigClass (q : String) : Defect.sigClass ∉ waived q := by
  unfold waived
  split <;> decide

/-- **`registry_signatures_faithful`**: for every registered function, the OpSignature the real
`op_signature_from_function` produced is the one its transcription (`classify`: `get_attr_type` + the
input/attribute branch; `required` = no python default; never variadic) yields from the parameter's
annotation category and default, both read independently by the translator. -/
theorem registry_signatures_faithful : ∀ e ∈ registry, sigFaithful e.sig = true :=
  fun e he => flag_of_within (registry_within e he) (fun hn => by simp [Entry.defects, hn]) (waived_no_sigClass _)

example : classify (.base .bool) = (false, .int) ∧ classify (.seqOf .int) = (false, .ints) ∧
    classify .otherOrigin = (true, .none) ∧ classify .missing = (true, .none) ∧
    sigFaithful [⟨"dim", false, .ints, true, false, true, .seqOf .int, false⟩] = true ∧
    sigFaithful [⟨"dim", true, .none, true, false, true, .seqOf .int, false⟩] = false := by decide

/-- No open finding waives a kind mix-up or a wrong integer-only mark. -/
theorem waived_no_complexName (q : String) : Defect.complexName ∉ waived q ∧ Defect.schemaFlag ∉ waived q := by
  unfold waived
  split <;> decide

/-- **`registry_kinds_ok`**: no function written for complex inputs (`…_complex`, the operator itself not being
called `…complex`) owns a (name, real) pair, and a `Scalar` is treated as an integer only for the bitwise /
shift operators — for every row of the registry. -/
theorem registry_kinds_ok : ∀ e ∈ registry, e.complexNameOk = true ∧ e.schemaFlagsOk = true :=
  fun e he => ⟨flag_of_within (registry_within e he) (fun hn => by simp [Entry.defects, hn]) (waived_no_complexName _).1,
    flag_of_within (registry_within e he) (fun hn => by simp [Entry.defects, hn]) (waived_no_complexName _).2⟩

/-- A float-capable `Scalar` is not accepted by an INT attribute (`aten::histc(…, Scalar min, Scalar max)` on
`min: int`), an integer-only one is (`aten::bitwise_and.Scalar`). -/
example :
    attrAccepts .int ⟨"min", .scalar, false, false, true, false⟩ = false ∧
    attrAccepts .float ⟨"min", .scalar, false, false, true, false⟩ = true ∧
    attrAccepts .int ⟨"other", .scalar, false, false, false, true⟩ = true ∧
    intOnlyName (codes "aten::bitwise_and.Scalar") = true ∧ intOnlyName (codes "aten::histc") = false := by decide

/-- **`registry_binds_partial`** (table theorem over the registry as it is *now*): every row outside the
listed open findings has a well-formed name, an operator PyTorch defines (or a library that is not
installed), and `bindsOk`.  Hypotheses: `waived e.qualified = []` (9 rows excluded, see `waived`); the `bindsOk` part also
`e.res ≠ .lib_absent` — vacuous today (no such row), but on a machine without torchvision it would excuse every
`torchvision::*` row from the binding statement without any check. -/
theorem registry_binds_partial : ∀ e ∈ registry, waived e.qualified = [] →
    nameOkCodes e.qcodes = true ∧ e.res ≠ .undefined ∧
    (e.res ≠ .lib_absent → bindsOk e.mode e.aten e.sig = true) := by
  intro e he hw
  have hd := (defects_nil_iff e).mp <| List.eq_nil_iff_forall_not_mem.mpr fun d hd => by
    simpa [hw] using (rowWithin_iff.mp (registry_within e he)).1 d hd
  exact ⟨hd.1, hd.2.2.2.2⟩

/-- **`registry_rule_exact`**: on every row of the registry as it is now, the decidable rule coincides with
the property's binding clause — `bindsOk` holds iff every conforming call is bound right by the exporter's
binder (`bindsOk_iff`; the shape hypotheses are table facts). -/
theorem registry_rule_exact : ∀ e ∈ registry,
    (bindsOk e.mode e.aten e.sig = true ↔
      ∀ c, Conforms e.aten c → ∃ b, bind e.mode e.sig c = .ok b ∧ BoundRight e.mode e.aten e.sig c b) := by
  intro e he
  obtain ⟨_, hpm, hnd, _⟩ := rowWithin_iff.mp (registry_within e he)
  exact bindsOk_iff _ _ _ hpm hnd

/-- **`registry_rejected_rows_fail`**: every row the rule rejects (all of them are listed in `waived`) has a
concrete conforming call — the maximal or the minimal one — that the exporter's binder does not bind right.
A rejected row is therefore never an artefact of the rule. -/
theorem registry_rejected_rows_fail : ∀ e ∈ registry, bindsOk e.mode e.aten e.sig = false →
    ∃ c, Conforms e.aten c ∧ (c = maxCall e.aten ∨ c = minCall e.aten) ∧
      ∀ b, bind e.mode e.sig c = .ok b → ¬ BoundRight e.mode e.aten e.sig c b := by
  intro e he hb
  obtain ⟨_, hpm, hnd, _⟩ := rowWithin_iff.mp (registry_within e he)
  exact bindsOk_tight _ _ _ hpm hnd hb

/-- **`registry_outsideK_exact`**: for every row, the reasons it is outside `bindsOkK` are exactly those listed
in `outsideK` — in particular every row not listed there satisfies `bindsOkK`. -/
theorem registry_outsideK_exact : ∀ e ∈ registry,
    kReasons e.mode e.aten e.sig = outsideK e.qualified e.isComplex :=
  fun e he => (rowWithin_iff.mp (registry_within e he)).2.2.2

theorem registry_bindsOkK : ∀ e ∈ registry, outsideK e.qualified e.isComplex = [] →
    bindsOkK e.mode e.aten e.sig = true :=
  fun e he ho => (kReasons_nil_iff _ _ _).mp ((registry_outsideK_exact e he).trans ho)

/-- **`registry_resolves_uniquely`**: two rows whose names the exporter resolves to the same
(namespace, operator, overload) carry the same name — together with `registry_unique`, each PyTorch
overload and kind (real/complex) is served by exactly one registered function. -/
theorem registry_resolves_uniquely : ∀ e₁ ∈ registry, ∀ e₂ ∈ registry,
    resolveKey e₁.qcodes = resolveKey e₂.qcodes → e₁.qcodes = e₂.qcodes := by
  intro e₁ h₁ e₂ h₂ h
  exact resolve_injective _ _ (registry_names_ok e₁ h₁) (registry_names_ok e₂ h₂) h

/-- **`registry_binds`** = table ∘ general theorem: for every registered overload outside the open
findings whose operator resolves, *every* conforming call binds right through the exporter's binder.  (Not all rows: the
hypotheses `waived e.qualified = []` and `e.res ≠ .lib_absent` are those of `registry_binds_partial`.) -/
theorem registry_binds : ∀ e ∈ registry, waived e.qualified = [] → e.res ≠ .lib_absent →
    ∀ c, Conforms e.aten c → ∃ b, bind e.mode e.sig c = .ok b ∧ BoundRight e.mode e.aten e.sig c b := by
  intro e he hw hla c hc
  exact bind_ok_sound _ _ _ ((registry_binds_partial e he hw).2.2 hla) c hc

/-- **`registry_binds_by_keyword`** = table ∘ `bind_ok_sound_by_keyword`: for every registered overload not
listed in `outsideK` (hypothesis `outsideK … = []`: 500 of 554 rows today), every call of the wide model — positional schema arguments passed
by position or by keyword — is bound right by the exporter's binder. -/
theorem registry_binds_by_keyword : ∀ e ∈ registry, outsideK e.qualified e.isComplex = [] →
    ∀ c, ConformsK e.aten c → ∃ b, bind e.mode e.sig c = .ok b ∧ BoundRightK e.mode e.aten e.sig c b :=
  fun e he ho => bind_ok_sound_by_keyword _ _ _ (registry_bindsOkK e he ho)

/-- **`registry_omitted_defaults`** = table ∘ `omitted_defaults_agree` ∘ `registry_binds_partial`: for every registered
overload outside the open findings whose operator resolves, every conforming call, and the binding the exporter's binder
returns for it, each omitted schema argument leaves its parameter on the default the binder fills in (`effDefaults`: the python default,
`None` for an input of a scripted function), and that default is not a different concrete value from the schema's. -/
theorem registry_omitted_defaults : ∀ e ∈ registry, waived e.qualified = [] → e.res ≠ .lib_absent →
    ∀ c, Conforms e.aten c → ∀ b, bind e.mode e.sig c = .ok b →
    (∀ (i : Nat) (x : AArg) (p : OParam), e.aten.positional[i]? = some x → c.npos ≤ i → e.sig[i]? = some p →
        b[i]? = some none ∧ pairAgree e.adef (effDefaults e.mode e.sig e.pdef) i i = true) ∧
    (∀ (k : Nat) (x : AArg) (j : Nat) (p : OParam), e.aten.kwonly[k]? = some x → x.name ∉ c.kws →
        e.sig[j]? = some p → p.name = x.name →
        b[j]? = some none ∧
          pairAgree e.adef (effDefaults e.mode e.sig e.pdef) (e.aten.positional.length + k) j = true) := by
  intro e he hw hla c hc b hb
  exact omitted_defaults_agree _ _ _ _ _ ((registry_binds_partial e he hw).2.2 hla) (registry_defaults_agree e he).2 c hc b hb

/-- **`registry_omitted_defaults_by_keyword`** = table ∘ `omitted_defaults_agree_by_keyword`: on every row not listed in
`outsideK`, in every call of the wide model each omitted argument's parameter stays unbound on an agreeing default. -/
theorem registry_omitted_defaults_by_keyword : ∀ e ∈ registry, outsideK e.qualified e.isComplex = [] →
    ∀ c, ConformsK e.aten c → ∀ b, bind e.mode e.sig c = .ok b →
    (∀ (i : Nat) (x : AArg) (p : OParam), e.aten.positional[i]? = some x → c.npos ≤ i → x.name ∉ c.kws → e.sig[i]? = some p →
        b[i]? = some none ∧ pairAgree e.adef (effDefaults e.mode e.sig e.pdef) i i = true) ∧
    (∀ (k : Nat) (x : AArg) (j : Nat) (p : OParam), e.aten.kwonly[k]? = some x → x.name ∉ c.kws →
        e.sig[j]? = some p → p.name = x.name →
        b[j]? = some none ∧
          pairAgree e.adef (effDefaults e.mode e.sig e.pdef) (e.aten.positional.length + k) j = true) :=
  fun e he ho => omitted_defaults_agree_by_keyword _ _ _ _ _ (registry_bindsOkK e he ho) (registry_defaults_agree e he).2

/-- **`registry_unique`**: each (qualified name, real/complex) pair occurs once in what
`get_torchlib_ops()` returns. -/
theorem registry_unique : (registry.map Entry.key).Nodup :=
  List.Pairwise.of_map natKey (fun _ _ h e => h (congrArg natKey e)) (nodupSplit_sound 6 _ (by decide +kernel))

/-- `registrySize` rows were extracted (guards against a truncated table).  `registrySize` is itself generated (554 today): the
row count quoted in the notes is not a Lean literal, and neither is the count of judged default pairs (a harness counter). -/
theorem registry_size : registry.length = registrySize := by decide +kernel

/-- The full statement is refuted on a literal copy of the `torchvision::roi_pool` row as it still is in the
tree (the function has the Python wrapper's signature `(input, boxes, output_size, spatial_scale)`, the
operator is `(input, rois, spatial_scale, pooled_height, pooled_width)`): the row is rejected and the binder
raises on the maximal call. -/
theorem registry_binds_full_refuted_snapshot_roi_pool :
    let e : Entry := ⟨[116, 111, 114, 99, 104, 118, 105, 115, 105, 111, 110, 58, 58, 114, 111, 105, 95, 112, 111, 111, 108],
      false, .traced, .resolved,
      ⟨[⟨"input", .tensor, false, false, false, false⟩, ⟨"rois", .tensor, false, false, false, false⟩,
        ⟨"spatial_scale", .float, false, false, false, false⟩, ⟨"pooled_height", .symint, false, false, false, false⟩,
        ⟨"pooled_width", .symint, false, false, false, false⟩], []⟩,
      [⟨"input", true, .none, true, false, true, .missing, false⟩, ⟨"boxes", true, .none, true, false, true, .missing, false⟩,
       ⟨"output_size", false, .ints, true, false, true, .seqOf .int, false⟩,
       ⟨"spatial_scale", false, .float, false, false, true, .base .float, true⟩], [], [], []⟩
    e.ok = false ∧ maxCall e.aten = ⟨5, []⟩ ∧ bind e.mode e.sig (maxCall e.aten) = .error .tooMany := by
  decide

/-- Historical negation witness: the `aten::amax` row as it was before `/repo` d441e93 (replayed then on
the real exporter: `torch.onnx.export` of `torch.amax(x)` raised). -/
theorem registry_binds_full_refuted_snapshot :
    let e : Entry := ⟨[97, 116, 101, 110, 58, 58, 97, 109, 97, 120], false, .scripted, .resolved,
      ⟨[⟨"self", .tensor, false, false, false, false⟩, ⟨"dim", .int, true, false, true, false⟩,
        ⟨"keepdim", .bool, false, false, true, false⟩], []⟩,
      [⟨"self", true, .none, true, false, true, .otherPlain, false⟩, ⟨"dim", true, .none, true, false, true, .otherPlain, false⟩,
       ⟨"keepdim", false, .int, false, false, true, .base .int, true⟩], [], [], []⟩
    e.ok = false ∧ bind e.mode e.sig ⟨1, []⟩ = .error .missing := by
  decide

end OV.Props.C16
