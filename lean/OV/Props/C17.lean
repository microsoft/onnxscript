import OV.Lemmas.C17Eager
import OV.Lemmas.C17Translate
import OV.Lemmas.C17History
import OV.Gen.C17Checks
import OV.Gen.C17IrMap
import OV.Gen.C17ChecksNames
/-!
# C17 — generated opset classes mirror the ONNX operator schemas exactly

Property theorems only.  Model: `OV.Model.C17OpsetGen`; tables `OV.Gen.C17*` are regenerated on every
run from `/repo/onnxscript/onnx_opset/_impl/*.py` (parsed with `ast`) and the installed `onnx.defs`.
Names are numbers (`enc`), see the model file.

The table facts the kernel evaluates (`decide +kernel`, in `OV/Gen`): `classes_ok` (every class defines,
method by method, the schemas registered at its (domain, version)), `keys_ascending` (the registry is
listed by strictly increasing key), `chain_ok`, `exports_ok`, `classes_generated`, `schemas_have_class_beq`,
`params_distinct`, and on the name set `names0_enc`, `names1_enc`, `names_increasing`.  Everything below is derived
from them for **all** operator names.
-/
namespace OV.Props.C17
open OV.C17 OV.Gen.C17

/-- **Every cell, for every name whatsoever.**  For each generated class `c` and each operator name `n`
(in the tables or not), what `getattr(c, n)` resolves to on the generated classes and what
`onnx.defs.get_schema(n, c.version, c.domain)` answers stand in the relation `cellOk`, without exception: a
deprecated schema in force is paired with no method or a raising stub only (the stubs `opgen` emits since /repo
52a48cf, finding C17-F1). -/
theorem cell_all (c : Cls) (hc : c ∈ classes) (n : Nat) :
    cellOk false (lookup schemas c.domain c.version n) (resolve classes c.domain c.version n) = true := by
  refine cell_of_classOk (keys_unique_of_ranks keys_ascending) (List.all_eq_true.mp classes_ok) ?_ c.version n
  -- `c`'s domain is a generated one, so each of its schemas has a class at its since_version
  intro s hs hd
  have hgen : c.domain ∉ ungeneratedDomains := by
    simpa using List.all_eq_true.mp classes_generated c hc
  simpa [hd, hgen] using List.all_eq_true.mp schemas_have_class s hs

/-- **methods_mirror.**  Whatever method `OpsetN.n` resolves to (own or inherited), `get_schema(n, N, domain)`
finds a schema in force at `N`, and — unless that schema is marked deprecated — the method is a live one
(not a raising stub) and exactly what the generator's rule yields for *that* schema: it calls `get_schema`
with that schema's name, since_version and domain, takes the inputs in order then the attributes as
keyword-only parameters, optional inputs default to `None`, attribute defaults equal the schema defaults,
and every argument is forwarded under its own name (`mirrors`). -/
theorem methods_mirror (c : Cls) (hc : c ∈ classes) (n : Nat) (m : Method)
    (hm : resolve classes c.domain c.version n = some m) :
    ∃ s, lookup schemas c.domain c.version n = some s ∧
      (s.deprecated = false → m.stub = false ∧ mirrors m s = true) := by
  have h := cell_all c hc n
  rw [hm] at h
  cases hl : lookup schemas c.domain c.version n with
  | none => rw [hl] at h; cases h
  | some s => exact ⟨s, rfl, cellOk_live (hl ▸ h)⟩

/-- **methods_complete.**  Every non-deprecated schema in force at the version of a generated class has a
live method on that class, and it mirrors the schema.  (The only domain of `onnx.defs` without classes is
the listed `ungeneratedDomains` = `ai.onnx.preview.training`, see `domains_complete`.) -/
theorem methods_complete (c : Cls) (hc : c ∈ classes) (n : Nat) (s : Schema)
    (hs : lookup schemas c.domain c.version n = some s) (hd : s.deprecated = false) :
    ∃ m, resolve classes c.domain c.version n = some m ∧ m.stub = false ∧ mirrors m s = true := by
  have h := cell_all c hc n
  rw [hs] at h
  cases hr : resolve classes c.domain c.version n with
  | none => rw [hr] at h; simp [cellOk, hd] at h
  | some m => exact ⟨m, rfl, cellOk_live (hr ▸ h) hd⟩

/-- Every registered schema (any version, any domain **except** the regenerated list `ungeneratedDomains` =
`[ai.onnx.preview.training]`, which `opgen` is told to exclude: hypothesis `hu`) has a class of exactly
its domain and since_version among the generated classes. -/
theorem domains_complete (s : Schema) (hs : s ∈ schemas) (hu : s.domain ∉ ungeneratedDomains) :
    ∃ c ∈ classes, c.domain = s.domain ∧ c.version = s.since := by
  simpa [hu] using List.all_eq_true.mp schemas_have_class s hs

/-- **dynamic_eq_static.**  For every generated class (every domain: `''`, `ai.onnx.ml`, `ai.onnx.preview`)
and every operator name, without exception: what `Opset.__getitem__/__getattr__/__contains__` answer
(`get_schema(n, version, domain)`) and what the class offers statically `agree` — both nothing; or a live
method binding exactly that schema's name, since_version and domain; or, for a schema marked deprecated,
nothing callable (no method, or a raising stub).  (Finding C17-F1: before /repo 52a48cf the last live definition
of `Upsample`, `Scatter`, `TreeEnsembleClassifier/Regressor` was inherited on 37 cells, and this fails there; the
`example` below evaluates the witness, and the harness has it as a must-pass case.) -/
theorem dynamic_eq_static (c : Cls) (hc : c ∈ classes) (n : Nat) :
    agrees (lookup schemas c.domain c.version n) (resolve classes c.domain c.version n) = true :=
  agrees_of_cellOk (cell_all c hc n)

/-- the witness of C17-F1: at `Opset10` (and at the newest class) `Upsample(10)` is in force and
deprecated, and the class resolves `Upsample` to a raising stub; at `Opset9` the live `Upsample(9)`
method resolves (`enc "Upsample"` = 24603291626610125925) -/
example :
    (match lookup schemas 1 10 24603291626610125925, resolve classes 1 10 24603291626610125925 with
     | some s, some m => s.deprecated && m.stub
     | _, _ => false) = true ∧
    (match lookup schemas 1 27 24603291626610125925, resolve classes 1 27 24603291626610125925 with
     | some s, some m => s.deprecated && m.stub
     | _, _ => false) = true ∧
    (match lookup schemas 1 9 24603291626610125925, resolve classes 1 9 24603291626610125925 with
     | some s, some m => !s.deprecated && !m.stub && m.call.2.1 == 9
     | _, _ => false) = true := by decide +kernel

/-- The same in the form of the property text, **under the hypothesis that the schema in force is not
deprecated** (hence the name `_partial`): the generated method and the dynamic lookup bind the same
(name, since_version, domain).  The hypothesis is forced for this *form* of the statement: for a deprecated schema
the class offers no method or a raising stub (whose `call` is empty), so the two keys cannot be equal; the
unconditional statement is `dynamic_eq_static` above (via `agrees`). -/
theorem dynamic_eq_static_partial (c : Cls) (hc : c ∈ classes) (n : Nat)
    (hdep : ∀ s, lookup schemas c.domain c.version n = some s → s.deprecated = false) :
    (resolve classes c.domain c.version n).map Method.call =
      (lookup schemas c.domain c.version n).map Schema.key := by
  have h := cell_all c hc n
  cases hl : lookup schemas c.domain c.version n with
  | none =>
    rw [hl] at h
    cases hr : resolve classes c.domain c.version n with
    | none => rfl
    | some m => rw [hr] at h; cases h
  | some s =>
    obtain ⟨m, hm, -, hmir⟩ := methods_complete c hc n s hl (hdep s hl)
    rw [hm, Option.map_some, Option.map_some, (mirrors_spec hmir).1]

/-- **Every argument is forwarded under its own name, by every live generated method** (the 630 of the 634
generated `def`s that are not raising stubs — hypothesis `m.stub = false`; the 4 stubs `def Op(self, *args,
**kwargs): raise NotImplementedError` have no call to forward to — whether or not a schema is in force for the
method anywhere): the body passes the positional parameters in order, then `*vararg`, through
`self._prepare_inputs(schema, …)`, and each keyword-only parameter `k` as `k=k` — no parameter dropped, renamed,
swapped or replaced by an expression. -/
theorem every_argument_forwarded (c : Cls) (hc : c ∈ classes) (m : Method) (hm : m ∈ c.methods)
    (hs : m.stub = false) :
    m.fwdInputs = expectedFwdInputs m ∧ (m.usesPrepare = true ∨ m.fwdInputs = []) ∧
      m.fwdAttrs = m.kwonly.map (fun p => (p.1, p.1)) := by
  -- `m` pairs with a schema registered at its class's version; `m` is no stub, so the schema is live and `m` mirrors it
  obtain ⟨s, -, -, -, -, hcell⟩ := (classOk_spec (List.all_eq_true.mp classes_ok c hc)).1 m hm
  cases hd : s.deprecated with
  | true => rw [cellOk_deprecated hcell hd] at hs; cases hs
  | false => exact (mirrors_spec (cellOk_live hcell hd).2).2.2

/-- (Re-export of the kernel-evaluated table fact `OV.Gen.C17.chain_ok`, no further content.)
The generated classes of a domain form the inheritance chain `Opset_d1(Opset) ← Opset_d2 ← …` with
consecutive versions, one class per file, with `Opset.__new__(cls, d, N)` literals `(d, N)` unique per
class — which is what makes `resolve` (largest version `≤ N`) Python's attribute lookup. -/
theorem chain_is_linear : chainOk opsetBase classes = true := chain_ok

/-- (Re-export of the kernel-evaluated table fact `OV.Gen.C17.exports_ok`, no further content.)
`onnx_opset.all_opsets[(d, N)]` (and `onnxscript.opsetN`) is an instance of the class whose `__new__`
says `(d, N)`, and every generated class is exported once. -/
theorem exports_consistent : exportsOk classes exports = true := exports_ok

/-! ## dynamic lookup depends on (domain, version, name) only — over all histories, all domains -/

/-- **lookup_history_independent.**  Take any registry, any history `h₁` of `Opset(...)` constructions and
dynamic lookups from a fresh process, then obtain the opset object for `(cls, d, v)` (created now or cached
by anything in `h₁`), then let any further history `h₂` happen.  The object carries `domain = d`,
`version = v`, and `opset[n]`, `n in opset`, `Opset.__getattr__(opset, n)` answer exactly
`get_schema(n, v, d)` — a function of `(d, v, n)` alone: nothing looked up before, in this or any other
version or domain, can change the answer. -/
theorem lookup_history_independent (reg : List Schema) (h₁ h₂ : List Cmd) (cls d v n : Nat) :
    let st₁ := (run reg OState.empty h₁).1
    let r := step reg st₁ (.new cls d v)
    ∃ i, r.2 = .inst i d v ∧
      let st₂ := (run reg r.1 h₂).1
      (step reg st₂ (.getitem i n)).2 = .op ((lookup reg d v n).map Schema.key) ∧
      (step reg st₂ (.contains i n)).2 = .bool (lookup reg d v n).isSome ∧
      (step reg st₂ (.getattr i n)).2 =
        (match lookup reg d v n with | some s => .op (some s.key) | none => .attributeError) ∧
      (step reg st₂ (.new cls d v)).2 = .inst i d v := by
  intro st₁ r
  have hwf : WF st₁ := (run_keeps reg _ h₁).2.2 WF_empty
  rcases new_gives reg st₁ hwf cls d v with ⟨i, hr, hi, hcache⟩
  refine ⟨i, hr, ?_⟩
  intro st₂
  have hi₂ : st₂.insts[i]? = some ⟨cls, d, v⟩ := (run_keeps reg _ h₂).1 i _ hi
  have hc₂ : cacheGet (cls, d, v) st₂.cache = some i := (run_keeps reg _ h₂).2.1 _ i hcache
  refine ⟨?_, ?_, ?_, ?_⟩
  · simp only [step, hi₂]
  · simp only [step, hi₂]
  · simp only [step, hi₂]
    cases lookup reg d v n <;> rfl
  · simp only [step, hc₂, hi₂]

/-- Lookups never cross domains: an answer of `get_schema(n, N, d)` is a schema registered under exactly
domain `d` and name `n`, in force at `N` … -/
theorem lookup_respects_domain (reg : List Schema) (d N n : Nat) (s : Schema)
    (h : lookup reg d N n = some s) : s ∈ reg ∧ s.domain = d ∧ s.name = n ∧ s.since ≤ N :=
  lookup_some h

/-- … so a name of another domain is not found: `'Abs' in opset_ai_onnx_ml3`, `'LabelEncoder' in opset18` are
`False` exactly because no schema of that (domain, name) is registered … -/
theorem lookup_other_domains_name (reg : List Schema) (d N n : Nat)
    (h : ∀ s ∈ reg, ¬ (s.domain = d ∧ s.name = n)) : lookup reg d N n = none := by
  cases hl : lookup reg d N n with
  | none => rfl
  | some s => exact absurd ⟨(lookup_some hl).2.1, (lookup_some hl).2.2.1⟩ (h s (lookup_some hl).1)

/-- … and in a domain without registered schemas (a custom domain, `Opset("my.domain", 1)`) every dynamic
lookup fails, whatever the name and version — `'Abs' in Opset("my.domain", 1)` is `False`. -/
theorem lookup_unknown_domain (reg : List Schema) (d : Nat) (hd : ∀ s ∈ reg, s.domain ≠ d) (N n : Nat) :
    lookup reg d N n = none :=
  lookup_other_domains_name reg d N n fun s hs h => hd s hs h.1

/-! ### non-vacuity of the history / domain theorems (`enc "BitwiseAnd"` = 1522547307904140230880868,
`enc "ai.onnx.ml"` = 1668935622595193164688748, `enc "LabelEncoder"` = 102866753728027417819308385650,
`enc "Abs"` = 21062259, `enc "my.domain"` = 6741793614061243558254, `enc "Opset"` = 1440700654964) -/

/-- the history of seeded change C17-4, on the model: probing `BitwiseAnd` in opset 13 (absent) does not
change the later answers in opset 18 (present), nor the other way round; `Opset("", 13)` is a singleton -/
example :
    (run schemas OState.empty
      [.new 1440700654964 1 13, .contains 0 1522547307904140230880868,
       .new 1440700654964 1 18, .contains 1 1522547307904140230880868, .getitem 1 1522547307904140230880868,
       .contains 0 1522547307904140230880868, .getattr 0 1522547307904140230880868,
       .new 1440700654964 1 13]).2 =
      [.inst 0 1 13, .bool false, .inst 1 1 18, .bool true, .op (some (1522547307904140230880868, 18, 1)),
       .bool false, .attributeError, .inst 0 1 13] := by decide +kernel

/-- non-default domains: `opset_ai_onnx_ml3.LabelEncoder` — static and dynamic agree on a live schema;
`'Abs' in opset_ai_onnx_ml3` is `False`; nothing is found in the custom domain `my.domain` -/
example :
    agrees (lookup schemas 1668935622595193164688748 3 102866753728027417819308385650)
      (resolve classes 1668935622595193164688748 3 102866753728027417819308385650) = true ∧
    (lookup schemas 1668935622595193164688748 3 102866753728027417819308385650).isSome = true ∧
    lookup schemas 1668935622595193164688748 3 21062259 = none ∧
    (∀ s ∈ schemas, s.domain ≠ 6741793614061243558254) := by decide +kernel

/-! ## `Opset._prepare_inputs` -/

/-- Trimming is determined by what it leaves: any prefix that does not end in `None` and from which the
arguments differ only by trailing `None`s is the result. -/
theorem prepare_unique {α} (xs ys : List (Option α)) (k : Nat)
    (h : xs = ys ++ List.replicate k none) (hl : ys.getLast? ≠ some none) :
    prepareInputs xs = ys := by
  subst h
  induction k with
  | zero =>
    rw [List.replicate_zero, List.append_nil]
    rcases List.eq_nil_or_concat ys with rfl | ⟨zs, z, rfl⟩
    · rfl
    · cases z with
      | none => simp at hl
      | some v => simpa using prepare_append_some zs v
  | succ k ih => rwa [List.replicate_succ', ← List.append_assoc, prepare_append_none]

/-- **prepare_trims_only_trailing.**  For every argument list: the result is a prefix of the arguments;
what was dropped is a block of `None`s at the end; the result does not end in `None` (all trailing `None`s
are gone); and trimming is idempotent. -/
theorem prepare_trims_only_trailing {α} (xs : List (Option α)) :
    prepareInputs xs <+: xs ∧
    (∃ k, xs = prepareInputs xs ++ List.replicate k none) ∧
    (prepareInputs xs).getLast? ≠ some none ∧
    prepareInputs (prepareInputs xs) = prepareInputs xs := by
  have hlast : (prepareInputs xs).getLast? ≠ some none := by
    intro h
    have := List.head?_dropWhile_not Option.isNone xs.reverse
    rw [prepareInputs, List.getLast?_reverse] at h
    simp [h] at this
  -- what is dropped is `takeWhile isNone` of the reversed list: all `None`
  have hdec : ∃ k, xs = prepareInputs xs ++ List.replicate k none := by
    refine ⟨(xs.reverse.takeWhile Option.isNone).length, ?_⟩
    have hnone : xs.reverse.takeWhile Option.isNone = List.replicate _ none :=
      List.eq_replicate_iff.mpr ⟨rfl, fun x hx => by simpa using List.all_eq_true.mp List.all_takeWhile x hx⟩
    have := congrArg List.reverse (List.takeWhile_append_dropWhile (p := Option.isNone) (l := xs.reverse))
    rw [List.reverse_reverse, List.reverse_append, hnone, List.reverse_replicate] at this
    exact this.symm
  exact ⟨hdec.elim fun k hk => ⟨_, hk.symm⟩, hdec, hlast, prepare_unique _ _ 0 (by simp) hlast⟩

/-- A supplied input is never dropped and keeps its position. -/
theorem prepare_keeps_supplied {α} (xs : List (Option α)) (i : Nat) (v : α)
    (h : xs[i]? = some (some v)) : (prepareInputs xs)[i]? = some (some v) := by
  rcases (prepare_trims_only_trailing xs).2.1 with ⟨k, hk⟩
  by_cases hi : i < (prepareInputs xs).length
  · rw [hk, List.getElem?_append_left hi] at h; exact h
  · rw [hk, List.getElem?_append_right (Nat.le_of_not_lt hi)] at h
    rw [List.getElem?_replicate] at h
    split at h <;> simp at h

example : prepareInputs [some 1, none, some 3, none, none] = [some 1, none, some 3] := by decide
example : prepareInputs ([none, none] : List (Option Nat)) = [] := by decide

/-! ## eager call with defaults left out = the bare node -/

/-- **eager_default_eq_bare_node.**  Let method `m` mirror schema `s`.  Whenever the eager call
`opsetN.Op(*args, **kw)` reaches the runtime, the node it builds (i) is bound to exactly the schema `s`
(name, since_version — hence the opset the one-node model imports — and domain), and (ii) denotes, for
every attribute of `s`, the same value as the *bare* node `make_node(Op, inputs, **kw)` that carries only
the attributes the caller wrote: an attribute the caller left out is either not put on the node at all
(Python default `None`, filtered by `value is not None`) or put there with the value the schema declares
as its default.  (`meaning` reads an explicit `None` like an absent attribute, as both
`_prepare_model_and_inputs_for_eager` and `onnx.helper.make_node` do.) -/
theorem eager_default_eq_bare_node {α} (m : Method) (s : Schema) (hm : mirrors m s = true)
    (args : List (Option α)) (kw : List (Nat × Dflt)) (node : Node α)
    (h : eagerNode m args kw = some node) :
    node.key = s.key ∧ meaning s node.attrs = meaning s kw := by
  obtain ⟨hcall, hattrs, -, -, hfa⟩ := mirrors_spec hm
  obtain ⟨hkey, ⟨bound, hbk, hfk⟩, -⟩ := eagerNode_some h
  refine ⟨hkey.trans hcall, List.map_congr_left fun a ha => ?_⟩
  -- attribute `a` is a keyword-only parameter with the schema's default; it is bound, then forwarded as `a=a`
  have hka := attrsOk_find hattrs a ha
  have hb := bindKw_find hbk a.name _ hka
  simp only [attrMeaning, fwdKw_find (hfa ▸ hfk) a.name _ hka, hb.1]
  cases hkw : findKw a.name kw with
  | some v => rfl
  | none =>
    -- left out by the caller: not required (the call went through), so the default is the schema's
    have hne := hb.2 hkw
    simp only [attrDefault] at hne ⊢
    cases hreq : a.required with
    | true => simp [hreq] at hne
    | false => simp only [Option.getD_none, Bool.false_eq_true, if_false]; cases a.dflt <;> rfl

/-- **Inputs of the eager node.**  Let `m` mirror `s` and let its positional parameter names be pairwise
distinct (Python guarantees it: a duplicate parameter name is a `SyntaxError`, and the source parsed).
Whenever `opsetN.Op(*args, **kw)` reaches the runtime, the node's inputs are the caller's arguments in
order, padded with `None` for every omitted optional input, with only the trailing `None`s removed
(`prepare_trims_only_trailing` says what that means): no input is dropped, duplicated, or reordered,
variadic arguments follow in place. -/
theorem eager_inputs_trim_only_trailing {α} (m : Method) (s : Schema) (hm : mirrors m s = true)
    (hnd : (m.pos.map Prod.fst).Nodup)
    (args : List (Option α)) (kw : List (Nat × Dflt)) (node : Node α)
    (h : eagerNode m args kw = some node) :
    node.inputs = prepareInputs (args ++ List.replicate (m.pos.length - args.length) none) := by
  obtain ⟨-, -, hfi, hup, -⟩ := mirrors_spec hm
  obtain ⟨-, -, pos, extra, ins, hbp, hex, hfv, hin⟩ := eagerNode_some h
  obtain ⟨hnames, hvals⟩ := bindPos_spec hbp
  -- the forwarded names are the bound ones, each bound once: forwarding reads back the bound values, then `*vararg`
  have hfwd : m.pos.map (fun p => (p.1, false)) = pos.map (fun p => (p.1, false)) := by
    have := congrArg (List.map fun n => (n, false)) hnames.symm
    rwa [List.map_map, List.map_map] at this
  have hins : ins = args ++ List.replicate (m.pos.length - args.length) none := by
    rw [hfi, expectedFwdInputs, hfwd,
      fwdValues_named pos extra pos _ fun p hp => findPos_of_nodup (hnames ▸ hnd) hp] at hfv
    cases hv : m.vararg with
    | some v => simpa [hv, fwdValues, hvals] using hfv.symm
    | none => simpa [hv, fwdValues, hex hv, ← hvals] using hfv.symm
  rw [hin, ← hins]
  cases hu : m.usesPrepare with
  | true => rfl
  | false =>
    -- without `_prepare_inputs` nothing is forwarded at all
    rw [hup.resolve_left (by simp [hu])] at hfv
    cases hfv
    rfl

/-- Corollary, the form in the property text: **all** defaults left out ⇒ the node denotes the schema
defaults, i.e. what the node without those attributes computes. -/
theorem eager_omitted_defaults_denote_schema_defaults {α} (m : Method) (s : Schema)
    (hm : mirrors m s = true) (args : List (Option α)) (node : Node α)
    (h : eagerNode m args [] = some node) :
    node.key = s.key ∧ meaning s node.attrs = s.attrs.map (fun a => (a.name, a.dflt)) := by
  have := eager_default_eq_bare_node m s hm args [] node h
  refine ⟨this.1, ?_⟩
  rw [this.2]
  simp [meaning, attrMeaning, findKw]

/-! ### non-vacuity: concrete instances of the hypotheses above (names: `enc "Softmax"` = 95542502935585144,
`enc "Clip"` = 5426145648, `enc "axis"` = 5930248563, `enc "Loop"` = 5577338736) -/

/-- `Opset13.Softmax` resolves (own definition), `get_schema("Softmax", 13, "")` is in force and not
deprecated, the method mirrors it, and the eager call `opset13.Softmax(x)` with `axis` left out reaches the
runtime with the single attribute `axis = -1`, which is the schema default. -/
example :
    (match resolve classes 1 13 95542502935585144, lookup schemas 1 13 95542502935585144 with
     | some m, some s =>
       !s.deprecated && mirrors m s &&
       (match eagerNode m [some (0 : Nat)] [] with
        | some node => node.inputs.length == 1 &&
            (match node.attrs with
             | [(k, .sc (.int v))] => k == 5930248563 && v == -1
             | _ => false) &&
            (match s.attrs with
             | [a] => a.name == 5930248563 && a.dflt.beq (.sc (.int (-1)))
             | _ => false)
        | none => false)
     | _, _ => false) = true := by decide +kernel

/-- `Opset20.Clip` is *inherited* from `Opset13`; `opset20.Clip(x, None, hi)` keeps the inner `None`,
`opset20.Clip(x, lo)` and `opset20.Clip(x, lo, None)` give the same two inputs. -/
example :
    (match resolve classes 1 20 5426145648 with
     | some m =>
       m.call.2.1 == 13 &&
       ((eagerNode m [some (0 : Nat), none, some 2] []).map (·.inputs)) == some [some 0, none, some 2] &&
       ((eagerNode m [some (0 : Nat), some 1] []).map (·.inputs)) == some [some 0, some 1] &&
       ((eagerNode m [some (0 : Nat), some 1, none] []).map (·.inputs)) == some [some 0, some 1]
     | none => false) = true := by decide +kernel

example : (match resolve classes 1 20 5426145648 with
     | some m => decide ((m.pos.map Prod.fst).Nodup)
     | none => false) = true := by decide +kernel

/-- a call that does not reach the runtime: `opset13.Loop()` (required positionals missing) -/
example : (match resolve classes 1 13 5577338736 with
     | some m => (eagerNode m ([] : List (Option Nat)) []).isNone
     | none => false) = true := by decide +kernel

/-! ## translation: `separate_input_attributes_from_arguments(…, fill_defaults=False)` (as of /repo b7afd5e) -/

/-- **translation_defaults_left_out.**  In translation (`Converter._translate_call_expr`, `tape_builder`:
`fill_defaults=False`) every attribute put on the node is a value the caller wrote — positionally or under
its own keyword; an attribute left out of the call is left out of the node (for every signature, every
call, every setting of the two `allow_extra_*` switches). -/
theorem translation_defaults_left_out (params : List SigParam) (args : List Nat)
    (kwargs : List (Nat × Nat)) (aKw aArgs : Bool) (ins : List (Option Nat)) (attrs : List (Nat × Nat))
    (h : separate params args kwargs false aKw aArgs = .ok (ins, attrs)) :
    ∀ kv ∈ attrs, kv.2 ∈ args ∨ kv ∈ kwargs := by
  obtain ⟨slots, hv, rest, tp, hl, -⟩ := separate_ok h
  exact (sepLoop_spec hl).2.2 rfl

/-- **translation_inputs.**  Either mode.  The node's inputs are the slot list the loop builds — one slot
per input parameter up to the last one supplied: a value the caller wrote (positionally or by keyword) or a
`None` placeholder for an omitted optional input, so that an input given by keyword keeps its position
(`op.Clip(x, max=hi)` is `Clip(x, "", hi)`) — trimmed exactly as `Opset._prepare_inputs` trims in eager
mode: `inputs = prepareInputs slots`.  Hence (by `prepare_trims_only_trailing`) only trailing placeholders
are dropped, nothing is reordered, and the two front ends agree on the input list of the same call. -/
theorem translation_inputs (params : List SigParam) (args : List Nat) (kwargs : List (Nat × Nat))
    (fill aKw aArgs : Bool) (ins : List (Option Nat)) (attrs : List (Nat × Nat))
    (h : separate params args kwargs fill aKw aArgs = .ok (ins, attrs)) :
    ∃ slots attrs' hv rest tp,
      sepLoop kwargs fill params args [] [] false 0 = .ok (slots, attrs', hv, rest, tp) ∧
      ins = prepareInputs slots ∧
      (∀ x ∈ slots, x = none ∨ ∃ v, x = some v ∧ (v ∈ args ∨ ∃ k, (k, v) ∈ kwargs)) := by
  obtain ⟨slots, hv, rest, tp, hl, rfl⟩ := separate_ok h
  obtain ⟨hw, ⟨pre, hpre, hlast⟩, -⟩ := sepLoop_spec hl
  refine ⟨slots, attrs, hv, rest, tp, hl, ?_, hw⟩
  -- dropping the `tp` counted placeholders is trimming: what precedes them does not end in `None`
  rw [prepare_unique slots pre tp hpre hlast, hpre]
  simp

/-- `fill_defaults=True` differs from it only by *adding* declared attribute defaults: same inputs, the
no-fill attributes are a sublist, and every additional entry is `(p.name, default of p)` for an attribute
parameter `p` of the signature.  So both denote the same node meaning wherever a default is the schema's. -/
theorem translation_fill_adds_only_defaults (params : List SigParam) (args : List Nat)
    (kwargs : List (Nat × Nat)) (aKw aArgs : Bool) (ins : List (Option Nat)) (attrsT : List (Nat × Nat))
    (h : separate params args kwargs true aKw aArgs = .ok (ins, attrsT)) :
    ∃ attrsF, separate params args kwargs false aKw aArgs = .ok (ins, attrsF) ∧
      List.Sublist attrsF attrsT ∧
      ∀ kv ∈ attrsT, kv ∈ attrsF ∨
        ∃ p ∈ params, p.isInput = false ∧ p.name = kv.1 ∧ p.dflt = some kv.2 := by
  unfold separate at h ⊢
  split at h
  · cases h
  · next hkw =>
    rw [if_neg hkw]
    split at h
    · cases h
    · next hl =>
      split at h
      · cases h
      · next hx =>
        cases h
        -- the no-fill loop takes the same steps, collecting a sublist of the attributes; the two guards do not look at them
        obtain ⟨F', hF, hrel⟩ := sepLoop_fill_vs_nofill params kwargs params (fun p hp => hp) args [] [] [] false 0
          ⟨List.Sublist.refl _, nofun⟩ hl
        exact ⟨F', by rw [hF]; simp only [hx]; rfl, hrel.1, hrel.2⟩

/-- `Gemm`-like signature `(A, B, C?, *, alpha=1.0, transA=0)`: `op.Gemm(a, b, transA=t)` in translation
gives inputs `[a, b]` and the single attribute `transA = t`; with `fill_defaults=True` also `alpha = default`.
`Clip`-like `(input, min?, max?)`: `op.Clip(x, max=hi)` gives `[x, None, hi]`; `op.Clip(x)` gives `[x]`. -/
example :
    separate [⟨1, true, false, true, none⟩, ⟨2, true, false, true, none⟩, ⟨3, true, false, false, none⟩,
              ⟨4, false, false, false, some 900⟩, ⟨5, false, false, false, some 901⟩]
      [10, 11] [(5, 12)] false false true = .ok ([some 10, some 11], [(5, 12)]) ∧
    separate [⟨1, true, false, true, none⟩, ⟨2, true, false, true, none⟩, ⟨3, true, false, false, none⟩,
              ⟨4, false, false, false, some 900⟩, ⟨5, false, false, false, some 901⟩]
      [10, 11] [(5, 12)] true false true = .ok ([some 10, some 11], [(4, 900), (5, 12)]) ∧
    separate [⟨1, true, false, true, none⟩, ⟨2, true, false, false, none⟩, ⟨3, true, false, false, none⟩]
      [10] [(3, 12)] false false true = .ok ([some 10, none, some 12], []) ∧
    separate [⟨1, true, false, true, none⟩, ⟨2, true, false, false, none⟩, ⟨3, true, false, false, none⟩]
      [10] [] false false true = .ok ([some 10], []) := ⟨rfl, rfl, rfl, rfl⟩

/-! ## which opset the exported model imports (`_set_default_opset`, `append_node`, `_to_model_proto`) -/

/-- **translated_import_is_class_version.**  Whatever `default_opset=` was declared (or none) and whatever the
body does: if translation succeeds, then for *every* call `opsetN.Op(...)` of a default-domain opset class in
the body, the function's `''` import is `N` — the version of the class the call was written with (and with
which eager mode evaluates it, `methods_mirror`). -/
theorem translated_import_is_class_version (declared : Option (Nat × Nat)) (evs : List Ev) (st : ConvState)
    (h : convert declared evs = .ok st) (v : Nat) (hv : Ev.call 1 v ∈ evs) :
    findTok 1 st.imports = some v :=
  (convert_ok h).1 v hv

/-- **two_default_domain_versions_refused.**  A body that calls two default-domain opset classes of different
versions is never translated, for any declared default opset: the converter stops with "Two distincts opset
were used".  (Other domains only warn: the first version wins — modelled in `appendNode`, checked by the tie.) -/
theorem two_default_domain_versions_refused (declared : Option (Nat × Nat)) (evs : List Ev) (v₁ v₂ : Nat)
    (h₁ : Ev.call 1 v₁ ∈ evs) (h₂ : Ev.call 1 v₂ ∈ evs) (hne : v₁ ≠ v₂) :
    convert declared evs = .error .twoOpsets := by
  cases hc : convert declared evs with
  | ok st =>
    -- the one `''` import would be both versions
    have e := ((convert_ok hc).1 v₁ h₁).symm.trans ((convert_ok hc).1 v₂ h₂)
    exact absurd (Option.some.inj e) hne
  | error err => rw [convert_error h₁ hc]

/-- **exported_import_means_class.**  `to_model_proto(opset_version=opt)` of a translated function whose body
calls a default-domain opset class of version `v`: the option is ignored — the exported imports are the
function's, and the `''` import is `v` for every `opt` and every installed onnx. -/
theorem exported_import_means_class (declared : Option (Nat × Nat)) (evs : List Ev) (st : ConvState)
    (h : convert declared evs = .ok st) (v : Nat) (hv : Ev.call 1 v ∈ evs) (opt : Option Nat) (current : Nat) :
    exportImports st.imports opt current = st.imports ∧
      findTok 1 (exportImports st.imports opt current) = some v := by
  have hi := translated_import_is_class_version declared evs st h v hv
  unfold exportImports
  rw [hi]
  exact ⟨rfl, hi⟩

/-- **option_applies_only_without_default_domain.**  If the body consists of calls of non-default-domain opset
classes only (no `''` call, nothing translated through the default opset), no `''` import is inferred, and the
exported model imports `''` at the `opset_version` option if given, else at the installed `onnx_opset_version()`
— appended after the function's own imports, which are unchanged. -/
theorem option_applies_only_without_default_domain (declared : Option (Nat × Nat)) (evs : List Ev)
    (st : ConvState) (h : convert declared evs = .ok st)
    (hno : ∀ e ∈ evs, ∃ d v, e = Ev.call d v ∧ d ≠ 1) (opt : Option Nat) (current : Nat) :
    exportImports st.imports opt current =
      st.imports ++ [(1, match opt with | some k => k | none => current)] := by
  have hnone : findTok 1 st.imports = none := by
    cases hf : findTok 1 st.imports with
    | none => rfl
    | some w =>
      -- a `''` import would come from a `''` call or from the default opset; the body has neither
      rcases (convert_ok h).2 (1, w) (findTok_mem' hf) with h1 | h1
      · obtain ⟨d, v, he, hd⟩ := hno _ h1
        cases he; exact absurd rfl hd
      · obtain ⟨d, v, he, -⟩ := hno _ h1
        cases he
  unfold exportImports
  simp only [hnone]
  cases opt <;> rfl

/-- non-vacuity (domains: `''` = 1, `ai.onnx.ml` = 1668935622595193164688748): `opset_ai_onnx_ml3.Scaler` then
`opset11.Relu` then `opset_ai_onnx_ml2.Binarizer`, no declared default: imports `[ml 3, '' 11]`, one version
conflict warning, option ignored; two `ml3` calls only: the option (15) applies; `opset11` then `opset13`: refused;
`default_opset=opset18` with `opset11.Relu`: refused; `-x` with nothing to infer a default from: refused -/
example :
    (convert none [.call 1668935622595193164688748 3, .call 1 11, .call 1668935622595193164688748 2]).map
        (fun st => (exportImports st.imports (some 15) 27, st.conflicts)) =
      .ok ([(1668935622595193164688748, 3), (1, 11)], [(1668935622595193164688748, 3, 2)]) ∧
    (convert none [.call 1668935622595193164688748 3, .call 1668935622595193164688748 3]).map
        (fun st => exportImports st.imports (some 15) 27) = .ok [(1668935622595193164688748, 3), (1, 15)] ∧
    convert none [.call 1 11, .call 1 13] = .error .twoOpsets ∧
    convert (some (1, 18)) [.call 1 11] = .error .twoOpsets ∧
    convert none [.call 1668935622595193164688748 3, .implicit] = .error .noDefault :=
  ⟨rfl, rfl, rfl, rfl, rfl⟩

/-! ## names are numbers: the encoding on the regenerated name set -/

/-- **name_codes_faithful.**  For every text that occurs in the regenerated tables — operator, class, module,
parameter, attribute and domain names, string defaults — the number the Python translator wrote for it is the
model's `enc` of that text (the kernel evaluates `enc` on each string: table fact `names_enc`). -/
theorem name_codes_faithful (p : String × Nat) (hp : p ∈ names) : enc p.1 = p.2 := by
  have := List.all_eq_true.mp names_enc p hp
  exact beq_iff_eq.mp this

/-- **name_codes_injective.**  On that name set the encoding is injective: two texts of the tables with the same
code are the same text — so every equality of codes the model tests (`s.name == n`, `m.call.1 == s.name`,
`findKw`, …) is the equality of names the Python code tests (table fact `names_increasing`). -/
theorem name_codes_injective (p q : String × Nat) (hp : p ∈ names) (hq : q ∈ names)
    (h : enc p.1 = enc q.1) : p.1 = q.1 := by
  rw [name_codes_faithful p hp, name_codes_faithful q hq] at h
  rw [increasing_inj names_increasing hp hq h]

/-- non-vacuity: the name set contains `"Clip"`, `""`, `"ai.onnx.ml"`, `"Opset13"` with the codes used everywhere -/
example : names.contains ("Clip", 5426145648) = true ∧ names.contains ("", 1) = true ∧
    names.contains ("ai.onnx.ml", 1668935622595193164688748) = true ∧
    names.contains ("Opset13", 94417758123733299) = true := by decide +kernel

/-! ## the one-node model an eager call is run as (`_prepare_model_and_inputs_for_eager`), end to end -/

/-- `aiOnnx` is the code of the text `"ai.onnx"` (the kernel evaluates `enc` on the string). -/
example : enc "ai.onnx" = aiOnnx := by decide +kernel

/-- **schema_keys_unique.**  In the installed registry a key (name, since_version, domain) names one schema
(table fact `keys_ascending`: the registry is listed by strictly increasing key). -/
theorem schema_keys_unique (s s' : Schema) (hs : s ∈ schemas) (hs' : s' ∈ schemas) (hk : s.key = s'.key) :
    s = s' :=
  keys_unique_of_ranks keys_ascending s hs s' hs' hk

/-- **get_schema_at_since.**  If `get_schema(n, N, d)` is `s`, then `get_schema(n, s.since_version, d)` is `s`
itself: a model that imports the domain at a schema's own since_version denotes exactly that schema. -/
theorem get_schema_at_since (d N n : Nat) (s : Schema) (h : lookup schemas d N n = some s) :
    lookup schemas d s.since n = some s :=
  lookup_at_since (keys_unique_of_ranks keys_ascending) h

/-- non-vacuity: `get_schema("Clip", 20, "")` is `Clip(13)`, and `get_schema("Clip", 13, "")` is the same key -/
example : (lookup schemas 1 20 5426145648).map Schema.key = some (5426145648, 13, 1) ∧
    (lookup schemas 1 13 5426145648).map Schema.key = some (5426145648, 13, 1) := by decide +kernel

/-- **eager_model_resolves_to_class_schema.**  Take any generated class `OpsetN` (any domain) and any name `n`
that resolves on it to a method `m`, and any eager call `opsetN.n(*args, **kw)` that gets as far as the runtime.
The one-node model handed to the runtime has `op_type = n`, the class's domain, and imports that domain at the
`since_version` of the schema `s = get_schema(n, N, domain)` — and the runtime, resolving the node under that
import, finds `s` itself: eager evaluation through the static
method and the dynamic lookup `opsetN[n]` (which translation uses) denote the same operator version.  A schema
marked deprecated never gets this far (the class offers a raising stub). -/
theorem eager_model_resolves_to_class_schema {α} (c : Cls) (hc : c ∈ classes) (n : Nat) (m : Method)
    (hr : resolve classes c.domain c.version n = some m) (im : List ((Nat × Nat) × Nat))
    (args : List (Option α)) (kw : List (Nat × Dflt)) (M : EagerModel α)
    (h : eagerRun schemas im m args kw = some M) :
    ∃ s, lookup schemas c.domain c.version n = some s ∧ s.deprecated = false ∧
      M.opType = n ∧ M.domain = c.domain ∧ M.opsetImport = (c.domain, s.since) ∧
      lookup schemas M.domain M.opsetImport.2 M.opType = some s := by
  obtain ⟨node, hcall⟩ := eagerRun_some h
  obtain ⟨s, hs, hdep, -, -, hrun⟩ :=
    eagerRun_of_cell (keys_unique_of_ranks keys_ascending) (hr ▸ cell_all c hc n) hcall im
  cases h.symm.trans hrun
  obtain ⟨-, hd, hn, -⟩ := lookup_some hs
  refine ⟨s, hs, hdep, hn, hd, by simp only [modelOf, hd], ?_⟩
  simp only [modelOf, hd, hn]
  exact get_schema_at_since _ _ _ _ hs

/-- **eager_run_reaches_runtime.**  On the generated classes the `get_schema(<literals>)` statement of a method
body never raises: whenever Python binding and forwarding succeed (`eagerCall`), the call reaches the runtime,
with the node's inputs named by position (`""` for `None`), the non-`None` keywords as attributes, and the
non-`None` inputs fed. -/
theorem eager_run_reaches_runtime {α} (c : Cls) (hc : c ∈ classes) (n : Nat) (m : Method)
    (hr : resolve classes c.domain c.version n = some m) (im : List ((Nat × Nat) × Nat))
    (args : List (Option α)) (kw : List (Nat × Dflt)) (node : Node α)
    (h : eagerCall m args kw = some node) :
    ∃ M, eagerRun schemas im m args kw = some M ∧ M.inputNames = renameFrom 0 node.inputs ∧
      M.attrs = dropNone node.attrs ∧ M.feeds = feedsFrom 0 node.inputs := by
  obtain ⟨s, -, -, -, -, hrun⟩ :=
    eagerRun_of_cell (keys_unique_of_ranks keys_ascending) (hr ▸ cell_all c hc n) h im
  exact ⟨_, hrun, rfl, rfl, rfl⟩

/-- **eager_model_inputs.**  For the one-node model of any schema, inputs and attributes: the node has one input
name per argument; position `j` is `""` exactly when argument `j` is `None` and `input{j}` otherwise (so an inner
`None` keeps the later inputs at their schema positions); the session is fed exactly the non-empty names, in
order, and `input{k}` is fed the caller's argument number `k`. -/
theorem eager_model_inputs {α} (im : List ((Nat × Nat) × Nat)) (s : Schema) (ins : List (Option α))
    (attrs : List (Nat × Dflt)) :
    let M := modelOf im s ins attrs
    M.inputNames.length = ins.length ∧
      (∀ j (hj : j < ins.length), M.inputNames[j]? = some ((ins[j]'hj).map (fun _ => j))) ∧
      M.feeds.map Prod.fst = M.inputNames.filterMap id ∧
      (∀ k v, (k, v) ∈ M.feeds → ins[k]? = some (some v)) := by
  refine ⟨renameFrom_length 0 ins, ?_, feeds_names 0 ins, ?_⟩
  · intro j hj
    have := renameFrom_get 0 ins j hj
    simp only [Nat.zero_add] at this
    exact this
  · intro k v hkv
    have := (feedsFrom_mem 0 ins k v hkv).2
    simpa only [Nat.sub_zero] using this

/-- **eager_model_means_written_attributes.**  For every generated class and every name resolving on it: the
attributes of the one-node model an eager call is run as — the forwarded keywords minus those whose value is
`None` — mean, for every attribute of the schema in force, exactly what the bare node carrying only the
caller's own keywords means.  (`eager_default_eq_bare_node` pushed through the `value is not None` filter; the
distinctness of parameter names it needs is the kernel-checked table fact `params_distinct`.) -/
theorem eager_model_means_written_attributes {α} (c : Cls) (hc : c ∈ classes) (n : Nat) (m : Method)
    (hr : resolve classes c.domain c.version n = some m) (im : List ((Nat × Nat) × Nat))
    (args : List (Option α)) (kw : List (Nat × Dflt)) (M : EagerModel α)
    (h : eagerRun schemas im m args kw = some M) :
    ∃ s, lookup schemas c.domain c.version n = some s ∧ meaning s M.attrs = meaning s kw := by
  obtain ⟨node, hcall⟩ := eagerRun_some h
  obtain ⟨s, hs, -, hmir, hnode, hrun⟩ :=
    eagerRun_of_cell (keys_unique_of_ranks keys_ascending) (hr ▸ cell_all c hc n) hcall im
  cases h.symm.trans hrun
  refine ⟨s, hs, ?_⟩
  -- the keys of the forwarded attributes are the keyword-only parameter names, pairwise distinct
  obtain ⟨c', hc', -, -, hmem, -⟩ := resolve_some hr
  have hnd : (m.kwonly.map Prod.fst).Nodup :=
    (List.nodup_append.mp (distinctNat_nodup
      (List.all_eq_true.mp (List.all_eq_true.mp params_distinct c' hc') m hmem))).2.1
  obtain ⟨-, ⟨_, -, hfk⟩, -⟩ := eagerNode_some hnode
  have hkeys : (node.attrs.map Prod.fst).Nodup := by
    rw [fwdKw_keys hfk, (mirrors_spec hmir).2.2.2.2, List.map_map]; exact hnd
  rw [← (eager_default_eq_bare_node m s hmir args kw node hnode).2]
  exact List.map_congr_left fun a _ => congrArg _ (attrMeaning_dropNone hkeys a)

/-- **eager_and_translated_denote_same_schema** (the property's last sentence, end to end, **default domain `''`
only**: in the other domains `IRFunction.append_node` lets the first version seen win and only warns about a later
different one — `appendNode` — so the import need not be the class version there and the statement would be false;
those domains are covered by `eager_model_resolves_to_class_schema` on the eager side and by the tie T8/T11 on the
translation side).
Let `OpsetN` be a generated default-domain class, `n` a name resolving on it, and take (i) any eager call
`opsetN.n(*args, **kw)` that reaches the runtime, with its one-node model `M`, and (ii) any script function whose
body calls `opsetN` and whose translation succeeds, exported with any `opset_version` option under any installed
onnx.  Then the exported model imports `''` at `N`; `get_schema(n, N, '')` — the schema a node `n` of the exported
model denotes — is some `s`; and the runtime resolving `M`'s node under `M`'s own import finds that same `s`.
Composition of `exported_import_means_class` and `eager_model_resolves_to_class_schema`. -/
theorem eager_and_translated_denote_same_schema {α} (c : Cls) (hc : c ∈ classes) (hd : c.domain = 1) (n : Nat)
    (m : Method) (hr : resolve classes c.domain c.version n = some m) (im : List ((Nat × Nat) × Nat))
    (args : List (Option α)) (kw : List (Nat × Dflt)) (M : EagerModel α)
    (h : eagerRun schemas im m args kw = some M)
    (declared : Option (Nat × Nat)) (evs : List Ev) (st : ConvState)
    (ht : convert declared evs = .ok st) (hv : Ev.call 1 c.version ∈ evs) (opt : Option Nat) (current : Nat) :
    findTok 1 (exportImports st.imports opt current) = some c.version ∧
      ∃ s, lookup schemas 1 c.version n = some s ∧
        lookup schemas M.domain M.opsetImport.2 M.opType = some s := by
  rcases eager_model_resolves_to_class_schema c hc n m hr im args kw M h with ⟨s, hs, _, _, _, _, hk⟩
  refine ⟨(exported_import_means_class declared evs st ht c.version hv opt current).2, s, ?_, hk⟩
  rw [← hd]; exact hs

/-- non-vacuity and a concrete reading: `opset20.Clip(x, None, hi)` (inherited from `Opset13`) reaches the
runtime as the model `Clip`, domain `''`, inputs `input0, "", input2`, import `('', 13)`, ir_version 10 = max(7, 10),
feeds `input0, input2`; `opset_ai_onnx_ml3.LabelEncoder(x)` imports `('ai.onnx.ml', 2)` with ir_version
max(6, 10). -/
example : (match resolve classes 1 20 5426145648 with
    | some m => (eagerRun schemas irMap m ([some 7, none, some 9] : List (Option Nat)) []).map
        (fun M => (M.opType, M.domain, M.inputNames, M.opsetImport, M.irVersion, M.feeds)) ==
          some (5426145648, 1, [some 0, none, some 2], (1, 13), 10, [(0, 7), (2, 9)])
    | none => false) = true := by decide +kernel

example : (match resolve classes 1668935622595193164688748 3 102866753728027417819308385650 with
    | some m => (eagerRun schemas irMap m ([some 7] : List (Option Nat)) []).map
        (fun M => (M.inputNames, M.opsetImport, M.irVersion)) ==
          some ([some 0], (1668935622595193164688748, 2), 10)
    | none => false) = true := by decide +kernel

/-- `ir_version` floor and fallback of `select_ir_version` on the regenerated `OP_SET_ID_VERSION_MAP`: opset 1
of `''` needs ir 3 → 10; a listed newer pair keeps its own; an unlisted (domain, version) gets the newest
`ai.onnx` one. -/
example : selectIrVersion irMap 1 1 = 10 ∧ selectIrVersion irMap 25 1 = 13 ∧
    selectIrVersion irMap 999 1 = maxIrOf aiOnnx irMap ∧ 10 ≤ maxIrOf aiOnnx irMap := by decide +kernel

end OV.Props.C17
