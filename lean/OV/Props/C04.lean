import OV.Lemmas.C03Env
import OV.Lemmas.C03State
import OV.Lemmas.C03Uses
import OV.Lemmas.C03FragA
import OV.Lemmas.C03Check
import OV.Lemmas.C04Closed
import OV.Lemmas.C04Total
import OV.Lemmas.C04Pipeline
import OV.Lemmas.C04Order
import OV.Gen.C04Pipeline
/-!
# C04 — `optimize()` is total on valid models; result valid, same interface; overridable
initializer-inputs are never folded

Property theorems only.  Model: `OV.Model.C03Pass` (`gateCascade`, `processNode`, `visitGraph`,
`foldGraph`).  The statements are about the model function itself (all graphs, all states, all
option values).  Clauses that were false of the code before a fix in /repo (known_findings.d/C04.json:
C04-D1, -D2, -D3, -D5, -D6, -D12, -D13) are kept as regression witnesses: the graph that refuted the
clause, evaluated by the kernel, and replayed on the real code by the harness.
-/
namespace OV.Props.C04
open OV.C03

/-! ### interface -/

theorem replaceOutputs_length (nodes : List Node) : ∀ (outs : List Name) (st : St),
    (replaceOutputs st nodes outs).2.length = outs.length :=
  fun outs st => (replaceOutputs_spec nodes outs st).1.length_eq

theorem visitGraph_signature (ctx : Ctx) : ∀ (d : Nat) (st : St) (g : Graph),
    (visitGraph ctx d st g).2.inputs = g.inputs ∧ (visitGraph ctx d st g).2.outputs.length = g.outputs.length
  | 0, _, _ => ⟨rfl, rfl⟩
  | d + 1, st, g => by
    simp only [visitGraph]
    split
    · exact ⟨rfl, rfl⟩
    · exact ⟨rfl, by simp only [Graph.outputs, replaceOutputs_length]⟩

theorem pruneInits_signature (removed : List Name) : ∀ (d : Nat) (g : Graph),
    (pruneInits removed d g).inputs = g.inputs ∧ (pruneInits removed d g).outputs = g.outputs
  | 0, _ => ⟨rfl, rfl⟩
  | _ + 1, _ => ⟨rfl, rfl⟩

/-- **Interface.**  For every option tuple, annotation table and graph, the folding pass returns a
graph with the same formal inputs (names and order — no input is ever dropped, added or renamed,
in particular an initializer-input stays an input) and the same NUMBER of outputs.  Not stated
here: that the outputs keep their declared names and types — in the real pass a redirected output
takes the declared name (`sym_value.name = output.name`) on the value object, which this model (a
value *is* its name, no types) does not represent; names, order, element types and declared shapes of
the outputs are checked per generated model by the harness (open finding C04-D4 is a violation of
exactly that unproved clause, in onnx_ir's CSE pass). -/
theorem fold_signature (ctx : Ctx) (info : List (Name × VInfo)) (g : Graph) :
    (foldGraph ctx info g).2.inputs = g.inputs ∧ (foldGraph ctx info g).2.outputs.length = g.outputs.length := by
  simp only [foldGraph]
  have h1 := visitGraph_signature ctx maxDepth (initialState g info) g
  have h2 := pruneInits_signature (visitGraph ctx maxDepth (initialState g info) g).1.removed maxDepth
    (visitGraph ctx maxDepth (initialState g info) g).2
  exact ⟨h2.1.trans h1.1, by rw [h2.2]; exact h1.2⟩

/-- `o'` may stand where output `o` stood: it is `o` itself, or the value recorded as equal to it
(`symMap o = alias o'`) that is produced by a node of this very graph. -/
def OutOk (sym : List (Name × SymVal)) (nodes : List Node) (o o' : Name) : Prop :=
  o' = o ∨ (lookupA sym o = some (.alias o') ∧ nodes.any (·.outputs.contains o') = true)

/-- Every output of the result is either the original output or the alias the pass recorded for
it, produced in the same graph — never anything else (`_sym_value_can_replace_graph_output`).
A statement about the model's value identities (what C03 `output_replacement_sound` needs), not about
declared output names or types. -/
theorem replaceOutputs_only_aliases (nodes : List Node) : ∀ (outs : List Name) (st : St),
    Forall2 (OutOk st.sym nodes) outs (replaceOutputs st nodes outs).2 :=
  fun outs st => (replaceOutputs_spec nodes outs st).1

/-! ### the graph-input guard -/

/-- **Graph-input guard** (`any(x.is_graph_input() …)`; a one-guard unfolding of the cascade, listed for the tie, not a
headline result): once a node reaches the gate cascade (no
partial evaluator replaced it), a single input that is a graph input — in particular an
initializer that is also a graph input, whatever its default value — makes the cascade keep the
node, for every size limit, `should_fold` callback, oracle table and state. -/
theorem graph_input_guard (ctx : Ctx) (st : St) (n : Node) (version : Nat) (x : Name)
    (hx : some x ∈ n.inputs) (hg : st.isGraphInput x = true) :
    ∃ st', gateCascade ctx st n version = (.keep n, st') := by
  rcases gateCascade_eq ctx st n version with ⟨h, nd, e⟩ | ⟨_, _, _, _, hgi, _⟩
  · exact ⟨_, e⟩
  · rw [hgi x hx] at hg
    cases hg

/-- one-guard unfolding of `emitFold`, used by `generic_fold_requires` -/
theorem emitFold_requires (ctx : Ctx) (st st' : St) (n n' : Node) (c : CInfo) (r : Repl)
    (h : emitFold ctx st n c = (.repl n' r, st')) : n.outputs.length = 1 := by
  unfold emitFold at h
  by_cases hl : n.outputs.length = 1
  · exact hl
  · have : (n.outputs.length != 1) = true := by simpa using hl
    simp [this] at h

/-- What the cascade demands before it folds: **every** input is a known constant and **none** is a
graph input, the node has no bodies and exactly one output, and the reference evaluator answered
with a single tensor.  (These are the hypotheses of C03 `generic_fold_sound`; the size limits,
the blacklist and `should_fold` only ever *restrict* folding further.) -/
theorem generic_fold_requires (ctx : Ctx) (st st' : St) (n n' : Node) (version : Nat) (r : Repl)
    (h : gateCascade ctx st n version = (.repl n' r, st')) :
    (∀ x, some x ∈ n.inputs → st.isGraphInput x = false ∧ (st.constOf x).isSome = true) ∧
    n.outputs.length = 1 ∧ n.subs = [] ∧ n.isOp "Constant" = false ∧
    ∃ c st1, lookupA ctx.oracle (oracleKey st1 n version) = some (.single c) := by
  rcases gateCascade_eq ctx st n version with ⟨_, _, e⟩ | ⟨_, c, hnc, hsubs, hgi, hconst, hor, e⟩
  · rw [e] at h
    cases h
  · rw [e] at h
    exact ⟨fun x hx => ⟨hgi x hx, hconst x hx⟩, emitFold_requires ctx _ st' n n' c r h, hsubs, hnc, c, st, hor⟩

/-! ### overridable initializer-inputs are never read as constants (after fix 3131a7c) -/

/-- **Initializer-inputs are never constants for an evaluator** (a one-guard unfolding of `_get_numpy_value` after commit
3131a7c): for a graph input — whatever `const_value` its default carries — every way an evaluator
reads a constant (`_get_numpy_value` with any dtype filter and size limit, `_get_bool_value`)
answers `None`; `get_shape_value` can then only come from the symbolic map.  Together with
`graph_input_guard` no default is ever folded into the graph. -/
theorem initializer_input_never_constant (st : St) (x : Name) (hg : st.isGraphInput x = true)
    (dtype limit : Option Nat) :
    numpyValue st (some x) dtype limit = none ∧ boolValue st (some x) = none ∧
    shapeValue st (some x) = (match st.getSym (some x) with | some (.shape s) => some s | _ => none) := by
  have h1 : ∀ d l, numpyValue st (some x) d l = none := by
    intro d l
    simp only [numpyValue, hg, if_true]
  refine ⟨h1 dtype limit, ?_, ?_⟩
  · simp only [boolValue, h1]
  · simp only [shapeValue, h1]
    cases st.getSym (some x) with
    | none => rfl
    | some sv => cases sv <;> rfl

/-- **Node-level shape inference never sees the default of an overridable input**
(`_do_inference.get_constant_value` = `_get_numpy_value(x, size_limit=20)`): the constant data handed
to ONNX shape inference for a node never contains a graph input, whatever default value that input
carries.  (A static shape derived from a default would be wrong as soon as the caller overrides it.) -/
theorem inference_never_reads_graph_input_default (st : St) (n : Node) (x : Name) (c : CInfo)
    (h : (x, c) ∈ inferenceData st n) : st.isGraphInput x = false := by
  simp only [inferenceData, List.mem_filterMap] at h
  obtain ⟨y, _, hy⟩ := h
  cases hg : st.isGraphInput x with
  | false => rfl
  | true =>
    exfalso
    cases hc : inferenceConstant st y with
    | none => simp [hc] at hy
    | some c' =>
      simp only [hc, Option.map_some, Option.some.injEq, Prod.mk.injEq] at hy
      obtain ⟨hyx, _⟩ := hy
      subst hyx
      have := (initializer_input_never_constant st y hg none (some 20)).1
      simp only [inferenceConstant] at hc
      rw [this] at hc
      exact absurd hc (by simp)

/-- (one-guard unfolding of the registry lookup) `SplitToSequence` folding is only attempted from opset 18 on (commit 37e2648), so
`Split(num_outputs=…)` — an attribute that exists from opset 18 — is never emitted below it. -/
theorem split_to_sequence_needs_opset18 (n : Node) (v : Nat) (hop : n.op = "SplitToSequence") (hv : v < 18) :
    (lookupEvaluator n v).isNone = true := by
  unfold lookupEvaluator
  split
  · rfl
  · simp only [hop]
    have : ¬ (v ≥ 18) := by omega
    simp [this]

/-! ### no dangling reference (generic-folding fragment) -/

/-- **No dangling reference on the generic-folding fragment** (`replace_node` +
`_clear_unused_initializers`): for graphs whose nodes carry no bodies, are not `Constant` nodes and
have no registered partial evaluator, every initializer the pass pops is neither a formal input nor
an output of the graph nor an input of any node of the result — for every option tuple and
annotation table, unconditionally (no execution hypothesis).  Proof: the use counts the pass
maintains are upper bounds of the real number of occurrences (`BkA.lb`), so "no uses" implies
"not mentioned". -/
theorem no_dangling_fragment (ctx : Ctx) (hnf : ctx.isFunction = false) (info : List (Name × VInfo)) (g : Graph)
    (hplain : ∀ n ∈ g.nodes, Plain n) (hnofresh : ∀ k : Nat, cnt ("%" ++ toString k) g.nodes = 0) :
    ∀ x, x ∈ (foldGraph ctx info g).1.removed →
      g.inputs.contains x = false ∧ g.outputs.contains x = false ∧
      ∀ n ∈ (visitGraph ctx maxDepth (initialState g info) g).2.nodes, n.inputs.contains (some x) = false := by
  rw [foldGraph_fst, maxDepth_succ]
  exact no_dangling_aux 7 ctx hnf info g hplain hnofresh

/-- **Well-formedness is preserved on the generic-folding fragment** (`fold_wf`, one level): for every
option tuple and annotation table, the nodes of the result are a sub-list of the input's nodes in
their original order — nothing is reordered, duplicated or invented — hence the order condition
(`orderOK`: no node mentions an output of a later node, i.e. single assignment + definition before
use among the nodes) carries over from the input to the result.  The statement is about the node list
returned by `visitGraph`, i.e. BEFORE the popped initializers are pruned; that pruning leaves no
dangling reference is the separate theorem `no_dangling_fragment`.  (Superseded on the larger fragment A
by `fold_closed_fragmentA` / `fold_ssa_fragmentA`, which include pruning.) -/
theorem fold_wf_fragment (ctx : Ctx) (hnf : ctx.isFunction = false) (info : List (Name × VInfo)) (g : Graph)
    (hplain : ∀ n ∈ g.nodes, Plain n) (hord : orderOK g.nodes = true) :
    List.Sublist (visitGraph ctx maxDepth (initialState g info) g).2.nodes g.nodes ∧
    orderOK (visitGraph ctx maxDepth (initialState g info) g).2.nodes = true := by
  rw [maxDepth_succ]
  have hsub := result_nodes_sublist 7 ctx hnf info g hplain
  exact ⟨hsub, orderOK_sublist hsub hord⟩

/-- `o = Mul(a, b); y = Sub(x, o)` with initializers `a`, `b`: a graph of the fragment -/
def gWF : Graph :=
  .mk ["x"] [("a", "t1"), ("b", "t2")]
    [.mk "Mul" "" [some "a", some "b"] ["o"] [] [], .mk "Sub" "" [some "x", some "o"] ["y"] [] []] ["y"]

/-- non-vacuity of `fold_wf_fragment` / `no_dangling_fragment`: `gWF` satisfies their hypotheses -/
example : (∀ n ∈ gWF.nodes, Plain n) ∧ orderOK gWF.nodes = true := by
  refine ⟨?_, by decide⟩
  intro n hn
  simp only [gWF, Graph.nodes, List.mem_cons, List.mem_nil_iff, or_false] at hn
  rcases hn with rfl | rfl
  · exact ⟨rfl, by decide, fun v => rfl, by decide⟩
  · exact ⟨rfl, by decide, fun v => rfl, by decide⟩

/-! ### fragment A: alias substitution, output replacement, one-node replacements -/

/-- **No dangling reference on fragment A** (generic folding + `Constant` + `Identity` aliasing with input
substitution and graph-output replacement + `Concat`/`Dropout` → `Identity` replacements): for every
option tuple and annotation table, every initializer the pass pops is neither a formal input, nor an
output of the *result*, nor an input of any node of the *result* — unconditionally (no execution
hypothesis).  Proof (`visitNodes_bkA`): the use counts follow the alias substitution
(`decUse x; incUse y`) and `replace_node` (`decUses` old inputs, `incUses` new ones) and stay upper
bounds of the real occurrences; every recorded alias target is an input of an emitted node, so a
graph output replaced by its alias never names a popped initializer. -/
theorem no_dangling_fragmentA (ctx : Ctx) (hnf : ctx.isFunction = false) (info : List (Name × VInfo)) (g : Graph)
    (hfr : ∀ n ∈ g.nodes, FragBk n) (hnofresh : ∀ k : Nat, cnt ("%" ++ toString k) g.nodes = 0) :
    ∀ x, (foldGraph ctx info g).1.removed.contains x = true →
      g.inputs.contains x = false ∧
      (foldGraph ctx info g).2.outputs.contains x = false ∧
      ∀ n ∈ (visitGraph ctx maxDepth (initialState g info) g).2.nodes, n.inputs.contains (some x) = false := by
  rw [foldGraph_fst, foldGraph_snd, (pruneInits_signature _ _ _).2, maxDepth_succ]
  exact prune_ok_fragmentA 7 ctx hnf info g hfr hnofresh

/-- **Scope well-formedness is preserved on fragment A** (`fold_wf`, one level): if every node input of
the graph is an initializer, a formal input, a name of the enclosing scope `sc` or an output of an
*earlier* node, and every graph output is defined (`GraphClosed`), then the same holds of the graph
`FoldConstantsPass` returns — after alias substitution into later inputs, replacement of nodes by
initializers or by `Identity` nodes, replacement of graph outputs by their aliases **and** removal of
the popped initializers.  For every option tuple and annotation table; no execution hypothesis.
Proof: `visitNodes_clA` (invariant `ClA`: emitted ++ pending nodes are closed over the scope extended
by the initializers registered so far; every recorded alias target is already in scope; every
originally defined name stays defined), then `no_dangling_fragmentA` to drop the popped names from
the scope (`ClosedL_restrict`). -/
theorem fold_closed_fragmentA (ctx : Ctx) (hnf : ctx.isFunction = false) (info : List (Name × VInfo)) (g : Graph)
    (hfr : ∀ n ∈ g.nodes, FragBk n) (hnofresh : ∀ k : Nat, cnt ("%" ++ toString k) g.nodes = 0)
    (sc : List Name) (hcl : GraphClosed sc g) : GraphClosed sc (foldGraph ctx info g).2 :=
  foldGraph_closedA ctx hnf info g hfr hnofresh sc hcl

/-- **Single assignment is preserved on fragment A** (one level): if the initializer names and the node outputs of the
graph are pairwise distinct and no node output is a formal input (`SSA`), the same holds of the graph
`FoldConstantsPass` returns.  For every option tuple and annotation table; no execution hypothesis.  Proof: through the
node loop the registered initializers followed by the outputs of emitted ++ pending nodes stay a *permutation* of the
original node outputs (`ClA.perm`: a kept or replaced node keeps its outputs, a folded node's output moves to the
initializers), and pruning only removes initializers. -/
theorem fold_ssa_fragmentA (ctx : Ctx) (hnf : ctx.isFunction = false) (info : List (Name × VInfo)) (g : Graph)
    (hfr : ∀ n ∈ g.nodes, FragBk n) (hnofresh : ∀ k : Nat, cnt ("%" ++ toString k) g.nodes = 0)
    (hssa : SSA g) : SSA (foldGraph ctx info g).2 :=
  foldGraph_ssaA ctx hnf info g hfr hnofresh hssa

/-- **Totality on fragment A** (`fold_total`, one level): for every graph in single-assignment form whose nodes are in
fragment A, every option tuple, annotation table and oracle table, the model of `FoldConstantsPass` ends without an error
state: no partial evaluator raises (their index operations are modelled with their Python failure modes),
`register_initializer` never meets a name that is already registered (no renaming step is ever needed on this fragment;
since 6fc3d91 a taken name is renamed instead of raising — `fold_step_never_raises`), `replace_node` is never given lists of different lengths, and the model's own step fuel
(`64 + 16·|nodes| + 16·|uses|`) is never exhausted.  The fuel argument is a rank: an `Identity` node is never replaced, a
`Cast` only by an `Identity`, any other node by an `Identity` or a `Cast` (`EvShape`), so each node costs at most three
steps (`visitNodes_total`, invariant `TotA`). -/
theorem fold_total_fragmentA (ctx : Ctx) (hnf : ctx.isFunction = false) (info : List (Name × VInfo)) (g : Graph)
    (hfr : ∀ n ∈ g.nodes, FragBk n) (hssa : SSA g) : (foldGraph ctx info g).1.err = none :=
  foldGraph_totalA ctx hnf info g hfr hssa

def tokWA : CInfo := { tok := "t1", dtype := 1, shape := [], ints := none, isZero := some false }
def tokWB : CInfo := { tok := "t2", dtype := 1, shape := [], ints := none, isZero := some false }

def ctxWA : Ctx :=
  { inLimit := 8192, outLimit := 262144, shouldFold := none, imports := [("", 18)], isFunction := false,
    toks := [("t1", tokWA), ("t2", tokWB)],
    oracle := [("Mul||18|t1&t2|", .single { tok := "f", dtype := 1, shape := [], ints := none, isZero := some false })] }

def infoWA : List (Name × VInfo) :=
  [("a", { dtype := some 1, shape := some [], const := some tokWA }), ("b", { dtype := some 1, shape := some [], const := some tokWB }),
   ("x", { dtype := some 1 })]

/-- `c = Constant; o = Mul(a, b); s = Sub(x, o); y = Identity(s); z = Div(y, c); w = Concat(z); u = Dropout(w);
k = Cast<1>(x); q = CastLike(u, x)`, outputs `y, u, k, q`; `x` is annotated with element type 1 -/
def gWFA : Graph :=
  .mk ["x"] [("a", "t1"), ("b", "t2")]
    [.mk "Constant" "" [] ["c"] [("value", .tensor "t1")] [],
     .mk "Mul" "" [some "a", some "b"] ["o"] [] [],
     .mk "Sub" "" [some "x", some "o"] ["s"] [] [],
     .mk "Identity" "" [some "s"] ["y"] [] [],
     .mk "Div" "" [some "y", some "c"] ["z"] [] [],
     .mk "Concat" "" [some "z"] ["w"] [("axis", .int 0)] [],
     .mk "Dropout" "" [some "w"] ["u"] [] [],
     .mk "Cast" "" [some "x"] ["k"] [("to", .int 1)] [],
     .mk "CastLike" "" [some "u", some "x"] ["q"] [] []] ["y", "u", "k", "q"]

/-- every rewriting step of fragment A fires on `gWFA`: `a`, `b` are popped, `o` is registered -/
example : (foldGraph ctxWA infoWA gWFA).2.nodes.map (fun n => (n.op, n.inputs, n.outputs)) =
      [("Constant", [], ["c"]), ("Sub", [some "x", some "o"], ["s"]), ("Identity", [some "s"], ["y"]),
       ("Div", [some "s", some "c"], ["z"]), ("Identity", [some "z"], ["w"]), ("Identity", [some "z"], ["u"]),
       ("Identity", [some "x"], ["k"]), ("Cast", [some "z"], ["q"])] ∧
    (foldGraph ctxWA infoWA gWFA).2.outputs = ["s", "z", "k", "q"] ∧ (foldGraph ctxWA infoWA gWFA).2.inits = [("o", "f")] ∧
    (foldGraph ctxWA infoWA gWFA).1.removed = ["b", "a"] := by decide +kernel

theorem fresh_ne2 (k : Nat) (s : String) (hs : s.toList.head? ≠ some '%') : "%" ++ toString k ≠ s :=
  fresh_ne_of_head k s hs

/-- non-vacuity of `no_dangling_fragmentA` / `fold_closed_fragmentA`: `gWFA` satisfies their hypotheses -/
theorem gWFA_hyps : (∀ n ∈ gWFA.nodes, FragBk n) ∧ (∀ k : Nat, cnt ("%" ++ toString k) gWFA.nodes = 0) ∧ GraphClosed [] gWFA := by
  -- node classes and the absence of generated-looking names are read off the decidable check
  obtain ⟨h1, _, _, _, h5⟩ := fragAWFB_sound gWFA (by decide +kernel)
  exact ⟨fun n hn => (h1 n hn).toBk, h5, graphClosedB_sound (by decide +kernel)⟩

/-- …hence the conclusions hold of the result on `gWFA` -/
example : GraphClosed [] (foldGraph ctxWA infoWA gWFA).2 :=
  fold_closed_fragmentA ctxWA rfl infoWA gWFA gWFA_hyps.1 gWFA_hyps.2.1 [] gWFA_hyps.2.2

example : SSA gWFA := ⟨by decide, by decide⟩

example : (foldGraph ctxWA infoWA gWFA).1.err = none :=
  fold_total_fragmentA ctxWA rfl infoWA gWFA gWFA_hyps.1
    ⟨by decide, by decide⟩

example : SSA (foldGraph ctxWA infoWA gWFA).2 :=
  fold_ssa_fragmentA ctxWA rfl infoWA gWFA gWFA_hyps.1 gWFA_hyps.2.1
    ⟨by decide, by decide⟩

/-! ### regression witnesses of fixed findings -/

def ctxW (v : Nat) : Ctx :=
  { inLimit := 8192, outLimit := 262144, shouldFold := none, imports := [("", v)], isFunction := false, toks := [], oracle := [] }

def tokS : CInfo := { tok := "t0", dtype := 7, shape := [2], ints := some [2, 3], isZero := none }

/-- `Reshape(x:[2,3], s)` where `s = [2,3]` is an initializer **and** a graph input (C04-D1, fixed). -/
def gReshape : Graph :=
  .mk ["x", "s"] [("s", "t0")] [.mk "Reshape" "" [some "x", some "s"] ["y"] [] []] ["y"]

def infoReshape : List (Name × VInfo) :=
  [("x", { dtype := some 1, shape := some [.known 2, .known 3] }),
   ("s", { dtype := some 7, shape := some [.known 2], const := some tokS })]

/-- Regression witness of C04-D1 (fixed by 3131a7c): the `Reshape` fed by the initializer-input is
kept and the initializer stays. -/
theorem overridable_reshape_kept :
    (foldGraph (ctxW 18) infoReshape gReshape).2.nodes.map (fun n => (n.op, n.inputs)) = [("Reshape", [some "x", some "s"])] ∧
    (foldGraph (ctxW 18) infoReshape gReshape).2.inits.map (·.1) = ["s"] := by
  decide +kernel

def tokW : CInfo := { tok := "t0", dtype := 1, shape := [3], ints := none, isZero := none }

/-- `s = Shape(w)` with `w : float[3]` an initializer **and** a graph input. -/
def gShapeW : Graph :=
  .mk ["x", "w"] [("w", "t0")]
    [.mk "Shape" "" [some "w"] ["s"] [] [], .mk "Add" "" [some "x", some "x"] ["y"] [] []] ["s", "y"]

def infoShapeW : List (Name × VInfo) :=
  [("x", { dtype := some 1, shape := some [.known 3] }),
   ("w", { dtype := some 1, shape := some [.known 3], const := some tokW })]

/-- Regression witness of C04-D6 (fixed by a75a907): `Shape(w)` is still replaced by `Constant([3])`,
but the initializer `w` — which is also a formal input — stays. -/
theorem shape_of_initializer_input_keeps_default :
    (foldGraph (ctxW 18) infoShapeW gShapeW).2.nodes.map (·.op) = ["Constant", "Add"] ∧
    (foldGraph (ctxW 18) infoShapeW gShapeW).2.inits.map (·.1) = ["w"] := by
  decide +kernel

/-- **Overridable initializer-inputs keep their default** (after commits 3131a7c + a75a907): for every
option tuple, annotation table and graph, an initializer of the main graph that is also a formal
input is still an initializer of the result.  Proof: the set of formal inputs is written once
(`initialState`) and no step of the pass changes it; `_clear_unused_initializers` is the only place
that pops an initializer and it skips graph inputs (`Kept` invariant through `processNode`,
`applyRepl`, `visitNodes`, `visitGraph` at every nesting depth); folded results are only ever
*appended* to a graph's initializers.  Before a75a907 this statement was false
(witness `gShapeW`: `Shape(w)` → `Constant`, `w` popped; replayed on the real code as C04-D6). -/
theorem overridable_inputs_kept (ctx : Ctx) (info : List (Name × VInfo)) (g : Graph) (x : Name)
    (hx : x ∈ g.inputs) (hi : x ∈ g.inits.map (·.1)) :
    x ∈ (foldGraph ctx info g).2.inits.map (·.1) := by
  have hG : (collect Graph.inputs maxDepth g).contains x = true := by
    simp only [maxDepth, collect, List.contains_iff_mem, List.mem_append]
    exact Or.inl hx
  have hk := kept_visitGraph ctx maxDepth (initialState g info) g (initialState_kept g info)
  obtain ⟨p, hp, hpx⟩ := List.mem_map.mp hi
  rw [foldGraph_snd, maxDepth_succ] at *
  obtain ⟨added, hadd⟩ := visitGraph_inits ctx 7 (initialState g info) g
  simp only [pruneInits, Graph.inits] at hadd ⊢
  refine List.mem_map.mpr ⟨p, List.mem_filter.mpr ⟨?_, ?_⟩, hpx⟩
  · rw [hadd]
    exact List.mem_append_left _ hp
  · -- a popped name is not a formal input (`Kept`), and `x` is one
    rw [hpx]
    cases hc : (visitGraph ctx (7 + 1) (initialState g info) g).1.removed.contains x with
    | false => rfl
    | true => rw [hk.2 x (by simpa using hc)] at hG; exact absurd hG (by decide)

def stSplit : St :=
  { info := [("x", { dtype := some 1, shape := some [.known 6, .known 2] }), ("sp", { dtype := some 7, shape := some [] })] }

def nSplit : Node := .mk "SplitToSequence" "" [some "x", some "sp"] ["s"] [("axis", .int 0)] []

def isError : PRes → Bool
  | .error _ => true
  | _ => false

/-- Regression witness of C04-D2 (fixed by 5b73ec4): `SplitToSequence(x:[6,2], sp)` with a
non-constant scalar `sp` no longer raises — the node is kept. -/
theorem dynamic_scalar_split_kept :
    isError (processNode (ctxW 18) stSplit nSplit).1 = false := by
  decide +kernel

def tokTwo : CInfo := { tok := "t1", dtype := 7, shape := [], ints := some [2], isZero := some false }

/-- `SplitToSequence(x:[4,3], split = 2)` under opset 17. -/
def gSplit17 : Graph :=
  .mk ["x"] [("sp", "t1")] [.mk "SplitToSequence" "" [some "x", some "sp"] ["s"] [("axis", .int 0)] []] ["s"]

def infoSplit17 : List (Name × VInfo) :=
  [("x", { dtype := some 1, shape := some [.known 4, .known 3] }), ("sp", { dtype := some 7, shape := some [], const := some tokTwo })]

def usesNumOutputs (g : Graph) : Bool :=
  g.nodes.any fun n => n.op == "Split" && (n.attr "num_outputs").isSome

/-- Regression witness of C04-D3 (fixed by 37e2648): under opset 17 nothing is rewritten; under
opset 18 the same graph does get `Split(num_outputs=2)`. -/
theorem split_num_outputs_only_from_opset18 :
    usesNumOutputs (foldGraph (ctxW 17) infoSplit17 gSplit17).2 = false ∧
    usesNumOutputs (foldGraph (ctxW 18) infoSplit17 gSplit17).2 = true := by
  decide +kernel

def tokC : CInfo := { tok := "t0", dtype := 1, shape := [1, 2], ints := none, isZero := none }

def ctxClash : Ctx :=
  { inLimit := 8192, outLimit := 262144, shouldFold := none, imports := [("", 18)], isFunction := false,
    toks := [("t0", tokC)],
    oracle := [("SequenceConstruct||18|t0&t0|", .fail),
               ("Unsqueeze||18|t0&int:0|", .single { tok := "f1", dtype := 1, shape := [1, 1, 2], ints := none, isZero := none }),
               ("Concat||18|f1&f1|axis=i:0", .single { tok := "f2", dtype := 1, shape := [2, 1, 2], ints := none, isZero := none })] }

/-- `s = SequenceConstruct(c, c); t = ConcatFromSequence(s, axis=0, new_axis=1); y = Add(x, t)`, `c` an initializer. -/
def gClash : Graph :=
  .mk ["x"] [("c", "t0")]
    [.mk "SequenceConstruct" "" [some "c", some "c"] ["s"] [] [],
     .mk "ConcatFromSequence" "" [some "s"] ["t"] [("axis", .int 0), ("new_axis", .int 1)] [],
     .mk "Add" "" [some "x", some "t"] ["y"] [] []] ["y"]

def infoClash : List (Name × VInfo) :=
  [("x", { dtype := some 1, shape := some [.known 2, .known 1, .known 2] }),
   ("c", { dtype := some 1, shape := some [.known 1, .known 2], const := some tokC })]

/-- Regression witness of C04-D5 (fixed by b6866ae): the two `Unsqueeze` outputs are now named
`c_unsqueeze_0` / `c_unsqueeze_1`; both are folded without a name clash. -/
theorem repeated_element_no_nameclash :
    (foldGraph ctxClash infoClash gClash).1.err = none := by
  decide +kernel

/-! ### the whole `optimize_ir` pipeline -/

/-- the folding pass as the pipeline runs it: option values and annotations may differ from call to call -/
def foldPass (ctxOf : Graph → Ctx) (infoOf : Graph → List (Name × VInfo)) (g : Graph) : Graph × Bool :=
  ((foldGraph (ctxOf g) (infoOf g) g).2, (foldGraph (ctxOf g) (infoOf g) g).1.modified)

/-- **The interface survives the whole pipeline — RELATIVE TO CONTRACTS for all nine passes that are not the folding
pass** (`C : RelContracts Iface P`: inline, rewrite, remove-unused, lift constants, lift subgraph initializers,
deduplicate, CSE, OutputFix, NameFix are *assumed* to keep the interface; they are parameters, not modelled; one of
these contracts is observed false for the stronger "declared type kept" clause: C04-D4).  What is proved is the
composition and the folding pass's own part.  (`optimize_ir`: `[Inline]`, then `num_iterations ×` (fold, NameFix when
modified, rewrite, remove-unused), then remove-unused, lift constants, lift subgraph initializers, deduplicate, CSE,
OutputFix, NameFix — the order `OV.Model.C03Pass.optimizeIr` restates and `pipeline_order_matches_source` ties to the
source).  For every option tuple (`num_iterations`, `stop_if_no_change`, `inline`, and any size limits / `should_fold` /
opset imports / annotations the folding pass is run with, which may change from iteration to iteration): if each
onnx_ir pass and the rewrite pass keeps the interface (`RelContracts Iface`, the contract A-ir), then the result of the
pipeline has the same formal inputs in the same order, the same number of outputs, and every initializer that is also a
formal input — a default the caller may override — still has its initializer (`Iface`: input names/order, output COUNT,
defaults kept — not output names or types).  The folding pass needs no contract: its part is `fold_signature` +
`overridable_inputs_kept`, for all graphs. -/
theorem optimize_interface_contract (P : IrPasses) (C : RelContracts Iface P) (ctxOf : Graph → Ctx)
    (infoOf : Graph → List (Name × VInfo)) (o : OptOpts) (g : Graph) :
    Iface (optimizeIr P (foldPass ctxOf infoOf) o g) g := by
  refine optimizeIr_rel Iface Iface.refl Iface.trans P C _ (fun g1 => ?_) o g
  simp only [foldPass]
  exact ⟨(fold_signature _ _ g1).1, (fold_signature _ _ g1).2, overridable_inputs_kept _ _ g1⟩

/-- passes that really change the graph and satisfy the contracts: remove-unused drops `Identity` nodes, constant lifting
adds an initializer, NameFix renames nothing here -/
def demoPasses : IrPasses :=
  { inline := id, rewrite := fun g => (g, false),
    dce := fun g => (Graph.mk g.inputs g.inits (g.nodes.filter fun n => n.op != "Dropout") g.outputs, true),
    liftConstants := fun g => Graph.mk g.inputs (g.inits ++ [("lifted", "t9")]) g.nodes g.outputs,
    liftSubgraphInits := id, dedup := id, cse := id, outputFix := id, nameFix := id }

/-- non-vacuity of `optimize_interface_contract`: the contracts are satisfiable by passes that are not the identity … -/
theorem demoPasses_contracts : RelContracts Iface demoPasses :=
  { inline := fun g => Iface.refl g, rewrite := fun g => Iface.refl g,
    dce := fun g => ⟨rfl, rfl, fun _ _ h => h⟩,
    liftConstants := fun g => ⟨rfl, rfl, fun x _ h => by
      show x ∈ (g.inits ++ [("lifted", "t9")]).map (·.1)
      rw [List.map_append]
      exact List.mem_append_left _ h⟩,
    liftSubgraphInits := fun g => Iface.refl g, dedup := fun g => Iface.refl g, cse := fun g => Iface.refl g,
    outputFix := fun g => Iface.refl g, nameFix := fun g => Iface.refl g }

/-- … and on `gShapeW` (an overridable `w`, two iterations, the fold fires in the first) the pipeline keeps `x, w` and the
default of `w` while it rewrites the graph -/
example :
    (optimizeIr demoPasses (foldPass (fun _ => ctxW 18) (fun _ => infoShapeW)) ⟨2, true, true⟩ gShapeW).inputs = ["x", "w"] ∧
    (optimizeIr demoPasses (foldPass (fun _ => ctxW 18) (fun _ => infoShapeW)) ⟨2, true, true⟩ gShapeW).inits.map (·.1) = ["w", "lifted"] ∧
    (optimizeIr demoPasses (foldPass (fun _ => ctxW 18) (fun _ => infoShapeW)) ⟨2, true, true⟩ gShapeW).nodes.map (·.op) = ["Constant", "Add"] := by
  decide +kernel

/-! ### `visit_function` (commit 26dd9fc): initializers left in a function body -/

theorem foldFunction_eq (ctx : Ctx) (info : List (Name × VInfo)) (g : Graph) :
    foldFunction ctx info g =
      if (foldGraph ctx info g).1.err.isSome then foldGraph ctx info g
      else initsToConstants (foldGraph ctx info g).1 (foldGraph ctx info g).2 := by
  unfold foldFunction
  rcases foldGraph ctx info g with ⟨st, g'⟩
  rfl

/-- **A function body returned by the pass holds no initializer — under the hypothesis that the run ended without an
error (`err = none`)** (they would be dropped when the function is
serialized): whenever the pass ends without an error, for every option tuple, annotation table and body. -/
theorem foldFunction_no_initializers (ctx : Ctx) (info : List (Name × VInfo)) (g : Graph)
    (h : (foldFunction ctx info g).1.err = none) : (foldFunction ctx info g).2.inits = [] := by
  rw [foldFunction_eq] at h ⊢
  cases he : (foldGraph ctx info g).1.err.isSome with
  | false =>
    simp only [Bool.false_eq_true, if_false]
    exact initsToConstants_inits _ _
  | true =>
    simp only [he, if_true] at h
    rw [h] at he
    exact absurd he (by simp)

/-- **A function keeps its signature**: same formal inputs, same number of outputs, for all bodies and option tuples. -/
theorem foldFunction_signature (ctx : Ctx) (info : List (Name × VInfo)) (g : Graph) :
    (foldFunction ctx info g).2.inputs = g.inputs ∧ (foldFunction ctx info g).2.outputs.length = g.outputs.length := by
  rw [foldFunction_eq]
  split
  · exact fold_signature ctx info g
  · have h := initsToConstants_sig (foldGraph ctx info g).1 (foldGraph ctx info g).2
    have h2 := fold_signature ctx info g
    exact ⟨h.1.trans h2.1, by rw [h.2]; exact h2.2⟩

/-- **The clean-up keeps the body well-scoped** (full since commit a9715ec; before it the statement needed the hypothesis
"no output of the body is an initializer that no node reads", see `function_output_initializer_dropped_before_fix`): if
every node input of the body is an initializer, a formal input, a name of the enclosing scope or an output of an earlier
node and every output is defined, the same holds after the initializers that are still read **or are outputs of the body**
have become `Constant` nodes at the top of the body and the others have been dropped.  All bodies, all nesting depths of
the readers, no side condition. -/
theorem function_cleanup_closed (st : St) (g : Graph) (sc : List Name) (hcl : GraphClosed sc g) :
    GraphClosed sc (initsToConstants st g).2 :=
  initsToConstants_closed st g sc hcl

/-- **The clean-up keeps single assignment — under the hypothesis `hni` (no initializer is a formal input)**: initializer names and node outputs stay pairwise distinct and no node output
is a formal input, for bodies none of whose initializers is a formal input (function inputs have no defaults). -/
theorem function_cleanup_ssa (st : St) (g : Graph) (hssa : SSA g) (hni : ∀ x, x ∈ g.inits.map (·.1) → x ∉ g.inputs) :
    SSA (initsToConstants st g).2 :=
  initsToConstants_ssa st g hssa hni

/-- what an inlined `If` leaves in a function body: `u = Add(x, c); r = Mul(u, c)` with the branch's initializer `c`, and a
second initializer `d` nobody reads -/
def gBody : Graph :=
  .mk ["x"] [("c", "t1"), ("d", "t2")]
    [.mk "Add" "" [some "x", some "c"] ["u"] [] [], .mk "Mul" "" [some "u", some "c"] ["r"] [] []] ["r"]

/-- non-vacuity of `function_cleanup_closed` / `function_cleanup_ssa`: `gBody` satisfies the hypotheses, `c` becomes
a Constant node, `d` is dropped -/
example : GraphClosed [] gBody ∧ SSA gBody ∧ (∀ x, x ∈ gBody.inits.map (·.1) → x ∉ gBody.inputs) ∧
    (initsToConstants {} gBody).2.nodes.map (fun n => (n.op, n.outputs)) = [("Constant", ["c"]), ("Add", ["u"]), ("Mul", ["r"])] := by
  exact ⟨graphClosedB_sound (by decide), ⟨by decide, by decide⟩, by decide, by decide⟩

/-- the body `If(true){ output c, initializer c }` leaves after inlining: no node, the output is the initializer -/
def gOutInit : Graph := .mk ["x"] [("y", "t1")] [] ["y"]

/-- the clean-up as it was before commit a9715ec: only initializers that some node reads survive -/
def initsToConstantsBeforeFix (st : St) (g : Graph) : St × Graph :=
  let live := g.inits.filter fun (x, _) => readsName maxDepth g x
  if g.inits.isEmpty then (st, g) else
  (if live.isEmpty then st else { st with modified := true },
   Graph.mk g.inputs [] (live.map (fun (x, t) => mkNode "Constant" [] [x] [("value", .tensor t)]) ++ g.nodes) g.outputs)

/-- **Regression statement for C04-D13 (fixed by a9715ec).**  The *pre-fix* clean-up did not keep well-scoped bodies
well-scoped: on `gOutInit` (what inlining `If(true)` with a branch `output = initializer` leaves) it dropped the
initializer and the output was defined by nothing.  (Until the fix this was the negation of the full statement of
`function_cleanup_closed`; replayed on the real code as `w_c04d13`, which must now pass.) -/
theorem function_output_initializer_dropped_before_fix :
    ¬ (∀ (st : St) (sc : List Name) (g : Graph), GraphClosed sc g → GraphClosed sc (initsToConstantsBeforeFix st g).2) := by
  intro h
  have hcl : GraphClosed [] gOutInit := graphClosedB_sound (by decide)
  have h2 := (h {} [] gOutInit hcl).2 "y" (by simp [initsToConstantsBeforeFix, gOutInit, Graph.inits, Graph.outputs])
  revert h2
  simp [initsToConstantsBeforeFix, gOutInit, Graph.inits, Graph.outputs, Graph.inputs, Graph.nodes, readsName, maxDepth]

/-- … and the current clean-up keeps that output defined: the initializer becomes `y = Constant` -/
theorem function_output_initializer_kept :
    (initsToConstants {} gOutInit).2.nodes.map (fun n => (n.op, n.outputs)) = [("Constant", ["y"])] ∧
    (initsToConstants {} gOutInit).2.outputs = ["y"] ∧ (initsToConstants {} gOutInit).2.inits = [] := by
  decide +kernel

/-! ### finding C04-D12: equally named values in sibling branches -/

def tokTrue : CInfo := { tok := "tc", dtype := 9, shape := [], ints := some [1], isZero := some false }
def tokA : CInfo := { tok := "ta", dtype := 1, shape := [3], ints := none, isZero := none }

def ctxSib : Ctx :=
  { inLimit := 8192, outLimit := 262144, shouldFold := none, imports := [("", 18)], isFunction := false,
    toks := [("tc", tokTrue), ("ta", tokA)],
    oracle := [("Add||18|ta&ta|", .single { tok := "f", dtype := 1, shape := [3], ints := none, isZero := none })] }

/-- `a = Constant; t = Add(a, a); r = Mul(x, t)` -/
def takenBranch (a t r : Name) : Graph :=
  .mk [] [] [.mk "Constant" "" [] [a] [("value", .tensor "ta")] [], .mk "Add" "" [some a, some a] [t] [] [],
             .mk "Mul" "" [some "x", some t] [r] [] []] [r]

def otherBranch (s : Name) : Graph := .mk [] [] [.mk "Neg" "" [some "x"] [s] [] []] [s]

/-- `c = true; y1 = If(c){…t…}{…}; y2 = If(c){…t2…}{…}; y = Add(y1, y2)` — with `t2 = "t"` the two then-branches use the
same interior name, which sibling scopes may do -/
def gSibling (t2 : Name) : Graph :=
  .mk ["x"] []
    [.mk "Constant" "" [] ["c"] [("value", .tensor "tc")] [],
     .mk "If" "" [some "c"] ["y1"] [] [("then_branch", takenBranch "a1" "t" "r1"), ("else_branch", otherBranch "s1")],
     .mk "If" "" [some "c"] ["y2"] [] [("then_branch", takenBranch "a2" t2 "r2"), ("else_branch", otherBranch "s2")],
     .mk "Add" "" [some "y1", some "y2"] ["y"] [] []] ["y"]

def infoSib : List (Name × VInfo) := [("x", { dtype := some 1, shape := some [.known 3] })]

/-- **The fold step has no error exit** (since commit 6fc3d91, `_make_initializer_name_unique`): for every option tuple,
state, node and evaluator answer, registering the folded value never fails — a name that is already taken is made free
first (the folded value is renamed `<n>_<k>`; a graph output keeps its name and the earlier initializer is renamed).
Before the fix this was false: `register_initializer` raised on a taken name (finding C04-D12; the statement of
`fold_total_fragmentA` without its fragment hypothesis was refuted by `gSibling "t"`). -/
theorem fold_step_never_raises (ctx : Ctx) (st : St) (n : Node) (c : CInfo) (m : String) :
    (emitFold ctx st n c).1 ≠ PRes.error m :=
  emitFold_ne_error ctx st n c m

/-- the condition under which the pre-fix code raised: the display name of the value being folded is a registered name -/
def clashBeforeFix (st : St) (n : Node) : Bool := st.initDisplay.contains (st.display (n.outputs.headD ""))

/-- regression example (`decide` on two concrete states, NOT a universal statement): when the pre-fix code would have
raised, `makeRoom` makes the name registered afterwards a new one (`t_2`); for a graph output the holder is renamed -/
theorem rename_gives_unregistered_name :
    clashBeforeFix { initDisplay := ["t", "t_1"] } (.mk "Add" "" [] ["t"] [] []) = true ∧
    (makeRoom { initDisplay := ["t", "t_1"] } "t").display "t" = "t_2" ∧
    (makeRoom { initDisplay := ["t", "t_1"], gouts := ["t"], initNames := ["e"], dname := [("e", "t")] } "t").display "t" = "t" ∧
    (makeRoom { initDisplay := ["t", "t_1"], gouts := ["t"], initNames := ["e"], dname := [("e", "t")] } "t").display "e" = "t_2" ∧
    (makeRoom { initDisplay := ["t", "t_1"], gouts := ["t"], initNames := ["e"], dname := [("e", "t")] } "t").initDisplay = ["t_2", "t_1"] := by
  decide +kernel

/-- **Regression statement for C04-D12 (fixed by 6fc3d91).**  Two `If` nodes with a constant condition whose taken branches
both fold a value called `t` (sibling scopes may share names): the pass ends without an error, the second registration goes
through the renaming step and happens under `t_1` (the pre-fix model ended in `register_initializer: name already
registered` on this very graph; replayed on the real code as `w_c04d12`, which must now pass). -/
theorem sibling_branches_same_name_fold :
    (foldGraph ctxSib infoSib (gSibling "t")).1.err = none ∧
    (foldGraph ctxSib infoSib (gSibling "t")).1.initDisplay = ["t_1", "t"] ∧
    (foldGraph ctxSib infoSib (gSibling "t")).1.hist.contains "fold:rename" = true := by
  decide +kernel

/-- the same graph with distinct interior names is folded completely, without the renaming step -/
theorem sibling_branches_distinct_names_fold :
    (foldGraph ctxSib infoSib (gSibling "u")).1.err = none ∧ (foldGraph ctxSib infoSib (gSibling "u")).2.inits = [("t", "f"), ("u", "f")] ∧
    (foldGraph ctxSib infoSib (gSibling "u")).1.hist.contains "fold:rename" = false := by
  decide +kernel

/-! ### the pass order: source ↔ model -/

/-- **The modelled pass order is the pass order of the source** (translator tie; `OV.Gen.C04Pipeline` is regenerated from
`onnxscript/optimizer/_optimizer.py` and `_constant_folding.py` by `harness/c04_extract.py` on every run): the passes of
the iterated `PassManager`, the passes after it and the `if inline:` prefix are, name by name and in order, the lists
`loopSpec`, `tailSpec`, `inlineSpec` that `optimizeSpec` interprets; the loop is driven by `num_iterations` /
`stop_if_no_change`; `optimize_ir` does nothing else with the list; `FoldConstantsPass.call` runs `NameFixPass` itself
exactly when it modified the model (the `if r1.2 then P.nameFix …` of `iterStep`); the option defaults are `2, True, True`
(the option tuple of the non-vacuity example).  A pass added, dropped or moved in the source makes this theorem fail. -/
theorem pipeline_order_matches_source :
    OV.Gen.C04Pipeline.loopPasses = loopSpec.map PassId.srcName ∧
    OV.Gen.C04Pipeline.tailPasses = tailSpec.map PassId.srcName ∧
    OV.Gen.C04Pipeline.prefixPasses = inlineSpec.map PassId.srcName ∧
    OV.Gen.C04Pipeline.prefixThenRest = true ∧ OV.Gen.C04Pipeline.prefixGuard = "inline" ∧
    OV.Gen.C04Pipeline.loopSteps = "num_iterations" ∧ OV.Gen.C04Pipeline.loopEarlyStop = "stop_if_no_change" ∧
    OV.Gen.C04Pipeline.otherStatements = 0 ∧ OV.Gen.C04Pipeline.foldFixesNamesWhenModified = true ∧
    OV.Gen.C04Pipeline.defaultNumIterations = 2 ∧ OV.Gen.C04Pipeline.defaultStopIfNoChange = true ∧
    OV.Gen.C04Pipeline.defaultInline = true := by
  decide +kernel

/-- **The interface survives the pipeline as the source lists it — relative to the same nine pass contracts**:
`optimize_interface_contract` for the list-driven `optimizeSpec` (`optimizeSpec_eq`: interpreting the three lists *is*
`optimizeIr`). -/
theorem optimize_interface_source_order_contract (P : IrPasses) (C : RelContracts Iface P) (ctxOf : Graph → Ctx)
    (infoOf : Graph → List (Name × VInfo)) (o : OptOpts) (g : Graph) :
    Iface (optimizeSpec P (foldPass ctxOf infoOf) o g) g := by
  rw [optimizeSpec_eq]
  exact optimize_interface_contract P C ctxOf infoOf o g

/-! ### distinct outputs stay distinct -/

/-- **The output loop of `visit_graph` never makes two outputs equal** (`_sym_value_can_replace_graph_output` is
evaluated against the outputs *as already redirected*): if the outputs of a graph are pairwise distinct and recorded as
graph outputs in the state, the outputs after the redirection loop are pairwise distinct again — two outputs that copy
the same interior value are not both redirected to it: the first takes it, the second stays (`out:alreadyoutput`).  For
every symbolic map and node list, UNDER THE HYPOTHESES `outs.Nodup` and `outs ⊆ st.gouts`; at the level of the output loop
(`replaceOutputs`), not lifted to `foldGraph` (that the state reaching the loop still records all outputs is not proved).
About the model's value identities; declared output names and types are not in the model (checked per model). -/
theorem redirected_outputs_distinct (nodes : List Node) (outs : List Name) (st : St)
    (hnd : outs.Nodup) (hin : ∀ o, o ∈ outs → o ∈ st.gouts) : (replaceOutputs st nodes outs).2.Nodup :=
  (replaceOutputs_distinct nodes outs st hnd hin).1

/-- `t = Abs(x); o0 = Identity(t); o1 = Identity(t)`, outputs `o0, o1` -/
def gTwoCopies : Graph :=
  .mk ["x"] [] [.mk "Abs" "" [some "x"] ["t"] [] [], .mk "Identity" "" [some "t"] ["o0"] [] [],
                .mk "Identity" "" [some "t"] ["o1"] [] []] ["o0", "o1"]

/-- non-vacuity: on `gTwoCopies` both outputs are recorded aliases of `t`; only the first is redirected -/
example : (foldGraph (ctxW 18) [("x", { dtype := some 1, shape := some [.known 3] })] gTwoCopies).2.outputs = ["t", "o1"] := by
  decide +kernel

end OV.Props.C04
