import OV.Lemmas.C01Live
import OV.Lemmas.C01Names
import OV.Lemmas.C01Sim
import OV.Lemmas.C01SimIf
import OV.Lemmas.C01SimFor
import OV.Lemmas.C01SimNest
import OV.Model.C01Env
import OV.Lemmas.C01ExportSem
import OV.Lemmas.C01Eager
import OV.Lemmas.C01EagerRefuse
import OV.Lemmas.C01EagerEntry
import OV.Lemmas.C01Separate
import OV.Lemmas.C01SeparateVar
/-!
# C01 — script functions mean the same eagerly, as an ONNX graph, and as plain Python

Property theorems only.  Models: `OV.Model.C01Script` (source language + analysis.py), `C01Sem` (the source
read as plain Python over tensors), `C01Graph` (emitted graph + `evalGraph`), `C01Convert` (converter.py).

The property itself is the refinement

    convert f = .ok g → ∀ S fuel args vs, evalFunc S fuel f args = some vs → ∃ fuel', evalGraph S fuel' g args = some vs

(`convert_correct`).  It is proved for straight-line functions incl. parallel assignment
(`convert_correct_partial`), for assignments with `if`/`else` nested to any depth
(`convert_correct_ite_partial`), and for those plus top-level `for i in range(n)` and `while t` loops with or
without a trailing `if b: break` (`convert_correct_for_partial`: loop-carried state, captured outer values, zero
trips; by induction on the trip count resp. the fuel), and for loops nested in loops and branches to any depth
(`convert_correct_nested_partial`).  In general it is still **false for the code as it is**: `castable_lost_at_if_witness` (C01-D24).
Fixed in /repo, the model follows: C01-D23 / D25 (4304e8f / 87ad64d; regression examples), C01-D31 (9b326d7:
`loop_variable_live_after_loop_refused`), C01-D33 (9f69276: `non_last_return_refused`), C01-D27 (ddfea30:
`while_break_keeps_condition_witness`), C01-D39 (0fa00ae: `while_does_not_capture_infinite_loop_witness`).
What *is* proved, for all inputs and every operator meaning `S` (the refinement theorems assume of `S`: `Constant` total
and `Identity` the identity, for control flow also `hTL hT hNat hNot hAnd`; operators are otherwise uninterpreted):

* `exprs_read_only_used_vars`   — `_used_vars` is sound for expression evaluation;
* `liveness_sound`              — the liveness equations of analysis.py (as fixed by 4304e8f) are sound for every
                                   statement kind, loops and trailing breaks included, under two hypotheses: `noBrkS`
                                   (`break` only where the converter accepts it) and `stableStmt` (the model's
                                   fuel-bounded fixpoints converged; decided per program by the driver)
                                   (the analysis decides which
                                   variables an `If` exports and which a `Loop` carries: an unsound live set
                                   silently drops an output); `liveness_sound_loopfree` is the unconditional
                                   special case;
* the refutation and the regression witnesses above, each from a concrete program that is replayed on the real
  converter (harness/corpus_c01.jsonl);
* one-guard restatements of model definitions, listed for reference, not as results: `static_if_never_on_a_local_name`,
  `static_if_takes_the_outer_value`, `env_lookup_closure_first`, `env_lookup_global_otherwise`,
  `assigned_name_never_resolved` (what carries weight there is the tie of `envLookup` / `foldStmt` to `script()`); helper:
  `evalGraph_fuel_mono`;
* the eager calling convention and `separate_input_attributes_from_arguments` (section "Eager" below), each theorem with
  its scope in its doc-comment: `eager_is_python` (calls CPython accepts, `sigMatch`, distinct names),
  `eager_arrays_entry_is_evalFunc_entry` (all-tensor signature, positional arrays only), `separate_*` (non-variadic resp.
  one variadic input; required parameters given; no unknown keyword; `fill_defaults=False`).
For loops with `break` below the top level (and for literal-valued variables / attribute parameters that are re-bound under
control flow: C01-D24) the equivalence of source and emitted graph on the generated stream is *tested* (eager vs onnxruntime vs NumPy interpreter), not proved.
-/
namespace OV.Props.C01
open OV.C01

/-- **`_used_vars` is sound.**  Evaluating an expression reads the store only at the names
`analysis._used_vars` reports: two stores that agree there give the same value (or both fail), for every
meaning of the operators. -/
theorem exprs_read_only_used_vars {V : Type} (S : Sem V) (ρ1 ρ2 : Store V) (e : Expr)
    (h : Agree (usedVars e) ρ1 ρ2) : evalExpr S ρ1 e = evalExpr S ρ2 e :=
  evalExpr_agree S ρ1 ρ2 e h

/-- **Liveness is sound on loop-free code.**  For every statement without `for`/`while` (straight-line code,
tuple and parallel assignment, `if`/`else` nested to any depth, `return`), every live-out set `lo`, and
every operator meaning: two stores that agree on `live_in` as computed by `do_liveness_analysis` lead to
runs that agree on `lo` — both fail, or both return the same values, or both fall through with stores
equal on every variable of `lo`. -/
theorem liveness_sound_loopfree {V : Type} (S : Sem V) (fuel : Nat) (st : Stmt) (lo : VSet)
    (ρ1 ρ2 : Store V) (hlf : loopFree st = true) (h : Agree (liveInStmt st lo) ρ1 ρ2) :
    OutRel lo (evalStmt S fuel st ρ1) (evalStmt S fuel st ρ2) :=
  liveStmt_sound S fuel st lo ρ1 ρ2 hlf h

/-- **Liveness is sound, loops included** (the equations as fixed by commit 4304e8f).  For every statement —
straight-line code, `if`/`else`, `for`, `while`, trailing `if b: break`, nested to any depth — every live-out
set `lo` and every operator meaning: two stores that agree on `live_in` as computed by
`do_liveness_analysis` lead to runs that agree on `lo`: both fail (or diverge within the fuel), or both
return the same values, or both fall through — or both leave through a `break` — with stores equal on every
variable of `lo`.  Hypotheses: `break` occurs only where the converter accepts it (`noBrkS`: as the last
statement of a loop body), and the model's fuel-bounded fixpoint iterations have converged (`stableStmt`,
a decidable check the harness evaluates on every generated program; the real code iterates until stable). -/
theorem liveness_sound {V : Type} (S : Sem V) (fuel : Nat) (st : Stmt) (lo : VSet)
    (ρ1 ρ2 : Store V) (hbrk : noBrkS st = true) (hstable : stableStmt st lo = true)
    (h : Agree (liveInStmt st lo) ρ1 ρ2) :
    OutRelB lo (evalStmt S fuel st ρ1) (evalStmt S fuel st ρ2) :=
  liveStmtB S fuel st lo ρ1 ρ2 hbrk hstable h

/-- Non-vacuity: a `for` loop whose body overwrites `x` and ends in `if b: break`, with `x` live afterwards:
the hypotheses hold and `x`, the bound `n` and the captured `y` are all live before the loop. -/
example :
    let st : Stmt := .for_ "i" true (.var "n") [.assign "x" (.var "y"), .assign "b" (.var "y"), .brk (.var "b")]
    noBrkS st = true ∧ stableStmt st ["x"] = true ∧ liveInStmt st ["x"] = ["n", "x", "y"] := by decide

/-- Non-vacuity: an `if` that assigns `x` in one branch only; `x`, `c` and `A` are live before it. -/
example : loopFree (.ite (.var "c") [.assign "x" (.var "A")] []) = true
    ∧ liveInStmt (.ite (.var "c") [.assign "x" (.var "A")] []) ["x"] = ["A", "c", "x"] := by decide

/-! ### The refinement, first stage: straight-line functions -/

/-- **`convert_correct`, stage 1 (straight-line code).**  For every function whose body is a sequence of
assignments `x = <expr>`, parallel assignments `x, y = <expr>, <expr>` or tuple assignments `x, y = op.Foo(…)` from a
multi-output operator (any expression of the subset: names, literals, `op.X(...)` calls with attributes,
calls of other script functions, Python binary / unary / comparison operators incl. `!=`, negated literals,
`%` with a float) followed by `return e1, …, en`, whose parameters have distinct names:
whenever the model converter accepts it and reading the source as plain Python over tensors — literals
staying Python scalars until an operator consumes and promotes them (`Constant` + `CastLike` to the sibling
sharing the type variable) — yields outputs `vs`, the emitted graph evaluates to exactly `vs`, for **every**
input and **every** meaning of the operators.  Two named assumptions about operators: `Constant` of a
literal always evaluates (`hConst`), and `Identity` is the identity (`hId`; the converter copies returned
inputs and duplicate outputs through `Identity`).
Attribute parameters may be forwarded to operators as attributes (`op.Foo(x, alpha=alpha)`: the node carries the
reference `@alpha`, both sides read it through `S`) and read as values (`x * alpha`): `S.attrLit alpha` is the Python
value the function is run with — a Python scalar that has not met an operator yet, like a literal — and `hσ` says
that `S` reads `Constant(value_float=@alpha)` (for a `bool`: followed by `Cast` to BOOL), which is what
`_to_onnx_var` emits, as the `Constant` of that value (`AttrVal`); `ht`: a name with such a value is not assigned
and not read as a bare right-hand side (`y = alpha`).
`_partial`: `if` / `for` / `while` are not covered here (stages 2-4); for `while`
with a trailing break and for literals crossing an `if` the statement is false for the code as it is (below). -/
theorem convert_correct_partial {V : Type} (S : Sem V)
    (hConst : ∀ l, ∃ c, constOf S l = some c)
    (hId : ∀ v, S.op "" "Identity" [some v] [] = some [v])
    (f : Func) (g : Graph) (hsl : straightLineT f.body = true)
    (hσ : ∀ x l, S.attrLit x = some l → ∃ ty, Param.attr x ty ∈ f.params ∧ AttrVal S x ty l)
    (ht : ∀ x, x ∈ targetsBlock f.body → S.attrLit x = none)
    (hnames : (f.params.map Param.name).Nodup) (h : convert f = .ok g)
    (fuel : Nat) (args vs : List V) (he : evalFunc S fuel f args = some vs) :
    evalGraph S fuel g args = some vs :=
  convert_correct_slT S hConst hId hsl hσ ht hnames h he

/-- Non-vacuity: `x = A + 1; y = x != B; return y, A` is straight-line, accepted, and evaluates under a
concrete operator meaning. -/
def slDemo : Func :=
  { name := "f", params := [.tensor "A", .tensor "B"], retCount := none,
    body := [
      .assign "x" (.binop "Add" (.var "A") (.lit (.int 1))),
      .assign "y" (.cmp "NotEq" (.var "x") (.var "B")),
      .ret [.var "y", .var "A"] false] }

def Sdemo : Sem Int where
  op := fun _ name ins attrs =>
    match name, ins with
    | "Constant", [] => (match attrs with | [(_, .const "i:1")] => some [1] | _ => some [0])
    | "CastLike", [some a, some _] => some [a]
    | "Add", [some a, some b] => some [a + b]
    | "Equal", [some a, some b] => some [if a = b then 1 else 0]
    | "Not", [some a] => some [if a = 0 then 1 else 0]
    | "Identity", [some a] => some [a]
    | _, _ => none
  truth := fun v => some (v ≠ 0)
  natOf := fun v => some v.toNat
  ofNat := fun n => Int.ofNat n
  ofBool := fun b => if b then 1 else 0

example : straightLine slDemo.body = true ∧ (convert slDemo).toOption.isSome = true
    ∧ evalFunc Sdemo 0 slDemo [4, 5] = some [0, 4] := by
  decide +kernel

/-- Non-vacuity of the tuple part of stage 1: `two = 2; x, y = Dup(A); z = x + y; return z, A` (a literal-valued
variable next to a tuple assignment). -/
def slTupleDemo : Func :=
  { name := "f", params := [.tensor "A"], retCount := none,
    body := [
      .assign "two" (.lit (.int 2)),
      .tuple ["x", "y"] (.call "" "Dup" { known := false, variadic := false, homog := false, tvs := [] } [.var "A"] []),
      .assign "z" (.binop "Add" (.var "x") (.var "y")),
      .ret [.var "z", .var "A"] false] }

def SdemoDup : Sem Int where
  op := fun _ name ins _ =>
    match name, ins with
    | "Constant", [] => some [2]
    | "Dup", [some a] => some [a, a + 1]
    | "Add", [some a, some b] => some [a + b]
    | "Identity", [some a] => some [a]
    | _, _ => none
  truth := fun v => some (v ≠ 0)
  natOf := fun v => some v.toNat
  ofNat := fun n => Int.ofNat n
  ofBool := fun b => if b then 1 else 0

example : straightLineT slTupleDemo.body = true ∧ straightLine slTupleDemo.body = false
    ∧ forLine slTupleDemo.body = false
    ∧ evalFunc SdemoDup 0 slTupleDemo [4] = some [9, 4]
    ∧ (match convert slTupleDemo with
       | .ok g => evalGraph SdemoDup 0 g [4] == some [9, 4]
       | .error _ => false) = true := by
  decide +kernel

/-! ### The refinement, second stage: nested `if`/`else` -/

/-- **`convert_correct`, stage 2 (straight-line code with `if`/`else` nested to any depth).**  For every
function whose body consists of assignments and parallel assignments of tensor-valued expressions (anything
but a bare or negated literal), docstrings, and `if <expr>: … else: …` over such statements — branches may
assign a variable in one branch only, define new variables, alias outer values, nest further `if`s — followed
by `return e1, …, en`, with parameters of distinct names: whenever the model converter accepts it and
reading the source as plain Python over tensors yields outputs `vs`, the emitted graph — `If` nodes with
subgraphs, their outputs `assigned ∩ live_out`, `Identity` copies of outer values — evaluates to exactly `vs`,
for **every** input and **every** meaning of the operators (`Constant` total, `Identity` the identity).
The proof is a forward simulation whose invariant relates only the *live* Python variables to ONNX values
(`OV.C01.Inv`); it uses `liveness` pass-through, the freshness and scoping theorems of C02, and the castable
bookkeeping of the un-executed branch.
Attribute parameters: as in stage 1 (`hσ`), provided none is assigned, read as a bare right-hand side or used as a
loop condition anywhere in the body (`hattr`, over `targetsBlock`; a re-bound one would have to leave an `If` as a
value in one branch and as an attribute in the other).  The condition of an `if` may be a Python value (`if flag:` on a
`bool` attribute parameter): `hTL` — the constant of a Python value is as true as Python finds the value.  `hPy`: the
names `S.pyVars` sets aside as holding Python scalars (see stage 4; may be empty) are not bound here.
`_partial`: loops are not covered here (see `convert_correct_for_partial`), nor tuple assignment; a bare literal may
not be *assigned* here (stage 4 allows it at top level; under control flow it would lose its polymorphism at the `If`
boundary: C01-D24). -/
theorem convert_correct_ite_partial {V : Type} (S : Sem V)
    (hConst : ∀ l, ∃ c, constOf S l = some c)
    (hId : ∀ v, S.op "" "Identity" [some v] [] = some [v])
    (hTL : ∀ l c b, constOf S l = some c → truthPV S (.py l) = some b → S.truth c = some b)
    (f : Func) (g : Graph) (hil : ifLine f.body = true)
    (hattr : ∀ p, p ∈ attrParams f.params → p ∉ targetsBlock f.body)
    (hσ : ∀ x l, S.attrLit x = some l → ∃ ty, Param.attr x ty ∈ f.params ∧ AttrVal S x ty l)
    (hPy : ∀ x, x ∈ S.pyVars → x ∉ targetsBlock f.body)
    (hnames : (f.params.map Param.name).Nodup) (h : convert f = .ok g)
    (fuel : Nat) (args vs : List V) (he : evalFunc S fuel f args = some vs) :
    evalGraph S fuel g args = some vs :=
  convert_correct_if S hConst hId hTL hil hattr hσ hPy hnames h he

/-- Non-vacuity: `x = A + 1; if c: y = x != B  else: (if d: y = x  else: x = B; y = x + 1); return y, x` —
`y` defined in both branches, `x` re-assigned in one inner branch only, an outer value aliased in a branch. -/
def ifDemo : Func :=
  { name := "f", params := [.tensor "A", .tensor "B", .tensor "c", .tensor "d"], retCount := none,
    body := [
      .assign "x" (.binop "Add" (.var "A") (.lit (.int 1))),
      .ite (.var "c")
        [.assign "y" (.cmp "NotEq" (.var "x") (.var "B"))]
        [.ite (.var "d")
          [.assign "y" (.var "x")]
          [.assign "x" (.var "B"), .assign "y" (.binop "Add" (.var "x") (.lit (.int 1)))]],
      .ret [.var "y", .var "x"] false] }

example : ifLine ifDemo.body = true ∧ (convert ifDemo).toOption.isSome = true
    ∧ evalFunc Sdemo 0 ifDemo [4, 7, 0, 0] = some [8, 7]
    ∧ evalFunc Sdemo 0 ifDemo [4, 7, 0, 1] = some [5, 5]
    ∧ evalFunc Sdemo 0 ifDemo [4, 5, 1, 0] = some [0, 5] := by
  decide +kernel

/-! ### The refinement, third stage: `for i in range(n)` -/

/-- **`convert_correct`, stage 3 (assignments, nested `if`/`else`, `for i in range(n)` and `while t` loops, with
`break`).**  For every function whose body consists of statements of the `if` fragment (see
`convert_correct_ite_partial`) and top-level loops `for i in range(<expr>): <if-fragment body> [if b: break]` or
`while t: <if-fragment body> [if b: break]` — the body may re-assign outer variables (loop-carried state), read
outer values it never assigns (captured), branch on them, run zero times, and end in `if b: break` — followed
by `return e1, …, en`: whenever the model converter accepts it and reading the source as plain Python yields
`vs`, the emitted graph — a `Loop` node (trip count for `for`, initial condition for `while`) whose body graph
takes `(i, cond_in, state…)`, computes `cond_out` as `Identity(cond_in)` / `Not(b)` for `for` and `Identity(t)` /
`And(t, Not(b))` for `while`, and whose state is `assigned ∩ (exposed uses ∪ live_out)` in sorted order —
evaluates to exactly `vs` at some fuel (hence at every larger one: `evalGraph_fuel_mono`), for **every** input,
trip count and operator meaning (`Constant` total, `Identity` the identity, `true` truthy, `Not` negating truth,
`And` with a false right operand false and with a true one as true as its left operand, and — `hNat` — the constant
of an integer literal `k` read as the trip count `max k 0`, so that the bound may be a literal: `range(3)`).
The proof is a simulation by induction on the remaining trip count (`for`) resp. on the source fuel (`while`)
with the invariant of stage 2 (`OV.C01.Inv`) re-established at the head of every iteration (`OV.C01.for_step`,
`while_step`, both over `loopBody_step`); after a `break` the ONNX loop stops on the false `cond_out` with the
state of that very iteration, as Python does.
Side conditions: `forOK` — the loop variable is not assigned in the body; `whileOK` — the condition variable is
loop-carried or recomputed in the body before anything reads it; both — the liveness iteration reached its
fixpoint (`stableStmt`; the real analysis iterates until it does).  That a `for` variable is not read after the
loop is not a hypothesis: such loops are refused (`loop_variable_live_after_loop_refused`); that a `while` body
cannot see the iteration counter holds since 0fa00ae (C01-D39).
`_partial`: no loop nested in a loop or in a branch, no tuple assignment, no literal-valued variables (all: stage 4);
attribute parameters as in stage 2 (`hattr`, `hσ`, `hTL`, `hPy`). -/
theorem convert_correct_for_partial {V : Type} (S : Sem V)
    (hConst : ∀ l, ∃ c, constOf S l = some c)
    (hId : ∀ v, S.op "" "Identity" [some v] [] = some [v])
    (hTL : ∀ l c b, constOf S l = some c → truthPV S (.py l) = some b → S.truth c = some b)
    (hT : S.truth (S.ofBool true) = some true)
    (hNat : ∀ k c, constOf S (.int k) = some c → S.natOf c = some k.toNat)
    (hNot : ∀ v b, S.truth v = some b → ∃ w, S.op "" "Not" [some v] [] = some [w] ∧ S.truth w = some (!b))
    (hAnd : ∀ x y yb, S.truth y = some yb → ∃ w, S.op "" "And" [some x, some y] [] = some [w] ∧
      (yb = false → S.truth w = some false) ∧ (yb = true → S.truth w = S.truth x))
    (f : Func) (g : Graph) (hfl : forLine f.body = true)
    (hattr : ∀ p, p ∈ attrParams f.params → p ∉ targetsBlock f.body)
    (hσ : ∀ x l, S.attrLit x = some l → ∃ ty, Param.attr x ty ∈ f.params ∧ AttrVal S x ty l)
    (hPy : ∀ x, x ∈ S.pyVars → x ∉ targetsBlock f.body)
    (hnames : (f.params.map Param.name).Nodup) (h : convert f = .ok g)
    (fuel : Nat) (args vs : List V) (he : evalFunc S fuel f args = some vs) :
    ∃ fuel', evalGraph S fuel' g args = some vs :=
  convert_correct_for S hConst hId hTL hT hNat hNot hAnd hfl hattr hσ hPy hnames h he

/-- Graph evaluation is monotone in the fuel, so "some fuel" above means "every large enough fuel". -/
theorem evalGraph_fuel_mono {V : Type} (S : Sem V) (g : Graph) (args vs : List V) (f f' : Nat) (hle : f ≤ f')
    (h : evalGraph S f g args = some vs) : evalGraph S f' g args = some vs := by
  unfold evalGraph at h ⊢
  by_cases hl : args.length = g.inputs.length
  · simp only [hl, if_true] at h ⊢
    cases he : evalNodes S f (Env.setMany (fun _ => none) g.inputs args) g.nodes with
    | none => simp [he] at h
    | some r =>
      rw [evalNodes_mono S g.nodes f f' _ r hle he]
      simpa [he] using h
  · simp [hl] at h

/-- Non-vacuity: `acc = A; t = B; for i in range(n): (if c: acc = acc + t  else: t = acc + i); return acc, t` —
two loop-carried variables each re-assigned in one branch only, a captured outer value `c`, the loop
variable read in the body; run with three trips on either branch and with zero trips. -/
def forDemo : Func :=
  { name := "f", params := [.tensor "A", .tensor "B", .tensor "n", .tensor "c"], retCount := none,
    body := [
      .assign "acc" (.var "A"),
      .assign "t" (.var "B"),
      .for_ "i" true (.var "n")
        [.ite (.var "c")
          [.assign "acc" (.binop "Add" (.var "acc") (.var "t"))]
          [.assign "t" (.binop "Add" (.var "acc") (.var "i"))]],
      .ret [.var "acc", .var "t"] false] }

example : forLine forDemo.body = true ∧ (convert forDemo).toOption.isSome = true
    ∧ evalFunc Sdemo 0 forDemo [1, 10, 3, 1] = some [31, 10]
    ∧ evalFunc Sdemo 0 forDemo [1, 10, 3, 0] = some [1, 3]
    ∧ evalFunc Sdemo 0 forDemo [1, 10, 0, 1] = some [1, 10]
    ∧ (match convert forDemo with
       | .ok g => evalGraph Sdemo 6 g [1, 10, 3, 0] == some [1, 3]
       | .error _ => false) = true := by
  decide +kernel

/-- Non-vacuity with `break`: `acc = A; for i in range(n): acc = acc + B; stop = acc == lim; if stop: break;
return acc` — leaves the loop in the third of five trips, runs all five, or none. -/
def forBrkDemo : Func :=
  { name := "f", params := [.tensor "A", .tensor "B", .tensor "n", .tensor "lim"], retCount := none,
    body := [
      .assign "acc" (.var "A"),
      .for_ "i" true (.var "n")
        [.assign "acc" (.binop "Add" (.var "acc") (.var "B")),
         .assign "stop" (.cmp "Eq" (.var "acc") (.var "lim")),
         .brk (.var "stop")],
      .ret [.var "acc"] false] }

example : forLine forBrkDemo.body = true ∧ (convert forBrkDemo).toOption.isSome = true
    ∧ evalFunc Sdemo 0 forBrkDemo [0, 2, 5, 6] = some [6]
    ∧ evalFunc Sdemo 0 forBrkDemo [0, 2, 5, 99] = some [10]
    ∧ evalFunc Sdemo 0 forBrkDemo [0, 2, 0, 6] = some [0]
    ∧ (match convert forBrkDemo with
       | .ok g => evalGraph Sdemo 7 g [0, 2, 5, 6] == some [6]
       | .error _ => false) = true := by
  decide +kernel

/-! ### The refinement, fourth stage: loops nested in loops and branches -/

/-- **`convert_correct`, stage 4 (loops nested in loops and branches, to any depth).**  For every function whose
body consists of statements of the nested-loop fragment `nestStmt` — assignments and parallel assignments of
tensor-valued expressions, tuple assignments `x, y = op.Foo(…)` from a multi-output operator, `if`/`else`, `for i in range(<expr>)` and `while t` loops, **nested in each other to any
depth** (a loop in a loop body, a loop in a branch, a branch in a loop, …) — or of the stage-3 fragment (top-level
loops over `if`-fragment bodies, where a trailing `if b: break` is allowed), followed by `return e1, …, en`:
whenever the model converter accepts it and reading the source as plain Python yields `vs`, the emitted graph —
`Loop` nodes whose body graphs contain `Loop` and `If` nodes reading values of all enclosing scopes — evaluates to
exactly `vs` at some fuel (hence at every larger one), for every input, all trip counts (zero trips of an inner
loop in a later outer iteration included) and every operator meaning satisfying the hypotheses of stage 3.
Proof: `OV/Lemmas/C01SimNest.lean`.  The simulations of one loop (`for_step`, `while_step`) are parametric in
what they need to know about the loop body (`BodyFacts`: how it runs, that its translation simulates it at every
large enough fuel, no top-level `break`, and three liveness facts relating live-in sets to
the *exposed uses* from which `loop_state_vars` is computed); `nestBlock_sim` establishes these facts for every
block of the fragment by induction over the rules of the fragment (`NestRules`), the liveness facts by induction on the analysis' own
fixpoint iterations (`nestStmt_toExp`, `nestStmt_ofExp`, whence `nestBlock_mono`), for which the fixpoints need to be
reached only at the live-out sets the analysis itself computes.
Side conditions (`nestStmt`), per loop at its own live-out set: those of stage 3 (`for` variable not assigned in
the body, `while` condition variable loop-carried or recomputed before any read, liveness fixpoint reached), and —
listed explicitly although acceptance implies it (`loop_variable_live_after_loop_refused`) — the `for` variable
not live after its loop.
Variables holding Python scalars: a top-level `x = <literal>` is part of the fragment.  The invariant then asks every
variable *except the names in `S.pyVars`* to hold a tensor (`S.pyVars` is a proof device — a list of names carried
by `S` that nothing evaluates); `hLT` puts the literal-assigned names `litTargets f.body` into it, `hPy` and `hattr`
say that no statement other than those top-level assignments binds such a name or an attribute parameter, or reads
it as a bare right-hand side / loop condition (`targetsTop f.body`).  That is the complement of the open finding
C01-D24 (a literal-valued variable re-assigned under control flow, or carried by a loop, loses its polymorphism).
`_partial`: a trailing `break` only in top-level loops over `if`-fragment bodies. -/
theorem convert_correct_nested_partial {V : Type} (S : Sem V)
    (hConst : ∀ l, ∃ c, constOf S l = some c)
    (hId : ∀ v, S.op "" "Identity" [some v] [] = some [v])
    (hTL : ∀ l c b, constOf S l = some c → truthPV S (.py l) = some b → S.truth c = some b)
    (hT : S.truth (S.ofBool true) = some true)
    (hNat : ∀ k c, constOf S (.int k) = some c → S.natOf c = some k.toNat)
    (hNot : ∀ v b, S.truth v = some b → ∃ w, S.op "" "Not" [some v] [] = some [w] ∧ S.truth w = some (!b))
    (hAnd : ∀ x y yb, S.truth y = some yb → ∃ w, S.op "" "And" [some x, some y] [] = some [w] ∧
      (yb = false → S.truth w = some false) ∧ (yb = true → S.truth w = S.truth x))
    (f : Func) (g : Graph) (hnl : nestLine f.body = true)
    (hattr : ∀ p, p ∈ attrParams f.params → p ∉ targetsTop f.body)
    (hσ : ∀ x l, S.attrLit x = some l → ∃ ty, Param.attr x ty ∈ f.params ∧ AttrVal S x ty l)
    (hPy : ∀ x, x ∈ S.pyVars → x ∉ targetsTop f.body)
    (hLT : ∀ x, x ∈ litTargets f.body → S.attrLit x = none ∧ x ∈ S.pyVars)
    (hnames : (f.params.map Param.name).Nodup) (h : convert f = .ok g)
    (fuel : Nat) (args vs : List V) (he : evalFunc S fuel f args = some vs) :
    ∃ fuel', evalGraph S fuel' g args = some vs :=
  convert_correct_nest S hConst hId hTL hT hNat hNot hAnd hnl hattr hσ hPy hLT hnames h he

/-- Non-vacuity: a loop in a loop (the inner trip count `rem` shrinks to zero in later outer iterations, `t` is
only assigned by the inner loop and read after it), an `if` in the inner loop, and a loop in a branch:
`acc = A; t = B; rem = n; for i in range(n): (for j in range(rem): if c: t = acc + j else: t = t + A); acc = acc + t;
rem = rem + m; if c: (for k in range(n): acc = acc + A) else: acc = acc + B; return acc, t` with `m = -1`. -/
def nestDemo : Func :=
  { name := "f", params := [.tensor "A", .tensor "B", .tensor "n", .tensor "c", .tensor "m"], retCount := none,
    body := [
      .assign "acc" (.var "A"),
      .assign "t" (.var "B"),
      .assign "rem" (.var "n"),
      .for_ "i" true (.var "n")
        [.for_ "j" true (.var "rem")
           [.ite (.var "c")
              [.assign "t" (.binop "Add" (.var "acc") (.var "j"))]
              [.assign "t" (.binop "Add" (.var "t") (.var "A"))]],
         .assign "acc" (.binop "Add" (.var "acc") (.var "t")),
         .assign "rem" (.binop "Add" (.var "rem") (.var "m"))],
      .ite (.var "c")
        [.for_ "k" true (.var "n") [.assign "acc" (.binop "Add" (.var "acc") (.var "A"))]]
        [.assign "acc" (.binop "Add" (.var "acc") (.var "B"))],
      .ret [.var "acc", .var "t"] false] }

example : nestLine nestDemo.body = true ∧ forLine nestDemo.body = false
    ∧ (convert nestDemo).toOption.isSome = true
    ∧ (match convert nestDemo, evalFunc Sdemo 0 nestDemo [1, 10, 3, 1, -1],
             evalFunc Sdemo 0 nestDemo [1, 10, 3, 0, -1], evalFunc Sdemo 0 nestDemo [1, 10, 0, 1, -1] with
       | .ok g, some r1, some r2, some r3 =>
         evalGraph Sdemo 12 g [1, 10, 3, 1, -1] == some r1 && evalGraph Sdemo 12 g [1, 10, 3, 0, -1] == some r2
           && evalGraph Sdemo 12 g [1, 10, 0, 1, -1] == some r3
       | _, _, _, _ => false) = true := by
  decide +kernel

/-- Operators over `Int` with a two-output operator (`Dup a = (a, a + 1)`). -/
def S2 : Sem Int where
  op := fun _ name ins _ =>
    match name, ins with
    | "Dup", [some a] => some [a, a + 1]
    | "Add", [some a, some b] => some [a + b]
    | "Identity", [some a] => some [a]
    | _, _ => none
  truth := fun v => some (v ≠ 0)
  natOf := fun v => some v.toNat
  ofNat := fun n => Int.ofNat n
  ofBool := fun b => if b then 1 else 0

/-- Non-vacuity of the tuple-assignment part: `for i in range(n): x, y = Dup(acc); acc = x + y; return acc`. -/
def tupleDemo : Func :=
  { name := "f", params := [.tensor "A", .tensor "n"], retCount := none,
    body := [
      .assign "acc" (.var "A"),
      .for_ "i" true (.var "n")
        [.tuple ["x", "y"] (.call "" "Dup" { known := false, variadic := false, homog := false, tvs := [] } [.var "acc"] []),
         .assign "acc" (.binop "Add" (.var "x") (.var "y"))],
      .ret [.var "acc"] false] }

example : nestLine tupleDemo.body = true ∧ forLine tupleDemo.body = false
    ∧ evalFunc S2 0 tupleDemo [1, 3] = some [15]
    ∧ (match convert tupleDemo with
       | .ok g => evalGraph S2 8 g [1, 3] == some [15]
       | .error _ => false) = true := by
  decide +kernel

/-- Non-vacuity of the literal-bound part: `acc = A; for i in range(3): acc = acc + acc; return acc`, under a meaning
that reads the literal's constant as the trip count. -/
def litBoundDemo : Func :=
  { name := "f", params := [.tensor "A"], retCount := none,
    body := [
      .assign "acc" (.var "A"),
      .for_ "i" true (.lit (.int 3)) [.assign "acc" (.binop "Add" (.var "acc") (.var "acc"))],
      .ret [.var "acc"] false] }

def S4 : Sem Int where
  op := fun _ name ins attrs =>
    match name, ins with
    | "Constant", [] => (match attrs with | [(_, .const "i:3")] => some [3] | _ => some [0])
    | "Add", [some a, some b] => some [a + b]
    | "Identity", [some a] => some [a]
    | _, _ => none
  truth := fun v => some (v ≠ 0)
  natOf := fun v => some v.toNat
  ofNat := fun n => Int.ofNat n
  ofBool := fun b => if b then 1 else 0

example : forLine litBoundDemo.body = true ∧ nestLine litBoundDemo.body = true
    ∧ evalFunc S4 0 litBoundDemo [5] = some [40]
    ∧ (match convert litBoundDemo with
       | .ok g => evalGraph S4 6 g [5] == some [40]
       | .error _ => false) = true := by
  decide +kernel

/-- Operators over `Int` with one that reads an attribute: `Scale(a, alpha=@alpha)` is `3·a` (the meaning `S` closes
over the attribute's value), `Scale(a, alpha=<const>)` is `a`. -/
def S3 : Sem Int where
  op := fun _ name ins attrs =>
    match name, ins with
    | "Scale", [some a] => (match attrs with | [(_, .ref "alpha")] => some [3 * a] | _ => some [a])
    | "Identity", [some a] => some [a]
    | _, _ => none
  truth := fun v => some (v ≠ 0)
  natOf := fun v => some v.toNat
  ofNat := fun n => Int.ofNat n
  ofBool := fun b => if b then 1 else 0

/-- Non-vacuity of the attribute-parameter part: `def f(A, n, alpha: float, unused: int): acc = A;
for i in range(n): acc = op.Scale(acc, alpha=alpha); return acc` — an attribute parameter forwarded to an operator
inside a loop and one that is never used; `hattr` holds (neither is assigned). -/
def attrDemo : Func :=
  { name := "f", params := [.tensor "A", .tensor "n", .attr "alpha" .float, .attr "unused" .int], retCount := none,
    body := [
      .assign "acc" (.var "A"),
      .for_ "i" true (.var "n")
        [.assign "acc" (.call "" "Scale" { known := false, variadic := false, homog := false, tvs := [] }
          [.var "acc"] [("alpha", .ref "alpha")])],
      .ret [.var "acc"] false] }

example : nestLine attrDemo.body = true
    ∧ (attrParams attrDemo.params).all (fun p => !(targetsBlock attrDemo.body).contains p) = true
    ∧ evalFunc S3 0 attrDemo [2, 3] = some [54]
    ∧ (match convert attrDemo with
       | .ok g => evalGraph S3 8 g [2, 3] == some [54]
       | .error _ => false) = true := by
  decide +kernel

/-- Non-vacuity of the literal-variable part of stage 4: `two = 2; acc = A; for i in range(n): acc = acc + two;
return acc + two` — a variable holding a Python scalar, read inside a loop and after it.  `S6` sets it aside
(`pyVars`), which is all `hPy` / `hLT` ask. -/
def litVarDemo : Func :=
  { name := "f", params := [.tensor "A", .tensor "n"], retCount := none,
    body := [
      .assign "two" (.lit (.int 2)),
      .assign "acc" (.var "A"),
      .for_ "i" true (.var "n") [.assign "acc" (.binop "Add" (.var "acc") (.var "two"))],
      .ret [.binop "Add" (.var "acc") (.var "two")] false] }

def S6 : Sem Int where
  op := fun _ name ins attrs =>
    match name, ins with
    | "Constant", [] => (match attrs with | [(_, .const "i:2")] => some [2] | _ => some [0])
    | "CastLike", [some a, some _] => some [a]
    | "Add", [some a, some b] => some [a + b]
    | "Identity", [some a] => some [a]
    | _, _ => none
  truth := fun v => some (v ≠ 0)
  natOf := fun v => some v.toNat
  ofNat := fun n => Int.ofNat n
  ofBool := fun b => if b then 1 else 0
  pyVars := ["two"]

example : nestLine litVarDemo.body = true ∧ litTargets litVarDemo.body = ["two"]
    ∧ (S6.pyVars.all (fun x => !(targetsTop litVarDemo.body).contains x)) = true
    ∧ evalFunc S6 0 litVarDemo [1, 3] = some [9]
    ∧ (match convert litVarDemo with
       | .ok g => evalGraph S6 8 g [1, 3] == some [9]
       | .error _ => false) = true := by
  decide +kernel

/-- Operators over `Int` where the attribute parameter `alpha` has the Python value `7`: `Constant(value_int=@alpha)`
is `7`, like the `Constant` of the literal `7`. -/
def S5 : Sem Int where
  op := fun _ name ins attrs =>
    match name, ins with
    | "Constant", [] =>
      (match attrs with
       | [(_, .const "i:7")] => some [7]
       | [(_, .ref "alpha")] => some [7]
       | _ => some [0])
    | "CastLike", [some a, some _] => some [a]
    | "Add", [some a, some b] => some [a + b]
    | "Mul", [some a, some b] => some [a * b]
    | "Identity", [some a] => some [a]
    | _, _ => none
  truth := fun v => some (v ≠ 0)
  natOf := fun v => some v.toNat
  ofNat := fun n => Int.ofNat n
  ofBool := fun b => if b then 1 else 0
  attrLit := fun x => if x = "alpha" then some (.int 7) else none

/-- Non-vacuity of "attribute parameters read as values": `def f(A, n, alpha: int): acc = A;
for i in range(n): acc = acc * alpha + A; return acc + alpha` — the attribute is an operand inside the loop and in
the returned expression; source and graph agree under `S5`. -/
def attrValDemo : Func :=
  { name := "f", params := [.tensor "A", .tensor "n", .attr "alpha" .int], retCount := none,
    body := [
      .assign "acc" (.var "A"),
      .for_ "i" true (.var "n")
        [.assign "acc" (.binop "Add" (.binop "Mult" (.var "acc") (.var "alpha")) (.var "A"))],
      .ret [.binop "Add" (.var "acc") (.var "alpha")] false] }

example : nestLine attrValDemo.body = true
    ∧ (attrParams attrValDemo.params).all (fun p => !(targetsBlock attrValDemo.body).contains p) = true
    ∧ evalFunc S5 0 attrValDemo [1, 2] = some [64]
    ∧ (match convert attrValDemo with
       | .ok g => evalGraph S5 8 g [1, 2] == some [64]
       | .error _ => false) = true := by
  decide +kernel

/-- … and `S5` satisfies the hypothesis `hσ` of the theorems for that function. -/
example : ∀ x l, S5.attrLit x = some l →
    ∃ ty, Param.attr x ty ∈ attrValDemo.params ∧ AttrVal S5 x ty l := by
  intro x l h
  by_cases hx : x = "alpha"
  · subst hx
    simp only [S5, if_true] at h
    cases h
    refine ⟨.int, by simp [attrValDemo], ?_⟩
    intro c hc
    have h7 : constOf S5 (.int 7) = some 7 := by decide +kernel
    have hc7 : c = 7 := by rw [h7] at hc; cases hc; rfl
    subst hc7
    rw [if_neg (by decide)]
    exact ⟨"value_int", rfl, rfl⟩
  · simp [S5, hx] at h

/-! ### Static `if` on a name of the surroundings -/

/-- **A parameter (or any local name) is never a static condition** (C01-D45, fixed by 11e898c): whatever the
closure and the module bind, `if p:` on a parameter or on a name the function assigns keeps both branches.  Before
the fix a module global named like the parameter decided the branch and the graph ignored the input. -/
theorem static_if_never_on_a_local_name (nonlocals globals : List (Name × Lit)) (f : Func) (x : Name)
    (t e : List Stmt) (hx : x ∈ resolveBound f) :
    foldStmt (envLookup nonlocals globals) (resolveBound f) (.ite (.var x) t e)
      = [.ite (.var x) (foldBlock (envLookup nonlocals globals) (resolveBound f) t)
          (foldBlock (envLookup nonlocals globals) (resolveBound f) e)] := by
  simp [foldStmt, hx]

/-- … and on a name that is not local and that the surroundings bind to a constant, exactly the branch Python's
`bool(value)` selects is kept (closure variables first: `env_lookup_closure_first`). -/
theorem static_if_takes_the_outer_value (nonlocals globals : List (Name × Lit)) (bound : VSet) (x : Name) (l : Lit)
    (t e : List Stmt) (hx : x ∉ bound) (hl : envLookup nonlocals globals x = some l) :
    foldStmt (envLookup nonlocals globals) bound (.ite (.var x) t e)
      = foldBlock (envLookup nonlocals globals) bound (if litTruth l then t else e) := by
  cases hb : litTruth l <;> simp [foldStmt, hx, hl, hb]

/-! ### `to_model_proto`: the exported model means the function at its attribute defaults -/

/-- **`exported_model_means_function_at_defaults`.**  For every graph `g`, every list `ds` of attribute parameters
with their defaults, every operator meaning `S`, fuel and inputs: the main graph `to_model_proto` builds from `g`
(3382c7a: every reference `@p`, at any depth of `If`/`Loop` bodies, replaced by the default of `p`) evaluates to
exactly what `g` evaluates to when every operator resolves `@p` to that default (`S.atDefaults ds`).  Before
3382c7a the references stayed in the main graph, where nothing gives them a value (C01-D41). -/
theorem exported_model_means_function_at_defaults {V : Type} (S : Sem V) (ds : List (Name × Option String))
    (g g' : Graph) (h : exportModel ds g = .ok g') (fuel : Nat) (args : List V) :
    evalGraph S fuel g' args = evalGraph (S.atDefaults ds) fuel g args :=
  exportModel_eval S h fuel args

/-- **The exported model refines the source function** (stage 4 composed with the export): for a function of the
nested-loop fragment that forwards attribute parameters to operators, the model `to_model_proto` builds evaluates
to what the source yields as plain Python when those attribute parameters have their default values.  The
hypotheses on the operator meaning are those of `convert_correct_nested_partial`, stated for `S` itself (they do
not mention attribute references). -/
theorem exported_model_correct_nested_partial {V : Type} (S : Sem V)
    (hConst : ∀ l, ∃ c, constOf S l = some c)
    (hId : ∀ v, S.op "" "Identity" [some v] [] = some [v])
    (hTL : ∀ l c b, constOf S l = some c → truthPV S (.py l) = some b → S.truth c = some b)
    (hT : S.truth (S.ofBool true) = some true)
    (hNat : ∀ k c, constOf S (.int k) = some c → S.natOf c = some k.toNat)
    (hNot : ∀ v b, S.truth v = some b → ∃ w, S.op "" "Not" [some v] [] = some [w] ∧ S.truth w = some (!b))
    (hAnd : ∀ x y yb, S.truth y = some yb → ∃ w, S.op "" "And" [some x, some y] [] = some [w] ∧
      (yb = false → S.truth w = some false) ∧ (yb = true → S.truth w = S.truth x))
    (ds : List (Name × Option String))
    (f : Func) (g g' : Graph) (hnl : nestLine f.body = true)
    (hattr : ∀ p, p ∈ attrParams f.params → p ∉ targetsTop f.body)
    (hσ : ∀ x l, (S.atDefaults ds).attrLit x = some l →
      ∃ ty, Param.attr x ty ∈ f.params ∧ AttrVal (S.atDefaults ds) x ty l)
    (hPy : ∀ x, x ∈ S.pyVars → x ∉ targetsTop f.body)
    (hLT : ∀ x, x ∈ litTargets f.body → S.attrLit x = none ∧ x ∈ S.pyVars)
    (hnames : (f.params.map Param.name).Nodup) (h : convert f = .ok g) (hx : exportModel ds g = .ok g')
    (fuel : Nat) (args vs : List V) (he : evalFunc (S.atDefaults ds) fuel f args = some vs) :
    ∃ fuel', evalGraph S fuel' g' args = some vs := by
  have hc : ∀ l, constOf (S.atDefaults ds) l = constOf S l := fun l => by
    simp [constOf, Sem.atDefaults, exportAttr]
  obtain ⟨G, hG⟩ := convert_correct_nest (S.atDefaults ds)
    (fun l => by rw [hc]; exact hConst l)
    (fun v => by simpa [Sem.atDefaults] using hId v)
    (fun l c b hcl hb => by
      rw [hc] at hcl
      have hb' : truthPV S (.py l) = some b := by cases l <;> simpa [truthPV] using hb
      simpa [Sem.atDefaults] using hTL l c b hcl hb')
    (by simpa [Sem.atDefaults] using hT)
    (fun k c hk => by rw [hc] at hk; simpa [Sem.atDefaults] using hNat k c hk)
    (fun v b hv => by simpa [Sem.atDefaults] using hNot v b hv)
    (fun x y yb hy => by simpa [Sem.atDefaults] using hAnd x y yb hy)
    hnl hattr hσ hPy hLT hnames h he
  exact ⟨G, by rw [exportModel_eval S hx]; exact hG⟩

/-- Non-vacuity: `attrDemo` exported with `alpha = 0.5`, `unused = 1` — the exported graph has no reference left and,
under `S3` (where `Scale` with a constant `alpha` is the identity and with `@alpha` triples), evaluates to what the
source yields with the attribute at its default. -/
example : (match convert attrDemo with
       | .ok g =>
         (match exportModel [("alpha", some "f:0.5"), ("unused", some "i:1")] g with
          | .ok g' => (attrRefs g'.nodes).isEmpty && (evalGraph S3 8 g' [2, 3] == some [2])
          | .error _ => false)
       | .error _ => false) = true
    ∧ evalFunc (S3.atDefaults [("alpha", some "f:0.5"), ("unused", some "i:1")]) 0 attrDemo [2, 3] = some [2] := by
  decide +kernel

/-! ### The names a script function reads from its surroundings (`script()`: closure variables, then module globals) -/

/-- **`env_lookup_closure_first`.**  `script()` hands the converter `env = module.__dict__` updated with
`inspect.getclosurevars(f).nonlocals`: a variable of an enclosing function wins over a module global of the same
name, as in Python (and hence in eager execution). -/
theorem env_lookup_closure_first (nonlocals globals : List (Name × Lit)) (x : Name) (l : Lit)
    (h : alookup nonlocals x = some l) : envLookup nonlocals globals x = some l := by
  simp [envLookup, h]

/-- … and a name that no enclosing function binds is read from the module globals. -/
theorem env_lookup_global_otherwise (nonlocals globals : List (Name × Lit)) (x : Name)
    (h : alookup nonlocals x = none) : envLookup nonlocals globals x = alookup globals x := by
  simp [envLookup, h]

/-- **A name assigned anywhere in the function is local to it** (C01-D42, fixed by c2aeb08): whatever the closure
and the module bind, a parameter or a name the function assigns somewhere is never read from the surroundings —
also on a path that has not assigned it yet (there the converter reports `Unbound name`, as Python raises
`UnboundLocalError`).  Before the fix `_lookup` fell back to a module global of the same name. -/
theorem assigned_name_never_resolved (nonlocals globals : List (Name × Lit)) (f : Func) (d : VSet) (x : Name)
    (hd : assignedBlock f.body = some d) (hx : x ∈ d ∨ x ∈ f.params.map Param.name) :
    substExpr (envLookup nonlocals globals) (resolveBound f) (.var x) = .var x := by
  have hb : x ∈ resolveBound f := by
    unfold resolveBound
    rw [hd]
    rcases hx with h | h
    · exact mem_vunion.mpr (Or.inr h)
    · exact mem_vunion.mpr (Or.inl (mem_vofList.mpr h))
  simp only [substExpr, List.contains_iff_mem]
  rw [if_pos hb]

/-- The right operand of the returned product, if it is a float literal. -/
def retFactor : List Stmt → Option String
  | [.ret [.binop _ _ (.lit (.flt false m))] _] => some m
  | _ => none

/-- Non-vacuity: `def make(gain): @script() def f(A): return A * gain` called with `3.0` in a module whose global
`gain` is `10.0`: the converter sees `A * 3.0`; with no enclosing binding it sees `A * 10.0`; a name that is a
parameter of the function is never resolved from the surroundings. -/
example :
    let f : Func := { name := "f", params := [.tensor "A"], retCount := none,
                      body := [.ret [.binop "Mult" (.var "A") (.var "gain")] false] }
    retFactor (resolveEnv [("gain", .flt false "3.0")] [("gain", .flt false "10.0")] f).body = some "3.0"
    ∧ retFactor (resolveEnv [] [("gain", .flt false "10.0")] f).body = some "10.0"
    ∧ retFactor (resolveEnv [("A", .flt false "3.0")] [] f).body = none := by
  decide +kernel

/-! ### Regression witnesses of the two fixed findings C01-D23 (4304e8f) and C01-D25 (87ad64d) -/

/-- A concrete meaning of operators over `Int` (only what the witnesses use). -/
def S0 : Sem Int where
  op := fun _ name ins _ =>
    match name, ins with
    | "Neg", [some a] => some [-a]
    | "Abs", [some a] => some [Int.ofNat a.natAbs]
    | "Sub", [some a, some b] => some [a - b]
    | "Add", [some a, some b] => some [a + b]
    | "Identity", [some a] => some [a]
    | _, _ => none
  truth := fun v => some (v ≠ 0)
  natOf := fun v => some v.toNat
  ofNat := fun n => Int.ofNat n
  ofBool := fun b => if b then 1 else 0

/-- `for i in range(n): x = y` with `x` live afterwards: before fix 4304e8f the analysis reported
`live_in = {y}` (the zero-trip path and the loop bound were missing, finding C01-D23); now `n`, `x`, `y`. -/
def zeroTrip : Stmt := .for_ "i" true (.var "n") [.assign "x" (.var "y")]

example : liveInStmt zeroTrip ["x"] = ["n", "x", "y"] := by decide

def tsig : Sig := { known := true, variadic := false, homog := true, tvs := [some "T"] }
def tsig2 : Sig := { known := true, variadic := false, homog := true, tvs := [some "T", some "T"] }

/-- `x = Neg(A); y = Abs(B); x, y = y, x; return Sub(x, y)` — before fix 87ad64d the graph computed
`Sub(y, y)` (finding C01-D25).  It is straight-line, so `convert_correct_partial` covers it; concretely, on
`A = 1, B = 10` source and graph both give `11`. -/
def swapProg : Func :=
  { name := "f", params := [.tensor "A", .tensor "B"], retCount := none,
    body := [
      .assign "x" (.call "" "Neg" tsig [.var "A"] []),
      .assign "y" (.call "" "Abs" tsig [.var "B"] []),
      .par ["x", "y"] [.var "y", .var "x"],
      .ret [.call "" "Sub" tsig2 [.var "x", .var "y"] []] false] }

example : straightLine swapProg.body = true ∧ evalFunc S0 0 swapProg [1, 10] = some [11]
    ∧ (match convert swapProg with
       | .ok g => evalGraph S0 0 g [1, 10] == some [11]
       | .error _ => false) = true := by
  decide +kernel

/-! ### The refusals and the repair added by 9b326d7 (C01-D31), 9f69276 (C01-D33), ddfea30 (C01-D27) -/

/-- `x = Identity(A); i = Add(A, A); for i in range(n): x = Add(x, A); return x, i` -/
def loopVarProg : Func :=
  { name := "f", params := [.tensor "A", .tensor "n"], retCount := none,
    body := [
      .assign "x" (.call "" "Identity" tsig [.var "A"] []),
      .assign "i" (.call "" "Add" tsig2 [.var "A", .var "A"] []),
      .for_ "i" true (.var "n") [.assign "x" (.call "" "Add" tsig2 [.var "x", .var "A"] [])],
      .ret [.var "x", .var "i"] false] }

/-- **A `for` loop whose loop variable is read after the loop is refused** (C01-D31, fixed by 9b326d7).  Python
leaves the last index in the loop variable; the translation binds it only inside the loop body, so before the fix
the graph silently used the value from before the loop (`loopVarProg`: Python `[3, 1]`, graph `[3, 2]`).  Now,
whatever the scope, bound, body and converter state, `convStmt` fails when `i ∈ live_out`.  This is what lets
`convert_correct_for_partial` go without a side condition on the uses of the loop variable. -/
theorem loop_variable_live_after_loop_refused (L : Locals) (i : Name) (ok : Bool) (b : Expr) (body : List Stmt)
    (lo : VSet) (hi : i ∈ lo) (s : St) (r : (Locals × List Node) × St) :
    convStmt L (.for_ i ok b body) lo s ≠ .ok r :=
  for_live_target_refused L i ok b body lo hi s r

/-- Regression witness of C01-D31: the program is refused with a TranslationError; with the second returned
value dropped it is accepted and agrees with Python. -/
example : (match convert loopVarProg with | .error .translation => true | _ => false) = true
    ∧ evalFunc S0 5 { loopVarProg with body := loopVarProg.body.dropLast ++ [.ret [.var "x"] false] } [1, 2] = some [3]
    ∧ (match convert { loopVarProg with body := loopVarProg.body.dropLast ++ [.ret [.var "x"] false] } with
       | .ok g => evalGraph S0 5 g [1, 2] == some [3]
       | .error _ => false) = true := by
  decide +kernel

/-- `x = Neg(A); return x; return Abs(A)` -/
def twoReturns : Func :=
  { name := "f", params := [.tensor "A"], retCount := none,
    body := [
      .assign "x" (.call "" "Neg" tsig [.var "A"] []),
      .ret [.var "x"] false,
      .ret [.call "" "Abs" tsig [.var "A"] []] false] }

/-- **A `return` that is not the last statement of the function body is refused** (C01-D33, fixed by 9f69276).
Before the fix every top-level `return` appended to the graph outputs (`twoReturns`: Python one value, graph
two). -/
theorem non_last_return_refused (inputs : List Name) (rc : Option Nat) (L : Locals) (es : List Expr) (bare : Bool)
    (st : Stmt) (ss : List Stmt) (outs : List Name) (s : St) (r : (List Node × List Name) × St) :
    convTop inputs rc L (.ret es bare :: st :: ss) outs s ≠ .ok r :=
  OV.C01.non_last_return_refused inputs rc L es bare st ss outs s r

example : (match convert twoReturns with | .error .translation => true | _ => false) = true := by decide +kernel

/-! ### `while` with a trailing break (C01-D27, fixed by ddfea30), and C01-D24 -/

def bsig : Sig := { known := true, variadic := false, homog := true, tvs := [some "T", some "T"] }

/-- `while c: x = Add(x, x); c = Less(x, lim); b = Greater(x, big); if b: break` -/
def whileBreak : Func :=
  { name := "f", params := [.tensor "x0", .tensor "lim", .tensor "big", .tensor "c0"], retCount := none,
    body := [
      .assign "x" (.call "" "Identity" tsig [.var "x0"] []),
      .assign "c" (.call "" "Identity" tsig [.var "c0"] []),
      .while_ (.var "c") [
        .assign "x" (.call "" "Add" bsig [.var "x", .var "x"] []),
        .assign "c" (.call "" "Less" bsig [.var "x", .var "lim"] []),
        .assign "b" (.call "" "Greater" bsig [.var "x", .var "big"] []),
        .brk (.var "b")],
      .ret [.var "x"] false] }

/-- The node computing a Loop body's first output (the continuation condition). -/
def condNodeOfFirstLoop : List Node → Option Node
  | .loop _ _ _ _ _ bn (co :: _) :: _ => bn.find? (fun n => n.outs.contains co)
  | _ :: rest => condNodeOfFirstLoop rest
  | [] => none

/-- Operators over `Int` for the `while` witness (booleans as 0/1). -/
def S1 : Sem Int where
  op := fun _ name ins _ =>
    match name, ins with
    | "Add", [some a, some b] => some [a + b]
    | "Less", [some a, some b] => some [if a < b then 1 else 0]
    | "Greater", [some a, some b] => some [if a > b then 1 else 0]
    | "Not", [some a] => some [if a = 0 then 1 else 0]
    | "And", [some a, some b] => some [if a ≠ 0 ∧ b ≠ 0 then 1 else 0]
    | "Identity", [some a] => some [a]
    | _, _ => none
  truth := fun v => some (v ≠ 0)
  natOf := fun v => some v.toNat
  ofNat := fun n => Int.ofNat n
  ofBool := fun b => if b then 1 else 0

/-- Regression witness of C01-D27 (fixed by ddfea30).  Before the fix the continuation condition of the Loop body
was `Not(b)` alone, so the re-computed `while` condition `c` was ignored after the first iteration (this input:
Python `16`, graph `128`).  Now it is `And(c, Not(b))`, and source and graph agree when the loop ends through `c`
(lim = 10) as well as through the `break` (big = 7).  The program is in the fragment of
`convert_correct_for_partial` (non-vacuity of its `while` + `break` part). -/
theorem while_break_keeps_condition_witness :
    forLine whileBreak.body = true ∧
    (match convert whileBreak with
     | .ok g =>
       (match condNodeOfFirstLoop g.nodes with
        | some (.op _ "And" [some _, some _] _ _) => true
        | _ => false)
       && evalGraph S1 12 g [1, 10, 100, 1] == some [16] && evalGraph S1 12 g [1, 100, 7, 1] == some [8]
     | .error _ => false) = true
    ∧ evalFunc S1 12 whileBreak [1, 10, 100, 1] = some [16]
    ∧ evalFunc S1 12 whileBreak [1, 100, 7, 1] = some [8] := by
  decide +kernel

/-- `il = Add(x0, x0); x = Identity(x0); c = Identity(c0); while c: x = Add(x, infinite_loop); c = Less(x, lim)` with
the user variable `il` spelled `infinite_loop`. -/
def capProg : Func :=
  { name := "f", params := [.tensor "x0", .tensor "lim", .tensor "c0"], retCount := none,
    body := [
      .assign "infinite_loop" (.call "" "Add" bsig [.var "x0", .var "x0"] []),
      .assign "x" (.call "" "Identity" tsig [.var "x0"] []),
      .assign "c" (.call "" "Identity" tsig [.var "c0"] []),
      .while_ (.var "c") [
        .assign "x" (.call "" "Add" bsig [.var "x", .var "infinite_loop"] []),
        .assign "c" (.call "" "Less" bsig [.var "x", .var "lim"] [])],
      .ret [.var "x"] false] }

def firstLoopBody : List Node → Option (List Name × List Node)
  | .loop _ _ _ _ bi bn _ :: _ => some (bi, bn)
  | _ :: rest => firstLoopBody rest
  | [] => none

/-- Regression witness of C01-D39 (fixed by 0fa00ae).  `_translate_loop_stmt` used to bind the placeholder name
`infinite_loop` to the iteration-number input of a `while` loop's body graph, so a user variable of that name was
captured inside the body (the `Add` read the iteration counter: `1, 2, 4, 7, 11` where Python has `1, 3, 5, 7, 9`).
Now the body reads the outer value, source and graph agree, and the program is in the fragment of
`convert_correct_for_partial`. -/
theorem while_does_not_capture_infinite_loop_witness :
    forLine capProg.body = true ∧
    (match convert capProg with
     | .ok g =>
       (match firstLoopBody g.nodes with
        | some (iv :: _, .op _ "Add" [_, some y] _ _ :: _) => y != iv
        | _ => false)
       && evalGraph S1 12 g [1, 8, 1] == some [9]
     | .error _ => false) = true
    ∧ evalFunc S1 12 capProg [1, 8, 1] = some [9] := by
  decide +kernel

/-- `if c: x = 1 else: x = 2; y = A + x` -/
def castLost : Func :=
  { name := "f", params := [.tensor "A", .tensor "c"], retCount := none,
    body := [
      .ite (.var "c") [.assign "x" (.lit (.int 1))] [.assign "x" (.lit (.int 2))],
      .assign "y" (.binop "Add" (.var "A") (.var "x")),
      .ret [.var "y"] false] }

def hasOp (name : String) : List Node → Bool
  | [] => false
  | .op _ n _ _ _ :: rest => n == name || hasOp name rest
  | _ :: rest => hasOp name rest

/-- Finding C01-D24: the literal assigned in the branches comes out of the `If` as an ordinary (int64) value; the
following `Add(A, x)` gets no `CastLike`, whereas beside a literal operand it does (`A + 1`). -/
theorem castable_lost_at_if_witness :
    (match convert castLost with
     | .ok g => !hasOp "CastLike" g.nodes && hasOp "Add" g.nodes
     | .error _ => false) = true
    ∧ (match convert { castLost with body := [.assign "y" (.binop "Add" (.var "A") (.lit (.int 1))), .ret [.var "y"] false] } with
       | .ok g => hasOp "CastLike" g.nodes
       | .error _ => false) = true := by
  constructor <;> decide +kernel

/-! ## The eager calling convention (`OnnxFunction.__call__` → `eval_function`; model: `OV/Model/C01Eager.lean`)

`pyBind` is what CPython does when the *underlying Python function* is called with the caller's positional and
keyword arguments (the plain-Python reading of a call); `eagerCall` is `tag_arguments_with_signature` +
the two `_adapt_to_eager_mode` loops of `eval_function` + CPython's binding of `function(*adapted_args,
**adapted_kwargs)`.  `sigMatch ps qs`: the `op_signature` `script()` derived and `inspect.signature` of the
Python function describe the same `def` (decided by the driver on every real signature of the tie stream). -/
section Eager
open OV.C01.Eager

/-- `tag_arguments_with_signature(sig, args, kwargs, fill_defaults=False)` on **every** call CPython itself would
accept (any number of positionals ≤ the arity, any keywords naming the other parameters, defaults): it raises
nothing and pairs each value with exactly the parameter CPython would bind it to — the positional ones in order,
the keyword ones in *parameter* order, omitted defaulted parameters left to CPython.  (Since 29a1f68 the function
checks `param.name in kwargs` for positionally given parameters, so distinct parameter names are needed here too.) -/
theorem eager_tagging_is_python_binding {A} (allowExtra : Bool) (d : SigParam → A) (ps : List SigParam)
    (qs : List (PyParam A)) (args : List A) (kw env : List (Name × A))
    (h : sigMatch ps qs = true) (hnd : nodupP ps = true) (hpy : pyBind qs args kw = .ok env) :
    tagArguments false allowExtra d ps args kw = .ok (tagSpec kw args ps) :=
  tagArguments_spec allowExtra d ps qs args kw env h hnd hpy

/-- **`eager_is_python`** (DESIGN §5): for every signature (any mix of tensor and attribute parameters, with or
without defaults), every call — positional, keyword, in any order, defaults omitted — that is defined as a plain
Python call (`pyBind … = ok env`), every kind of argument value (arrays, Tensors, Python scalars, `None`, nested
lists / tuples, foreign objects) and either setting of `_ignore_unknown_function_kwargs`: the body of the script
function starts from exactly the environment CPython would have built, with the value of every *tensor*
parameter promoted by `_adapt_to_eager_mode` and every attribute value untouched; it raises exactly when one
of those promotions raises (same exception, the first in parameter order); and `has_array` is "some tensor
parameter's value contains a numpy array". -/
theorem eager_is_python {V} (mk : Mk V) (allowExtra : Bool) (ps : List SigParam) (qs : List (PyParam (Arg V)))
    (args : List (Arg V)) (kw env : List (Name × Arg V))
    (h : sigMatch ps qs = true) (hnd : nodupP ps = true) (hpy : pyBind qs args kw = .ok env) :
    eagerCall mk allowExtra ps qs args kw =
      match adaptEnv mk ps env with
      | .error e => .error e
      | .ok env' => .ok (env', flagEnv ps env) :=
  eagerCall_python mk allowExtra ps qs args kw env h hnd hpy

/-- `def f(A, B, alpha: float = 2.0, k: int = 1)` as `script()` and as CPython see it -/
def eagerSig : List SigParam :=
  [⟨"A", true, false, true, false⟩, ⟨"B", true, false, true, false⟩,
   ⟨"alpha", false, false, false, true⟩, ⟨"k", false, false, false, true⟩]
def eagerPy : List (PyParam (Arg Nat)) :=
  [⟨"A", none⟩, ⟨"B", none⟩, ⟨"alpha", some (.flt "2.0")⟩, ⟨"k", some (.int 1)⟩]
def mkN : Mk Nat := ⟨fun b => if b then 1001 else 1000, fun _ => 2000, fun i => 3000 + i.toNat⟩

/-- non-vacuity of `eager_is_python`: `f(a7, k=5, B=[a8, 3])` — a keyword call out of order with a nested list;
the hypotheses hold and the body starts from `A = Tensor(7), B = [Tensor(8), Tensor(int64 3)], alpha = 2.0, k = 5` -/
example : sigMatch eagerSig eagerPy = true ∧ nodupP eagerSig = true
    ∧ pyBind eagerPy [Arg.arr 7] [("k", .int 5), ("B", .list [.arr 8, .int 3])]
        = .ok [("A", .arr 7), ("B", .list [.arr 8, .int 3]), ("alpha", .flt "2.0"), ("k", .int 5)]
    ∧ eagerCall mkN false eagerSig eagerPy [Arg.arr 7] [("k", .int 5), ("B", .list [.arr 8, .int 3])]
        = .ok ([("A", .ten 7), ("B", .list [.ten 8, .ten 3003]), ("alpha", .flt "2.0"), ("k", .int 5)], true) :=
  ⟨rfl, rfl, rfl, rfl⟩

/-- The result side of `eval_function`: a value made of arrays, `None`, lists and tuples survives the round trip
`_adapt_to_user_mode ∘ _adapt_to_eager_mode` unchanged (what a function that returns its argument hands back
when `has_array` is set), for every nesting depth. -/
theorem eager_result_roundtrip {V} (mk : Mk V) (x : Arg V) (hx : userVal x = true) :
    ∃ y, adapt mk x = .ok y ∧ toUser y = .ok x :=
  toUser_adapt mk x hx

example : userVal (Arg.tuple [.arr 1, .none, .list [.arr 2]] : Arg Nat) = true := rfl

/-- Regression witness of the fixed finding C01-D49 (29a1f68): `f(A, B, 3.0, 2, C)` — a fifth positional argument
for four parameters — and `f(A, B, A=C)` — a keyword repeating a positional parameter — are `TypeError`s for the
Python function, and `tag_arguments_with_signature` now raises for both ("Too many positional arguments" / "Got
multiple values for argument"); before the fix it dropped the surplus value and ran the body on `[1, 2, 3.0, 2]`
resp. `[1, 2, 2.0, 1]`. -/
theorem eager_surplus_and_duplicate_refused_witness :
    pyBind eagerPy [Arg.arr 1, .arr 2, .flt "3.0", .int 2, .arr 3] [] = .error .tooMany
    ∧ eagerCall mkN false eagerSig eagerPy [Arg.arr 1, .arr 2, .flt "3.0", .int 2, .arr 3] [] = .error .tooMany
    ∧ pyBind eagerPy [Arg.arr 1, .arr 2] [("A", .arr 3)] = .error .badKw
    ∧ eagerCall mkN false eagerSig eagerPy [Arg.arr 1, .arr 2] [("A", .arr 3)] = .error .badKw
    ∧ eagerCall mkN true eagerSig eagerPy [Arg.arr 1, .arr 2] [("A", .arr 3)] = .error .badKw :=
  ⟨rfl, rfl, rfl, rfl, rfl⟩

/-- **`eager_defined_only_where_python_is`** — the converse of `eager_is_python`, without a side condition on the call
(hypothesis `sigMatch`; stated for `_ignore_unknown_function_kwargs` off; since 29a1f68, C01-D49,
`tag_arguments_with_signature` refuses surplus positionals and a keyword that repeats a positional, so neither has to be
assumed away): with `_ignore_unknown_function_kwargs` off, for every
signature, every positional / keyword call and every kind of value, if eager mode reaches the body of the script
function then the call is one CPython accepts for the Python function.  Missing arguments, unknown keywords, surplus
positionals and repeated parameters are all refused, by `tag_arguments_with_signature` or by CPython's own binding
of the adapted arguments.  (With the option on, unknown keywords are dropped by design: `eager_refusals_witness`.) -/
theorem eager_defined_only_where_python_is {V} (mk : Mk V) (ps : List SigParam)
    (qs : List (PyParam (Arg V))) (args : List (Arg V)) (kw : List (Name × Arg V))
    (h : sigMatch ps qs = true)
    (hok : ∃ r, eagerCall mk false ps qs args kw = .ok r) : ∃ env, pyBind qs args kw = .ok env :=
  eagerCall_ok_python mk ps qs args kw h hok

/-- non-vacuity: `f(a7, k=5, B=[a8, 3])` reaches the body -/
example : sigMatch eagerSig eagerPy = true
    ∧ ∃ r, eagerCall mkN false eagerSig eagerPy [Arg.arr 7] [("k", .int 5), ("B", .list [.arr 8, .int 3])] = .ok r :=
  ⟨rfl, _, rfl⟩

/-- what eager mode does refuse, on the demo signature: a missing tensor argument, an unknown keyword (with
`_ignore_unknown_function_kwargs` it is dropped before CPython sees it), a `str` / numpy scalar for a tensor parameter — and it does not look at
attribute values at all (`alpha="x"` reaches the body). -/
theorem eager_refusals_witness :
    eagerCall mkN false eagerSig eagerPy [Arg.arr 1] [] = .error .missing
    ∧ eagerCall mkN false eagerSig eagerPy [Arg.arr 1, .arr 2] [("zeta", .int 1)] = .error .unexpectedKw
    ∧ eagerCall mkN true eagerSig eagerPy [Arg.arr 1, .arr 2] [("zeta", .int 1)]
        = .ok ([("A", .ten 1), ("B", .ten 2), ("alpha", .flt "2.0"), ("k", .int 1)], true)
    ∧ eagerCall mkN false eagerSig eagerPy [Arg.arr 1, .other "str"] [] = .error .badInput
    ∧ eagerCall mkN false eagerSig eagerPy [Arg.arr 1, .tuple [.arr 2, .other "float32"]] [] = .error .badInput
    ∧ eagerCall mkN false eagerSig eagerPy [Arg.ten 1, .int 2] [("alpha", .other "str")]
        = .ok ([("A", .ten 1), ("B", .ten 3002), ("alpha", .other "str"), ("k", .int 1)], false) :=
  ⟨rfl, rfl, rfl, rfl, rfl, rfl⟩

/-- **Eager entry = the entry of the source semantics** (`evalFunc`): a function whose parameters are all tensors,
called eagerly with one array per parameter.  `eval_function` reaches the body with an environment that, read as a
store, is exactly the store `evalFunc S fuel f vs` starts from (`Store.setMany ∅ (tensorParams f.params) (vs.map PV.t)`),
and `has_array` is set (results come back as arrays) unless there are no parameters.  Together with the
refinement theorems (`convert_correct_*_partial`: `evalFunc … = some out → evalGraph … = some out`) this is the chain
eager call → plain-Python meaning of the source → exported graph, all three on the same `vs`. -/
theorem eager_arrays_entry_is_evalFunc_entry {V} (mk : Mk V) (allowExtra : Bool) (f : Func) (vs : List V)
    (hall : ∀ p ∈ f.params, ∃ x, p = Param.tensor x) (hnd : (tensorParams f.params).Nodup)
    (hlen : vs.length = (tensorParams f.params).length) :
    ∃ env, eagerCall mk allowExtra (f.params.map paramSig) (f.params.map paramPy) (vs.map Arg.arr) []
        = .ok (env, !vs.isEmpty)
      ∧ ∀ x, Store.setMany (fun _ => none) (tensorParams f.params) (vs.map PV.t) x =
          match lk x env with
          | some (.ten v) => some (PV.t v)
          | _ => none := by
  obtain ⟨h1, h2⟩ := params_all_tensor (V := V) f.params hall
  refine ⟨(tensorParams f.params).zip (vs.map Arg.ten), ?_, ?_⟩
  · rw [h1, h2]; exact eagerCall_arrays mk allowExtra _ vs hnd hlen
  · intro x; exact setMany_eq_lk _ vs _ x hnd hlen

/-- non-vacuity: `def f(A, B)` called as `f(a1, a2)` -/
example : (∀ p ∈ [Param.tensor "A", Param.tensor "B"], ∃ x, p = Param.tensor x)
    ∧ (tensorParams [Param.tensor "A", Param.tensor "B"]).Nodup
    ∧ eagerCall mkN false ([Param.tensor "A", Param.tensor "B"].map paramSig)
        ([Param.tensor "A", Param.tensor "B"].map paramPy) ([1, 2].map Arg.arr) []
        = .ok ([("A", .ten 1), ("B", .ten 2)], true) :=
  ⟨by intro p hp; simp at hp; rcases hp with rfl | rfl <;> exact ⟨_, rfl⟩, by decide, rfl⟩

/-! ### `separate_input_attributes_from_arguments` (inputs and attributes of `op.Foo(a, b, k=…)` in `_translate_call_expr`) -/

/-- For every signature without a variadic parameter, every positional / keyword call in which the required
parameters are given (a required attribute may have a default) and no keyword is unknown (or unknown keywords
are allowed), `separate_input_attributes_from_arguments(sig, args, kwargs, fill_defaults=False)` returns: one slot
per input parameter **in signature order** holding the value given positionally or by keyword, `None` for an
omitted optional input, with the `None`s at the end removed — and the given attributes in signature order.
(The loop with its `trailing_placeholders` counter = the closed form `trimNone ∘ inputSlots`.) -/
theorem separate_inputs_attributes_spec {A} (allowExtraKw : Bool) (d : SigParam → A) (ps : List SigParam)
    (args : List A) (kw : List (Name × A)) (hv : noVariadic ps = true) (hr : requiredGiven kw args 0 ps = true)
    (hk : kw.any (fun e => !(ps.any (fun p => p.name = e.1))) = false ∨ allowExtraKw = true) :
    separate false allowExtraKw true d ps args kw
      = .ok (trimNone (inputSlots kw args 0 ps), attrSlots kw args 0 ps) :=
  separate_spec allowExtraKw d ps args kw hv hr hk

/-- **An input keeps the position of its parameter** (the ∀ form of the C01-D43 fix b7afd5e): under the hypotheses
above, if the `j`-th input parameter is given the value `v` (positionally or by keyword), the `j`-th ONNX input of the
call is `v` — however many optional inputs before it are omitted. -/
theorem separate_keeps_positions {A} (allowExtraKw : Bool) (d : SigParam → A) (ps : List SigParam)
    (args : List A) (kw : List (Name × A)) (hv : noVariadic ps = true) (hr : requiredGiven kw args 0 ps = true)
    (hk : kw.any (fun e => !(ps.any (fun p => p.name = e.1))) = false ∨ allowExtraKw = true)
    (j : Nat) (v : A) (hj : (inputSlots kw args 0 ps)[j]? = some (some v)) :
    ∃ ins attrs, separate false allowExtraKw true d ps args kw = .ok (ins, attrs) ∧ ins[j]? = some (some v) :=
  ⟨_, _, separate_spec allowExtraKw d ps args kw hv hr hk, trimNone_get _ j v hj⟩

/-- **Variadic signatures** (`Sum`, `Max`, `Concat`, …: one variadic input `p` between a non-variadic prefix `pre` and a
non-variadic rest `post`): the variadic parameter takes every positional argument from its own index on, the
parameters after it can only be given by keyword, and the result is again the closed form — the slots of `pre`, the
variadic values, the slots of `post`, trailing placeholders dropped; for either value of `allow_extra_args`. -/
theorem separate_variadic_spec {A} (allowExtraKw allowExtraArgs : Bool) (d : SigParam → A) (pre post : List SigParam)
    (p : SigParam) (args : List A) (kw : List (Name × A)) (hp : (p.isInput && p.variadic) = true)
    (hpre : noVariadic pre = true) (hpost : noVariadic post = true)
    (hr1 : requiredGiven kw args 0 pre = true) (hr2 : requiredGiven kw [] (pre.length + 1) post = true)
    (hk : kw.any (fun e => !((pre ++ p :: post).any (fun q => q.name = e.1))) = false ∨ allowExtraKw = true) :
    separate false allowExtraKw allowExtraArgs d (pre ++ p :: post) args kw =
      .ok (trimNone (inputSlots kw args 0 pre ++ (args.drop pre.length).map some
              ++ inputSlots kw [] (pre.length + 1) post),
           attrSlots kw args 0 pre ++ attrSlots kw [] (pre.length + 1) post) :=
  separate_variadic allowExtraKw allowExtraArgs d pre post p args kw hp hpre hpost hr1 hr2 hk

/-- non-vacuity: `op.Concat(a, b, axis=1)` (`Concat(inputs…, axis)`) -/
example : let p : SigParam := ⟨"inputs", true, true, true, false⟩
    let post : List SigParam := [⟨"axis", false, false, true, false⟩]
    (p.isInput && p.variadic) = true ∧ noVariadic post = true ∧ requiredGiven [("axis", "1")] ([] : List String) 1 post = true
    ∧ separate false false false (fun _ => "") ([] ++ p :: post) ["a", "b"] [("axis", "1")]
        = .ok ([some "a", some "b"], [("axis", "1")]) :=
  ⟨rfl, rfl, rfl, rfl⟩

/-- `Clip(input, min?, max?)` and `Sum(data_0, …)` as signatures -/
def clipSig : List SigParam :=
  [⟨"input", true, false, true, false⟩, ⟨"min", true, false, false, false⟩, ⟨"max", true, false, false, false⟩]
def sumSig : List SigParam := [⟨"data_0", true, true, true, false⟩]

/-- non-vacuity and regression witnesses: `op.Clip(x, max=hi)` is `Clip(x, None, hi)` (C01-D43), `op.Clip(x)` and
`op.Clip(x, min=lo)` drop the trailing placeholders, a variadic parameter takes all remaining positionals, a missing
required input and an unknown keyword are `TypeError`s, surplus positionals are dropped unless `allow_extra_args=False`. -/
theorem separate_witnesses :
    noVariadic clipSig = true ∧ requiredGiven [("max", "hi")] ["x"] 0 clipSig = true
    ∧ separate false false true (fun _ => "") clipSig ["x"] [("max", "hi")] = .ok ([some "x", none, some "hi"], [])
    ∧ separate false false true (fun _ => "") clipSig ["x"] [] = .ok ([some "x"], [])
    ∧ separate false false true (fun _ => "") clipSig ["x"] [("min", "lo")] = .ok ([some "x", some "lo"], [])
    ∧ separate false false true (fun _ => "") sumSig ["a", "b", "c"] [] = .ok ([some "a", some "b", some "c"], [])
    ∧ separate false false true (fun _ => "") clipSig [] [("max", "hi")] = .error .missing
    ∧ separate false false true (fun _ => "") clipSig ["x"] [("mx", "hi")] = .error .unexpectedKw
    ∧ separate false false true (fun _ => "") clipSig ["x", "lo", "hi", "extra"] [] = .ok ([some "x", some "lo", some "hi"], [])
    ∧ separate false false false (fun _ => "") clipSig ["x", "lo", "hi", "extra"] [] = .error .tooMany := by
  refine ⟨rfl, rfl, rfl, rfl, rfl, rfl, rfl, rfl, rfl, rfl⟩

end Eager

end OV.Props.C01
