import OV.Model.C13Export
import OV.Lemmas.C13Refuse
import OV.Lemmas.C13Roundtrip
import OV.Lemmas.C13Types
import OV.Lemmas.C13Conflict
import Std.Data.String.ToInt
import OV.Lemmas.C13Values
/-!
# C13 — ONNX → Python (`proto2python`) → ONNX round-trips to an equivalent model

The theorems of the property.  Models: `OV.Model.C13Export` (a transcription of
`onnxscript/backend/onnx_export.py`, tied to the source by `harness/c13.py` on every run), `OV.Model.C13Roundtrip`
(the straight-line fragment and the converter's reading of it), `OV.Model.C13Types` (type annotations),
`OV.Model.C13Values` (INT64 literals).  Lemmas: `OV.Lemmas.C13Names` (clean-up), `C13Mappers` (the two base renamers'
tables), `C13Renamer` (the renamer on the exporter state), `C13Refuse`, `C13Conflict` (attribute parameters),
`C13Roundtrip`, `C13Types`, `C13Values`.
-/
namespace OV.Props.C13
open OV.C13

/-! ## `_cleanup_variable_name` -/

/-- **Every non-empty name is cleaned into a Python identifier that is not a keyword** — for all
strings (all lengths, all characters; on non-ASCII characters the model's `isalpha` is the ASCII one,
which is where it may differ from CPython, hence the scope `asciiName` in DESIGN.md). -/
theorem cleanup_ident (n : List Char) (hne : n ≠ []) :
    isPyIdentL (cleanupL n) = true ∧ cleanupL n ∉ kwlistL :=
  cleanupL_ident n hne

/-- the same on `String` -/
theorem cleanup_ident_string (s : String) (hne : s ≠ "") :
    isPyIdentL (cleanup s).toList = true ∧ (cleanup s).toList ∉ kwlistL := by
  rw [cleanup_toList]
  exact cleanupL_ident _ (mt String.toList_eq_nil_iff.mp hne)

example : cleanup "layers.0.weight" = "layers_0_weight" ∧ cleanup "5" = "__5" ∧ cleanup "if" = "r_if" := by decide +kernel

/-- **Fixpoints**: a name that already is a non-keyword identifier is left alone (so on such names the
clean-up is injective: this is the non-vacuity of every `InjectiveOn cleanup` hypothesis below). -/
theorem cleanup_fixpoint (n : List Char) (hid : isPyIdentL n = true) (hk : n ∉ kwlistL) : cleanupL n = n :=
  cleanupL_fix n hid hk

/-- **Idempotence** — what makes the double translation of initializer names in
`_translate_graph_body` harmless when `rename=False`. -/
theorem cleanup_idempotent (n : List Char) (hne : n ≠ []) : cleanupL (cleanupL n) = cleanupL n :=
  cleanupL_fix _ (cleanupL_ident n hne).1 (cleanupL_ident n hne).2

/-- **Exact characterisation of the non-injectivity**: two names are cleaned to the same
identifier iff, after the keyword step (`if ↦ r_if`) and the first-character step (`5 ↦ __5`), they have the
same length and agree at every position up to "both characters are not alphanumeric"
(`a.b` / `a_b` / `a:b`, `5` / `__5` / `-_5`, `if` / `r_if`). -/
theorem cleanup_collisions (a b : List Char) :
    cleanupL a = cleanupL b ↔ pointwise sameClass (prefixed a) (prefixed b) := by
  rw [cleanupL_eq_map_prefixed, cleanupL_eq_map_prefixed, map_eq_map_iff_pointwise]
  exact pointwise_congr renameChar_eq_iff _ _

example : cleanup "a.b" = cleanup "a_b" ∧ cleanup "5" = cleanup "__5" ∧ cleanup "if" = cleanup "r_if"
    ∧ cleanup "x:0" = cleanup "x.0" ∧ cleanup "a.b" ≠ cleanup "a.c" := by decide +kernel

/-! ## the renaming applied to a graph -/

/-- **The short-name mapper**: over any request sequence, two requests get the same `v<k>` iff their keys are
equal (all lengths, all histories from a fresh mapper).  The key is the ONNX name itself (da27432). -/
theorem short_names_collide_iff (ks : List String) (i j : Nat) (hi : i < ks.length) (hj : j < ks.length)
    (hi' : i < (shortRun [] ks).1.length) (hj' : j < (shortRun [] ks).1.length) :
    (shortRun [] ks).1[i] = (shortRun [] ks).1[j] ↔ ks[i] = ks[j] := by
  rw [← shortRun_eq_iff ks [] List.nodup_nil hi hj, List.getElem?_eq_getElem hi', List.getElem?_eq_getElem hj',
    Option.some.injEq]

/-- The renaming the exporter applies to the value names of a main graph (no attribute parameters, no
remapping, names requested in the order `ns`) has one output per name. -/
theorem rename_table_length (o : Opts) (ns : List String) (hne : ∀ n ∈ ns, n ≠ "") :
    (translateVars o {} ns).1.length = ns.length := by
  obtain ⟨st₁, h, -⟩ := translateVars_plain o plain_empty tblInv_nil List.nodup_nil ns hne
  rw [h, List.length_map]

/-- **Two values get the same Python name exactly when they are the same ONNX value** — for every list of
names (every length, colliding clean-ups included), under `rename=False` (the uniquifying mapper) and under
`rename=True` (the short-name mapper) alike.  This is what the per-export uniquifier guarantees. -/
theorem rename_eq_iff_name_eq (o : Opts) (ns : List String) (hne : ∀ n ∈ ns, n ≠ "")
    (i j : Nat) (hi : i < ns.length) (hj : j < ns.length) :
    (translateVars o {} ns).1[i]? = (translateVars o {} ns).1[j]? ↔ ns[i] = ns[j] := by
  -- the names are printed as their base names in the state the run ends in, which knows them all
  obtain ⟨st₁, h, -, hT, hk⟩ := translateVars_plain o plain_empty tblInv_nil List.nodup_nil ns hne
  rw [h]
  exact getElem?_map_eq_iff (fun a ha b hb => baseName_inj hT (hk a ha) (hk b hb)) hi hj

/-- **`export_names_injective`** (da27432): distinct values of a graph never share a Python variable,
under every option tuple, for requests made from the empty exporter state `{}`.  Hypotheses: `hne` — no name is `""`
(the empty name is an absent input and never reaches the renamer) — and `hnd` — the list is duplicate-free (it lists
*distinct* values; a repeated name is the same value).  What is *not* assumed is anything about how the names clean
up. -/
theorem export_names_injective (o : Opts) (ns : List String) (hne : ∀ n ∈ ns, n ≠ "") (hnd : ns.Nodup)
    (i j : Nat) (hi : i < ns.length) (hj : j < ns.length)
    (h : (translateVars o {} ns).1[i]? = (translateVars o {} ns).1[j]?) : i = j :=
  (List.getElem_inj hnd).mp ((rename_eq_iff_name_eq o ns hne i j hi hj).mp h)

/-- … and the uniquified names (`rename=False`, non-empty ONNX names, empty start state) are never the empty text and
never the text `None` (which is how an absent input is printed).  **Despite its name this theorem does not state
"not a keyword"**: that no name in the mapper's table is a keyword is `TblInv.nokw` (kept by every run: `tblInv_uniqRun`,
from `uniqCand_ident`: every candidate, suffixed or not, is a non-keyword identifier), which the conclusion here does not
repeat. -/
theorem export_names_not_keywords (o : Opts) (hr : o.rename = false) (ns : List String) (hne : ∀ n ∈ ns, n ≠ "") :
    ∀ x ∈ (translateVars o {} ns).1, x ≠ "" ∧ x ≠ "None" := by
  rw [translateVars_uniq o hr ns {} plain_empty]
  intro x hx
  obtain ⟨n, hn, rfl⟩ := List.mem_map.mp hx
  have hT : TblInv (uniqRun ({} : St).uniq ns) := tblInv_uniqRun ns tblInv_nil
  exact ⟨pyT_ne_empty hT (hne n hn) (present_uniqRun ns _ _ hn), pyT_ne_None hT (hne n hn) (present_uniqRun ns _ _ hn)⟩

example : (translateVars ⟨false, false, false, false⟩ {} ["a.b", "a_b", "a:b", "a_b_1", "a.b"]).1
    = ["a_b", "a_b_1", "a_b_2", "a_b_1_1", "a_b"] := by decide +kernel

/-- Pre-fix behaviour, kept as the refuted statement (finding D14, fixed by da27432): the renamer used to be the
clean-up alone, and the clean-up is not injective. -/
theorem cleanup_alone_not_injective_prefix_refuted :
    ¬ (∀ a b : String, cleanup a = cleanup b → a = b) := by
  intro h
  exact absurd (h "a.b" "a_b" (by decide +kernel)) (by decide)

/-- The D14 witness as a whole model after the fix: `t = Relu(x)` named `a.b`, `u = Neg(x)` named `a_b`,
`y = Sub(a.b, a_b)` keeps two variables `a_b`, `a_b_1`. -/
theorem d14_witness_program_fixed :
    (exportModel ⟨false, false, false, false⟩ 2
      ⟨"g", none, [("", 18)],
       .mk ["x"] ["y"] [] 0
        [.mk "Relu" "" "" ["x"] ["a.b"] [], .mk "Neg" "" "" ["x"] ["a_b"] [],
         .mk "Sub" "" "" ["a.b", "a_b"] ["y"] []]⟩).toOption
      = some ["deco ", "sig g(x|)", "L1 call a_b = opset18.Relu(x|)", "L1 call a_b_1 = opset18.Neg(x|)",
             "L1 call y = opset18.Sub(a_b,a_b_1|)", "L1 return y"] := by
  decide +kernel

/-! ## refusals (`export_refuses`) -/

/-- **Sparse initializers are refused** under every option tuple, whatever else the graph contains. -/
theorem export_refuses_sparse (o : Opts) (d : Nat) (m : ModelP) (h : m.graph.nSparse > 0) :
    ∃ e, exportModel o d m = .error e :=
  exportModel_error_of_body o d m (fun _ st => graphBody_error_of_sparse o _ m.graph st h)

/-- **`Scan` is refused**: a main graph with a `Scan` node anywhere among its nodes is never exported. -/
theorem export_refuses_scan (o : Opts) (d : Nat) (m : ModelP) (n : Node)
    (hmem : n ∈ m.graph.nodes) (hop : n.op = "Scan") : ∃ e, exportModel o d m = .error e :=
  exportModel_error_of_node o d m n hmem (fun indent st => translateNode_scan o m.opsets d indent n st hop)

/-- **Graph attributes on operators other than If/Loop/Scan are refused.** -/
theorem export_refuses_graph_attr (o : Opts) (d : Nat) (m : ModelP) (n : Node)
    (hmem : n ∈ m.graph.nodes)
    (h1 : n.op ≠ "Constant") (h2 : n.op ≠ "If") (h3 : n.op ≠ "Loop") (h4 : n.op ≠ "Scan")
    (hg : n.attrs.any (·.2.isGraph) = true) : ∃ e, exportModel o d m = .error e :=
  exportModel_error_of_node o d m n hmem (fun indent st =>
    translateNode_error_of_plain o m.opsets d indent n st h1 h2 h3 h4
      ⟨_, translatePlain_graphAttr o m.opsets n indent st hg⟩)

/-- **Unknown attribute kinds are refused** (SPARSE_TENSOR, TYPE_PROTO, TENSORS, GRAPHS, …) on every node
that is printed as a call (operator sugar drops attributes: hence the side condition). -/
theorem export_refuses_attr_kind (o : Opts) (d : Nat) (m : ModelP) (n : Node) (k : String)
    (hmem : n ∈ m.graph.nodes)
    (h1 : n.op ≠ "Constant") (h2 : n.op ≠ "If") (h3 : n.op ≠ "Loop") (h4 : n.op ≠ "Scan")
    (hk : (k, Attr.unsupported) ∈ n.attrs) (hs : o.useOps = false ∨ opsTable.lookup n.op = none) :
    ∃ e, exportModel o d m = .error e :=
  exportModel_error_of_node o d m n hmem (fun indent st =>
    translateNode_error_of_plain o m.opsets d indent n st h1 h2 h3 h4
      (translatePlain_unsupported o m.opsets n indent st k hk hs))

example : ∃ e, exportModel ⟨false, true, true, false⟩ 3
    ⟨"g", none, [("", 18)], .mk ["x"] ["y"] [] 0 [.mk "Scan" "" "" ["x"] ["y"] [("body", .graph Graph.empty)]]⟩ = .error e :=
  export_refuses_scan _ _ _ (.mk "Scan" "" "" ["x"] ["y"] [("body", .graph Graph.empty)]) (by simp [Graph.nodes]) rfl

/-! ## inline constants -/

/-- **Which constants are inlined** (`_get_const_repr`, after 4e95266 and 71b4284): exactly FLOAT (1) / INT64 (7)
tensors of rank 0, or of rank 1 with 1 to 4 elements, all of whose elements are finite — for every dtype, every
shape. -/
theorem const_inlined_iff (dtype : Nat) (dims : List Nat) (finite : Bool) (lit : String) :
    (constRepr (.tensor dtype dims finite lit)).isSome = true ↔
      (dtype = 1 ∨ dtype = 7) ∧ (dims = [] ∨ ∃ n, dims = [n] ∧ 0 < n ∧ n < 5) ∧ finite = true := by
  unfold constRepr
  rcases dims with _ | ⟨n, _ | ⟨a, rest⟩⟩ <;> cases finite <;>
    simp [Option.isSome_iff_exists, Option.ite_none_left_eq_some, Option.ite_none_right_eq_some]
  omega

/-- Non-finite constants (C13-NANINF, fixed by 71b4284) and empty constants (C13-EMPTYLIST, fixed by 4e95266)
are never inlined: the node stays an ordinary `Constant(value=make_tensor(…))` call. -/
theorem nonfinite_and_empty_not_inlined (dtype : Nat) (dims : List Nat) (finite : Bool) (lit : String)
    (h : finite = false ∨ 0 ∈ dims) : constRepr (.tensor dtype dims finite lit) = none := by
  rw [← Option.not_isSome_iff_eq_none, const_inlined_iff]
  rintro ⟨-, hd, hf⟩
  rcases h with h | h
  · rw [h] at hf; cases hf
  · rcases hd with rfl | ⟨n, rfl, hn, -⟩
    · cases h
    · rw [List.mem_singleton] at h; omega

/-- A fact about the operator table only (`decide`): it has no key `"Less"` and has the non-existent `"Lesser"`; so
`sugarOf` never sugars a `Less` node.  (The table does not depend on the options.) -/
theorem less_not_sugared : opsTable.lookup "Less" = none ∧ opsTable.lookup "Lesser" = some "<" := by decide +kernel

/-- **`inline_const_repr_partial`** (INT64 scalars): the text `str(int)` parses back to the same integer, for
every integer.  (Finite floats rely on CPython's shortest-repr round trip, A-py, and are compared bit-wise by
the harness on every generated constant.) -/
theorem inline_const_repr_partial (i : Int) : (Int.repr i).toInt? = some i := Int.toInt?_repr i

/-- **`inline_const_repr_int64`** — value rendering of inlined INT64 constants round-trips, for **every** value:
the text `_get_const_repr` prints for an INT64 scalar (`str(np.int64(i))`) or an INT64 rank-1 tensor
(`repr(nparray.tolist())`, any length — the exporter only uses lengths 1–4) is read back (`parse`: optional `-`
and decimal digits; `[` items separated by `", "` `]`) as the same scalar, respectively the same list in the same
order.  `render` is compared character by character with the real `_get_const_repr`, `parse` with Python's own
reading of the text, on every run (`literal_stream`).  Unlike `inline_const_repr_partial` this is not restricted to
scalars; what remains outside is FLOAT (CPython's shortest float `repr`, A-py). -/
theorem inline_const_repr_int64 (v : OV.C13V.Lit) : OV.C13V.parse (OV.C13V.render v) = some v := by
  cases v with
  | scalar i => exact OV.C13V.parseL_scalar i
  | list l =>
    unfold OV.C13V.parse OV.C13V.render
    rw [String.toList_ofList]
    exact OV.C13V.parseL_list l

/-- consequently two different INT64 constants are never printed as the same text -/
theorem inline_const_repr_int64_injective (v w : OV.C13V.Lit) (h : OV.C13V.render v = OV.C13V.render w) : v = w := by
  have hv := inline_const_repr_int64 v
  rw [h, inline_const_repr_int64 w] at hv
  exact (Option.some.inj hv).symm

/-- **`_get_const_repr` on INT64 tensors, end to end**: whenever the exporter inlines an INT64 tensor with
dimensions `dims` and elements `vals` as the text `s`, reading `s` back gives the scalar (rank 0) or the list of
all elements in order (rank 1) — `constLitI64` says which. -/
theorem inline_const_tensor_int64 (dims : List Nat) (vals : List Int) (s : String)
    (h : OV.C13V.constReprI64 dims vals = some s) :
    ∃ v, OV.C13V.constLitI64 dims vals = some v ∧ OV.C13V.parse s = some v := by
  unfold OV.C13V.constReprI64 at h
  cases hv : OV.C13V.constLitI64 dims vals with
  | none => rw [hv] at h; cases h
  | some v =>
    rw [hv] at h
    simp only [Option.map_some, Option.some.injEq] at h
    exact ⟨v, rfl, h ▸ inline_const_repr_int64 v⟩

/-- non-vacuity: a rank-1 tensor with negative and boundary values is inlined, and its text -/
example : OV.C13V.constReprI64 [3] [-9223372036854775808, 0, 9223372036854775807]
    = some "[-9223372036854775808, 0, 9223372036854775807]" := by decide +kernel
example : OV.C13V.constReprI64 [] [-7] = some "-7" := by decide +kernel
example : OV.C13V.constReprI64 [5] [1, 2, 3, 4, 5] = none ∧ OV.C13V.constReprI64 [0] [] = none
    ∧ OV.C13V.constReprI64 [1, 1] [3] = none := by decide +kernel

/-- the value-level model inlines exactly the INT64 tensors the exporter model `constRepr` inlines (dtype 7, all
elements finite): same guard, for every shape and every element list of the right length -/
theorem inline_const_int64_guard (dims : List Nat) (vals : List Int) (lit : String)
    (hlen : vals.length = dims.foldl (· * ·) 1) :
    (OV.C13V.constReprI64 dims vals).isSome = (constRepr (.tensor 7 dims true lit)).isSome := by
  unfold OV.C13V.constReprI64 OV.C13V.constLitI64 constRepr
  cases dims with
  | nil =>
    match vals, hlen with
    | [v], _ => simp
  | cons n t =>
    cases t with
    | nil =>
      by_cases h0 : n = 0
      · subst h0; simp
      · have : ¬ (0 = n) := fun e => h0 e.symm
        by_cases hn : n < 5 <;> simp [this, hn]
    | cons a b => by_cases h0 : 0 ∈ n :: a :: b <;> simp [h0]

example : ([4, -4] : List Int).length = ([2] : List Nat).foldl (· * ·) 1 := by decide +kernel

/-- (Records two facts; it does not refute a stated theorem — the suffix `_prefix_refuted` only marks "pre-fix
behaviour".)  Why non-finite constants must not be printed with `str()` (pre-fix behaviour, C13-NANINF):
`str(np.float32('nan'))`, `str(np.float32('inf'))` are the bare words `nan`, `inf` — Python identifiers and not
keywords, hence names, not literals. -/
theorem inline_const_repr_naninf_prefix_refuted :
    (isPyIdentL "nan".toList = true ∧ "nan".toList ∉ kwlistL) ∧
    (isPyIdentL "inf".toList = true ∧ "inf".toList ∉ kwlistL) := by decide +kernel


/-! ## Lean witnesses of the other reproduced findings (each is replayed on the real exporter by the harness) -/

/-- C13-RENAME-SIG (fixed by efaa07e): with `rename=True` the signature of a main graph is printed through the
same renamer as the body (after the body, so the numbering of the body is unchanged): input `x` is `v2` in both. -/
theorem rename_signature_fixed :
    (exportModel ⟨true, false, false, false⟩ 2
      ⟨"g", none, [("", 18)],
       .mk ["x"] ["y"] [] 0 [.mk "Relu" "" "" ["x"] ["t"] [], .mk "Neg" "" "" ["t"] ["y"] []]⟩).toOption
      = some ["deco ", "sig g(v2|)", "L1 call v1 = opset18.Relu(v2|)", "L1 call v3 = opset18.Neg(v1|)", "L1 return v3"] := by
  decide +kernel

/-- the loop body `s_out = Add(s_in, x); c_out = Identity(c_in)` of the two loop witnesses -/
def forBody : Graph :=
  .mk ["i", "c_in", "s_in"] ["c_out", "s_out"] [] 0
    [.mk "Add" "" "" ["s_in", "x"] ["s_out"] [], .mk "Identity" "" "" ["c_in"] ["c_out"] []]

/-- C13-FOR-MAIN (fixed by e68372f): a `for` loop (trip count, condition passed through) in a *main graph* is
exported — the main graph has its own remapping scope — and the suppressed `c_out = c_in` copy and the
state hand-over are printed as for a function body. -/
theorem for_loop_in_main_graph_fixed :
    (exportModel ⟨false, false, false, false⟩ 3 ⟨"g", none, [("", 18)],
        .mk ["x", "n"] ["y"] [] 0 [.mk "Loop" "" "" ["n", "", "x"] ["y"] [("body", .graph forBody)]]⟩).toOption
      = some ["deco ", "sig g(x,n|)", "L1 assign s_in = x", "L1 for i n", "L2 call s_out = opset18.Add(s_in,x|)",
              "L2 assign s_in = s_out", "L1 assign y = s_in", "L1 return y"] := by
  decide +kernel

/-- … under every option tuple the export succeeds (no exception). -/
theorem for_loop_in_main_graph_fixed_all_options : ∀ o : Opts,
    (exportModel o 3 ⟨"g", none, [("", 18)],
        .mk ["x", "n"] ["y"] [] 0 [.mk "Loop" "" "" ["n", "", "x"] ["y"] [("body", .graph forBody)]]⟩).toOption.isSome
      = true := by
  -- one evaluation over the four flags: the keyword table behind `cleanup` is the dear part of a run
  intro ⟨r, u, i, s⟩
  revert r u i s
  decide +kernel

/-- Pre-fix behaviour, kept as the refuted statement: `_translate_loop` run without any remapping scope (what
`_translate_graph` did before e68372f) raises `IndexError`, for every option tuple. -/
theorem for_loop_without_scope_prefix_refuted : ∀ o : Opts,
    (match translateLoop o (translateNode o [("", 18)] 2 2) 2
        (.mk "Loop" "" "" ["n", "", "x"] ["y"] [("body", .graph forBody)]) 1 {} with
     | .error e => e.pyClass
     | .ok _ => "") = "IndexError" := by
  intro ⟨r, u, i, s⟩
  revert r u i s
  decide +kernel

/-- … while the same loop in a FunctionProto is exported (the stack has the function's scope). -/
theorem for_loop_in_function_ok :
    (exportFunction ⟨false, false, false, false⟩ 3
      ⟨"f", "this", ["x", "n"], ["y"], [], ["x", "n", "y", "i", "c_in", "s_in", "c_out", "s_out"], [("", 18)],
       [.mk "Loop" "" "" ["n", "", "x"] ["y"] [("body", .graph forBody)]]⟩).toOption
      = some ["deco this1", "sig f(x,n|)", "L1 assign s_in = x", "L1 for i n", "L2 call s_out = opset18.Add(s_in,x|)",
              "L2 assign s_in = s_out", "L1 assign y = s_in", "L1 return y"] := by
  decide +kernel

/-- C13-SKIP-INDENT (fixed by 4af3eb7): `skip_initializers=True` without a large initializer prints the function
at depth 1, without `make_model` — exactly the text of `skip_initializers=False`. -/
theorem skip_initializers_nothing_skipped_fixed :
    (exportModel ⟨false, false, false, true⟩ 2
        ⟨"g", none, [("", 18)], .mk ["x"] ["y"] [] 0 [.mk "Relu" "" "" ["x"] ["y"] []]⟩).toOption
      = some ["deco ", "sig g(x|)", "L1 call y = opset18.Relu(x|)", "L1 return y"] := by
  decide +kernel

/-- … and with a large initializer the function stays one level deep inside `make_model(w)`. -/
theorem skip_initializers_wrapped :
    (exportModel ⟨false, false, false, true⟩ 2
        ⟨"g", none, [("", 18)], .mk ["x"] ["y"] [("w", 6, 1, [6], true, "#big")] 0 [.mk "Add" "" "" ["x", "w"] ["y"] []]⟩).toOption
      = some ["wrap w", "deco ", "sig g(x|)", "L2 call y = opset18.Add(x,w|)", "L2 return y"] := by
  decide +kernel

/-- C13-INLINE-DANGLING (fixed by b124a38): an inlined constant that is a graph output is returned as its literal
(right-hand sides of the SSA-undoing assignments, the `return`s and the Loop trip count are printed through
`_translate_onnx_var_ref`). -/
theorem inline_const_output_fixed :
    (exportModel ⟨false, false, true, false⟩ 2
      ⟨"g", none, [("", 18)],
       .mk ["x"] ["k"] [] 0 [.mk "Constant" "" "" [] ["k"] [("value", .tensor 1 [] true "#0")]]⟩).toOption
      = some ["deco ", "sig g(x|)", "L1 return #0"] := by
  decide +kernel

/-- C13-INLINE-SCOPE (fixed by e0cdb9e): the table of inlined constants is saved before and restored after each If
branch.  `t` is an inlinable Constant in the then-branch and `Add(x, x)` in the else-branch (sibling scopes may define
the same name); the else-branch reads its own `t`: `r2 = Identity(t)` (pre-fix: `Identity(#0)`, the then-branch's
literal — 1.0 instead of 6.0 for `c = False`, `x = 3`).  Must-pass regression case of the harness. -/
theorem inline_const_sibling_scope_fixed :
    (exportModel ⟨false, false, true, false⟩ 3 ⟨"g", none, [("", 18)],
        .mk ["c", "x"] ["y"] [] 0
          [.mk "If" "" "" ["c"] ["y"]
             [("then_branch", .graph (.mk [] ["r1"] [] 0
                 [.mk "Constant" "" "" [] ["t"] [("value", .tensor 1 [] true "#0")], .mk "Identity" "" "" ["t"] ["r1"] []])),
              ("else_branch", .graph (.mk [] ["r2"] [] 0
                 [.mk "Add" "" "" ["x", "x"] ["t"] [], .mk "Identity" "" "" ["t"] ["r2"] []]))]]⟩).toOption
      = some ["deco ", "sig g(c,x|)", "L1 if c", "L2 call r1 = opset18.Identity(#0|)", "L2 assign y = r1", "L1 else",
              "L2 call t = opset18.Add(x,x|)", "L2 call r2 = opset18.Identity(t|)", "L2 assign y = r2",
              "L1 return y"] := by
  decide +kernel

/-- the same for Loop bodies (e0cdb9e): `t` is an inlined Constant in the first body and `Neg(s2)` in the second;
the second body reads its own `t`. -/
theorem inline_const_loop_body_scope_fixed :
    (exportModel ⟨false, false, true, false⟩ 3 ⟨"g", none, [("", 18)],
        .mk ["n", "x"] ["y"] [] 0
          [.mk "Loop" "" "" ["n", "", "x"] ["a"]
             [("body", .graph (.mk ["i", "ci", "s"] ["co", "so"] [] 0
                 [.mk "Identity" "" "" ["ci"] ["co"] [],
                  .mk "Constant" "" "" [] ["t"] [("value", .tensor 1 [] true "#0")],
                  .mk "Add" "" "" ["s", "t"] ["so"] []]))],
           .mk "Loop" "" "" ["n", "", "a"] ["y"]
             [("body", .graph (.mk ["i2", "ci2", "s2"] ["co2", "so2"] [] 0
                 [.mk "Identity" "" "" ["ci2"] ["co2"] [],
                  .mk "Neg" "" "" ["s2"] ["t"] [],
                  .mk "Add" "" "" ["s2", "t"] ["so2"] []]))]]⟩).toOption
      = some ["deco ", "sig g(n,x|)", "L1 assign s = x", "L1 for i n", "L2 call so = opset18.Add(s,#0|)",
              "L2 assign s = so", "L1 assign a = s", "L1 assign s2 = a", "L1 for i2 n", "L2 call t = opset18.Neg(s2|)",
              "L2 call so2 = opset18.Add(s2,t|)", "L2 assign s2 = so2", "L1 assign y = s2", "L1 return y"] := by
  decide +kernel

/-- **`if_constants_scoped`** (e0cdb9e, for every If node): the table of inlined constants after a successful
`_translate_if` equals the table before it — for every option tuple, every node translator `recIn` (any nesting), every
depth, every state, and also when the If is dropped as dead.  **This is all the theorem says** (nothing a branch inlines
survives the statement).  That the else-branch starts from the saved table, i.e. does not see the then-branch's
constants, is how `translateIf` is *defined* (tied to the real exporter by the correspondence runs) and is shown on
the concrete witness `inline_const_sibling_scope_fixed`; it is not a consequence of this theorem. -/
theorem if_constants_scoped (o : Opts) (recIn : Node → St → R) (d : Nat) (n : Node) (indent : Nat) (st : St)
    (lines : List String) (st' : St) (h : translateIf o recIn d n indent st = .ok (lines, st')) :
    st'.constants = st.constants := by
  unfold translateIf at h
  simp only at h
  split at h
  · split at h
    · cases h
    · split at h
      · cases h
      · split at h
        all_goals
          split at h <;>
          · simp only [Except.ok.injEq, Prod.mk.injEq] at h
            rw [← h.2]; exact OV.C13.translateVarRef_constants o st _
  · cases h

/-- non-vacuity of `if_constants_scoped`: an If whose then-branch inlines a constant is translated (not refused), from
a state that already holds a constant -/
example :
    ((translateIf ⟨false, false, true, false⟩ (translateNode ⟨false, false, true, false⟩ [("", 18)] 2 2) 2
        (.mk "If" "" "" ["c"] ["y"]
          [("then_branch", .graph (.mk [] ["t"] [] 0 [.mk "Constant" "" "" [] ["t"] [("value", .tensor 1 [] true "#0")]])),
           ("else_branch", .graph (.mk [] ["r2"] [] 0 [.mk "Neg" "" "" ["x"] ["r2"] []]))])
        1 { constants := [("k", "#9")], namesRead := ["y"] }).toOption.map (fun r => (r.1.length, r.2.constants)))
      = some (5, [("k", "#9")]) := by decide +kernel

/-- **`function_constants_cleared`** (e0cdb9e): `_translate_function` starts every function from an empty table of
inlined constants, whatever was translated before (for every start state) -/
theorem function_constants_cleared (o : Opts) (d : Nat) (f : FunctionP) (st : St) :
    (funcState o d f st).constants = [] := by
  unfold funcState
  simp only [OV.C13.translateVars_constants]

/-- C13-READ-SCOPE (fixed by ce0fc89): `_names_read` is the read set of the graph being translated.  The inner If of the
then-branch is dead (its result `a` is read nowhere in its graph); the else-branch defines and reads its own `a`
(sibling scopes may define the same name).  The dead If is dropped (pre-fix it was printed, `a` assigned in both
inner branches and never read, and the converter refused the text).  Must-pass regression case of the harness. -/
theorem read_scope_sibling_fixed :
    (exportModel ⟨false, false, false, false⟩ 4 ⟨"g", none, [("", 18)],
        .mk ["c", "x"] ["y"] [] 0
          [.mk "If" "" "" ["c"] ["y"]
             [("then_branch", .graph (.mk [] ["r1"] [] 0
                 [.mk "If" "" "" ["c"] ["a"]
                    [("then_branch", .graph (.mk [] ["k1"] [] 0 [.mk "Neg" "" "" ["x"] ["k1"] []])),
                     ("else_branch", .graph (.mk [] ["k2"] [] 0 [.mk "Abs" "" "" ["x"] ["k2"] []]))],
                  .mk "Relu" "" "" ["x"] ["r1"] []])),
              ("else_branch", .graph (.mk [] ["r2"] [] 0
                 [.mk "Tanh" "" "" ["x"] ["a"] [], .mk "Identity" "" "" ["a"] ["r2"] []]))]]⟩).toOption
      = some ["deco ", "sig g(c,x|)", "L1 if c", "L2 call r1 = opset18.Relu(x|)", "L2 assign y = r1", "L1 else",
              "L2 call a = opset18.Tanh(x|)", "L2 call r2 = opset18.Identity(a|)", "L2 assign y = r2",
              "L1 return y"] := by
  decide +kernel

/-- **`graph_body_read_set_scoped`** (ce0fc89, for every subgraph): while a subgraph is translated `_names_read` is that
graph's own set (`graphBodyR` is `graphBody` from the state with `namesRead := g.outputs ++ namesReadBy d g.nodes`), and
afterwards the enclosing graph's set is back — for every option tuple, node translator, graph and state. -/
theorem graph_body_read_set_scoped (o : Opts) (d : Nat) (rec : Node → St → R) (g : Graph) (st : St)
    (lines : List String) (st' : St) (h : graphBodyR o d rec g st = .ok (lines, st')) :
    st'.namesRead = st.namesRead
    ∧ ∃ st1, graphBody o rec g { st with namesRead := g.outputs ++ namesReadBy d g.nodes } = .ok (lines, st1) := by
  unfold graphBodyR at h
  simp only at h
  split at h
  · cases h
  · rename_i l st1 heq
    simp only [Except.ok.injEq, Prod.mk.injEq] at h
    exact ⟨by rw [← h.2], ⟨st1, by rw [heq, h.1]⟩⟩

/-- non-vacuity: a subgraph is translated from a state whose read set is another graph's -/
example :
    ((graphBodyR ⟨false, false, false, false⟩ 2 (translateNode ⟨false, false, false, false⟩ [("", 18)] 2 2)
        (.mk [] ["r2"] [] 0 [.mk "Neg" "" "" ["x"] ["r2"] []]) { namesRead := ["a", "y"] }).toOption.map
          (fun r => (r.1, r.2.namesRead)))
      = some (["L2 call r2 = opset18.Neg(x|)"], ["a", "y"]) := by decide +kernel

/-- C13-OPSET-NAME (fixed by 7e6d802): the module-level names of the generated text (opset aliases, `np`,
`make_tensor`, …, the imported type names) are reserved in the unique-name mapper: a value named `opset18` is
printed `opset18_1`. -/
theorem opset_alias_reserved_fixed :
    (exportModel ⟨false, false, false, false⟩ 2
      ⟨"g", none, [("", 18)],
       .mk ["x"] ["y"] [] 0 [.mk "Relu" "" "" ["x"] ["opset18"] [], .mk "Neg" "" "" ["opset18"] ["y"] []]⟩).toOption
      = some ["deco ", "sig g(x|)", "L1 call opset18_1 = opset18.Relu(x|)", "L1 call y = opset18.Neg(opset18_1|)",
              "L1 return y"] := by
  decide +kernel

/-- the loop body of the two break-loop statements: `s_out = Add(s_in, x); c_out = Less(s_out, x)` -/
def breakBody : Graph :=
  .mk ["i", "c_in", "s_in"] ["c_out", "s_out"] [] 0
    [.mk "Add" "" "" ["s_in", "x"] ["s_out"] [], .mk "Less" "" "" ["s_out", "x"] ["c_out"] []]

/-- C13-LOOP-BREAK-NOINIT (fixed by 413fb60): a Loop with a trip count and a computed condition but **no initial
condition** is printed `for …: <body>; c_in = Not(c_out); <hand-over>; if c_in: break` — the form the converter
accepts. -/
theorem loop_break_last_fixed :
    (exportModel ⟨false, false, false, false⟩ 3 ⟨"g", none, [("", 18)],
        .mk ["x", "n"] ["y"] [] 0 [.mk "Loop" "" "" ["n", "", "x"] ["y"] [("body", .graph breakBody)]]⟩).toOption
      = some ["deco ", "sig g(x,n|)", "L1 assign s_in = x", "L1 for i n", "L2 call s_out = opset18.Add(s_in,x|)",
              "L2 call c_out = opset18.Less(s_out,x|)", "L2 call c_in = opset18.Not(c_out|)", "L2 assign s_in = s_out",
              "L2 breakif c_in", "L1 assign y = s_in", "L1 return y"] := by
  decide +kernel

/-- C13-LOOP-BREAK (open, narrowed): the same loop **with** an initial condition input is still printed with the
break first, on `not c_in` (`forbreak`), which the converter refuses. -/
theorem loop_break_with_initial_condition_witness :
    (exportModel ⟨false, false, false, false⟩ 3 ⟨"g", none, [("", 18)],
        .mk ["x", "n", "c0"] ["y"] [] 0 [.mk "Loop" "" "" ["n", "c0", "x"] ["y"] [("body", .graph breakBody)]]⟩).toOption
      = some ["deco ", "sig g(x,n,c0|)", "L1 assign c_in = c0", "L1 assign s_in = x", "L1 forbreak i n c_in",
              "L2 call s_out = opset18.Add(s_in,x|)", "L2 call c_out = opset18.Less(s_out,x|)", "L2 assign c_in = c_out",
              "L2 assign s_in = s_out", "L1 assign y = s_in", "L1 return y"] := by
  decide +kernel

/-- C13-DEAD-IF-DIRECT (fixed by 0215218): an If none of whose outputs is read anywhere is dropped from the text.
(The *open* finding C13-DEAD-IF is the transitive remainder, `dead_if_transitive_witness`.) -/
theorem dead_if_dropped_fixed :
    (exportModel ⟨false, false, false, false⟩ 3 ⟨"g", none, [("", 18)],
        .mk ["x", "c"] ["y"] [] 0
          [.mk "If" "" "" ["c"] ["unused"]
             [("then_branch", .graph (.mk [] ["k1"] [] 0 [.mk "Neg" "" "" ["x"] ["k1"] []])),
              ("else_branch", .graph (.mk [] ["k2"] [] 0 [.mk "Abs" "" "" ["x"] ["k2"] []]))],
           .mk "Relu" "" "" ["x"] ["y"] []]⟩).toOption
      = some ["deco ", "sig g(x,c|)", "L1 call y = opset18.Relu(x|)", "L1 return y"] := by
  decide +kernel

/-- C13-DEAD-IF (open, narrowed): `_names_read` is not transitive — an If read only by another If that is dropped is
still printed, with a result variable (`a`) that nothing reads; the converter refuses such an `if`. -/
theorem dead_if_transitive_witness :
    (exportModel ⟨false, false, false, false⟩ 3 ⟨"g", none, [("", 18)],
        .mk ["x", "c"] ["y"] [] 0
          [.mk "If" "" "" ["c"] ["a"]
             [("then_branch", .graph (.mk [] ["q1"] [] 0 [.mk "Neg" "" "" ["x"] ["q1"] []])),
              ("else_branch", .graph (.mk [] ["q2"] [] 0 [.mk "Abs" "" "" ["x"] ["q2"] []]))],
           .mk "If" "" "" ["c"] ["unused"]
             [("then_branch", .graph (.mk [] ["q3"] [] 0 [.mk "Relu" "" "" ["a"] ["q3"] []])),
              ("else_branch", .graph (.mk [] ["q4"] [] 0 [.mk "Tanh" "" "" ["a"] ["q4"] []]))],
           .mk "Relu" "" "" ["x"] ["y"] []]⟩).toOption
      = some ["deco ", "sig g(x,c|)", "L1 if c", "L2 call q1 = opset18.Neg(x|)", "L2 assign a = q1", "L1 else",
              "L2 call q2 = opset18.Abs(x|)", "L2 assign a = q2", "L1 call y = opset18.Relu(x|)", "L1 return y"] := by
  decide +kernel

/-- C13-LOCAL-FUNCTIONS (fixed by 41fb399): a call of a model-local function printed above goes through the Python
function (`helper(x, x)`), not through the Opset object. -/
theorem local_function_call_fixed :
    (exportModelF [] ⟨false, false, false, false⟩ 3
      [⟨"helper", "my.dom", ["A", "B"], ["R"], [], ["A", "B", "R", "T"], [("", 18)],
        [.mk "Relu" "" "" ["A"] ["T"] [], .mk "Add" "" "" ["T", "B"] ["R"] []]⟩]
      ⟨"g", none, [("", 18), ("my.dom", 1)],
       .mk ["x"] ["y"] [] 0 [.mk "helper" "my.dom" "" ["x", "x"] ["t"] [], .mk "Neg" "" "" ["t"] ["y"] []]⟩).toOption
      = some ["deco my_dom1", "sig helper(A,B|)", "L1 call T = opset18.Relu(A|)", "L1 call R = opset18.Add(T,B|)",
              "L1 return R", "deco ", "sig g(x|)", "L1 call t = helper(x,x|)", "L1 call y = opset18.Neg(t|)",
              "L1 return y"] := by
  decide +kernel

/-- C13-ATTR-INPUT-CLASH (fixed by 9e40403): the attribute parameters are registered before the inputs are
translated, so an input whose Python name equals an attribute parameter is renamed in the signature exactly as in
the body (`v1_0`), and the signature has no duplicate. -/
theorem attr_input_clash_fixed :
    (exportFunction ⟨true, false, false, false⟩ 2
      ⟨"af_w", "this", ["X"], ["y"], ["v1"], ["X", "y"], [("", 18)],
       [.mk "Elu" "" "" ["X"] ["y"] [("alpha", .ref "v1")]]⟩).toOption
      = some ["deco this1", "sig af_w(v1_0|v1)", "L1 call v2 = opset18.Elu(v1_0|alpha=@v1)", "L1 return v2"] := by
  decide +kernel

/-- C13-POW-NEG (fixed by b6d60b3): the negative literal base of `**` is printed in parentheses … -/
theorem pow_neg_parenthesised_fixed :
    (exportModel ⟨false, true, true, false⟩ 2
      ⟨"g", none, [("", 18)],
       .mk ["x"] ["y"] [] 0
        [.mk "Constant" "" "" [] ["c"] [("value", .tensor 1 [] true "-#0")], .mk "Pow" "" "" ["c", "x"] ["y"] []]⟩).toOption
      = some ["deco default_opset=opset18", "sig g(x|)", "L1 op y = (-#0) ** x", "L1 return y"] := by
  decide +kernel

/-- … and nothing else is ever parenthesised: the operand list is unchanged unless the operator is `Pow` and the
first operand's text starts with `-`. -/
theorem powParen_only_pow_neg (op : String) (a : String) (rest : List String)
    (h : op ≠ "Pow" ∨ a.toList.head? ≠ some '-') : powParen op (a :: rest) = a :: rest := by
  rcases h with h | h
  · have : (op == "Pow") = false := by simpa using h
    simp [powParen, this]
  · exact powParen_nodash h op rest

/-! ## the round trip on the straight-line fragment (`export_roundtrip`) -/

/-- **On the fragment the exporter prints exactly `exportStraight`**: for every option tuple with `rename=False`,
`inline_const=False` (either value of `use_operators`, `skip_initializers`), every straight-line model of the
fragment (`straightModel`: no initializers, standard-domain plain nodes with printable attributes, operator sugar
only where it is symmetric), the string-level model tied to the real exporter returns the rendering of the
structured program the next theorem is about. -/
theorem export_prints_straight (tys : List String) (o : Opts) (m : ModelP) (h : straightModel tys o m = true)
    (d : Nat) : exportModelT tys o (d + 1) m = .ok (renderProg (exportStraight tys o m)) :=
  exportModel_straight tys o m h d

/-- **`export_roundtrip_partial`** — ONNX → Python → ONNX on the straight-line fragment, **without any hypothesis on
the names** (since da27432 the exporter's renaming is injective by construction): the graph the converter reads
back from the exported program (`progToGraph`: one node per statement, callee through the import table, operator
sugar through the converter's own `primop_map`, `None` ↦ absent input) computes the same outputs as the original
**for every operator semantics `S` (uninterpreted), every argument list**, and its inputs/outputs are the original
ones renamed by the export's table.  *Partial* because of the fragment only: `straightModel` excludes the
asymmetric sugar cases (`sugar_table_asymmetry`, `sugar_reads_back_without_attributes`), inlined constants,
initializers and control flow (those are observed by the execution oracle, not proved). -/
theorem export_roundtrip_partial {V : Type} (S : Sem V) (tys : List String) (o : Opts) (m : ModelP)
    (hfrag : straightModel tys o m = true) (args : List V) :
    evalGraph S (progToGraph (exportStraight tys o m)) args = evalGraph S m.graph args
    ∧ (progToGraph (exportStraight tys o m)).inputs = m.graph.inputs.map (tblF (finalTable tys o m))
    ∧ (progToGraph (exportStraight tys o m)).outputs = m.graph.outputs.map (tblF (finalTable tys o m)) := by
  have hm := straightModel_spec hfrag
  rw [progToGraph_exportStraight tys o m hfrag]
  exact ⟨evalGraph_ren S (tblF (finalTable tys o m)) m.graph (goodRen_finalTable tys o m hfrag) hm.ins hm.outs args,
    rfl, rfl⟩

/-- the renaming of the theorem is injective on the graph's names and never yields the empty name -/
theorem export_roundtrip_renaming_injective (tys : List String) (o : Opts) (m : ModelP)
    (hfrag : straightModel tys o m = true) :
    ∀ a ∈ namesOfGraph 0 m.graph, ∀ b ∈ namesOfGraph 0 m.graph,
      tblF (finalTable tys o m) a = tblF (finalTable tys o m) b → a = b :=
  (goodRen_finalTable tys o m hfrag).inj

/-- non-vacuity: a model of the fragment whose names collide after clean-up (`t.0` / `t_0`), need cleaning
(`x.1`, `5`, `y:0`), with sugar on and an absent optional input -/
example :
    straightModel ["FLOAT"] ⟨false, true, false, true⟩
      ⟨"g", none, [("", 18)],
       .mk ["x.1", "5"] ["y:0"] [] 0
        [.mk "Relu" "" "" ["x.1"] ["t.0"] [], .mk "Neg" "" "" ["x.1"] ["t_0"] [],
         .mk "Add" "" "" ["t.0", "t_0"] ["u"] [],
         .mk "Clip" "" "" ["u", "", "5"] ["y:0"] [("dummy", .plain)]]⟩ = true := by decide +kernel

example :
    (exportStraight ["FLOAT"] ⟨false, true, false, true⟩
      ⟨"g", none, [("", 18)],
       .mk ["x.1", "5"] ["y:0"] [] 0
        [.mk "Relu" "" "" ["x.1"] ["t.0"] [], .mk "Neg" "" "" ["x.1"] ["t_0"] [],
         .mk "Add" "" "" ["t.0", "t_0"] ["u"] []]⟩).body.map (renderStmt 1)
      = ["L1 call t_0 = opset18.Relu(x_1|)", "L1 call t_0_1 = opset18.Neg(x_1|)", "L1 op u = t_0 + t_0_1"] := by
  decide +kernel

/-- **The round trip with initializers** (`export_roundtrip_inits_partial`): initializers that are neither skipped
(`skip_initializers` only skips tensors of more than 4 elements) nor inlined are printed exactly like leading `Constant`
nodes holding the tensor (`exportModel_unfoldInits`), and an initializer *denotes* what the operator semantics gives
that `Constant` node (`evalGraphI`).  For every model whose unfolded form is in the straight-line fragment, every
uninterpreted operator semantics and every argument list, the exporter prints `exportStraight` of the unfolded model
and the graph read back computes what the original graph with its initializers computes. -/
theorem export_roundtrip_inits_partial {V : Type} (S : Sem V) (tys : List String) (o : Opts) (m : ModelP) (d : Nat)
    (hskip : noneSkipped o m.graph = true) (hfrag : straightModel tys o m.unfoldInits = true) (args : List V) :
    exportModelT tys o (d + 1) m = .ok (renderProg (exportStraight tys o m.unfoldInits))
    ∧ evalGraph S (progToGraph (exportStraight tys o m.unfoldInits)) args = evalGraphI S m.graph args := by
  have hs : m.graph.nSparse = 0 := (straightModel_spec hfrag).sparse
  constructor
  · rw [exportModel_unfoldInits tys o (d + 1) m hskip hs]
    exact exportModel_straight tys o m.unfoldInits hfrag d
  · exact (export_roundtrip_partial S tys o m.unfoldInits hfrag args).1

/-- non-vacuity: a model with two initializers (one needing clean-up) in the extended fragment -/
example :
    noneSkipped ⟨false, true, false, true⟩
      (.mk ["x"] ["y"] [("w.0", 3, 1, [3], true, "#0"), ("b", 1, 1, [], true, "#1")] 0
        [.mk "Mul" "" "" ["x", "w.0"] ["t"] [], .mk "Add" "" "" ["t", "b"] ["y"] []]) = true
    ∧ straightModel ["FLOAT"] ⟨false, true, false, true⟩
      (ModelP.unfoldInits ⟨"g", none, [("", 18)],
        .mk ["x"] ["y"] [("w.0", 3, 1, [3], true, "#0"), ("b", 1, 1, [], true, "#1")] 0
          [.mk "Mul" "" "" ["x", "w.0"] ["t"] [], .mk "Add" "" "" ["t", "b"] ["y"] []]⟩) = true := by
  decide +kernel

/-- **Which table entries are asymmetric**: of the exporter's operator table exactly the (dead) key `"Lesser"` is
not mapped back to itself by the converter's `primop_map` (`<` reads back as `Less`); every other entry is
symmetric at the level of operator names. -/
theorem sugar_table_asymmetry :
    ∀ p ∈ opsTable, (convTable.lookup p.2 = some p.1 ↔ p.1 ≠ "Lesser") := by decide +kernel

/-- **Operator table theorem**: every printed operator of the exporter's table other than the dead `"Lesser"`,
re-translated by the converter's `primop_map`, gives the same `op_type` in the standard domain, with the two
operands in order, one output and **no attributes** — so the round trip of a sugared node is exact precisely
when the node had no attributes (the ONNX schemas of these twelve operators declare none: checked against
`onnx.defs` on every run by the harness). -/
theorem sugar_roundtrip_table (imports : List (String × String)) (out a b : String) :
    ∀ p ∈ opsTable, p.1 ≠ "Lesser" →
      stmtToNode imports (.binop out p.2 a b) = Node.mk p.1 "" "" [unPy a, unPy b] [out] [] := by
  intro p hp hne
  have h := (sugar_table_asymmetry p hp).mpr hne
  simp only [stmtToNode, h, Option.getD_some]

/-- (Definitional: holds by `rfl` from `stmtToNode`, the model of the converter's reading — its content is the tie of
`stmtToNode` to the real converter, not a proof.)  **Sugar never carries attributes back**: whatever the node had, the
node read from `out = a sym b` has none — the second asymmetry (a sugared operator whose attributes matter, e.g. `Mod`/`fmod` if `%` were added to the
table, silently loses them); `straightModel` therefore requires sugared nodes to have no attributes. -/
theorem sugar_reads_back_without_attributes (imports : List (String × String)) (out sym a b : String) :
    (stmtToNode imports (.binop out sym a b)).attrs = [] ∧
    (stmtToNode imports (.binop out sym a b)).ins.length = 2 := ⟨rfl, rfl⟩

/-- … and this matters: with an attribute-sensitive semantics (`S.op` returns the number of attributes) a sugared
`Add` carrying an attribute reads back as a different computation — the full statement without the symmetry
hypothesis is false. -/
theorem sugar_with_attributes_refuted :
    let S : Sem Nat := ⟨fun _ _ attrs _ => some [attrs.length]⟩
    let o : Opts := ⟨false, true, false, false⟩
    let m : ModelP := ⟨"g", none, [("", 18)],
      .mk ["x"] ["y"] [] 0 [.mk "Add" "" "" ["x", "x"] ["y"] [("fmod", .plain)]]⟩
    evalGraph S (progToGraph (exportStraight ["FLOAT"] o m)) [7] ≠ evalGraph S m.graph [7] := by
  decide +kernel

/-- **C13-POW-NEG refuted statement**: a negative scalar literal printed in front of `**` is read by Python as
`-(3 ** x)`; with `x = 2` the intended `Pow(-3, x)` is 9, the text's value is −9.  `**` is the only symbol of the
table for which the two readings differ (`pow_neg_only_power`). -/
theorem pow_neg_literal_refuted :
    evalPy (fun _ => 2) (pyRead (.lit true 3) "**" (.name "x")) = -9 ∧
    evalPy (fun _ => 2) (intended (.lit true 3) "**" (.name "x")) = 9 := by decide +kernel

theorem pow_neg_only_power (a b : Operand) (sym : String) (h : sym ≠ "**") : pyRead a sym b = intended a sym b := by
  unfold pyRead intended
  cases a with
  | name s => rfl
  | lit neg mag => cases neg <;> simp [h]

/-- C13-OPS-NO-OPSET (fixed by 24e6aa0): with `use_operators=True` the decorator names the imported standard opset,
so a body printed with Python operators only still converts; without `use_operators` the text stays `@script()`. -/
theorem ops_only_default_opset_fixed :
    (exportModel ⟨false, true, false, false⟩ 2
      ⟨"g", none, [("", 18)], .mk ["x"] ["y"] [] 0 [.mk "Add" "" "" ["x", "x"] ["y"] []]⟩).toOption
      = some ["deco default_opset=opset18", "sig g(x|)", "L1 op y = x + x", "L1 return y"]
    ∧ (exportModel ⟨false, false, false, false⟩ 2
      ⟨"g", none, [("", 18)], .mk ["x"] ["y"] [] 0 [.mk "Add" "" "" ["x", "x"] ["y"] []]⟩).toOption
      = some ["deco ", "sig g(x|)", "L1 call y = opset18.Add(x,x|)", "L1 return y"] := by
  decide +kernel

/-- the decorator argument is empty exactly when operators are not used or no standard opset is imported -/
theorem default_opset_arg_spec (o : Opts) (opsets : List (String × Nat)) :
    defaultOpsetArg o opsets = "" ↔ (o.useOps = false ∨ (opsets.lookup "" = none ∧ opsets.lookup "ai.onnx" = none)) := by
  -- the decorator argument, when there is one, starts with `default_opset=`
  have hne : ∀ s : String, "default_opset=" ++ s ≠ "" := fun s h => by
    simpa [String.toList_append] using congrArg String.toList h
  unfold defaultOpsetArg
  cases o.useOps <;> cases opsets.lookup "" <;> cases opsets.lookup "ai.onnx" <;> simp [hne]

/-! ## type annotations -/
open OV.C13T in
/-- **`type_annotation_roundtrip`**: for every tensor type — every element type that has a class in `onnx_types`, every
shape: unknown rank, rank 0, any rank with static sizes (0 included), symbolic and unknown dimensions — the annotation
`onnx_type_to_onnxscript_repr` prints evaluates (`__class_getitem__`, Python's one-item subscript is not a tuple,
`X[None]` is `(None,)`) and converts back (`to_type_proto`) to the same type. -/
theorem type_annotation_roundtrip (t : OV.C13T.TType) (a : OV.C13T.Ann) (h : OV.C13T.toAnn t = some a) :
    OV.C13T.evalAnn a = some t := by
  unfold toAnn at h
  cases hn : dtypeTable.lookup t.dtype with
  | none => rw [hn] at h; cases h
  | some name =>
    rw [hn] at h
    have hc := class_of_name _ (List.lookup_mem hn)
    simp only at hc
    obtain ⟨dt, sh⟩ := t
    simp only at hn hc h
    cases sh with
    | none =>
      simp only [Option.some.injEq] at h; subst h
      simp only [evalAnn, hc, Option.map_some, toTypeProtoShape]
    | some ds =>
      cases ds with
      | nil =>
        simp only [Option.some.injEq] at h; subst h
        simp only [evalAnn, hc, Option.map_some, toTypeProtoShape]
      | cons d rest =>
        simp only [Option.some.injEq] at h; subst h
        simp only [evalAnn, hc, Option.map_some, shape_of_classGetitem (d :: rest) (by simp)]

open OV.C13T in
/-- every element type of the class table is printed (the hypothesis of the theorem is satisfiable for all 26) -/
theorem type_annotation_total : ∀ p ∈ dtypeTable, ∀ sh, (toAnn ⟨p.1, sh⟩).isSome = true := by
  intro p hp sh
  have : dtypeTable.lookup p.1 = some p.2 := by revert p; decide +kernel
  unfold toAnn
  simp only [this]
  cases sh with
  | none => rfl
  | some ds => cases ds <;> rfl

open OV.C13T in
example : (toAnn ⟨1, some [.val 0]⟩).bind evalAnn = some ⟨1, some [.val 0]⟩
    ∧ (toAnn ⟨1, some [.val 0]⟩).map renderAnn = some "FLOAT[0]"
    ∧ (toAnn ⟨7, some [.sym "N", .val 3, .unk]⟩).map renderAnn = some "INT64['N',3,None]"
    ∧ (toAnn ⟨9, some []⟩).map renderAnn = some "BOOL" ∧ (toAnn ⟨11, none⟩).map renderAnn = some "DOUBLE[...]" := by
  decide +kernel

/-! ## attribute parameters of FunctionProtos (`_handle_attrname_conflict`) -/

/-- The conflict layer over an injective base renamer `B`: for attribute parameters `A`, names `N0` marked used at the
start and requests `vs.map B` for base names in `N0`, one name is printed per request, none is an attribute parameter,
and two requests print the same name **iff** they are for the same value.  (`B := id` is
`attr_conflict_names_injective`; `B` the base renamer of a function is `function_names_injective`.) -/
theorem conflict_compose (A N0 : List String) (hA : ∀ a ∈ A, a ∈ N0) (hnd : A.Nodup) (B : String → String)
    (vs : List String) (hN : ∀ v ∈ vs, B v ∈ N0) (hB : ∀ a ∈ vs, ∀ b ∈ vs, B a = B b → a = b) :
    (conflictRun (A.map (·, none)) N0 (vs.map B)).1.length = vs.length
    ∧ (∀ r ∈ (conflictRun (A.map (·, none)) N0 (vs.map B)).1, r ∉ A)
    ∧ ∀ i j (hi : i < vs.length) (hj : j < vs.length),
        ((conflictRun (A.map (·, none)) N0 (vs.map B)).1[i]? = (conflictRun (A.map (·, none)) N0 (vs.map B)).1[j]?
          ↔ vs[i] = vs[j]) := by
  obtain ⟨hinv, _, hrs, hset, hna⟩ :=
    conflictRun_spec hA (vs.map B) _ _ (confInv_start A N0 hnd) (List.forall_mem_map.mpr hN)
  refine ⟨by rw [hrs, List.length_map, List.length_map], hna, fun i j hi hj => ?_⟩
  rw [hrs, List.map_map]
  -- the printed name is `confRes` of the final `_attr_renaming` after `B`: both are injective
  exact getElem?_map_eq_iff (fun a ha b hb e => hB a ha b hb (confRes_inj hinv (hN a ha) (hN b hb)
    (hset _ (List.mem_map_of_mem ha)) (hset _ (List.mem_map_of_mem hb)) e)) hi hj

/-- **The conflict handler keeps value names distinct and away from the attribute parameters** — for every set of
attribute parameters `A`, every set `N0` of names marked used at the start (the base names of all values of the
function and the attribute names, as `_translate_function` sets `_names_used`), every request sequence over `N0`
(any length, any repetition): no printed name is an attribute parameter, and two requests print the same name
**iff** they are the same base name.  (This is where the seeded change C13-3 lives: accepting a candidate that is
in `_names_used` breaks `findCand_notin`.) -/
theorem attr_conflict_names_injective (A N0 : List String) (hA : ∀ a ∈ A, a ∈ N0) (hnd : A.Nodup)
    (nns : List String) (hN : ∀ n ∈ nns, n ∈ N0) :
    (conflictRun (A.map (·, none)) N0 nns).1.length = nns.length
    ∧ (∀ r ∈ (conflictRun (A.map (·, none)) N0 nns).1, r ∉ A)
    ∧ ∀ i j (hi : i < nns.length) (hj : j < nns.length),
        ((conflictRun (A.map (·, none)) N0 nns).1[i]? = (conflictRun (A.map (·, none)) N0 nns).1[j]?
          ↔ nns[i] = nns[j]) := by
  simpa only [List.map_id] using conflict_compose A N0 hA hnd id nns hN (fun _ _ _ _ e => e)

/-- **`function_names_injective`** — the names `_translate_function` prints, both layers composed: in the exporter
state in which the signature is printed (`funcState`: `_attr_renaming` reset, pre-pass over the used names done,
attribute parameters registered), every sequence of renamer requests for values of the function — the inputs of the
signature, the outputs and inputs of the body's nodes, the `return` — prints no attribute parameter's name, and
prints the same Python name for two requests **iff** they are the same ONNX value; under `rename=False` (unique-name
mapper + conflict layer) and under `rename=True` (short-name mapper + conflict layer), for every attribute list
without duplicates and every start state whose tables are well formed (`Plain`, `TblInv`, duplicate-free short keys:
true of the state `export()` starts from). -/
theorem function_names_injective (o : Opts) (d : Nat) (f : FunctionP) (st0 : St)
    (hp : Plain st0) (hT : TblInv st0.uniq) (hK : st0.shortKeys.Nodup)
    (hattrs : f.attrs.Nodup) (hne : ∀ v ∈ f.usedOrder, v ≠ "")
    (vs : List String) (hvs : ∀ v ∈ vs, v ∈ f.usedOrder) :
    (translateVars o (funcState o d f st0) vs).1.length = vs.length
    ∧ (∀ r ∈ (translateVars o (funcState o d f st0) vs).1, r ∉ f.attrs)
    ∧ ∀ i j (hi : i < vs.length) (hj : j < vs.length),
        ((translateVars o (funcState o d f st0) vs).1[i]? = (translateVars o (funcState o d f st0) vs).1[j]?
          ↔ vs[i] = vs[j]) := by
  obtain ⟨hA, hN, hQ, hT', hk⟩ := funcState_base o d f st0 hp hT hK hne
  -- every request is for a value the base renamer knows: only the conflict layer acts, on the base names
  rw [translateVars_known o vs _ hQ (fun v hv => hk v (hvs v hv)), hA, hN]
  have := conflict_compose f.attrs.reverse (f.attrs.reverse ++ f.usedOrder.map (baseName o (funcState o d f st0)))
    (fun a ha => List.mem_append_left _ ha) ((List.reverse_perm f.attrs).nodup_iff.mpr hattrs) _ vs
    (fun v hv => List.mem_append_right _ (List.mem_map.mpr ⟨v, hvs v hv, rfl⟩))
    (fun a ha b hb => baseName_inj hT' (hk a (hvs a ha)) (hk b (hvs b hb)))
  exact ⟨this.1, fun r hr' hr => this.2.1 r hr' (List.mem_reverse.mpr hr), this.2.2⟩

/-- the state `export()` starts a FunctionProto from (`exportFunction`): the unique-name mapper seeded with the
reserved module-level names -/
def fnStart (f : FunctionP) : St := { uniq := reservedTable (reservedNames [] [f.opsets] [f.domain]) }

/-- (Definitional, `rfl`: it only names the start state so that `exportFunction_names_injective` can be stated.)
`exportFunction` is `_translate_function` run from `fnStart` -/
theorem exportFunction_from_start (o : Opts) (d : Nat) (f : FunctionP) :
    exportFunction o d f = (translateFunction o d f (fnStart f)).map (·.1) := rfl

section
-- otherwise the elaborator, comparing `(fnStart f).uniq` with the reserved table in `exact h` below, unfolds
-- `reservedNames` (a `dedup` over strings) on the variable `f` and does not come back
attribute [local irreducible] OV.C13.reservedNames
/-- … `function_names_injective` instantiated at that state: the only side condition left is the checked `reservedOk`. -/
theorem exportFunction_names_injective (o : Opts) (d : Nat) (f : FunctionP)
    (hres : reservedOk (reservedNames [] [f.opsets] [f.domain]) = true)
    (hattrs : f.attrs.Nodup) (hne : ∀ v ∈ f.usedOrder, v ≠ "")
    (vs : List String) (hvs : ∀ v ∈ vs, v ∈ f.usedOrder) :
    (translateVars o (funcState o d f (fnStart f)) vs).1.length = vs.length
    ∧ (∀ r ∈ (translateVars o (funcState o d f (fnStart f)) vs).1, r ∉ f.attrs)
    ∧ ∀ i j (hi : i < vs.length) (hj : j < vs.length),
        ((translateVars o (funcState o d f (fnStart f)) vs).1[i]? =
            (translateVars o (funcState o d f (fnStart f)) vs).1[j]? ↔ vs[i] = vs[j]) := by
  have hp : Plain (fnStart f) := ⟨rfl, fun _ => rfl, rfl, rfl⟩
  have hT : TblInv (fnStart f).uniq := by
    have h := (tblInv_reserved (reservedNames_nodup [] [f.opsets] [f.domain]) hres).1
    unfold fnStart
    exact h
  have hK : (fnStart f).shortKeys.Nodup := List.nodup_nil
  exact function_names_injective o d f (fnStart f) hp hT hK hattrs hne vs hvs
end

/-- non-vacuity (the C13-3 scenario through the whole function set-up): attribute `alpha`, values `alpha`, `alpha_0`,
`X`, `a.b`, `a_b` — both modes -/
example :
    (translateVars ⟨false, false, false, false⟩
      (funcState ⟨false, false, false, false⟩ 2
        ⟨"f", "this", ["X"], ["alpha_0"], ["alpha"], ["X", "a.b", "a_b", "alpha", "alpha_0"], [("", 18)], []⟩ {})
      ["alpha", "alpha_0", "X", "a.b", "a_b", "alpha"]).1 = ["alpha_1", "alpha_0", "X", "a_b", "a_b_1", "alpha_1"]
    ∧ (translateVars ⟨true, false, false, false⟩
      (funcState ⟨true, false, false, false⟩ 2
        ⟨"f", "this", ["X"], ["y"], ["v2"], ["X", "t", "y"], [("", 18)], []⟩ {})
      ["t", "X", "y", "t"]).1 = ["v2_0", "v1", "v3", "v2_0"] := by
  decide +kernel

/-- the scenario of C13-3: attribute `alpha`, values with base names `alpha`, `alpha_0`, `X` -/
example : (conflictRun (["alpha"].map (·, none)) ["alpha", "alpha", "alpha_0", "X"] ["alpha", "alpha_0", "X", "alpha"]).1
    = ["alpha_1", "alpha_0", "X", "alpha_1"] := by decide +kernel

end OV.Props.C13
