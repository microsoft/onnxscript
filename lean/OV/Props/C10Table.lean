import OV.Gen.C10Registry
import OV.Model.C10VersionConv
import OV.Model.C10Fallback
import OV.Lemmas.C10
/-!
# C10 — theorems over the table regenerated from `/repo` on every run

`OV.Gen.C10Registry` holds the adapter registry (`registry.op_adapters` keys) and the constants
`SUPPORTED_MIN/MAX_ONNX_OPSET`, `_BIG_TENSOR_SIZE_LIMIT` as `/repo` states them at the time of the run.
-/
namespace OV.Props.C10Table
open OV.C10

/-- The constants of the model are the constants of the source. -/
theorem constants_pinned :
    OV.Gen.C10.supportedMin = supportedMin ∧ OV.Gen.C10.supportedMax = supportedMax ∧
    OV.Gen.C10.bigTensorSizeLimit = Fallback.limit := by decide

/-- The operator name a modelled operator form is registered under. -/
def opName : Op → Option String
  | .dft .. => some "DFT"
  | .gridSample .. => some "GridSample"
  | .groupNorm .. => some "GroupNormalization"
  | _ => none

/-- **The model's adapter lookup is the registry**: for every operator form and every version, the model looks an
adapter up (`adapt ≠ noAdapter`) exactly when the real registry has an up-conversion entry for that
(default domain, operator, version). -/
theorem adapt_fires_iff_registered (op : Op) (v : Nat) :
    adapt op v ≠ .noAdapter ↔ ∃ n, opName op = some n ∧ ("", n, v, true) ∈ OV.Gen.C10.registry := by
  rw [adapt_ne_noAdapter_iff]
  constructor
  · intro h
    cases op <;> cases h <;> exact ⟨_, rfl, by decide⟩
  · rintro ⟨n, hn, hm⟩
    simp only [OV.Gen.C10.registry, List.mem_cons, List.mem_nil_iff, or_false, Prod.mk.injEq, true_and, and_true] at hm
    -- the operator's name is the entry's: the entry's version is the operator's adapter step
    rcases hm with ⟨rfl, rfl⟩ | ⟨rfl, rfl⟩ | ⟨rfl, rfl⟩ <;> cases op <;> first | rfl | simp [opName] at hn

/-- The equivalence law a registry entry comes with (`False` for an entry the model does not know). -/
def lawFor : String × String × Nat × Bool → Prop
  | ("", "DFT", 19, true) => ∀ axis inv one hasLen rank, Good Op.meaning (.dft axis inv one hasLen none rank) 19
  | ("", "GridSample", 19, true) => ∀ mode align pad, (Op.meaning (.gridSample mode align pad) 19).isSome →
      Good Op.meaning (.gridSample mode align pad) 19
  | ("", "GroupNormalization", 20, true) => ∀ n, (Op.meaning (.groupNorm n) 20).isSome → Good Op.meaning (.groupNorm n) 20
  | _ => False

/-- **Every adapter in the table has its equivalence law** (a newly registered adapter without a model and a law
makes this theorem — regenerated from the source on every run — fail). -/
theorem every_adapter_has_law : ∀ r ∈ OV.Gen.C10.registry, lawFor r := by
  intro r hr
  simp only [OV.Gen.C10.registry, List.mem_cons, List.mem_nil_iff, or_false] at hr
  rcases hr with rfl | rfl | rfl
  · exact fun axis inv one hasLen rank => good_of_valid _ 19 19 rfl (Nat.le_refl _)
  · exact fun mode align pad h => good_of_valid _ 19 19 h (Nat.le_refl _)
  · exact fun n h => good_of_valid _ 20 20 h (Nat.le_refl _)

end OV.Props.C10Table
