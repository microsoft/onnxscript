import OV.Lemmas.C15Wrappers
import OV.Gen.C15Plumbing
/-!
# C15 — a ModelProto and an IR model are treated alike, and nothing untouched is lost

Property theorems only.  Model: `OV.Model.C15Wrappers` (the wrappers of `/repo` transcribed as record
algebra over *carriers*).  **Scope**: these theorems decide the wrappers' plumbing — which carrier of
the result comes from where, which object is mutated, what is returned — for *every* serde `s`, every
IR-level transformation `T`, every model.  What `onnx_ir`'s serde does to one carrier (loses nothing,
idempotent, payload bytes) and what the passes leave alone (`FrameOK`) are **contracts**: hypotheses
here, validated against the real `onnx_ir` by the harness on every run, never proved.
-/
namespace OV.Props.C15
open OV.C15

variable {P I W : Type}

/-- Frame contract on the IR transformation of API `f` (A-ir + the passes of `/repo`): a carrier outside
`touches f` serialises to the same content after the transformation as before it. -/
def FrameOK (s : Serde P I) (T : Api → Opts W → Rec I → Rec I) (f : Api) : Prop :=
  ∀ (o : Opts W) (m : Rec I) (c : Carrier), touches f c = false → s.ser (T f o m) c = s.ser m c

/-- The serde contract (A-ir), per carrier: `N` is idempotent and whatever is populated in `M`
reappears in `N M` (`Incl a b` = "`b` holds every populated field of `a` with the same value; only
explicitly-default fields may be missing, only initializer-implied annotations may be extra"). -/
structure SerdeContract (s : Serde P I) (Incl : P → P → Prop) : Prop where
  idem : ∀ M, s.N (s.N M) = s.N M
  incl : ∀ M c, Incl (M c) (s.N M c)

/-- `SerdeContract` is satisfiable by a serde that really normalises (not the identity): `de` rounds down to even,
`ser` is the identity, `Incl a b` = "`b ≤ a` and they differ by at most the dropped bit". -/
example : ∃ (s : Serde Nat Nat) (Incl : Nat → Nat → Prop), SerdeContract s Incl ∧ (∃ M : Rec Nat, s.N M ≠ M) :=
  ⟨⟨fun M c => M c / 2 * 2, id, 0, fun M _ => M, fun M _ => M⟩, fun a b => b ≤ a ∧ a ≤ b + 1,
    ⟨by intro M; funext c; show M c / 2 * 2 / 2 * 2 = M c / 2 * 2; omega,
     by intro M c; show M c / 2 * 2 ≤ M c ∧ M c ≤ M c / 2 * 2 + 1; omega⟩,
    ⟨fun _ => 1, by intro h; have := congrFun h Carrier.nodes; revert this; decide⟩⟩

/-! ## 0. Options reach the IR-level implementation alike on both entries -/

/-- Both entries of every API hand each parameter the same caller option …  (Definitional: a case check of the
hand-written `route`; its content comes from `source_routes_match_model`, which ties `route` to the source.) -/
theorem options_routed_alike (f : Api) (k : OptKey) : route f .proto k = route f .ir k := by
  rw [route_eq, route_eq]

/-- … namely the option of that name (nothing is dropped, swapped or defaulted on the way).  (Definitional over
`route`, as above.) -/
theorem options_forwarded_unchanged (f : Api) (e : Entry) (o : Opts W) : forward f e o = o := by
  funext k; exact congrArg o (route_eq f e k)

/-! ## 1. proto(f)(M) = ser(ir(f)(de M)) -/

/-- **Whole-model wrappers** (`optimize`, `fold_constants`, `remove_unused_nodes`,
`remove_unused_functions`, `rewrite` with rules, `replace_functions`): for every serde, every
transformation, every model **and every option tuple given identically to both entries**, the model
produced through the proto entry *is* the serialisation of the model produced through the IR entry on the
deserialised input — no carrier is dropped, kept back or taken from anywhere else, and the transformation
runs under the same options (`route`).  Restricted by `hf : f.wholesale = true`: `convert_version` and
`rewrite(M, [])` are excluded (see `convert_proto_eq_ir_iff/_partial`, `rewrite_empty_agree_*`), and
`replace_functions` here is the plain path without its guard (`protoReplace` adds it). -/
theorem proto_eq_ir (s : Serde P I) (T : Api → Opts W → Rec I → Rec I) (o : Opts W) (f : Api)
    (hf : f.wholesale = true) (M : Rec P) :
    (protoPath s T f o M).result = s.ser ((irPath T f o (s.de M)).result) := by
  have h : forward f .proto o = forward f .ir o := by
    rw [options_forwarded_unchanged, options_forwarded_unchanged]
  cases f with
  | rewrite e =>
    cases e
    · simp only [protoPath, irPath, Outcome.result, h]
    · cases hf
  | convertVersion => cases hf
  | _ => simp only [protoPath, irPath, Outcome.result, h]

example : Api.optimize.wholesale = true ∧ (Api.rewrite false).wholesale = true := by decide

/-- `rewrite(model, [])` hands back the very object it was given, on both entries, untouched. -/
theorem rewrite_empty_returns_argument (s : Serde P I) (T : Api → Opts W → Rec I → Rec I) (o : Opts W) (M : Rec P) (m : Rec I) :
    (protoPath s T (.rewrite true) o M).argAfter = M ∧ (protoPath s T (.rewrite true) o M).result = M ∧
    (irPath T (.rewrite true) o m).argAfter = m ∧ (irPath T (.rewrite true) o m).result = m ∧
    showRet (protoPath s T (.rewrite true) o M).ret = "arg" ∧ showRet (irPath T (.rewrite true) o m).ret = "arg" :=
  ⟨rfl, rfl, rfl, rfl, rfl, rfl⟩

/-- Because no serde happens on the empty-rule path, the proto result equals the serialised IR result
exactly when the input is already normal …  (Definitional — `Iff.rfl` — once `protoPath`/`irPath` are unfolded; the
content is that the model of this path is tied to the source by `source_*_entry_is_model`.) -/
theorem rewrite_empty_agree_iff (s : Serde P I) (T : Api → Opts W → Rec I → Rec I) (o : Opts W) (M : Rec P) :
    (protoPath s T (.rewrite true) o M).result = s.ser ((irPath T (.rewrite true) o (s.de M)).result)
      ↔ M = s.N M := Iff.rfl

/-- … and in general the two agree up to one application of the normaliser.  (Definitional, `rfl`.) -/
theorem rewrite_empty_agree_modN (s : Serde P I) (T : Api → Opts W → Rec I → Rec I) (o : Opts W) (M : Rec P) :
    s.N (protoPath s T (.rewrite true) o M).result = s.ser ((irPath T (.rewrite true) o (s.de M)).result) := rfl

/-- On an input that went through serde once, they agree exactly (uses idempotence of `N`). -/
theorem rewrite_empty_agree_on_normalised (s : Serde P I) (T : Api → Opts W → Rec I → Rec I) (o : Opts W) {Incl : P → P → Prop}
    (hc : SerdeContract s Incl) (M : Rec P) :
    (protoPath s T (.rewrite true) o (s.N M)).result
      = s.ser ((irPath T (.rewrite true) o (s.de (s.N M))).result) :=
  (hc.idem M).symm

/-- The unconditional statement is false: a serde whose normaliser changes anything separates them
(real counterpart: a proto with `producer_name` explicitly set to `""`, which `N` drops). -/
theorem rewrite_empty_full_refuted :
    ¬ (∀ (s : Serde Bool Bool) (T : Api → Opts Unit → Rec Bool → Rec Bool) (o : Opts Unit) (M : Rec Bool),
        (protoPath s T (.rewrite true) o M).result = s.ser ((irPath T (.rewrite true) o (s.de M)).result)) := by
  intro h
  have := congrFun (h ⟨id, fun _ _ => false, false, fun M _ => M, fun M _ => M⟩ (fun _ _ m => m) (fun _ => ()) (fun _ => true)) Carrier.producerName
  revert this; decide

/-! ### convert_version: the proto is edited surgically -/

/-- The serde's write-through (see `NoAlias` below, finding C15-ALIAS) can only reach carriers that hold
tensors the IR wraps: node attributes, initializers, functions.  Contract, validated by the tie (the
carriers `convert_version` keeps are byte-identical to the caller's on every case). -/
def AliasConfined (s : Serde P I) : Prop :=
  ∀ (M : Rec P) (m' : Rec I) (c : Carrier), c.holdsTensors = false → s.writeBack M m' c = M c

/-- **Exact characterisation.**  `convert_version`'s proto result equals the serialised IR result iff
(a) on every carrier the branch does not assign (`ir_version`, producer, domain, model version, doc,
model metadata, `training_info`) the serialised IR result has the caller's own value, and (b) the IR result has
no functions left (the branch deletes them instead of copying them). -/
theorem convert_proto_eq_ir_iff (s : Serde P I) (T : Api → Opts W → Rec I → Rec I) (o : Opts W) (M : Rec P) :
    (protoPath s T .convertVersion o M).result = s.ser ((irPath T .convertVersion o (s.de M)).result)
      ↔ ((∀ c, keptByConvert c = true → s.ser (T .convertVersion (forward .convertVersion .proto o) (s.de M)) c
              = s.writeBack M (T .convertVersion (forward .convertVersion .proto o) (s.de M)) c)
          ∧ s.ser (T .convertVersion (forward .convertVersion .proto o) (s.de M)) .functions = s.empty) :=
  spliceConverted_eq_iff s.empty (s.writeBack M _)
    (s.ser (T .convertVersion (forward .convertVersion .proto o) (s.de M)))

/-- **convert_version, proto = ser ∘ ir ∘ de**, under what the proof forces: the pass's frame contract,
an input that is normal on the carriers the branch keeps, and the inliner's contract that no model-local
function survives.  (After fix 4aa0d5c; before it the statement failed on `opset_import` even so —
`convert_old_branch_refuted`.) -/
theorem convert_proto_eq_ir_partial (s : Serde P I) (T : Api → Opts W → Rec I → Rec I) (o : Opts W) (M : Rec P)
    (hframe : FrameOK s T .convertVersion) (hal : AliasConfined s)
    (hnormal : ∀ c, keptByConvert c = true → s.N M c = M c)
    (hfun : s.ser (T .convertVersion (forward .convertVersion .proto o) (s.de M)) .functions = s.empty) :
    (protoPath s T .convertVersion o M).result = s.ser ((irPath T .convertVersion o (s.de M)).result) := by
  rw [convert_proto_eq_ir_iff]
  refine ⟨fun c hc => ?_, hfun⟩
  rw [hframe _ (s.de M) c (kept_untouched hc), hal M _ c (kept_holds_no_tensors hc)]
  exact hnormal c hc

/-- Non-vacuity: the identity serde with a transformation that edits exactly its frame and empties the
functions satisfies all four hypotheses (`FrameOK`, `AliasConfined`, normality, functions emptied) on a
non-constant model. -/
example : ∃ (s : Serde Nat Nat) (T : Api → Opts Unit → Rec Nat → Rec Nat) (o : Opts Unit) (M : Rec Nat),
    FrameOK s T .convertVersion ∧ AliasConfined s ∧ (∀ c, keptByConvert c = true → s.N M c = M c) ∧
    s.ser (T .convertVersion (forward .convertVersion .proto o) (s.de M)) .functions = s.empty ∧ M .irVersion ≠ M .nodes ∧
    T .convertVersion (forward .convertVersion .proto o) (s.de M) .nodes ≠ M .nodes :=
  ⟨⟨id, id, 0, fun M _ => M, fun M _ => M⟩,
    fun f _ m c => if touches f c then (if c = .functions then 0 else m c + 1) else m c,
    fun _ => (), fun c => if c = .irVersion then 10 else 3,
    by intro o m c h; show (if touches .convertVersion c = true then _ else m c) = m c; rw [h]; rfl,
    by intro M m' c _; rfl, by intro c _; rfl, by decide, by decide, by decide⟩

/-- For an input that already went through serde once the normality hypothesis is discharged by the
idempotence of `N`. -/
theorem convert_proto_eq_ir_on_normalised (s : Serde P I) (T : Api → Opts W → Rec I → Rec I) (o : Opts W) {Incl : P → P → Prop}
    (hc : SerdeContract s Incl) (M : Rec P) (hframe : FrameOK s T .convertVersion) (hal : AliasConfined s)
    (hfun : s.ser (T .convertVersion (forward .convertVersion .proto o) (s.de (s.N M))) .functions = s.empty) :
    (protoPath s T .convertVersion o (s.N M)).result
      = s.ser ((irPath T .convertVersion o (s.de (s.N M))).result) :=
  convert_proto_eq_ir_partial s T o (s.N M) hframe hal (fun c _ => by rw [hc.idem M]) hfun

/-- Without the normality hypothesis the statement is false (real counterpart: a proto whose
`metadata_props` are not sorted or which sets `producer_name = ""` explicitly — `convert_version` keeps
the caller's bytes, the IR entry re-serialises them; equal as maps, not as bytes). -/
theorem convert_proto_eq_ir_full_refuted :
    ¬ (∀ (s : Serde Bool Bool) (T : Api → Opts Unit → Rec Bool → Rec Bool) (o : Opts Unit) (M : Rec Bool),
        FrameOK s T .convertVersion → s.ser (T .convertVersion (forward .convertVersion .proto o) (s.de M)) .functions = s.empty →
        (protoPath s T .convertVersion o M).result = s.ser ((irPath T .convertVersion o (s.de M)).result)) := by
  intro h
  have := congrFun (h ⟨id, fun _ _ => false, false, fun M _ => M, fun M _ => M⟩ (fun _ _ m => m) (fun _ => ()) (fun _ => true)
    (fun _ _ _ _ => rfl) rfl) Carrier.producerName
  revert this; decide

/-- **D9 (fixed by 4aa0d5c).**  The branch as it was — graph copied back, functions deleted, nothing
else — violates the property even on normal inputs with a well-behaved pass: the IR entry updates
`opset_import`, the old proto entry kept the caller's. -/
theorem convert_old_branch_refuted :
    ¬ (∀ (s : Serde Nat Nat) (T : Api → Opts Unit → Rec Nat → Rec Nat) (o : Opts Unit) (M : Rec Nat),
        FrameOK s T .convertVersion → (∀ c, keptByConvert c = true → s.N M c = M c) →
        s.ser (T .convertVersion (forward .convertVersion .proto o) (s.de M)) .functions = s.empty →
        (protoConvertOld s T o M).result = s.ser ((irPath T .convertVersion o (s.de M)).result)) := by
  intro h
  have := congrFun (h ⟨id, id, 0, fun M _ => M, fun M _ => M⟩
    (fun f _ m c => if touches f c then (if c = .opsetImports then 21 else m c) else m c)
    (fun _ => ()) (fun c => if c = .opsetImports then 18 else 0)
    (by intro o m c hc; show (if touches .convertVersion c = true then _ else m c) = m c; rw [hc]; rfl)
    (fun _ _ => rfl) (by decide)) Carrier.opsetImports
  revert this; decide

/-! ## 2. What the transformation does not touch survives -/

/-- **Whole-model wrappers**: every carrier outside the API's frame has, in the proto result, exactly
the content the normaliser gives it — the wrapper itself loses nothing. -/
theorem untouched_kept (s : Serde P I) (T : Api → Opts W → Rec I → Rec I) (o : Opts W) (f : Api) (hf : f.wholesale = true)
    (hframe : FrameOK s T f) (M : Rec P) (c : Carrier) (hc : touches f c = false) :
    (protoPath s T f o M).result c = s.N M c := by
  rw [proto_eq_ir s T o f hf M]
  cases f with
  | rewrite e => cases e <;> first | exact hframe _ (s.de M) c hc | cases hf
  | convertVersion => cases hf
  | _ => exact hframe _ (s.de M) c hc

example : touches .optimize .metadataProps = false ∧ touches .foldConstants .opsetImports = false ∧
    touches .removeUnusedFunctions .initializers = false ∧ touches .optimize .nodes = true := by decide

/-- … and therefore everything populated in the caller's model on such a carrier is in the result
(`Incl`: the serde contract's per-carrier inclusion).  **Thin by construction**: `Incl` is an arbitrary relation
and the conclusion is the *assumed* field `SerdeContract.incl` transported along `untouched_kept`; the theorem says
only that the wrapper adds no loss of its own on top of the serde's.  That the installed serde satisfies `incl` is
validated per generated model (stream 1), not proved; `idem` is known false on tensors with `metadata_props`
(C15-TMETA).  (A satisfiable instance of `SerdeContract` is exhibited after the structure.) -/
theorem untouched_survives (s : Serde P I) (T : Api → Opts W → Rec I → Rec I) (o : Opts W) {Incl : P → P → Prop}
    (hs : SerdeContract s Incl) (f : Api) (hf : f.wholesale = true) (hframe : FrameOK s T f)
    (M : Rec P) (c : Carrier) (hc : touches f c = false) :
    Incl (M c) ((protoPath s T f o M).result c) := by
  rw [untouched_kept s T o f hf hframe M c hc]; exact hs.incl M c

/-- `convert_version` on a proto: the carriers outside `graph`, `functions`, `opset_import` keep the
**caller's own content** (not the normaliser's — they are never re-serialised) … -/
theorem untouched_kept_convert_model_level (s : Serde P I) (T : Api → Opts W → Rec I → Rec I) (o : Opts W) (M : Rec P)
    (hal : AliasConfined s) (c : Carrier) (hc : keptByConvert c = true) :
    (protoPath s T .convertVersion o M).result c = M c := by
  rw [← hal M (T .convertVersion (forward .convertVersion .proto o) (s.de M)) c (kept_holds_no_tensors hc)]
  exact spliceConverted_kept _ _ _ hc

/-- … the graph-level carriers outside the frame (name, doc, inputs, outputs, graph metadata, quantization annotations) come from the
re-serialised graph and equal the normaliser's content … -/
theorem untouched_kept_convert_graph_level (s : Serde P I) (T : Api → Opts W → Rec I → Rec I) (o : Opts W) (M : Rec P)
    (hframe : FrameOK s T .convertVersion) (c : Carrier) (hg : c.inGraph = true)
    (hc : touches .convertVersion c = false) :
    (protoPath s T .convertVersion o M).result c = s.N M c :=
  (spliceConverted_inGraph _ _ _ hg).trans (hframe (forward .convertVersion .proto o) (s.de M) c hc)

/-- … and `functions` is emptied whatever the IR result holds.  (Definitional, `rfl` on `spliceConverted`.) -/
theorem convert_deletes_functions (s : Serde P I) (T : Api → Opts W → Rec I → Rec I) (o : Opts W) (M : Rec P) :
    (protoPath s T .convertVersion o M).result .functions = s.empty := rfl

/-- `rewrite(model, [])`: every carrier is the caller's, bit for bit.  (Definitional, `rfl`.) -/
theorem untouched_kept_rewrite_empty (s : Serde P I) (T : Api → Opts W → Rec I → Rec I) (o : Opts W) (M : Rec P) (c : Carrier) :
    (protoPath s T (.rewrite true) o M).result c = M c := rfl

/-- Every carrier is classified: for each API a carrier of the proto result is either inside the frame,
or equal to `N M`, or equal to `M` — nothing is left unspecified. -/
theorem every_carrier_accounted (s : Serde P I) (T : Api → Opts W → Rec I → Rec I) (o : Opts W) (f : Api) (hframe : FrameOK s T f)
    (hal : AliasConfined s)
    (M : Rec P) (c : Carrier) :
    touches f c = true ∨ (protoPath s T f o M).result c = s.N M c ∨ (protoPath s T f o M).result c = M c := by
  by_cases ht : touches f c = true
  · exact Or.inl ht
  · have ht' := eq_false_of_ne_true ht
    cases f with
    | rewrite e =>
      cases e
      · exact Or.inr (Or.inl (untouched_kept s T o _ rfl hframe M c ht'))
      · exact Or.inr (Or.inr rfl)
    | convertVersion =>
      by_cases hk : keptByConvert c = true
      · exact Or.inr (Or.inr (untouched_kept_convert_model_level s T o M hal c hk))
      · exact Or.inr (Or.inl (untouched_kept_convert_graph_level s T o M hframe c
          (inGraph_of_not_kept_untouched hk ht') ht'))
    | _ => exact Or.inr (Or.inl (untouched_kept s T o _ rfl hframe M c ht'))

/-! ## 3. In place or pure -/

/-- **In-place variants on a proto** (`fold_constants`, `remove_unused_nodes`, `remove_unused_functions`,
`convert_version`): no model is returned; the caller's object holds the result. -/
theorem inplace_variants_mutate_argument (s : Serde P I) (T : Api → Opts W → Rec I → Rec I) (o : Opts W) (f : Api)
    (hf : f.inPlaceOnProto = true) (M : Rec P) :
    (protoPath s T f o M).result = (protoPath s T f o M).argAfter ∧
    (showRet (protoPath s T f o M).ret = "none" ∨ showRet (protoPath s T f o M).ret = "aux") := by
  cases f with
  | rewrite e => cases hf
  | optimize => cases hf
  | replaceFunctions => cases hf
  | foldConstants => exact ⟨rfl, Or.inr rfl⟩
  | _ => exact ⟨rfl, Or.inl rfl⟩

/-- A serde that copies what it reads: transforming the IR model never writes through to the proto it
was deserialised from.  The strongest of the aliasing contracts: it gives `AliasConfined` above and, below, `DeQuiet`
and `QuietPass` of every pass.  (Refuted for the installed `onnx_ir` by finding C15-ALIAS: `TensorProtoTensor`
wraps the caller's `TensorProto` and its `name` setter writes through.) -/
def NoAlias (s : Serde P I) : Prop := ∀ (M : Rec P) (m' : Rec I), s.writeBack M m' = M

/-- The name-restoring context manager undoes the serde's write-through (contract on the repair, validated by
the tie: with it no case leaves the caller's proto changed). -/
def RestoreOK (s : Serde P I) : Prop := ∀ (M : Rec P) (m' : Rec I), s.restore M (s.writeBack M m') = M

/-- **The other variants on a proto** (`optimize`, `rewrite`, `replace_functions`): the wrapper itself
never assigns to the caller's proto — whatever happens to it is the serde's write-through — and the
result is a fresh object, or (empty rule list) the argument itself. -/
theorem pure_variants_never_assign (s : Serde P I) (T : Api → Opts W → Rec I → Rec I) (o : Opts W) (f : Api)
    (hf : f.inPlaceOnProto = false) (M : Rec P) :
    ((protoPath s T f o M).argAfter = M ∨
      (protoPath s T f o M).argAfter = s.writeBack M (T f (forward f .proto o) (s.de M)) ∨
      (protoPath s T f o M).argAfter = s.restore M (s.writeBack M (T f (forward f .proto o) (s.de M)))) ∧
    (showRet (protoPath s T f o M).ret = "fresh" ∨
      (f = .rewrite true ∧ showRet (protoPath s T f o M).ret = "arg")) := by
  cases f with
  | rewrite e => cases e <;> simp [protoPath, showRet]
  | optimize => exact ⟨Or.inr (Or.inr rfl), Or.inl rfl⟩
  | replaceFunctions => exact ⟨Or.inr (Or.inl rfl), Or.inl rfl⟩
  | _ => cases hf

/-- **… leave their argument unchanged.**  `optimize` (names written back, `RestoreOK`) and `rewrite(M, [])`
(nothing happens) need no assumption on aliasing; `rewrite` with rules and `replace_functions` have no such
guard in the code, so for them the statement is `_partial`: under `NoAlias`, the hypothesis the proof forces
(no case of the tie ever shows them changing their argument: their passes do not rename tensors). -/
theorem pure_variants_leave_argument_partial (s : Serde P I) (T : Api → Opts W → Rec I → Rec I) (o : Opts W)
    (f : Api) (hf : f.inPlaceOnProto = false) (hr : RestoreOK s)
    (hna : (f = .rewrite false ∨ f = .replaceFunctions) → NoAlias s) (M : Rec P) :
    (protoPath s T f o M).argAfter = M := by
  cases f with
  | rewrite e =>
    cases e
    · exact hna (Or.inl rfl) M _
    · rfl
  | optimize => exact hr M _
  | replaceFunctions => exact hna (Or.inr rfl) M _
  | _ => cases hf

example : NoAlias (⟨id, id, 0, fun M _ => M, fun M _ => M⟩ : Serde Nat Nat) := fun _ _ => rfl

/-- Without `NoAlias` the statement is false *in the model* for `rewrite` with rules (and likewise
`replace_functions`): a serde that writes through changes the proto they were given.  (No real-code witness:
what wrote through in the installed onnx_ir — finding C15-ALIAS — was `optimize`'s constant lifting,
repaired by 0d5ec74; see `optimize_old_branch_refuted`.) -/
theorem pure_variants_leave_argument_full_refuted :
    ¬ (∀ (s : Serde Bool Bool) (T : Api → Opts Unit → Rec Bool → Rec Bool) (o : Opts Unit) (f : Api),
        f.inPlaceOnProto = false → RestoreOK s → ∀ M : Rec Bool, (protoPath s T f o M).argAfter = M) := by
  intro h
  have := congrFun (h ⟨id, id, false, fun _ _ _ => false, fun saved _ => saved⟩ (fun _ _ m => m) (fun _ => ())
    (.rewrite false) rfl (fun _ _ => rfl) (fun _ => true)) Carrier.nodes
  revert this; decide

/-- **`optimize(ModelProto)` leaves its argument unchanged** (after fix 0d5ec74) with *no* no-aliasing
assumption on the serde: whatever the IR wrote through, the recorded names are written back. -/
theorem optimize_leaves_argument (s : Serde P I) (T : Api → Opts W → Rec I → Rec I) (o : Opts W)
    (hr : RestoreOK s) (M : Rec P) :
    (protoPath s T .optimize o M).argAfter = M :=
  hr M _

/-- **C15-ALIAS (fixed by 0d5ec74).**  The branch as it was — no `_preserve_tensor_names` — changes the proto
it is given as soon as the serde writes through, although it produces the same model.  Real counterpart:
`c = Constant<value=float[2]{1,2}>(); y = Add(x, c)`: the caller's attribute `TensorProto.name` went from
`''` to `'c'`. -/
theorem optimize_old_branch_refuted :
    ¬ (∀ (s : Serde Bool Bool) (T : Api → Opts Unit → Rec Bool → Rec Bool) (o : Opts Unit) (M : Rec Bool),
        RestoreOK s → (protoOptimizeOld s T o M).argAfter = M) ∧
    (∀ (s : Serde P I) (T : Api → Opts W → Rec I → Rec I) (o : Opts W) (M : Rec P),
        (protoOptimizeOld s T o M).result = (protoPath s T .optimize o M).result) := by
  refine ⟨fun h => ?_, fun _ _ _ _ => rfl⟩
  have := congrFun (h ⟨id, id, false, fun _ _ _ => false, fun saved _ => saved⟩ (fun _ _ m => m) (fun _ => ())
    (fun _ => true) (fun _ _ => rfl)) Carrier.nodes
  revert this; decide

example : RestoreOK (⟨id, id, 0, fun _ m' => m', fun saved _ => saved⟩ : Serde Nat Nat) := fun _ _ => rfl

/-- **IR entry**: always in place — the `ir.Model` passed in holds the result, no fresh model is ever
built; `optimize` and `rewrite` additionally return that same object. -/
theorem ir_entry_in_place (T : Api → Opts W → Rec I → Rec I) (o : Opts W) (f : Api) (m : Rec I) :
    (irPath T f o m).result = (irPath T f o m).argAfter ∧ showRet (irPath T f o m).ret ≠ "fresh" ∧
    ((f = .optimize ∨ ∃ e, f = .rewrite e) → showRet (irPath T f o m).ret = "arg") := by
  cases f with
  | rewrite e => cases e <;> exact ⟨rfl, by simp [irPath, showRet], fun _ => rfl⟩
  | optimize => exact ⟨rfl, by simp [irPath, showRet], fun _ => rfl⟩
  | _ => exact ⟨rfl, by simp [irPath, showRet], fun h => by rcases h with h | ⟨e, h⟩ <;> cases h⟩

/-- **`replace_functions` never deletes a model-local function it was not asked to replace**: a model that
has functions of its own is refused on both entries, and the caller's object is exactly as it was (the
implementation inlines everything, so this guard is what protects unrelated functions). -/
theorem replace_refuses_models_with_functions (s : Serde P I) (T : Api → Opts W → Rec I → Rec I) (o : Opts W)
    (hasF : Rec I → Bool) (M : Rec P) (m : Rec I) :
    (hasF (s.de M) = true → (protoReplace s T hasF o M).argAfter = M ∧
        showRet (protoReplace s T hasF o M).ret = "raised") ∧
    (hasF m = true → (irReplace T hasF o m).argAfter = m ∧ showRet (irReplace T hasF o m).ret = "raised") := by
  constructor <;> intro h <;> simp [protoReplace, irReplace, h, showRet]

/-- … and on a model without functions the guard is transparent: the two entries are the plain paths, so
`proto_eq_ir` applies. -/
theorem replace_accepts_function_free_models (s : Serde P I) (T : Api → Opts W → Rec I → Rec I) (o : Opts W)
    (hasF : Rec I → Bool) (M : Rec P) (h : hasF (s.de M) = false) :
    protoReplace s T hasF o M = protoPath s T .replaceFunctions o M ∧
    irReplace T hasF o (s.de M) = irPath T .replaceFunctions o (s.de M) := by
  simp [protoReplace, irReplace, h]

example : ∃ (hasF : Rec Nat → Bool) (m : Rec Nat), hasF m = true := ⟨fun _ => true, fun _ => 0, rfl⟩

/-- `optimizer.inline` (IR only): returns nothing, and without model-local functions the model is not
handed to any pass at all. -/
theorem inline_noop_without_functions (hasF : Rec I → Bool) (inl : Rec I → Rec I) (m : Rec I)
    (h : hasF m = false) :
    (inlinePath hasF inl m).argAfter = m ∧ showRet (inlinePath hasF inl m).ret = "none" := by
  simp [inlinePath, h, showRet]

example : ∃ (hasF : Rec Nat → Bool) (m : Rec Nat), hasF m = false ∧
    (inlinePath hasF (fun _ _ => 7) m).argAfter = m := ⟨fun _ => false, fun _ => 1, rfl, rfl⟩

/-! ## 4. The source itself: programs and option tables regenerated from `/repo` on every run -/

section Source
open OV.Gen.C15

/-- **Proto entry of every wrapper, from its source.**  Executing the statement sequence the translator
extracted from the wrapper's Python body (entry form = ModelProto) gives exactly the model's `protoPath`
(`protoReplace` for `replace_functions`, whose guard sits in the callee): same content left in the caller's
object, same return — for every serde, transformation, option tuple and model. -/
theorem source_proto_entry_is_model (s : Serde P I) (T : Api → Opts W → Rec I → Rec I) (hasF modified : Rec I → Bool)
    (o : Opts W) (f : Api) (M : Rec P) :
    protoExec s (T f (forward f .proto o)) hasF modified f.emptyRules (prog f.srcName "proto") M
      = (match f with
         | .replaceFunctions => protoReplace s T hasF o M
         | f => protoPath s T f o M) := by
  cases f with
  | rewrite e => cases e <;> rfl
  | convertVersion =>
    simp only [protoExec, prog, Api.srcName, List.foldl, protoStep, protoPath, Api.emptyRules, Option.getD]
    congr 1
    funext c
    cases c <;> rfl
  | replaceFunctions =>
    simp only [protoExec, prog, Api.srcName, List.foldl, protoStep, protoReplace, protoPath, Api.emptyRules]
    by_cases h : hasF (s.de M) = true <;> simp [h]
  | _ => rfl

/-- **IR entry of every wrapper, from its source.** -/
theorem source_ir_entry_is_model (T : Api → Opts W → Rec I → Rec I) (hasF modified : Rec I → Bool)
    (o : Opts W) (f : Api) (m : Rec I) :
    irExec (T f (forward f .ir o)) hasF modified f.emptyRules (prog f.srcName "ir") m
      = (match f with
         | .replaceFunctions => irReplace T hasF o m
         | f => irPath T f o m) := by
  cases f with
  | rewrite e => cases e <;> rfl
  | replaceFunctions =>
    simp only [irExec, prog, Api.srcName, List.foldl, irStep, irReplace, irPath, Api.emptyRules]
    by_cases h : hasF m = true <;> simp [h]
  | _ => rfl

/-- `optimizer.inline`, from its source. -/
theorem source_inline_is_model (hasF modified : Rec I → Bool) (inl : Rec I → Rec I) (m : Rec I) :
    irExec inl hasF modified false (prog "inline" "ir") m = inlinePath hasF inl m := by
  simp only [irExec, prog, List.foldl, irStep, inlinePath]
  by_cases h : hasF m = true <;> simp [h]

/-- **The property's first clause, stated on the source.**  For every whole-model wrapper, running the
program extracted from its ModelProto branch yields the serialisation of what the program extracted from its
ir.Model branch yields on the deserialised input — same option tuple on both sides, every serde, every
transformation, every model.  Two restrictions in the statement: `hf : f.wholesale = true` (six wrappers;
`convert_version` and `rewrite(M, [])` excluded) and `hg`: for `replace_functions` only models without model-local
functions (the ones it accepts; on the others both entries raise — `replace_refuses_models_with_functions`). -/
theorem source_proto_eq_ir (s : Serde P I) (T : Api → Opts W → Rec I → Rec I) (hasF modified : Rec I → Bool)
    (o : Opts W) (f : Api) (hf : f.wholesale = true) (M : Rec P)
    (hg : f = .replaceFunctions → hasF (s.de M) = false) :
    (protoExec s (T f (forward f .proto o)) hasF modified f.emptyRules (prog f.srcName "proto") M).result
      = s.ser ((irExec (T f (forward f .ir o)) hasF modified f.emptyRules (prog f.srcName "ir") (s.de M)).result) := by
  rw [source_proto_entry_is_model, source_ir_entry_is_model]
  cases f with
  | replaceFunctions =>
    obtain ⟨h₁, h₂⟩ := replace_accepts_function_free_models s T o hasF M (hg rfl)
    rw [h₁, h₂]
    exact proto_eq_ir s T o .replaceFunctions rfl M
  | _ => exact proto_eq_ir s T o _ hf M

/-- **The property's last clause, stated on the source.**  Running the program extracted from the ModelProto
branch: the in-place variants return no model and leave the result in the caller's object; the others leave
the caller's object as it was (given a serde that does not write through, resp. a restore that undoes it) —
including `replace_functions` when it refuses. -/
theorem source_inplace_or_pure (s : Serde P I) (T : Api → Opts W → Rec I → Rec I) (hasF modified : Rec I → Bool)
    (o : Opts W) (f : Api) (M : Rec P) :
    (f.inPlaceOnProto = true →
      (protoExec s (T f (forward f .proto o)) hasF modified f.emptyRules (prog f.srcName "proto") M).result
        = (protoExec s (T f (forward f .proto o)) hasF modified f.emptyRules (prog f.srcName "proto") M).argAfter ∧
      (showRet (protoExec s (T f (forward f .proto o)) hasF modified f.emptyRules (prog f.srcName "proto") M).ret = "none" ∨
       showRet (protoExec s (T f (forward f .proto o)) hasF modified f.emptyRules (prog f.srcName "proto") M).ret = "aux")) ∧
    (f.inPlaceOnProto = false → NoAlias s → RestoreOK s →
      (protoExec s (T f (forward f .proto o)) hasF modified f.emptyRules (prog f.srcName "proto") M).argAfter = M) := by
  rw [source_proto_entry_is_model]
  constructor
  · intro hf
    cases f with
    | replaceFunctions => cases hf
    | _ => exact inplace_variants_mutate_argument s T o _ hf M
  · intro hf hna hr
    cases f with
    | replaceFunctions =>
      show (protoReplace s T hasF o M).argAfter = M
      unfold protoReplace
      split
      · rfl
      · exact hna M _
    | _ => exact pure_variants_leave_argument_partial s T o _ hf hr (fun _ => hna) M

/-- **The wrappers' outcome does not depend on what the IR-level implementation reports as `modified`**
(`FoldConstantsResult.modified`, `PassResult.modified`): every wrapper moves the transformed model back
*always*, never "only if something changed" — for every serde, transformation, option tuple, model and any two
behaviours of the flag. -/
theorem source_outcome_independent_of_modified (s : Serde P I) (T : Api → Opts W → Rec I → Rec I)
    (hasF mod₁ mod₂ : Rec I → Bool) (o : Opts W) (f : Api) (M : Rec P) :
    protoExec s (T f (forward f .proto o)) hasF mod₁ f.emptyRules (prog f.srcName "proto") M
      = protoExec s (T f (forward f .proto o)) hasF mod₂ f.emptyRules (prog f.srcName "proto") M := by
  rw [source_proto_entry_is_model, source_proto_entry_is_model]

/-- The variant of `fold_constants`' proto branch that copies back only `if result.modified:` (seeded change
C15-7) agrees with the model whenever the implementation reports a modification … -/
theorem fold_conditional_copyback_agrees_when_modified (s : Serde P I) (T : Api → Opts W → Rec I → Rec I)
    (hasF modified : Rec I → Bool) (o : Opts W) (M : Rec P) (h : modified (s.de M) = true) :
    protoExec s (T .foldConstants (forward .foldConstants .proto o)) hasF modified false foldProgConditional M
      = protoPath s T .foldConstants o M := by
  simp [protoExec, foldProgConditional, List.foldl, protoStep, protoPath, h]

/-- … and violates the property as soon as the pass changes the IR without reporting it (real counterpart:
node-level shape inference / Constant output annotations with nothing folded): the caller's proto stays as it
was while the IR entry's model moved on. -/
theorem fold_conditional_copyback_refuted :
    ¬ (∀ (s : Serde Bool Bool) (T : Api → Opts Unit → Rec Bool → Rec Bool) (hasF modified : Rec Bool → Bool)
        (o : Opts Unit) (M : Rec Bool),
        (protoExec s (T .foldConstants (forward .foldConstants .proto o)) hasF modified false
            foldProgConditional M).result
          = s.ser ((irPath T .foldConstants o (s.de M)).result)) := by
  intro h
  have := congrFun (h ⟨id, fun _ _ => false, false, fun M _ => M, fun M _ => M⟩ (fun _ _ m => m) (fun _ => false)
    (fun _ => false) (fun _ => ()) (fun _ => true)) Carrier.valueInfo
  revert this; decide

/-! ### Argument preservation of `rewrite` (with rules) and `replace_functions` without `NoAlias` -/

/-- A pass through which nothing is written into the source proto beyond what already was. -/
def QuietPass (s : Serde P I) (Ps : String → Opts W → Rec I → Rec I) (p : String) : Prop :=
  ∀ (o : Opts W) (M : Rec P) (m : Rec I), s.writeBack M (Ps p o m) = s.writeBack M m

/-- Deserialisation alone writes nothing. -/
def DeQuiet (s : Serde P I) : Prop := ∀ M : Rec P, s.writeBack M (s.de M) = M

/-- **Pipelines of quiet passes write nothing**, whatever their length (induction over the pass list). -/
theorem quiet_pipeline_writes_nothing (s : Serde P I) (Ps : String → Opts W → Rec I → Rec I)
    (ps : List String) (o : Opts W) (M : Rec P) (hde : DeQuiet s) (hq : ∀ p ∈ ps, QuietPass s Ps p) :
    s.writeBack M (pipeline Ps ps o (s.de M)) = M := by
  suffices h : ∀ (ps : List String) (m : Rec I), (∀ p ∈ ps, QuietPass s Ps p) → s.writeBack M m = M →
      s.writeBack M (pipeline Ps ps o m) = M from h ps (s.de M) hq (hde M)
  intro ps
  induction ps with
  | nil => intro m _ hm; exact hm
  | cons p rest ih =>
    intro m hq hm
    show s.writeBack M (pipeline Ps rest o (Ps p o m)) = M
    exact ih (Ps p o m) (fun q hq' => hq q (List.mem_cons_of_mem _ hq'))
      (by rw [hq p (List.mem_cons_self ..) o M m]; exact hm)

/-- The pipelines `rewrite` and `replace_functions` build in the source contain no renaming pass … -/
theorem source_rewrite_replace_run_no_renaming_pass :
    ∀ a ∈ ["rewrite", "replace_functions"], ∀ p ∈ passesOf a, (renamingPasses.contains p) = false := by
  decide +kernel

/-- … while `optimize_ir`'s does (which is why `optimize` needs `_preserve_tensor_names`). -/
theorem source_optimize_runs_renaming_passes :
    (passesOf "optimize_ir").any (fun p => renamingPasses.contains p) = true := by decide +kernel

/-- **`rewrite(ModelProto, rules)` and `replace_functions(ModelProto, …)` leave their argument unchanged** with
no global no-aliasing assumption: it suffices that the IR-level transformation is the pass pipeline found in the
source, that deserialisation writes nothing, and that every pass *outside the named renaming set* is quiet
(per-pass contracts on onnx_ir / RewritePass, validated per generated case by the tie). -/
theorem rewrite_and_replace_leave_argument (s : Serde P I) (T : Api → Opts W → Rec I → Rec I)
    (Ps : String → Opts W → Rec I → Rec I) (o : Opts W) (f : Api)
    (hf : f = .rewrite false ∨ f = .replaceFunctions)
    (hT : ∀ o', T f o' = pipeline Ps (passesOf f.srcName) o')
    (hde : DeQuiet s) (hq : ∀ p, renamingPasses.contains p = false → QuietPass s Ps p) (M : Rec P) :
    (protoPath s T f o M).argAfter = M := by
  have key : s.writeBack M (T f (forward f .proto o) (s.de M)) = M := by
    rw [hT]
    refine quiet_pipeline_writes_nothing s Ps _ _ M hde (fun p hp => hq p ?_)
    rcases hf with rfl | rfl
    · exact source_rewrite_replace_run_no_renaming_pass "rewrite" (by decide) p hp
    · exact source_rewrite_replace_run_no_renaming_pass "replace_functions" (by decide) p hp
  rcases hf with rfl | rfl <;> exact key

/-- Non-vacuity: a serde that *does* write through (on renaming passes) still satisfies the hypotheses. -/
example : ∃ (s : Serde Nat Nat) (Ps : String → Opts Unit → Rec Nat → Rec Nat),
    DeQuiet s ∧ (∀ p, renamingPasses.contains p = false → QuietPass s Ps p) ∧ ¬ NoAlias s :=
  ⟨⟨fun M c => if c = .otherModel then 0 else M c, id, 0,
     fun M m' c => if m' .otherModel = 1 then 7 else M c, fun M _ => M⟩,
   fun p _ m c => if renamingPasses.contains p = true then (if c = .otherModel then 1 else m c) else m c,
   by intro M; funext c; simp,
   by intro p hp o M m; funext c; have hp' : ¬ p ∈ renamingPasses := by simpa using hp
      simp [hp'],
   by intro h; have := congrFun (h (fun _ => 0) (fun _ => 1)) Carrier.nodes; revert this; decide⟩

/-- The translator understood every statement of every wrapper (no `unknown`). -/
theorem source_fully_recognised :
    ∀ a ∈ ["optimize", "fold_constants", "remove_unused_nodes", "remove_unused_functions", "rewrite",
           "convert_version", "replace_functions"],
      recognised (prog a "proto") = true ∧ recognised (prog a "ir") = true := by decide +kernel

def lookupRoute (api entry param : String) : Option String :=
  (routes.find? fun r => r.api == api && r.entry == entry && r.param == param).map (·.src)

/-- **Option plumbing = the model's `route`**, for every (wrapper, entry form, option) the wrappers forward:
the caller expression found at the IR-level call in the source is the option the model says. -/
theorem source_routes_match_model :
    ∀ x ∈ checkedRoutes,
      lookupRoute x.1.srcName x.2.1.srcName x.2.2.calleeName = some (route x.1 x.2.1 x.2.2).callerName := by
  decide +kernel

/-- **No option is dropped**: every public option in a wrapper's signature reaches the IR-level
implementation on both entry forms (`replace_functions_inplace` *is* the IR entry, so it has no call site). -/
theorem source_forwards_every_public_option :
    ∀ a ∈ publicOptions, ∀ opt ∈ a.2, ∀ e ∈ ["proto", "ir"],
      (a.1 == "replace_functions" && e == "ir") = true ∨
      routes.any (fun r => r.api == a.1 && r.entry == e && r.src == opt) = true := by
  decide +kernel

/-- **Every forwarded value is a plain pass-through** of a public option of that wrapper (no constant, no
expression, no other variable), and no parameter is fed twice. -/
theorem source_routes_are_passthrough :
    ∀ r ∈ routes,
      (publicOptions.any fun a => a.1 == r.api && a.2.contains r.src) = true ∧
      (routes.filter fun r' => r'.api == r.api && r'.entry == r.entry && r'.callee == r.callee && r'.param == r.param).length = 1 := by
  decide +kernel

/-- **Both entry forms run the same IR-level implementation(s), in the same order.** -/
theorem source_entries_run_same_implementation :
    ∀ a ∈ ["optimize", "fold_constants", "remove_unused_nodes", "remove_unused_functions", "rewrite",
           "convert_version", "replace_functions"],
      (callees.find? fun c => c.1 == a && c.2.1 == "proto").map (·.2.2)
        = (callees.find? fun c => c.1 == a && c.2.1 == "ir").map (·.2.2) ∧
      ((callees.find? fun c => c.1 == a && c.2.1 == "proto").map (·.2.2.length)) = some 1 := by
  decide +kernel

end Source

/-! ## 5. Call histories -/

/-- Contract (A-ir): a serialised model is normal — deserialising and re-serialising it gives it back
(`N (ser m) = ser m`; for `m = de M` this is the idempotence of `N`).
**KNOWN FALSE for the installed onnx_ir on models holding a tensor with `metadata_props`** (open finding C15-TMETA:
every serde trip appends another copy of the entries).  The four history theorems below therefore say nothing about
such models; the harness files the observed chain differences (multiplicity 3 vs 2) under that finding. -/
def SerRoundTrip (s : Serde P I) : Prop := ∀ m : Rec I, s.ser (s.de (s.ser m)) = s.ser m

/-- Contract on the IR-level transformations: they see of a model only what serialises.  (On the real code this
holds only up to auto-generated node names `node_<Op>_<n>`: the naming counter lives in the in-memory model and does
not serialise — observed by the history stream, which ignores exactly that difference.) -/
def Extensional (s : Serde P I) (T : Api → Opts W → Rec I → Rec I) : Prop :=
  ∀ (f : Api) (o : Opts W) (m₁ m₂ : Rec I), s.ser m₁ = s.ser m₂ → s.ser (T f o m₁) = s.ser (T f o m₂)

/-- Contract on `ConvertVersionPass` (it inlines first): no model-local function survives it. -/
def ConvertInlinesAll (s : Serde P I) (T : Api → Opts W → Rec I → Rec I) : Prop :=
  ∀ (o : Opts W) (m : Rec I), s.ser (T .convertVersion o m) .functions = s.empty

/-- The IR entry sees of its argument only what serialises, like the transformation it runs. -/
theorem irPath_result_ext (s : Serde P I) (T : Api → Opts W → Rec I → Rec I) (hext : Extensional s T)
    (f : Api) (o : Opts W) {m₁ m₂ : Rec I} (h : s.ser m₁ = s.ser m₂) :
    s.ser (irPath T f o m₁).result = s.ser (irPath T f o m₂).result := by
  have h' := hext f (forward f .ir o) m₁ m₂ h
  cases f with
  | rewrite e => cases e <;> first | exact h' | exact h
  | _ => exact h'

/-- **On a normal input (`N M = M`) every API treats the two forms alike**: the whole-model wrappers by
`proto_eq_ir`, `rewrite(·, [])` because nothing is left for the normaliser to change, `convert_version` because
the carriers it keeps from the caller are normal already.  The three contracts are used in that last case only. -/
theorem normal_proto_eq_ir (s : Serde P I) (T : Api → Opts W → Rec I → Rec I)
    (hframe : FrameOK s T .convertVersion) (hal : AliasConfined s) (hinl : ConvertInlinesAll s T)
    (f : Api) (o : Opts W) (M : Rec P) (hM : s.N M = M) :
    (protoPath s T f o M).result = s.ser ((irPath T f o (s.de M)).result) := by
  cases f with
  | rewrite e => cases e <;> first | exact proto_eq_ir s T o _ rfl M | exact hM.symm
  | convertVersion =>
    exact convert_proto_eq_ir_partial s T o M hframe hal (fun c _ => congrFun hM c) (hinl _ _)
  | _ => exact proto_eq_ir s T o _ rfl M

/-- **Any wrapper called on a proto that is itself a serialisation** (what every whole-model wrapper returns or
leaves in its argument): the proto entry's result is the serialisation of the IR entry's result on the model that
was serialised — for *every* API, `convert_version` and `rewrite(·, [])` included, with no normality hypothesis *on
the input*.  **Conditional** on five contracts, none proved: `SerRoundTrip` (refuted by C15-TMETA for tensors with
`metadata_props`), `Extensional`, `FrameOK … .convertVersion`, `AliasConfined`, `ConvertInlinesAll` (the last three
are used only in the `convert_version` case). -/
theorem second_call_proto_eq_ir (s : Serde P I) (T : Api → Opts W → Rec I → Rec I)
    (hrt : SerRoundTrip s) (hext : Extensional s T) (hframe : FrameOK s T .convertVersion)
    (hal : AliasConfined s) (hinl : ConvertInlinesAll s T) (f : Api) (o : Opts W) (m : Rec I) :
    (protoPath s T f o (s.ser m)).result = s.ser ((irPath T f o m).result) :=
  (normal_proto_eq_ir s T hframe hal hinl f o (s.ser m) (hrt m)).trans
    (irPath_result_ext s T hext f o (hrt m))

/-- **Histories on a serialised model**: any sequence of wrapper calls (any length, any APIs, any options), each
applied to what the previous one produced, gives on the proto side the serialisation of what the same sequence of
in-place IR calls gives (induction over the history).  **Conditional** on the same five contracts as
`second_call_proto_eq_ir` (`SerRoundTrip` is known false on tensors with `metadata_props`, C15-TMETA), and only for an
input that *is* a serialisation `s.ser m`. -/
theorem history_on_serialised (s : Serde P I) (T : Api → Opts W → Rec I → Rec I)
    (hrt : SerRoundTrip s) (hext : Extensional s T) (hframe : FrameOK s T .convertVersion)
    (hal : AliasConfined s) (hinl : ConvertInlinesAll s T) (h : History W) (m : Rec I) :
    protoChain s T h (s.ser m) = s.ser (irChain T h m) := by
  induction h generalizing m with
  | nil => rfl
  | cons c rest ih =>
    obtain ⟨f, o⟩ := c
    show protoChain s T rest (protoPath s T f o (s.ser m)).result = s.ser (irChain T rest (irPath T f o m).result)
    rw [second_call_proto_eq_ir s T hrt hext hframe hal hinl f o m]
    exact ih _

/-- **The property's first clause for call histories — restricted**: (i) the first call must be a whole-model
wrapper (`hf : f.wholesale = true`: not `convert_version`, not `rewrite(M, [])`), (ii) under the five unproved
contracts `SerRoundTrip` (known false on tensors with `metadata_props`, C15-TMETA), `Extensional`, `FrameOK`,
`AliasConfined`, `ConvertInlinesAll`.  Then, whatever follows the first call, chaining the proto entries from the caller's proto `M` equals serialising the chain of
IR entries from `de M`.  (A first call `convert_version` / `rewrite(M, [])` keeps caller bytes: there the statement
needs the normality of `convert_proto_eq_ir_partial`; from the second call on nothing is needed.) -/
theorem history_proto_eq_ir (s : Serde P I) (T : Api → Opts W → Rec I → Rec I)
    (hrt : SerRoundTrip s) (hext : Extensional s T) (hframe : FrameOK s T .convertVersion)
    (hal : AliasConfined s) (hinl : ConvertInlinesAll s T)
    (f : Api) (o : Opts W) (hf : f.wholesale = true) (rest : History W) (M : Rec P) :
    protoChain s T ((f, o) :: rest) M = s.ser (irChain T ((f, o) :: rest) (s.de M)) := by
  show protoChain s T rest (protoPath s T f o M).result = s.ser (irChain T rest (irPath T f o (s.de M)).result)
  rw [proto_eq_ir s T o f hf M]
  exact history_on_serialised s T hrt hext hframe hal hinl rest _

/-- **`convert_version` right after any whole-model wrapper** (`hf : f.wholesale = true`) satisfies proto = ser∘ir∘de
with *no* normality hypothesis on the input: the proto it receives is a serialisation, hence normal on the carriers
the branch keeps.  The normality hypothesis of `convert_proto_eq_ir_partial` is *traded* for the contracts
`SerRoundTrip` (known false on tensors with `metadata_props`, C15-TMETA), `Extensional`, `FrameOK`, `AliasConfined`,
`ConvertInlinesAll` — it is not an unconditional statement. -/
theorem convert_after_wrapper_proto_eq_ir (s : Serde P I) (T : Api → Opts W → Rec I → Rec I)
    (hrt : SerRoundTrip s) (hext : Extensional s T) (hframe : FrameOK s T .convertVersion)
    (hal : AliasConfined s) (hinl : ConvertInlinesAll s T)
    (f : Api) (o₁ o₂ : Opts W) (hf : f.wholesale = true) (M : Rec P) :
    (protoPath s T .convertVersion o₂ (protoPath s T f o₁ M).result).result
      = s.ser ((irPath T .convertVersion o₂ (s.de (protoPath s T f o₁ M).result)).result) := by
  rw [proto_eq_ir s T o₁ f hf M, second_call_proto_eq_ir s T hrt hext hframe hal hinl]
  exact (irPath_result_ext s T hext _ _ (hrt _)).symm

/-- Non-vacuity of the five contracts together, with a serde that is **not** a bijection (the IR carries a bit
that does not serialise: `ser` halves, `de` doubles) and transformations that really change their frame; the
three-call history `optimize; convert_version; fold_constants` then changes the model. -/
example : ∃ (s : Serde Nat Nat) (T : Api → Opts Unit → Rec Nat → Rec Nat),
    SerRoundTrip s ∧ Extensional s T ∧ FrameOK s T .convertVersion ∧ AliasConfined s ∧ ConvertInlinesAll s T ∧
    (∃ m : Rec Nat, s.de (s.ser m) ≠ m) ∧
    protoChain s T [(.optimize, fun _ => ()), (.convertVersion, fun _ => ()), (.foldConstants, fun _ => ())]
      (fun _ => 5) .nodes ≠ 5 := by
  refine ⟨⟨fun M c => M c * 2, fun m c => m c / 2, 0, fun M _ => M, fun M _ => M⟩,
    fun f _ m c => if touches f c then (if f = .convertVersion ∧ c = .functions then 0 else m c + 2) else m c,
    ?_, ?_, ?_, ?_, ?_, ⟨fun _ => 1, ?_⟩, ?_⟩
  · intro m; funext c; show m c / 2 * 2 / 2 = m c / 2; omega
  · intro f o m₁ m₂ h; funext c
    have hc : m₁ c / 2 = m₂ c / 2 := congrFun h c
    show (if touches f c then (if f = .convertVersion ∧ c = .functions then 0 else m₁ c + 2) else m₁ c) / 2
       = (if touches f c then (if f = .convertVersion ∧ c = .functions then 0 else m₂ c + 2) else m₂ c) / 2
    split
    · split
      · rfl
      · omega
    · exact hc
  · intro o m c hc
    show (if touches .convertVersion c = true then _ else m c) / 2 = m c / 2
    rw [hc]; rfl
  · intro M m' c _; rfl
  · intro o m; exact Nat.zero_div 2
  · intro h; have := congrFun h Carrier.nodes; revert this; decide
  · decide

/-! ### Which object holds what after a history -/

/-- A call that hands back a *new* proto (`optimize`, `rewrite` with rules, `replace_functions`). -/
def returnsFresh (f : Api) : Bool := !f.inPlaceOnProto && f != .rewrite true

/-- One call on the caller's own object: an in-place call or `rewrite(·, [])` leaves it the current object … -/
theorem protoTrackStep_inplace (s : Serde P I) (T : Api → Opts W → Rec I → Rec I) (X : Rec P) (f : Api) (o : Opts W)
    (hf : returnsFresh f = false) :
    protoTrackStep s T ⟨X, none⟩ (f, o) = ⟨(protoPath s T f o X).result, none⟩ := by
  cases f with
  | rewrite e => cases e <;> first | rfl | cases hf
  | optimize => cases hf
  | replaceFunctions => cases hf
  | _ => rfl

/-- … any other call leaves in it what it left in its argument, and a fresh proto goes on. -/
theorem protoTrackStep_fresh (s : Serde P I) (T : Api → Opts W → Rec I → Rec I) (X : Rec P) (f : Api) (o : Opts W)
    (hf : returnsFresh f = true) :
    protoTrackStep s T ⟨X, none⟩ (f, o) = ⟨(protoPath s T f o X).argAfter, some (protoPath s T f o X).result⟩ := by
  cases f with
  | rewrite e => cases e <;> first | rfl | cases hf
  | optimize => rfl
  | replaceFunctions => rfl
  | _ => cases hf

/-- The object the next call receives holds the chain's result, whichever object that is. -/
theorem track_current_is_chain (s : Serde P I) (T : Api → Opts W → Rec I → Rec I) (h : History W) (M : Rec P) :
    (protoTrack s T h M).current = protoChain s T h M := by
  suffices H : ∀ (h : History W) (t : Track P), (h.foldl (protoTrackStep s T) t).current = protoChain s T h t.current
    from H h ⟨M, none⟩
  intro h
  induction h with
  | nil => intro t; rfl
  | cons c rest ih =>
    intro t
    obtain ⟨f, o⟩ := c
    rw [List.foldl_cons, ih, protoTrackStep_current]
    rfl

/-- **In-place calls and `rewrite(·, [])` keep working on the caller's own object**: after a history made only
of such calls the caller's object *is* the current object and holds the whole history's result. -/
theorem history_inplace_prefix_mutates_original (s : Serde P I) (T : Api → Opts W → Rec I → Rec I)
    (h : History W) (hh : ∀ c ∈ h, returnsFresh c.1 = false) (M : Rec P) :
    protoTrack s T h M = ⟨protoChain s T h M, none⟩ := by
  induction h generalizing M with
  | nil => rfl
  | cons c rest ih =>
    obtain ⟨f, o⟩ := c
    exact (congrArg (rest.foldl (protoTrackStep s T))
      (protoTrackStep_inplace s T M f o (hh _ (List.mem_cons_self ..)))).trans
      (ih (fun c hc => hh c (List.mem_cons_of_mem _ hc)) _)

/-- Once the current object is a fresh proto, no later call reaches the caller's original. -/
theorem track_original_out_of_reach (s : Serde P I) (T : Api → Opts W → Rec I → Rec I)
    (h : History W) (orig cur : Rec P) :
    (h.foldl (protoTrackStep s T) ⟨orig, some cur⟩).orig = orig := by
  induction h generalizing cur with
  | nil => rfl
  | cons c rest ih =>
    obtain ⟨cur', hc⟩ := protoTrackStep_some s T orig cur c
    rw [List.foldl_cons, hc]
    exact ih _

/-- **The caller's object after an arbitrary history.**  Split the history at its first call that returns a
fresh proto (`pre` = in-place calls and `rewrite(·, [])`, then `f`, then anything): the caller's object holds
what `f` left in its argument when called on the result of `pre` — every later call, in place or not, works on
other objects. -/
theorem history_original_frozen_after_first_fresh (s : Serde P I) (T : Api → Opts W → Rec I → Rec I)
    (pre rest : History W) (f : Api) (o : Opts W) (hpre : ∀ c ∈ pre, returnsFresh c.1 = false)
    (hf : returnsFresh f = true) (M : Rec P) :
    (protoTrack s T (pre ++ (f, o) :: rest) M).orig = (protoPath s T f o (protoChain s T pre M)).argAfter := by
  have hp : pre.foldl (protoTrackStep s T) ⟨M, none⟩ = _ :=
    history_inplace_prefix_mutates_original s T pre hpre M
  unfold protoTrack
  rw [List.foldl_append, hp, List.foldl_cons, protoTrackStep_fresh s T _ f o hf]
  exact track_original_out_of_reach s T rest _ _

/-- … which, for `optimize` (names written back) or a serde that does not write through, is exactly the result of
the in-place prefix: a pure call and everything after it leave the caller's object alone. -/
theorem history_original_is_inplace_prefix_result (s : Serde P I) (T : Api → Opts W → Rec I → Rec I)
    (pre rest : History W) (f : Api) (o : Opts W) (hpre : ∀ c ∈ pre, returnsFresh c.1 = false)
    (hf : returnsFresh f = true) (hr : RestoreOK s) (hna : f ≠ .optimize → NoAlias s) (M : Rec P) :
    (protoTrack s T (pre ++ (f, o) :: rest) M).orig = protoChain s T pre M := by
  rw [history_original_frozen_after_first_fresh s T pre rest f o hpre hf M]
  have hf' : f.inPlaceOnProto = false := by
    cases hp : f.inPlaceOnProto
    · rfl
    · rw [returnsFresh, hp] at hf; cases hf
  exact pure_variants_leave_argument_partial s T o f hf' hr
    (fun h => hna (by rcases h with rfl | rfl <;> nofun)) _

example : returnsFresh .optimize = true ∧ returnsFresh (.rewrite true) = false ∧ returnsFresh .foldConstants = false ∧
    (∀ c ∈ ([(.rewrite true, fun _ => ()), (.foldConstants, fun _ => ())] : History Unit), returnsFresh c.1 = false) := by
  decide

end OV.Props.C15
