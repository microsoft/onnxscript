import OV.Model.C18Builder
import OV.Model.C18NN
import OV.Lemmas.C18NN
import OV.Lemmas.C18Builder
import OV.Lemmas.C18WF
import OV.Lemmas.C18Sem
import OV.Lemmas.C18Names
import OV.Lemmas.C18Partition
import OV.Lemmas.C18Scopes
import Batteries.Lean.Except
/-!
# C18 — GraphBuilder / nn.Module graphs compute the trace; parameters named like PyTorch

The property theorems with their witnesses and refutations.  Models: `OV.Model.C18Builder` (trace → graphs),
`OV.Model.C18NN` (module trees), `OV.Model.C18Sem` (meaning of graphs and traces), `OV.Model.C18Partition` (argument split).
-/
namespace OV.Props.C18
open OV.C18

/-! ## Part B — parameters are named like `state_dict()` -/

/-- Module objects a program can build with the public operations of `onnxscript.nn`, each object attached
at most once (`TreeNotDag` at the level of the program), and explicit names only where they agree with the
key (`ExplicitNamesAgree`): a fresh `Module` (any explicit name — it is judged where the object is
attached), `self.attr = Parameter(name=None | attr)`, `self.attr = child` for an unnamed child or a plain
`Module` explicitly named `attr`, the empty `ModuleList()` / `Sequential()`, `append` of an unnamed object
(hence `ModuleList([...])`, `Sequential(...)`, `extend`), and slicing. -/
inductive Built : Mod → Prop
  | module (n : Option String) : Built (mkModule n)
  | param {m : Mod} (attr : String) (pname : Option String) (pid : Nat) :
      Built m → m.kind ≠ .list → (pname = none ∨ pname = some attr) → Built (setParam m attr pname pid)
  | child {m c : Mod} (attr : String) :
      Built m → m.kind = .module → Built c → attr ≠ "" →
      (c.name = none ∨ (c.kind = .module ∧ c.name = some attr)) → Built (setChild m attr c)
  | emptyList : Built (.mk .list none [] .nil)
  | emptySeq : Built (.mk .seq none [] .nil)
  | append {l c : Mod} : Built l → l.kind ≠ .module → Built c → Built (append l c)
  | slice {l : Mod} (idxs : List Nat) : Built l → l.kind ≠ .module → Built (slice l idxs)

/-- Every object built by the public operations satisfies the detached-object invariant: its parameters are
named like their attributes and, once it is given a name by whoever attaches it, all stored names below it
are the ones `Module.__call__`'s scope stack needs. -/
theorem built_good {m : Mod} (h : Built m) : GoodT m := by
  induction h with
  | module n => simp [mkModule, GoodT, ParamsAgree, NamedKey]
  | param attr pname pid _ hk hp ih => exact GoodT.setParam _ attr pname pid hk hp ih
  | child attr _ hm _ ha hcn ihm ihc => exact GoodT.setChild _ _ attr hm ha hcn ihm ihc
  | emptyList => simp [GoodT, GoodAll]
  | emptySeq => simp [GoodT, GoodAll, ParamsAgree]
  | append _ hl _ ihl ihc => exact GoodT.append _ _ hl ihl ihc
  | slice idxs _ hl ih => exact GoodT.slice _ idxs hl ih

/-- **The property (initializer names).**  For every module tree built by the public operations and called
as the root — whatever its depth, its mix of `Module` / `ModuleList` / `Sequential`, its own name (or none)
— the parameters realised by `Module.__call__`/`Parameter._realize`, *in realisation order*, are exactly the
`state_dict()` entries, each initializer named `root.name + "." + key`; every parameter exactly once.
Hypotheses the proof forces: `Built` (explicit names agree with keys, linear construction) and distinct
parameter objects (`TreeNotDag`).  Their necessity: `initializer_names_full_refuted_explicit`,
`initializer_names_full_refuted_shared`. -/
theorem initializer_names_eq_state_dict_partial (root : Mod) (hb : Built root) (hk : root.kind = .module)
    (hd : (pids root).Nodup) :
    realize root = (stateDict "" root).map (fun x => (rootKey root x.1, x.2)) :=
  realize_eq root (GoodT.rootNamed_module root hk (built_good hb)) hd

/-- Same for a `Sequential` that received its name through `_set_name` (assigned to an attribute, then
called as the root of the trace). -/
theorem initializer_names_eq_state_dict_seq_partial (root : Mod) (e : String) (hb : Built root)
    (hk : root.kind = .seq) (hd : (pids (setName root e)).Nodup) :
    realize (setName root e)
      = (stateDict "" (setName root e)).map (fun x => (rootKey (setName root e) x.1, x.2)) :=
  realize_eq _ (GoodT.rootNamed_seq root e hk (built_good hb)) hd

/-- Each parameter appears exactly once: the realised parameter objects are the tree's parameters. -/
theorem each_parameter_once_partial (root : Mod) (hb : Built root) (hk : root.kind = .module)
    (hd : (pids root).Nodup) :
    (realize root).map (·.2) = pids root ∧ ((realize root).map (·.2)).Nodup := by
  have h := initializer_names_eq_state_dict_partial root hb hk hd
  have h2 : (realize root).map (·.2) = pids root := by
    rw [h]
    simp only [List.map_map]
    exact stateDict_pids "" root
  exact ⟨h2, h2 ▸ hd⟩

/-- The invariant at any depth: a child object named as its class dictates realises, under *any* scope
stack, exactly its own `state_dict()` prefixed by the stack and its name (the scope-stack invariant). -/
theorem realize_child_eq_state_dict (m : Mod) (sc : List String) (e : String) (he : e ≠ "")
    (h : Named e m) :
    visit sc m = (stateDict "" m).map (fun x => (qualifyInit (sc ++ [e]) x.1, x.2)) :=
  visit_eq m sc e he h

mutual
  /-- `named_parameters()` and `state_dict()` enumerate the same keys for the same parameters. -/
  theorem named_parameters_eq_state_dict (p : String) : ∀ m : Mod, namedParams p m = stateDict p m
    | .mk _ _ ps cs => by
      simp only [namedParams, stateDict]
      rw [named_parameters_all_eq p cs]
  theorem named_parameters_all_eq (p : String) : ∀ cs : Mods, namedParamsAll p cs = stateDictAll p cs
    | .nil => rfl
    | .cons k m r => by
      simp only [namedParamsAll, stateDictAll]
      rw [named_parameters_eq_state_dict (pfx p k) m, named_parameters_all_eq p r]
end

/-- `append` on a list that already has its name (`self.layers.append(m)` after `self.layers = ModuleList()`)
keeps the invariant: the new child is renamed `name.key` by `_register_child`. -/
theorem append_after_naming_keeps_names (l c : Mod) (e : String) (hl : l.kind = .list) (hn : Named e l)
    (hc : GoodT c) (hcn : c.name = none) : Named e (append l c) :=
  Named.append e l c (Or.inl hl) hc hcn hn

/-! ### non-vacuity and witnesses -/

def lin (name : Option String) (pid : Nat) : Mod := setParam (mkModule name) "weight" none pid

/-- `net{ fc: Lin, layers: ModuleList([Lin, Sequential(Lin, Lin)]) }` -/
def sampleNet : Mod :=
  setChild (setChild (mkModule (some "net")) "fc" (lin none 0)) "layers"
    (append (append (.mk .list none [] .nil) (lin none 1))
      (append (append (.mk .seq none [] .nil) (lin none 2)) (lin none 3)))

theorem lin_built (n : Option String) (p : Nat) : Built (lin n p) :=
  Built.param "weight" none p (Built.module n) (by simp [mkModule, Mod.kind]) (Or.inl rfl)

example : Built sampleNet :=
  Built.child "layers"
    (Built.child "fc" (Built.module _) rfl (lin_built _ _) (by decide) (Or.inl rfl)) rfl
    (Built.append (Built.append Built.emptyList (by decide) (lin_built _ _)) (by decide)
      (Built.append (Built.append Built.emptySeq (by decide) (lin_built _ _)) (by decide) (lin_built _ _)))
    (by decide) (Or.inl rfl)

example : realize sampleNet =
    [("net.fc.weight", 0), ("net.layers.0.weight", 1), ("net.layers.1.0.weight", 2),
     ("net.layers.1.1.weight", 3)] := by decide +kernel

example : (pids sampleNet).Nodup := by decide +kernel

/-- D20b: `self.fc = Lin(name="custom")`. -/
def explicitNet : Mod := setChild (mkModule (some "net")) "fc" (lin (some "custom") 0)

/-- The full statement (any explicit name) is false **on the current code** (open finding D20b, not a pre-fix
statement): initializer `net.custom.weight`, key `fc.weight`. -/
theorem initializer_names_full_refuted_explicit :
    ¬ (∀ root : Mod, (pids root).Nodup →
        realize root = (stateDict "" root).map (fun x => (rootKey root x.1, x.2))) := by
  intro h
  have := h explicitNet (by decide)
  revert this
  decide +kernel

/-- One `Lin` object registered under two parents (`b1.fc` and `b2.fc`; both keys are `fc`, so every stored
name agrees with its key): realised once, listed twice by `state_dict()`. -/
def sharedNet : Mod :=
  setChild (setChild (mkModule (some "net")) "b1" (setChild (mkModule none) "fc" (lin none 0))) "b2"
    (setChild (mkModule none) "fc" (lin none 0))

/-- Without `TreeNotDag` the statement is false even when every name agrees with its key (necessity of a hypothesis
on the current code; not a defect, not a pre-fix statement). -/
theorem initializer_names_full_refuted_shared :
    ¬ (∀ root : Mod, RootNamed root →
        realize root = (stateDict "" root).map (fun x => (rootKey root x.1, x.2))) := by
  intro h
  have hr : RootNamed sharedNet := by
    simp [sharedNet, setChild, attrChild, mkModule, lin, setParam, insertParam, Mods.insert, Mod.name,
      setName, RootNamed, NamedKey, Named, ParamsAgree]
  have := h sharedNet hr
  revert this
  decide +kernel

/-! ### modules called inside (nested) subgraphs -/

/-- **Scope inheritance at any depth.**  Whatever set `ctl` of modules run their children inside a
`GraphBuilder.subgraph` trace function — any number of them, nested to any depth, with ordinary modules entered
in between — the realised initializer names are those of the same tree without subgraphs: `build_graph` hands the
sub-builder a copy of its *parent's* scope stack and `Parameter._realize` qualifies with the *current* builder's
scope, so only the innermost builder's scope matters and it always equals the path of module names. -/
theorem realize_in_subgraphs_eq (ctl : List (List String)) (root : Mod) :
    realizeB SubPolicy.code ctl root = realize root :=
  realizeB_eq_realize ctl root

/-- **The property with subgraphs** (no "subgraph-free forward" assumption): for every tree built by
the public operations, every placement of subgraph bodies in the forwards, initializer names (in realisation
order) = `root.name + "." + state_dict key`, each parameter once.  `_partial` only for what is forced:
`Built` (explicit names agree with keys, linear construction) and distinct parameter objects. -/
theorem initializer_names_eq_state_dict_subgraphs_partial (ctl : List (List String)) (root : Mod)
    (hb : Built root) (hk : root.kind = .module) (hd : (pids root).Nodup) :
    realizeB SubPolicy.code ctl root = (stateDict "" root).map (fun x => (rootKey root x.1, x.2)) := by
  rw [realize_in_subgraphs_eq]
  exact initializer_names_eq_state_dict_partial root hb hk hd

/-- `model{ block1: Ctl{ inner: Ctl{ leaf: Lin } }, block2: Ctl{ inner: Lin } }` — If bodies nested two deep. -/
def nestedNet : Mod :=
  setChild (setChild (mkModule (some "model")) "block1"
      (setChild (mkModule none) "inner" (setChild (mkModule none) "leaf" (lin none 0))))
    "block2" (setChild (mkModule none) "inner" (lin none 1))

def nestedCtl : List (List String) := [["block1"], ["block1", "inner"], ["block2"]]

example : realizeB SubPolicy.code nestedCtl nestedNet =
    [("model.block1.inner.leaf.weight", 0), ("model.block2.inner.weight", 1)] := by decide +kernel

/-- (A statement about an *alternative policy*, never the code of /repo.)  The sub-builder must inherit from its
**parent**: copying the root builder's scope instead (seeded change C18-6) loses the modules entered inside the outer body — at nesting depth 2 both leaves collide. -/
theorem scope_inherit_root_refuted :
    ¬ (∀ (ctl : List (List String)) (root : Mod), realizeB ⟨false, true⟩ ctl root = realize root) := by
  intro h
  have := h nestedCtl nestedNet
  revert this
  decide +kernel

example : realizeB ⟨false, true⟩ nestedCtl nestedNet =
    [("model.block1.leaf.weight", 0), ("model.block2.inner.weight", 1)] := by decide +kernel

/-- **Before commit 77b0052** parameters were qualified with the *root* builder's scope (D20e): already at depth 1
the module path inside the body is lost. -/
theorem realize_in_subgraphs_prefix_refuted :
    ¬ (∀ (ctl : List (List String)) (root : Mod), realizeB ⟨true, false⟩ ctl root = realize root) := by
  intro h
  have := h [[]] explicitNet
  revert this
  decide +kernel

/-! ### top-down construction (containers attached first, filled afterwards) -/

/-- Module trees as `__init__` methods usually build them: start from a root built by `Built`, then any number of
statements acting on an **already attached** descendant reached by child keys (`self.blocks[0].layers…`):
`d.attr = Parameter(name=None | attr)` on a non-list, `d.attr = child` on a plain Module (child unnamed, or a plain
Module explicitly named `attr`), `d.append(child)` on a ModuleList (any unnamed child built by `Built`) or on a
Sequential (an unnamed plain Module).  `extend` is repeated `append`.  The statement is a no-op when the path does not
exist. -/
inductive BuiltTop : Mod → Prop
  | base {m : Mod} : Built m → m.kind = .module → BuiltTop m
  | paramAt {r : Mod} (path : List String) (attr : String) (pname : Option String) (pid : Nat) :
      BuiltTop r → (∀ t, nodeAt path r = some t → t.kind ≠ .list) → (pname = none ∨ pname = some attr) →
      BuiltTop (modifyAt path (fun d => setParam d attr pname pid) r)
  | childAt {r c : Mod} (path : List String) (attr : String) :
      BuiltTop r → (∀ t, nodeAt path r = some t → t.kind = .module) → Built c → attr ≠ "" →
      (c.name = none ∨ (c.kind = .module ∧ c.name = some attr)) →
      BuiltTop (modifyAt path (fun d => setChild d attr c) r)
  | appendAt {r c : Mod} (path : List String) :
      BuiltTop r → (∀ t, nodeAt path r = some t → t.kind = .list ∨ (t.kind = .seq ∧ c.kind = .module)) →
      Built c → c.name = none → BuiltTop (modifyAt path (fun d => append d c) r)

/-- Every tree built top-down is consistently named: each stored `_name` below the root is what the scope stack of
`Module.__call__` needs (induction over the construction; `modifyAt_named` carries the invariant down the path, each
mutation keeps it at the target: `_register_child` of a named ModuleList renames the appended object — and,
recursively, everything below it — to `name.key`). -/
theorem builtTop_rootNamed {r : Mod} (h : BuiltTop r) : RootNamed r := by
  induction h with
  | base hb hk => exact GoodT.rootNamed_module _ hk (built_good hb)
  | paramAt path attr pname pid _ ht hp ih =>
    exact modifyAt_rootNamed _ (fun t => t.kind ≠ .list)
      (fun e m hT hN => Named.setParam e m attr pname pid hT hp hN)
      (fun m _ hR => RootNamed.setParam m attr pname pid hp hR) path _ ht ih
  | childAt path attr _ ht hc ha hcn ih =>
    exact modifyAt_rootNamed _ (fun t => t.kind = .module)
      (fun e m hT hN => Named.setChild e m _ attr hT ha hcn (built_good hc) hN)
      (fun m hT hR => RootNamed.setChild m _ attr hT ha hcn (built_good hc) hR) path _ ht ih
  | appendAt path _ ht hc hcn ih =>
    exact modifyAt_rootNamed _ (fun t => t.kind = .list ∨ (t.kind = .seq ∧ _ = Kind.module))
      (fun e m hT hN => Named.append e m _ hT (built_good hc) hcn hN)
      (fun m hT hR => RootNamed.append m _ hT (built_good hc) hcn hR) path _ ht ih

/-- **The property for top-down built trees** (and modules called inside nested subgraph bodies): initializer
names, in realisation order, = `root.name + "." + state_dict key`, every parameter once.  Remaining hypotheses, both
forced: explicit names agree with keys (inside `BuiltTop`/`Built`; D20b) and distinct parameter objects. -/
theorem initializer_names_eq_state_dict_topdown_partial (ctl : List (List String)) (root : Mod)
    (hb : BuiltTop root) (hd : (pids root).Nodup) :
    realizeB SubPolicy.code ctl root = (stateDict "" root).map (fun x => (rootKey root x.1, x.2)) := by
  rw [realize_in_subgraphs_eq]
  exact realize_eq root (builtTop_rootNamed hb) hd

/-- `model{stem: Lin}`, then `model.stages = ModuleList()`, `model.stages.append(ModuleList())`,
`model.stages[0].append(Lin)`, `model.stages[0].append(Lin)`, `model.stages.append(Sequential())`,
`model.stages[1].append(Lin)`: containers first, contents later, three levels. -/
def topDownNet : Mod :=
  modifyAt ["stages", "1"] (fun d => append d (lin none 3))
    (modifyAt ["stages"] (fun d => append d (.mk .seq none [] .nil))
      (modifyAt ["stages", "0"] (fun d => append d (lin none 2))
        (modifyAt ["stages", "0"] (fun d => append d (lin none 1))
          (modifyAt ["stages"] (fun d => append d (.mk .list none [] .nil))
            (modifyAt [] (fun d => setChild d "stages" (.mk .list none [] .nil))
              (setChild (mkModule (some "model")) "stem" (lin none 0)))))))

example : realize topDownNet =
    [("model.stem.weight", 0), ("model.stages.0.0.weight", 1), ("model.stages.0.1.weight", 2),
     ("model.stages.1.0.weight", 3)] := by decide +kernel
example : (stateDict "" topDownNet).map (·.1) =
    ["stem.weight", "stages.0.0.weight", "stages.0.1.weight", "stages.1.0.weight"] := by decide +kernel

example : BuiltTop topDownNet := by
  refine BuiltTop.appendAt _ (BuiltTop.appendAt _ (BuiltTop.appendAt _ (BuiltTop.appendAt _ (BuiltTop.appendAt _
    (BuiltTop.childAt [] "stages" (BuiltTop.base
      (Built.child "stem" (Built.module _) rfl (lin_built _ _) (by decide) (Or.inl rfl)) rfl)
      ?_ Built.emptyList (by decide) (Or.inl rfl)) ?_ Built.emptyList rfl) ?_ (lin_built _ _) rfl) ?_
        (lin_built _ _) rfl) ?_ Built.emptySeq rfl) ?_ (lin_built _ _) rfl
  all_goals (apply of_all; decide)

/-! ### histories: a forward that raises, then the module is called again -/

/-- **An exception inside `forward` does not disturb the names** (history of two calls on one builder).  Whatever
part of the tree had been entered when the exception was raised — the first `k` parameter realisations of the full
sequence, any `k`; `Module.__call__` pops its scope in a `finally`, a sub-builder's scope is a copy — calling the root
again realises exactly what one undisturbed call realises, in the same order: parameters realised by the aborted
call keep their (correct) names, `_realize` is idempotent per object, the others are realised now. -/
theorem realize_after_abort (root : Mod) (k : Nat) :
    dedupPid ((callRoot root).take k ++ callRoot root) [] = realize root :=
  dedupPid_take_append (callRoot root) k []

/-- …hence the property holds for such a history too: initializer names = `root.name + "." + state_dict key`. -/
theorem initializer_names_after_abort_partial (root : Mod) (k : Nat) (hb : BuiltTop root)
    (hd : (pids root).Nodup) :
    dedupPid ((callRoot root).take k ++ callRoot root) []
      = (stateDict "" root).map (fun x => (rootKey root x.1, x.2)) := by
  rw [realize_after_abort]
  exact realize_eq root (builtTop_rootNamed hb) hd

example : (callRoot topDownNet).take 2 = [("model.stem.weight", 0), ("model.stages.0.0.weight", 1)] := by decide +kernel
example : dedupPid ((callRoot topDownNet).take 2 ++ callRoot topDownNet) [] =
    [("model.stem.weight", 0), ("model.stages.0.0.weight", 1), ("model.stages.0.1.weight", 2),
     ("model.stages.1.0.weight", 3)] := by decide +kernel

/-! ## Part A — names generated by `GraphBuilder` -/

/-- **Names are unique** (after commits e9794aa and e7b46e0, with no hypothesis on the trace).  In
*every* trace — operator calls, function calls, `call_inline`, literals, explicit names, module scopes and
arbitrarily nested `subgraph` constructions — every automatically generated value name is made from a
*different* (scope, op, node-count, output-index) tuple: `_adapt_outputs` reads `_node_count()` = the nodes of
the root graph and of all subgraphs of the builder tree; every call appends one node (an inlining: all clones)
to one of them; opening and closing a subgraph only moves graphs between "current / enclosing / finished"; so
the count strictly increases along the trace.
This is the statement on the *tuples* of automatic **value** names; `names_unique_rendered` lifts it to the rendered
strings.
Node names (`{op}_node_{count}`, explicit `_name=`, `prefix + body node name`) have **no** uniqueness theorem: they are
checked on the real serialized model by the name walker on every run (and refuted for the pre-fix code in
`names_unique_prefix_refuted`). -/
theorem names_unique_tuples (fns : List Fn) (tr : List Item) :
    ((build fns tr).vkeys.filter isAutoKey).Nodup :=
  (keys_build fns tr).nodup

/-- …and each of those tuples carries a count below the final number of nodes of the whole builder tree. -/
theorem auto_counts_bounded (fns : List Fn) (tr : List Item) :
    ∀ k ∈ (build fns tr).vkeys, ∀ p o c i, k = VKey.auto p o c i → c < nodeCount true (build fns tr) :=
  (keys_build fns tr).1

/-- **Automatic value names are unique — as strings** (value names only, not node names; after commit 5c71050: `{op}_{count}` / `{op}_{i}_{count}`).  For every
trace and *every* operator / function / scope name — no "plain name" hypothesis — the automatic value names, as
rendered by `_adapt_outputs` + `_qualify_value_name`, are pairwise distinct: an automatic name ends in the digits
of its node count preceded by a non-digit (`digit_suffix_unique`), the count is unique per node across the builder
tree (`names_unique_tuples`), and the names made with one count share scope and op (`keys_build`) and differ
in the output index.  (Names chosen by the user — explicit `_outputs`, graph inputs — and the `prefix + body name`
family of `call_inline` are outside this statement: their uniqueness is the caller's / the callee's.) -/
theorem names_unique_rendered (fns : List Fn) (tr : List Item) :
    (((build fns tr).vkeys.filter isAutoKey).map VKey.render).Nodup :=
  (keys_build fns tr).render_nodup

/-- D20a witness (regression case): main graph, `then` and `else` bodies each call `Add` first. -/
def d20aTrace : List Item :=
  [.input "x", .input "c", .op "Add" [.ref 0, .ref 0] (.auto 1) none [] [],
   .beginSub "then" [], .op "Add" [.ref 0, .lit (.num "1.0" 1000 "f32")] (.auto 1) none [] [], .endSub [3] [""],
   .beginSub "else" [], .op "Add" [.ref 0, .lit (.num "2.0" 2000 "f32")] (.auto 1) none [] [], .endSub [4] [""],
   .op "If" [.ref 1] (.auto 1) none [0, 1] []]

/-- **Before the fix** (per-graph counter, `buildPrefix`) the statement was false — for the tuples, the
rendered value names and the node names alike: all three graphs defined `v_Add_0` / `Add_node_0`. -/
theorem names_unique_prefix_refuted :
    ¬ (∀ tr : List Item, ((buildPrefix [] tr).vkeys.filter isAutoKey).Nodup) ∧
    ¬ (∀ tr : List Item, (buildPrefix [] tr).valueNames.Nodup) ∧
    ¬ (∀ tr : List Item, (buildPrefix [] tr).nodeNames.Nodup) := by
  have e : (buildPrefix [] d20aTrace).vkeys.filter isAutoKey =
      [.auto [] "Add" 0 none, .auto [] "Add" 0 none, .auto [] "Add" 0 none, .auto [] "If" 1 none] := by
    decide +kernel
  refine ⟨fun h => ?_, fun h => ?_, fun h => ?_⟩
  · have := h d20aTrace
    rw [e] at this
    simp at this
  all_goals
    have := h d20aTrace
    revert this
    decide +kernel

example : (buildPrefix [] d20aTrace).valueNames =
    ["x", "c", "v_Add_0", "const_1.0_f32", "v_Add_0", "const_2.0_f32", "v_Add_0", "v_If_1"] := by decide +kernel

/-- the same trace on the current code (also the non-vacuity instance with subgraphs). -/
example : (build [] d20aTrace).valueNames =
    ["x", "c", "v_Add_0", "const_1.0_f32", "v_Add_1", "const_2.0_f32", "v_Add_2", "v_If_3"] := by decide +kernel
example : (build [] d20aTrace).nodeNames = ["Add_node_0", "If_node_3", "Add_node_1", "Add_node_2"] := by decide +kernel
example : ∀ it ∈ d20aTrace, simpleItem it = true := by decide +kernel

/-- non-vacuity of `names_unique_tuples`: a trace with scopes, literals, a multi-output op and a call. -/
def simpleTrace : List Item :=
  [.input "x", .push "blk", .op "Add" [.ref 0, .lit (.num "1" 1000 "f32")] (.auto 1) none [] [],
   .op "Split" [.ref 1] (.auto 3) none [] [], .pop, .call 0 [.ref 2, .ref 3] none [], .output 5 (some "out")]

def fAddMul : Fn := ⟨"addmul", "c18", "", ["a0", "a1"],
  [⟨"Add_node_0", "", "Add", [some "a0", some "a1"], ["v_Add_0"], []⟩,
   ⟨"Mul_node_1", "", "Mul", [some "a0", some "a1"], ["v_Mul_1"], []⟩], ["v_Add_0", "v_Mul_1"], []⟩

example : ∀ it ∈ simpleTrace, simpleItem it = true := by decide +kernel
example : (build [fAddMul] simpleTrace).valueNames =
    ["x", "const_1_f32", "v_blk.Add_0", "v_blk.Split_0_1", "v_blk.Split_1_1", "v_blk.Split_2_1",
     "out", "v_addmul_1_2"] := by decide +kernel

/-- D20c witness (regression case): `call_inline` of a function returning its own input. -/
def fIdent : Fn := ⟨"ident", "c18", "", ["a0"], [], ["a0"], []⟩
def d20cTrace : List Item :=
  [.input "x", .op "Relu" [.ref 0] (.named ["x"]) none [] [], .inline 0 [.ref 0] none "" []]

/-- **Before commit e7b46e0** `call_inline` renamed the caller's value in place: rendered value names were
not unique even without subgraphs (`x` became `v_x`, colliding with the explicit output `x` → `v_x`). -/
theorem names_unique_inline_prefix_refuted :
    ¬ (∀ (fns : List Fn) (tr : List Item), (∀ it ∈ tr, isSub it = false) →
        (buildPrefix fns tr).valueNames.Nodup) := by
  intro h
  have := h [fIdent] d20cTrace (by decide)
  revert this
  decide +kernel

example : (buildPrefix [fIdent] d20cTrace).valueNames = ["v_x", "v_x"] := by decide +kernel
/-- on the current code the pass-through output keeps its name. -/
example : (build [fIdent] d20cTrace).valueNames = ["x", "v_x"] := by decide +kernel

/-- D20f witness (regression case): `f` (4 outputs, node 1) and `f_1` (1 output, node 3), plain calls. -/
def fFour : Fn := ⟨"f", "c18", "", ["a0"], [], ["a0", "a0", "a0", "a0"], []⟩
def fOne : Fn := ⟨"f_1", "c18", "", ["a0"], [], ["a0"], []⟩
def d20fTrace : List Item :=
  [.input "x", .op "Relu" [.ref 0] (.auto 1) none [] [], .call 0 [.ref 1] none [],
   .op "Add" [.ref 2, .ref 3] (.auto 1) none [] [], .call 1 [.ref 6] none []]

/-- **Before commit 5c71050** multi-output names were `{op}_{count}_{i}`: that rendering is not injective — `f`
(output 3 of node 1) and `f_1` (node 3) both render `v_f_1_3`, so distinct tuples did not give distinct names. -/
theorem names_render_prefix_refuted :
    ¬ (∀ k k' : VKey, isAutoKey k = true → isAutoKey k' = true → VKey.renderOld k = VKey.renderOld k' → k = k') := by
  intro h
  have := h (.auto [] "f" 1 (some 3)) (.auto [] "f_1" 3 none) rfl rfl (by decide)
  revert this
  decide +kernel

/-- on the current code the witness has pairwise distinct names. -/
example : (build [fFour, fOne] d20fTrace).valueNames =
    ["x", "v_Relu_0", "v_f_0_1", "v_f_1_1", "v_f_2_1", "v_f_3_1", "v_Add_2", "v_f_1_3"] := by decide +kernel
example : (build [fFour, fOne] d20fTrace).valueNames.Nodup := by decide +kernel

/-! ### exceptions: what a refused or aborted call leaves on the scope stacks -/

/-- the module-scope stack (`_scope_stack`) of the current builder, then of every enclosing builder. -/
def scopes (st : St) : List (List String) := (st.cur :: st.stack).map (·.scope)

/-- items whose *purpose* is to change a scope stack or the builder in charge. -/
def scopeItem : Item → Bool
  | .push _ => true
  | .pop => true
  | .beginSub _ _ => true
  | .endSub _ _ => true
  | .abortSub => true
  | _ => false

/-- a `call_inline` with a `_prefix` that gets more operands than the function has parameters (with `_outputs` of
the right length): `_inliner.instantiate` raises after `push_module(_prefix)`. -/
def raisingPrefixedInline (fns : List Fn) : Item → Bool
  | .inline fi a o p _ =>
    match fns[fi]? with
    | some f => p != "" && decide (a.length > f.formals.length) && !outsMismatch o f
    | none => false
  | _ => false

/-- an operation that only appends leaves every scope stack alone. -/
theorem scopes_adds {st st' : St} {rs : List VKey} {ext : List (CKey × Nat)} {ns : List Node}
    {hs : List (Option Nat)} (x : Adds st st' rs ext ns hs) : scopes st' = scopes st := by
  simp only [scopes, List.map_cons, x.scope, x.stack]

/-- **Scope stacks survive every call — accepted or refused** (full since commit 15c1bb3).  For every state, every
operator call, function call, inlining, input and output declaration — whether the builder accepts it or raises
(unknown function, wrong number of `_outputs`, too many operands, `None` output) — the scope stack of the current
builder and of every enclosing builder is afterwards exactly what it was: a `_prefix` pushed by `call_inline` is
popped again on **every** path (the pushed section runs under `try/finally`), promoted literals and cloned nodes
never touch it.  (Before 15c1bb3 one call had to be excluded: `scopes_kept_prefix_refuted`.) -/
theorem scopes_kept (fns : List Fn) (st : St) (it : Item) (h1 : scopeItem it = false) :
    scopes (step true fns st it) = scopes st := by
  obtain ⟨hs, hc⟩ := plain_keeps fns st it (by cases it <;> first | rfl | cases h1)
  simp only [scopes, List.map_cons, hs, hc (by rintro n rfl; cases h1) (by rintro rfl; cases h1)]

/-- the same for `call_inline` alone, stated on the operation: accepted, or refused at any of its three checks. -/
theorem scopes_kept_inline (fns : List Fn) (st : St) (fi : Nat) (a : List Arg) (o : Option (List String))
    (p : String) (as : List (String × AVal)) :
    scopes (doInline true fns st fi a o p as) = scopes st := by
  obtain ⟨_, _, _, _, x⟩ := doInline_adds' true fns st fi a o p as
  exact scopes_adds x

/-- **Before commit 15c1bb3** (`doInlineWith true`: `pop_module()` on the success path only) the scopes were kept by
every inlining *except* the one that raises inside `_inliner.instantiate` after the prefix was pushed… -/
theorem scopes_kept_inline_prefix_partial (fns : List Fn) (st : St) (fi : Nat) (a : List Arg)
    (o : Option (List String)) (p : String) (as : List (String × AVal))
    (h2 : raisingPrefixedInline fns (.inline fi a o p as) = false) :
    scopes (doInlineWith true true fns st fi a o p as) = scopes st := by
  obtain ⟨_, _, _, _, x⟩ := doInline_adds true true fns st fi a o p as (by
    by_cases hp : p = ""
    · exact Or.inr (Or.inl hp)
    · refine Or.inr (Or.inr (fun f hf => ?_))
      simp only [raisingPrefixedInline, hf] at h2
      by_cases hl : a.length > f.formals.length
      · exact Or.inr (by simpa [hp, hl] using h2)
      · exact Or.inl hl)
  exact scopes_adds x

/-- **Leaving a subgraph — normally, by a refusal of `build_graph`, or by an exception in the trace function —
re-installs the enclosing builder with its scope stack untouched**: whatever was pushed inside went to the
sub-builder's own copy. -/
theorem scopes_after_subgraph (fns : List Fn) (st : St) (it : Item)
    (hit : (∃ r d, it = .endSub r d) ∨ it = .abortSub) (hs : st.stack ≠ []) :
    scopes (step true fns st it) = (scopes st).tail := by
  cases hst : st.stack with
  | nil => exact absurd hst hs
  | cons parent rest =>
    obtain ⟨h1, h2⟩ := stack_leave fns st it parent rest hit.symm hst
    simp only [scopes, h1, h2, hst, List.map_cons, List.tail_cons]

/-- and opening one hands the sub-builder a *copy* of the current scope stack. -/
theorem scopes_begin_subgraph (fns : List Fn) (st : St) (g : String) (i : List String) :
    scopes (step true fns st (.beginSub g i)) = st.cur.scope :: scopes st := by
  simp only [step, doBeginSub, newValues, scopes, List.map_cons]

/-- **Enclosing builders are frozen while a subgraph is open.**  Whatever happens in the builder in charge — any
item of any trace function, accepted or refused — the frames of the enclosing
builders (nodes, inputs, outputs, scope stacks) are not touched: the list of enclosing frames stays as it is, or grows
by the current frame (a nested `subgraph` opens), or loses its head, which becomes the builder in charge again exactly
as it was left (a subgraph is finished, refused by `build_graph`, or abandoned by an exception). -/
theorem enclosing_frames_frozen (fns : List Fn) (st : St) (it : Item) :
    (step true fns st it).stack = st.stack ∨
    (step true fns st it).stack = st.cur :: st.stack ∨
    (∃ p rest, st.stack = p :: rest ∧ (step true fns st it).stack = rest ∧ (step true fns st it).cur = p) := by
  by_cases hp : isSub it = false
  · exact Or.inl (stack_plain fns st it hp)
  · cases it with
    | beginSub g i => exact Or.inr (Or.inl (stack_begin fns st g i))
    | endSub r d =>
      cases hst : st.stack with
      | nil => exact Or.inl (by simp only [step, doEndSub, hst]; exact (fail_stack_cur st _).1.trans hst)
      | cons p rest => exact Or.inr (Or.inr ⟨p, rest, rfl, stack_leave fns st _ p rest (Or.inr ⟨r, d, rfl⟩) hst⟩)
    | abortSub =>
      cases hst : st.stack with
      | nil => exact Or.inl (by simp only [step, doAbortSub, hst]; exact (fail_stack_cur st _).1.trans hst)
      | cons p rest => exact Or.inr (Or.inr ⟨p, rest, rfl, stack_leave fns st _ p rest (Or.inl rfl) hst⟩)
    | _ => exact absurd rfl hp

/-- **A subgraph, whatever happens inside, gives the enclosing builder back exactly as it was.**  Open a subgraph on any
state, run *any* body that stays inside it (`relDepth 0 body = some 0`: operator calls, calls and inlinings — accepted,
refused —, module scopes pushed and popped or left open, nested subgraphs that are finished, refused or
abandoned), then leave it — by returning (`endSub`, accepted or refused by `build_graph`) or by an exception
(`abortSub`): the builder in charge is the enclosing one with the very same frame — nodes, inputs, outputs **and scope
stack** — and the same enclosing builders above it.  Nothing traced in the body lands in, or renames the scopes of, the
parent. -/
theorem subgraph_restores_parent (fns : List Fn) (st : St) (g : String) (i : List String) (body : List Item)
    (close : Item) (hb : relDepth 0 body = some 0) (hc : close = .abortSub ∨ ∃ r d, close = .endSub r d) :
    ((body ++ [close]).foldl (step true fns) (step true fns st (.beginSub g i))).cur = st.cur ∧
    ((body ++ [close]).foldl (step true fns) (step true fns st (.beginSub g i))).stack = st.stack := by
  obtain ⟨pre, hl, hs⟩ := body_keeps_base fns body (step true fns st (.beginSub g i)) 0 [] (st.cur :: st.stack) 0
    (by rw [stack_begin]; rfl) rfl hb
  have hpre : pre = [] := List.length_eq_zero_iff.mp hl
  subst hpre
  rw [List.foldl_append, List.foldl_cons, List.foldl_nil]
  have := stack_leave fns _ close st.cur st.stack hc (by simpa using hs)
  exact ⟨this.2, this.1⟩

/-- non-vacuity: the body of `abortTrace` (a push left open, a node) and a body with a refused prefixed inlining and a
    nested abandoned subgraph. -/
example : relDepth 0 [.push "inner", .op "Neg" [.ref 1] (.auto 1) none [] []] = some 0 := by decide +kernel
example : relDepth 0 [.inline 0 [.ref 0, .ref 0] none "blk" [], .beginSub "n" [], .push "q", .abortSub,
    .op "Relu" [.ref 0] (.auto 1) none [] []] = some 0 := by decide +kernel
example : relDepth 0 [.op "Relu" [.ref 0] (.auto 1) none [] [], .endSub [1] [""]] = none := by decide +kernel

/-- D20j witness (regression case): `x = input; call_inline(ident, x, x, _prefix="blk")` raises "Too many inputs",
the program catches it and goes on. -/
def d20jTrace : List Item :=
  [.input "x", .inline 0 [.ref 0, .ref 0] none "blk" [], .op "Relu" [.ref 0] (.auto 1) none [] []]

/-- …and **on that call the statement was false before the fix** (finding D20j, fixed by 15c1bb3): the prefix stayed
on the scope stack, so every later automatic name carried it (`v_blk.Relu_0`) and so did every initializer realised
by a module called afterwards (`blk.net.fc.weight` instead of `net.fc.weight`). -/
theorem scopes_kept_prefix_refuted :
    ¬ (∀ (fns : List Fn) (st : St) (fi : Nat) (a : List Arg) (o : Option (List String)) (p : String)
        (as : List (String × AVal)), scopes (doInlineWith true true fns st fi a o p as) = scopes st) := by
  intro h
  have := h [fIdent] (build [fIdent] [.input "x"]) 0 [.ref 0, .ref 0] none "blk" []
  revert this
  decide +kernel

example : raisingPrefixedInline [fIdent] (.inline 0 [.ref 0, .ref 0] none "blk" []) = true := by decide +kernel
example : scopes (doInlineWith true true [fIdent] (build [fIdent] [.input "x"]) 0 [.ref 0, .ref 0] none "blk" [])
    = [["blk"]] := by decide +kernel
/-- non-vacuity of `scopes_kept_inline_prefix_partial`: the same refused call without a prefix. -/
example : raisingPrefixedInline [fIdent] (.inline 0 [.ref 0, .ref 0] none "" []) = false := by decide +kernel
/-- on the current code the witness is refused and leaves nothing behind. -/
example : (build [fIdent] d20jTrace).err = some "too-many-inputs" := by decide +kernel
example : scopes (build [fIdent] d20jTrace) = [[]] := by decide +kernel
example : (build [fIdent] d20jTrace).valueNames = ["x", "v_Relu_0"] := by decide +kernel
example : scopes (build [fIdent] [.input "x", .push "m", .inline 0 [.ref 0, .ref 0] none "blk" []]) = [["m"]] := by
  decide +kernel
/-- non-vacuity of `scopes_kept` on refusals: the same call without a prefix, and with a wrong `_outputs`. -/
example : scopes (build [fIdent] [.input "x", .push "m", .inline 0 [.ref 0, .ref 0] none "" []]) = [["m"]] := by decide +kernel
example : scopes (build [fIdent] [.input "x", .push "m", .inline 0 [.ref 0] (some ["a", "b"]) "blk" []]) = [["m"]] := by
  decide +kernel
example : (build [fIdent] [.input "x", .push "m", .inline 0 [.ref 0] (some ["a", "b"]) "blk" []]).err
    = some "outputs-mismatch" := by decide +kernel
/-- an accepted prefixed inlining pops its prefix. -/
example : scopes (build [fAddMul] [.input "x", .push "m", .inline 0 [.ref 0, .ref 0] none "blk" []]) = [["m"]] := by
  decide +kernel
/-- an exception inside a subgraph body in which a module scope was pushed: back in the parent, scope `["m"]`; the
    dropped graph's node still counts (`v_m.Relu_1`, not `_0`). -/
def abortTrace : List Item :=
  [.input "x", .push "m", .beginSub "body" ["i"], .push "inner",
   .op "Neg" [.ref 1] (.auto 1) none [] [], .abortSub, .op "Relu" [.ref 0] (.auto 1) none [] []]
example : scopes (build [] abortTrace) = [["m"]] := by decide +kernel
example : (build [] abortTrace).valueNames = ["x", "i", "v_m.inner.Neg_0", "v_m.Relu_1"] := by decide +kernel
example : (build [] abortTrace).err = none := by decide +kernel

/-! ## Part C — the built graph is well-formed and computes the trace; inlining = calling -/

/-- **Well-formedness** (`build_wf`).  For *every* trace (operator calls, literals, function calls,
`call_inline`, scopes, arbitrarily nested subgraphs) and every graph of the builder tree — the root, the
graphs still open and every finished subgraph, at every nesting depth — every input `i` of every node is a
*defined* value (a root initializer, an input of some graph, or an output of some node) and is either a root
initializer or was created strictly before every output of that node.  Together with single definition (each
value id is placed at exactly one site) this is definition-before-use.
`_partial` in one respect: ONNX *scoping* is not stated — that a value defined inside a finished subgraph is
not used outside it is the caller's obligation (Python lets a trace function leak an inner value). -/
theorem build_wf_partial (fns : List Fn) (tr : List Item) :
    ∀ f ∈ (build fns tr).frames, ∀ n ∈ f.nodes, ∀ i, some i ∈ n.ins →
      Defined (build fns tr) i ∧ (i ∈ (build fns tr).inits ∨ ∀ o ∈ n.outs, i < o) := by
  have hb : Bnd (build fns tr) := bnd_foldl true fns tr St.init Bnd.init
  intro f hf n hn i hi
  obtain ⟨h1, h2⟩ := (hb.nodes f hf n hn).2 i hi
  exact ⟨hb.defined i h1 (by simp), h2⟩

/-- …and every value ever created is defined at a site (no dangling outputs, inputs or constants). -/
theorem build_all_defined (fns : List Fn) (tr : List Item) :
    ∀ i, i < (build fns tr).vnames.length → Defined (build fns tr) i :=
  fun i hi => (bnd_foldl true fns tr St.init Bnd.init).defined i hi (by simp)

/-- **The graph computes the trace** (`build_computes_trace`).  For every subgraph-free trace — operator calls with
handles, literals and `None` as operands, attributes, function calls, **`call_inline`**, module scopes, explicit
names — every interpretation `S` of the operators as functions of (attributes, input values) (A-op; a function-call
node is the operator named by (domain, name, overload)), and every argument list: evaluating the root graph of
`build tr` — initializers holding their literal's value, graph inputs the arguments, nodes in order — gives at every
handle exactly the value the trace's own replay gives, where the replay of `call_inline f` is *what calling `f`
means* (`callMeaning`: the body under the passed attributes and declared defaults).  So, at the level of whole
traces: inlining = calling, constants shared through the cache keep their values, and nothing else is disturbed.
Operands of an inlining may be values, `None` or Python literals (promoted through the constant cache, 06b8334).
Hypothesis: function bodies are SSA (each body node's output names are distinct).
`_partial`: no `subgraph` items (graph-valued attributes are not interpreted). -/
theorem build_computes_trace_partial {α : Type} (S : OpSem α) (fns : List Fn) (args : List α) (tr : List Item)
    (hssa : ∀ f ∈ fns, ∀ n ∈ f.nodes, n.outs.Nodup) (h : ∀ it ∈ tr, simItem it = true) :
    (build fns tr).handles.map (fun o => o.bind (evalGraph S (build fns tr) args))
      = (replay S fns args tr).henv :=
  (sim_foldl S fns args hssa tr St.init ⟨[], 0⟩ h (Sim.init S args)).vals

/-- **Inlining = calling, α-renaming** (`inline_eq_call`, functions without attributes).  The nodes
`call_inline` makes from the body of `f` (`inlineClones`: formals ↦ actuals, every body value a fresh id,
names prefixed), evaluated in *any* environment `e`, give at the function's outputs exactly the values of the
body evaluated over its own names on the actuals' values (`evalBody` — what a call node denotes when the
function symbol is expanded), and leave every earlier value untouched.  Hypotheses: the actuals exist
(`< st.L`) and each body node's outputs are distinct names (SSA body). -/
theorem inline_eq_call_partial {α : Type} (S : OpSem α) (total : Bool) (st : St) (f : Fn)
    (actuals : List (Option Nat)) (e : Env α) (ha : ∀ i, some i ∈ actuals → i < st.L)
    (hssa : ∀ n ∈ f.nodes, n.outs.Nodup) :
    (f.outputs.map (vmapGet (inlineClones total st f actuals).2.1)).map
        (fun o => o.bind (evalNodes S e (inlineClones total st f actuals).2.2))
      = evalBody S f (actuals.map (fun a => a.bind e)) ∧
    ∀ i, i < st.L → evalNodes S e (inlineClones total st f actuals).2.2 i = e i :=
  inlineClones_sim S total st f actuals e ha hssa

/-- `call_inline` really appends those clones (and nothing else) to the current graph and hands back the
values the function's outputs are mapped to — on its success path (all operands are values, not too many,
`_outputs` of the right length). -/
theorem inline_appends_clones (total : Bool) (fns : List Fn) (st : St) (fi : Nat) (args : List Arg)
    (outs : Option (List String)) (pfx : String) (as : List (String × AVal)) (f : Fn) (hf : fns[fi]? = some f)
    (h1 : args.all isRef = true) (h2 : ¬ args.length > f.formals.length) (h3 : outsMismatch outs f = false) :
    (doInline total fns st fi args outs pfx as).cur.nodes = st.cur.nodes ++
      (inlineClones total (if pfx = "" then st else pushScope st pfx) (resolveFn (effectiveAttrs total f as) f)
        (resolveArgs (if pfx = "" then st else pushScope st pfx) args).2).2.2 ∧
    (doInline total fns st fi args outs pfx as).handles = st.handles ++ f.outputs.map (vmapGet
      (inlineClones total (if pfx = "" then st else pushScope st pfx) (resolveFn (effectiveAttrs total f as) f)
        (resolveArgs (if pfx = "" then st else pushScope st pfx) args).2).2.1) :=
  let ⟨_, x⟩ := doInline_refs total fns st fi args outs pfx as f hf h1 h2 h3
  ⟨by rw [x.cur], x.handles⟩

/-- Corollary (near-definitional: `inline_eq_call_partial` rewritten with the hypothesis `hdef`): under an
interpretation that gives the function symbol the meaning of its body, the values `call_inline` returns equal the
values `call` returns. -/
theorem inline_eq_call_values {α : Type} (S : OpSem α) (total : Bool) (st : St) (f : Fn)
    (actuals : List (Option Nat)) (e : Env α) (ha : ∀ i, some i ∈ actuals → i < st.L)
    (hssa : ∀ n ∈ f.nodes, n.outs.Nodup)
    (as : List (String × AVal))
    (hdef : takeN (S.op f.domain f.name f.overload as (actuals.map (fun a => a.bind e))) f.outputs.length
      = evalBody S f (actuals.map (fun a => a.bind e))) :
    (f.outputs.map (vmapGet (inlineClones total st f actuals).2.1)).map
        (fun o => o.bind (evalNodes S e (inlineClones total st f actuals).2.2))
      = takeN (S.op f.domain f.name f.overload as (actuals.map (fun a => a.bind e))) f.outputs.length := by
  rw [hdef]
  exact (inline_eq_call_partial S total st f actuals e ha hssa).1

/-! ### attributes: `call_inline` with declared defaults = `call` -/

/-- **Inlining = calling, with attributes** (seeded-change class C18-4; D20d).  For every function `f` (body
nodes may carry attribute values and references to attribute parameters, parameters may declare defaults), every
list `passed` of attribute values given by the caller, every actuals, environment and operator interpretation: the
nodes `call_inline` appends — the clones of the body with every reference attribute resolved under
`effectiveAttrs true f passed` = passed values, then the declared default of each parameter not passed — evaluate,
at the function's outputs, to what a *call node* carrying `passed` denotes (`callMeaning`: the body with reference
attributes bound to the passed value, else the declared default), and touch no earlier value.
That `doInline` appends exactly these clones is `inline_appends_clones`.
Hypotheses (the same as `inline_eq_call_partial`, of which this is the instance for the resolved function): the actuals
exist (`< st.L`) and each body node's outputs are distinct names (SSA body). -/
theorem inline_attrs_eq_call {α : Type} (S : OpSem α) (st : St) (f : Fn) (passed : List (String × AVal))
    (actuals : List (Option Nat)) (e : Env α) (ha : ∀ i, some i ∈ actuals → i < st.L)
    (hssa : ∀ n ∈ f.nodes, n.outs.Nodup) :
    (f.outputs.map (vmapGet (inlineClones true st (resolveFn (effectiveAttrs true f passed) f) actuals).2.1)).map
        (fun o => o.bind (evalNodes S e
          (inlineClones true st (resolveFn (effectiveAttrs true f passed) f) actuals).2.2))
      = callMeaning S f passed (actuals.map (fun a => a.bind e)) ∧
    ∀ i, i < st.L → evalNodes S e
      (inlineClones true st (resolveFn (effectiveAttrs true f passed) f) actuals).2.2 i = e i :=
  inline_eq_call_partial S true st (resolveFn (effectiveAttrs true f passed) f) actuals e ha (resolveFn_ssa _ hssa)

/-- A declared default is used **whatever its value** (`0`, `0.0`, `""`, `[]` included) as soon as the caller does
not pass the attribute… -/
theorem declared_default_is_used (f : Fn) (passed : List (String × AVal)) (p : String) (d : AVal)
    (hp : attrGet passed p = none) (hd : (p, some d) ∈ f.attrParams) :
    (p, d) ∈ effectiveAttrs true f passed := by
  unfold effectiveAttrs
  apply List.mem_append_right
  simp only [if_true, List.mem_filterMap]
  exact ⟨(p, some d), hd, by simp [hp]⟩

/-- …and a passed value always wins over the default. -/
theorem passed_attr_wins (f : Fn) (passed : List (String × AVal)) (p : String) (v : AVal)
    (hp : attrGet passed p = some v) : attrGet (effectiveAttrs true f passed) p = some v := by
  obtain ⟨e, he, hv⟩ := Option.map_eq_some_iff.mp hp
  simp only [effectiveAttrs, attrGet, List.find?_append, he, Option.some_or, Option.map_some, hv]

/-- `leaky(a, alpha = 0.0) = LeakyRelu(a, alpha=alpha)`: a falsy declared default. -/
def fLeaky : Fn := ⟨"leaky", "this", "", ["a"],
  [⟨"n0", "", "LeakyRelu", [some "a"], ["return_val"], [("alpha", .ref "alpha")]⟩], ["return_val"],
  [("alpha", some "f:0.0")]⟩

/-- an interpretation in which the attribute matters: LeakyRelu with `alpha = 0.0` clamps at 0, with the
    operator's own default (attribute absent) it lets negative inputs through. -/
def attrSem : OpSem Int where
  op := fun _ t _ as vs =>
    match t, vs with
    | "LeakyRelu", [some a] => if attrGet as "alpha" = some "f:0.0" then [max a 0] else [a]
    | _, _ => []
  lit := fun _ => 0

def oneInput : St := build [] [.input "x"]

example : (inlineClones true oneInput (resolveFn (effectiveAttrs true fLeaky []) fLeaky) [some 0]).2.2.map
    (fun n => (n.op, n.attrs)) = [("LeakyRelu", [("alpha", "f:0.0")])] := by decide +kernel
example : callMeaning attrSem fLeaky [] [some (-5)] = [some 0] := by decide +kernel
example : ("alpha", "f:0.0") ∈ effectiveAttrs true fLeaky [] :=
  declared_default_is_used fLeaky [] "alpha" "f:0.0" rfl (by decide)

/-- **Before commit 1ed6700** `call_inline` handed only the passed attributes to the inliner: the reference
attribute of the body was dropped and the inlined node fell back to the operator's own default — inlining ≠ calling
(D20d; the seeded change C18-4 re-creates this for falsy defaults). -/
theorem inline_attrs_prefix_refuted :
    ¬ (∀ (f : Fn) (passed : List (String × AVal)) (e : Env Int),
        (f.outputs.map (vmapGet (inlineClones false oneInput (resolveFn (effectiveAttrs false f passed) f)
            [some 0]).2.1)).map (fun o => o.bind (evalNodes attrSem e
              (inlineClones false oneInput (resolveFn (effectiveAttrs false f passed) f) [some 0]).2.2))
          = callMeaning attrSem f passed [e 0]) := by
  intro h
  have := h fLeaky [] (fun _ => some (-5))
  revert this
  decide +kernel

/-! ### non-vacuity -/

/-- a concrete interpretation over `Int`. -/
def intSem : OpSem Int where
  op := fun _ t _ _ vs =>
    match t, vs with
    | "Add", [some a, some b] => [a + b]
    | "Mul", [some a, some b] => [a * b]
    | "Neg", [some a] => [-a]
    | "addmul", [some a, some b] => [a + b, a * b]
    | _, _ => []
  lit := fun k => match k with
    | .num r _ => if r = "3" then 3 else 0
    | .ints _ _ => 0

def semTrace : List Item :=
  [.input "x", .input "y", .op "Add" [.ref 0, .lit (.num "3" 3000 "i64")] (.auto 1) none [] [],
   .push "blk", .op "Mul" [.ref 2, .ref 1] (.named ["p"]) none [] [], .pop,
   .op "Add" [.lit (.num "3" 3000 "i64"), .ref 3] (.auto 1) none [] [], .call 0 [.ref 4, .ref 0] none [],
   .inline 0 [.ref 5, .ref 1] none "pre" [], .inline 0 [.ref 5, .lit (.num "3" 3000 "i64")] none "" [],
   .output 8 (some "out")]

example : ∀ it ∈ semTrace, simItem it = true := by decide +kernel
example : (replay intSem [fAddMul] [5, 7] semTrace).henv =
    [some 5, some 7, some 8, some 56, some 59, some 64, some 295, some 71, some 448, some 67, some 192] := by decide +kernel
example : ∀ f ∈ [fAddMul], ∀ n ∈ f.nodes, n.outs.Nodup := by decide +kernel
example : (build [fAddMul] semTrace).handles.map
      (fun o => o.bind (evalGraph intSem (build [fAddMul] semTrace) [5, 7]))
    = [some 5, some 7, some 8, some 56, some 59, some 64, some 295, some 71, some 448, some 67, some 192] := by decide +kernel

/-- `inline_eq_call_partial` instance: inlining `addmul(x, y)` into a graph with inputs 0 ↦ 5, 1 ↦ 7. -/
def twoInputs : St := build [] [.input "x", .input "y"]
example : (inlineClones true twoInputs fAddMul [some 0, some 1]).2.2.map (fun n => (n.op, n.ins, n.outs))
    = [("Add", [some 0, some 1], [2]), ("Mul", [some 0, some 1], [3])] := by decide +kernel
example : evalBody intSem fAddMul [some 5, some 7] = [some 12, some 35] := by decide +kernel
example : ∀ n ∈ fAddMul.nodes, n.outs.Nodup := by decide +kernel

/-! ## Part D — splitting a call's arguments into inputs and attributes -/

/-- **No positional argument is lost.**  For every operator signature (any number of inputs / attributes, with or
without a variadic input), every list of positional arguments and keyword arguments: if
`_partition_inputs_attributes` returns (instead of raising `TypeError`), every positional argument of the traced
call is an input or the value of an attribute of the node.  (Holds for both behaviours of the helper; `~` is the
placeholder token and not an argument.) -/
theorem partition_keeps_positionals (ph : Bool) (sig : List SigParam) (args : List String)
    (kwargs : List (String × String)) (I : List String) (A : List (String × String))
    (hne : ∀ a ∈ args, a ≠ "~") (h : partitionWith ph sig args kwargs = .ok (I, A)) :
    ∀ a ∈ args, a ∈ I ∨ a ∈ A.map (·.2) := by
  unfold partitionWith at h
  split at h
  · cases h
  · exact (partGo_keeps ph sig args kwargs [] [] I A h hne).1

/-- **Every input sits at the position of its parameter** (helper with placeholders, commit b7afd5e).  For a
signature whose inputs are **all non-variadic** and precede its attributes — the shape of an `OpSignature` *without* a
variadic input; operators with one (Concat, Sum, Max, Min, Loop, …) are outside this theorem: for them only
`partition_keeps_positionals` and the per-run `part` correspondence apply — and every call:
the node's inputs are, position by position, the positional argument at that index, else the keyword argument of
that parameter's name, else absent; absent inputs at the end are dropped.  In particular an input given by keyword
after an omitted optional input stays in its own slot (`Clip(x, max=hi)` = `Clip(x, ∅, hi)`). -/
theorem partition_input_positions (ins ats : List SigParam) (args : List String) (kwargs : List (String × String))
    (I : List String) (A : List (String × String))
    (hi : ∀ p ∈ ins, p.isInput = true ∧ p.variadic = false) (ha : ∀ p ∈ ats, p.isInput = false)
    (h : partitionWith true (ins ++ ats) args kwargs = .ok (I, A)) :
    I = stripPh (expectedFrom ins args kwargs) := by
  unfold partitionWith at h
  split at h
  · cases h
  · simpa using partGo_positions ins ats args kwargs [] [] I A hi ha h

def sigClip : List SigParam :=
  [⟨"input", true, false, true, false⟩, ⟨"min", true, false, false, false⟩, ⟨"max", true, false, false, false⟩]

example : partitionWith true sigClip ["x"] [("max", "hi")] = .ok (["x", "~", "hi"], []) := by decide +kernel
example : partitionWith true sigClip ["x"] [("min", "lo")] = .ok (["x", "lo"], []) := by decide +kernel
example : partitionWith true sigClip ["x"] [] = .ok (["x"], []) := by decide +kernel

/-- **Before commit b7afd5e** (helper without placeholders, D20g) the statement was false: `Clip(x, max=hi)` puts
`hi` into the `min` slot. -/
theorem partition_input_positions_prefix_refuted :
    ¬ (∀ (ins ats : List SigParam) (args : List String) (kwargs : List (String × String)) (I : List String)
        (A : List (String × String)), (∀ p ∈ ins, p.isInput = true ∧ p.variadic = false) →
        (∀ p ∈ ats, p.isInput = false) → partitionWith false (ins ++ ats) args kwargs = .ok (I, A) →
        I = stripPh (expectedFrom ins args kwargs)) := by
  intro h
  have := h sigClip [] ["x"] [("max", "hi")] ["x", "hi"] [] (by decide) (by decide) (by decide)
  revert this
  decide +kernel

/-- The split depends on the signature **of the call's own opset version**: with the signature of another version
the same call is split differently (`ReduceMax(x, [0])`: `axes` is an input from opset 18 on, an attribute before —
the seeded change C18-5 memoised the signature per operator name). -/
def sigReduceMax17 : List SigParam :=
  [⟨"data", true, false, true, false⟩, ⟨"axes", false, false, false, false⟩, ⟨"keepdims", false, false, false, true⟩]
def sigReduceMax18 : List SigParam :=
  [⟨"data", true, false, true, false⟩, ⟨"axes", true, false, false, false⟩, ⟨"keepdims", false, false, false, true⟩,
   ⟨"noop_with_empty_axes", false, false, false, true⟩]

theorem partition_version_sensitive :
    partition sigReduceMax17 ["x", "ax"] [] ≠ partition sigReduceMax18 ["x", "ax"] [] := by decide +kernel

example : partition sigReduceMax18 ["x", "ax"] [("keepdims", "1")] = .ok (["x", "ax"], [("keepdims", "1")]) := by
  decide +kernel
example : partition sigReduceMax17 ["x", "ax"] [] = .ok (["x"], [("axes", "ax")]) := by decide +kernel
example : partition sigReduceMax17 ["x"] [("axis", "0")] = .error .extraKwargs := by decide +kernel
example : partition sigReduceMax17 [] [] = .error (.missing "data") := by decide +kernel
example : partition sigReduceMax17 ["x", "a", "k", "z"] [] = .error .tooMany := by decide +kernel

end OV.Props.C18
