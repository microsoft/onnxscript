import OV.Model.C09Shape
import OV.Lemmas.C09Shape
import OV.Lemmas.C09Bcast
import OV.Lemmas.C09Reshape
import OV.Lemmas.C09Mat
import OV.Lemmas.C09Flatten
import OV.Lemmas.C09Rules
import OV.Lemmas.C09ReshapeReshape
/-!
# C09 — shape-based simplifications hold for every runtime binding of symbolic dims

Property theorems only.  Model: `OV.Model.C09Shape` (restating `_constant_folding.py`, `_ir_utils.py`,
`_remove_expand_before_binary_op.py`, `_materialize_reshape_shape.py`, `_basic_rules.py`, `_collapse_slices.py`,
`_redundant_scatter_nd.py`, `_no_op.py`).

Reading guide.  `σ : String → Nat` binds every symbol (`∀ σ` = "every runtime binding", non-injective
bindings — distinct symbols with equal values — and 0/1 values included).  `Admits σ s l` says the
annotation `s` is truthful for the concrete list `l` (a tensor's shape, or the contents of a shape-valued
tensor): `known k` admits `k`, `sym a` admits `σ a`, an unnamed dim admits anything.  No decision function
of the model takes `σ`: the code only ever uses *positive* syntactic facts, and every theorem below
concludes for all `σ` from one such fact.
-/
namespace OV.Props.C09
open OV.C09

/-! ## Equality of shapes -/

/-- `_ir_utils.same_shape`: a positive answer means that under **every** binding both annotations denote
one and the same concrete shape (they are defined, and any two tensors they are truthful for have equal
shapes). -/
theorem same_shape_sound (a b : Shape) (h : sameShape (some a) (some b) = true) (σ : String → Nat) :
    (∃ l, denote σ a = some l ∧ denote σ b = some l) ∧
    (∀ l₁ l₂, Admits σ a l₁ → Admits σ b l₂ → l₁ = l₂) :=
  let ⟨e, hu⟩ := sameShape_iff.mp h
  same_of_eq e hu σ

/-- `_constant_folding._same_shape` (scans only its first argument for unnamed dims — still sound,
because an unnamed dim in the second argument makes the tuples differ). -/
theorem same_shape_fold_sound (a b : Shape) (h : sameShapeFold a b = true) (σ : String → Nat) :
    (∃ l, denote σ a = some l ∧ denote σ b = some l) ∧
    (∀ l₁ l₂, Admits σ a l₁ → Admits σ b l₂ → l₁ = l₂) :=
  let ⟨e, hu⟩ := sameShapeFold_iff.mp h
  same_of_eq e hu σ

/-- `_ir_utils.same_dim`. -/
theorem same_dim_sound (d₁ d₂ : Dim) (h : sameDim d₁ d₂ = true) (σ : String → Nat) (v w : Int)
    (h₁ : d₁.Admits σ v) (h₂ : d₂.Admits σ w) : v = w := by
  obtain ⟨rfl, hu⟩ := sameDim_iff.mp h
  exact Dim.admits_det hu h₁ h₂

/-- Unnamed dims are never considered equal by the three comparison helpers. -/
theorem unknown_never_equal (a b : Shape) (d : Dim) (h : hasUnknown a = true ∨ hasUnknown b = true) :
    sameShape (some a) (some b) = false ∧ sameShapeFold a b = false ∧
    sameDim .unknown d = false ∧ sameDim d .unknown = false := by
  have key : ¬(a = b ∧ hasUnknown a = false) := fun ⟨e, hu⟩ => by
    subst e
    rcases h with h | h <;> rw [hu] at h <;> cases h
  exact ⟨Bool.eq_false_iff.mpr fun hs => key (sameShape_iff.mp hs),
    Bool.eq_false_iff.mpr fun hs => key (sameShapeFold_iff.mp hs), rfl, by cases d <;> rfl⟩

example : sameShape (some [.sym "N", .known 3]) (some [.sym "N", .known 3]) = true := by decide
example : sameShapeFold [.sym "N", .known 0] [.sym "N", .known 0] = true := by decide
example : sameShape (some [.unknown]) (some [.unknown]) = false := by decide

/-! ## `_merge_shapes`, and the `identity` evaluator that applies it -/

theorem mergeDim_sound {σ : String → Nat} {d₁ d₂ : Dim} {v : Int} (h₁ : d₁.Admits σ v) (h₂ : d₂.Admits σ v) :
    (mergeDim d₁ d₂).Admits σ v :=
  Dim.admits_merge h₁ h₂

/-- Backward/forward shape inference: the merged annotation is truthful for every tensor both arguments
are truthful for, under every binding (so `input.shape = _merge_shapes(input.shape, output.shape)` on an
`Identity` never records a false fact, provided the two annotations were true). -/
theorem merge_shapes_sound (p o r : Shape) (h : mergeShapes (some p) (some o) = .ok (some r))
    (σ : String → Nat) (l : List Int) (hp : Admits σ p l) (ho : Admits σ o l) : Admits σ r l :=
  mergeShapes_sound h (fun _ e => Option.some.inj e ▸ hp) (fun _ e => Option.some.inj e ▸ ho) r rfl

/-- An unnamed dim survives the merge only where both annotations are unnamed. -/
theorem merge_dim_precise (d₁ d₂ : Dim) (h : (mergeDim d₁ d₂).isUnknown = true) :
    d₁ = .unknown ∧ d₂ = .unknown := by
  unfold mergeDim at h
  by_cases e : d₁ = d₂
  · rw [if_pos e] at h; subst e; cases d₁ <;> simp [Dim.isUnknown] at h ⊢
  · rw [if_neg e] at h; cases d₁ <;> cases d₂ <;> simp [Dim.isInt, Dim.isUnknown] at h e ⊢

example : mergeShapes (some [.sym "N", .unknown]) (some [.known 3, .sym "M"]) = .ok (some [.known 3, .sym "M"]) := by
  rfl

/-- `identity` evaluator (backward shape inference; a failed merge keeps the input annotation; nothing is merged
onto a graph input): what is recorded for the input is truthful whenever both annotations were. -/
theorem identity_eval_sound (gi : Bool) (i o : Option Shape) (r : Shape) (h : evalIdentity gi i o = some r)
    (σ : String → Nat) (l : List Int)
    (hi : ∀ s, i = some s → Admits σ s l) (ho : ∀ s, o = some s → Admits σ s l) : Admits σ r l := by
  unfold evalIdentity at h
  split at h
  · exact hi r h
  · split at h
    · next hm => exact mergeShapes_sound hm hi ho r h
    · exact hi r h

/-- The declared shape of a graph input is never changed by the `identity` evaluator (commit 71af564).
(Definitional unfolding of the model's flag; its content is the tie of `evalIdentity` to the code.) -/
theorem identity_keeps_graph_input (i o : Option Shape) : evalIdentity true i o = i := by
  simp only [evalIdentity, if_true]

example : evalIdentity false (some [.sym "N"]) (some [.known 3]) = some [.known 3] := by decide
example : evalIdentity true (some [.sym "N"]) (some [.known 3]) = some [.sym "N"] := by decide

/-! ## Shape values: `get_shape_value`, `Shape(start,end)`, `Size`, `Gather`, `Concat` -/

/-- `get_shape_value` on a constant: only INT64, at most 10 elements, 1-D; the result then denotes exactly the
constant's contents. -/
theorem get_shape_value_const (ci : ConstInfo) (sym : Option Shape) (sv : Shape)
    (hc : (ci.isInt64 && decide (ci.vals.length ≤ 10)) = true) (h : getShapeValue (some ci) sym = some sv)
    (σ : String → Nat) : ci.ndim = 1 ∧ Admits σ sv ci.vals := by
  simp only [getShapeValue, hc, if_true] at h
  by_cases hn : ci.ndim = 1
  · simp only [hn, if_true, Option.some.injEq] at h
    subst h; exact ⟨hn, admits_map_known.mpr rfl⟩
  · simp only [hn, if_false] at h; cases h

example : getShapeValue (some ⟨true, 1, [3, -1]⟩) none = some [.known 3, .known (-1)] := by decide
example : getShapeValue (some ⟨false, 1, [3]⟩) (some [.sym "N"]) = some [.sym "N"] := by decide

/-- `shape` evaluator: Python's `shape[start:end]` is the specification's `Shape(start, end)`; the
recorded symbolic value is truthful for the operator's run-time output, and a returned constant *is* that
output, for every binding. -/
theorem shape_slice (s : Shape) (st : Int) (en : Option Int) (r : SymConst)
    (h : evalShape (some s) st en = some r) (σ : String → Nat) (l : List Int) (hs : Admits σ s l) :
    (∃ sv, r.sym = some sv ∧ Admits σ sv (onnxShapeSlice l st en)) ∧
    (∀ c, r.const = some c → c = onnxShapeSlice l st en) := by
  simp only [evalShape, Option.some.injEq] at h
  subst h
  rw [onnxShapeSlice_eq_pySlice]
  have ha := admits_pySlice hs (some st) en
  exact ⟨⟨_, rfl, ha⟩, fun c hc => (allInts_admits hc ha).symm⟩

/-- `size` evaluator: a constant is produced only from all-static shapes and equals the element count. -/
theorem size_const (s : Shape) (n : Int) (h : evalSize (some s) = some n)
    (σ : String → Nat) (l : List Int) (hs : Admits σ s l) : prodInt l = n := by
  simp only [evalSize, Option.map_eq_some_iff] at h
  obtain ⟨c, hc, rfl⟩ := h
  rw [allInts_admits hc hs]

/-- `gather` evaluator on a shape value (axis 0, 1-D constant indices, Python/ONNX negative wrap): each
gathered entry is truthful for the gathered run-time element; a returned constant is the run-time output. -/
theorem gather_shape_const (s : Shape) (idx : List Int) (r : SymConst)
    (h : evalGather (some s) (some 0) (some idx) = .ret (some r))
    (σ : String → Nat) (l : List Int) (hs : Admits σ s l) :
    ∃ sv out, r.sym = some sv ∧ seqOpt (idx.map (pyIndex l)) = some out ∧ Admits σ sv out ∧
      (∀ c, r.const = some c → c = out) := by
  rw [evalGather_axis0] at h
  rcases gather_both (admits_length hs) (P := Admits σ) trivial (fun hx hy ht => by
      obtain ⟨v, hv, hav⟩ := admits_getElem? hs hx
      cases hy.symm.trans hv
      exact ⟨hav, ht⟩) idx with ⟨e, _⟩ | ⟨g, out, e, ho, ha⟩
  · rw [e] at h; cases h
  · rw [e] at h; cases h
    exact ⟨g, out, rfl, ho, ha, fun c hc => (allInts_admits hc ha).symm⟩

/-- `concat` evaluator (axis 0, every operand carries a shape value): the recorded value is truthful for
the concatenation of the operands' run-time contents. -/
theorem concat_shape (ss : List Shape) (σ : String → Nat) (ls : List (List Int))
    (h : ss.length = ls.length) (ha : ∀ k (hk : k < ss.length), Admits σ ss[k] (ls[k]'(h ▸ hk))) :
    Admits σ ss.flatten ls.flatten :=
  flatten_rel trivial admits_append ss ls h ha

/-! ## `Gather` on a shape value against the operator specification -/

/-- Restatement of `gather_shape_const` against `onnxGatherAxis0` (bounds `[-s, s-1]`, negative indices count from
the end): whatever the evaluator records/returns is truthful for the operator's output, for every binding. -/
theorem gather_shape_spec (s : Shape) (idx : List Int) (r : SymConst)
    (h : evalGather (some s) (some 0) (some idx) = .ret (some r))
    (σ : String → Nat) (l : List Int) (hs : Admits σ s l) :
    ∃ sv out, r.sym = some sv ∧ onnxGatherAxis0 l idx = some out ∧ Admits σ sv out ∧ (∀ c, r.const = some c → c = out) := by
  obtain ⟨sv, out, h1, h2, h3, h4⟩ := gather_shape_const s idx r h σ l hs
  exact ⟨sv, out, h1, by rw [onnxGatherAxis0_eq]; exact h2, h3, h4⟩

/-- The evaluator raises (Python `IndexError`, which aborts the fold pass) exactly on the index lists the operator
itself rejects at run time — it never raises on a model that runs, and never records a value for one that does not. -/
theorem gather_raises_iff_spec_rejects (s : Shape) (idx : List Int) (σ : String → Nat) (l : List Int)
    (hs : Admits σ s l) :
    evalGather (some s) (some 0) (some idx) = .raised ↔ onnxGatherAxis0 l idx = none := by
  rw [onnxGatherAxis0_eq, evalGather_axis0]
  rcases gather_both (admits_length hs) (P := fun _ _ => True) trivial (fun _ _ _ => trivial) idx with
    ⟨e1, e2⟩ | ⟨_, _, e1, e2, _⟩ <;> rw [e1, e2]
  · exact ⟨fun _ => rfl, fun _ => rfl⟩
  · exact ⟨nofun, nofun⟩

example : onnxGatherAxis0 [7, 8, 9] [-1, 0, -3] = some [9, 7, 7] := by decide
example : onnxGatherAxis0 [7, 8, 9] [3] = none := by decide
example : evalGather (some [.sym "N", .known 4]) (some 0) (some [-1]) = .ret (some ⟨some [.known 4], some [4]⟩) := by decide
example : evalGather (some [.sym "N", .known 4]) (some 0) (some [-3]) = .raised := by decide

/-! ## concat evaluator: which operands may be dropped -/

/-- `concat` evaluator, operand dropping (`has_zero_size`): an operand is dropped only when its annotation has the
*static* value 0 **on the concat axis** (Python indexing, negative axis from the end; an out-of-range axis, a
symbolic or unnamed dim, or a 0 on another axis never qualifies) — and then, for every binding and every tensor the
annotation is truthful for, the operand's extent on that axis is 0, so it contributes nothing to the concatenation and
the extent of the result on the concat axis is unchanged. -/
theorem concat_drop_sound (s : Shape) (ax : Int) (h : hasZeroSize (some s) ax = true)
    (σ : String → Nat) (l : List Int) (ha : Admits σ s l) : pyIndex l ax = some 0 := by
  simp only [hasZeroSize] at h
  cases hd : pyIndex s ax with
  | none => rw [hd] at h; cases h
  | some d =>
    rw [hd] at h
    cases of_decide_eq_true h
    obtain ⟨v, hv, hadm⟩ := admits_pyIndex ha ax hd
    cases hadm
    exact hv

/-- … and a 0 on any *other* axis does not make the operand droppable (the class of seeded change C09-10):
`float[N,0] ++ float[M,0]` on axis 0 keeps both operands. -/
theorem concat_keeps_offaxis_empty :
    evalConcat [(some [.sym "N", .known 0], none), (some [.sym "M", .known 0], none)] (some 0) = .nothing ∧
    hasZeroSize (some [.sym "N", .known 0]) 0 = false ∧ hasZeroSize (some [.sym "N", .known 0]) (-1) = true := by decide

example : hasZeroSize (some [.sym "N", .known 0]) 1 = true := by decide
example : hasZeroSize (some [.sym "N", .known 0]) 2 = false := by decide

/-! ## `Abs` of a shape value, and the symbolic sums created by `add` -/

/-- `abs` evaluator: every entry that is an `int` is checked, every symbolic entry is *assumed* non-negative.
That is right for every binding: named symbols are bound to naturals, and unnamed entries are non-negative
(`UnnamedNonneg`, an invariant established by `Shape` and preserved by `Gather`/`Concat` — theorems below; `add`
never creates an unnamed entry).
**Conditional**: the hypothesis `hu : UnnamedNonneg s l` stays; it is proved per evaluator step below, its composition
over a whole graph is not a theorem of this file. -/
theorem abs_shape_identity (s : Shape) (h : evalAbs (some s) = true)
    (σ : String → Nat) (l : List Int) (hs : Admits σ s l) (hu : UnnamedNonneg s l) : ∀ v ∈ l, 0 ≤ v := by
  simp only [evalAbs, Bool.not_eq_true'] at h
  induction hs using Admits.ind with
  | nil => nofun
  | @cons d s w l hd _ ih =>
    rw [List.any_cons, Bool.or_eq_false_iff] at h
    intro v hv
    rcases List.mem_cons.mp hv with rfl | hv
    · cases d with
      | unknown => exact hu.1 rfl
      | _ => exact Dim.nonneg_of_admits rfl h.1 hd
    · exact ih hu.2 h.2 v hv

/-- `Shape(start,end)` of a tensor (dims ≥ 0) establishes the invariant, whatever is recorded for it: every entry
of the operator's output is a dim of the tensor. -/
theorem shape_value_unnamed_nonneg (sv : Shape) (st : Int) (en : Option Int)
    (l : List Int) (hn : ∀ v ∈ l, 0 ≤ v) : UnnamedNonneg sv (onnxShapeSlice l st en) := by
  apply unnamedNonneg_of_nonneg
  intro v hv
  rw [onnxShapeSlice_eq_pySlice] at hv
  simp only [pySlice] at hv
  exact hn v (List.mem_of_mem_take (List.mem_of_mem_drop hv))

/-- `Gather` on a shape value preserves the invariant. -/
theorem gather_unnamed_nonneg (s : Shape) (idx : List Int) (r : SymConst) (sv : Shape) (out : List Int)
    (h : evalGather (some s) (some 0) (some idx) = .ret (some r)) (hsv : r.sym = some sv)
    (σ : String → Nat) (l : List Int) (hs : Admits σ s l) (hu : UnnamedNonneg s l)
    (hout : onnxGatherAxis0 l idx = some out) : UnnamedNonneg sv out := by
  rw [evalGather_axis0] at h
  rw [onnxGatherAxis0_eq] at hout
  rcases gather_both (admits_length hs) (P := UnnamedNonneg) trivial
      (fun hx hy ht => ⟨fun e => unnamedNonneg_getElem? _ hu (e ▸ hx) hy, ht⟩) idx with ⟨e, _⟩ | ⟨g, o, e, ho, hp⟩
  · rw [e] at h; cases h
  · rw [e] at h; cases h
    cases Option.some.inj hsv
    cases ho.symm.trans hout
    exact hp

/-- `Concat` (axis 0) of shape values preserves the invariant. -/
theorem concat_unnamed_nonneg (ss : List Shape) (ls : List (List Int)) (h : ss.length = ls.length)
    (hlen : ∀ k (hk : k < ss.length), (ss[k]).length = (ls[k]'(h ▸ hk)).length)
    (hu : ∀ k (hk : k < ss.length), UnnamedNonneg ss[k] (ls[k]'(h ▸ hk))) :
    UnnamedNonneg ss.flatten ls.flatten :=
  (flatten_rel (R := fun s l => s.length = l.length ∧ UnnamedNonneg s l) ⟨rfl, trivial⟩
    (fun h1 h2 => ⟨by rw [List.length_append, List.length_append, h1.1, h2.1],
      unnamedNonneg_append h1.1 h1.2 h2.2⟩)
    ss ls h fun k hk => ⟨hlen k hk, hu k hk⟩).2

/-- `add` never records an unnamed entry. -/
theorem add_no_unnamed (a b : Option Shape) (r : Shape) (h : evalAdd a b = some r) : hasUnknown r = false := by
  obtain ⟨_, _, _, _, ⟨_, _, _, _, rfl⟩ | ⟨_, rfl, _⟩⟩ := evalAdd_eq_some h <;> rfl

example : evalAbs (some [.unknown, .known 3, .sym "N"]) = true := by decide

/-- `add` evaluator: the recorded value is truthful for the sum **provided the freshly made name denotes
that sum** (`hname`; for two ints nothing is needed). -/
theorem add_sym_sound_partial (d₀ d₁ r : Dim) (h : evalAdd (some [d₀]) (some [d₁]) = some [r])
    (σ : String → Nat) (a b : Int) (h₀ : d₀.Admits σ a) (h₁ : d₁.Admits σ b)
    (hname : ∀ nm, r = .sym nm → (σ nm : Int) = a + b) : r.Admits σ (a + b) := by
  obtain ⟨_, _, e₀, e₁, hcase⟩ := evalAdd_eq_some h
  cases e₀; cases e₁
  rcases hcase with ⟨x, y, rfl, rfl, hr⟩ | ⟨nm, hr, _⟩
  · cases hr
    have : x = a := h₀
    have : y = b := h₁
    show x + y = a + b
    omega
  · cases hr; exact hname nm rfl

/-- what `add` records is never a negative int operand mixed into a symbolic sum (commit 4b0f9eb) -/
theorem add_no_negative_in_sum (d₀ d₁ : Dim) (nm : String)
    (h : evalAdd (some [d₀]) (some [d₁]) = some [.sym nm]) : d₀.isNegInt = false ∧ d₁.isNegInt = false := by
  obtain ⟨_, _, e₀, e₁, hcase⟩ := evalAdd_eq_some h
  cases e₀; cases e₁
  rcases hcase with ⟨_, _, _, _, hr⟩ | ⟨_, _, _, _, h0, h1⟩
  · cases hr
  · exact ⟨h0, h1⟩

/-- **D5, fixed by commit 4b0f9eb.**  `Abs(a + b)` replaced by `Identity` is right for *every*
binding and every pair of **single-entry** shape values: whenever `abs` fires on what `add` recorded, the
run-time sum is non-negative.  The statement covers one-entry values only (`Admits σ a [x]`, `Admits σ b [y]`); that is
the whole domain on which `add` records anything (`evalAdd` is `none` for other lengths, and `evalAbs none = false`). -/
theorem abs_after_add_sound (a b : Shape) (h : evalAbs (evalAdd (some a) (some b)) = true)
    (σ : String → Nat) (x y : Int) (ha : Admits σ a [x]) (hb : Admits σ b [y]) : 0 ≤ x + y := by
  cases hr : evalAdd (some a) (some b) with
  | none => rw [hr] at h; cases h
  | some r =>
    rw [hr] at h
    obtain ⟨d₀, d₁, e₀, e₁, hcase⟩ := evalAdd_eq_some hr
    cases e₀; cases e₁
    have hx : d₀.Admits σ x := ha.1
    have hy : d₁.Admits σ y := hb.1
    rcases hcase with ⟨x', y', rfl, rfl, rfl⟩ | ⟨_, _, u₀, u₁, n₀, n₁⟩
    · -- the sum is an int: `abs` has checked it
      simp only [evalAbs, List.any_cons, List.any_nil, Bool.or_false, Bool.not_eq_true', Dim.isNegInt,
        decide_eq_false_iff_not] at h
      have : x' = x := hx
      have : y' = y := hy
      omega
    · have := Dim.nonneg_of_admits u₀ n₀ hx
      have := Dim.nonneg_of_admits u₁ n₁ hy
      omega

/-- Regression witness: before commit 4b0f9eb the statement was false — `a = [N]`, `b = [-5]`, `N = 2`:
the fold pass recorded `"N+-5"` and `abs` took it for non-negative (finding D5, now fixed; the model stays
in the corpus). -/
theorem abs_after_add_prefix_refuted :
    ¬ (∀ (a b : Shape), evalAbs (evalAddBefore4b0f9eb (some a) (some b)) = true →
        ∀ (σ : String → Nat) (x y : Int), Admits σ a [x] → Admits σ b [y] → 0 ≤ x + y) := by
  intro h
  have := h [.sym "N"] [.known (-5)] (by decide) (fun _ => 2) 2 (-5)
    (by simp only [Admits, Dim.Admits]; decide) (by simp only [Admits, Dim.Admits]; decide)
  revert this; decide

example : evalAdd (some [.sym "N"]) (some [.known (-5)]) = none := by decide
example : evalAdd (some [.sym "N"]) (some [.known 5]) = some [.sym "N+5"] := by decide
example : evalAbs (evalAdd (some [.sym "N"]) (some [.known 5])) = true := by decide

/-! ## Symbolic broadcasting and removal of `Expand` before a binary op -/

/-- `_compute_broadcast_dim`: the symbolic result is a truthful annotation of the numeric broadcast of
any two admitted values; when it is not an unnamed dim the numeric broadcast is defined. -/
theorem broadcast_dim_sound (d₁ d₂ c : Dim) (h : bcastDim d₁ d₂ = some c) (σ : String → Nat) (a b : Int)
    (h₁ : d₁.Admits σ a) (h₂ : d₂.Admits σ b) :
    (∀ v, bdim a b = some v → c.Admits σ v) ∧ (c.isUnknown = false → ∃ v, bdim a b = some v) :=
  bcastDim_sound h h₁ h₂

/-- `_compute_broadcast_shape`, all ranks. -/
theorem broadcast_shape_sound (x y c : Shape) (h : bcastShape x y = some c) (σ : String → Nat)
    (lx ly : List Int) (hx : Admits σ x lx) (hy : Admits σ y ly) :
    (∀ lo, broadcast lx ly = some lo → Admits σ c lo) ∧
    (hasUnknown c = false → ∃ lo, broadcast lx ly = some lo) := by
  obtain ⟨cr, hcr, rfl⟩ := Option.map_eq_some_iff.mp h
  obtain ⟨s1, s2⟩ := bcastShapeN_sound (σ := σ) _ _ _ cr lx.reverse ly.reverse hcr
    (admits_reverse hx) (admits_reverse hy)
  rw [admits_length hx, admits_length hy] at s1 s2
  refine ⟨fun lo hlo => ?_, fun hu => ?_⟩
  · obtain ⟨t, ht, rfl⟩ := Option.map_eq_some_iff.mp hlo
    exact admits_reverse (s1 t ht)
  · rw [hasUnknown_reverse] at hu
    obtain ⟨t, ht⟩ := s2 hu
    exact ⟨t.reverse, by rw [broadcast, ht]; rfl⟩

/-- **Strategy 1** (`shape` is a constant `e`; with the rank guard of commit 48b48d2).  Whenever the check
succeeds, `BinaryOp(Expand(x, e), y)` and `BinaryOp(x, y)` broadcast to the same shape for *every* binding
of the symbols in `x`, `y` (dims 0 and 1 included); the statement is an equation of `Option`s, so the two
models also reject exactly the same inputs.  (The rank bound the proof needs is established by the check
itself.) -/
theorem expand_removable_s1_sound (e : List Int) (x y : Shape) (h : strategy1 e x y = .ok)
    (σ : String → Nat) (lx ly : List Int) (hx : Admits σ x lx) (hy : Admits σ y ly) :
    (broadcast lx e).bind (fun le => broadcast le ly) = broadcast lx ly :=
  -- the test is strategy 2's on the constant read as an all-static annotation
  broadcast_expand_then (dimsSufficient_map_known e x y ▸ h) (admits_map_known.mpr rfl) hx hy

/-- The accept/reject reading of strategy 1. -/
theorem accepts_same_inputs_s1 (e : List Int) (x y : Shape) (h : strategy1 e x y = .ok)
    (σ : String → Nat) (lx ly : List Int) (hx : Admits σ x lx) (hy : Admits σ y ly) :
    ((broadcast lx e).bind (fun le => broadcast le ly)).isSome = (broadcast lx ly).isSome := by
  rw [expand_removable_s1_sound e x y h σ lx ly hx hy]

/-- Regression witness (finding C09-N2 / C05-N3a, fixed by 48b48d2): without the rank guard
`Add(Expand(x:[3], [1,1,3]), y:[3])` of shape `[1,1,3]` was rewritten to `Add(x, y)` of shape `[3]`. -/
theorem expand_removable_s1_prefix_refuted :
    ¬ (∀ (e : List Int) (x y : Shape), strategy1Before48b48d2 e x y = none →
        ∀ (σ : String → Nat) (lx ly : List Int), Admits σ x lx → Admits σ y ly →
          (broadcast lx e).bind (fun le => broadcast le ly) = broadcast lx ly) := by
  intro h
  have := h [1, 1, 3] [.known 3] [.known 3] (by decide) (fun _ => 0) [3] [3]
    (by simp only [Admits, Dim.Admits, and_self]) (by simp only [Admits, Dim.Admits, and_self])
  revert this; decide

example : strategy1 [2, 3] [.known 1, .known 3] [.known 2, .sym "N"] = .ok := by decide
example : strategy1 [1, 1, 3] [.known 3] [.known 3] = .rankFail := by decide

/-- **Strategy 2** (`_check_dims_sufficient` on the Expand output annotation `E`; with the rank guard of
48b48d2 and `_same_dim` of 9477c4c).  `lE` is what the original `Expand(x, le)` produced at run time and `E`
is truthful for it.  Whenever the check succeeds, removing the Expand leaves the broadcast result unchanged,
for every binding. -/
theorem dims_sufficient_sound (E x y : Shape) (h : dimsSufficient E x y = .ok)
    (σ : String → Nat) (lx le lE ly : List Int)
    (hexp : broadcast lx le = some lE) (hE : Admits σ E lE) (hx : Admits σ x lx) (hy : Admits σ y ly) :
    broadcast lE ly = broadcast lx ly := by
  -- with its own result `lE` as the target, Expand produces `lE` again
  have := broadcast_expand_then h hE hx hy
  rwa [broadcast_absorb hexp] at this

/-- Regression witness (finding C09-N1, fixed by 9477c4c): with Python `==` two unnamed dims compared equal —
`x:[?]` (really 1), target `[5]`, Expand output annotated `[?]`, `y:[1]`: with Expand `[5]`, without `[1]`. -/
theorem dims_sufficient_unknown_prefix_refuted :
    ¬ (∀ (E x y : Shape), dimsSufficientBefore9477c4c E x y = none →
        ∀ (σ : String → Nat) (lx le lE ly : List Int), broadcast lx le = some lE →
          Admits σ E lE → Admits σ x lx → Admits σ y ly → broadcast lE ly = broadcast lx ly) := by
  intro h
  have := h [.unknown] [.unknown] [.known 1] (by decide) (fun _ => 0) [1] [5] [5] [1] (by decide)
    (by simp only [Admits, Dim.Admits, and_self]) (by simp only [Admits, Dim.Admits, and_self])
    (by simp only [Admits, Dim.Admits, and_self])
  revert this; decide

/-- Regression witness (finding C09-N2, strategy 2, fixed by 48b48d2): a rank-extending Expand whose extra
leading dims are annotated `1`. -/
theorem dims_sufficient_rank_prefix_refuted :
    ¬ (∀ (E x y : Shape), dimsSufficientBefore E x y = none → hasUnknown E = false →
        ∀ (σ : String → Nat) (lx le lE ly : List Int), broadcast lx le = some lE →
          Admits σ E lE → Admits σ x lx → Admits σ y ly → broadcast lE ly = broadcast lx ly) := by
  intro h
  have := h [.known 1, .sym "N"] [.sym "N"] [.sym "N"] (by decide) (by decide) (fun _ => 3) [3] [1, 3] [1, 3] [3]
    (by decide) (by simp only [Admits, Dim.Admits]; decide) (by simp only [Admits, Dim.Admits]; decide)
    (by simp only [Admits, Dim.Admits]; decide)
  revert this; decide

example : dimsSufficient [.sym "B", .sym "N"] [.known 1, .sym "N"] [.sym "B", .known 1] = .ok := by decide
example : dimsSufficient [.unknown] [.unknown] [.known 1] = .dimFail 0 := by decide
example : dimsSufficient [.known 1, .sym "N"] [.sym "N"] [.sym "N"] = .rankFail := by decide

/-- **Strategy 3** (binary-op output annotation `_same_dim`-equal to the symbolic broadcast of `x` and `y`).
If the annotation is truthful for what the original model computed (`lout`), the rewritten `BinaryOp(x, y)` is
defined and has exactly that shape, for every binding — that the annotation has no unnamed dim is a
consequence of the check. -/
theorem expand_removable_s3_sound (x y out : Shape) (h : strategy3 x y out = true)
    (σ : String → Nat) (lx ly lout : List Int)
    (hout : Admits σ out lout) (hx : Admits σ x lx) (hy : Admits σ y ly) :
    broadcast lx ly = some lout := by
  simp only [strategy3] at h
  cases hc : bcastShape x y with
  | none => simp only [hc] at h; cases h
  | some c =>
    simp only [hc, Bool.and_eq_true, decide_eq_true_eq] at h
    obtain ⟨rfl, hunk⟩ := zipWith_semEq_all c out h.1 h.2
    obtain ⟨s1, s2⟩ := broadcast_shape_sound x y c hc σ lx ly hx hy
    obtain ⟨lo, hlo⟩ := s2 hunk
    rw [hlo, admits_det hunk (s1 lo hlo) hout]

/-- Regression witness (finding C09-N1, strategy 3, fixed by 9477c4c): `x:[?]`, `y:[1]`, output annotated
`[?]`; the original produced `[5]`. -/
theorem expand_removable_s3_unknown_prefix_refuted :
    ¬ (∀ (x y out : Shape), strategy3Before9477c4c x y out = true →
        ∀ (σ : String → Nat) (lx ly lout : List Int), Admits σ out lout → Admits σ x lx → Admits σ y ly →
          broadcast lx ly = some lout) := by
  intro h
  have := h [.unknown] [.known 1] [.unknown] (by decide) (fun _ => 0) [1] [1] [5]
    (by simp only [Admits, Dim.Admits, and_self]) (by simp only [Admits, Dim.Admits, and_self])
    (by simp only [Admits, Dim.Admits, and_self])
  revert this; decide

example : strategy3 [.sym "N", .known 1] [.known 1, .sym "M"] [.sym "N", .sym "M"] = true := by decide
example : strategy3 [.unknown] [.known 1] [.unknown] = false := by decide

/-- **All strategies together.**  Whenever `_check_expand_removable` answers "removable", the rewritten
binary op produces, for every binding, the shape the original produced (`lout`), given that the shape
annotations the decision read are truthful for the original run: `le` is the run-time Expand target
(equal to the constant when there is one), `lE` the Expand result, `lout` the original result. -/
theorem expand_removable_sound (x y : Shape) (const : Option (List Int)) (eOut bOut : Option Shape)
    (h : (expandRemovable (some x) (some y) const eOut bOut).removable = true)
    (σ : String → Nat) (lx ly le lE lout : List Int) (hx : Admits σ x lx) (hy : Admits σ y ly)
    (hconst : ∀ c, const = some c → le = c)
    (hexp : broadcast lx le = some lE) (hres : broadcast lE ly = some lout)
    (hE : ∀ E, const = none → eOut = some E → Admits σ E lE)
    (hO : ∀ O, const = none → eOut = none → bOut = some O → Admits σ O lout) :
    broadcast lx ly = some lout := by
  simp only [expandRemovable] at h
  cases const with
  | some c =>
    have := hconst c rfl; subst this
    cases h1 : strategy1 le x y with
    | ok =>
      have e := expand_removable_s1_sound le x y h1 σ lx ly hx hy
      rw [hexp] at e; simp only [Option.bind_some] at e; rw [← e, hres]
    | rankFail => simp only [h1, ExpandVerdict.removable] at h; cases h
    | dimFail i => simp only [h1, ExpandVerdict.removable] at h; cases h
  | none =>
    cases eOut with
    | some E =>
      cases h2 : dimsSufficient E x y with
      | ok => rw [← dims_sufficient_sound E x y h2 σ lx le lE ly hexp (hE E rfl rfl) hx hy, hres]
      | rankFail => simp only [h2, ExpandVerdict.removable] at h; cases h
      | dimFail i => simp only [h2, ExpandVerdict.removable] at h; cases h
    | none =>
      cases bOut with
      | some O =>
        by_cases h3 : strategy3 x y O = true
        · exact expand_removable_s3_sound x y O h3 σ lx ly lout (hO O rfl rfl rfl) hx hy
        · simp only [h3, ExpandVerdict.removable] at h; cases h
      | none => simp only [ExpandVerdict.removable] at h; cases h

example : (expandRemovable (some [.sym "N", .known 1]) (some [.sym "N", .sym "M"]) none
    (some [.sym "N", .sym "M"]) none).removable = true := by decide

/-! ## Values, not only shapes: `BinaryOp(Expand(x, e), y)` reads the same elements of `x` -/

/-- For reversed shapes/indices: if `lE` is what `Expand` made of `lx`, then for **every** output index of the
binary op, the element of `x` reached through the op's broadcasting of the expanded tensor and then through the
Expand's own broadcasting is the element reached through the op's broadcasting of `x` directly.  Together with
the shape theorems this makes the removal value-preserving, not only shape-preserving. -/
theorem expand_reads_same_element (lx le lE idx : List Int)
    (h : bcastN (max lx.length le.length) lx le = some lE) :
    readIdx lx (readIdx lE idx) = readIdx lx idx :=
  readIdx_through_expand _ lx le lE idx (Nat.le_max_left ..) h

example : readIdx [1, 3] (readIdx [5, 3] [4, 2]) = readIdx [1, 3] [4, 2] := by decide

/-! ## The arithmetic no-op rules and the matcher's scalar test -/

/-- `mul_by_1`, `add_0` (both operand orders), `sub_0`, `div_by_1`: when one of them fires, the matched constant
has rank 0 (`_match_constant`: `ndim == 0`), so for **every** rank and every dims of the other operand — rank 0,
symbolic, zero-size included — the node's result had exactly that operand's shape: `Identity(x)` preserves it.
(Near-trivial once the rank-0 test is in the model; the substance is `scalar_test_necessary` below and the
harness comparison of `noOpFires` with the real rules, kind `ruleNoOp`.) -/
theorem no_op_rule_preserves_shape (op : NoOp) (side nd : Nat) (neutral : Bool)
    (h : noOpFires op side nd neutral = true) (lx lc : List Int) (hc : lc.length = nd) :
    broadcast lx lc = some lx ∧ broadcast lc lx = some lx := by
  simp only [noOpFires, matchScalarShape, Bool.and_eq_true, beq_iff_eq] at h
  have : lc = [] := List.eq_nil_of_length_eq_zero (by rw [hc]; exact h.1.1)
  subst this
  exact ⟨broadcast_nil_right lx, broadcast_nil_left lx⟩

/-- The rank test cannot be weakened to "one element": next to a rank-0 operand a one-element constant of any
rank `k ≥ 1` gives a result of rank `k`, which `Identity(x)` does not have (the class of seeded change C09-7). -/
theorem scalar_test_necessary (lc : List Int) (hk : 0 < lc.length) :
    broadcast [] lc ≠ some [] ∧ broadcast lc [] ≠ some [] := by
  constructor
  · intro h; have := broadcast_length h; simp only [List.length_nil, Nat.zero_max] at this; omega
  · intro h; have := broadcast_length h; simp only [List.length_nil, Nat.max_zero] at this; omega

example : noOpFires .mul1 0 0 true = true := by decide
example : noOpFires .sub0 0 0 true = false := by decide
example : noOpFires .add0 1 1 true = false := by decide
example : broadcast [] [1] = some [1] := by decide

/-! ## Fold-time identity tests (`reshape`, `expand` partial evaluators; `ExpandIdentity` rule) -/

/-- `reshape` evaluator: when `_same_shape(input.shape, shape_value)` holds the node is replaced by
`Identity`.  For every binding, every tensor shape `l` the input annotation is truthful for and every
run-time content `t` of the shape operand its symbolic value is truthful for, `Reshape(x, t)` — with
either value of `allowzero` — is defined and returns a tensor of shape `l` (zeros in `t` copy themselves,
there is no `-1`): same accepted inputs, same result. -/
theorem reshape_identity_sym (i v : Shape) (s : Option Shape)
    (h : (evalReshape (some i) (some v) s).identity = true)
    (σ : String → Nat) (l t : List Int) (hi : Admits σ i l) (hv : Admits σ v t) (hl : ∀ d ∈ l, 0 ≤ d)
    (az : Bool) : reshapeTarget l t az = some l := by
  simp only [evalReshape] at h
  split at h
  · next hs =>
    cases (same_shape_fold_sound i v hs σ).2 l t hi hv
    exact reshapeTarget_self l hl az
  · cases h

/-- `expand` evaluator, symbolic target (`_same_shape(input_shape, expanded_sym_shape)`). -/
theorem expand_identity_sym (i t : Shape) (h : evalExpand (some i) none (some t) = true)
    (σ : String → Nat) (l tv : List Int) (hi : Admits σ i l) (ht : Admits σ t tv) :
    expandSpec l tv = some l := by
  simp only [evalExpand] at h
  have := (same_shape_fold_sound i t h σ).2 l tv hi ht
  subst this
  exact broadcast_self l

/-- `expand` evaluator and `ExpandIdentity` rule, constant target (`input_shape.dims == tuple(target)`):
fires only on fully static shapes equal to the target. -/
theorem expand_identity_const (i : Shape) (t : List Int)
    (h : evalExpand (some i) (some (some t)) none = true ∨ expandIdentityRule (some i) (some t) = true)
    (σ : String → Nat) (l : List Int) (hi : Admits σ i l) : expandSpec l t = some l := by
  have hit : i = t.map Dim.known := by
    rcases h with h | h
    · simpa only [evalExpand, decide_eq_true_eq] using h
    · simpa only [expandIdentityRule, decide_eq_true_eq] using h
  subst hit
  rw [admits_map_known.mp hi]
  exact broadcast_self t

example : (evalReshape (some [.sym "N", .known 0]) (some [.sym "N", .known 0]) none).identity = true := by decide
example : evalExpand (some [.sym "B", .known 1]) none (some [.sym "B", .known 1]) = true := by decide

/-! ## `MaterializeReshapeShape` -/

/-- The rule replaces the dynamic shape operand by the annotated output shape, the single non-static
dim becoming `-1`, and sets `allowzero=1`.  `inp` is the run-time shape of the data, `lo` the shape the
original Reshape produced (so the element counts agree) and the output annotation `o` is truthful for it.
The check refuses a static 0 beside the non-static dim (commit 49df852), which is what the proof needs:
whenever the rule fires, the new Reshape is defined and returns exactly `lo`, for every binding. -/
theorem materialize_reshape_sound (o : Shape) (tgt : List Int)
    (h : materialize (some o) false = some tgt)
    (σ : String → Nat) (inp lo : List Int) (ho : Admits σ o lo) (hn : ∀ d ∈ lo, 0 ≤ d)
    (hp : prodInt inp = prodInt lo) : reshapeTarget inp tgt true = some lo := by
  obtain ⟨hc, rfl, hnz⟩ := materialize_eq o tgt h
  obtain ⟨hpw, hcnt⟩ := mat_hole ho hn
  refine reshapeTarget_punched hpw (hcnt ▸ hc) hn hp.symm fun h0 => ⟨rfl, fun hm => ?_⟩
  -- a static 0 beside the hole is what the check refuses
  have h1 : nonInts o = 1 := by have := List.one_le_count_iff.mpr hm; omega
  exact hnz h1 (mat_zero_mem h0)

/-- Regression witness: before commit 49df852 the statement was false — output annotated `[N, 0]`,
run-time shape `[3, 0]`, emitted target `[-1, 0]` with `allowzero=1` (finding C09-D16c, now fixed; the
model/feeds stay in the corpus). -/
theorem materialize_reshape_prefix_refuted :
    ¬ (∀ (o : Shape) (tgt : List Int), materializeBefore49df852 (some o) false = some tgt →
        ∀ (σ : String → Nat) (inp lo : List Int), Admits σ o lo → (∀ d ∈ lo, 0 ≤ d) →
          prodInt inp = prodInt lo → reshapeTarget inp tgt true = some lo) := by
  intro h
  have := h [.sym "N", .known 0] [-1, 0] (by decide) (fun _ => 3) [3, 0] [3, 0]
    (by simp only [Admits, Dim.Admits]; decide) (by decide) (by decide)
  revert this; decide

example : materialize (some [.sym "N", .known 0]) false = none := by decide
example : materialize (some [.sym "N", .known 2, .known 3]) false = some [-1, 2, 3] := by decide

/-! ## `Flatten2Reshape` -/

/-- `flatten_to_reshape` (any rank, any `0 ≤ axis ≤ rank`, any truthful output annotation, every
binding): the emitted Reshape (default `allowzero=0`) is defined and yields the Flatten result —
**provided no run-time dim is 0** (the hypothesis the proof forces: a static product `0` is read as "copy
the input dim", and a `-1` beside a zero cannot be inferred). -/
theorem flatten_to_reshape_partial (s : Shape) (out : Option Shape) (axis : Nat) (tgt : List Int)
    (h : flattenTarget (some s) out (axis : Int) = some tgt) (hax : axis ≤ s.length)
    (σ : String → Nat) (l : List Int) (hs : Admits σ s l) (hpos : ∀ d ∈ l, 0 < d)
    (hout : ∀ o, out = some o → Admits σ o (flattenSpec l axis)) :
    reshapeTarget l tgt false = some (flattenSpec l axis) := by
  -- every hypothesis of `flatten_exact` about zeros holds
  have hP0 : 0 < prodInt (l.take axis) := prodInt_pos fun d hd => hpos d (List.mem_of_mem_take hd)
  have hP1 : 0 < prodInt (l.drop axis) := prodInt_pos fun d hd => hpos d (List.mem_of_mem_drop hd)
  refine flatten_exact s out axis axis tgt (if_neg (Int.not_lt.mpr (Int.natCast_nonneg axis))) h hax l hs
    (fun d hd => Int.le_of_lt (hpos d hd)) hout (fun o ho hm => ?_) fun _ hh => ?_
  · -- an annotated static `0` would be truthful for one of the two positive products
    obtain ⟨d0, d1, rfl, ha0, ha1⟩ := admits_pair (hout o ho)
    rcases List.mem_cons.mp hm with rfl | hm
    · have : (0 : Int) = _ := ha0; omega
    · cases List.mem_singleton.mp hm; have : (0 : Int) = _ := ha1; omega
  · cases l with
    | nil => cases hh
    | cons x t => cases hh; exact absurd (hpos 0 (List.mem_cons_self ..)) (by decide)

/-- Since commit 02f546a the rule refuses an input with a *static* zero dim, so for inputs without unnamed
dims the only hypothesis left is about the binding: **every symbol of the input shape is bound to a positive
value**. -/
theorem flatten_to_reshape_symbols_positive (s : Shape) (out : Option Shape) (axis : Nat) (tgt : List Int)
    (h : flattenTarget (some s) out (axis : Int) = some tgt) (hax : axis ≤ s.length)
    (hu : hasUnknown s = false)
    (σ : String → Nat) (l : List Int) (hs : Admits σ s l) (hnn : ∀ d ∈ l, 0 ≤ d)
    (hsym : ∀ a, Dim.sym a ∈ s → 0 < σ a)
    (hout : ∀ o, out = some o → Admits σ o (flattenSpec l axis)) :
    reshapeTarget l tgt false = some (flattenSpec l axis) :=
  flatten_to_reshape_partial s out axis tgt h hax σ l hs
    (pos_of_symbols_pos hs (flatten_fires_no_static_zero s out _ tgt h) hu hnn hsym) hout

/-- The rule does not fire on an input with a static zero dim (commit 02f546a). -/
theorem flatten_refuses_static_zero (s : Shape) (out : Option Shape) (axisAttr : Int) (h : Dim.known 0 ∈ s) :
    flattenTarget (some s) out axisAttr = none := by
  cases ht : flattenTarget (some s) out axisAttr with
  | none => rfl
  | some tgt => exact absurd h (flatten_fires_no_static_zero s out axisAttr tgt ht)

/-- Regression witness (static half of D6, fixed by 02f546a): `Flatten(axis=2)` of `2×0×3` became
`Reshape(x, [0,3])`, whose `0` copies dim 0 (= 2): 6 ≠ 0 elements, the runtime rejected it. -/
theorem flatten_to_reshape_static_zero_prefix_refuted :
    ¬ (∀ (s : Shape) (out : Option Shape) (axis : Nat) (tgt : List Int),
        flattenTargetBefore02f546a (some s) out (axis : Int) = some tgt → axis ≤ s.length →
        ∀ (σ : String → Nat) (l : List Int), Admits σ s l →
          (∀ o, out = some o → Admits σ o (flattenSpec l axis)) →
          reshapeTarget l tgt false = some (flattenSpec l axis)) := by
  intro h
  have := h [.known 2, .known 0, .known 3] none 2 [0, 3] (by decide) (by decide) (fun _ => 0) [2, 0, 3]
    (by simp only [Admits, Dim.Admits]; decide) (by intro o ho; cases ho)
  revert this; decide

example : flattenTarget (some [.known 2, .known 0, .known 3]) none 2 = none := by decide

/-- **D6, still open (symbolic half).**  The positivity hypothesis cannot be dropped: `Flatten(axis=1)` of
`[N, M]` becomes `Reshape(x, [0,-1])`, rejected at `N = 0` (the original returns shape `[0, M]`). -/
theorem flatten_to_reshape_symbolic_zero_refuted :
    ¬ (∀ (σ : String → Nat) (l : List Int), Admits σ [.sym "N", .sym "M"] l →
        ∀ tgt, flattenTarget (some [.sym "N", .sym "M"]) none 1 = some tgt →
          reshapeTarget l tgt false = some (flattenSpec l 1)) := by
  intro h
  have := h (fun a => if a = "N" then 0 else 3) [0, 3] (by simp only [Admits, Dim.Admits]; decide) [0, -1] (by decide)
  revert this; decide

example : flattenTarget (some [.sym "N", .known 2, .known 3]) none 1 = some [0, 6] := by decide

/-! ## Failing set of `Flatten2Reshape` (outputs not annotated with a static 0) -/

/-- **The open half of D6, characterised within the stated hypotheses.**  Run-time dims may be 0 (`hn`: they are ≥ 0).
Whenever the rule fires (so no static dim is 0), for `0 ≤ axis ≤ rank` (`hax`), every binding and every truthful output
annotation **without a static 0** (`hoz` — a real restriction: an annotated static 0 would be written into the target as
"copy"), the emitted Reshape returns the Flatten result — unless the target is `[0, -1]` *and* dim 0 is 0 at run time.
Outputs annotated with a static 0 are outside this theorem; so are negative `axis` attributes, which the lemma behind it
(`flatten_exact`) covers. -/
theorem flatten_to_reshape_exact (s : Shape) (out : Option Shape) (axis : Nat) (tgt : List Int)
    (h : flattenTarget (some s) out (axis : Int) = some tgt) (hax : axis ≤ s.length)
    (σ : String → Nat) (l : List Int) (hs : Admits σ s l) (hn : ∀ d ∈ l, 0 ≤ d)
    (hout : ∀ o, out = some o → Admits σ o (flattenSpec l axis)) (hoz : ∀ o, out = some o → Dim.known 0 ∉ o)
    (hbad : tgt = [0, -1] → l.head? ≠ some 0) :
    reshapeTarget l tgt false = some (flattenSpec l axis) :=
  flatten_exact s out axis axis tgt (if_neg (Int.not_lt.mpr (Int.natCast_nonneg axis))) h hax l hs hn hout hoz hbad

/-- … and in that one case the rewritten model rejects the input, whatever the other dims are. -/
theorem flatten_zero_minus_one_rejects (t : List Int) : reshapeTarget (0 :: t) [0, -1] false = none := by
  -- the `0` copies dim 0, which is 0: the other entries multiply to 0 and the `-1` cannot be inferred
  simp [reshapeTarget, resolveZeros, prodInt]

example : flattenTarget (some [.sym "N", .sym "M"]) none 1 = some [0, -1] := by decide
example : flattenTarget (some [.sym "N", .known 2, .known 3]) none 1 = some [0, 6] := by decide

/-! ## `SqueezeReshape1d` -/

/-- `Reshape(Squeeze(x), [-1])` of a 1-D `x` is `x`, for every size of that dim (1 — where Squeeze makes a
scalar — and 0 included). -/
theorem squeeze_reshape_1d_sound (s : Shape) (h : squeezeReshape1d (some s) = true)
    (σ : String → Nat) (l : List Int) (hs : Admits σ s l) (hn : ∀ d ∈ l, 0 ≤ d) :
    reshapeTarget (squeezeAllSpec l) [-1] false = some l := by
  simp only [squeezeReshape1d, decide_eq_true_eq] at h
  have hl := admits_length hs
  match l, hl with
  | [d], _ =>
    -- the target `[-1]` is the result `[d]` with its one entry as the hole
    refine reshapeTarget_punched ⟨.inr rfl, trivial⟩ (by decide) hn ?_
      fun h0 => absurd (List.mem_singleton.mp h0) (by decide)
    by_cases h1 : d = 1
    · subst h1; rfl
    · rw [squeezeAllSpec, List.filter_cons_of_pos (p := (· != 1)) (bne_iff_ne.mpr h1)]; rfl
  | [], hl => rw [h] at hl; cases hl
  | _ :: _ :: _, hl => rw [h] at hl; cases hl

/-! ## reshape_reshape (`ReshapeReshape`, `_basic_rules.py`) -/

/-- **`Reshape(Reshape(x, s₀), shape)` → `Reshape(x, new_shape)`**, all ranks, both `allowzero` values, every output
annotation, every binding.  `inp` = shape of `x`, `mid` = shape of the inner Reshape's result (any list of non-negative
dims with the same element count — all the inner Reshape can produce), `t` = the constant second target, `out` the
annotation of the outer output.  Whenever `check` succeeds with (`tgt`, `allowzero'`) and the original outer Reshape
accepts (`reshapeTarget mid t az = some res`, the ONNX rule with `0` = copy / `-1` = infer / `allowzero`) with `out`
truthful for its result, the rewritten single Reshape accepts and returns the same shape — in particular a `0` in
`shape` (copy the dim of the *intermediate* tensor) is never left to be read against `x`, a `-1` inferred from a zero
element count stays well defined, and entries taken from the annotation are the run-time values. -/
theorem reshape_reshape_sound (inp mid t tgt : List Int) (az : Int) (az' : Bool) (out : Option Shape)
    (h : reshapeReshape (some t) out az = .ret (some (tgt, az')))
    (σ : String → Nat) (res : List Int)
    (hnn : ∀ d ∈ mid, 0 ≤ d) (hmid : prodInt mid = prodInt inp)
    (ho : reshapeTarget mid t (az == 1) = some res)
    (hout : ∀ o, out = some o → Admits σ o res) :
    reshapeTarget inp tgt az' = some res :=
  reshapeReshape_sound inp mid t tgt az az' out h σ res hnn hmid ho hout

/-- **End to end**: the inner Reshape stated by the operator rule as well.  For every input shape `inp` (dims ≥ 0), every
inner target `s₀`/`allowzero` the inner Reshape accepts, every constant outer target, every truthful annotation and
binding: if `Reshape(Reshape(x, s₀), shape)` accepts the input and the rule fires, `Reshape(x, new_shape)` accepts it
and returns a tensor of the same shape (Reshape never moves data, so the same tensor). -/
theorem reshape_reshape_end_to_end (inp s₀ mid t tgt : List Int) (az₀ : Bool) (az : Int) (az' : Bool) (out : Option Shape)
    (h : reshapeReshape (some t) out az = .ret (some (tgt, az')))
    (σ : String → Nat) (res : List Int) (hinp : ∀ d ∈ inp, 0 ≤ d)
    (h₀ : reshapeTarget inp s₀ az₀ = some mid)
    (ho : reshapeTarget mid t (az == 1) = some res)
    (hout : ∀ o, out = some o → Admits σ o res) :
    reshapeTarget inp tgt az' = some res := by
  obtain ⟨_, _, _, _, hp, hn⟩ := reshapeTarget_spec hinp h₀
  exact reshape_reshape_sound inp mid t tgt az az' out h σ res hn hp ho hout

/-- The converse does not hold and is not claimed: the rewritten model may accept an input the original rejects
(`Reshape(Reshape(x:[2,3,5], [0,0,0]), [0,5])` is invalid — `[2,5]` has 10 elements — while `Reshape(x, [-1,5])` gives
`[6,5]`); the property quantifies over the inputs the original accepts. -/
theorem reshape_reshape_accepts_more :
    reshapeTarget [2, 3, 5] [0, 5] false = none ∧
    reshapeReshape (some [0, 5]) none 0 = .ret (some ([-1, 5], false)) ∧
    reshapeTarget [2, 3, 5] [-1, 5] false = some [6, 5] := by decide

example : reshapeTarget [0, 4] [-1] false = some [0] ∧ reshapeTarget [0] [0, 1] false = some [0, 1] ∧
    reshapeReshape (some [0, 1]) none 0 = .ret (some ([-1, 1], false)) ∧ reshapeTarget [0, 4] [-1, 1] false = some [0, 1] := by
  decide

-- non-vacuity: a `0` (copy) next to an annotated dim; allowzero = 1 with a real zero; `-1` kept
example : reshapeReshape (some [0, -1]) (some [.sym "N", .known 7]) 0 = .ret (some ([-1, 7], false)) := by decide
example : reshapeTarget [3, 7] [0, -1] false = some [3, 7] ∧ reshapeTarget [21] [-1, 7] false = some [3, 7] := by decide
example : reshapeReshape (some [0, 5]) none 1 = .ret (some ([0, 5], true)) := by decide
example : reshapeReshape (some [0, -1]) none 0 = .ret none := by decide
example : reshapeReshape (some [3, -1]) (some [.known 3, .sym "a", .known 5]) 0 = .raised := by decide

/-! ## `collapse_slice`, `collapse_slice2` -/

/-- `_check_if_redundant_slice`: when it answers yes, `start = 0`, `step = 1`, and for every binding the
slice selects the whole axis: either `end` is INT64_MAX (any dim size up to INT64_MAX), or the axis is static
and `end ≥` its size. -/
theorem redundant_slice_sound (st en ax sp : Int) (data : Option Shape)
    (h : redundantSlice (some st) (some en) (some ax) (some sp) data = true) :
    st = 0 ∧ sp = 1 ∧
    ∀ (σ : String → Nat) (d : Int), 0 ≤ d → d ≤ INT64_MAX →
      (en = INT64_MAX ∨ ∃ s l, data = some s ∧ Admits σ s l ∧ pyIndex l ax = some d) →
      sliceRange1 d st en = (0, d) := by
  simp only [redundantSlice] at h
  by_cases h1 : sp ≠ 1
  · rw [if_pos h1] at h; cases h
  by_cases h2 : st ≠ 0
  · rw [if_neg h1, if_pos h2] at h; cases h
  rw [if_neg h1, if_neg h2] at h
  cases Decidable.not_not.mp h2
  refine ⟨rfl, Decidable.not_not.mp h1, fun σ d hd hmax hsrc => ?_⟩
  by_cases h3 : en = INT64_MAX
  · subst h3; exact sliceRange1_zero_big d _ hd hmax
  rw [if_neg h3] at h
  obtain ⟨s, l, rfl, hs, hl⟩ := hsrc.resolve_left h3
  simp only at h
  -- the axis is static and `end` reaches its size
  cases hp : pyIndex s ax with
  | none => rw [hp] at h; cases h
  | some dd =>
    rw [hp] at h
    obtain ⟨v, hv, hav⟩ := admits_pyIndex hs ax hp
    cases hl.symm.trans hv
    cases dd with
    | known k =>
      have := of_decide_eq_false ((Bool.not_eq_true' _).mp h)
      have : k = d := hav
      exact sliceRange1_zero_big d en hd (by omega)
    | sym a => cases h
    | unknown => cases h

/-- `collapse_slice2`: every step is 1 and input and output annotations denote the same shape under every
binding; a step-1 slice that keeps an axis' length selects the whole axis (`sliceRange1_full_of_length`). -/
theorem slice_same_shape_sound (a b : Shape) (sp : List Int) (h : sliceSameShape (some a) (some b) (some sp) = true) :
    (∀ x ∈ sp, x = 1) ∧ ∀ (σ : String → Nat) (l₁ l₂ : List Int), Admits σ a l₁ → Admits σ b l₂ → l₁ = l₂ := by
  simp only [sliceSameShape, Bool.and_eq_true, List.all_eq_true, beq_iff_eq] at h
  exact ⟨h.1, fun σ l₁ l₂ h₁ h₂ => (same_shape_sound a b h.2 σ).2 l₁ l₂ h₁ h₂⟩

theorem slice_keeping_length_is_whole_axis (d st en : Int) (hd : 0 < d)
    (h : max 0 ((sliceRange1 d st en).2 - (sliceRange1 d st en).1) = d) : sliceRange1 d st en = (0, d) := by
  rcases sliceRange1_full_of_length d st en (by omega) h with h0 | h0
  · omega
  · exact h0

example : redundantSlice (some 0) (some INT64_MAX) (some (-1)) (some 1) none = true := by decide
example : redundantSlice (some 0) (some 3) (some 1) (some 1) (some [.sym "N", .known 3]) = true := by decide
example : sliceSameShape (some [.sym "N", .known 3]) (some [.sym "N", .known 3]) (some [1, 1]) = true := by decide

/-! ## `ScatterAllDynamic`, `ScatterAllStatic` -/

/-- When the rule fires, the number of rows the index chain `Range(0, Gather(Shape(data, start=0), axis), 1)`
enumerates equals the first dimension of the scattered tensor for every binding — the update covers whole
rows `0 … d-1`, so `Identity(updates)` is right.  (`onnxShapeSlice l 0 none = l`: with `start=0` the gathered
entry is `data.shape[axis]`, the entry the check looks at.) -/
theorem scatter_all_dynamic_sound (a : Int) (s t : Shape)
    (h : scatterAllDynamic (some 0) (some a) (some s) (some t) = true)
    (σ : String → Nat) (l lt : List Int) (hs : Admits σ s l) (ht : Admits σ t lt) :
    ∃ v, pyIndex (onnxShapeSlice l 0 none) a = some v ∧ lt.head? = some v := by
  simp only [scatterAllDynamic] at h
  rw [onnxShapeSlice_zero_none]
  cases hd1 : pyIndex s a with
  | none => rw [hd1] at h; cases h
  | some d1 =>
    rw [hd1] at h
    obtain ⟨v, hv, hav⟩ := admits_pyIndex hs a hd1
    cases t with
    | nil => cases h
    | cons d2 t' => cases lt with
      | nil => exact ht.elim
      | cons w lt' => exact ⟨v, hv, congrArg some (same_dim_sound d1 d2 h σ v w hav ht.1).symm⟩

example : scatterAllDynamic (some 0) (some 1) (some [.sym "N", .sym "M"]) (some [.sym "M", .known 2]) = true := by decide
example : scatterAllDynamic (some 1) (some 0) (some [.sym "N", .sym "M"]) (some [.sym "N", .known 2]) = false := by decide
example : scatterAllDynamic none (some 0) (some [.sym "N", .sym "M"]) (some [.sym "N", .known 2]) = false := by decide

/-- `ScatterAllStatic`: when the rule fires, data and updates have the same shape under every binding, the first
dim is the static `n`, and the indices are exactly rows `0 … n-1` in order (with `reduction = none`): every row
is overwritten by the corresponding row of `updates`. -/
theorem scatter_all_static_sound (red : Bool) (data upd : Shape) (idx : List (List Int))
    (h : scatterAllStatic red (some data) (some upd) (some idx) = true) :
    red = true ∧ ∃ n rest, data = .known n :: rest ∧ idx = (List.range n.toNat).map (fun (i : Nat) => [(i : Int)]) ∧
      ∀ (σ : String → Nat) (ld lu : List Int), Admits σ data ld → Admits σ upd lu → ld = lu ∧ ld.head? = some n := by
  simp only [scatterAllStatic, Bool.and_eq_true] at h
  obtain ⟨⟨hr, hss⟩, hi⟩ := h
  refine ⟨hr, ?_⟩
  match data, hi with
  | .known n :: rest, hi =>
    refine ⟨n, rest, rfl, of_decide_eq_true hi, fun σ ld lu hd hu => ⟨(same_shape_sound _ _ hss σ).2 ld lu hd hu, ?_⟩⟩
    cases ld with
    | nil => exact hd.elim
    | cons v t => exact congrArg some hd.1.symm

example : scatterAllStatic true (some [.known 2, .sym "M"]) (some [.known 2, .sym "M"]) (some [[0], [1]]) = true := by decide

end OV.Props.C09
