import OV.Model.Index
import OV.Lemmas.Index
import OV.Lemmas.IndexPlan
import OV.Lemmas.IndexGather
import OV.Lemmas.IndexGraph
import OV.Lemmas.IndexEager
import OV.Lemmas.IndexZip
/-!
# C11 — tensor indexing and slicing mean what they mean in NumPy

Property theorems only.  Model: `OV.Model.Index` (the code after /repo commit e7769b9); helper
lemmas: `OV.Lemmas.Index` (slice bounds), `OV.Lemmas.IndexPlan` (Slice+Squeeze fusion),
`OV.Lemmas.IndexGather` (the Gather chain), `OV.Lemmas.IndexGraph` (the converter's plans),
`OV.Lemmas.IndexEager` (eager mode's plans), `OV.Lemmas.IndexZip` (the zip model).  The two whole-expression statements are
`graph_index_correct_partial` and `eager_index_correct_partial`.
-/
namespace OV.Props.C11
open OV.Index

/-- **Per-axis heart, converter.**  For every dimension size `d` (no bound other than the
int64 sentinel), every pair of optional constant bounds and every non-zero step, the bounds the
converter hands to ONNX `Slice` normalise to exactly what CPython's slice adjustment gives —
provided a negative-step slice has no explicit start below `-d` (the hypothesis the proof
forces; its necessity is `slice_axis_conv_full_refuted`). -/
theorem slice_axis_conv_eq_py_partial (d : Int) (lo hi : Option Int) (step : Int)
    (hd0 : 0 < d) (hd : d < maxint) (hs : step ≠ 0)
    (hD22 : step < 0 → ∀ x, lo = some x → -d ≤ x) :
    onnxNorm d (convBounds lo hi step).1 (convBounds lo hi step).2 step = pyAdjust d lo hi step :=
  (onnxNorm_convBounds_iff d lo hi step hd0 hd hs).mpr hD22

/-- The full statement (without the start hypothesis) is false: `d = 3`, `A[-4::-1]`. -/
theorem slice_axis_conv_full_refuted :
    ¬ (∀ (d : Int) (lo hi : Option Int) (step : Int), 0 < d → d < maxint → step ≠ 0 →
        onnxNorm d (convBounds lo hi step).1 (convBounds lo hi step).2 step = pyAdjust d lo hi step) := by
  intro h
  have := h 3 (some (-4)) none (-1) (by decide) (by decide) (by decide)
  revert this; decide +kernel

/-- **Per-axis heart, eager mode** (no D22 hypothesis: since /repo commit 496ba89 `Tensor.__getitem__`
normalises with `slice.indices`).  For every dimension size `d > 0`, every pair of optional bounds and every non-zero step, the
bounds `Tensor.__getitem__` hands to ONNX `Slice` (`slice.indices(d)` rewritten in Slice's
conventions) normalise to exactly CPython's adjusted bounds when the slice selects something, and
to the empty range `0:0` when it selects nothing. -/
theorem slice_axis_eager_eq_py (d : Int) (lo hi : Option Int) (step : Int)
    (hd0 : 0 < d) (hs : step ≠ 0) :
    (sliceLen (pyAdjust d lo hi step).1 (pyAdjust d lo hi step).2 step ≠ 0 →
      onnxNorm d (eagerBounds d lo hi step).1 (eagerBounds d lo hi step).2 step = pyAdjust d lo hi step) ∧
    (sliceLen (pyAdjust d lo hi step).1 (pyAdjust d lo hi step).2 step = 0 →
      onnxNorm d (eagerBounds d lo hi step).1 (eagerBounds d lo hi step).2 step = (0, 0)) := by
  rw [onnxNorm_eagerBounds d lo hi step hd0 hs]
  exact ⟨fun h => if_neg h, fun h => if_pos h⟩

/-- The eager half of finding D22, repaired, as a regression: `Tensor(A)[-4::-1]`, `d = 3` now
selects nothing, like CPython.  (Before /repo commit 496ba89: `onnxNorm 3 (-4) (-4) (-1) = (0, -1)`, i.e.
`[A[0]]`.) -/
theorem slice_axis_eager_d22_witness_fixed :
    eagerBounds 3 (some (-4)) none (-1) = (0, 0) ∧ pyAdjust 3 (some (-4)) none (-1) = (-1, -1) ∧
    sliceLen (-1) (-1) (-1) = 0 ∧ sliceLen 0 0 (-1) = 0 := by decide +kernel

/-- **List level, converter**: for *every* list (every length below the int64 sentinel, the empty
list included) the ONNX `Slice` of the converter's bounds selects exactly the elements Python's
`l[lo:hi:step]` selects. -/
theorem slice_list_conv_eq_numpy_partial {α} (l : List α) (lo hi : Option Int) (step : Int)
    (hlen : (l.length : Int) < maxint) (hs : step ≠ 0)
    (hD22 : step < 0 → ∀ x, lo = some x → -(l.length : Int) ≤ x) :
    onnxSliceList l (convBounds lo hi step).1 (convBounds lo hi step).2 step = pySliceList l lo hi step :=
  onnxSliceList_convBounds l lo hi step hlen hs hD22

/-- **List level, eager mode** (no hypothesis beyond `step ≠ 0`): for every list, the empty one
included, the ONNX `Slice` of eager mode's bounds selects exactly the elements Python's
`l[lo:hi:step]` selects. -/
theorem slice_list_eager_eq_numpy {α} (l : List α) (lo hi : Option Int) (step : Int)
    (hs : step ≠ 0) :
    onnxSliceList l (eagerBounds l.length lo hi step).1 (eagerBounds l.length lo hi step).2 step
      = pySliceList l lo hi step :=
  onnxSliceList_eagerBounds l lo hi step hs

example : onnxSliceList [10, 20, 30] (eagerBounds 3 (some (-4)) none (-1)).1
      (eagerBounds 3 (some (-4)) none (-1)).2 (-1) = [] ∧
    pySliceList [10, 20, 30] (some (-4)) none (-1) = [] ∧
    onnxSliceList [10, 20, 30] (eagerBounds 3 none (some 0) (-1)).1
      (eagerBounds 3 none (some 0) (-1)).2 (-1) = [30, 20] := by decide +kernel

example : onnxSliceList [10, 20, 30, 40, 50] (convBounds none (some (-3)) (-2)).1
    (convBounds none (some (-3)) (-2)).2 (-2) = [50] ∧ pySliceList [10, 20, 30, 40, 50] none (some (-3)) (-2) = [50] := by
  decide +kernel

/-- **A scalar index as a one-step slice + Squeeze** (both front ends do this when the Slice path
is taken): `i:i+1:1`, and `-1:e:1` with `e` "the end" (int64 maximum / the dimension) for `i = -1`.
For every list, every integer `i` and every `e ≥ n` the slice is the singleton `[l[i]]` exactly
when NumPy accepts the index (`-n ≤ i < n`), and empty otherwise — so the following `Squeeze`
succeeds exactly when NumPy does. -/
theorem scalar_as_slice {α} (l : List α) (i e : Int) (he : (l.length : Int) ≤ e) :
    onnxSliceList l i (scalarStop i e) 1 =
      (match normIdx l.length i with
       | some k => (l[k]?).toList
       | none => []) :=
  onnxSliceList_scalar l i e he

example : onnxSliceList [10, 20, 30] (-2) (scalarStop (-2) maxint) 1 = [20] ∧
    onnxSliceList [10, 20, 30] (-1) (scalarStop (-1) maxint) 1 = [30] ∧
    onnxSliceList [10, 20, 30] (-1) (scalarStop (-1) 3) 1 = [30] ∧
    onnxSliceList [10, 20, 30] 3 (scalarStop 3 maxint) 1 = [] := by decide +kernel

/-- **A Python int on the converter's Slice path is NumPy's integer index — as an equality**, error
cases included: the axis is dropped at `l[i]` when `-n ≤ i < n`, and the graph fails (Squeeze of an
empty axis) exactly when NumPy raises IndexError.  (`i = -1` included: `scalarStop`, /repo commit
1c8f626.) -/
theorem graph_axis_int_eq_numpy (i : Int) (srcs : List Nat) (hlen : (srcs.length : Int) < maxint) :
    graphAxisSlicePath (.int i) srcs = numpyAxis (.int i) srcs :=
  scalar_slice_axis i maxint srcs (by omega)

/-- … and likewise in eager mode, for Python ints and rank-0 tensor indices, with no size bound. -/
theorem eager_axis_scalar_eq_numpy (i : Int) (srcs : List Nat) :
    eagerAxisSlicePath (.int i) srcs = numpyAxis (.int i) srcs ∧
    eagerAxisSlicePath (.tScalar i) srcs = numpyAxis (.tScalar i) srcs :=
  ⟨scalar_slice_axis i _ srcs (Int.le_refl _), scalar_slice_axis i _ srcs (Int.le_refl _)⟩

/-- **Axis level, Slice path, as an equality** — for every component the Slice path handles (`:`,
Python int, any slice) the converter's per-axis result *is* NumPy's, errors included (a zero step is
a ValueError in both, an out-of-range int an IndexError in both), provided a tensor-valued step
comes with both bounds (else the converter refuses the form) and the D22 hypothesis holds. -/
theorem graph_axis_eq_numpy_partial (c : Comp) (srcs : List Nat)
    (hns : (c.kind == Kind.nonScalar) = false)
    (hlen : (srcs.length : Int) < maxint)
    (hform : ∀ lo hi s, c = .slice lo hi (.dyn s) → ∃ l h, lo.val? = some l ∧ hi.val? = some h)
    (hD22 : ∀ lo hi st, c = .slice lo hi st → (st.val?).getD 1 < 0 →
              ∀ x, lo.val? = some x → -(srcs.length : Int) ≤ x) :
    graphAxisSlicePath c srcs = numpyAxis c srcs :=
  graphAxisSlicePath_eq_numpy c srcs hns hlen hform hD22

/-- **Axis level, Slice path**: whenever the converter's Slice(+Squeeze) treatment of a component
(`:`, a Python int, a slice whose bounds and step are constants *or tensors*) yields a result on an
axis (of any extent below the int64 sentinel), NumPy yields the same result on that axis — given
the D22 hypothesis for negative steps. -/
theorem graph_axis_refines_numpy_partial (c : Comp) (srcs : List Nat) (a : AxisMap)
    (hlen : (srcs.length : Int) < maxint)
    (hD22 : ∀ lo hi st, c = .slice lo hi st → (st.val?).getD 1 < 0 →
              ∀ x, lo.val? = some x → -(srcs.length : Int) ≤ x)
    (h : graphAxisSlicePath c srcs = .ok a) : numpyAxis c srcs = .ok a := by
  -- a result means that the Slice path handles the component and that the converter does not refuse it
  have hns : (c.kind == Kind.nonScalar) = false := by
    cases c with
    | tScalar v => cases h
    | tVec vs => cases h
    | full => rfl
    | int i => rfl
    | slice lo hi st => rcases slice_kind_cases lo hi st with hk | hk <;> rw [hk] <;> rfl
  rw [← graph_axis_eq_numpy_partial c srcs hns hlen ?_ hD22]
  · exact h
  · intro lo hi s hc
    subst hc
    rw [graphAxisSlicePath_slice lo hi _ srcs (fun hsk => by cases hsk.2.2)] at h
    cases hl : lo.val? <;> cases hh : hi.val? <;> simp [refusedSlice, hl, hh] at h ⊢

example : graphAxisSlicePath (.slice (.const 1) .none (.const 2)) [0, 1, 2, 3, 4] = .ok (.pick [1, 3]) := by decide +kernel
example : graphAxisSlicePath (.int (-2)) [0, 1, 2] = .ok (.drop 1) ∧
    graphAxisSlicePath (.int (-1)) [0, 1, 2] = .ok (.drop 2) ∧
    graphAxisSlicePath (.int 3) [0, 1, 2] = .error .indexError := by decide +kernel

/-- **Axis level, eager mode, as an equality** (no hypothesis): for every component the
Slice(+squeeze) path handles, eager mode's per-axis result *is* NumPy's, errors included. -/
theorem eager_axis_eq_numpy (c : Comp) (srcs : List Nat) (hv : c.isVec = false) :
    eagerAxisSlicePath c srcs = numpyAxis c srcs :=
  eagerAxisSlicePath_eq_numpy c srcs hv

/-- **Axis level, eager mode** (every component that eager mode's Slice(+squeeze) path handles:
`:`, rank-0 indices — Python ints are promoted —, slices with constant *or tensor-valued* bounds);
no hypothesis: eager mode has no D22. -/
theorem eager_axis_refines_numpy (c : Comp) (srcs : List Nat) (a : AxisMap)
    (h : eagerAxisSlicePath c srcs = .ok a) : numpyAxis c srcs = .ok a := by
  rw [← eager_axis_eq_numpy c srcs (by cases c <;> first | rfl | cases h)]
  exact h

/-- **The converter computes NumPy's per-axis maps** — for *every* expression (any number of 1-D
indices, wherever they stand): if the graph returns a tensor, its view is, axis by axis, what NumPy
selects on that axis.  What this does not say is in which *order* NumPy lays the axes out
(`numpyIndex` / `numpyIndexT` add that). -/
theorem graph_index_axes_partial (comps : List Comp) (shape : List Nat) (r : View)
    (hlen : comps.length ≤ shape.length)
    (hdims : ∀ d ∈ shape, (d : Int) < maxint)
    (hD22 : ∀ (j d : Nat) (lo hi st : Bnd), comps[j]? = some (.slice lo hi st) → shape[j]? = some d →
        (st.val?).getD 1 < 0 → ∀ x, lo.val? = some x → -(d : Int) ≤ x)
    (h : graphIndex comps shape = .ok r) : axiswise numpyAxis comps shape = .ok r :=
  (graph_index_iff_axes comps shape r hlen hdims (graphIndex_ok_form comps shape r h) hD22).mp h

/-- **Whole expressions, the converter (all paths, tensor-valued indices and bounds included).**
For *every* index expression with at most one 1-D tensor index placed so that NumPy keeps the
broadcast axis in place (`needsTranspose = false`) — `:`, Python ints, rank-0 tensor indices,
slices whose bounds and steps are constants or tensors; any number of components up to the rank,
any rank, any dimension sizes below the int64 sentinel, 0 included, index values in or out of
range: if the graph `Converter._translate_subscript_expr` emits (Slice, Squeeze, then the Gather
chain from the highest axis down, each Gather on the axis of the *intermediate* result — /repo
commit e7769b9) returns a tensor, NumPy returns the same tensor.  The only hypothesis that is not a
description of the covered forms is the D22 one (a negative-step slice has no explicit start below
`-d`); it is necessary (`graph_index_without_d22_refuted`).  This statement was false before
e7769b9 (finding D7: `A[i, 0]`, see `graph_index_d7_witness_fixed`). -/
theorem graph_index_correct_partial (comps : List Comp) (shape : List Nat) (r : View)
    (hvec : (comps.filter Comp.isVec).length ≤ 1)
    (hnt : needsTranspose comps = false)
    (hlen : comps.length ≤ shape.length)
    (hdims : ∀ d ∈ shape, (d : Int) < maxint)
    (hD22 : ∀ (j d : Nat) (lo hi st : Bnd), comps[j]? = some (.slice lo hi st) → shape[j]? = some d →
        (st.val?).getD 1 < 0 → ∀ x, lo.val? = some x → -(d : Int) ≤ x)
    (h : graphIndex comps shape = .ok r) : numpyIndex comps shape = .ok r :=
  (numpyIndex_ok_iff comps shape r).mpr
    ⟨hlen, hvec, hnt, graph_index_axes_partial comps shape r hlen hdims hD22 h⟩

-- non-vacuity: the D7 witnesses and a 1-D index, all satisfying the hypotheses
example : graphIndex [.tScalar 1, .int 0] [2, 3, 4] = .ok [.drop 1, .drop 0, .pick [0, 1, 2, 3]] ∧
    needsTranspose [.tScalar 1, .int 0] = false := by decide +kernel
example : graphIndex [.slice (.const 1) (.const 3) .none, .tScalar 3, .int 2] [3, 4, 5]
      = .ok [.pick [1, 2], .drop 3, .drop 2] ∧
    useSlice [.slice (.const 1) (.const 3) .none, .tScalar 3, .int 2] = true := by decide +kernel
example : graphIndex [.int 0, .tVec [2, 0], .slice .none .none (.const (-1))] [2, 3, 4]
      = .ok [.drop 0, .pick [2, 0], .pick [3, 2, 1, 0]] ∧
    needsTranspose [.int 0, .tVec [2, 0], .slice .none .none (.const (-1))] = false := by decide +kernel
example : graphIndex [.tScalar (-1), .full, .tScalar 2] [2, 3, 4] = .ok [.drop 1, .pick [0, 1, 2], .drop 2] := by
  decide +kernel
-- `A[i:i+2, k]` and `A[lo:hi:s]` with everything tensor-valued (documented forms)
example : graphIndex [.slice (.dyn 1) (.dyn 3) .none, .tScalar 2] [4, 3] = .ok [.pick [1, 2], .drop 2] := by
  decide +kernel
example : graphIndex [.tScalar 0, .slice (.dyn 3) (.dyn 0) (.dyn (-2))] [2, 5] = .ok [.drop 0, .pick [3, 1]] := by
  decide +kernel

/-- The D22 hypothesis of `graph_index_correct_partial` cannot be dropped: `A[-4::-1]` on a
length-3 tensor satisfies every other hypothesis, the graph returns `[A[0]]`, NumPy `[]`. -/
theorem graph_index_without_d22_refuted :
    ¬ (∀ (comps : List Comp) (shape : List Nat) (r : View),
        (comps.filter Comp.isVec).length ≤ 1 →
        needsTranspose comps = false → comps.length ≤ shape.length →
        (∀ d ∈ shape, (d : Int) < maxint) →
        graphIndex comps shape = .ok r → numpyIndex comps shape = .ok r) := by
  intro h
  have := h [.slice (.const (-4)) .none (.const (-1))] [3] [.pick [0]]
    (by decide) (by decide) (by decide) (by decide) (by decide)
  revert this; decide +kernel

/-- **Finding C11-N1** (open): too many indices.  `A[0, :]` on a 1-D `A`: the converter does not
know the rank, `:` emits nothing, so the graph is the single Gather of `A[0]` and returns a
tensor; NumPy raises IndexError and eager mode refuses with ValueError.  Replayed on the real
code by the check. -/
theorem graph_index_too_many_indices_witness :
    graphIndex [.int 0, .full] [3] = .ok [.drop 0] ∧
    numpyIndex [.int 0, .full] [3] = .error .indexError ∧
    eagerIndex [.int 0, .full] [3] = .error .valueError := by decide +kernel

/-- … hence the hypothesis `comps.length ≤ shape.length` of `graph_index_correct_partial` cannot be
dropped (every other hypothesis holds for the witness). -/
theorem graph_index_without_len_refuted :
    ¬ (∀ (comps : List Comp) (shape : List Nat) (r : View),
        (comps.filter Comp.isVec).length ≤ 1 → needsTranspose comps = false →
        (∀ d ∈ shape, (d : Int) < maxint) →
        (∀ (j d : Nat) (lo hi st : Bnd), comps[j]? = some (.slice lo hi st) → shape[j]? = some d →
          (st.val?).getD 1 < 0 → ∀ x, lo.val? = some x → -(d : Int) ≤ x) →
        graphIndex comps shape = .ok r → numpyIndex comps shape = .ok r) := by
  intro h
  have := h [.int 0, .full] [3] [.drop 0] (by decide) (by decide) (by decide)
    (by intro j d lo hi st hc; rcases j with _ | _ | j <;> simp at hc)
    (by decide)
  revert this; decide +kernel

/-- **Surplus `:` are ignored by the converter** — for every expression, every number of appended
`:`/`::` components and every shape (so also when they exceed the rank: the mechanism of finding
C11-N1): the graph is the graph of the expression without them. -/
theorem graph_surplus_skips_ignored (comps extra : List Comp) (shape : List Nat)
    (hextra : ∀ c ∈ extra, c.kind = Kind.skip) :
    graphIndex (comps ++ extra) shape = graphIndex comps shape := by
  unfold graphIndex
  rw [planGraph_append_skips comps extra hextra]

example : graphIndex ([.int 0] ++ [.full, .slice .none .none .none]) [3] = .ok [.drop 0] := by decide +kernel

/-- **Too many indices, exactly** (the whole family of finding C11-N1, no hypothesis).  Whenever
the translated graph returns a tensor — for any expression, any shape, also with more components
than the tensor has axes — every component beyond the rank is `:` (a surplus int, slice or tensor
index makes Slice or the first Gather fail at run time), and the tensor is the one the graph
returns for the expression cut down to the rank. -/
theorem graph_too_many_indices_only_surplus_skips (comps : List Comp) (shape : List Nat) (r : View)
    (h : graphIndex comps shape = .ok r) :
    (∀ (j : Nat) (c : Comp), shape.length ≤ j → comps[j]? = some c → c.kind = Kind.skip) ∧
    graphIndex (comps.take shape.length) shape = .ok r := by
  have hskip : ∀ (j : Nat) (c : Comp), shape.length ≤ j → comps[j]? = some c → c.kind = Kind.skip := by
    intro j c hjn hj
    by_cases hk : c.kind = Kind.skip
    · exact hk
    · obtain ⟨e, he⟩ := graph_surplus_nonskip_fails comps shape j c hj hjn hk
      rw [he] at h; cases h
  refine ⟨hskip, ?_⟩
  have := graph_surplus_skips_ignored (comps.take shape.length) (comps.drop shape.length) shape
    (by
      intro c hc
      obtain ⟨i, hi⟩ := List.getElem?_of_mem hc
      rw [List.getElem?_drop] at hi
      exact hskip (shape.length + i) c (by omega) hi)
  rw [List.take_append_drop] at this
  rw [← this]; exact h

example : graphIndex [.slice (.const 1) .none .none, .full, .full] [3] = .ok [.pick [1, 2]] ∧
    graphIndex [.full, .int 0] [3] = .error .indexError ∧
    graphIndex [.int 0, .tScalar 0] [3] = .error .indexError := by decide +kernel

/-- **Whole expressions, the converter, without the length hypothesis**: whatever the number of
components, a tensor returned by the graph is NumPy's tensor for the expression cut down to the
rank of the indexed tensor (which is the expression itself when it has at most `rank`
components). -/
theorem graph_index_correct_any_length_partial (comps : List Comp) (shape : List Nat) (r : View)
    (hvec : ((comps.take shape.length).filter Comp.isVec).length ≤ 1)
    (hnt : needsTranspose (comps.take shape.length) = false)
    (hdims : ∀ d ∈ shape, (d : Int) < maxint)
    (hD22 : ∀ (j d : Nat) (lo hi st : Bnd), comps[j]? = some (.slice lo hi st) → shape[j]? = some d →
        (st.val?).getD 1 < 0 → ∀ x, lo.val? = some x → -(d : Int) ≤ x)
    (h : graphIndex comps shape = .ok r) : numpyIndex (comps.take shape.length) shape = .ok r := by
  refine graph_index_correct_partial (comps.take shape.length) shape r hvec hnt
    (List.length_take_le _ _) hdims ?_ (graph_too_many_indices_only_surplus_skips comps shape r h).2
  intro j d lo hi st hc hd hneg x hx
  have hc' : comps[j]? = some (.slice lo hi st) := by
    rw [List.getElem?_take] at hc
    split at hc
    · exact hc
    · cases hc
  exact hD22 j d lo hi st hc' hd hneg x hx

/-- **Whole expressions, Slice(+Squeeze) path, constant components**: the case of
`graph_index_correct_partial` in which no component is tensor-valued (`hbasic`), so that `hvec` and `hnt`
hold by themselves. -/
theorem graph_index_slicepath_correct_partial (comps : List Comp) (shape : List Nat) (r : View)
    (hbasic : ∀ c ∈ comps, c.basic = true)
    (hlen : comps.length ≤ shape.length)
    (hdims : ∀ d ∈ shape, (d : Int) < maxint)
    (hD22 : ∀ (j d : Nat) (lo hi st : Bnd), comps[j]? = some (.slice lo hi st) → shape[j]? = some d →
        (st.val?).getD 1 < 0 → ∀ x, lo.val? = some x → -(d : Int) ≤ x)
    (_huse : useSlice comps = true)
    (h : graphIndex comps shape = .ok r) : numpyIndex comps shape = .ok r :=
  graph_index_correct_partial comps shape r (by rw [filter_isVec_basic comps hbasic]; exact Nat.zero_le 1)
    (needsTranspose_basic comps hbasic) hlen hdims hD22 h

example : useSlice [.int 1, .full, .slice .none (.const (-1)) (.const 2)] = true ∧
    graphIndex [.int 1, .full, .slice .none (.const (-1)) (.const 2)] [2, 3, 4]
      = .ok [.drop 1, .pick [0, 1, 2], .pick [0, 2]] := by decide +kernel

/-- **Whole expressions, Gather path.**  When the converter does *not* take the Slice path (no
non-trivial slice, at most one Python int — `huse`), the dims/D22 hypotheses of
`graph_index_correct_partial` are not needed and no condition is put on the *values* of the components
(in or out of range).  The other hypotheses stay: at most one 1-D index (`hvec`), broadcast axis in
place (`hnt`, finding C11-N3), not more components than axes (`hlen`, finding C11-N1) — a restricted
statement although the name has no `_partial`.  Under them the result of the Gather
chain (highest axis down), if there is one, is NumPy's. -/
theorem graph_index_gatherpath_correct (comps : List Comp) (shape : List Nat) (r : View)
    (hvec : (comps.filter Comp.isVec).length ≤ 1)
    (hnt : needsTranspose comps = false)
    (hlen : comps.length ≤ shape.length)
    (huse : useSlice comps = false)
    (h : graphIndex comps shape = .ok r) : numpyIndex comps shape = .ok r :=
  (numpyIndex_ok_iff comps shape r).mpr
    ⟨hlen, hvec, hnt, (graph_gatherpath_iff comps shape r hlen huse).mp h⟩

example : useSlice [.full, .int (-2)] = false ∧
    graphIndex [.full, .int (-2)] [2, 3] = .ok [.pick [0, 1], .drop 1] := by decide +kernel
example : useSlice [.int 0, .tVec [1, 2]] = false ∧
    graphIndex [.int 0, .tVec [1, 2]] [2, 3, 4] = .ok [.drop 0, .pick [1, 2], .pick [0, 1, 2, 3]] := by decide +kernel

/-- **Eager mode computes NumPy's per-axis maps** — for *every* expression, any number of 1-D indices
wherever they stand, **no hypothesis** (the 1-D Gathers run in ascending axis order; as each keeps its
axis the order does not matter: `gather_chain_asc_iff`).  What this does not say is how NumPy
lays the axes out (`numpyIndexT`: one 1-D index; `numpyIndexZ`: any number, zipped). -/
theorem eager_index_axes (comps : List Comp) (shape : List Nat) (r : View)
    (h : eagerIndex comps shape = .ok r) :
    comps.length ≤ shape.length ∧ axiswise numpyAxis comps shape = .ok r :=
  (eager_index_iff comps shape r).mp h

/-- **Whole expressions, eager mode (all paths, tensor-valued indices and bounds included).**
For *every* index expression with at most one 1-D tensor index placed so that NumPy keeps the
broadcast axis in place — `:`, Python ints, rank-0 tensor indices, slices whose bounds and steps
are constants or tensors, any rank, any dimension sizes: if `Tensor.__getitem__` returns a
tensor, NumPy returns the same tensor.  **No D22 hypothesis** (eager mode normalises with
`slice.indices`).  All paths of the code are covered: Identity, single Gather, Slice +
`np.squeeze`, each followed by the 1-D Gather on the axis of the intermediate result (/repo commit
e7769b9; before it `X[0, I]` was wrong — `eager_index_d7_witness_fixed`).  "Too many indices" and a
zero step are refused by the code itself.  What keeps the `_partial`: the two hypotheses describe
the limit of the per-axis NumPy specification, not of the code. -/
theorem eager_index_correct_partial (comps : List Comp) (shape : List Nat) (r : View)
    (hvec : (comps.filter Comp.isVec).length ≤ 1)
    (hnt : needsTranspose comps = false)
    (h : eagerIndex comps shape = .ok r) : numpyIndex comps shape = .ok r := by
  obtain ⟨hlen, hax⟩ := eager_index_axes comps shape r h
  exact (numpyIndex_ok_iff comps shape r).mpr ⟨hlen, hvec, hnt, hax⟩

example : eagerIndex [.int (-2), .slice (.const 1) .none .none] [3, 4] = .ok [.drop 1, .pick [1, 2, 3]] := by
  decide +kernel
example : eagerIndex [.int 0, .tVec [1, 2]] [2, 3, 4] = .ok [.drop 0, .pick [1, 2], .pick [0, 1, 2, 3]] ∧
    needsTranspose [.int 0, .tVec [1, 2]] = false := by decide +kernel
example : eagerIndex [.tScalar 1, .slice (.dyn 1) .none .none, .tVec [3, 0]] [2, 3, 4]
    = .ok [.drop 1, .pick [1, 2], .pick [3, 0]] := by decide +kernel

/-- Converse core: whenever NumPy's per-axis maps exist, the translated graph runs and produces
them (given the converter's refusal of a tensor-valued step without both bounds, and D22). -/
theorem graph_index_of_axes_partial (comps : List Comp) (shape : List Nat) (r : View)
    (hlen : comps.length ≤ shape.length)
    (hdims : ∀ d ∈ shape, (d : Int) < maxint)
    (hform : ∀ (j : Nat) (lo hi : Bnd) (s : Int), comps[j]? = some (.slice lo hi (.dyn s)) →
        ∃ l h, lo.val? = some l ∧ hi.val? = some h)
    (hD22 : ∀ (j d : Nat) (lo hi st : Bnd), comps[j]? = some (.slice lo hi st) → shape[j]? = some d →
        (st.val?).getD 1 < 0 → ∀ x, lo.val? = some x → -(d : Int) ≤ x)
    (h : axiswise numpyAxis comps shape = .ok r) : graphIndex comps shape = .ok r :=
  (graph_index_iff_axes comps shape r hlen hdims hform hD22).mpr h

/-- **Whole expressions, the converter, converse direction ("exactly NumPy's result").**  For every
index expression and shape: if NumPy returns a tensor (so the expression is within the modelled
forms: at most one 1-D index, broadcast axis in place, not more components than axes), then the
translated graph returns *that* tensor — it neither fails nor refuses — provided only that a
tensor-valued step is written with both bounds (the converter's documented refusal) and the D22
hypothesis holds.  Together with `graph_index_correct_partial`:
`graphIndex comps shape = .ok r ↔ numpyIndex comps shape = .ok r` on these forms. -/
theorem graph_index_complete_partial (comps : List Comp) (shape : List Nat) (r : View)
    (hdims : ∀ d ∈ shape, (d : Int) < maxint)
    (hform : ∀ (j : Nat) (lo hi : Bnd) (s : Int), comps[j]? = some (.slice lo hi (.dyn s)) →
        ∃ l h, lo.val? = some l ∧ hi.val? = some h)
    (hD22 : ∀ (j d : Nat) (lo hi st : Bnd), comps[j]? = some (.slice lo hi st) → shape[j]? = some d →
        (st.val?).getD 1 < 0 → ∀ x, lo.val? = some x → -(d : Int) ≤ x)
    (h : numpyIndex comps shape = .ok r) : graphIndex comps shape = .ok r := by
  obtain ⟨hlen, _, _, hax⟩ := (numpyIndex_ok_iff comps shape r).mp h
  exact graph_index_of_axes_partial comps shape r hlen hdims hform hD22 hax

example : numpyIndex [.int (-1), .tScalar 2, .slice .none .none (.const (-1))] [2, 3, 4]
      = .ok [.drop 1, .drop 2, .pick [3, 2, 1, 0]] ∧
    graphIndex [.int (-1), .tScalar 2, .slice .none .none (.const (-1))] [2, 3, 4]
      = .ok [.drop 1, .drop 2, .pick [3, 2, 1, 0]] := by decide +kernel

/-- … so, on the forms NumPy's side of the model expresses and the converter does not refuse, the
translated graph and NumPy agree as partial functions (up to the open finding D22). -/
theorem graph_index_iff_numpy_partial (comps : List Comp) (shape : List Nat) (r : View)
    (hvec : (comps.filter Comp.isVec).length ≤ 1) (hnt : needsTranspose comps = false)
    (hlen : comps.length ≤ shape.length)
    (hdims : ∀ d ∈ shape, (d : Int) < maxint)
    (hform : ∀ (j : Nat) (lo hi : Bnd) (s : Int), comps[j]? = some (.slice lo hi (.dyn s)) →
        ∃ l h, lo.val? = some l ∧ hi.val? = some h)
    (hD22 : ∀ (j d : Nat) (lo hi st : Bnd), comps[j]? = some (.slice lo hi st) → shape[j]? = some d →
        (st.val?).getD 1 < 0 → ∀ x, lo.val? = some x → -(d : Int) ≤ x) :
    graphIndex comps shape = .ok r ↔ numpyIndex comps shape = .ok r :=
  ⟨graph_index_correct_partial comps shape r hvec hnt hlen hdims hD22,
   graph_index_complete_partial comps shape r hdims hform hD22⟩

/-- Converse core, eager mode — restricted statement (hypotheses `hlen`: not more components than
axes, `hvec`: at most one 1-D index; the proof does not use `hvec`, `eager_index_iff` holds for any
number of 1-D indices): whenever NumPy's per-axis maps exist, `Tensor.__getitem__` runs and produces
them. -/
theorem eager_index_of_axes (comps : List Comp) (shape : List Nat) (r : View)
    (hlen : comps.length ≤ shape.length)
    (hvec : (comps.filter Comp.isVec).length ≤ 1)
    (h : axiswise numpyAxis comps shape = .ok r) : eagerIndex comps shape = .ok r :=
  (eager_index_iff comps shape r).mpr ⟨hlen, h⟩

/-- **Whole expressions, eager mode, converse direction.**  No *explicit* hypothesis — but the
antecedent is restrictive: the model `numpyIndex` answers `.unmodelled` (never `.ok`) for two or more
1-D indices and when NumPy moves the broadcast axis (`needsTranspose`), so the statement says nothing
about the forms of findings C11-N4 / C11-N3.  For every index
expression and shape: if `numpyIndex` returns a tensor (so: at most one 1-D index, broadcast axis in
place, not more components than axes, no zero step, every integer in range), then
`Tensor.__getitem__` returns *that* tensor.  Together with `eager_index_correct_partial`: on the
modelled forms `eagerIndex comps shape = .ok r ↔ numpyIndex comps shape = .ok r` — eager indexing
returns exactly NumPy's result and fails exactly when NumPy raises. -/
theorem eager_index_complete (comps : List Comp) (shape : List Nat) (r : View)
    (h : numpyIndex comps shape = .ok r) : eagerIndex comps shape = .ok r := by
  obtain ⟨hlen, hvec, _, hax⟩ := (numpyIndex_ok_iff comps shape r).mp h
  exact eager_index_of_axes comps shape r hlen hvec hax

/-- … so, **under the two restricting hypotheses** `hvec` (at most one 1-D index) and `hnt`
(`needsTranspose = false`, i.e. outside finding C11-N3) — a restricted statement although the name has
no `_partial` — eager indexing and the model `numpyIndex` agree as partial functions. -/
theorem eager_index_iff_numpy (comps : List Comp) (shape : List Nat) (r : View)
    (hvec : (comps.filter Comp.isVec).length ≤ 1) (hnt : needsTranspose comps = false) :
    eagerIndex comps shape = .ok r ↔ numpyIndex comps shape = .ok r :=
  ⟨eager_index_correct_partial comps shape r hvec hnt, eager_index_complete comps shape r⟩

example : numpyIndex [.slice (.const (-9)) .none (.const (-2)), .int (-1), .tVec [0, -1]] [4, 2, 3]
      = .ok [.pick [], .drop 1, .pick [0, 2]] ∧
    eagerIndex [.slice (.const (-9)) .none (.const (-2)), .int (-1), .tVec [0, -1]] [4, 2, 3]
      = .ok [.pick [], .drop 1, .pick [0, 2]] := by decide +kernel

/-! ### NumPy's axis order made explicit: one 1-D index anywhere (`numpyIndexT`) -/

/-- **The converter, any position of the 1-D index**: if the graph returns a tensor, NumPy's result
consists of exactly the same per-axis maps — and, when the advanced indices are split by a slice
(`frontOf comps = some p`, e.g. `X[0, :, I]`), NumPy additionally moves the axis of the 1-D index to
the front, which the graph (sequential Gathers, no Transpose) never does: finding C11-N3.  Unlike
`graph_index_correct_partial` this needs no hypothesis `needsTranspose = false`. -/
theorem graph_index_correct_upto_front_partial (comps : List Comp) (shape : List Nat) (r : View)
    (hvec : (comps.filter Comp.isVec).length ≤ 1)
    (hlen : comps.length ≤ shape.length)
    (hdims : ∀ d ∈ shape, (d : Int) < maxint)
    (hD22 : ∀ (j d : Nat) (lo hi st : Bnd), comps[j]? = some (.slice lo hi st) → shape[j]? = some d →
        (st.val?).getD 1 < 0 → ∀ x, lo.val? = some x → -(d : Int) ≤ x)
    (h : graphIndex comps shape = .ok r) : numpyIndexT comps shape = .ok ⟨r, frontOf comps⟩ :=
  (numpyIndexT_ok_iff comps shape _).mpr
    ⟨hlen, hvec, graph_index_axes_partial comps shape r hlen hdims hD22 h, rfl⟩

/-- … and conversely the graph produces NumPy's per-axis maps whenever NumPy returns a result. -/
theorem graph_index_complete_upto_front_partial (comps : List Comp) (shape : List Nat) (n : NView)
    (hdims : ∀ d ∈ shape, (d : Int) < maxint)
    (hform : ∀ (j : Nat) (lo hi : Bnd) (s : Int), comps[j]? = some (.slice lo hi (.dyn s)) →
        ∃ l h, lo.val? = some l ∧ hi.val? = some h)
    (hD22 : ∀ (j d : Nat) (lo hi st : Bnd), comps[j]? = some (.slice lo hi st) → shape[j]? = some d →
        (st.val?).getD 1 < 0 → ∀ x, lo.val? = some x → -(d : Int) ≤ x)
    (h : numpyIndexT comps shape = .ok n) : graphIndex comps shape = .ok n.view ∧ n.front = frontOf comps := by
  obtain ⟨hlen, _, hax, hfront⟩ := (numpyIndexT_ok_iff comps shape n).mp h
  exact ⟨graph_index_of_axes_partial comps shape n.view hlen hdims hform hD22 hax, hfront⟩

/-- **Eager mode and NumPy, any position of the 1-D index, as an equivalence**: for every
expression with at most one 1-D index, `Tensor.__getitem__` returns the view `r` if and only if
NumPy's result is `r` with the axis `frontOf comps` moved to the front (no move when
`frontOf comps = none`).  No other hypothesis. -/
theorem eager_index_iff_numpyT (comps : List Comp) (shape : List Nat) (r : View)
    (hvec : (comps.filter Comp.isVec).length ≤ 1) :
    eagerIndex comps shape = .ok r ↔ numpyIndexT comps shape = .ok ⟨r, frontOf comps⟩ := by
  rw [numpyIndexT_ok_iff, eager_index_iff]
  exact ⟨fun h => ⟨h.1, hvec, h.2, rfl⟩, fun h => ⟨h.1, h.2.2.1⟩⟩

/-- `numpyIndexT` extends `numpyIndex`: where the latter answers, the former gives the same view
with no axis moved. -/
theorem numpyIndexT_of_numpyIndex (comps : List Comp) (shape : List Nat) (r : View)
    (h : numpyIndex comps shape = .ok r) : numpyIndexT comps shape = .ok ⟨r, none⟩ := by
  obtain ⟨hlen, hvec, hnt, hax⟩ := (numpyIndex_ok_iff comps shape r).mp h
  exact (numpyIndexT_ok_iff comps shape _).mpr ⟨hlen, hvec, hax, by rw [frontOf, hnt]; rfl⟩

/-- **Finding C11-N3** (open): `X[0, :, I]` on a 2×3×4 tensor, `I = [1, 0]`.  Both front ends return
the view with the axes in place (shape `[3, 2]`); NumPy returns the same selections with the axis of
`I` first (shape `[2, 3]`).  Replayed on the real code by the check. -/
theorem index_front_axis_witness :
    graphIndex [.int 0, .full, .tVec [1, 0]] [2, 3, 4] = .ok [.drop 0, .pick [0, 1, 2], .pick [1, 0]] ∧
    eagerIndex [.int 0, .full, .tVec [1, 0]] [2, 3, 4] = .ok [.drop 0, .pick [0, 1, 2], .pick [1, 0]] ∧
    numpyIndexT [.int 0, .full, .tVec [1, 0]] [2, 3, 4]
      = .ok ⟨[.drop 0, .pick [0, 1, 2], .pick [1, 0]], some 2⟩ ∧
    (NView.mk [.drop 0, .pick [0, 1, 2], .pick [1, 0]] (some 2)).shape = [2, 3] ∧
    View.shape [.drop 0, .pick [0, 1, 2], .pick [1, 0]] = [3, 2] := by decide +kernel

/-- **The two front ends agree**: whenever the translated graph
and eager mode both return a tensor for the same expression (within the forms of
`graph_index_correct_partial`), they return the same tensor. -/
theorem graph_eq_eager_partial (comps : List Comp) (shape : List Nat) (r r' : View)
    (hvec : (comps.filter Comp.isVec).length ≤ 1)
    (hnt : needsTranspose comps = false)
    (hdims : ∀ d ∈ shape, (d : Int) < maxint)
    (hD22 : ∀ (j d : Nat) (lo hi st : Bnd), comps[j]? = some (.slice lo hi st) → shape[j]? = some d →
        (st.val?).getD 1 < 0 → ∀ x, lo.val? = some x → -(d : Int) ≤ x)
    (hg : graphIndex comps shape = .ok r) (he : eagerIndex comps shape = .ok r') : r = r' := by
  have hlen : comps.length ≤ shape.length := (eager_index_axes comps shape r' he).1
  have h1 := graph_index_correct_partial comps shape r hvec hnt hlen hdims hD22 hg
  have h2 := eager_index_correct_partial comps shape r' hvec hnt he
  rw [h1] at h2
  cases h2; rfl

example : graphIndex [.tScalar 1, .slice (.const 2) .none (.const (-1)), .int 0] [2, 3, 4]
    = eagerIndex [.tScalar 1, .slice (.const 2) .none (.const (-1)), .int 0] [2, 3, 4] ∧
    eagerIndex [.tScalar 1, .slice (.const 2) .none (.const (-1)), .int 0] [2, 3, 4]
      = .ok [.drop 1, .pick [2, 1, 0], .drop 0] := by decide +kernel

/-- Refusal: eager mode rejects more index components than the tensor has axes (the converter
cannot: finding C11-N1). -/
theorem eager_too_many_refused (comps : List Comp) (shape : List Nat) (h : comps.length > shape.length) :
    eagerIndex comps shape = .error .valueError := by
  unfold eagerIndex planEager
  rw [if_pos h]
  rfl

/-- Finding D7, repaired by /repo commit e7769b9, as a regression: `A[i, 0]` (`i` a rank-0 tensor
holding 1, `A : 2×3×4`) — the model of the old converter gathered axis 0 and then axis **1** of
the reduced tensor (`[.drop 1, .pick [0,1,2], .drop 0]`); the repaired converter gathers axis 1
first and agrees with NumPy.  The witness is replayed on the real converter on every run. -/
theorem graph_index_d7_witness_fixed :
    graphIndex [.tScalar 1, .int 0] [2, 3, 4] = numpyIndex [.tScalar 1, .int 0] [2, 3, 4] ∧
    graphIndex [.tScalar 1, .full, .tScalar 2] [2, 3, 4] = numpyIndex [.tScalar 1, .full, .tScalar 2] [2, 3, 4] ∧
    graphIndex [.slice (.const 1) (.const 3) .none, .tScalar 3, .int 2] [3, 4, 5]
      = numpyIndex [.slice (.const 1) (.const 3) .none, .tScalar 3, .int 2] [3, 4, 5] := by decide +kernel

/-- The eager face of D7, repaired by the same commit: `X[0, I]` (1-D `I` after a rank-0 index). -/
theorem eager_index_d7_witness_fixed :
    eagerIndex [.int 0, .tVec [1, 2]] [2, 3, 4] = numpyIndex [.int 0, .tVec [1, 2]] [2, 3, 4] := by decide +kernel

/-- `A[i, 0]` in eager mode goes through Slice + squeeze with both scalars and was never affected by
D7: eager mode agrees with NumPy and with the converter on it. -/
theorem eager_index_witness_ok :
    eagerIndex [.tScalar 1, .int 0] [2, 3, 4] = numpyIndex [.tScalar 1, .int 0] [2, 3, 4] ∧
    eagerIndex [.tScalar 1, .int 0] [2, 3, 4] = graphIndex [.tScalar 1, .int 0] [2, 3, 4] := by decide +kernel

/-- D22 at the level of whole expressions: `A[-4::-1]` on a length-3 tensor — open for the
translated graph (the converter does not know the dimension), repaired for eager mode. -/
theorem graph_index_d22_witness :
    graphIndex [.slice (.const (-4)) .none (.const (-1))] [3] = .ok [.pick [0]] ∧
    numpyIndex [.slice (.const (-4)) .none (.const (-1))] [3] = .ok [.pick []] := by decide +kernel

/-- … and the eager half as a regression (it returned `[A[0]]` before the repair). -/
theorem eager_index_d22_witness_fixed :
    eagerIndex [.slice (.const (-4)) .none (.const (-1))] [3]
      = numpyIndex [.slice (.const (-4)) .none (.const (-1))] [3] ∧
    eagerIndex [.int 1, .slice (.const (-9)) (.const 5) (.const (-2))] [2, 4]
      = numpyIndex [.int 1, .slice (.const (-9)) (.const 5) (.const (-2))] [2, 4] := by decide +kernel

/-- A zero step is refused by eager mode while the index is read (`slice.indices` raises
ValueError), whatever else the expression contains. -/
theorem eager_zero_step_refused (pre post : List Comp) (lo hi : Bnd) (shape : List Nat)
    (hlen : (pre ++ .slice lo hi (.const 0) :: post).length ≤ shape.length) :
    eagerIndex (pre ++ .slice lo hi (.const 0) :: post) shape = .error .valueError := by
  unfold eagerIndex planEager
  rw [if_neg (by omega)]
  have : (pre ++ Comp.slice lo hi (.const 0) :: post).any
      (fun c => c.isEagerSliced && c.stepVal == 0) = true := by
    simp [List.any_append, Comp.isEagerSliced, Comp.stepVal, Bnd.val?]
  rw [if_pos this]
  rfl

example : eagerIndex [.full, .slice .none .none (.const 0)] [2, 3] = .error .valueError := by decide +kernel

/-- Refusal: a slice whose step is tensor-valued and whose start is omitted (`A[:hi:k]`, `A[::k]`). -/
theorem dyn_step_omitted_start_refused (hi : Bnd) (s : Int) :
    planGraph [.slice .none hi (.dyn s)] = .error .refused := by
  cases hi <;> rfl

/-- Refusal: likewise with the stop omitted (`A[lo::k]`). -/
theorem dyn_step_omitted_stop_refused (lo : Bnd) (s : Int) :
    planGraph [.slice lo .none (.dyn s)] = .error .refused := by
  cases lo <;> rfl

/-- An index of only full slices (`A[:]`, `A[:, :]`, …) translates to a single Identity node, and
the graph returns the whole tensor — NumPy's result.  (Before /repo commit 35a0ff1 this form died
with AttributeError at decoration time: finding C01-D37, fixed.) -/
theorem all_full_identity (n : Nat) : planGraph (List.replicate n .full) = .ok [.identity] := by
  have h : ∀ F : Comp → Bool, F .full = false →
      ((List.replicate n Comp.full).zipIdx).filter (fun p => F p.1) = [] := fun F hF =>
    filter_zipIdx_none F _ 0 (fun c hc => by rw [List.eq_of_mem_replicate hc]; exact hF)
  unfold planGraph slicedOf scalarsOf nonScalarsOf
  rw [if_pos (by
    rw [h (fun c => c.kind == Kind.sliced) rfl, h (fun c => c.kind == Kind.scalar) rfl,
      h (fun c => c.kind == Kind.nonScalar) rfl]; rfl)]

/-- … and the view it computes is the initial view of the tensor, which is what NumPy returns. -/
theorem all_full_correct (n : Nat) (shape : List Nat) (hn : n ≤ shape.length) :
    graphIndex (List.replicate n .full) shape = .ok (View.init shape) ∧
    numpyIndex (List.replicate n .full) shape = .ok (View.init shape) := by
  refine ⟨?_, ?_⟩
  · unfold graphIndex
    rw [all_full_identity]
    rfl
  · have hb : ∀ c ∈ List.replicate n Comp.full, c.basic = true := by
      intro c hc; rw [List.eq_of_mem_replicate hc]; rfl
    exact (numpyIndex_ok_iff _ shape _).mpr ⟨by simpa using hn,
      by rw [filter_isVec_basic _ hb]; exact Nat.zero_le 1, needsTranspose_basic _ hb,
      axiswise_all_skip _ shape (by simpa using hn) (fun c hc => by rw [List.eq_of_mem_replicate hc]; rfl)⟩

/-! ### Two or more 1-D indices: NumPy zips them (`numpyIndexZ`), the front ends take the outer product -/

/-- **Finding C11-N4** (open): `X[I, J]` on a 2×3 tensor, `I = [0, 1]`, `J = [1, 0]`.  Both front ends
run one Gather per index, which selects independently on each axis (the 2×2 outer product
`X[[0,1]][:, [1,0]]`); NumPy broadcasts the two indices against each other and zips them
(`[X[0,1], X[1,0]]`, shape `[2]`).  With lengths that do not broadcast (`[0,1]` against `[1,0,2]`)
NumPy raises IndexError and the front ends still return a tensor.  Replayed on the real code by the
check. -/
theorem index_zip_witness :
    graphIndex [.tVec [0, 1], .tVec [1, 0]] [2, 3] = .ok [.pick [0, 1], .pick [1, 0]] ∧
    eagerIndex [.tVec [0, 1], .tVec [1, 0]] [2, 3] = .ok [.pick [0, 1], .pick [1, 0]] ∧
    numpyIndexZ [.tVec [0, 1], .tVec [1, 0]] [2, 3] = .ok ⟨[.zip [0, 1], .zip [1, 0]], false⟩ ∧
    (ZRes.mk [.zip [0, 1], .zip [1, 0]] false).shape = [2] ∧
    View.shape [.pick [0, 1], .pick [1, 0]] = [2, 2] ∧
    graphIndex [.tVec [0, 1], .tVec [1, 0, 2]] [2, 3] = .ok [.pick [0, 1], .pick [1, 0, 2]] ∧
    eagerIndex [.tVec [0, 1], .tVec [1, 0, 2]] [2, 3] = .ok [.pick [0, 1], .pick [1, 0, 2]] ∧
    numpyIndexZ [.tVec [0, 1], .tVec [1, 0, 2]] [2, 3] = .error .indexError := by decide +kernel

/-- **The converter, any number of 1-D indices (of one common length)**: if the graph returns a
tensor, its view is exactly NumPy's per-axis maps (`unzip`) — what NumPy does in addition is to read
the axes of the 1-D indices *together* (one output axis, `zmark`) and, when the advanced indices are
split by a slice, to put that axis first (`moveFront`).  This extends
`graph_index_correct_upto_front_partial` from at most one 1-D index to every expression; the
hypothesis on the lengths only excludes NumPy's stretching of length-1 indices and is vacuous when
there is at most one 1-D index. -/
theorem graph_index_correct_upto_zip_partial (comps : List Comp) (shape : List Nat) (r : View) (n : Nat)
    (hn : ∀ c ∈ comps, ∀ vs, c = .tVec vs → vs.length = n)
    (hlen : comps.length ≤ shape.length)
    (hdims : ∀ d ∈ shape, (d : Int) < maxint)
    (hD22 : ∀ (j d : Nat) (lo hi st : Bnd), comps[j]? = some (.slice lo hi st) → shape[j]? = some d →
        (st.val?).getD 1 < 0 → ∀ x, lo.val? = some x → -(d : Int) ≤ x)
    (h : graphIndex comps shape = .ok r) :
    numpyIndexZ comps shape = .ok ⟨zmark comps r, moveFront comps⟩ ∧ unzip (zmark comps r) = r :=
  numpyIndexZ_of_axes comps shape r n hn hlen (graph_index_axes_partial comps shape r hlen hdims hD22 h)

example : graphIndex [.slice (.const 1) .none .none, .tVec [0, 1], .int 0, .tVec [1, 0]] [3, 2, 2, 3]
      = .ok [.pick [1, 2], .pick [0, 1], .drop 0, .pick [1, 0]] ∧
    numpyIndexZ [.slice (.const 1) .none .none, .tVec [0, 1], .int 0, .tVec [1, 0]] [3, 2, 2, 3]
      = .ok ⟨[.pick [1, 2], .zip [0, 1], .drop 0, .zip [1, 0]], false⟩ ∧
    (ZRes.mk [.pick [1, 2], .zip [0, 1], .drop 0, .zip [1, 0]] false).shape = [2, 2] := by decide +kernel

/-- **With two or more 1-D indices the translated graph never returns NumPy's tensor** (no other
hypothesis: any expression, any shape, any lengths and values of the indices).  Whenever the graph
returns a tensor and NumPy returns one, the graph's tensor has `k - 1` more axes than NumPy's, `k`
the number of 1-D indices: each Gather keeps an axis of its own where NumPy shares one.  (And when
NumPy raises — lengths that do not broadcast, `index_zip_witness` — a returned tensor is wrong
anyway.)  So on this whole class the property fails as soon as the graph runs: finding C11-N4. -/
theorem graph_multi_vec_never_numpy (comps : List Comp) (shape : List Nat) (r : View) (z : ZRes)
    (hk : 2 ≤ (comps.filter Comp.isVec).length)
    (hg : graphIndex comps shape = .ok r) (hz : numpyIndexZ comps shape = .ok z) :
    (View.shape r).length = z.shape.length + ((comps.filter Comp.isVec).length - 1) ∧
    View.shape r ≠ z.shape := by
  refine multi_vec_shape comps shape r z hk ?_ hz
  -- the graph's side: one axis per component, the scalar-indexed ones removed
  have hlen := ((numpyIndexZ_ok_iff comps shape z).mp hz).1
  cases huse : useSlice comps with
  | false =>
    exact axiswise_shape_count numpyAxis _ numpyAxis_isPick comps shape r
      ((graph_gatherpath_iff comps shape r hlen huse).mp hg)
  | true =>
    refine axiswise_shape_count _ _ ?_ comps shape r ((graph_slicepath_iff comps shape r hlen huse).mp hg)
    intro c srcs a ha
    by_cases hkk : (c.kind == Kind.nonScalar) = true
    · rw [withGather_pos _ hkk] at ha
      exact numpyAxis_isPick c srcs a ha
    · rw [withGather_neg _ hkk] at ha
      rw [graphPre_isPick c srcs a ha]
      cases c with
      | full => rfl
      | int i => rfl
      | tScalar i => exact absurd rfl hkk
      | tVec vs => exact absurd rfl hkk
      | slice lo hi st => rcases slice_kind_cases lo hi st with h' | h' <;> rw [h'] <;> rfl

example : 2 ≤ ([Comp.tVec [0, 1], .full, .tVec [1]].filter Comp.isVec).length ∧
    graphIndex [.tVec [0, 1], .full, .tVec [1]] [2, 3, 4] = .ok [.pick [0, 1], .pick [0, 1, 2], .pick [1]] ∧
    numpyIndexZ [.tVec [0, 1], .full, .tVec [1]] [2, 3, 4]
      = .ok ⟨[.zip [0, 1], .pick [0, 1, 2], .zip [1, 1]], false⟩ ∧
    (ZRes.mk [.zip [0, 1], .pick [0, 1, 2], .zip [1, 1]] false).shape = [2, 3] := by decide +kernel

/-- **Eager mode, any number of 1-D indices (of one common length)**: `Tensor.__getitem__`'s view is
exactly NumPy's per-axis maps, un-zipped.  Restricted statement: hypothesis `hn` (all 1-D indices have
the same length `n`, which excludes NumPy's stretching of length-1 indices); beyond `hn` nothing is
assumed (eager mode has no D22, no size bound, and refuses surplus components itself). -/
theorem eager_index_correct_upto_zip (comps : List Comp) (shape : List Nat) (r : View) (n : Nat)
    (hn : ∀ c ∈ comps, ∀ vs, c = .tVec vs → vs.length = n)
    (h : eagerIndex comps shape = .ok r) :
    numpyIndexZ comps shape = .ok ⟨zmark comps r, moveFront comps⟩ ∧ unzip (zmark comps r) = r := by
  obtain ⟨hlen, hax⟩ := eager_index_axes comps shape r h
  exact numpyIndexZ_of_axes comps shape r n hn hlen hax

example : eagerIndex [.slice (.const 1) .none .none, .tVec [0, 1], .int 0, .tVec [1, 0]] [3, 2, 2, 3]
      = .ok [.pick [1, 2], .pick [0, 1], .drop 0, .pick [1, 0]] := by decide +kernel

/-- **With two or more 1-D indices eager mode never returns NumPy's tensor** (no other hypothesis):
whenever `Tensor.__getitem__` and NumPy both return a tensor, eager mode's has `k - 1` more axes, `k`
the number of 1-D indices — the eager half of finding C11-N4, for the whole class. -/
theorem eager_multi_vec_never_numpy (comps : List Comp) (shape : List Nat) (r : View) (z : ZRes)
    (hk : 2 ≤ (comps.filter Comp.isVec).length)
    (he : eagerIndex comps shape = .ok r) (hz : numpyIndexZ comps shape = .ok z) :
    (View.shape r).length = z.shape.length + ((comps.filter Comp.isVec).length - 1) ∧
    View.shape r ≠ z.shape :=
  multi_vec_shape comps shape r z hk
    (axiswise_shape_count numpyAxis _ numpyAxis_isPick comps shape r (eager_index_axes comps shape r he).2) hz

example : 2 ≤ ([Comp.int 1, .tVec [0, 1], .tVec [2]].filter Comp.isVec).length ∧
    eagerIndex [.int 1, .tVec [0, 1], .tVec [2]] [2, 3, 4] = .ok [.drop 1, .pick [0, 1], .pick [2]] ∧
    numpyIndexZ [.int 1, .tVec [0, 1], .tVec [2]] [2, 3, 4] = .ok ⟨[.drop 1, .zip [0, 1], .zip [2, 2]], false⟩ ∧
    (ZRes.mk [.drop 1, .zip [0, 1], .zip [2, 2]] false).shape = [2] := by decide +kernel

/-- **The zip model extends `numpyIndexT`**: wherever `numpyIndexT` answers (at most one 1-D
index) `numpyIndexZ` gives the same per-axis maps — the axis of the 1-D index, if any, marked as the
(only) zipped one — and moves that axis first exactly when `numpyIndexT` does.  So the statements against
`numpyIndexT` and those against `numpyIndexZ` speak about one and the same NumPy. -/
theorem numpyIndexZ_of_numpyIndexT (comps : List Comp) (shape : List Nat) (n : NView)
    (h : numpyIndexT comps shape = .ok n) :
    numpyIndexZ comps shape = .ok ⟨zmark comps n.view, n.front.isSome⟩ := by
  obtain ⟨hlen, hvec, hax, hfront⟩ := (numpyIndexT_ok_iff comps shape n).mp h
  obtain ⟨n0, hn0⟩ := all_vec_lengths_of_le_one comps hvec
  rw [hfront, ← moveFront_eq_frontOf comps hvec]
  exact (numpyIndexZ_of_axes comps shape n.view n0 hn0 hlen hax).1

example : numpyIndexT [.int 0, .full, .tVec [1, 0]] [2, 3, 4]
      = .ok ⟨[.drop 0, .pick [0, 1, 2], .pick [1, 0]], some 2⟩ ∧
    numpyIndexZ [.int 0, .full, .tVec [1, 0]] [2, 3, 4]
      = .ok ⟨[.drop 0, .pick [0, 1, 2], .zip [1, 0]], true⟩ ∧
    (ZRes.mk [.drop 0, .pick [0, 1, 2], .zip [1, 0]] true).shape = [2, 3] := by decide +kernel

end OV.Props.C11
