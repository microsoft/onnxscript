import OV.Lemmas.C06Vocab
import OV.Lemmas.C06Top
import OV.Lemmas.C06Commute
import OV.Lemmas.C06Complete
import OV.Lemmas.C06Solve
import OV.Lemmas.C06SolveC
import OV.Lemmas.C06Multi
import OV.Lemmas.C06Sound
import OV.Lemmas.C06CompleteOr
import OV.Lemmas.C06CommuteSem
import OV.Lemmas.C06Greedy
import OV.Lemmas.C06Exc
import OV.Model.C06Rule
/-!
# C06 — the pattern matcher reports a match exactly when the subgraph is an instance

Property theorems only.  Models: `OV.Model.C06Pattern` (pattern language, host graph),
`OV.Model.C06Match` (`patternMatch` = `SimplePatternMatcher.match` + `Pattern.match`
post-processing, transcribed with the partial-match stack), `OV.Model.C06Spec` (declarative
`Instance`, `ChecksPass`, `Removable`), `OV.Model.C06Commute` (`GraphPattern.commute`).

The theorems quantify over all patterns, all host graphs, all roots and every tolerance relation `close`, and
over both values of `remove_nodes` except where the docstring says `remove_nodes=False`.
-/
namespace OV.Props.C06
open OV.C06

/-- **Soundness, bindings exactness, removability — patterns without BacktrackingOr.**
If `Pattern.match` (model: `patternMatch`) reports a match `r` for a pattern in which every
`OrValue` is an `OpIdDispatchOr` without tag variable (`dispOk`; OR-free patterns are a special
case, `GPat.noOr_dispOk`; any number of output nodes)
(whose node patterns refer, also inside OR alternatives, only to earlier node patterns — always true
for builder-made patterns — and, for the revision of `_match_node` as found (`E.fixF1 = false`), never asks a
locally matching node for more outputs than it has; the repaired revision `E.fixF1 = true` needs
no such condition), then the
assignment read off `r` (names ↦ `r.bindings`, pattern nodes ↦ matched nodes, unnamed value
patterns ↦ values) makes the subgraph ending at `root` an instance of the pattern: operator,
domain, attribute patterns, input positions with the trailing-`None` convention, repeated
variables, constants within `close`, output indices; every attached checker and the condition
accepted; and with `remove_nodes` no intermediate matched value is a graph output or used outside
the match.  The full statement (no side conditions) is refuted for the code before the repairs by
`match_sound_extra_outputs_prefix_refuted` (C06-F1) and `match_sound_or_prefix_refuted` (C06-F3/F4). -/
theorem match_sound_partial (E : Env) (root : NodeId) (rm : Bool) (r : Result)
    (hno : E.p.dispOk = true) (htopo : E.p.topoDeep) (har : E.fixF1 = true ∨ OutputArityOk E.p E.g)
    (h : patternMatch E root rm = some r) :
    Instance E root r.assign ∧ ChecksPass E.p r.assign ∧
      (rm = true → Removable E.g r.nodes r.outputs) :=
  let ⟨h1, h2, h3, _⟩ := patternMatch_sound_all E root rm r (.inr hno) htopo har h
  ⟨h1, h2, h3⟩

/-- **Soundness — the whole pattern language** (the committed code: repairs C06-F1 /repo 778bd07 and
C06-F3 /repo e143b53 in place, `E.fixF1`/`E.fixF3` at their defaults).  For *every* pattern —
`BacktrackingOr` and `OpIdDispatchOr` nested arbitrarily, with or without tag variables, tag variables
shared between OR values or clashing with other bindings, any number of output nodes — a match reported
by `Pattern.match` is an instance under the assignment read off the result (one chosen alternative per OR
occurrence, every tag variable bound to the chosen alternative's tag), every checker that ran accepted,
the outputs are the images of the pattern outputs, `match.nodes` is the image of the node bindings in
binding order, every declared pattern input is bound (to `None` when the match did not bind it), and with
`remove_nodes` the matched nodes are removable.

The remaining hypotheses are not restrictions of the pattern language: `topoDeep` is the well-formedness
of the encoding (a node pattern refers to earlier node patterns; builder-made patterns cannot be cyclic),
`fixF3`/`fixF1` pin the revision (for the code before the repairs the statement is false:
`match_sound_or_prefix_refuted`, `match_sound_extra_outputs_prefix_refuted`).

`_match_value` ignores the result of `bind(tag_var, i)` for an `OpIdDispatchOr`: on a clash it marks the
partial match failed and goes on returning `True`.  The proof (`Lemmas/C06Walk.lean`, read in `Lemmas/C06Sound.lean`) carries every
invariant relative to "no partial match on the stack is failed"; a failed partial match is never merged
into its parent (`topOk` before `mergeTop`) and never reported (`finish`).  What is *not* guaranteed is
completeness (`match_complete_full_refuted`, finding C06-D11). -/
theorem match_sound (E : Env) (root : NodeId) (rm : Bool) (r : Result)
    (hf3 : E.fixF3 = true) (htopo : E.p.topoDeep)
    (har : E.fixF1 = true ∨ OutputArityOk E.p E.g) (h : patternMatch E root rm = some r) :
    Instance E root r.assign ∧ ChecksPass E.p r.assign ∧
      (rm = true → Removable E.g r.nodes r.outputs) ∧
      E.p.outputs.mapM (r.assign.outputOf E.p) = some r.outputs ∧
      r.nodes = r.nb.map (·.2) ∧
      (∀ nm, some nm ∈ E.p.inputs → ∃ b, r.assign.names nm = some b) :=
  patternMatch_sound_all E root rm r (.inl hf3) htopo har h

/-- **The reported bindings / nodes / outputs are exactly the instance's.**  Under the same
hypotheses: `r.outputs` are the images of the pattern outputs in order (by name when named, by
object identity otherwise), `r.nodes` is the image of the pattern nodes in binding order, and
every declared pattern input is bound (to `None` when the match did not bind it).  For the committed
revision (`fixF3 = true`) `match_sound` states the same for the whole pattern language; this theorem also
covers the code before repair C06-F3 on dispatch-only patterns. -/
theorem bindings_exact_partial (E : Env) (root : NodeId) (rm : Bool) (r : Result)
    (hno : E.p.dispOk = true) (htopo : E.p.topoDeep) (har : E.fixF1 = true ∨ OutputArityOk E.p E.g)
    (h : patternMatch E root rm = some r) :
    E.p.outputs.mapM (r.assign.outputOf E.p) = some r.outputs ∧
      r.nodes = r.nb.map (·.2) ∧
      (∀ nm, some nm ∈ E.p.inputs → ∃ b, r.assign.names nm = some b) :=
  (patternMatch_sound_all E root rm r (.inr hno) htopo har h).2.2.2

/-- **Completeness — OR-free patterns with one output node.**  If some assignment `A` makes the
subgraph ending at `root` an instance of the pattern and every attached checker accepts under `A`,
then — for a pattern without `OrValue`, topologically ordered, with a single output node `np0`
whose outputs are the pattern's outputs, and whose named variables carry no checker (`NamedVarsUnchecked`; not
needed for the code before repair C06-F2) — `Pattern.match(…, check_nodes_are_removable=False)`
reports a match `r`, and with `check_nodes_are_removable=True` a match is reported **iff** no
intermediate value of the nodes `r` found is a graph output or used outside them.
The unrestricted statement is refuted by `match_complete_full_refuted` (BacktrackingOr, D11);
patterns with several output nodes are not covered (their candidate filter is finding C06-F5). -/
theorem match_complete_partial (E : Env) (A : Assign) (root : NodeId) (np0 : NPId)
    (hno : E.p.noOr = true) (htopo : E.p.topo) (hnc : E.fixF2 = false ∨ NamedVarsUnchecked E.p)
    (hsingle : E.p.outputNodes = [np0])
    (hroot : OutputsOfRoot E.p np0) (hinst : Instance E root A) (hchk : ChecksPass E.p A) :
    ∃ r, patternMatch E root false = some r ∧
      ((patternMatch E root true).isSome = true ↔ Removable E.g r.nodes r.outputs) :=
  patternMatch_complete_leftmost_of E A root np0 (.inr (E.p.noOr_dispOk hno))
    (E.p.dispOk_backOk (E.p.noOr_dispOk hno)) (hnc.imp_right (nuOk_of_namedVarsUnchecked hno))
    (E.p.topo_topoDeep hno htopo) hsingle hroot (instance_leftmost_of (exclIn_of_noOr hno) hinst) hchk

/-- **Completeness with `BacktrackingOr` whose alternatives are mutually exclusive** (code after repair
C06-F3).  If no value can satisfy two alternatives of one `OrValue` — under any assignment
(`GPat.exclOk`: `ExclAlts` for every BacktrackingOr, nested ones included; it also asks that no named
variable carries a checker) — then committing to the first locally successful alternative loses nothing:
for a pattern with one output node whose outputs are the pattern outputs, every instance with accepting
checkers is reported by `Pattern.match(…, check_nodes_are_removable=False)`, and with
`check_nodes_are_removable=True` exactly when the found nodes are removable.  OpIdDispatchOr (without tag
variable) is covered as well.  Without exclusivity the statement is false: `match_complete_full_refuted`
(finding C06-D11; its witness `OrValue([Neg(x), x])` has alternatives that one value satisfies both). -/
theorem match_complete_or_partial (E : Env) (A : Assign) (root : NodeId) (np0 : NPId)
    (hf3 : E.fixF3 = true) (hbk : E.p.backOk = true) (hex : GPat.exclOk E) (htopo : E.p.topoDeep)
    (har : E.fixF1 = true ∨ OutputArityOk E.p E.g) (hsingle : E.p.outputNodes = [np0])
    (hroot : OutputsOfRoot E.p np0) (hinst : Instance E root A) (hchk : ChecksPass E.p A) :
    ∃ r, patternMatch E root false = some r ∧
      ((patternMatch E root true).isSome = true ↔ Removable E.g r.nodes r.outputs) :=
  patternMatch_complete_or E A root np0 hf3 hbk hex htopo har hsingle hroot hinst hchk

/-- **Completeness for leftmost instances — what `BacktrackingOr` cannot miss** (code after repair C06-F3).
`BacktrackingOr` commits to the first alternative that succeeds (finding C06-D11).  Call an instance
*leftmost* (`InstanceL`: `SatV`/`SatN` with one more premise at the BacktrackingOr rule) when at every
BacktrackingOr occurrence it takes alternative `i` and no earlier alternative describes that value under
any assignment.  Every leftmost instance with accepting checkers is reported — no exclusivity of the
alternatives is assumed (`OrValue([Neg(x), x])`, the D11 pattern, is covered: `lmEnv` below).  This
weakens the hypothesis `exclOk` of `match_complete_or_partial` from "the alternatives of every
BacktrackingOr are mutually exclusive" to "this instance never needs a later alternative where an earlier
one could apply" (`leftmost_of_exclusive`: the former implies the latter for every instance).  The
remaining hypotheses are those of `match_complete_or_partial`: no tagged OpIdDispatchOr (`backOk`; inside
an alternative forced by finding C06-F9), no checker on named variables (`nuOk`, limit of the declarative
`ChecksPass`), one output node whose outputs are the pattern outputs.  The converse fails: the matcher
also takes a later alternative when an earlier one is satisfiable in isolation but clashes with bindings
made before, so a reported match need not be leftmost in this sense. -/
theorem match_complete_leftmost_partial (E : Env) (A : Assign) (root : NodeId) (np0 : NPId)
    (hf3 : E.fixF3 = true) (hbk : E.p.backOk = true) (hnu : E.p.nuOk) (htopo : E.p.topoDeep)
    (har : E.fixF1 = true ∨ OutputArityOk E.p E.g) (hsingle : E.p.outputNodes = [np0])
    (hroot : OutputsOfRoot E.p np0) (hinst : InstanceL E root A) (hchk : ChecksPass E.p A) :
    ∃ r, patternMatch E root false = some r ∧
      ((patternMatch E root true).isSome = true ↔ Removable E.g r.nodes r.outputs) :=
  patternMatch_complete_leftmost E A root np0 hf3 hbk hnu htopo har hsingle hroot hinst hchk

/-- with mutually exclusive alternatives every instance is leftmost (so `match_complete_leftmost_partial`
contains `match_complete_or_partial`), and a leftmost instance is an instance -/
theorem leftmost_of_exclusive (E : Env) (root : NodeId) (A : Assign) (hex : GPat.exclOk E) :
    (Instance E root A → InstanceL E root A) ∧ E.p.nuOk ∧ (InstanceL E root A → Instance E root A) :=
  ⟨instance_leftmost_of_excl hex, exclOk_nuOk hex, fun h => h.1⟩

/-- **A match is reported exactly when the subgraph is an instance** — the property's sentence as one
theorem, for the fragment where both directions hold: repaired `merge` (C06-F3), no OpIdDispatchOr with tag
variable, mutually exclusive OR alternatives and no checker on named variables (`exclOk`), acyclic pattern
with one output node whose outputs are the pattern outputs.  Without the removability test a match is
reported iff some assignment makes the subgraph ending at `root` an instance with accepting checkers; with
it, iff moreover the nodes of that match are removable. -/
theorem match_iff_instance_partial (E : Env) (root : NodeId) (np0 : NPId) (hf3 : E.fixF3 = true)
    (hbk : E.p.backOk = true) (hex : GPat.exclOk E) (htopo : E.p.topoDeep)
    (har : E.fixF1 = true ∨ OutputArityOk E.p E.g) (hsingle : E.p.outputNodes = [np0])
    (hroot : OutputsOfRoot E.p np0) :
    ((patternMatch E root false).isSome = true ↔ ∃ A, Instance E root A ∧ ChecksPass E.p A) ∧
    ((patternMatch E root true).isSome = true ↔
      ∃ r, patternMatch E root false = some r ∧ Removable E.g r.nodes r.outputs) :=
  patternMatch_iff_instance E root np0 hf3 hbk hex htopo har hsingle hroot

/-- **Completeness — OR-free patterns with several output nodes, outside finding C06-F5.**
With repair C06-F5 (`E.fixF5 = true`) unconditionally, and for the code before it if every output
node after the first has an operator identifier and no host node carries an overload
(`CandidatesComplete`; the two conditions whose failure is finding C06-F5), the pattern outputs are outputs of
output nodes and no opaque checker rejects, then every instance is reported: the instance's own
node combination is among the candidates `itertools.product` goes through, `_multi_match` succeeds
on it, hence `SimplePatternMatcher.match` and `Pattern.match` report a match (possibly on an earlier
succeeding combination, cf. `match_deterministic`).  Restrictions, all hypotheses of the statement: only
`remove_nodes=False` (nothing is said about the removability test on the reported combination); OR-free
(`noOr`) and `topo`; `OutputsOfOutputNodes`; `CandidatesComplete`; no opaque checker rejects (`checksOk`, needed
for the `Pattern.match` half); named variables carry no checker or the code is before repair F2
(`fixF2 = false ∨ NamedVarsUnchecked`); `fixF1` or `OutputArityOk`.  Soundness for several output nodes is
part of `match_sound` / `match_sound_partial`. -/
theorem match_complete_multi_partial (E : Env) (A : Assign) (root : NodeId)
    (hno : E.p.noOr = true) (htopo : E.p.topo) (hnc : E.fixF2 = false ∨ NamedVarsUnchecked E.p)
    (har : E.fixF1 = true ∨ OutputArityOk E.p E.g)
    (houts : OutputsOfOutputNodes E.p) (hcc : CandidatesComplete E)
    (hchk : E.p.checksOk = true) (hinst : Instance E root A) :
    (∃ combo, combo ∈ combos E root ∧ (multiMatch E false combo).ok = true) ∧
      (patternMatch E root false).isSome = true :=
  ⟨let ⟨c, h1, h2, _⟩ := matcher_complete_multi E A root hno htopo hnc houts hcc hinst; ⟨c, h1, h2⟩,
   patternMatch_complete_multi E A root hno htopo hnc houts hcc hchk hinst⟩

/-- **Determinism / first combination in graph order.**  A successful match is the result of
`_multi_match` on one candidate combination that starts with `root`, and every combination that
`itertools.product` yields before it failed.  (For a pattern with one output node there is one
combination, `[root]`.) -/
theorem match_deterministic (E : Env) (root : NodeId) (rm : Bool)
    (h : (matcherMatch E root rm).ok = true) :
    ∃ pre combo post,
      combos E root = pre ++ combo :: post ∧
      matcherMatch E root rm = multiMatch E rm combo ∧
      combo.head? = some root ∧
      ∀ c ∈ pre, (multiMatch E rm c).ok = false :=
  matcherMatch_first E root rm h

/-! ## The oracle of the correspondence check is itself verified -/

/-- **`solve` is sound** (whole pattern language: OR patterns, several output nodes, any graph):
every solution the exhaustive search returns is an instance under the assignment it stands for;
its `outputs` are the images of the pattern outputs, its `names` contain that assignment, and with
`remove_nodes` the mapped nodes are removable.  Hypothesis: node patterns refer (also inside OR
alternatives) only to earlier node patterns — true for every pattern built with the API. -/
theorem solve_sound (E : Env) (root : NodeId) (rm : Bool) (s : Sol) (htopo : E.p.topoDeep)
    (h : s ∈ solve E root rm) :
    ∃ A, Instance E root A ∧ E.p.outputs.mapM (A.outputOf E.p) = some s.outputs ∧
      (∀ k b, A.names k = some b → s.names.lookup k = some b) ∧
      (rm = true → Removable E.g s.nodes s.outputs) :=
  solve_sound_core E root rm s htopo h

/-- **`solve` is complete** (OR patterns and several output nodes included): if *any* assignment
makes the subgraph ending at `root` an instance, the search returns a solution — and that solution
is also returned with `remove_nodes` when its nodes are removable.  Hypotheses: acyclic pattern,
no opaque checker answers `False` (`checksOk`; `solve` evaluates checkers inline, also those of
named variables, which `ChecksPass` does not mention), and the pattern outputs are outputs of its
output nodes.  `_partial` for these two side conditions. -/
theorem solve_complete_partial (E : Env) (root : NodeId) (A : Assign) (htopo : E.p.topoDeep)
    (hchk : E.p.checksOk = true) (houts : OutputsOfOutputNodes E.p) (hinst : Instance E root A) :
    ∃ s, s ∈ solve E root false ∧ (Removable E.g s.nodes s.outputs → s ∈ solve E root true) :=
  let ⟨s, h1, _, _, h2⟩ := solve_complete_core E root A htopo hchk houts hinst
  ⟨s, h1, h2⟩

/-! ## `commute` -/

/-- `commute` yields one pattern per swap mask; the masks are exactly the `2^k` Boolean vectors
that are `false` outside the `k` node patterns whose operator identifier is in
`COMMUTATIVE_OPS` (and, with proposed fix C06-F7b, that are written with two inputs), each once, the all-`false` mask first — and for that mask the pattern itself
(not a copy) is returned. -/
theorem commute_exact (fix7a fix7b fix7c : Bool) (p : GPat) (l : List GPat)
    (h : commute fix7a p fix7b fix7c = .ok l) :
    l.length = 2 ^ (p.nodes.filter (NPat.swappable fix7b)).length ∧
      (masks fix7b p.nodes).Nodup ∧
      (∀ m, m ∈ masks fix7b p.nodes ↔
        m.length = p.nodes.length ∧ ∀ (i : Nat) (b : Bool), m[i]? = some b → b = true →
          ∃ n : NPat, p.nodes[i]? = some n ∧ n.swappable fix7b = true) ∧
      l.head? = some p :=
  commute_counts fix7a fix7b fix7c p l h

/-- **Every swapped variant is the pattern with the masked nodes' two inputs exchanged.**  For a
mask `m` with at least one swap, node pattern `i` of `copy_graph(m)` equals node pattern `i` of `p`
in every field except that it has lost its operator identifier (`opIsStr = false`) and that its
inputs are — up to object identity of the cloned value patterns (`skel`: ids erased, and
`can_match_none` of a bare `ValuePattern`, which `ValuePattern.clone` drops) — the inputs of node
`i`, reversed iff `m[i]`; a swapped node has exactly two inputs.  The semantic corollary
("the variants match exactly the instances of the swapped patterns") is a theorem only for `namedLeaves`
patterns (`commute_variant_instances_partial`): in general it needs invariance of `Instance` under renaming of
object ids and fails where cloning un-shares a doubly used unnamed object; the correspondence check tests it
per case (commute oracle). -/
theorem commute_variant_is_swap (fix7a fix7c : Bool) (p q : GPat) (m : List Bool) (hm : m.any id = true)
    (h : copyGraph fix7a p m fix7c = .ok q) :
    ∀ (i : Nat) (n n' : NPat) (b : Bool), p.nodes[i]? = some n → m[i]? = some b → q.nodes[i]? = some n' →
      skelInputs n'.inputs = (if b then (skelInputs n.inputs).reverse else skelInputs n.inputs) ∧
      (b = true → n.inputs.length = 2) ∧ n' = { n with inputs := n'.inputs, opIsStr := false } :=
  copyGraph_skel fix7a fix7c p q m hm h

/-- **`commute` yields exactly the swap variants** (semantic half of `commute_exact`, for patterns whose
value patterns are `ANY`, node outputs and named `Var`s — object identity immaterial, `namedLeaves`):
the list returned by `GraphPattern.commute` *is* the list of patterns obtained by exchanging the operands of
the masked nodes (`variantOf p m = p` for the all-`false` mask, else `swapPat p m`), one per mask, in
`itertools.product` order. -/
theorem commute_is_swap_variants_partial (fix7a fix7b fix7c : Bool) (p : GPat) (l : List GPat)
    (hn : p.namedLeaves = true) (h : commute fix7a p fix7b fix7c = .ok l) :
    l = (masks fix7b p.nodes).map (variantOf p) :=
  commute_named fix7a fix7b fix7c p l hn h

/-- **A swapped variant has exactly the instances of the pattern with those operands exchanged** — with all
operator flags of the original kept (`pureSwap`): `Instance` never reads the `str`-op flag that copies lose
(`instance_str`).  For `namedLeaves` patterns. -/
theorem commute_variant_instances_partial (E : Env) (fix7a fix7c : Bool) (p q : GPat) (m : List Bool)
    (hn : p.namedLeaves = true) (hm : m.any id = true) (h : copyGraph fix7a p m fix7c = .ok q)
    (root : NodeId) (A : Assign) :
    Instance { E with p := q } root A ↔ Instance { E with p := pureSwap p m } root A := by
  have hq : q = swapPat p m := by
    have := copyGraph_named fix7a fix7c p q m hn h
    simpa [variantOf, hm] using this
  subst hq
  exact ⟨instance_str E (swapPat_pureSwap p m) root A, instance_str E (swapPat_pureSwap p m).symm root A⟩

/-- **With `commute=True` the matches are exactly those of the pattern under swaps of commutative operands**:
some variant of `commute` reports a match at `root` iff, for some swap mask, the subgraph ending at `root` is
an instance (with accepting checkers) of the pattern with those operands exchanged.  Stated for
`remove_nodes=False` and only for a narrow fragment: `namedLeaves` patterns *every swap variant of which*
satisfies the whole bundle `IffHyps` (the hypotheses of `match_iff_instance_partial`): committed merge
(`fixF3`), no tagged dispatch-OR (`backOk`), mutually exclusive BacktrackingOr alternatives and no checker on
named variables (`exclOk`), acyclic encoding (`topoDeep`), `fixF1` or `OutputArityOk`, exactly one output node
whose outputs are the pattern outputs (`OutputsOfRoot`). -/
theorem commute_matches_iff_swap_instance_partial (E : Env) (root : NodeId) (np0 : NPId)
    (fix7a fix7b fix7c : Bool) (l : List GPat) (hn : E.p.namedLeaves = true)
    (h : commute fix7a E.p fix7b fix7c = .ok l)
    (hH : ∀ m ∈ masks fix7b E.p.nodes, IffHyps E (variantOf E.p m) np0) :
    (∃ q ∈ l, (patternMatch { E with p := q } root false).isSome = true) ↔
      ∃ m ∈ masks fix7b E.p.nodes, ∃ A, Instance { E with p := variantOf E.p m } root A ∧
        ChecksPass (variantOf E.p m) A :=
  commute_semantic E root np0 fix7a fix7b fix7c l hn h hH

/-- **`commute` keeps every `Constant` pattern intact**: in every variant, node pattern `i` holds
exactly the `Constant` patterns of node pattern `i` of the original — same value, same `rel_tol`,
same `abs_tol` (a `ConstPat` is the triple).  So a swapped variant accepts a constant iff the
pattern as written does. -/
theorem clone_preserves_constant (fix7a fix7b fix7c : Bool) (p : GPat) (l : List GPat) (q : GPat)
    (h : commute fix7a p fix7b fix7c = .ok l) (hq : q ∈ l) :
    ∀ (i : Nat) (n n' : NPat), p.nodes[i]? = some n → q.nodes[i]? = some n' →
      ∀ c : ConstPat, c ∈ n'.consts ↔ c ∈ n.consts :=
  commute_consts fix7a fix7b fix7c p l q h hq

/-! ## Refutations of the unrestricted statements (witnesses replayed on the real matcher) -/

def xVar : VPat := .var 1 (some "x") true false none

def mkNode (op : String) (ins : List (Option VPat)) (nouts : Nat) : NPat :=
  { domain := .exact "", op := .exact op, opIsStr := true, inputs := ins, attrs := [],
    allowOtherAttrs := true, allowOtherInputs := false, outputs := List.replicate nouts none,
    check := none }

def mkGNode (op : String) (ins : List (Option ValueId)) (outs : List ValueId) : GNode :=
  { domain := "", op := op, overload := "", inputs := ins, attrs := [], outputs := outs }

def closeEq (_ _ : Tol) (a b : Int) : Bool := a == b

/-- finding C06-D11: `Add(OrValue([Neg(x), x]), x)` against `n = Neg(a); y = Add(n, n)` -/
def d11 : Env :=
  { p := { inputs := [some "x"], cond := true,
           nodes := [mkNode "Neg" [some xVar] 1,
                     mkNode "Add" [some (.orB 2 none none [0, 1] [.out 0 0, xVar]), some xVar] 1],
           outputs := [.out 1 0] }
    g := { nodes := [mkGNode "Neg" [some 0] [1], mkGNode "Add" [some 1, some 1] [2]],
           outputs := [2], consts := [], foreign := [], extUses := [] }
    close := closeEq }

def d11Assign : Assign :=
  { names := fun k => if k = "x" then some (.val 1) else none
    node := fun np => if np = 1 then some 1 else none
    leaf := fun k => if k = .leaf 2 then some (some 1) else if k = .outp 1 0 then some (some 2) else none }

theorem d11_is_instance : Instance d11 1 d11Assign ∧ ChecksPass d11.p d11Assign :=
  ⟨instance_of_solve (GPat.topoDeep_of_check (by decide)) rfl (by decide),
   checksPass_of_all _ (by decide) (by decide)⟩

/-- the D11 witness satisfies the hypotheses of `solve_complete_partial` (so that theorem is not
vacuous, and `solve` finds the instance the matcher misses) -/
example : d11.p.topoDeep ∧ d11.p.checksOk = true ∧ OutputsOfOutputNodes d11.p ∧
    (solve d11 1 true).length = 1 := by
  refine ⟨GPat.topoDeep_of_check (by decide), by decide, ?_, by decide⟩
  · intro vp hvp
    simp [d11] at hvp
    subst hvp
    exact ⟨1, 0, _, rfl, by decide, rfl, by simp [mkNode]⟩

/-- **Completeness fails in general** (finding C06-D11, reproduced on the real matcher): the first
locally successful alternative of a `BacktrackingOr` is committed and never revisited.  The full
statement "every instance whose checkers accept is reported" is false. -/
theorem match_complete_full_refuted :
    ¬ (∀ (E : Env) (root : NodeId) (A : Assign), Instance E root A → ChecksPass E.p A →
        (patternMatch E root false).isSome = true) := by
  intro h
  have := h d11 1 d11Assign d11_is_instance.1 d11_is_instance.2
  revert this
  decide

/-- finding C06-F1 (fixed in /repo 778bd07; `fixF1 := false` restates the code before the repair):
`a, b = D2(x)` (two outputs) against a `D2` node with one output -/
def f1 : Env :=
  { p := { inputs := [some "x"], cond := true, nodes := [mkNode "D2" [some xVar] 2],
           outputs := [.out 0 0] }
    g := { nodes := [mkGNode "D2" [some 0] [1]], outputs := [1], consts := [], foreign := [],
           extUses := [] }
    close := closeEq
    fixF1 := false }

/-- **Soundness failed in general for the matcher before repair 778bd07** (finding C06-F1, reproduced on the real matcher at that revision): a pattern
node that asks for more outputs than the node has makes `_match_node` return `False` without
failing the match, and the still-truthy `MatchResult` is reported (with no outputs). -/
theorem match_sound_extra_outputs_prefix_refuted :
    ¬ (∀ (E : Env) (root : NodeId) (rm : Bool) (r : Result), E.fixF1 = false → E.p.noOr = true →
        E.p.topo → patternMatch E root rm = some r → ∃ A, Instance E root A) := by
  intro h
  have hm : (patternMatch f1 0 false).isSome = true := by decide
  obtain ⟨r, hr⟩ := Option.isSome_iff_exists.1 hm
  obtain ⟨A, hA⟩ := h f1 0 false r rfl (by decide) (GPat.topo_of_topoDeep (GPat.topoDeep_of_check (by decide))) hr
  obtain ⟨n, hn, hs⟩ := hA.outNodes 0 (by decide)
  have h0 := hA.rootNode 0 (by decide)
  rw [h0] at hn
  cases hn
  cases hs with
  | mk _ _ P N hP hN _ _ _ _ _ _ _ hout =>
    cases hP; cases hN
    obtain ⟨x, hx, _⟩ := hout 1 (by decide)
    cases hx

/-- with the repaired `_match_node` (`fixF1 = true`) the F1 witness is no longer reported -/
example : (patternMatch { f1 with fixF1 := true } 0 false).isSome = false := by decide

/-- findings C06-F3/F4 (fixed in /repo e143b53; `fixF3 := false` restates `merge` before the repair):
`t = Neg(x); Add(OrValue([t, y]), t)` against `n1 = Neg(a); n2 = Neg(a); s = Add(n1, n2)` -/
def f4 : Env :=
  { p := { inputs := [some "x", some "y"], cond := true,
           nodes := [mkNode "Neg" [some xVar] 1,
                     mkNode "Add" [some (.orB 4 none none [0, 1] [.out 0 0, .var 2 (some "y") true false none]),
                                   some (.out 0 0)] 1],
           outputs := [.out 1 0] }
    g := { nodes := [mkGNode "Neg" [some 0] [1], mkGNode "Neg" [some 0] [2], mkGNode "Add" [some 1, some 2] [3]],
           outputs := [3], consts := [], foreign := [], extUses := [] }
    close := closeEq
    fixF3 := false }

/-- **Before repair e143b53 soundness failed for BacktrackingOr patterns** (findings C06-F3/F4, reproduced
on the real matcher at that revision): `merge` dropped the node binding of `t` made inside the first
alternative, `t` was matched again against the other `Neg` node, and the reported assignment (t ↦ n2,
OR ↦ n1's output, y ↦ None) is no instance.  With the repaired `merge` the same input is not matched
this way (`example` below). -/
theorem match_sound_or_prefix_refuted :
    ¬ (∀ (E : Env) (root : NodeId) (rm : Bool) (r : Result), E.fixF3 = false → E.p.backOk = true →
        E.p.topoDeep → patternMatch E root rm = some r → Instance E root r.assign) := by
  intro h
  have hm : (patternMatch f4 2 false).isSome = true := by decide
  obtain ⟨r, hr⟩ := Option.isSome_iff_exists.1 hm
  have hnb : (patternMatch f4 2 false).map (fun r => (r.nb, r.bindings)) =
      some ([(1, 2), (0, 1)], [("x", .val 0), ("y", .none)]) := by decide
  rw [hr] at hnb
  simp only [Option.map_some, Option.some.injEq, Prod.mk.injEq] at hnb
  obtain ⟨hnb, hbd⟩ := hnb
  have hI := h f4 2 false r rfl (by decide) (GPat.topoDeep_of_check (by decide)) hr
  obtain ⟨n, hn, hs⟩ := hI.outNodes 1 (by decide)
  have hnode0 : r.assign.node 0 = some 1 := by
    show r.nb.lookup 0 = some 1
    rw [hnb]; decide
  have hy : r.assign.names "y" = some Bound.none := by
    show r.bindings.lookup "y" = some Bound.none
    rw [hbd]; decide
  have hn2 : n = 2 := by
    have : r.assign.node 1 = some 2 := by
      show r.nb.lookup 1 = some 2
      rw [hnb]; decide
    rw [this] at hn; cases hn; rfl
  subst hn2
  cases hs with
  | mk _ _ P N hP hN _ _ _ _ _ _ hsome _ =>
    cases hP; cases hN
    have h0 := hsome 0 _ rfl
    simp only [inputAt] at h0
    cases h0 with
    | orB _ _ _ _ _ _ i alt _ _ hi hsa _ =>
      match i with
      | 0 =>
        simp at hi; subst hi
        cases hsa with
        | out _ _ _ n' _ _ hp _ hn' =>
          have : n' = 0 := by
            have : f4.g.producer 1 = some 0 := by decide
            rw [this] at hp; cases hp; rfl
          subst this
          have := satN_node hn'
          rw [hnode0] at this
          cases this
      | 1 =>
        simp at hi; subst hi
        cases hsa with
        | var _ _ _ _ _ _ hb _ _ =>
          simp only [Assign.boundTo, GPat.vname] at hb
          rw [hy] at hb
          cases hb
      | k + 2 => simp at hi

/-- with the repaired `merge` the F4 witness is no longer reported through the first alternative; it is now
*missed* (the committed first alternative is not revisited — finding C06-D11) -/
example : (patternMatch { f4 with fixF3 := true } 2 false).isSome = false := by decide

/-- `Add(OrValue([Neg(x), x]), z)` (a BacktrackingOr) against `n = Neg(a); s = Add(n, n)` -/
def orEnv : Env :=
  { p := { inputs := [some "x", some "z"], cond := true,
           nodes := [mkNode "Neg" [some xVar] 1,
                     mkNode "Add" [some (.orB 4 none (some "t") [7, 8] [.out 0 0, xVar]),
                                   some (.var 3 (some "z") true false none)] 1],
           outputs := [.out 1 0] }
    g := { nodes := [mkGNode "Neg" [some 0] [1], mkGNode "Add" [some 1, some 1] [2]],
           outputs := [2], consts := [], foreign := [], extUses := [] }
    close := closeEq }

/-- `match_sound` is not vacuous: a pattern with a tagged BacktrackingOr satisfies its hypotheses
and is matched (tag variable bound to the first alternative's tag) -/
example : orEnv.fixF3 = true ∧ orEnv.p.backOk = true ∧ orEnv.p.dispOk = false ∧ orEnv.p.topoDeep ∧
    (patternMatch orEnv 1 true).map (fun r => r.bindings) =
      some [("x", .val 0), ("t", .tag 7), ("z", .val 1)] := by
  exact ⟨rfl, by decide, by decide, GPat.topoDeep_of_check (by decide), by decide⟩

/-! ## The exception channel (`OV.Model.C06Exc`, finding C06-F9) -/

/-- **Exception freedom, and the total model is the code there.**  `patternMatchX` (`OV.Model.C06Exc`) restates the
matcher with the three `raise` statements of `merge_current_match` / `PartialMatchResult.merge` (nothing on the
way out of `Pattern.match` catches them) and with the truth value of the `MatchResult` that `_match_node` tests
after `NodePattern.matches`; `patternMatch` is the total model every other theorem of this file is about.  A
pattern without tagged `OpIdDispatchOr` (`backOk`; any `BacktrackingOr`, tagged or not, any number of output
nodes) never makes `Pattern.match` raise: on every graph, root and `remove_nodes` the exception-aware model
returns, and returns `patternMatch` — so every theorem of this file speaks about the code with its exceptions on
that fragment.  `_partial`: the hypothesis `backOk` is forced — `matchX_raises_refuted` (finding C06-F9: the
ignored `bind` result of a tagged dispatch-OR leaves a failed partial match behind a `True` return value, and the
next `merge_current_match` raises).  Outside `backOk` no refinement is proved (the two models also differ in
intermediate states once a partial match is failed; the tie compares `patternMatchX` with the code on every case). -/
theorem matchX_no_exception_partial (E : Env) (root : NodeId) (rm : Bool) (hf8 : E.fixF8 = true)
    (hbk : E.p.backOk = true) : patternMatchX E root rm = .ok (patternMatch E root rm) := by
  unfold patternMatchX
  rw [matcherMatchX_eq E hf8 hbk root rm, patternMatch_post]

/-- **Soundness with the exception channel** on that fragment: whatever `Pattern.match` returns as a match is an
instance (all conclusions of `match_sound`). -/
theorem match_sound_exc_partial (E : Env) (root : NodeId) (rm : Bool) (r : Result)
    (hf3 : E.fixF3 = true) (hf8 : E.fixF8 = true) (hbk : E.p.backOk = true) (htopo : E.p.topoDeep)
    (har : E.fixF1 = true ∨ OutputArityOk E.p E.g) (h : patternMatchX E root rm = .ok (some r)) :
    Instance E root r.assign ∧ ChecksPass E.p r.assign ∧
      (rm = true → Removable E.g r.nodes r.outputs) ∧
      E.p.outputs.mapM (r.assign.outputOf E.p) = some r.outputs ∧
      r.nodes = r.nb.map (·.2) ∧
      (∀ nm, some nm ∈ E.p.inputs → ∃ b, r.assign.names nm = some b) := by
  rw [matchX_no_exception_partial E root rm hf8 hbk] at h
  exact match_sound E root rm r hf3 htopo har (Except.ok.inj h)

/-- **Completeness for leftmost instances, exceptions included**: under the hypotheses of
`match_complete_leftmost_partial` `Pattern.match` does not raise and reports the match (and with
`remove_nodes=True` it does not raise and reports one iff the matched nodes are removable). -/
theorem match_complete_leftmost_exc_partial (E : Env) (A : Assign) (root : NodeId) (np0 : NPId)
    (hf3 : E.fixF3 = true) (hf8 : E.fixF8 = true) (hbk : E.p.backOk = true) (hnu : E.p.nuOk) (htopo : E.p.topoDeep)
    (har : E.fixF1 = true ∨ OutputArityOk E.p E.g) (hsingle : E.p.outputNodes = [np0])
    (hroot : OutputsOfRoot E.p np0) (hinst : InstanceL E root A) (hchk : ChecksPass E.p A) :
    ∃ r, patternMatchX E root false = .ok (some r) ∧
      ∃ o, patternMatchX E root true = .ok o ∧ (o.isSome = true ↔ Removable E.g r.nodes r.outputs) := by
  obtain ⟨r, h1, h2⟩ := match_complete_leftmost_partial E A root np0 hf3 hbk hnu htopo har hsingle hroot hinst hchk
  exact ⟨r, by rw [matchX_no_exception_partial E root false hf8 hbk, h1],
    _, matchX_no_exception_partial E root true hf8 hbk, h2⟩

/-- `RewriteRule.commute` hands every variant the rule's own `remove_nodes`: the variant rules are the variants of
`GraphPattern.commute()`, in order, each with `remove_nodes` of the rule it was made from.  No hypotheses — and no
depth: this is the *definition* of the model's `Rule.commute` read back (proof by unfolding).  Its content is the
restatement of `replace_pattern` in `OV.Model.C06Rule`, which the tie compares with the code on every commute
case; it is a lemma for `rule_commute_matches_iff_partial`, not a result about the matcher. -/
theorem rule_commute_variants (fix7a fix7b fix7c : Bool) (r : Rule) (rs : List Rule)
    (h : Rule.commute fix7a r fix7b fix7c = .ok rs) :
    ∃ l, commute fix7a r.p fix7b fix7c = .ok l ∧ rs.map (·.p) = l ∧ ∀ v ∈ rs, v.removeNodes = r.removeNodes := by
  unfold Rule.commute at h
  cases hc : commute fix7a r.p fix7b fix7c with
  | error e => rw [hc] at h; cases h
  | ok l =>
    rw [hc] at h
    cases h
    refine ⟨l, rfl, by simp [List.map_map, Function.comp_def], ?_⟩
    intro v hv
    obtain ⟨q, _, rfl⟩ := List.mem_map.1 hv
    rfl

/-- **`commute=True` end to end for a rule that keeps its nodes** (`remove_nodes=False`): through the entry
`RewriteRule.commute` and the match call of `try_rewrite` — exceptions included — some variant rule reports a match
iff the subgraph is an instance of the pattern under some swap of the operands of its commutative nodes.  In
particular the removability side condition plays no role for any variant.  Composition of `rule_commute_variants`,
`commute_is_swap_variants_partial`, `commute_matches_iff_swap_instance_partial` and `matchX_no_exception_partial`;
hypotheses as there, i.e. a narrow fragment: `namedLeaves` patterns every swap variant of which satisfies the whole
bundle `IffHyps` (`fixF3`, `backOk`, `exclOk`, `topoDeep`, `fixF1` or `OutputArityOk`, one output node with
`OutputsOfRoot`), plus `fixF8`. -/
theorem rule_commute_matches_iff_partial (E : Env) (root : NodeId) (np0 : NPId)
    (fix7a fix7b fix7c : Bool) (rs : List Rule) (hf8 : E.fixF8 = true) (hn : E.p.namedLeaves = true)
    (h : Rule.commute fix7a { p := E.p, removeNodes := false } fix7b fix7c = .ok rs)
    (hH : ∀ m ∈ masks fix7b E.p.nodes, IffHyps E (variantOf E.p m) np0) :
    (∃ v ∈ rs, ∃ r, Rule.tryMatch E v root = .ok (some r)) ↔
      ∃ m ∈ masks fix7b E.p.nodes, ∃ A, Instance { E with p := variantOf E.p m } root A ∧
        ChecksPass (variantOf E.p m) A := by
  obtain ⟨l, hl, hmap, hrm⟩ := rule_commute_variants fix7a fix7b fix7c _ rs h
  rw [← commute_matches_iff_swap_instance_partial E root np0 fix7a fix7b fix7c l hn hl hH]
  have hvar := commute_is_swap_variants_partial fix7a fix7b fix7c E.p l hn hl
  constructor
  · rintro ⟨v, hv, r, hr⟩
    refine ⟨v.p, by rw [← hmap]; exact List.mem_map_of_mem hv, ?_⟩
    have hqv : v.p ∈ (masks fix7b E.p.nodes).map (variantOf E.p) := by
      rw [← hvar, ← hmap]; exact List.mem_map_of_mem hv
    obtain ⟨m, hm, hmv⟩ := List.mem_map.1 hqv
    have hbk : v.p.backOk = true := by rw [← hmv]; exact (hH m hm).bk
    unfold Rule.tryMatch at hr
    rw [hrm v hv, matchX_no_exception_partial { E with p := v.p } root false hf8 hbk] at hr
    rw [Except.ok.inj hr]
    rfl
  · rintro ⟨q, hq, hs⟩
    rw [← hmap] at hq
    obtain ⟨v, hv, rfl⟩ := List.mem_map.1 hq
    have hqv : v.p ∈ (masks fix7b E.p.nodes).map (variantOf E.p) := by
      rw [← hvar, ← hmap]; exact List.mem_map_of_mem hv
    obtain ⟨m, hm, hmv⟩ := List.mem_map.1 hqv
    have hbk : v.p.backOk = true := by rw [← hmv]; exact (hH m hm).bk
    refine ⟨v, hv, ?_⟩
    unfold Rule.tryMatch
    rw [hrm v hv, matchX_no_exception_partial { E with p := v.p } root false hf8 hbk]
    cases hpm : patternMatch { E with p := v.p } root false with
    | none => rw [hpm] at hs; cases hs
    | some r => exact ⟨r, rfl⟩

def f9Alts : List DAlt := [{ domain := "", op := "Neg", tag := 0, np := 0, idx := 0 },
                           { domain := "", op := "Sub", tag := 1, np := 1, idx := 0 }]

/-- finding C06-F9 (a): `Add(OrValue([Neg(x), Sub(x,x)], tag_var="t"), OrValue([OrValue([Neg(x), Sub(x,x)],
tag_var="t"), y]))` against `n = Neg(a); s = Sub(a, a); r = Add(n, s)` -/
def f9a : Env :=
  { p := { inputs := [some "x", some "y"], cond := true,
           nodes := [mkNode "Neg" [some xVar] 1, mkNode "Sub" [some xVar, some xVar] 1,
                     mkNode "Add" [some (.orD 10 none (some "t") f9Alts),
                       some (.orB 12 none none [] [.orD 11 none (some "t") f9Alts,
                                                   .var 13 (some "y") true false none])] 1],
           outputs := [.out 2 0] }
    g := { nodes := [mkGNode "Neg" [some 0] [1], mkGNode "Sub" [some 0, some 0] [2],
                     mkGNode "Add" [some 1, some 2] [3]],
           outputs := [3], consts := [], foreign := [], extUses := [] }
    close := closeEq }

/-- finding C06-F9 (b): `Add(OrValue([Neg(x), Sub(x,x)], tag_var="x"), OrValue([Neg(x), x], tag_var="t"))` (the
tag variable of the dispatch-OR is also the name of a pattern variable) against `n = Neg(a); r = Add(n, n)` -/
def f9b : Env :=
  { p := { inputs := [some "x"], cond := true,
           nodes := [mkNode "Neg" [some xVar] 1, mkNode "Sub" [some xVar, some xVar] 1,
                     mkNode "Add" [some (.orD 10 none (some "x") f9Alts),
                       some (.orB 12 none (some "t") [0, 1] [.out 0 0, xVar])] 1],
           outputs := [.out 2 0] }
    g := { nodes := [mkGNode "Neg" [some 0] [1], mkGNode "Add" [some 1, some 1] [2]],
           outputs := [2], consts := [], foreign := [], extUses := [] }
    close := closeEq }

/-- **Exception freedom fails without `backOk`** (finding C06-F9, open): both exceptions are reachable — the
model's `ValueError("Current match is not successful.")` on witness (a), `NotImplementedError("Merging failed
matches …")` on witness (b); replayed on the real matcher on every run (`corpus_c06.jsonl`). -/
theorem matchX_raises_refuted :
    ¬ ∀ (E : Env) (root : NodeId) (rm : Bool), E.fixF8 = true → ∃ o, patternMatchX E root rm = .ok o := by
  intro h
  obtain ⟨o, ho⟩ := h f9a 2 true rfl
  have : excOf (patternMatchX f9a 2 true) = some .valueError := by decide
  rw [ho] at this
  cases this

example : excOf (patternMatchX f9a 2 true) = some .valueError ∧
    excOf (patternMatchX f9b 1 false) = some .notImplemented ∧
    f9a.p.backOk = false ∧ f9b.p.backOk = false ∧ f9a.fixF8 = true := by decide

/-! ## Non-vacuity -/

/-- `Sub(Neg(x), x)` against `n = Neg(a); y = Sub(n, a)`: the hypotheses of `match_sound_partial`
hold and a match is reported. -/
def okEnv : Env :=
  { p := { inputs := [some "x"], cond := true,
           nodes := [mkNode "Neg" [some xVar] 1, mkNode "Sub" [some (.out 0 0), some xVar] 1],
           outputs := [.out 1 0] }
    g := { nodes := [mkGNode "Neg" [some 0] [1], mkGNode "Sub" [some 1, some 0] [2]],
           outputs := [2], consts := [], foreign := [], extUses := [] }
    close := closeEq }

/-- `Add(OrValue([Neg(x), Abs(x)]), y)` (an OpIdDispatchOr) against `n = Neg(a); s = Add(n, b)` -/
def dispEnv : Env :=
  { p := { inputs := [some "x", some "y"], cond := true,
           nodes := [mkNode "Neg" [some xVar] 1, mkNode "Abs" [some xVar] 1,
                     mkNode "Add" [some (.orD 3 none none
                        [{ domain := "", op := "Neg", tag := 0, np := 0, idx := 0 },
                         { domain := "", op := "Abs", tag := 1, np := 1, idx := 0 }]),
                       some (.var 2 (some "y") true false none)] 1],
           outputs := [.out 2 0] }
    g := { nodes := [mkGNode "Neg" [some 0] [1], mkGNode "Add" [some 1, some 2] [3]],
           outputs := [3], consts := [], foreign := [], extUses := [] }
    close := closeEq }

/-- `Add(OrValue([Neg(x), Abs(x)], tag_var="t"), OrValue([Neg(x), Abs(x)], tag_var=t2))` — two tagged
OpIdDispatchOr values — against `n = Neg(a); m = Abs(a); s = Add(n, m)` -/
def tagEnv (t2 : String) : Env :=
  let alts : List DAlt := [{ domain := "", op := "Neg", tag := 0, np := 0, idx := 0 },
                           { domain := "", op := "Abs", tag := 1, np := 1, idx := 0 }]
  { p := { inputs := [some "x"], cond := true,
           nodes := [mkNode "Neg" [some xVar] 1, mkNode "Abs" [some xVar] 1,
                     mkNode "Add" [some (.orD 3 none (some "t") alts), some (.orD 4 none (some t2) alts)] 1],
           outputs := [.out 2 0] }
    g := { nodes := [mkGNode "Neg" [some 0] [1], mkGNode "Abs" [some 0] [2], mkGNode "Add" [some 1, some 2] [3]],
           outputs := [3], consts := [], foreign := [], extUses := [] }
    close := closeEq }

/-- `match_sound` covers what `backOk` excluded: tagged dispatch ORs.  With two tag variables the pattern is
matched and both tags are bound; with one shared tag variable the second `bind` clashes, its result is
ignored by `_match_value`, the partial match is failed and no match is reported. -/
example : (tagEnv "u").p.backOk = false ∧ (tagEnv "u").fixF3 = true ∧ (tagEnv "u").fixF1 = true ∧
    (tagEnv "u").p.topoDeep ∧
    (patternMatch (tagEnv "u") 2 true).map (fun r => r.bindings) =
      some [("x", .val 0), ("t", .tag 0), ("u", .tag 1)] ∧
    patternMatch (tagEnv "t") 2 true = none ∧ (matcherMatch (tagEnv "t") 2 true).ok = false := by
  exact ⟨by decide, rfl, rfl, GPat.topoDeep_of_check (by decide), by decide, by decide, by decide⟩

/-- `match_sound_partial` applies to a pattern with a dispatch OR, and that pattern matches -/
example : dispEnv.p.dispOk = true ∧ dispEnv.p.noOr = false ∧ dispEnv.p.topoDeep ∧
    (patternMatch dispEnv 1 true).isSome = true := by
  exact ⟨by decide, by decide, GPat.topoDeep_of_check (by decide), by decide⟩

example : okEnv.p.noOr = true ∧ okEnv.p.topo ∧ OutputArityOk okEnv.p okEnv.g ∧
    (patternMatch okEnv 1 true).isSome = true := by
  refine ⟨by decide, GPat.topo_of_topoDeep (GPat.topoDeep_of_check (by decide)), ?_, by decide⟩
  · intro P hP N hN _ _
    simp [okEnv, mkNode] at hP
    simp [okEnv, mkGNode] at hN
    rcases hP with rfl | rfl <;> rcases hN with rfl | rfl <;> simp

def okAssign : Assign :=
  { names := fun k => if k = "x" then some (.val 0) else none
    node := fun np => if np = 0 then some 0 else if np = 1 then some 1 else none
    leaf := fun k => if k = .outp 0 0 then some (some 1) else if k = .outp 1 0 then some (some 2) else none }

/-- the hypotheses of `match_complete_partial` are satisfiable: `Sub(Neg(x), x)` on its instance -/
example : okEnv.p.noOr = true ∧ okEnv.p.outputNodes = [1] ∧ OutputsOfRoot okEnv.p 1 ∧
    Instance okEnv 1 okAssign ∧ ChecksPass okEnv.p okAssign := by
  refine ⟨by decide, by decide, fun vp hvp => ?_,
    instance_of_solve (GPat.topoDeep_of_check (by decide)) rfl (by decide),
    checksPass_of_all _ (by decide) (by decide)⟩
  cases List.mem_singleton.1 hvp
  exact ⟨0, _, rfl, rfl, by decide⟩

/-- two output nodes: `(Neg(x), Abs(x))` against `n = Neg(a); m = Abs(a)` -/
def multiEnv : Env :=
  { p := { inputs := [some "x"], cond := true,
           nodes := [mkNode "Neg" [some xVar] 1, mkNode "Abs" [some xVar] 1],
           outputs := [.out 0 0, .out 1 0] }
    g := { nodes := [mkGNode "Neg" [some 0] [1], mkGNode "Abs" [some 0] [2]],
           outputs := [1, 2], consts := [], foreign := [], extUses := [] }
    close := closeEq }

def multiAssign : Assign :=
  { names := fun k => if k = "x" then some (.val 0) else none
    node := fun np => if np = 0 then some 0 else if np = 1 then some 1 else none
    leaf := fun k => if k = .outp 0 0 then some (some 1) else if k = .outp 1 0 then some (some 2) else none }

/-- the hypotheses of `match_complete_multi_partial` are satisfiable by a pattern with two output nodes -/
example : multiEnv.p.outputNodes = [0, 1] ∧ multiEnv.p.noOr = true ∧ multiEnv.p.checksOk = true ∧
    OutputsOfOutputNodes multiEnv.p ∧ LaterOutputsIdentified multiEnv.p ∧ NoOverloads multiEnv.g ∧
    Instance multiEnv 0 multiAssign ∧ (patternMatch multiEnv 0 false).isSome = true := by
  refine ⟨by decide, by decide, by decide, ?_, ?_, ?_,
    instance_of_solve (GPat.topoDeep_of_check (by decide)) rfl (by decide), by decide⟩
  · intro vp hvp
    simp [multiEnv] at hvp
    rcases hvp with rfl | rfl
    · exact ⟨0, 0, _, rfl, by decide, rfl, by decide⟩
    · exact ⟨1, 0, _, rfl, by decide, rfl, by decide⟩
  · intro np hnp
    have : np = 1 := by
      have h : multiEnv.p.outputNodes = [0, 1] := by decide
      simpa [h] using hnp
    subst this
    exact ⟨_, "", "Abs", rfl, by decide⟩
  · intro N hN
    simp [multiEnv, mkGNode] at hN
    rcases hN with rfl | rfl <;> rfl

example : NamedVarsUnchecked okEnv.p ∧ NamedVarsUnchecked multiEnv.p := by
  constructor <;>
  · intro P hP vp hin _
    simp [okEnv, multiEnv, mkNode] at hP
    rcases hP with rfl | rfl <;> simp [xVar] at hin <;> (try rcases hin with rfl | rfl) <;> (try subst hin) <;> rfl

/-- `Add(OrValue([Neg(x), Constant(5)]), z)`: a BacktrackingOr whose alternatives are exclusive in a graph
without constants, against `n = Neg(a); s = Add(n, b)` -/
def exEnv : Env :=
  { p := { inputs := [some "x", some "z"], cond := true,
           nodes := [mkNode "Neg" [some xVar] 1,
                     mkNode "Add" [some (.orB 4 none none [0, 1]
                        [.out 0 0, .const 5 { val := .scalar 5, relTol := ⟨1, 100000⟩, absTol := ⟨1, 100000000⟩ }]),
                       some (.var 3 (some "z") true false none)] 1],
           outputs := [.out 1 0] }
    g := { nodes := [mkGNode "Neg" [some 0] [1], mkGNode "Add" [some 1, some 2] [3]],
           outputs := [3], consts := [], foreign := [], extUses := [] }
    close := closeEq }

def exAssign : Assign :=
  { names := fun k => if k = "x" then some (.val 0) else if k = "z" then some (.val 2) else none
    node := fun np => if np = 0 then some 0 else if np = 1 then some 1 else none
    leaf := fun k => if k = .leaf 4 then some (some 1) else if k = .outp 0 0 then some (some 1)
                     else if k = .outp 1 0 then some (some 3) else none }

/-- the hypotheses of `match_complete_or_partial` are satisfiable by a pattern with a BacktrackingOr -/
example : exEnv.fixF3 = true ∧ exEnv.p.backOk = true ∧ exEnv.p.dispOk = false ∧ GPat.exclOk exEnv ∧
    exEnv.p.outputNodes = [1] ∧ OutputsOfRoot exEnv.p 1 ∧ Instance exEnv 1 exAssign ∧
    ChecksPass exEnv.p exAssign ∧ (patternMatch exEnv 1 true).isSome = true := by
  refine ⟨rfl, by decide, by decide, ?_, by decide, ?_,
    instance_of_solve (GPat.topoDeep_of_check (by decide)) rfl (by decide),
    checksPass_of_all _ (by decide) (by decide), by decide⟩
  · intro P hP vp hin
    simp [exEnv, mkNode] at hP
    rcases hP with rfl | rfl
    · simp [xVar] at hin; subst hin; exact ⟨trivial, rfl⟩
    · simp at hin
      rcases hin with rfl | rfl
      · refine ⟨⟨?_, trivial, trivial, trivial⟩, rfl⟩
        intro v i j ai aj hij hi hj hsat
        have hj1 : j = 1 := by
          match j, hj with
          | 0, _ => omega
          | 1, _ => rfl
          | k + 2, hj => simp at hj
        subst hj1
        simp at hj
        subst hj
        obtain ⟨A', hs'⟩ := hsat
        cases hs' with
        | const _ _ x cv _ hc _ => simp [exEnv, Graph.constOf] at hc
      · exact ⟨trivial, rfl⟩
  · intro vp hvp
    cases List.mem_singleton.1 hvp
    exact ⟨0, _, rfl, rfl, by decide⟩

/-- `exEnv` also satisfies the remaining hypotheses of `match_complete_or_partial` / `match_iff_instance_partial` -/
example : exEnv.p.topoDeep ∧ exEnv.fixF1 = true :=
  ⟨GPat.topoDeep_of_check (by decide), rfl⟩

/-- the D11 pattern `Add(OrValue([Neg(x), x]), x)` against `n = Neg(a); y = Add(n, a)`: the instance takes
the first alternative -/
def lmEnv : Env := { d11 with g := { nodes := [mkGNode "Neg" [some 0] [1], mkGNode "Add" [some 1, some 0] [2]],
                                     outputs := [2], consts := [], foreign := [], extUses := [] } }

def lmAssign : Assign :=
  { names := fun k => if k = "x" then some (.val 0) else none
    node := fun np => if np = 0 then some 0 else if np = 1 then some 1 else none
    leaf := fun k => if k = .leaf 2 then some (some 1) else if k = .outp 0 0 then some (some 1)
                     else if k = .outp 1 0 then some (some 2) else none }

/-- `match_complete_leftmost_partial` is not vacuous and says more than `match_complete_or_partial`: the
alternatives of the D11 pattern are *not* exclusive (`Neg`'s output satisfies both), `lmAssign` is a
leftmost instance, and the match is reported -/
example : InstanceL lmEnv 1 lmAssign ∧ ChecksPass lmEnv.p lmAssign ∧ ¬ GPat.exclOk lmEnv ∧
    lmEnv.p.backOk = true ∧ lmEnv.p.nuOk ∧ lmEnv.p.outputNodes = [1] ∧ OutputsOfRoot lmEnv.p 1 ∧
    (patternMatch lmEnv 1 true).isSome = true := by
  have hx : SatVL lmEnv lmAssign xVar (some 0) :=
    .var 1 (some "x") true false none (some 0)
      (by decide) (by intro h; cases h) (fun _ _ _ => rfl)
  have hn0 : SatNL lmEnv lmAssign 0 0 := by
    refine .mk 0 0 (mkNode "Neg" [some xVar] 1) (mkGNode "Neg" [some 0] [1]) rfl rfl rfl
      (by decide) (by decide) ?_ (.inl (by decide)) ?_ ?_ ?_
    · exact ⟨fun name ap h => by simp [mkNode] at h, fun h => by simp [mkNode] at h⟩
    · intro i h
      match i with
      | 0 => cases h
      | n + 1 => cases h
    · intro i vp h
      match i with
      | 0 => cases h; exact hx
      | n + 1 => cases h
    · intro i hi
      have : i = 0 := by simp [mkNode] at hi; omega
      subst this
      exact ⟨1, rfl, by decide⟩
  have ho : SatVL lmEnv lmAssign (.out 0 0) (some 1) :=
    .out 0 0 1 0 (by decide) (by decide) (by decide) (by decide) hn0
  have hor : SatVL lmEnv lmAssign (.orB 2 none none [0, 1] [.out 0 0, xVar]) (some 1) :=
    .orB 2 none none [0, 1] _ (some 1) 0 (.out 0 0)
      (by decide) (fun x hx => by cases hx; decide) rfl ho (by intro t h; cases h)
      (fun j hj => absurd hj (Nat.not_lt_zero _))
  have hn1 : SatNL lmEnv lmAssign 1 1 := by
    refine .mk 1 1 (mkNode "Add" [some (.orB 2 none none [0, 1] [.out 0 0, xVar]), some xVar] 1)
      (mkGNode "Add" [some 1, some 0] [2]) rfl rfl rfl (by decide) (by decide) ?_ (.inl (by decide)) ?_ ?_ ?_
    · exact ⟨fun name ap h => by simp [mkNode] at h, fun h => by simp [mkNode] at h⟩
    · intro i h
      match i with
      | 0 => cases h
      | 1 => cases h
      | n + 2 => cases h
    · intro i vp h
      match i with
      | 0 => cases h; exact hor
      | 1 => cases h; exact hx
      | n + 2 => cases h
    · intro i hi
      have : i = 0 := by simp [mkNode] at hi; omega
      subst this
      exact ⟨2, rfl, by decide⟩
  have hon : lmEnv.p.outputNodes = [1] := by decide
  refine ⟨⟨⟨fun np h => ?_, fun np h => ?_, rfl⟩, fun np h n hn => ?_⟩,
    checksPass_of_all _ (by decide) (by decide), ?_, by decide, ?_, hon, ?_, by decide⟩
  · cases Option.some.inj (hon ▸ h); rfl
  · cases List.mem_singleton.1 (hon ▸ h)
    exact ⟨1, rfl, hn1.toSatN⟩
  · cases List.mem_singleton.1 (hon ▸ h)
    cases (Option.some.inj hn : 1 = n)
    exact hn1
  · intro hex
    have h1 := (hex (mkNode "Add" [some (.orB 2 none none [0, 1] [.out 0 0, xVar]), some xVar] 1)
      (by simp [lmEnv, d11]) (.orB 2 none none [0, 1] [.out 0 0, xVar]) (by simp [mkNode])).1
    simp only [VPat.excl] at h1
    have hx1 : SatV lmEnv { lmAssign with names := fun k => if k = "x" then some (.val 1) else none } xVar (some 1) :=
      .var 1 (some "x") true false none (some 1)
        (by decide) (by intro h; cases h) (fun _ _ _ => rfl)
    exact h1.1 (some 1) 0 1 (.out 0 0) xVar (by decide) rfl rfl ⟨_, hx1⟩ lmAssign ho.toSatV
  · intro P hP vp hin
    simp [lmEnv, d11, mkNode] at hP
    rcases hP with rfl | rfl
    · simp [xVar] at hin; subst hin; rfl
    · simp at hin
      rcases hin with rfl | rfl <;> rfl
  · intro vp hvp
    cases List.mem_singleton.1 hvp
    exact ⟨0, _, rfl, rfl, by decide⟩

/-- what finding C06-D11 is, exactly, on its witness: `d11Assign` is an instance (`d11_is_instance`) but the
subgraph has *no leftmost* instance — every instance needs the second alternative at a value the first one
also describes — and that is the only way `match_complete_leftmost_partial` lets a match be missed -/
example : ¬ ∃ A, InstanceL d11 1 A ∧ ChecksPass d11.p A := by
  rintro ⟨A, hi, hc⟩
  have hnu : d11.p.nuOk := by
    intro P hP vp hin
    simp [d11, mkNode] at hP
    rcases hP with rfl | rfl
    · simp [xVar] at hin; subst hin; rfl
    · simp at hin
      rcases hin with rfl | rfl <;> rfl
  have hroot : OutputsOfRoot d11.p 1 := by
    intro vp hvp
    cases List.mem_singleton.1 hvp
    exact ⟨0, _, rfl, rfl, by decide⟩
  obtain ⟨r, hr, _⟩ := match_complete_leftmost_partial d11 A 1 1 rfl (by decide) hnu
    (GPat.topoDeep_of_check (by decide)) (.inl rfl) (by decide) hroot hi hc
  have hnone : patternMatch d11 1 false = none := by decide
  rw [hnone] at hr
  cases hr

def f2Pat : GPat :=
  { inputs := [some "x"], cond := true,
    nodes := [mkNode "Neg" [some (.var 1 (some "x") true false (some false))] 1],
    outputs := [.out 0 0] }

/-- finding C06-F2 (fixed in /repo 9ec39fb): before the repair (`fixF2 := false`) the check of a
*named* `Var` was never evaluated and `Neg(Var("x", check=False))` matched; the repaired revision
(default) runs the check -/
example : (patternMatch { p := f2Pat, g := okEnv.g, close := closeEq, fixF2 := false } 0 true).isSome = true ∧
    (patternMatch { p := f2Pat, g := okEnv.g, close := closeEq } 0 true).isSome = false := by
  decide

def addPat : GPat :=
  { inputs := [some "x"], cond := true,
    nodes := [mkNode "Add" [some xVar, some (.var 2 (some "y") true false none)] 1],
    outputs := [.out 0 0] }

def mulConstPat : GPat :=
  { inputs := [some "x"], cond := true,
    nodes := [mkNode "Mul" [some xVar, some (.const 2
      { val := .scalar 1000, relTol := ⟨1, 100000⟩, absTol := ⟨1, 100000000⟩ })] 1],
    outputs := [.out 0 0] }

/-- `commute` on `Mul(x, Constant(1000))` has a swapped variant that holds the constant
(so `clone_preserves_constant` is not vacuous) -/
example : ((commute true mulConstPat).toOption.map (fun l => l.map (fun q => q.nodes.map NPat.consts))) =
    some [[[{ val := .scalar 1000, relTol := ⟨1, 100000⟩, absTol := ⟨1, 100000000⟩ }]],
          [[{ val := .scalar 1000, relTol := ⟨1, 100000⟩, absTol := ⟨1, 100000000⟩ }]]] := by decide

/-- `Sub(a, b)`-free host for the commute examples: `s = Add(a, b)` -/
def addEnv : Env :=
  { p := addPat
    g := { nodes := [mkGNode "Add" [some 0, some 1] [2]], outputs := [2], consts := [], foreign := [], extUses := [] }
    close := closeEq }

/-- `commute_is_swap_variants_partial` / `commute_matches_iff_swap_instance_partial` are not vacuous: `Add(x, y)`
has named leaves, `commute` succeeds with two variants, and both variants satisfy `IffHyps` -/
example : addPat.namedLeaves = true ∧ (commute true addPat true false).toOption.isSome = true ∧
    masks true addPat.nodes = [[false], [true]] ∧
    (∀ m ∈ masks true addEnv.p.nodes, IffHyps addEnv (variantOf addEnv.p m) 0) := by
  refine ⟨by decide, by decide, by decide, ?_⟩
  intro m hm
  have hm' : m = [false] ∨ m = [true] := by
    have : masks true addEnv.p.nodes = [[false], [true]] := by decide
    rw [this] at hm
    simpa using hm
  have key : ∀ q : GPat, q.nodes.length = 1 →
      (∀ P ∈ q.nodes, ∀ vp, some vp ∈ P.inputs → vp = xVar ∨ vp = .var 2 (some "y") true false none) →
      q.backOk = true → q.outputNodes = [0] → q.outputs = [.out 0 0] →
      (∀ P, q.nodes[0]? = some P → P.outputs.length = 1) → IffHyps addEnv q 0 := by
    intro q hlen hin hbk hon hout hol
    refine ⟨rfl, hbk, ?_, ?_, .inl rfl, hon, ?_⟩
    · intro P hP vp hvp
      rcases hin P hP vp hvp with rfl | rfl <;> exact ⟨trivial, rfl⟩
    · intro np P hP vp hvp r hr
      rcases hin P (List.mem_of_getElem? hP) vp hvp with rfl | rfl <;> simp [VPat.refs, xVar] at hr
    · intro vp hvp
      rw [hout] at hvp
      simp at hvp
      subst hvp
      have hlt : 0 < q.nodes.length := by omega
      refine ⟨0, q.nodes[0], rfl, by simp [List.getElem?_eq_getElem hlt], ?_⟩
      have := hol q.nodes[0] (by simp [List.getElem?_eq_getElem hlt])
      omega
  rcases hm' with rfl | rfl
  · refine key _ (by decide) ?_ (by decide) (by decide) rfl ?_
    · intro P hP vp hvp
      simp [variantOf, addEnv, addPat, mkNode] at hP
      subst hP
      simpa [xVar] using hvp
    · intro P hP
      simp [variantOf, addEnv, addPat, mkNode] at hP
      subst hP; rfl
  · refine key _ (by decide) ?_ (by decide) (by decide) rfl ?_
    · intro P hP vp hvp
      simp [variantOf, swapPat, swapNode, addEnv, addPat, mkNode] at hP
      subst hP
      simp [xVar] at hvp
      rcases hvp with rfl | rfl
      · exact .inr rfl
      · exact .inl rfl
    · intro P hP
      simp [variantOf, swapPat, swapNode, addEnv, addPat, mkNode] at hP
      subst hP; rfl

/-- `rule_commute_variants` / `rule_commute_matches_iff_partial` are not vacuous: the rule `Add(x, y)` with
`remove_nodes=False` commutes into two rules, both keep `remove_nodes=False`, both report a match on `addEnv`
(the remaining hypotheses `namedLeaves`, `IffHyps` are those of the example above) -/
example : addEnv.fixF8 = true ∧
    ((Rule.commute true { p := addEnv.p, removeNodes := false } true false).toOption.map
      (fun rs => rs.map (fun v => (v.removeNodes, ((Rule.tryMatch addEnv v 0).toOption.map (·.isSome)))))) =
      some [(false, some true), (false, some true)] := by decide

/-- `commute_variant_instances_partial` is not vacuous: the swapped copy of `Add(x, y)` exists -/
example : (copyGraph true addPat [true] false).toOption.isSome = true ∧ addPat.namedLeaves = true := by decide

/-- `commute` on `Add(x, y)`: two variants (so `commute_exact` is not vacuous). -/
example : (commute true addPat).toOption.map List.length = some 2 := by decide

/-- outside `backOk` without exception: two tagged dispatch-ORs, nothing raised, match reported (`tagEnv "u"`) or not
(`tagEnv "t"`); non-vacuity of `matchX_no_exception_partial` / `match_sound_exc_partial` / `match_complete_leftmost_exc_partial`:
`orEnv`, `lmEnv` (BacktrackingOr, `backOk`) -/
example : (tagEnv "u").p.backOk = false ∧ excOf (patternMatchX (tagEnv "u") 2 true) = none ∧
    ((patternMatchX (tagEnv "u") 2 true).toOption.map (·.isSome)) = some true ∧
    ((patternMatchX (tagEnv "t") 2 true).toOption.map (·.isSome)) = some false ∧
    orEnv.p.backOk = true ∧ orEnv.fixF8 = true ∧ lmEnv.p.backOk = true ∧
    ((patternMatchX lmEnv 1 true).toOption.map (·.isSome)) = some true := by decide

end OV.Props.C06
