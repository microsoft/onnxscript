import OV.Lemmas.C14Globals
import OV.Gen.C14Stash
import OV.Gen.C14Globals
/-!
# C14 — results are deterministic and independent of what the process did before

Property theorems only.  Model: `OV.Model.C14History`, `OV.Model.C14Globals`.  Generated tables, rebuilt from
`/repo` on every run: `OV.Gen.C14Stash` (rule classes and `Converter` facts, by `harness/extract_stash.py`) and
`OV.Gen.C14Globals` (process-wide objects, entry classes, set iterations, by `harness/c14_globals.py`).
-/
namespace OV.Props.C14
open OV.C14

/-! ## Rule singletons -/

/-- **Table theorem (re-checked against the current source on every run).**  In every rule class under
`rewriter/rules/common` and `rewriter/rules/fusion`, each instance field read by `rewrite()` is
definitely assigned by `check()` on every path that can return success, `check()` reads no field before
assigning it, and nothing accesses `self` dynamically.  The quantifier is the whole table. -/
theorem stash_write_before_read : ∀ r ∈ OV.Gen.C14Stash.rules, r.ok = true := by
  decide +kernel

/-- Same discipline for every class under `rewriter/ort_fusions`, except `CosSinCacheFusion`, whose
`rewrite` deliberately keeps a per-graph cache (`_inv_freq_cos_sin_cache`, cleared by `cleanup()`) and
reads the user-configurable `_max_pos_id`; that class is outside the claim. -/
theorem ort_stash_write_before_read :
    ∀ r ∈ OV.Gen.C14Stash.ortRules, r.name ≠ "cos_sin_cache.CosSinCacheFusion" → r.ok = true :=
  List.all_but_named (by decide +kernel)

/-- The table is not empty and contains the stashing rules the property names. -/
example : (OV.Gen.C14Stash.rules.filter (fun r => !r.rewriteReads.isEmpty)).length ≥ 6 := by decide +kernel

/-- **One `try_rewrite`**: for a rule obeying the discipline, whatever earlier matches (of this or any
other model, successful, failed half-way, or interrupted by an exception) left on the rule object, the
replacement produced for a match is the same. -/
theorem try_rewrite_history_independent {I O : Type} (spec : RuleSpec) (b : RuleBeh I O)
    (hok : spec.ok = true) (hr : Respects spec b) (s s' : Stash) (i : I)
    (hag : AgreeOn spec.consts s s') :
    (tryRewrite b s i).2 = (tryRewrite b s' i).2 :=
  tryRewrite_indep hok hr s s' i hag

/-- The discipline is what makes this true: a rule whose `check` assigns `_n` only on one of its two
success paths (`check` succeeds on input 0 without assigning) and whose `rewrite` returns `_n` gives a
different replacement after a history that matched input 7. -/
theorem history_dependent_without_discipline :
    ∃ (w : World Nat Int) (H T : RewriteOp Nat Int) (σ₀ : Sigma),
      lastRes w σ₀ [ProcOp.rewrite H, ProcOp.rewrite T] ≠ lastRes w σ₀ [ProcOp.rewrite T] := by
  let b : RuleBeh Nat Int :=
    { check := fun _ i => (true, if i = 0 then [] else [("_n", (i : Int))])
      rewrite := fun s _ => (some ((s "_n").getD (-1)), []) }
  let mk (i : Nat) : RewriteOp Nat Int :=
    { strat := fun acc => if acc.isEmpty then .attempt 0 i else .done, fuel := 2 }
  refine ⟨{ rules := [({ name := "bad", rewriteReads := ["_n"] }, b)] }, mk 7, mk 0,
    ⟨fun _ => Stash.empty, {}, [], 0⟩, ?_⟩
  decide +kernel

/-! ## Constant-folding pass object -/

/-- `FoldConstantsPass.call` on a reused pass object: the result does not depend on the state the
previous call (completed or interrupted) left behind — because `call` starts with `_reset()`.
**Holds by `rfl`, i.e. by the shape of the model** (`foldCall` is defined as reset-then-body): the content is the
model ↔ code tie (entry row of `FoldConstantsPass`: no read before `_reset`; `fold` driver stream; per-call
traces), not the proof. -/
theorem fold_reset (st st' : FoldState) (m : List FoldNode) : (foldCall st m).2 = (foldCall st' m).2 := rfl

/-- Without the reset the same body is history dependent (`_modified` sticks, stale symbolic values
are found): what `fold_reset` rules out. -/
theorem fold_without_reset_refuted :
    ¬ ∀ (st st' : FoldState) (m : List FoldNode), (foldBody st m).2 = (foldBody st' m).2 := by
  intro h
  have := h {} { modified := true, symMap := [(3, 9)] } [.keep 1, .useSym 3]
  revert this; decide +kernel

/-! ## Opset interning -/

/-- `values.Opset(domain, version)` returns an object whose observable fields are the requested ones,
whatever the cache holds (i.e. whatever opsets earlier scripts created). -/
theorem opset_interning_pure (cache : List OpsetKey) (k : OpsetKey) :
    (intern cache k).2 = (k.domain, k.version) := intern_fields cache k

/-- … and afterwards the key is cached, so a second request returns the first instance. -/
theorem opset_interning_cached (cache : List OpsetKey) (k : OpsetKey) : k ∈ (intern cache k).1 := by
  rw [intern_eq]
  split <;> simp [*]

/-! ## `pattern_builder` -/

/-- With `try/finally` (current code) the global builder after `with pattern_builder(b): body` is the
one before it — for every body: any nesting depth, any number of sugar uses, an exception anywhere. -/
theorem pattern_builder_restored (g b : Nat) (body : List BEv) : (withBuilder true g b body).global = g := by
  unfold withBuilder
  exact runEvent_global _ _

/-- … and so is it after any sequence of such constructions, each possibly raising. -/
theorem pattern_builder_restored_seq (st : BState) (es : List BEv) : (runEvents true st es).global = st.global :=
  runEvents_global st es

/-- The code before commit 096e584 (no `try/finally`): an exception inside the body leaves the global
swapped — D12, kept as the documented refutation; the real witness is replayed on every run. -/
theorem pattern_builder_prefix_refuted :
    ¬ ∀ (g b : Nat) (body : List BEv), (withBuilder false g b body).global = g := by
  intro h
  have := h 0 5 [.sugar, .raise]
  revert this; decide +kernel

/-! ## Converter: set iteration order -/

/-- **`sorted`**: the If/Loop output order *and* the generated output names are the same for every
iteration order of the set of live definitions (= for every `PYTHONHASHSEED`), for every set. -/
theorem sorted_perm_invariant (st : NameState) (l₁ l₂ : List String) (h : l₁.Perm l₂) :
    ctrlOutputs true st l₁ = ctrlOutputs true st l₂ := by
  unfold ctrlOutputs
  simp only [if_true]
  rw [List.mergeSort_eq_of_perm leStr_trans leStr_total leStr_antisymm h]

example : ctrlOutputs true ⟨["x", "a"], 0⟩ ["b", "a"] = (["a", "b"], ["a_0", "b"], ⟨["b", "a_0", "x", "a"], 1⟩) := by
  rw [sorted_perm_invariant _ ["b", "a"] ["a", "b"] (List.Perm.swap "a" "b" [])]
  have hs : ["a", "b"].mergeSort leStr = ["a", "b"] := List.mergeSort_of_pairwise (by decide)
  simp only [ctrlOutputs, if_true, hs]
  decide +kernel

/-- `list(set)` (the code before commit ece9697): order and names follow the iteration order — D8. -/
theorem order_independent_prefix_refuted :
    ¬ ∀ (st : NameState) (l₁ l₂ : List String), l₁.Perm l₂ → ctrlOutputs false st l₁ = ctrlOutputs false st l₂ := by
  intro h
  have := h ⟨[], 0⟩ ["a", "b"] ["b", "a"] (List.Perm.swap "b" "a" [])
  revert this; decide +kernel

/-! ## Rewriter: opset imports of a replacement -/

/-- **Table fact, not a theorem about the state machine**: the proof only reads a value the AST translator wrote
into the generated file; the whole content is the translator's output (trusted, regenerated on every run).
Re-read from `rewriter/_rewrite_rule.py` on every run: `_update_opset_imports`
iterates `sorted(delta.used_opsets, …)` (commit 630be50).  A bare set iteration makes this theorem fail:
a regression of C14-N2. -/
theorem opset_imports_iterated_sorted : OV.Gen.C14Stash.converterFacts.opsetImportsSorted = true := by decide +kernel

/-- **Opset imports added by a rewrite do not depend on the hash seed** (the code as it is): the imports
after a replacement are the same for every iteration order of the set `TapeBuilder.used_opsets`, for every
set (any number of new domains, with or without versions) and every existing import list. -/
theorem opset_imports_sorted_perm_invariant (imports : List (String × Nat)) (l₁ l₂ : List UsedOpset)
    (h : l₁.Perm l₂) :
    updateOpsetImports true imports l₁ = updateOpsetImports true imports l₂ := by
  unfold updateOpsetImports
  simp only [if_true]
  rw [List.mergeSort_eq_of_perm leOpset_trans leOpset_total leOpset_antisymm h]

example : updateOpsetImports true [("", 18)] [("custom.ext", none), ("com.microsoft", none)]
    = updateOpsetImports true [("", 18)] [("com.microsoft", none), ("custom.ext", none)] :=
  opset_imports_sorted_perm_invariant _ _ _ (List.Perm.swap _ _ [])

/-- The function BEFORE commit 630be50 (bare iteration of the set; finding C14-N2, fixed): two or more
new domains were appended in hash-seed order.  Kept as the documented refutation of the pre-fix code;
the real witness is a regression pair of every run. -/
theorem opset_imports_order_prefix_refuted :
    ¬ ∀ (imports : List (String × Nat)) (l₁ l₂ : List UsedOpset), l₁.Perm l₂ →
        updateOpsetImports false imports l₁ = updateOpsetImports false imports l₂ := by
  intro h
  have := h [("", 18)] [("com.microsoft", none), ("custom.ext", none)]
    [("custom.ext", none), ("com.microsoft", none)] (List.Perm.swap _ _ [])
  revert this; decide +kernel

/-- … and what held for that pre-fix function: with at most one used opset there is nothing to order. -/
theorem opset_imports_order_prefix_partial (imports : List (String × Nat)) (l₁ l₂ : List UsedOpset)
    (h : l₁.Perm l₂) (hlen : l₁.length ≤ 1) :
    updateOpsetImports false imports l₁ = updateOpsetImports false imports l₂ := by
  have : l₁ = l₂ := by
    match l₁, hlen with
    | [], _ => exact (List.Perm.nil_eq h)
    | [a], _ => exact List.singleton_perm.1 h
  rw [this]

/-- **Fresh value names do not depend on the models rewritten before** with the same rule set object:
`apply_to_model` recomputes the name set from the model at hand.  **Holds by `rfl`, by the shape of the model**
(`applyNames true` ignores the old state): the content is the tie (entry row of `RewriteRuleSet`, `fresh` driver
stream), not the proof. -/
theorem value_names_reset (state state' modelNames : List String) (k : Nat) :
    (applyNames true state modelNames k).1 = (applyNames true state' modelNames k).1 := rfl

/-- A rule set that kept the names of earlier models would name the next model's new values differently. -/
theorem value_names_accumulating_refuted :
    ¬ ∀ (state state' modelNames : List String) (k : Nat),
        (applyNames false state modelNames k).1 = (applyNames false state' modelNames k).1 := by
  intro h
  have := h ["val_1"] [] ["x"] 1
  revert this; decide +kernel

example : (applyNames true ["val_7"] ["val_1", "x", "val_2"] 2).1 = ["val_3", "val_4"] := by decide +kernel

/-! ## Globals, protos, eager calls -/

/-- Protos are a function of the globals *at decoration*: whatever the module globals are later
(`toProto` does not take them), any number `n` of `to_model_proto`/`to_function_proto` calls return the decoration-time IR. -/
theorem globals_frozen_rebinding (g : Globals) (body : SExp) (n : Nat) :
    ∀ p, p ∈ (iterProto n (decorate g body)).1 → p = translate g body :=
  (iterProto_spec n (decorate g body)).2

/-- **Table fact, not a theorem about the state machine**: the proof only reads a value the AST translator wrote
into the generated file; the whole content is the translator's output (trusted, regenerated on every run).
Re-read from `converter.py` on every run: no method of `Converter` hands the
user's object straight to `ir.tensor(...)`; every tensor constant is snapshotted when it is created
(commit b4400e5).  A non-empty list makes this theorem fail: a regression of C14-N1. -/
theorem constants_snapshotted : OV.Gen.C14Stash.converterFacts.constByRefSites = [] := by decide +kernel

/-- **Script-time constants are fixed when the decorator runs** — full statement for the code as it is
(after b4400e5): globals may be numbers or *mutable objects* (numpy arrays, TensorProtos, living in a heap of cells);
whatever those objects contain later (`cells'`: any in-place mutation of any of them), the proto is the
decoration-time one. -/
theorem globals_frozen (g : RGlobals) (cells cells' : Cells) (body : SExp) :
    (translateR true g cells body).toProto cells' = (translateR true g cells body).toProto cells :=
  translateR_frozen true g cells cells' body fun _ _ _ _ => rfl

/-- The code before commit b4400e5 wrapped the user's array by reference (finding C14-N1, fixed):
`W = [1]; f = script(x + W); W[...] = 9` changed later protos.  Kept as the documented refutation; the real
witness is replayed on every run. -/
theorem globals_frozen_by_reference_prefix_refuted :
    ¬ ∀ (g : RGlobals) (cells cells' : Cells) (body : SExp),
        (translateR false g cells body).toProto cells' = (translateR false g cells body).toProto cells := by
  intro h
  have := h [("W", .ref 0)] (fun _ => 1) (fun _ => 9) (.add .x (.glob "W"))
  revert this; decide +kernel

/-- … and what held for that code: frozen when no mentioned global is a mutable object. -/
theorem globals_frozen_prefix_partial (g : RGlobals) (cells cells' : Cells) (body : SExp)
    (h : NoSharedMutablePayload g body) :
    (translateR false g cells body).toProto cells' = (translateR false g cells body).toProto cells :=
  translateR_frozen false g cells cells' body fun n hn c hl => absurd hl (h n hn c)

example : NoSharedMutablePayload [("K", .imm 2), ("W", .ref 0)] (.mul .x (.glob "K")) := by
  intro n hn c
  simp only [SExp.globalsOf, List.nil_append, List.mem_singleton] at hn
  subst hn
  simp [List.lookup]

/-- `to_model_proto()ⁿ`: identical results and the function object unchanged, for every `n`. -/
theorem to_model_proto_idempotent (n : Nat) (f : OnnxFn) :
    (iterProto n f).2 = f ∧ ∀ p, p ∈ (iterProto n f).1 → p = (toProto f).1 :=
  iterProto_spec n f

/-- `to_model_proto(**overrides)` never writes the function's (decorator's) kwargs dict: after any
history of calls — on the function itself or on any other function, sharing the dict or not, with any
overrides — every dict is what it was. ("without modifying the function") -/
theorem to_model_proto_kwargs_unchanged (h : KWHeap) (H : List (PFn × KW)) : runCalls false h H = h := by
  induction H generalizing h with
  | nil => rfl
  | cons c cs ih => simp only [runCalls, callProto, Bool.false_eq_true, if_false, ih]

/-- **Overrides are per call.**  For every history `H` of `to_model_proto(**o')` calls on `f` and on
siblings created by the same decorator object (or any other function), the result of
`f.to_model_proto(**o)` is the fresh result: a function of `(f, o)` only. -/
theorem to_model_proto_override_independent (h : KWHeap) (H : List (PFn × KW)) (f : PFn) (o : KW) :
    (callProto false (runCalls false h H) f o).2 = (callProto false h f o).2 := by
  rw [to_model_proto_kwargs_unchanged]

/-- The aliasing variant (`merged = self.kwargs; merged.update(kwargs)`) is history dependent, also
across functions: `g` shares `f`'s decorator dict; `g.to_model_proto(producer_name=7)` then
`f.to_model_proto()` shows `producer_name = 7`. -/
theorem to_model_proto_override_aliasing_refuted :
    ¬ ∀ (h : KWHeap) (H : List (PFn × KW)) (f : PFn) (o : KW),
        (callProto true (runCalls true h H) f o).2 = (callProto true h f o).2 := by
  intro hh
  have := hh (fun _ => []) [(⟨.x, 0⟩, [("producer_name", 7)])] ⟨.const 1, 0⟩ []
  revert this; decide +kernel

example : (callProto false (runCalls false (fun _ => [("producer_name", 1)])
      [(⟨.x, 0⟩, [("producer_name", 7)]), (⟨.const 1, 0⟩, [("ir_version", 9)])]) ⟨.const 1, 0⟩ [("doc_string", 3)]).2
    = (.const 1, [("doc_string", 3), ("producer_name", 1)]) := by decide +kernel

/-- **Header of the emitted model**: the opset imports the function graph declares are kept, in
order, as a prefix of the model's `opset_import` — for every list of called functions and every
`opset_version` argument. -/
theorem model_header_keeps_graph_imports (g : List (String × Nat)) (fs : List SubFn) (kw : Option Nat)
    (latest : Nat) : ∃ extra, modelOpsetImports g fs kw latest = g ++ extra :=
  (modelOpsetImports_prefix g fs kw latest).imp fun _ he => he.symm

/-- … the standard domain is always imported … -/
theorem model_header_has_standard_opset (g : List (String × Nat)) (fs : List SubFn) (kw : Option Nat)
    (latest : Nat) : hasKey (modelOpsetImports g fs kw latest) "" = true := by
  unfold modelOpsetImports
  simp only
  split
  · assumption
  · unfold hasKey
    rw [List.lookup_append]
    cases (addFuncImports g fs).lookup "" <;> rfl

/-- … and an `opset_version=` argument never overrides a standard-opset version the graph already
declares (it is only a default for graphs that use no standard operator). -/
theorem model_header_opset_version_is_default_only (g : List (String × Nat)) (fs : List SubFn)
    (kw : Option Nat) (latest v : Nat) (h : g.lookup "" = some v) :
    (modelOpsetImports g fs kw latest).lookup "" = some v := by
  obtain ⟨e, he⟩ := model_header_keeps_graph_imports g fs kw latest
  rw [he, List.lookup_append, h]
  rfl

/-- instance with the hypothesis TRUE (the graph declares the standard opset 17; `opset_version=15` does not override it) -/
example : (modelOpsetImports [("", 17), ("this", 1)] [] (some 15) 23).lookup "" = some 17 := by decide +kernel

/-- (an instance of the OTHER case: the graph declares no standard opset, so the hypothesis above is false and a function's version is used) -/
example : modelHeader [("this", 1)] [⟨"my.dom", 2, some 18⟩, ⟨"this", 1, some 17⟩] (some 15) none 23
    [(18, 8), (17, 8), (15, 7)] 11 = ([("this", 1), ("my.dom", 2), ("", 18)], 10) := by decide +kernel

/-- The proto computes what the Python body computes under the decoration-time globals. -/
theorem proto_is_decoration_time_semantics (g : Globals) (body : SExp) (x : Val) :
    (toProto (decorate g body)).1.eval x = eagerCall g (decorate g body) x :=
  translate_eval g x body

/-- "… nor later calls" — FALSE for eager calls (D15): CPython resolves the global when the body runs.
`K = 2; f = script(x * K); K = 5; f(3)` gives 15, the proto still says 6. -/
theorem eager_globals_frozen_refuted :
    ¬ ∀ (g : Globals) (n : String) (v : Val) (body : SExp) (x : Val),
        eagerCall (setGlobal g n v) (decorate g body) x = eagerCall g (decorate g body) x := by
  intro h
  have := h [("K", 2)] "K" 5 (.mul .x (.glob "K")) 3
  revert this; decide +kernel

/-- What does hold: an eager call is unaffected by rebinding a global the body does not mention. -/
theorem eager_frozen_partial (g : Globals) (n : String) (v : Val) (body : SExp) (x : Val)
    (hfree : n ∉ body.globalsOf) :
    eagerCall (setGlobal g n v) (decorate g body) x = eagerCall g (decorate g body) x := by
  refine evalPy_congr x body fun m hm => ?_
  have hb : (m == n) = false := beq_eq_false_iff_ne.2 fun h => hfree (h ▸ hm)
  simp only [setGlobal, List.lookup, hb]

example : eagerCall (setGlobal [("K", 2), ("C", 1)] "C" 9) (decorate [("K", 2), ("C", 1)] (.mul .x (.glob "K"))) 3 = some 6 := by
  decide +kernel

/-! ## Converter objects -/

/-- **Table fact, not a theorem about the state machine**: the proof only reads a value the AST translator wrote
into the generated file; the whole content is the translator's output (trusted, regenerated on every run).
`script()` builds a fresh `Converter` for every decorated function (read off `main.script_check`
on every run), so nothing a `Converter` keeps can flow from one script to the next. -/
theorem script_translate_fresh : OV.Gen.C14Stash.converterFacts.freshPerScript = true := by decide +kernel

/-- Every per-function field `_init_function_translation`/`translate_function_def` re-initialise is not
a leak; the others (listed by the generated table, today `_castable` and `default_opset_`) survive in a
*reused* `Converter` object (internal API; the real effect is replayed by the harness).  Near-definitional: it unfolds the
definition of `leaks` (a filter); the hypothesis `_hs` is NOT used by the proof (it only names the intended domain), and there is
no separate non-vacuity example — the instance is the generated `converterFacts` (a table fact). -/
theorem converter_reuse_partial (c : ConverterFacts) (f : String) (_hs : f ∈ c.stateFields)
    (hr : f ∈ c.resetFields) : f ∉ c.leaks := by
  unfold ConverterFacts.leaks
  simp only [List.mem_filter, Bool.not_eq_true', not_and, Bool.not_eq_false]
  intro _
  exact List.contains_iff_mem.2 hr

/-- a surviving `_castable` entry changes the translation of a later function whose parameter has the
name of an earlier generated constant (`CastLike` is inserted) -/
theorem converter_castable_leak_refuted :
    ¬ ∀ (fn1 fn2 : List String) (arg : String),
        insertsCastLike (castableAfter false fn1 fn2) arg = insertsCastLike (castableAfter true fn1 fn2) arg := by
  intro h
  have := h ["const"] [] "const"
  revert this; decide +kernel

/-- **Translating a script**: the result (interned opsets' fields, If/Loop output order and names) is the
same from every process state and for every iteration order of the live-definition set — i.e. after any
history and under every `PYTHONHASHSEED`. -/
theorem translate_seed_and_history_independent {I O : Type} (w : World I O) (σ σ' : Sigma)
    (st : NameState) (ks : List OpsetKey) (l₁ l₂ : List String) (h : l₁.Perm l₂) :
    (step w σ (ProcOp.translate st ks l₁ : ProcOp I O)).2 = (step w σ' (ProcOp.translate st ks l₂)).2 := by
  simp only [step, internAll_fields, sorted_perm_invariant st l₁ l₂ h]

/-! ## Every process-wide mutable object on the property's path (generated tables) -/

/-- **Table theorem, re-read from the source on every run.**  Every module-level name or class attribute
bound to a mutable object, every `global` target and every functools cache in `onnxscript/*.py` and
`onnxscript/{_internal, rewriter, rewriter/rules/{common,fusion}, rewriter/ort_fusions, rewriter/models,
optimizer, version_converter, ir, utils}` is written after import only in a disciplined way:
never (most rows), as a memo whose key mentions every parameter the function uses, by a context manager
that restores it in `finally`, by a public `set_*` function, by `register` (import time only, next
theorem), while a class statement executes, or as a field of an entry-reset object.  One exception, named
here: `ANY_VALUE._uses` grows whenever a pattern mentions `ANY_VALUE`, but `ValuePattern.uses()` has no
reader in the rewriter (write-only). -/
theorem globals_disciplined :
    ∀ r ∈ OV.Gen.C14Globals.globalRows, r.name ≠ "_pattern_ir:ANY_VALUE" → r.ok = true :=
  List.all_but_named (by decide +kernel)

/-- **Table fact, not a theorem about the state machine**: the proof only reads a value the AST translator wrote
into the generated file; the whole content is the translator's output (trusted, regenerated on every run).
Registries (`optimizer` partial evaluators, `version_converter` adapters, evaluator python ops) are
extended only by decorators executed at import time: no `register(...)` call sits inside a function body -/
theorem register_import_time_only : OV.Gen.C14Globals.registerCallsInFunctions = [] := by decide +kernel

/-- Every class whose objects outlive one operation — the matcher held by each rule, the fold pass, the
rewrite pass, rule sets, rules, patterns, the version-conversion pass — reads, in the method that starts
an operation (followed through `self.m()` calls) and in the helpers other modules call meanwhile, only
fields assigned by `__init__` or assigned earlier by this very call.  Exception, named here: `Converter`
(`_castable`, `default_opset_` survive in a reused object; `script()` builds a fresh one:
`script_translate_fresh`). -/
theorem entry_objects_reset :
    ∀ e ∈ OV.Gen.C14Globals.entryRows, e.name ≠ "Converter" → e.ok = true :=
  List.all_but_named (by decide +kernel)

/-- The table is closed under "keeps an object": every package class whose object an entry object builds
in `__init__` and stores on `self` (the matcher of a rule, the inner conversion pass of
`ConvertVersionPass`, …) has a row of its own — so `entry_objects_reset` also covers the objects a
persistent object owns (a pass that kept ONE stateful converter for all its calls would add the
converter's row, and that row reads its counters before assigning them). -/
theorem held_objects_have_rows :
    ∀ e ∈ OV.Gen.C14Globals.entryRows, ∀ h ∈ e.held,
      (OV.Gen.C14Globals.entryRows.any (fun r => r.name == h)) = true := by
  decide +kernel

example : (OV.Gen.C14Globals.entryRows.filter (fun e => !e.held.isEmpty)).length ≥ 2 := by decide +kernel

/-- **Table fact, not a theorem about the state machine**: the proof only reads a value the AST translator wrote
into the generated file; the whole content is the translator's output (trusted, regenerated on every run).
`RewriteRuleSet._value_names` (the names of the model being rewritten; fresh `val_<n>` names are
drawn against it) is recomputed by `apply_to_model` from the model at the start of every call — part
of `entry_objects_reset` — and the private worker `_apply_to_graph_or_function`, which relies on it, is
called from nowhere but `apply_to_model` and itself. -/
theorem rule_set_value_names_entry_only : OV.Gen.C14Globals.privateEntryCalls = [] := by decide +kernel

/-- the table is not vacuous: the matcher and the fold pass do carry per-call fields -/
example : (OV.Gen.C14Globals.entryRows.filter (fun e => !e.mayWrite.isEmpty && e.name != "Converter")).length ≥ 2 := by
  decide +kernel

/-- Every iteration over a set-typed expression on that path feeds an order-insensitive consumer
(`sorted`, `set`/`frozenset`, `set.update`, a set comprehension, `any/all/len/min/max/sum`), except the
sites named here: `_translate_nested_function_def` iterates the outer-scope variable set into a list that
is only checked element by element (the order decides which of several errors is raised first). -/
theorem set_iteration_sanctioned :
    ∀ s ∈ OV.Gen.C14Globals.setIterSites, s.orderSensitive = true →
      s.site = "_internal/converter.py:Converter._translate_nested_function_def" := by
  decide +kernel

example : (OV.Gen.C14Globals.setIterSites.filter (fun s => s.sink == "call:sorted")).length ≥ 3 := by
  decide +kernel

/-- Object addresses (`id(x)`) and `hash(x)` differ from process to process: on the path they are used
only for membership tests (sets/dicts of ids, comparisons) or inside `__str__`/`__repr__`, never to
name or order anything that is emitted. -/
theorem id_and_hash_only_for_membership :
    ∀ s ∈ OV.Gen.C14Globals.idHashSites, s.2.2 = "membership" ∨ s.2.2 = "repr" := by
  decide +kernel

/-- **A memo keyed by every argument the value depends on is invisible**: after any history of lookups
(any keys, any unkeyed arguments) a lookup returns what a fresh computation returns.  (`Opset.cache`,
`_tensor_type_shape_cache`.) -/
theorem memo_complete_key_history_independent {K E V : Type} [BEq K] [LawfulBEq K] (f : K → E → V)
    (hcomplete : ∀ k e e', f k e = f k e') (H : List (K × E)) (k : K) (e : E) :
    (memoGet f (memoRun f [] H) k e).2 = f k e :=
  (memoGet_sound f hcomplete _ (memoRun_sound f hcomplete [] (fun _ _ h => by simp at h) H) k e).1

/-- A memo whose key omits an argument the value depends on is history dependent (seeded change C14-5:
`load_op` memoised by `(domain, op)` without the opset version; `Opset.cache` keyed without version). -/
theorem memo_incomplete_key_refuted :
    ¬ ∀ (f : String → Nat → Nat) (H : List (String × Nat)) (k : String) (e : Nat),
        (memoGet f (memoRun f [] H) k e).2 = f k e := by
  intro h
  have := h (fun _ v => v) [("Squeeze", 13)] "Squeeze" 11
  revert this; decide +kernel

/-- **An object whose entry method assigns before it reads is history independent**: for every row
obeying `EntryRow.ok`, every behaviour respecting the row, every history of earlier calls (completed or
not — a call's assignments are simply whatever it performed), the result of a call equals the result on
the object as `__init__` left it. -/
theorem entry_object_history_independent {I O : Type} (e : EntryRow) (b : ObjBeh I O)
    (hok : e.ok = true) (hr : ObjRespects e b) (s₀ : OState) (H : List I) (i : I) :
    (b.call (objRun b s₀ H) i).1 = (b.call s₀ i).1 :=
  -- all the call reads is `__init__`-only (`ok_reads`), and no earlier call changed such a field (`objRun_consts`)
  hr.reads _ _ _ fun f hf => (objRun_consts hr s₀ H f (EntryRow.ok_reads hok f hf)).symm

/-- … and the hypothesis is needed: an object whose call returns a field it assigns only sometimes. -/
theorem entry_object_undisciplined_refuted :
    ∃ (b : ObjBeh Nat Int) (s₀ : OState) (H : List Nat) (i : Nat),
      (b.call (objRun b s₀ H) i).1 ≠ (b.call s₀ i).1 := by
  refine ⟨⟨fun s i => ((s "_m").getD 0, if i = 0 then [] else [("_m", (i : Int))])⟩, fun _ => none, [5], 0, ?_⟩
  decide +kernel

/-- **The version-conversion pass objects** (`ConvertVersionPass` and the `_ConvertVersionPassRequiresInline`
it keeps): for the rows the translator generates for them from the current source, every behaviour
respecting the row gives, after ANY history of earlier calls on the same pass object, the result of a
call on a freshly constructed pass. -/
theorem convert_version_pass_history_independent {I O : Type} (e : EntryRow)
    (he : e ∈ OV.Gen.C14Globals.entryRows)
    (hn : e.name = "ConvertVersionPass" ∨ e.name = "_ConvertVersionPassRequiresInline")
    (b : ObjBeh I O) (hr : ObjRespects e b) (s₀ : OState) (H : List I) (i : I) :
    (b.call (objRun b s₀ H) i).1 = (b.call s₀ i).1 := by
  have hne : e.name ≠ "Converter" := by
    rcases hn with h | h <;> (rw [h]; decide)
  exact entry_object_history_independent e b (entry_objects_reset e he hne) hr s₀ H i

/-- both rows exist in the generated table, and no persistent object keeps a `_VersionConverter`
(it is built per call inside `convert_version`): the table has no row for it -/
theorem convert_version_pass_rows :
    (OV.Gen.C14Globals.entryRows.any (fun e => e.name == "ConvertVersionPass")) = true ∧
    (OV.Gen.C14Globals.entryRows.any (fun e => e.name == "_ConvertVersionPassRequiresInline")) = true ∧
    (OV.Gen.C14Globals.entryRows.all (fun e => e.name != "_VersionConverter")) = true := by
  decide +kernel

/-- non-vacuity: a behaviour that respects the generated `ConvertVersionPass` row — it reads only the
`__init__`-only field `target_version`, names the adapter-created values with a converter built for this
call, and leaves scratch state behind -/
example : ∃ (e : EntryRow) (b : ObjBeh (List String × Nat) (List String × Bool × Option Int)),
    e ∈ OV.Gen.C14Globals.entryRows ∧ e.name = "ConvertVersionPass" ∧ ObjRespects e b := by
  have hfind : ∃ e, e ∈ OV.Gen.C14Globals.entryRows ∧ e.name = "ConvertVersionPass" ∧
      "target_version" ∈ e.consts ∧ "_scratch" ∉ e.consts := by
    have h : (OV.Gen.C14Globals.entryRows.any (fun e => e.name == "ConvertVersionPass" &&
        e.consts.contains "target_version" && !e.consts.contains "_scratch")) = true := by decide +kernel
    rcases List.any_eq_true.1 h with ⟨e, he, hp⟩
    simp only [Bool.and_eq_true, beq_iff_eq, List.contains_iff_mem, Bool.not_eq_true',
      ← Bool.not_eq_true] at hp
    exact ⟨e, he, hp.1.1, hp.1.2, by simpa using hp.2⟩
  obtain ⟨e, he, hn, htv, hsc⟩ := hfind
  refine ⟨e, ⟨fun s i =>
    (((convertPassCall false {} i.1 i.2).1.1, (convertPassCall false {} i.1 i.2).1.2, s "target_version"),
      [("_scratch", 1)])⟩, he, hn, ?_, ?_⟩
  · intro s s' i hag
    have : s "target_version" = s' "target_version" :=
      hag _ (List.mem_append_right _ htv)
    simp only [this]
  · intro s i p hp
    simp only [List.mem_singleton] at hp
    subst hp
    exact hsc

/-- **Names of adapter-created values do not depend on the models converted before** with the same pass
object: the converter (its `used` names, its counter, its `_modified` flag) is built for the call.  **Holds by `rfl`, by the shape
of the model** (`convertPassCall false` ignores the old state); content = the tie (`vcnames` stream, entry rows, per-call traces). -/
theorem convert_pass_fresh_converter (st st' : VCState) (modelNames : List String) (k : Nat) :
    (convertPassCall false st modelNames k).1 = (convertPassCall false st' modelNames k).1 := rfl

/-- A pass keeping ONE converter (seeded change C14-8): the second model's new values are `val_1…`
instead of `val_0…`, and NameFixPass runs on a model that was not modified. -/
theorem convert_pass_reused_converter_refuted :
    ¬ ∀ (st st' : VCState) (modelNames : List String) (k : Nat),
        (convertPassCall true st modelNames k).1 = (convertPassCall true st' modelNames k).1 := by
  intro h
  have := h (vcVisit {} ["x"] 1).2 {} ["y"] 1
  revert this; decide +kernel

example : (convertPassCall false {} ["val_0", "x", "val_2"] 3).1 = (["val_1", "val_3", "val_4"], true) := by decide +kernel

/-- **The folder's evaluator lookup is keyed by the version**: a memo of `get_evaluator`'s "no evaluator" answers
keyed by `(domain, op, version)` — all it depends on — is invisible after any history (instance of
`memo_complete_key_history_independent`) … -/
theorem evaluator_lookup_versioned_memo_history_independent
    (H : List ((String × String × Nat) × Unit)) (k : String × String × Nat) :
    (memoGet (fun (k : String × String × Nat) (_ : Unit) => evaluatorGap k.1 k.2.1 k.2.2)
      (memoRun (fun (k : String × String × Nat) (_ : Unit) => evaluatorGap k.1 k.2.1 k.2.2) [] H) k ()).2
      = evaluatorGap k.1 k.2.1 k.2.2 :=
  memo_complete_key_history_independent _ (fun _ _ _ => rfl) H k ()

/-- … while remembering them per `(domain, op)` only (seeded change C14-11: a negative cache without the
version) makes a Softmax at opset 13 look unsupported after one at opset 12. -/
theorem evaluator_negative_cache_without_version_refuted :
    ¬ ∀ (H : List ((String × String) × Nat)) (k : String × String) (v : Nat),
        (memoGet (fun (k : String × String) (v : Nat) => evaluatorGap k.1 k.2 v)
          (memoRun (fun (k : String × String) (v : Nat) => evaluatorGap k.1 k.2 v) [] H) k v).2
          = evaluatorGap k.1 k.2 v := by
  intro h
  have := h [(("", "Softmax"), 12)] ("", "Softmax") 13
  revert this; decide +kernel

/-! ## Calls as programs of field accesses — the discipline is enough, exceptions included -/

/-- **Reset-on-failure, for every fault point.**  A call of an entry method (`FoldConstantsPass.call`,
`RewriteRuleSet.apply_to_model`, `RewriteRule.try_rewrite`, `SimplePatternMatcher.match`,
`ConvertVersionPass.call`, …) is a program of reads and writes of the object's fields (`Prog`, what the
runtime monitor records).  If on every path every read is of an `__init__`-only field or of a field this
very call assigned before (`Prog.Disc`; for the generated `EntryRow`s: `earlyReads ⊆ consts`), then after
ANY history of earlier calls on the same object — each one completed, or abandoned by an exception right
before ANY of its field accesses, leaving whatever it had assigned — a call returns (or raises) exactly
what it does on the object as `__init__` left it.  Unlike `entry_object_history_independent` nothing is
assumed about what the result depends on: that is derived from the access discipline. -/
theorem entry_call_fault_tolerant_history_independent {I O : Type} (consts : List OField)
    (body : I → Prog O) (hd : ∀ i, (body i).Disc consts [])
    (s₀ : OState) (H : List (I × Option Nat)) (p : Prog O) (hp : p.Disc consts []) :
    (p.run (faultRun body s₀ H)).2 = (p.run s₀).2 :=
  Prog.run_indep consts p [] hp _ _
    (fun f hf => (faultRun_consts consts body hd s₀ H f hf).symm) (fun _ h => by simp at h)

/-- … in particular for the target being one of the object's own calls, itself possibly abandoned at any
point (a failing target fails the same way after any history). -/
theorem entry_call_fault_tolerant_target {I O : Type} (consts : List OField)
    (body : I → Prog O) (hd : ∀ i, (body i).Disc consts [])
    (s₀ : OState) (H : List (I × Option Nat)) (i : I) (e : Int) (n : Nat) :
    ((body i).run (faultRun body s₀ H)).2 = ((body i).run s₀).2 ∧
    (((body i).cut e n).run (faultRun body s₀ H)).2 = (((body i).cut e n).run s₀).2 :=
  ⟨entry_call_fault_tolerant_history_independent consts body hd s₀ H _ (hd i),
   entry_call_fault_tolerant_history_independent consts body hd s₀ H _
     (Prog.cut_disc consts e n (body i) [] (hd i))⟩

/-- Non-vacuity, shaped like `FoldConstantsPass.call`: `_reset()` assigns `_state`/`_modified`, the visit
reads the `__init__`-only `should_fold`, may assign `_modified`, and the result reads `_modified` back.
The history contains a completed call and one abandoned after the reset and the first assignment. -/
example :
    let body : Int → Prog Int := fun i =>
      .write "_state" 0 (.write "_modified" 0 (.read "should_fold" (fun sf =>
        if sf = some 1 ∧ i ≠ 0 then .write "_modified" 1 (.write "_state" i (.read "_modified" (fun m => .ret (m.getD 7))))
        else .read "_modified" (fun m => .ret (m.getD 7)))))
    (∀ i, (body i).Disc ["should_fold"] []) ∧
    ((body 0).run (faultRun body (oSet (fun _ => none) "should_fold" 1) [(5, none), (3, some 4)])).2 = .ok 0 ∧
    (faultRun body (oSet (fun _ => none) "should_fold" 1) [(5, none), (3, some 4)]) "_modified" = some 1 := by
  refine ⟨?_, by decide, by decide⟩
  intro i
  simp only [Prog.Disc]
  refine ⟨by simp, by simp, by simp, fun v => ?_⟩
  split <;> simp [Prog.Disc]

/-- The discipline is about *entry*, not exit: an object that reads a field first and tidies it up at the
end of each call is history independent as long as every call completes — and stops being so with one
abandoned call (the `pattern_builder` of before 096e584 was of this kind). -/
theorem cleanup_at_exit_not_fault_tolerant :
    ∃ (body : Int → Prog Int) (s₀ : OState),
      (∀ (H : List Int) (i : Int),
        ((body i).run (faultRun body s₀ (H.map (fun j => (j, none))))).2 = ((body i).run s₀).2) ∧
      (∃ (H : List (Int × Option Nat)) (i : Int),
        ((body i).run (faultRun body s₀ H)).2 ≠ ((body i).run s₀).2) := by
  refine ⟨fun i => .read "_m" (fun v => .write "_m" i (.write "_m" 0 (.ret (v.getD 0)))),
    oSet (fun _ => none) "_m" 0, ?_, ⟨[(5, some 2)], 1, by decide⟩⟩
  intro H i
  suffices h : ∀ s : OState, s "_m" = some 0 →
      (faultRun (fun i => Prog.read "_m" (fun v => .write "_m" i (.write "_m" 0 (.ret (v.getD 0)))))
        s (H.map (fun j => (j, none)))) "_m" = some 0 by
    have h0 := h (oSet (fun _ => none) "_m" 0) (by simp [oSet])
    simp only [Prog.run, h0, oSet]
    simp
  induction H with
  | nil => intro s hs; exact hs
  | cons j H ih =>
    intro s hs
    simp only [List.map_cons, faultRun, Prog.run]
    exact ih _ (by simp [oSet])

/-- **An abandoned disciplined call is a disciplined call** — so `entry_call_fault_tolerant_history_independent`
needs no separate treatment of exceptions, and the monitor applies one check to completed and to failing calls. -/
theorem call_abandoned_anywhere_stays_disciplined {O : Type} (consts wr : List OField) (p : Prog O)
    (e : Int) (n : Nat) (hd : p.Disc consts wr) : (p.cut e n).Disc consts wr :=
  Prog.cut_disc consts e n p wr hd

/-- **The monitor's check is sound for the discipline**: every trace of a disciplined call (from any
object state) passes `traceOk` — the check the driver command `etrace` applies to the event sequences of
the real objects with the generated row's `consts` (it reports `traceCheck`, which also rejects an assignment the
row does not list, and evaluates `traceOk` beside it; no lemma relates the two).  Read contrapositively: one rejected
trace of a real call shows the method is not disciplined. -/
theorem monitor_trace_check_sound {O : Type} (consts : List OField) (p : Prog O) (hd : p.Disc consts [])
    (s : OState) : traceOk consts [] (p.trace s) = true :=
  Prog.trace_ok consts p [] hd s

/-- **Bridge to the row-level theorem**: the big-step behaviour induced by disciplined programs satisfies
`ObjRespects` for a row with these `consts` — what `entry_object_history_independent` takes as a hypothesis
is here a consequence — and its recorded assignments are the final state of the small-step run. -/
theorem disciplined_calls_respect_row {I O : Type} (e : EntryRow) (body : I → Prog O)
    (hd : ∀ i, (body i).Disc e.consts []) :
    ObjRespects e (progBeh body) ∧
    ∀ s i, oApply ((progBeh body).call s i).2 s = ((body i).run s).1 := by
  refine ⟨⟨?_, ?_⟩, fun s i => Prog.oApply_writes (body i) s⟩
  · intro s s' i hag
    exact Prog.run_indep e.consts (body i) [] (hd i) s s'
      (fun f hf => hag f (List.mem_append_right _ hf)) (fun _ h => by simp at h)
  · intro s i q hq
    exact Prog.writes_not_const e.consts (body i) [] (hd i) s q hq

/-! ## The whole process -/

/-- **History independence, all operation kinds.**  For every set of installed rule objects obeying
the discipline, every history `H` (rewriting, folding with the shared pass object, opset creation,
pattern construction under `pattern_builder` incl. bodies that raise, operator sugar, script
translation, stateless operations incl. failing ones) and every target `T`: `T` after `H` returns what `T` returns in a fresh
process.  **Hypothesis `hw : w.Ok`** = every installed rule's generated row is `ok` AND its behaviour `Respects` the row (an assumption
about Python tied by AST + monitor, not proved) AND rules sharing an object agree on const fields.  Operations modelled as `.pure`
(`convert_version` with its per-call converter, onnx_ir passes, refused scripts) are history independent BY CONSTRUCTION of the model
(assumption A-ir; the differential runs, not this theorem, are what checks them). -/
theorem history_independent {I O : Type} (w : World I O) (hw : w.Ok)
    (H : List (ProcOp I O)) (T : ProcOp I O) (σ₀ : Sigma) :
    lastRes w σ₀ (H ++ [T]) = lastRes w σ₀ [T] := by
  -- both sides are the last of the fresh answers: `T`'s
  simp only [lastRes, run_results hw (Sigma.Alike.refl w σ₀), List.map_append, List.map_cons, List.map_nil,
    List.getLast?_concat, List.getLast?_singleton]

/-- **History independence of rewriting**, the instance for histories of rewriting operations only.  For every set of installed rule objects obeying the
discipline, every history `H` of rewriting operations (each an arbitrary adaptive sequence of match
attempts of arbitrary length, possibly ending in an exception) and every target operation `T`:
the result of `T` after `H` equals the result of `T` in a fresh process. -/
theorem history_independent_rules {I O : Type} (w : World I O) (hw : w.Ok)
    (H : List (RewriteOp I O)) (T : RewriteOp I O) (σ₀ : Sigma) :
    lastRes w σ₀ ((H.map ProcOp.rewrite) ++ [ProcOp.rewrite T]) = lastRes w σ₀ [ProcOp.rewrite T] :=
  history_independent w hw (H.map ProcOp.rewrite) (ProcOp.rewrite T) σ₀

/-- Non-vacuity: a world with a disciplined stashing rule (`check` stashes the matched value, `rewrite`
returns it), a history that leaves every component dirty (a match, a fold, an opset, a raising pattern
construction), and a target whose result is the fresh-process one. -/
example :
    let b : RuleBeh Nat Int :=
      { check := fun _ i => (i ≠ 0, [("_n", (i : Int))]), rewrite := fun s _ => (some ((s "_n").getD (-1)), []) }
    -- two commuted variants of the rule share one object (owner 0), as `RewriteRuleSet(commute=True)` makes them
    let w : World Nat Int :=
      { rules := [({ name := "good", checkWrites := ["_n"], rewriteReads := ["_n"] }, b),
                  ({ name := "good", checkWrites := ["_n"], rewriteReads := ["_n"] }, b)],
        owner := fun _ => 0 }
    let mk (i : Nat) : RewriteOp Nat Int :=
      { strat := fun acc => if acc.isEmpty then .attempt 0 i else .done, fuel := 2 }
    let σ₀ : Sigma := ⟨fun _ => Stash.empty, {}, [], 0⟩
    lastRes w σ₀ [.rewrite (mk 7), .fold [.foldable 1 4], .opset ⟨"Opset", "d", 1⟩,
        .pattern 5 [.sugar, .raise], .rewrite (mk 3)]
      = some (.rewrite ⟨[some 3], false⟩) := by
  decide +kernel

end OV.Props.C14
