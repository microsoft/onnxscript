import OV.Model.C08View
import OV.Model.C08Slice
import OV.Model.C08Repl
import OV.Model.C08Reduce
import OV.Model.C08IntArith
import OV.Model.C08Creation
import OV.Model.C08Attr
import OV.Model.C08Misc
import OV.Model.C08Scalar
import OV.Model.C08Linalg
import OV.Gen.C08Trace
import OV.Lemmas.C08
import OV.Model.C08Norm
import OV.Gen.C08TraceB
import OV.Lemmas.C08Norm
/-!
# C08 — torch_lib operator implementations agree with PyTorch eager

Property theorems only.  Scope (DESIGN.md section 5, C08): index / shape / integer arithmetic of the
covered overloads; floating-point kernels are outside (differential search only).
`model` = trace-time branching of `aten_*` + ONNX shape semantics, `spec` = PyTorch's semantics;
both are compared with the real code / torch eager on every run (harness/c08.py).
-/
namespace OV.Props.C08
open OV.C08 OV.C08.IntArith

/-! ## tie: the models' dataflow terms are the terms the code emits now -/

/-- Every row of the regenerated trace table (each covered function traced on a grid of rank /
argument classes with the exporter's OpRecorder): the term built by the model's trace-time
branching equals the term the real function emitted. -/
theorem traces_match_models : ∀ e ∈ OV.Gen.C08Trace.traceTable, e.1 = e.2 :=
  OV.Gen.C08Trace.ok_all

/-! ## integer arithmetic (exact on `Int`, all values) -/

/-- `aten_floor_divide`, signed branch: `Div` (truncation) minus the sign-mismatch/remainder offset
is floor division, for every dividend and every non-zero divisor. -/
theorem aten_floor_divide_signed_agrees (a b : Int) (hb : b ≠ 0) :
    floorDivideSigned a b = specFloorDiv a b :=
  OV.Lemmas.C08.floor_divide_signed a b hb

/-- … and it is the floor of the real quotient: `b·q ≤ a < b·(q+1)` for `b > 0`. -/
theorem aten_floor_divide_is_floor (a b : Int) (hb : 0 < b) :
    b * floorDivideSigned a b ≤ a ∧ a < b * (floorDivideSigned a b + 1) := by
  rw [aten_floor_divide_signed_agrees a b (by omega)]
  exact OV.Lemmas.C08.fdiv_is_floor a b hb

/-- unsigned branch (`uint8`): plain `Div` is floor division on non-negative operands. -/
theorem aten_floor_divide_unsigned_agrees (a b : Int) (ha : 0 ≤ a) (hb : 0 < b) :
    floorDivideUnsigned a b = specFloorDiv a b := by
  unfold floorDivideUnsigned specFloorDiv onnxDiv
  exact OV.Lemmas.C08.tdiv_eq_fdiv_nonneg a b ha hb

/-- `aten_remainder` on integers: ONNX `Mod` (sign follows the divisor) is
`a - floor(a/b)·b`, PyTorch's documented `remainder`. -/
theorem aten_remainder_int_agrees (a b : Int) (hb : b ≠ 0) :
    remainder a b = specRemainder a b := by
  unfold remainder specRemainder onnxMod
  exact OV.Lemmas.C08.onnx_mod_eq a b hb

/-- `aten_fmod` on integers: `Mod(fmod=1)` is `a - trunc(a/b)·b`. -/
theorem aten_fmod_int_agrees (a b : Int) : fmod a b = specFmod a b := by
  unfold fmod specFmod onnxFmod
  have := Int.tmod_def a b
  rw [this, Int.mul_comm]

/-- `alpha` placement: `Add(self, Mul(other, alpha))` (skipped when `alpha = 1`) is `self + alpha·other`. -/
theorem aten_add_alpha_agrees (a b alpha : Int) : addAlpha a b alpha = specAdd a b alpha := by
  unfold addAlpha specAdd
  split
  · next h => subst h; omega
  · rw [Int.mul_comm]

theorem aten_sub_alpha_agrees (a b alpha : Int) : subAlpha a b alpha = specSub a b alpha := by
  unfold subAlpha specSub
  split
  · next h => subst h; omega
  · rw [Int.mul_comm]

/-- `aten_add` on bool tensors (`Or(self, other)`, with `other & False` when `alpha == 0`): `self | (alpha & other)` element-wise. -/
theorem aten_add_bool_agrees (x y alpha : Bool) : addsub.boolModel x y alpha = addsub.boolSpec x y alpha := by
  cases x <;> cases y <;> cases alpha <;> rfl

/-- FIXED a26d309 (was C08-add-bool-alpha0-broadcast): `add(bool[3], bool[2,3], alpha=0)` keeps the broadcast shape `[2,3]`
(the `Identity` shortcut returned `[3]`). -/
theorem aten_add_bool_alpha0_broadcast_fixed :
    addsub.model true .bool [3] [2, 3] 0 = some [2, 3] ∧ addsub.spec [3] [2, 3] = some [2, 3] := by decide

/-- `aten_add / aten_sub` (.Tensor / .Scalar, every dtype class and alpha).  TRUE BY DEFINITION (`rfl`): model and spec are both the
numpy broadcast `bcast2`, so this statement carries no proof content; what it records is that no dtype class / alpha value changes the
shape on the model side (after fix a26d309).  That ONNX `Add/Sub/Or` and PyTorch both broadcast this way is checked per case by the tie only. -/
theorem aten_addsub_shape_agrees (isAdd : Bool) (dc : DC) (a b : Shape) (alpha2 : Int) :
    addsub.model isAdd dc a b alpha2 = addsub.spec a b := rfl

/-- `aten_clamp_tensor` / `aten_clamp`: `Max` with the lower bound first, then `Min` with the upper bound, is
`torch.clamp` for every value and every combination of omitted bounds — including `min > max`, where PyTorch sets every
element to `max`. -/
theorem aten_clamp_value_agrees (x : Int) (lo hi : Option Int) : clamp.valModel x lo hi = clamp.valSpec x lo hi := by
  unfold clamp.valModel clamp.valSpec
  cases lo <;> cases hi <;> simp only <;> omega

/-- `aten_bitwise_right_shift` on 8-bit integers: the logical shift with re-inserted sign bits is
the arithmetic shift, for **every** `int8` value and every shift `0..7` (the whole quantifier,
enumerated by the kernel). -/
theorem aten_bitwise_right_shift_int8_agrees :
    ∀ a ∈ List.range 256, ∀ s ∈ List.range 8,
      shr 8 ((a : Int) - 128) s = specShr ((a : Int) - 128) s := by decide +kernel

/-- `aten_bitwise_left_shift` on 8-bit integers: every value, every shift `0..7`. -/
theorem aten_bitwise_left_shift_int8_agrees :
    ∀ a ∈ List.range 256, ∀ s ∈ List.range 8,
      shl 8 ((a : Int) - 128) s = specShl 8 ((a : Int) - 128) s := by decide +kernel

/-- `aten_div_mode` on integer tensors (after fix 5204ab5): `"floor"` is `aten_floor_divide` (exact floor division for
signed and unsigned inputs), `"trunc"` is ONNX integer `Div` = C-style division — all values, no float32 detour. -/
theorem aten_div_mode_int_agrees (a b : Int) (hb : b ≠ 0) :
    divModeFloor true a b = specFloorDiv a b ∧ divModeTrunc a b = specDivTrunc a b
    ∧ (0 ≤ a → 0 < b → divModeFloor false a b = specFloorDiv a b) := by
  refine ⟨aten_floor_divide_signed_agrees a b hb, rfl, fun ha hb' => aten_floor_divide_unsigned_agrees a b ha hb'⟩

example : divModeFloor true 16777217 1 = 16777217 := by decide

/-! ## slicing -/

/-- `aten_slice`: for every axis size `d`, every optional start/end and
every positive step, ONNX `Slice` with the defaults `aten_slice` fills in (`0`, `INT64_MAX`, `1`)
selects as many elements as `aten::slice.Tensor`. -/
theorem aten_slice_len_agrees (d : Int) (start stop step : Option Int)
    (hd0 : 0 ≤ d) (hs : 0 < optI step 1) :
    (sliceLen d (optI start 0) (optI stop INT64_MAX) (optI step 1) : Int)
      = (slice.specLen d start stop step).toNat :=
  OV.Lemmas.C08.slice_len d start stop step hd0 hs

/-- `aten_slice` at shape level: wherever `aten::slice.Tensor` accepts (rank ≥ 1, valid dim, positive step), the emitted
`Slice` with the filled-in defaults has PyTorch's shape — every shape, every optional bound. -/
theorem aten_slice_agrees (s : Shape) (dim : Int) (start stop step : Option Int) (out : Shape)
    (h : slice.spec s dim start stop step = some out) : slice.model s dim start stop step = some out :=
  OV.Lemmas.C08.slice_agrees s dim start stop step out h

example : slice.spec [5, 3] 0 (some 1) none (some 2) = some [2, 3] := by decide

/-- **Element map of `aten_slice`** along the sliced axis (value level, every axis size, every optional start / end — negative, out of
range, omitted — and every positive step): the source positions read by the emitted `Slice` (defaults `0`, `INT64_MAX`, `1` filled in)
are exactly the positions `x.slice(dim, start, end, step)` reads in PyTorch: `start' + i·step` for `i < length`. -/
theorem aten_slice_index_map (d : Int) (start stop step : Option Int) (hd0 : 0 ≤ d) (hs : 0 < optI step 1) :
    sliceIdx d (optI start 0) (optI stop INT64_MAX) (optI step 1) = slice.specIdx d start stop step :=
  OV.Lemmas.C08.slice_index_map d start stop step hd0 hs

example : slice.specIdx 7 (some (-5)) none (some 2) = [2, 4, 6] := by decide

/-- `aten_slice_scatter`: the shape bookkeeping (`src` must be the shape of the slice, the result is `self`'s shape)
agrees with `torch.slice_scatter` wherever PyTorch accepts. -/
theorem aten_slice_scatter_agrees (s src : Shape) (dim : Int) (start stop : Option Int) (step : Int) (out : Shape)
    (h : slice_scatter.spec s src dim start stop step = some out) :
    slice_scatter.model s src dim start stop step = some out :=
  OV.Lemmas.C08.slice_scatter_agrees s src dim start stop step out h

/-- `aten_select_scatter`: `Unsqueeze(src, dim)` + `Expand(index)` + `ScatterElements(axis=dim)` is well-formed (ranks,
index range, update not larger than data) and returns `self`'s shape wherever `torch.select_scatter` accepts. -/
theorem aten_select_scatter_agrees (s src : Shape) (dim index : Int) (out : Shape)
    (h : select_scatter.spec s src dim index = some out) : select_scatter.model s src dim index = some out :=
  OV.Lemmas.C08.select_scatter_agrees s src dim index out h

/-- `aten_gather`: the four trace-time cases (0-d self × 0-d index) give `torch.gather`'s shape wherever PyTorch accepts. -/
theorem aten_gather_agrees (s idx : Shape) (dim : Int) (out : Shape)
    (h : gather.spec s idx dim = some out) : gather.model s idx dim = some out :=
  OV.Lemmas.C08.gather_agrees s idx dim out h

example : gather.spec [2, 3, 4] [1, 2, 2] (-1) = some [1, 2, 2] := by decide

/-- `aten_topk`: output shapes for every rank ≥ 1, every `k`, `dim`.  PARTIAL: rank 0 is excluded although PyTorch accepts
`topk(scalar, k ≤ 1, dim ∈ {0,-1})`; `topk.spec` refuses rank 0 and the generator never produces it, so rank 0 is neither proved nor tied. -/
theorem aten_topk_agrees_partial (s : Shape) (k dim : Int) (hr : s.length ≠ 0) : topk.model s k dim = topk.spec s k dim :=
  OV.Lemmas.C08.topk_agrees s k dim hr

/-- `aten_narrow` (after fixes ca35059 / 55f321d: a negative start is wrapped once, as PyTorch does): for every axis size `d`, every
start in `[-d, d]` and every length with `wrapped start + length ≤ d` — PyTorch's whole domain — `Slice(w, w + length)` on the wrapped
start `w` has exactly `length` elements. -/
theorem aten_narrow_len_agrees (d start length : Int)
    (h0 : -d ≤ start) (hl : 0 ≤ length) (hb : (if start < 0 then start + d else start) + length ≤ d) :
    (sliceLen d (if start < 0 then start + d else start) ((if start < 0 then start + d else start) + length) 1 : Int) = length := by
  have hw : 0 ≤ (if start < 0 then start + d else start) := by omega
  generalize (if start < 0 then start + d else start) = w at *
  rw [OV.Lemmas.C08.sliceLen_of_nonneg d w (w + length) hw (by omega)]
  omega

/-- Regression guard (was finding C08-narrow-negative-start): `narrow(x[3], 0, -2, 2)`. -/
theorem aten_narrow_negative_start_fixed :
    narrow.model [3] false 0 (-2) 2 = narrow.spec [3] 0 (-2) 2 := by decide

/-- Regression guard (was finding C08-narrow-negative-start-tensor, fix 55f321d): a tensor-valued negative start. -/
theorem aten_narrow_negative_start_tensor_fixed :
    narrow.model [3] true 0 (-2) 2 = narrow.spec [3] 0 (-2) 2 := by decide

/-- `aten_select` / `aten_index_select` bookkeeping is the same function on both sides; what is
worth a theorem is the index range: ONNX `Gather` accepts exactly PyTorch's `[-d, d-1]`. -/
theorem aten_select_range_agrees (s : Shape) (dim index : Int) (hr : s.length ≠ 0) :
    (select.model s dim index).isSome = (select.spec s dim index).isSome := by
  rw [OV.Lemmas.C08.select_agrees s dim index hr]

/-- `aten_select`: shape for every rank ≥ 1 (the removed axis, the index range).  The hypothesis is the function's domain:
`torch.select` refuses 0-d tensors ("select() cannot be applied to a 0-dim tensor"); same for `aten_select_range_agrees` above. -/
theorem aten_select_agrees (s : Shape) (dim index : Int) (hr : s.length ≠ 0) :
    select.model s dim index = select.spec s dim index :=
  OV.Lemmas.C08.select_agrees s dim index hr

/-- `aten_index_select` (rank-0 self reshaped to `[1]` and squeezed back, scalar index reshaped to `[1]`). -/
theorem aten_index_select_agrees (s : Shape) (dim : Int) (n : Nat) (out : Shape)
    (h : index_select.spec s dim n = some out) : index_select.model s dim n = some out :=
  OV.Lemmas.C08.index_select_agrees s dim n out h

/-- `aten_unbind` (static dim): `d` pieces `Squeeze(Slice(x,[i],[i+1],[dim]),[dim])`, each with the axis removed.  Rank ≥ 1 is the
function's domain (`torch.unbind` refuses 0-d tensors). -/
theorem aten_unbind_agrees (s : Shape) (dim : Int) (hr : s.length ≠ 0) : unbind.model s dim = unbind.spec s dim :=
  OV.Lemmas.C08.unbind_agrees s dim hr

example : unbind.model [2, 3] 1 = some [[2], [2], [2]] := by decide

/-- Tril/Triu mask: ONNX `Trilu(k, upper)` retains `(i, j)` exactly where `torch.tril/triu(x, k)` does,
for all positions and all diagonals. -/
theorem aten_tril_triu_mask_agrees (upper : Bool) (k : Int) (i j : Nat) :
    triluKeep upper k i j = trilu.specKeep upper k i j := by
  unfold triluKeep trilu.specKeep
  cases upper <;> simp only [Bool.false_eq_true, if_true, if_false, decide_eq_decide] <;> omega

/-- `aten_diagonal`: the length the graph computes with `Min/Max/Add/Sub` on the two sizes is
PyTorch's diagonal length, for all sizes and all offsets. -/
theorem aten_diagonal_len_agrees (rows cols offset : Int) (hr : 0 ≤ rows) (hc : 0 ≤ cols) :
    diagonal.modelLen rows cols offset = diagonal.specLen rows cols offset :=
  OV.Lemmas.C08.diagonal_len rows cols offset

/-- **Element map of `aten_diagonal`** (value level, every matrix size and every offset, beyond the matrix included): output element `t` of
the `Transpose → Mul(EyeLike(k=offset)) → ReduceSum(rows) → Slice(start, start+len)` chain is the single matrix entry `x[j - offset, j]`
at column `j = start + t` — and that is PyTorch's `x[t, offset + t]` (`offset ≥ 0`) resp. `x[-offset + t, t]`; the lists of positions are equal,
in particular no output element falls on an all-zero mask column. -/
theorem aten_diagonal_index_map (rows cols offset : Int) (hr : 0 ≤ rows) (hc : 0 ≤ cols) :
    diagonal.modelPositions rows cols offset = diagonal.specPositions rows cols offset :=
  OV.Lemmas.C08.diagonal_positions rows cols offset hr hc

example : diagonal.specPositions 3 5 (-1) = [some (1, 0), some (2, 1)] := by decide

/-- `aten_diagonal` at shape level: wherever PyTorch accepts the dims, the emitted Transpose / EyeLike mask / ReduceSum /
`Slice(start, start+len)` chain has `torch.diagonal`'s shape — every rank ≥ 2, every offset (beyond the matrix
included), negative dims. -/
theorem aten_diagonal_agrees (s : Shape) (offset d1 d2 : Int) (out : Shape)
    (h : diagonal.spec s offset d1 d2 = some out) : diagonal.model s offset d1 d2 = some out :=
  OV.Lemmas.C08.diagonal_agrees s offset d1 d2 out h

example : diagonal.spec [3, 4, 2] (-1) (-1) 0 = some [4, 1] := by decide

/-- `aten_flip`: `Slice(starts=-1, ends=INT64_MIN, steps=-1)` selects `d` elements on every axis size
(below the sentinel), the empty axis included. -/
theorem aten_flip_len_agrees (d : Int) (hd0 : 0 ≤ d) (hd : d < INT64_MAX) :
    (sliceLen d (-1) INT64_MIN (-1) : Int) = d :=
  OV.Lemmas.C08.flip_len d hd0 hd

/-- **Element map of `aten_flip`** along one axis: `Slice(starts=-1, ends=INT64_MIN, steps=-1)` reads the source
indices `d-1, …, 0` — PyTorch's flip — for every axis size below the int64 sentinel.  (For rank > 1 `Slice` acts on
each named axis independently: A-op.) -/
theorem aten_flip_index_map (d : Nat) (hd : (d : Int) < INT64_MAX) : flip.modelIdx d = flip.specIdx d :=
  OV.Lemmas.C08.flip_idx d hd

example : flip.modelIdx 3 = [2, 1, 0] := by decide

/-- **Element map of `aten_roll`** along one axis (after fix 34e2b8e): `Concat(Slice(x, d - s', Size), Slice(x, 0, d - s'))`
with `s' = shift mod d` reads, at position `i`, the source element `(i - shift) mod d` — PyTorch's roll — for **every**
axis size `d > 0`, every shift (negative, beyond `d`) and every over-long slice end `big ≥ d`.  `d = 0` has no positions to map (the
code skips the modulo there); empty tensors are covered at shape level only, by `aten_roll_shape_agrees`. -/
theorem aten_roll_index_map (d big : Nat) (shift : Int) (hd : 0 < d) (hbig : d ≤ big) :
    roll.stepIdx d big (roll.redShift d shift) = roll.specIdx d shift :=
  OV.Lemmas.C08.roll_idx d big shift hd hbig

example : roll.stepIdx 5 5 (roll.redShift 5 (-7)) = [2, 3, 4, 0, 1] := by decide

/-- After fix 34e2b8e the shift is reduced modulo the size first, so the partition holds for **every** shift. -/
theorem aten_roll_len_agrees (d big : Nat) (shift : Int) (hd : 0 < d) (hbig : d ≤ big) :
    (roll.stepIdx d big (roll.redShift d shift)).length = d :=
  OV.Lemmas.C08.roll_stepIdx_length d big _ hbig

/-- Regression guard (was finding C08-roll-large-shift): `roll(x[3], 7, 0)` now reads PyTorch's indices. -/
theorem aten_roll_large_shift_fixed :
    roll.stepIdx 3 3 (roll.redShift 3 7) = roll.specIdx 3 7 := by decide

/-- Regression guard for fix e681d51 (was finding C08-roll-negative-last-dim): `roll(x[2,3], 1, -1)` now has
PyTorch's shape. -/
theorem aten_roll_negative_last_dim_fixed :
    roll.model [2, 3] [1] [-1] = roll.spec [2, 3] [1] [-1] := by decide

/-- Regression guard (a first version of the roll fix failed here): several dims with a later negative one. -/
theorem aten_roll_multi_negative_dim_ok :
    roll.model [2, 3, 4] [4, 0] [2, -2] = roll.spec [2, 3, 4] [4, 0] [2, -2] := by decide

/-- `aten_roll` with one `(shift, dim)` pair (after fixes e681d51, 34e2b8e, cb8a6fb): wherever `torch.roll(x, shift, dim)` is defined
the graph has the input's shape — any rank, negative `dim`, **any shift**, empty tensors included.  The only hypothesis is that
sizes fit in INT64 (the slice end is the constant `INT64_MAX`). -/
theorem aten_roll_shape_agrees (s : Shape) (shift dim : Int) (out : Shape)
    (hb : ∀ x ∈ s, x ≤ INT64_MAX.toNat)
    (h : roll.spec s [shift] [dim] = some out) : roll.model s [shift] [dim] = some out :=
  OV.Lemmas.C08.roll_shape_agrees s shift dim out hb h

example : roll.spec [4, 1, 0] [-2] [-3] = some [4, 1, 0] := by decide

/-- FIXED cb8a6fb (was the rest of C08-reshape-zero): `roll(x[4,1,0], -2, -3)` keeps `[4,1,0]` (the slice end was `Size(x) = 0`). -/
theorem aten_roll_empty_dims_fixed :
    roll.model [4, 1, 0] [-2] [-3] = some [4, 1, 0] ∧ roll.spec [4, 1, 0] [-2] [-3] = some [4, 1, 0] := by decide

/-- Regression guard (was finding C08-chunk-uneven, fix f427d44): `chunk(x[6], 4)`, `chunk(x[5], 4)`, an empty dim. -/
theorem aten_chunk_uneven_fixed :
    chunk.model [6] 4 0 = chunk.spec [6] 4 0 ∧ chunk.model [5] 4 0 = chunk.spec [5] 4 0
    ∧ chunk.model [5, 0] 5 1 = chunk.spec [5, 0] 5 1 := by decide

/-- `aten_chunk` (after fix f427d44), **every** shape, `dim` and `chunks ≥ 1`: wherever PyTorch accepts the call, the
emitted `Identity` / `Split(num_outputs)` / list of `Slice`s has exactly `torch.chunk`'s pieces — the ceil rule
`size = ceil(d/chunks)`, fewer than `chunks` pieces, the short last piece and the empty axis included. -/
theorem aten_chunk_agrees (s : Shape) (chunks : Nat) (dim : Int) (out : List Shape)
    (h : chunk.spec s chunks dim = some out) : chunk.model s chunks dim = some out :=
  OV.Lemmas.C08.chunk_agrees s chunks dim out h

example : chunk.spec [7, 3] 3 0 = some [[3, 3], [3, 3], [1, 3]] := by decide

/-- **Element map of `aten_chunk`** (the `Slice` path, value level, every axis size and every `chunks > 0`): the pieces `[b.1, b.2)` emitted at
trace time have PyTorch's sizes, in PyTorch's order, and read the positions `0, 1, …, d-1` consecutively — disjoint and covering the axis.
Sizes + consecutive cover determine the pieces, so every output of the graph holds exactly the elements of the corresponding `torch.chunk` piece. -/
theorem aten_chunk_slices_partition (d chunks : Nat) (hch : 0 < chunks) :
    (chunk.bounds d chunks).map (fun b => b.2 - b.1) = chunk.specSizes d chunks
    ∧ (chunk.bounds d chunks).flatMap (fun b => List.range' b.1 (b.2 - b.1)) = List.range d :=
  ⟨(OV.Lemmas.C08.bounds_sizes d chunks hch).1, OV.Lemmas.C08.chunk_slices_partition d chunks hch⟩

example : chunk.bounds 7 3 = [(0, 3), (3, 6), (6, 7)] ∧ chunk.specSizes 7 3 = [3, 3, 1] := by decide

/-- `aten_split` (after fix 71e4aaa), every shape, every `dim`, every split size (the empty axis and `size = 0`
included): wherever PyTorch accepts the call the emitted sequence has PyTorch's pieces. -/
theorem aten_split_agrees (s : Shape) (size dim : Int) (out : List Shape)
    (h : split.spec s size dim = some out) : split.model s size dim = some out :=
  OV.Lemmas.C08.split_agrees s size dim out h

example : split.spec [7, 3] 3 0 = some [[3, 3], [3, 3], [1, 3]] := by decide

/-- Regression guard (was finding C08-split-zero-dim, fix 71e4aaa): `split(x[0,2], 3, 0)` is one empty piece. -/
theorem aten_split_zero_dim_fixed : split.model [0, 2] 3 0 = split.spec [0, 2] 3 0 := by decide

/-! ## view algebra -/

/-- `aten_unsqueeze`: ONNX normalises the axis against the output rank, PyTorch against `rank+1`:
same position, same refusals, for every shape and every `dim`. -/
theorem aten_unsqueeze_agrees (s : Shape) (dim : Int) : unsqueeze.model s dim = unsqueeze.spec s dim :=
  OV.Lemmas.C08.unsqueeze_agrees s dim

/-- `aten_permute` with explicit dims: the code wraps negatives against `len(dims)`, PyTorch against the rank;
wherever PyTorch accepts (a permutation of the axes), `Transpose(perm)` has PyTorch's shape — every rank ≥ 1.  PARTIAL: `dims = []`
(i.e. `permute` of a 0-d tensor, which PyTorch accepts) is excluded; that branch is compared per case only (`permute:no-dims`). -/
theorem aten_permute_agrees_partial (s : Shape) (dims : List Int) (out : Shape) (hne : dims ≠ [])
    (h : permute.spec s dims = some out) : permute.model s dims = some out :=
  OV.Lemmas.C08.permute_agrees s dims out hne h

/-- **Element map of `aten_permute`**: the `perm` attribute handed to `Transpose` (negatives wrapped against
`len(dims)`) is exactly PyTorch's normalised dim list; `Transpose(perm)` and `permute(dims)` both mean
`out[i_0,…] = in[j]` with `j[perm[k]] = i_k` (A-op), so the element maps coincide — every rank. -/
theorem aten_permute_perm_agrees (dims : List Int) (p : List Nat)
    (h : normAxes dims.length dims = some p) :
    (dims.map (fun a => if a < 0 then a + (dims.length : Int) else a)).map Int.toNat = p
    ∧ (dims.map (fun a => if a < 0 then a + (dims.length : Int) else a)).any (· < 0) = false :=
  let r := OV.Lemmas.C08.normAxes_some dims.length dims p h
  ⟨r.2.1.symm, r.1⟩

example : normAxes 3 [2, 0, -2] = some [2, 0, 1] := by decide

/-- **Element map of `aten_transpose`**: the Python swap on `list(range(rank))` yields the transposition `(i j)`:
position `k` reads source axis `i` if `k = j`, `j` if `k = i`, else `k` — every rank and pair of (normalised) dims. -/
theorem aten_transpose_perm_is_swap (r i j k : Nat) (hi : i < r) (hj : j < r)
    (hk : k < (transpose.swapRange r i j).length) :
    (transpose.swapRange r i j)[k] = if k = j then i else if k = i then j else k :=
  OV.Lemmas.C08.swapRange_getElem r i j k hi hj hk

/-- `aten_expand`: mapping `-1 ↦ 1` and ONNX's two-way broadcast give `torch.expand`'s shape wherever PyTorch
accepts the size — all ranks, new leading dims, 0-size dims, `-1` entries. -/
theorem aten_expand_agrees (s : Shape) (size : List Int) (out : Shape)
    (h : expand.spec s size = some out) : expand.model s size = some out :=
  OV.Lemmas.C08.expand_agrees s size out h

/-- `aten_broadcast_to` (after fix fe4fd65 it maps `-1 ↦ 1` like `aten_expand`): agreement wherever PyTorch accepts. -/
theorem aten_broadcast_to_agrees (s : Shape) (size : List Int) (out : Shape)
    (h : broadcast_to.spec s size = some out) : broadcast_to.model s size = some out :=
  OV.Lemmas.C08.broadcast_to_agrees s size out h

/-- `aten_atleast_1d / 2d / 3d`: the `Reshape([1,-1])`, `Reshape([1,-1,1])`, `Unsqueeze(-1)` branches give
`torch.atleast_nd`'s shape for every input shape (rank 0, empty 1-D tensors included). -/
theorem aten_atleast_agrees (n : Nat) (s : Shape) (hn : n = 1 ∨ n = 2 ∨ n = 3) :
    atleast.model n s = atleast.spec n s :=
  OV.Lemmas.C08.atleast_agrees n s hn

/-- `aten_repeat_interleave_self_int` (static shapes): whenever `torch.repeat_interleave(x, repeats, dim)` is defined, the graph gives the
same shape — any rank, any `repeats ≥ 0`, `dim` omitted or negative, empty tensors included. -/
theorem aten_repeat_interleave_agrees (s : Shape) (reps : Int) (dim : Option Int) (out : Shape)
    (h : repeat_interleave.spec s reps dim = some out) : repeat_interleave.model s reps dim = some out :=
  OV.Lemmas.C08.repeat_interleave_agrees s reps dim out h

/-- FIXED 2309579 (was C08-repeat-interleave-empty): `repeat_interleave(x[4,0], 2, -2)` is `[8,0]` (the graph gave `[0,2]`). -/
theorem aten_repeat_interleave_empty_fixed :
    repeat_interleave.model [4, 0] 2 (some (-2)) = some [8, 0]
    ∧ repeat_interleave.spec [4, 0] 2 (some (-2)) = some [8, 0] := by decide

/-- `aten_t`: every shape of rank ≤ 2. -/
theorem aten_t_agrees (s : Shape) (h : s.length ≤ 2) : t.model s = t.spec s := by
  match s, h with
  | [], _ => rfl
  | [_], _ => rfl
  | [a, b], _ => simp [t.model, t.spec, transposeOp, isPerm, hasDup]

/-- `aten_reshape` (after fix 5bf0068: `Reshape(allowzero=1)`): PyTorch's `infer_size` wherever PyTorch accepts —
every shape, 0-size dims and `0` entries included. -/
theorem aten_reshape_agrees (s : Shape) (size : List Int) (out : Shape)
    (h : reshape_.spec s size = some out) : reshape_.model s size = some out :=
  OV.Lemmas.C08.view_agrees s size out h

/-- Regression guard (was finding C08-reshape-zero): `reshape(x[2,0,3], (0, 6))`. -/
theorem aten_reshape_zero_fixed : reshape_.model [2, 0, 3] [0, 6] = reshape_.spec [2, 0, 3] [0, 6] := by decide

/-- `aten_flatten` (after fix ad30c36), **every** shape (rank 0, 0-size dims anywhere), every `start_dim` / `end_dim`
(negative included): the rank-1 `Identity`, the two `Flatten`-operator shortcuts and the trace-time computed
`Reshape(allowzero=1)` target all give `torch.flatten`'s shape wherever PyTorch accepts the dims. -/
theorem aten_flatten_agrees (s : Shape) (sd ed : Int) (out : Shape)
    (h : flatten.spec s sd ed = some out) : flatten.model s sd ed = some out :=
  OV.Lemmas.C08.flatten_agrees s sd ed out h

example : flatten.spec [2, 3, 4, 5] (-3) 2 = some [2, 12, 5] := by decide

/-- Regression guard (was finding C08-reshape-zero, flatten part; fix ad30c36): zero-size dims outside the range. -/
theorem aten_flatten_zero_fixed :
    flatten.model [2, 0, 3, 0] 1 2 = flatten.spec [2, 0, 3, 0] 1 2
    ∧ flatten.model [0, 2, 3, 4] 2 3 = flatten.spec [0, 2, 3, 4] 2 3 := by decide

/-- `aten_flatten`, the two `Flatten`-operator branches and the rank-1 / rank-0 branches, all sizes:
`flatten(x, 1, -1)` and `flatten(x, 0, -2)`. -/
theorem aten_flatten_op_branches_agree (a b : Nat) (rest : Shape) :
    flatten.model (a :: b :: rest) 1 (-1) = flatten.spec (a :: b :: rest) 1 (-1)
    ∧ flatten.model [a] 0 (-1) = flatten.spec [a] 0 (-1)
    ∧ flatten.model [] 0 (-1) = flatten.spec [] 0 (-1) :=
  OV.Lemmas.C08.flatten_branches a b rest

/-- `aten_unflatten` (after fix 6c44051): for every shape (0-size dims included), every `dim` and every `sizes` (with or
without one `-1`), wherever PyTorch accepts the call the three trace-time cases (head empty / tail empty / both) build
a `Reshape(allowzero=1)` target that yields PyTorch's shape.  (`rank ≤ INT64_MAX` is the sentinel used as slice end.) -/
theorem aten_unflatten_agrees (s : Shape) (dim : Int) (sizes : List Int) (out : Shape)
    (hmax : (s.length : Int) ≤ INT64_MAX)
    (h : unflatten.spec s dim sizes = some out) : unflatten.model s dim sizes = some out :=
  OV.Lemmas.C08.unflatten_agrees s dim sizes out hmax h

example : unflatten.spec [2, 12, 2] (-2) [3, -1] = some [2, 3, 4, 2] := by decide

/-- Regression guard (was finding C08-unflatten-zero-infer, fix 6c44051): `unflatten(x[0,0,5], 1, (1,-1))`. -/
theorem aten_unflatten_zero_infer_fixed :
    unflatten.model [0, 0, 5] 1 [1, -1] = unflatten.spec [0, 0, 5] 1 [1, -1] := by decide

/-- `aten_squeeze_dim` (after fix 3fa9486): wherever `x.squeeze(dim)` is defined the graph has its shape — any rank (0 included),
negative `dim`, size-1 axis removed, any other size left alone. -/
theorem aten_squeeze_dim_agrees (s : Shape) (dim : Int) (out : Shape)
    (h : squeeze_dim.spec s dim = some out) : squeeze_dim.model s dim = some out :=
  OV.Lemmas.C08.squeeze_dim_agrees s dim out h

example : squeeze_dim.spec [2, 1, 3] (-2) = some [2, 3] := by decide

/-- FIXED 3fa9486 (was C08-squeeze-dim-nonunit): `squeeze(x[2,3], 0)` is a no-op, as in PyTorch (ONNX `Squeeze` refused it). -/
theorem aten_squeeze_dim_nonunit_fixed :
    squeeze_dim.model [2, 3] 0 = some [2, 3] ∧ squeeze_dim.spec [2, 3] 0 = some [2, 3] := by decide

/-! ## replication / creation -/

/-- `aten_full / zeros / ones / new_* / *_like`: `Expand(scalar, size)` has shape `size`, every size. -/
theorem aten_full_shape_agrees (size : List Int) : full.model size = full.spec size := by
  unfold full.model full.spec expandOp
  split
  · rfl
  · simp [bcastRev]

/-- `aten_linspace` length: the three trace-time branches (`steps = 0`, `1`, general `Range(0,steps,1)`)
give `steps` elements, for every non-negative `steps`. -/
theorem aten_linspace_len_agrees (steps : Int) (h : 0 ≤ steps) :
    linspace.modelLen steps = linspace.specLen steps :=
  OV.Lemmas.C08.linspace_len steps h

/-- `aten_arange*` on integers, positive step: `Range` yields exactly the indices `i` with
`start + i·step < end` — for all bounds. -/
theorem aten_arange_len_characterisation (start stop step : Int) (hs : 0 < step) (i : Nat) :
    i < arange.modelLen start stop step ↔ start + (i : Int) * step < stop :=
  OV.Lemmas.C08.range_len_char start stop step hs i

/-- Regression guard for fix 68ff4be (was finding C08-cat-legacy-empty): `cat([x[2,3], e[0], x[2,3]], 1)`. -/
theorem aten_cat_legacy_empty_fixed :
    cat.model [[2, 3], [0], [2, 3]] 1 = cat.spec [[2, 3], [0], [2, 3]] 1 := by decide

/-- Regression guard (was finding C08-cat-all-empty): `cat([e[0]])`. -/
theorem aten_cat_all_empty_fixed : cat.model [[0]] (-1) = cat.spec [[0]] (-1) := by decide

/-- `aten_cat` (after fixes 68ff4be, e37a118), every list of shapes and every `dim`: wherever PyTorch accepts the call,
the emitted `Identity`/`Concat` has PyTorch's shape — the legacy-empty rule and the all-empty case included. -/
theorem aten_cat_agrees (ss : List Shape) (dim : Int) (out : Shape)
    (h : cat.spec ss dim = some out) : cat.model ss dim = some out :=
  OV.Lemmas.C08.cat_agrees ss dim out h

/-- `aten_repeat`: `Expand(x, [1]*n)` then `Tile(repeats)` is `x.repeat(*repeats)` wherever PyTorch accepts
(at least `rank` non-negative entries) — all shapes, zero repeats and the empty list included. -/
theorem aten_repeat_agrees (s : Shape) (reps : List Int) (out : Shape)
    (h : repeat_.spec s reps = some out) : repeat_.model s reps = some out :=
  OV.Lemmas.C08.repeat_agrees s reps out h

/-- `aten_stack` of any number `n + 1` of tensors of one shape, any rank, any `dim` (negative, out of range):
`Unsqueeze` each + `Concat` has `torch.stack`'s shape and refusals. -/
theorem aten_stack_agrees (s : Shape) (n : Nat) (dim : Int) :
    stack.model (List.replicate (n + 1) s) dim = stack.spec (List.replicate (n + 1) s) dim :=
  OV.Lemmas.C08.stack_agrees s n dim

/-- `aten_tile`, every shape and every `dims` (shorter, equal, longer than the rank — the `Reshape(allowzero=1)`
left-padding branch included): same shape and same refusals as `torch.tile`. -/
theorem aten_tile_agrees (s : Shape) (dims : List Int) : tile.model s dims = tile.spec s dims :=
  OV.Lemmas.C08.tile_agrees_full s dims

example : tile.model [2, 3] [2, 1, 2] = some [2, 2, 6] := by decide

/-- Two tensors of shape `[a, b]` stacked at `dim = 1` and at `dim = -1`: instances of `aten_stack_agrees`. -/
theorem aten_stack_two_agrees (a b : Nat) :
    stack.model [[a, b], [a, b]] 1 = stack.spec [[a, b], [a, b]] 1
    ∧ stack.model [[a, b], [a, b]] (-1) = stack.spec [[a, b], [a, b]] (-1) :=
  ⟨OV.Lemmas.C08.stack_agrees [a, b] 1 1, OV.Lemmas.C08.stack_agrees [a, b] 1 (-1)⟩

/-! ## pool / conv / pad attribute adjustment -/

open OV.C08.attr in
/-- `_adjust_attributes_of_avg_pool`: for **every** pooling rank `k ≥ 1` and every padding tuple of length `k`,
ONNX `pads` is `[p_1..p_k, p_1..p_k]` — all begins, then all ends. -/
theorem avg_pool_pads_layout (k : Nat) (ks st : IntOrList) (p : List Int) (hp : p.length = k) (hk : 1 ≤ k) :
    (avgPool k ks st (.list p)).2.2 = p ++ p :=
  OV.Lemmas.C08.avg_pads_layout k ks st p hp hk

open OV.C08.attr in
/-- … an int or a 1-element padding is expanded to `k` begins and `k` ends, for every `k`. -/
theorem avg_pool_pads_scalar (k : Nat) (ks st : IntOrList) (v : Int) :
    (avgPool k ks st (.int v)).2.2 = List.replicate k v ++ List.replicate k v
    ∧ (avgPool k ks st (.list [v])).2.2 = List.replicate k v ++ List.replicate k v :=
  OV.Lemmas.C08.avg_pads_scalar k ks st v

open OV.C08.attr in
/-- `_adjust_attributes_of_max_pool`, `k ≤ 3` (longer paddings are passed through unchanged by the code). -/
theorem max_pool_pads_layout (k : Nat) (ks st dil : IntOrList) (p : List Int) (hp : p.length = k) (hk : 1 ≤ k) (hk3 : k ≤ 3) :
    (maxPool k ks st (.list p) dil).2.2.1 = p ++ p :=
  OV.Lemmas.C08.max_pads_layout k ks st dil p hp hk hk3

open OV.C08.attr in
theorem max_pool_pads_scalar (k : Nat) (ks st dil : IntOrList) (v : Int) :
    (maxPool k ks st (.int v) dil).2.2.1 = List.replicate k v ++ List.replicate k v
    ∧ (maxPool k ks st (.list [v]) dil).2.2.1 = List.replicate k v ++ List.replicate k v :=
  OV.Lemmas.C08.max_pads_scalar k ks st dil v

open OV.C08.attr in
/-- With that layout, spatial axis `i` reads `(pads[i], pads[i+k]) = (p_i, p_i)`. -/
theorem pool_axis_pads (p : List Int) (i : Nat) (hi : i < p.length) :
    getI (p ++ p) i = getI p i ∧ getI (p ++ p) (i + p.length) = getI p i :=
  OV.Lemmas.C08.axis_pads p i hi

open OV.C08.attr in
/-- … and the ONNX pooling output size with begin = end = `p` is PyTorch's `pooling_output_shape`
(floor / ceil of `(n + 2p - d(k-1) - 1)/s`, plus 1, with the ceil-mode correction), all values. -/
theorem pool_out_size_agrees (ceil : Bool) (n k s p d : Int) :
    poolOut ceil n k s p p d = torchPoolOut ceil n k s p d :=
  OV.Lemmas.C08.pool_out_agrees ceil n k s p d

open OV.C08.attr in
/-- `aten_convolution`: `pads = [*padding, *padding]` for every full-length padding; int / 1-element expansion. -/
theorem conv_pads_layout (imageD : Nat) (st dil : IntOrList) (p : List Int) (hp : p.length = imageD) (h2 : 2 ≤ imageD) :
    (convolution imageD st (.list p) dil).2.1 = p ++ p :=
  OV.Lemmas.C08.conv_pads_layout imageD st dil p hp h2

open OV.C08.attr in
theorem conv_pads_scalar (imageD : Nat) (st dil : IntOrList) (v : Int) :
    (convolution imageD st (.int v) dil).2.1 = List.replicate imageD v ++ List.replicate imageD v
    ∧ (convolution imageD st (.list [v]) dil).2.1 = List.replicate imageD v ++ List.replicate imageD v :=
  OV.Lemmas.C08.conv_pads_scalar imageD st dil v

open OV.C08.attr in
/-- `Conv` / `ConvTranspose` output size with symmetric pads = PyTorch's formulas. -/
theorem conv_out_size_agrees (n k s p d op : Int) :
    convOut n k s p p d = torchConvOut n k s p d ∧ convTOut n k s p p d op = torchConvTOut n k s p d op :=
  ⟨OV.Lemmas.C08.conv_out_agrees n k s p d, OV.Lemmas.C08.convT_out_agrees n k s p d op⟩

open OV.C08.attr in
/-- `aten_constant_pad_nd` / `aten_pad` / `reflection_pad*` / `replication_pad*` (`_process_padding`), every rank
and every number of padded axes: PyTorch's `(last_begin, last_end, …)` becomes ONNX's begins in axis order
(zeros for the unpadded leading axes) followed by ends in axis order. -/
theorem pad_layout_begins_then_ends (rank : Nat) (ps : List (Int × Int)) (hm : ps.length ≤ rank) :
    padLayout rank (flatPairs ps)
      = (List.replicate (rank - ps.length) 0 ++ ps.reverse.map Prod.fst)
        ++ (List.replicate (rank - ps.length) 0 ++ ps.reverse.map Prod.snd) :=
  OV.Lemmas.C08.pad_layout rank ps hm

/-- **Function level, `aten_avg_pool1d/2d/3d`** — PARTIAL IN THE ARGUMENT FORM: only kernel / stride / padding given as full-length
lists (`.list`, length `k`); the int and 1-element forms are covered by `avg_pool_pads_scalar` for the padding only, the expansion of an
int / 1-element kernel or stride is compared per case (tie) but has no theorem.  For every pooling rank `k ≥ 1`, every batched or unbatched input, every
kernel / stride / padding tuple of length `k`, both `ceil_mode`s: wherever PyTorch accepts the call the emitted
`[Unsqueeze →] AveragePool(kernel_shape, strides, pads) [→ Squeeze]` has PyTorch's output shape. -/
theorem aten_avg_pool_agrees_partial (k : Nat) (s : Shape) (kl sl p : List Int) (ceil : Bool) (out : Shape) (hk : 1 ≤ k)
    (h1 : kl.length = k) (h2 : sl.length = k) (h3 : p.length = k)
    (h : avg_pool.spec k s (.list kl) (.list sl) (.list p) ceil = some out) :
    avg_pool.model k s (.list kl) (.list sl) (.list p) ceil = some out :=
  OV.Lemmas.C08.avg_pool_agrees k s kl sl p ceil out hk h1 h2 h3 h

example : avg_pool.spec 2 [1, 2, 7, 9] (.list [4, 3]) (.list [2, 1]) (.list [2, 1]) true = some [1, 2, 5, 9] := by decide

/-- **Function level, `aten_max_pool1d/2d/3d`** (`k ≤ 3`), with dilations — PARTIAL IN THE ARGUMENT FORM as for avg_pool: full-length
`.list` arguments only (int / 1-element forms: `max_pool_pads_scalar` for the padding, otherwise tie only). -/
theorem aten_max_pool_agrees_partial (k : Nat) (s : Shape) (kl sl p dl : List Int) (ceil : Bool) (out : Shape) (hk : 1 ≤ k) (hk3 : k ≤ 3)
    (h1 : kl.length = k) (h2 : sl.length = k) (h3 : p.length = k) (h4 : dl.length = k)
    (h : max_pool.spec k s (.list kl) (.list sl) (.list p) (.list dl) ceil = some out) :
    max_pool.model k s (.list kl) (.list sl) (.list p) (.list dl) ceil = some out :=
  OV.Lemmas.C08.max_pool_agrees k s kl sl p dl ceil out hk hk3 h1 h2 h3 h4 h

/-- **Function level, `aten_convolution`** — PARTIAL IN THE ARGUMENT FORM: stride / padding / dilation as full-length lists only (the
1-element forms the exporter also passes: `conv_pads_scalar` for the padding, otherwise tie only).  (Any number of spatial dims ≥ 1, plain and
transposed, groups, output_padding): `Conv` / `ConvTranspose` with `pads = [*padding, *padding]` has PyTorch's
output shape wherever the spec accepts. -/
theorem aten_convolution_agrees_partial (s w : Shape) (sl p dl : List Int) (tr : Bool) (op : List Int) (g : Nat) (out : Shape)
    (h2 : sl.length = s.length - 2) (h3 : p.length = s.length - 2) (h4 : dl.length = s.length - 2)
    (h : conv.spec s w (.list sl) (.list p) (.list dl) tr op g = some out) :
    conv.model s w (.list sl) (.list p) (.list dl) tr op g = some out :=
  OV.Lemmas.C08.conv_agrees s w sl p dl tr op g out h2 h3 h4 h

example : conv.spec [1, 2, 7] [3, 2, 3] (.list [2]) (.list [2]) (.list [1]) false [0] 1 = some [1, 3, 5] := by decide

example : conv.spec [1, 2, 7, 9] [3, 2, 3, 2] (.list [2, 1]) (.list [2, 1]) (.list [1, 2]) false [0, 0] 1 = some [1, 3, 5, 9] := by decide

/-- **Function level, `aten_constant_pad_nd` / `aten_pad` / `reflection_pad*` / `replication_pad*`**: for every rank and
every number of padded axes, `Pad` with the reordered pads grows axis `i` by exactly the PyTorch `(begin, end)` pair
of that axis — same output shape, same refusal (negative result). -/
theorem aten_pad_agrees (s : Shape) (ps : List (Int × Int)) (hm : ps.length ≤ s.length) :
    pad.model s (attr.flatPairs ps) = pad.spec s (attr.flatPairs ps) :=
  OV.Lemmas.C08.pad_agrees s ps hm

example : pad.model [1, 2, 7, 9] (attr.flatPairs [(1, 2), (0, 3)]) = some [1, 2, 10, 12] := by decide

/-- `aten_unfold`: the number of windows `Range(0, d - (size-1), step)` produces is PyTorch's `(d - size)/step + 1`,
every size, window and positive step. -/
theorem unfold_windows_agree (d size step : Int) (hs : 0 < step) (h : size ≤ d) :
    (unfold_.windows d size step : Int) = unfold_.specWindows d size step :=
  OV.Lemmas.C08.unfold_windows_agree d size step hs h

/-- **Element map of `aten_unfold`** (value level, every axis size `d`, window `0 ≤ size ≤ d`, step > 0): the `Gather` index matrix the graph
builds (`Range(0, d-(size-1), step)[:, None] + [0..size-1][None, :]`) is PyTorch's — window `w`, element `j` reads `x[w·step + j]` — and every
index lies in `[0, d)`, so the `Gather` never reads out of range (or from the end through a negative index). -/
theorem aten_unfold_index_map (d size step : Int) (hs : 0 < step) (h0 : 0 ≤ size) (h : size ≤ d) :
    unfold_.modelIdx d size step = unfold_.specIdx d size step
    ∧ ∀ row ∈ unfold_.modelIdx d size step, ∀ x ∈ row, 0 ≤ x ∧ x < d :=
  OV.Lemmas.C08.unfold_index_map d size step hs h0 h

example : unfold_.specIdx 7 3 2 = [[0, 1, 2], [2, 3, 4], [4, 5, 6]] := by decide

/-- **Function level, `aten_unfold`** (rank ≥ 1): windows, the moved `size` axis — `Tensor.unfold`'s shape wherever
PyTorch accepts (`size ≤ d`, `step > 0`, negative dimension).  Rank 0 is the finding below. -/
theorem aten_unfold_agrees_partial (s : Shape) (dim size step : Int) (out : Shape) (hr : s.length ≠ 0)
    (h : unfold_.spec s dim size step = some out) : unfold_.model s dim size step = some out :=
  OV.Lemmas.C08.unfold_agrees s dim size step out hr h

example : unfold_.spec [2, 3, 4, 5] (-1) 2 3 = some [2, 3, 4, 2, 2] := by decide

/-- FINDING C08-unfold-rank0-size0: `torch.tensor(3.).unfold(0, 0, 1)` has shape `[0]`; `aten_unfold` returns
`Unsqueeze(self, [0])` = `[1]` for every 0-d input. -/
theorem aten_unfold_rank0_size0_refuted :
    unfold_.model [] 0 0 1 = some [1] ∧ unfold_.spec [] 0 0 1 = some [0] := by decide

/-- **Function level, `aten_upsample_nearest{1,2,3}d` / `bilinear2d`, `output_size` path**: `Resize(sizes = [N, C] ++
output_size)` has the requested size, same refusals. -/
theorem aten_upsample_size_agrees (s : Shape) (outSize : List Int) :
    upsample.model s outSize none = upsample.spec s outSize :=
  OV.Lemmas.C08.upsample_size_agrees s outSize

/-- **Function level, `aten_col2im`** with a 2-element padding and **`aten_im2col`**: output shapes agree with
`F.fold` / `F.unfold` wherever PyTorch accepts.  `pad.length = 2` is PyTorch's own requirement on a padding list (`F.fold` refuses a
1-element tuple; an int is expanded to two entries before the call — `col2im_pads_scalar`). -/
theorem aten_col2im_agrees (s : Shape) (outSize kernel dil pad stride : List Int) (out : Shape) (hp : pad.length = 2)
    (h : col2im.spec s outSize kernel dil pad stride = some out) :
    col2im.model s outSize kernel dil pad stride = some out :=
  OV.Lemmas.C08.col2im_agrees s outSize kernel dil pad stride out hp h

theorem aten_im2col_agrees (s : Shape) (kernel dil pad stride : List Int) (out : Shape)
    (h : im2col.spec s kernel dil pad stride = some out) : im2col.model s kernel dil pad stride = some out :=
  OV.Lemmas.C08.im2col_agrees s kernel dil pad stride out h

example : im2col.spec [1, 2, 5, 6] [2, 3] [1, 1] [1, 0] [1, 2] = some [1, 12, 12] := by decide

/-- `aten_im2col`: the block count per axis `Range(0, n + (2p - d(k-1)), s)` is PyTorch's
`floor((n + 2p - d(k-1) - 1)/s) + 1`. -/
theorem im2col_blocks_agree (n k s p d : Int) (hs : 0 < s) (h : 1 ≤ n + 2 * p - d * (k - 1)) :
    (im2col.blocksModel n k s p d : Int) = attr.torchConvOut n k s p d :=
  OV.Lemmas.C08.im2col_blocks_agree n k s p d hs h

/-- `aten_col2im` pads: `(ph, pw)` becomes `[ph, pw, ph, pw]` (begins then ends), `(w,)` becomes four `w`. -/
theorem col2im_pads_layout (p : List Int) (h : p.length = 2) : col2im.pads p = p ++ p :=
  OV.Lemmas.C08.col2im_pads_layout p h

theorem col2im_pads_scalar (w : Int) : col2im.pads [w] = [w, w, w, w] :=
  OV.Lemmas.C08.col2im_pads_scalar w

/-- Regression guard (was finding C08-pool-len1-attr, fix df33c3d): `avg_pool2d(x[2,3,4], (3,1), stride=(3,))`. -/
theorem pool_len1_stride_fixed :
    avg_pool.model 2 [2, 3, 4] (.list [3, 1]) (.list [3]) (.list [0, 0]) true
      = avg_pool.spec 2 [2, 3, 4] (.list [3, 1]) (.list [3]) (.list [0, 0]) true := by decide

/-! ## reductions' bookkeeping -/

/-- Reductions over a dim list (`sum.dim_IntList`, `mean.dim`, `amax/amin`, `prod.dim_int`, `all.dim`,
`any.dim`): wherever PyTorch accepts the dims (in range, no duplicates), the ONNX `Reduce*` output shape
is PyTorch's — every rank ≥ 1, every list (empty = all axes), both `keepdim`.  This is the statement about the ONNX operator alone
(`reduceOp` is stricter than PyTorch on rank 0); rank 0 is handled by the trace-time branches of each function and proved in the
function-level theorems below (`aten_sum_dim_agrees`, `aten_prod_dim_agrees`, `aten_all_dim_agrees`, …; `amax/amin` stay `_partial`). -/
theorem reduce_shape_agrees (s : Shape) (dims : List Int) (keep : Bool) (out : Shape)
    (hr : s.length ≠ 0) (h : torchReduce s dims keep = some out) : reduceOp s dims keep = some out :=
  OV.Lemmas.C08.reduce_agrees s dims keep out hr h

/-- Function level: `aten_sum_dim_IntList` (`dim=None`, list, rank 0 → `Identity`), `aten_mean_dim`, `aten_amax/amin`,
`aten_prod_dim_int`, `aten_all_dim/any_dim` (computed axes, rank 0 accepted), `aten_cumsum`: PyTorch's shape wherever
PyTorch accepts. -/
theorem aten_sum_dim_agrees (s : Shape) (dims : Option (List Int)) (keep : Bool) (out : Shape)
    (h : sum_dim.spec s dims keep = some out) : sum_dim.model s dims keep = some out :=
  OV.Lemmas.C08.sum_dim_agrees s dims keep out h

theorem aten_mean_dim_agrees (s : Shape) (dims : List Int) (keep : Bool) (out : Shape)
    (h : mean_dim.spec s dims keep = some out) : mean_dim.model s dims keep = some out :=
  OV.Lemmas.C08.mean_dim_agrees s dims keep out h

/-- `aten_amax` / `aten_amin` (scripted: one call node around `ReduceMax(self, dim, keepdims)`): PyTorch's shape wherever PyTorch accepts
the call.  Hypothesis: rank ≥ 1 or an empty dim list — a 0-d input with `dim=[0]` is finding C08-rank0-explicit-dim (constant axes). -/
theorem aten_amax_agrees_partial (s : Shape) (dims : List Int) (keep : Bool) (out : Shape)
    (hr : s.length ≠ 0 ∨ dims = [])
    (h : amax.spec s dims keep = some out) : amax.model s dims keep = some out :=
  OV.Lemmas.C08.amax_agrees s dims keep out hr h

/-- the hypothesis is needed: FINDING C08-rank0-explicit-dim (what remains). -/
theorem aten_amax_rank0_explicit_dim_refuted :
    amax.model [] [0] false = none ∧ amax.spec [] [0] false = some [] := by decide

example : amax.spec [] [] true = some [] := by decide

/-- after fix f89de7f: every rank (a 0-d input with `dim` 0 / -1 returns `Identity`). -/
theorem aten_prod_dim_agrees (s : Shape) (dim : Int) (keep : Bool) (out : Shape)
    (h : prod_dim.spec s dim keep = some out) : prod_dim.model s dim keep = some out :=
  OV.Lemmas.C08.prod_dim_agrees s dim keep out h

/-- FIXED f89de7f (was part of C08-rank0-explicit-dim): `prod(tensor(2.), dim=0)` and `all.dims(tensor(1.), [-1])`. -/
theorem aten_rank0_explicit_dim_fixed :
    prod_dim.model [] 0 false = prod_dim.spec [] 0 false
    ∧ all_dims.model [] (some [-1]) false = all_dims.spec [] (some [-1]) false := by decide

theorem aten_all_dim_agrees (s : Shape) (dim : Int) (keep : Bool) (out : Shape)
    (h : all_dim.spec s dim keep = some out) : all_dim.model s dim keep = some out :=
  OV.Lemmas.C08.all_dim_agrees s dim keep out h

theorem aten_cumsum_agrees (s : Shape) (dim : Int) (out : Shape)
    (h : cumsum.spec s dim = some out) : cumsum.model s dim = some out :=
  OV.Lemmas.C08.cumsum_agrees s dim out h

example : sum_dim.spec [2, 3, 4] (some [0, -1]) true = some [1, 3, 1] := by decide

/-- `aten_all_dims` / `aten_any_dims` with a non-empty dim list (PARTIAL: `dim=None` and `dim=[]` are separate trace-time branches with no
theorem; they are compared per case only — counters `all_dims:None`, `all_dims:empty-list`): the loop of single-axis `keepdim=True` reductions
followed by `Squeeze(dims)` has PyTorch's output shape wherever PyTorch accepts the dims — every rank (0 included since fix
f89de7f), every list (negative dims, any order), both `keepdim`. -/
theorem aten_all_dims_agrees_partial (s : Shape) (ds : List Int) (keep : Bool) (out : Shape) (hne : ds ≠ [])
    (h : torchReduce s ds keep = some out) : all_dims.model s (some ds) keep = some out :=
  OV.Lemmas.C08.all_dims_agrees_every_rank s ds keep out hne h

example : torchReduce [] [-1] false = some [] := by decide

example : torchReduce [2, 3, 4] [0, -1] false = some [3] := by decide

/-- Regression guard (was finding C08-argmax-keepdim-nodim, fix 3081284): `argmax(x[2,3], keepdim=True)`. -/
theorem aten_argmax_keepdim_nodim_fixed :
    argmax.model [2, 3] none true = argmax.spec [2, 3] none true
    ∧ argmax.model [1, 2, 1, 4] none true = argmax.spec [1, 2, 1, 4] none true := by decide

/-- `aten_argmax` / `aten_argmin` (after fix 3081284): for every shape (rank 0, empty), every `dim` (`None`, negative,
out of range) and both `keepdim`, the emitted Reshape/ArgMax/Squeeze/Reshape chain has PyTorch's output shape and
refuses exactly when PyTorch refuses (empty reduction). -/
theorem aten_argmax_agrees (s : Shape) (dim : Option Int) (keep : Bool) :
    argmax.model s dim keep = argmax.spec s dim keep :=
  OV.Lemmas.C08.argmax_agrees s dim keep

example : argmax.model [2, 3] (some (-1)) true = some [2, 1] := by decide

/-! ## non-vacuity: concrete instances satisfying the hypotheses of the `spec = some out → …` theorems above -/
example : select_scatter.spec [2, 3, 4] [2, 4] 1 (-1) = some [2, 3, 4] := by decide
example : slice_scatter.spec [2, 3, 4] [2, 3, 2] 2 (some 1) none 2 = some [2, 3, 4] := by decide
example : index_select.spec [5, 3] 1 3 = some [5, 3] := by decide
example : all_dim.spec [2, 3] (-1) true = some [2, 1] := by decide
example : mean_dim.spec [2, 3, 4] [0, -1] true = some [1, 3, 1] := by decide
example : cumsum.spec [2, 3] (-1) = some [2, 3] := by decide
example : amax.spec [2, 3, 4] [0, -1] true = some [1, 3, 1] := by decide
example : prod_dim.spec [2, 3] (-1) true = some [2, 1] := by decide
example : col2im.spec [1, 12, 12] [5, 6] [2, 3] [1, 1] [1, 0] [1, 2] = some [1, 2, 5, 6] := by decide
example : max_pool.spec 2 [1, 2, 7, 9] (.list [4, 3]) (.list [2, 1]) (.list [2, 1]) (.list [1, 2]) true = some [1, 2, 5, 7] := by decide
example : repeat_.spec [2, 3] [2, 1, 2] = some [2, 2, 6] := by decide
example : expand.spec [3, 1] [2, -1, 4] = some [2, 3, 4] := by decide
example : broadcast_to.spec [3, 1] [2, -1, 1] = some [2, 3, 1] := by decide
example : permute.spec [2, 3, 4] [2, 0, -2] = some [4, 2, 3] := by decide
example : reshape_.spec [2, 0, 3] [0, 6] = some [0, 6] := by decide
example : view.spec [2, 3] [-1, 2] = some [3, 2] := by decide
example : cat.spec [[2, 3], [0], [2, 1]] (-1) = some [2, 4] := by decide
example : torchReduce [2, 3, 4] [1] false = some [2, 4] := by decide
example : normAxis 3 (-1) = some 2 ∧ (0 : Nat) < [2, 3, 4].getD 2 0 ∧ [2, 3, 4].getD 2 0 ≤ numel [2, 3, 4] := by decide
example : torchDim 3 (-1) = some 2 ∧ [2, 3, 1].getD 2 0 = 1 := by decide

/-! ## MatMul family, max.dim / min.dim, logsumexp, logcumsumexp, embedding, scatter, pixel (un)shuffle -/

/-- `aten_matmul` = one `MatMul` (numpy semantics: 1-D operands promoted and the added dim removed, batch dims broadcast): the
result shape is `torch.matmul`'s in each case of its documentation (dot, matrix·matrix, vector·matrix, matrix·vector, batched) —
all ranks, all sizes, wherever PyTorch accepts the operands. -/
theorem aten_matmul_agrees (a b out : Shape) (h : matmul.spec a b = some out) : matmul.model a b = some out :=
  OV.Lemmas.C08.matmul_agrees a b out h

/-- `aten_mm` / `aten_bmm` / `aten_mv` / `aten_dot` (the same single `MatMul`) against `torch.mm` (2-D·2-D), `torch.bmm` (3-D·3-D, equal
batch), `torch.mv` (2-D·1-D), `torch.dot` (1-D·1-D → 0-d). -/
theorem aten_mm_bmm_mv_dot_agree (a b out : Shape) :
    (matmul.specMm a b = some out → matmul.model a b = some out)
    ∧ (matmul.specBmm a b = some out → matmul.model a b = some out)
    ∧ (matmul.specMv a b = some out → matmul.model a b = some out)
    ∧ (matmul.specDot a b = some out → matmul.model a b = some out) :=
  ⟨OV.Lemmas.C08.mm_agrees a b out, OV.Lemmas.C08.bmm_agrees a b out, OV.Lemmas.C08.mv_agrees a b out, OV.Lemmas.C08.dot_agrees a b out⟩

example : matmul.spec [2, 1, 3, 4] [5, 4, 2] = some [2, 5, 3, 2] := by decide
example : matmul.spec [4] [5, 4, 2] = some [5, 2] := by decide
example : matmul.specBmm [5, 3, 4] [5, 4, 2] = some [5, 3, 2] ∧ matmul.specMv [3, 4] [4] = some [3] ∧ matmul.specDot [4] [4] = some []
    ∧ matmul.specMm [3, 4] [4, 2] = some [3, 2] := by decide

/-- `aten_max_dim` / `aten_min_dim`: both outputs (values: `ReduceMax` with a computed axis; indices: `ArgMax`) have PyTorch's shape
wherever `torch.max(x, dim, keepdim)` is defined — every rank (0 included), negative `dim`, both `keepdim`. -/
theorem aten_max_dim_agrees (s : Shape) (dim : Int) (keep : Bool) (out : List Shape)
    (h : max_dim.spec s dim keep = some out) : max_dim.model s dim keep = some out :=
  OV.Lemmas.C08.max_dim_agrees s dim keep out h

example : max_dim.spec [2, 3, 4] (-2) true = some [[2, 1, 4], [2, 1, 4]] := by decide
example : max_dim.spec [] (-1) false = some [[], []] := by decide

/-- `aten_logsumexp` (rank 0 → `self`, else `ReduceLogSumExp` with constant axes): PyTorch's shape wherever defined. -/
theorem aten_logsumexp_agrees (s : Shape) (dims : List Int) (keep : Bool) (out : Shape)
    (h : logsumexp.spec s dims keep = some out) : logsumexp.model s dims keep = some out :=
  OV.Lemmas.C08.logsumexp_agrees s dims keep out h

example : logsumexp.spec [2, 3, 4] [0, -1] false = some [3] ∧ logsumexp.spec [] [-1] true = some [] := by decide

/-- `aten_logcumsumexp` (`Log(CumSum(Exp(x - M))) + M` with `M = ReduceMax(keepdims=1)`): the two broadcasts against `M` give back
the input shape, for every rank and every valid `dim`. -/
theorem aten_logcumsumexp_agrees (s : Shape) (dim : Int) (out : Shape)
    (h : logcumsumexp.spec s dim = some out) : logcumsumexp.model s dim = some out :=
  OV.Lemmas.C08.logcumsumexp_agrees s dim out h

example : logcumsumexp.spec [2, 3] (-2) = some [2, 3] := by decide

/-- `aten_embedding` = `Gather(weight, indices)` on axis 0: `indices.shape ++ [D]` for a 2-D weight, any index rank. -/
theorem aten_embedding_agrees (w idx out : Shape) (h : embedding.spec w idx = some out) : embedding.model w idx = some out :=
  OV.Lemmas.C08.embedding_agrees w idx out h

example : embedding.spec [5, 4] [2, 0, 3] = some [2, 0, 3, 4] := by decide

/-- `aten_scatter_src` / `aten_scatter_add` (`ScatterElements`, `src` cut to the index shape when larger — fix 33c2a16).  PARTIAL: all three
operands of rank ≥ 1; PyTorch also accepts 0-d self / index / src, which are compared per case only (`scatter_src:index0d`).  For rank ≥ 1 operands,
wherever `torch.scatter` accepts the arguments (`index.size(d) ≤ src.size(d)`, `index.size(d) ≤ self.size(d)` off the axis) the graph is valid
and returns self's shape. -/
theorem aten_scatter_agrees_partial (isAdd : Bool) (s idx src : Shape) (dim : Int) (out : Shape)
    (hr : s.length ≠ 0) (hi : idx.length ≠ 0) (hs : src.length ≠ 0)
    (h : scatter.spec s idx src dim = some out) : scatter.model isAdd s idx src dim = some out :=
  OV.Lemmas.C08.scatter_agrees isAdd s idx src dim out hr hi hs h

example : scatter.spec [3, 5] [2, 7] [4, 7] (-1) = some [3, 5] := by decide

/-- FIXED 33c2a16 (was C08-scatter-src-larger): `scatter(x[2], 0, idx[2], src[3])`. -/
theorem aten_scatter_src_larger_fixed :
    scatter.model false [2] [2] [3] 0 = some [2] ∧ scatter.spec [2] [2] [3] 0 = some [2] := by decide

/-- `aten_pixel_shuffle`: rank 4 → `DepthToSpace`; any other rank ≥ 3 through the two static `Reshape(allowzero=1)`s (fix fcb6f44):
PyTorch's shape `[*, C/r², H·r, W·r]` wherever PyTorch accepts the input — empty tensors included. -/
theorem aten_pixel_shuffle_agrees (s : Shape) (r : Int) (out : Shape)
    (h : pixel_shuffle.spec s r = some out) : pixel_shuffle.model s r = some out :=
  OV.Lemmas.C08.pixel_shuffle_agrees s r out h

example : pixel_shuffle.spec [2, 3, 8, 2, 5] 2 = some [2, 3, 2, 4, 10] := by decide

/-- FIXED fcb6f44 (was C08-pixel-shuffle-empty): `pixel_shuffle(x[0,2,1], 1)` is `[0,2,1]`. -/
theorem aten_pixel_shuffle_empty_fixed :
    pixel_shuffle.model [0, 2, 1] 1 = some [0, 2, 1] ∧ pixel_shuffle.spec [0, 2, 1] 1 = some [0, 2, 1] := by decide

/-- `aten_pixel_unshuffle` (`Reshape → Reshape[-1,C,H/r,r,W/r,r] → Transpose[0,1,3,5,2,4] → Reshape[-1,C·r²,H/r,W/r] → Reshape`):
PyTorch's shape `[*, C·r², H/r, W/r]` for every rank ≥ 3 and every `r` dividing H and W.  Remaining hypothesis: C, H, W (the last three
dims) are non-zero — the leading (batch) dims may be empty.  It is forced by the code: the two inner `Reshape`s use `allowzero=0` with a
`-1`, so a zero among C, H, W is re-read as "copy the input dim" (and PyTorch's CPU kernel returns such inputs unchanged anyway). -/
theorem aten_pixel_unshuffle_agrees_partial (s : Shape) (r : Int) (out : Shape)
    (hnz : ∀ x ∈ s.drop (s.length - 3), x ≠ 0)
    (h : pixel_unshuffle.spec s r = some out) : pixel_unshuffle.model s r = some out :=
  OV.Lemmas.C08.pixel_unshuffle_agrees s r out hnz h

example : pixel_unshuffle.spec [0, 2, 3, 4, 6] 2 = some [0, 2, 12, 2, 3] := by decide
example : pixel_unshuffle.spec [2, 3, 4, 6] 2 = some [2, 12, 2, 3] := by decide

/-- `aten_conv1d` / `aten_conv2d` / `aten_conv3d` (full-length lists, groups, optional bias): `Conv` with `pads = [*padding, *padding]`
and — for `bias=None` — the generated `[O]` zero bias has PyTorch's output shape. -/
theorem aten_convnd_agrees (s w : Shape) (hasBias : Bool) (st pad dil : List Int) (groups : Nat) (out : Shape)
    (h2 : st.length = s.length - 2) (h3 : pad.length = s.length - 2) (h4 : dil.length = s.length - 2)
    (h : convnd.spec s w st pad dil groups = some out) : convnd.model s w hasBias st pad dil groups = some out :=
  OV.Lemmas.C08.convnd_agrees s w hasBias st pad dil groups out h2 h3 h4 h

example : convnd.spec [1, 2, 7, 9] [3, 2, 3, 2] [2, 1] [2, 1] [1, 2] 1 = some [1, 3, 5, 9] := by decide

/-- FIXED 0fc3090 (was C08-conv3d-no-bias): `aten_conv3d(x, w)` without bias (the zero bias was `[O, 2]`). -/
theorem aten_conv3d_no_bias_fixed :
    convnd.model [1, 1, 3, 3, 3] [1, 1, 2, 2, 2] false [1, 1, 1] [0, 0, 0] [1, 1, 1] 1 = some [1, 1, 2, 2, 2]
    ∧ convnd.spec [1, 1, 3, 3, 3] [1, 1, 2, 2, 2] [1, 1, 1] [0, 0, 0] [1, 1, 1] 1 = some [1, 1, 2, 2, 2] := by decide

/-- `aten_softmax` / `aten__softmax` / `aten__log_softmax`: the `dim` accepted by the graph (rank 0 goes through `Unsqueeze([0])`, so
`dim ∈ {0, -1}`) is exactly the `dim` PyTorch accepts, and the shape is unchanged — every rank.  TRUE BY DEFINITION (`rfl`):
`softmax.model` is `softmax.spec` with `torchDim` unfolded; that ONNX `Softmax` and PyTorch accept these dims is checked per case by the tie. -/
theorem aten_softmax_dim_agrees (s : Shape) (dim : Int) : softmax.model s dim = softmax.spec s dim := rfl

example : softmax.spec [] (-1) = some [] ∧ softmax.spec [2, 3] 2 = none := by decide

/-- `aten_linear`, all three trace-time branches (`Gemm(transB=1)` for 2-D·2-D, `Squeeze(MatMul(x, Unsqueeze(w,[1])),[-1])` for a 1-D
weight, `MatMul(x, Transpose(w)) (+ bias)` otherwise): `torch.nn.functional.linear`'s shape `[*, out]` (resp. `[*]`) for every input
rank ≥ 1, wherever PyTorch accepts the operands. -/
theorem aten_linear_agrees (x w : Shape) (bias : Option Shape) (out : Shape)
    (h : linear.spec x w bias = some out) : linear.model x w bias = some out :=
  OV.Lemmas.C08.linear_agrees x w bias out h

example : linear.spec [5, 2, 3] [4, 3] (some [4]) = some [5, 2, 4] ∧ linear.spec [2, 3] [4, 3] none = some [2, 4]
    ∧ linear.spec [5, 3] [3] none = some [5] := by decide

/-- `aten_linalg_vector_norm` (every `ord` branch reduces with the same axes / keepdims): PyTorch's shape wherever defined — an explicit
dim list (computed axes, rank 0 included) or `dim=None`, both `keepdim` (fix 7d29f42). -/
theorem aten_vector_norm_agrees (s : Shape) (dims : Option (List Int)) (keep : Bool) (out : Shape)
    (h : vector_norm.spec s dims keep = some out) : vector_norm.model s dims keep = some out :=
  OV.Lemmas.C08.vector_norm_agrees s dims keep out h

example : vector_norm.spec [2, 3, 4] (some [0, -1]) true = some [1, 3, 1] ∧ vector_norm.spec [2, 3] none false = some [] := by decide

/-- FIXED 7d29f42 (was C08-vector-norm-keepdim-no-dim): `vector_norm(x[2,3], 2, None, keepdim=True)` is `[1,1]`. -/
theorem aten_vector_norm_keepdim_no_dim_fixed :
    vector_norm.model [2, 3] none true = some [1, 1] ∧ vector_norm.spec [2, 3] none true = some [1, 1] := by decide

/-! ## normalisation / sort / addmm / baddbmm / glu (OV.Model.C08Norm, second trace table) -/

/-- Second regenerated trace table (`aten_layer_norm`, `aten_native_layer_norm`, `aten_sort`, `aten_addmm`, `aten_baddbmm`,
`aten_glu`, each traced on a grid of argument classes): the model's term is the emitted term. -/
theorem traces_match_models_b : ∀ e ∈ OV.Gen.C08TraceB.traceTable, e.1 = e.2 :=
  OV.Gen.C08TraceB.ok_all

/-- `aten_layer_norm` / `aten_native_layer_norm` (`native`): with `axis = -len(normalized_shape)` and the default weight
`Expand(1, Shape(input, start=axis))`, ONNX `LayerNormalization` returns PyTorch's shapes — the input's shape, and for the
native overload mean / rstd `input.shape[:r-k] ++ [1]*k` — for every rank, every `k` from 1 to the rank (so also
`axis = -rank`), present or absent weight / bias, empty batch dims.  The hypothesis `numel ns ≠ 0` is forced: see the
refutation below (open finding C08-layer-norm-empty-block). -/
theorem aten_layer_norm_agrees_partial (native : Bool) (s ns : Shape) (w b : Option Shape) (out : List Shape)
    (hne : numel ns ≠ 0) (h : layer_norm.spec native s ns w b = some out) :
    layer_norm.model native s ns.length w b = some out :=
  OV.Lemmas.C08.layer_norm_agrees native s ns w b out hne h

example : numel [3, 4] ≠ 0 ∧ layer_norm.spec true [0, 2, 3, 4] [3, 4] none (some [3, 4]) = some [[0, 2, 3, 4], [0, 2, 1, 1], [0, 2, 1, 1]]
    ∧ layer_norm.spec false [2, 3] [2, 3] (some [2, 3]) none = some [[2, 3]] := by decide

/-- FINDING C08-layer-norm-empty-block: `torch.layer_norm(x[2,0], [0])` is `x` (shape `[2,0]`, mean/rstd `[2,1]`);
onnxruntime's `LayerNormalization` refuses an empty normalised block, so the exported graph fails. -/
theorem aten_layer_norm_empty_block_refuted :
    layer_norm.spec true [2, 0] [0] none none = some [[2, 0], [2, 1], [2, 1]] ∧ layer_norm.model true [2, 0] 1 none none = none := by
  decide

/-- `aten_sort` (both trace-time branches: rank 0 → `Identity` and the constant index `0`; otherwise `TopK` with
`K = Shape(self)[dim]`): values and indices have the input's shape wherever `torch.sort` accepts `dim`
(every rank, `dim` from `-rank` to `rank-1`, size-0 dims). -/
theorem aten_sort_agrees (s : Shape) (dim : Int) (out : List Shape) (h : sort.spec s dim = some out) :
    sort.model s dim = some out :=
  OV.Lemmas.C08.sort_agrees s dim out h

example : sort.spec [2, 0, 3] (-3) = some [[2, 0, 3], [2, 0, 3]] ∧ sort.spec [] (-1) = some [[], []] ∧ sort.spec [2] 1 = none := by
  decide

/-- `aten_addmm` = `Gemm(mat1, mat2, self)`, exact in both directions: ONNX's unidirectional broadcast of `C` to `[M, N]`
accepts precisely the `self` that `torch.addmm` accepts (`self` expandable to `[M, N]`: rank 0, 1, 2, 1s anywhere — nothing
of higher rank, nothing that would enlarge the result), refuses what PyTorch refuses (inner sizes, ranks), and the result is
`[M, N]`. -/
theorem aten_addmm_agrees (c a b : Shape) : addmm.model c a b = addmm.spec c a b :=
  OV.Lemmas.C08.addmm_exact c a b

example : addmm.spec [] [2, 0] [0, 3] = some [2, 3] ∧ addmm.spec [2, 1] [2, 4] [4, 3] = some [2, 3]
    ∧ addmm.spec [1, 1, 3] [2, 4] [4, 3] = none := by decide

/-- `aten_baddbmm` = `Add(MatMul(batch1, batch2) [· alpha], self [· beta])`: for 3-D batches with equal batch and inner
sizes and `self` expandable to `[B, M, N]`, the numpy-rule `MatMul` followed by the multidirectional `Add` has
`torch.baddbmm`'s shape `[B, M, N]` (the graph is more permissive outside PyTorch's domain). -/
theorem aten_baddbmm_agrees (c a b out : Shape) (h : baddbmm.spec c a b = some out) : baddbmm.model c a b = some out :=
  OV.Lemmas.C08.baddbmm_agrees c a b out h

example : baddbmm.spec [3] [2, 2, 4] [2, 4, 3] = some [2, 2, 3] ∧ baddbmm.spec [0, 1, 3] [0, 2, 2] [0, 2, 3] = some [0, 2, 3]
    ∧ baddbmm.spec [1, 2, 2, 3] [2, 2, 2] [2, 2, 3] = none := by decide

/-- `aten_glu` (`Split(num_outputs=2)` along `dim`, `Mul(first, Sigmoid(second))`): the halved shape wherever
`torch.nn.functional.glu` accepts (rank ≥ 1, wrapped `dim`, even size), provided the split size is not 0 — forced:
see the refutation below (open finding C08-glu-empty-dim). -/
theorem aten_glu_agrees_partial (s : Shape) (dim : Int) (out : Shape)
    (hd : ∀ a, normAxis s.length dim = some a → s.getD a 0 ≠ 0)
    (h : glu.spec s dim = some out) : glu.model s dim = some out :=
  OV.Lemmas.C08.glu_agrees_partial s dim out hd h

example : (∀ a, normAxis [0, 4, 3].length (-2) = some a → [0, 4, 3].getD a 0 ≠ 0) ∧ glu.spec [0, 4, 3] (-2) = some [0, 2, 3] := by
  decide

/-- FINDING C08-glu-empty-dim: `glu(x[3,0], -1)` is `[3,0]` in PyTorch; `Split(num_outputs=2)` refuses an axis of size 0. -/
theorem aten_glu_empty_dim_refuted : glu.spec [3, 0] (-1) = some [3, 0] ∧ glu.model [3, 0] (-1) = none := by decide

end OV.Props.C08
